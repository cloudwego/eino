/-
  C13 — Node failures surface as identifiable, unwrappable errors; panics are contained.
  Property theorems.  Model: EinoV/Model/C13.lean.  Source facts: EinoV/Gen/FactsC13.lean
  (regenerated from /repo on every run).
-/
import EinoV.Model.C13
import EinoV.Model.C13Fwd
import EinoV.Proofs.C13
import EinoV.Proofs.C13Fwd
import EinoV.Gen.FactsC13
import EinoV.Expected.C13
import EinoV.Proofs.TransC13

namespace EinoV.C13
open EinoV.Gen

/-- Source fact tie: the regenerated facts are the ones the theorems below are proved for. -/
theorem facts_match : FactsC13.internalErrorHasUnwrap = Expected.C13.internalErrorHasUnwrap ∧
    FactsC13.failedTaskReportedAsIs = Expected.C13.failedTaskReportedAsIs ∧
    FactsC13.stateLockSites.all (·.2) = Expected.C13.stateLocksReleasedByDefer ∧
    FactsC13.stateLockSites.any (fun s => s.1 == "compose/state.go:ProcessState#0") = true ∧
    FactsC13.executorRecoverHandlerClean = Expected.C13.executorRecoverHandlerClean ∧
    FactsC13.goSites.all (·.2) = Expected.C13.execRecovers ∧
    FactsC13.loopReportsCtxErr = Expected.C13.loopReportsCtxErr ∧
    FactsC13.convForwarderRecovers = Expected.C13.convForwarderRecovers ∧
    FactsC13.childForwarderRecovers = Expected.C13.childForwarderRecovers ∧
    FactsC13.errorTextMemoised = Expected.C13.errorTextMemoised ∧
    FactsC13.drainedTaskErrorChecked = Expected.C13.drainedTaskErrorChecked := by
  decide +kernel

/-- the facts of the step model as regenerated from /repo: every framework goroutine site
    recovers (`goSites`, which contains `taskManager.submit`'s `go t.executor`; `executor`
    itself is that function), the executor's deferred handler is clean, every state-mutex
    `Lock()` in compose/state.go is released by `defer` -/
def srcExec : ExecFacts :=
  { recovers := FactsC13.goSites.all (·.2),
    handlerClean := FactsC13.executorRecoverHandlerClean,
    unlockByDefer := FactsC13.stateLockSites.all (·.2) }

theorem srcExec_eq : srcExec = ⟨true, true, true⟩ := by decide

theorem hasUnwrap_eq : FactsC13.internalErrorHasUnwrap = true := facts_match.1

/-- **orig_recoverable (errors.Is half).** Whatever the nesting depth, node keys and
    paradigm adaptors a failure travels through, everything `errors.Is` could match in the
    error the node body returned is still matched in the error the outermost run returns. -/
theorem orig_recoverable (levels : List Level) (e : GoErr) (t : Nat) :
    errorsIs FactsC13.internalErrorHasUnwrap
      (failThrough FactsC13.internalErrorHasUnwrap levels e) t
    = errorsIs FactsC13.internalErrorHasUnwrap e t := by
  rw [hasUnwrap_eq]; exact (failThrough_all levels e t).1

/-- **orig_recoverable (node path half).** The returned error names exactly the path of
    node keys from the outermost graph down to the failing node. -/
theorem node_path_named (levels : List Level) (e : GoErr) (h : userErr e = true) :
    nodePath (failThrough FactsC13.internalErrorHasUnwrap levels e) = levels.map (·.key) := by
  rw [hasUnwrap_eq]; exact nodePath_failThrough levels (userErr_not_interrupt h) (nodePath_of_userErr h)

/-- **several_failures_one_is_reported.** When several tasks of one step fail, whatever the
    collection order: the error of the step is the wrapped error of *one of the failed tasks*
    (`wrapGraphNodeError(key, err)`), so `errors.Is` / `errors.As` reach that task's original
    error and the node path names that task. -/
theorem several_failures_one_is_reported (tasks : List (Key × Option GoErr))
    (h : ∃ k e, (k, some e) ∈ tasks) :
    ∃ k e, (k, some e) ∈ tasks ∧
      reportStep FactsC13.internalErrorHasUnwrap FactsC13.failedTaskReportedAsIs tasks =
        some (wrapNode FactsC13.internalErrorHasUnwrap k e) := by
  have hf : FactsC13.failedTaskReportedAsIs = true := by decide
  rw [hf]; exact reportStep_asIs _ tasks h

/-- negation witness: an aggregated, text-only error of two failures matches neither original -/
theorem aggregated_failures_not_recoverable :
    (reportStep true false [("a", some (.leaf 1)), ("b", some (.leaf 2))]).map (fun e => (errorsIs true e 1, errorsIs true e 2)) =
      some (false, false) := by decide

/-- **sentinels_match.** A graph-level failure (`ErrExceedMaxSteps`, `ctx.Err()` wrapped
    with `%w`) raised at any nesting depth is matchable with `errors.Is` on the error the
    outermost run returns, and the path names the nested graph it came from. -/
theorem sentinels_match (levels : List Level) (e : GoErr) (t : Nat) :
    errorsIs FactsC13.internalErrorHasUnwrap
      (graphFailThrough FactsC13.internalErrorHasUnwrap levels e) t
    = errorsIs FactsC13.internalErrorHasUnwrap e t := by
  rw [hasUnwrap_eq]; exact errorsIs_graphFailThrough levels e t

theorem sentinel_path (levels : List Level) (e : GoErr) (h : userErr e = true) :
    nodePath (graphFailThrough FactsC13.internalErrorHasUnwrap levels e) = levels.map (·.key) := by
  have hi : isInterrupt true (newGraphRunError e) = false := userErr_not_interrupt (e := e) h
  rw [hasUnwrap_eq]; exact nodePath_failThrough levels hi rfl

/-- **interrupt_passthrough.** Interrupts are never wrapped (they stay recognisable). -/
theorem interrupt_passthrough (levels : List Level) :
    isInterrupt FactsC13.internalErrorHasUnwrap
      (failThrough FactsC13.internalErrorHasUnwrap levels .interrupt) = true := by
  rw [hasUnwrap_eq, (failThrough_all levels .interrupt 0).2.1]; rfl

/-- **panic_is_error.** Every goroutine the framework starts for user code (`go`
    statements found in compose/, schema/ by factgen) carries a deferred `recover`, and a
    goroutine with one turns a panicking body into that task's error, never a crash. -/
theorem panic_is_error :
    (∀ s ∈ FactsC13.goSites, s.2 = true) ∧
    (∀ b, runInGoroutine true b ≠ .processCrash) := by
  refine ⟨by decide, ?_⟩
  intro b; cases b <;> simp [runInGoroutine]

/-- **panic_at_any_site_is_task_error.** Whatever the other tasks of the step did before and
    do afterwards (every script, every interleaving): a task that is still running and panics —
    inside a critical section on the graph state (`ProcessState`, a state handler: `useState
    (some i)`) or anywhere else in its body (`panicBody i`) — is handed back to the step loop
    with the panic as its error; it does not escape and the task does not stay unfinished. -/
theorem panic_at_any_site_is_task_error (pre post : List (Key × Act)) (k : Key) (a : Act) (i : Nat)
    (hr : (runEvents srcExec pre).tasks k = .running)
    (ha : a = .useState (some i) ∨ a = .panicBody i) :
    (runEvents srcExec (pre ++ (k, a) :: post)).tasks k = .finished (some (.panicE i)) := by
  rw [srcExec_eq] at hr ⊢
  rw [runEvents_eq, runFrom_append]
  have hl := (runEvents_good pre).1
  rw [runEvents_eq] at hl hr
  have h1 := stepEv_panic (runFrom ⟨true, true, true⟩ .init pre) k a i hl hr ha
  have := runFrom_finished_stable ⟨true, true, true⟩ post _ k _ h1
  simpa [runFrom] using this

/-- **step_never_hangs_or_crashes.** For every set of tasks, every script (any number of
    critical sections on the state, panicking or not, panics in bodies, error returns) and
    every interleaving: the state mutex is never left locked, no task waits for ever, no panic
    escapes, and the step comes to `reported` — with `reportStep` of the finished tasks, so
    `several_failures_one_is_reported` applies to it — "never kills the process, hangs the run". -/
theorem step_never_hangs_or_crashes (order : List Key) (evs : List (Key × Act)) :
    (runEvents srcExec evs).leaked = false ∧
    (∀ k, (runEvents srcExec evs).tasks k ≠ .blocked ∧ (runEvents srcExec evs).tasks k ≠ .escaped) ∧
    stepResult srcExec FactsC13.internalErrorHasUnwrap FactsC13.failedTaskReportedAsIs order evs =
      .reported (reportStep FactsC13.internalErrorHasUnwrap FactsC13.failedTaskReportedAsIs
        (finishedOf (runEvents srcExec evs) order)) := by
  rw [srcExec_eq]
  obtain ⟨g1, g2⟩ := runEvents_good evs
  refine ⟨g1, fun k => ?_, stepResult_reported_of_good _ _ _ order evs g2⟩
  have := g2 k
  constructor <;> intro h <;> rw [h] at this <;> exact this

/-- **panicking_task_fails_the_step.** A task of the step that panics at any site makes the
    step fail with the wrapped error of one of the failed tasks (so the run returns an error
    naming a failed node — the panic is not swallowed). -/
theorem panicking_task_fails_the_step (order : List Key) (pre post : List (Key × Act)) (k : Key) (a : Act) (i : Nat)
    (hk : k ∈ order)
    (hr : (runEvents srcExec pre).tasks k = .running)
    (ha : a = .useState (some i) ∨ a = .panicBody i) :
    ∃ k' e', (k', some e') ∈ finishedOf (runEvents srcExec (pre ++ (k, a) :: post)) order ∧
      stepResult srcExec FactsC13.internalErrorHasUnwrap FactsC13.failedTaskReportedAsIs order (pre ++ (k, a) :: post) =
        .reported (some (wrapNode FactsC13.internalErrorHasUnwrap k' e')) := by
  have hfin := panic_at_any_site_is_task_error pre post k a i hr ha
  have hmem : (k, some (GoErr.panicE i)) ∈ finishedOf (runEvents srcExec (pre ++ (k, a) :: post)) order := by
    unfold finishedOf
    rw [List.mem_filterMap]
    exact ⟨k, hk, by rw [hfin]⟩
  obtain ⟨k', e', h1, h2⟩ := several_failures_one_is_reported _ ⟨k, _, hmem⟩
  refine ⟨k', e', h1, ?_⟩
  rw [(step_never_hangs_or_crashes order _).2.2, h2]


/-- **ctx_end_matchable.** However the context of the run ended (`cancel()`, an expired deadline /
    timeout, a context type of the caller with its own `Err()` value), in whichever nested graph
    the step loop notices it (`endAt`, every nesting depth and key list), `errors.Is` on the error
    the outermost run returns matches EXACTLY the value `ctx.Err()` returned — the cause is
    identifiable: a timeout is `context.DeadlineExceeded` and not `context.Canceled`, and vice
    versa — "context cancellation [is] matchable the same way". -/
theorem ctx_end_matchable (levels : List Level) (endAt : Nat) (c : CtxEnd) (t : Nat) :
    errorsIs FactsC13.internalErrorHasUnwrap
      (ctxEndThrough FactsC13.internalErrorHasUnwrap FactsC13.loopReportsCtxErr levels endAt c) t
    = (c.id == t) := by
  have hc : FactsC13.loopReportsCtxErr = true := by decide
  rw [hasUnwrap_eq, hc, ctxEndThrough, errorsIs_graphFailThrough]
  exact errorsIs_loopCtxError true c t

/-- **ctx_end_path.** … and the node path names the nested graph whose loop noticed it. -/
theorem ctx_end_path (levels : List Level) (endAt : Nat) (c : CtxEnd) :
    nodePath (ctxEndThrough FactsC13.internalErrorHasUnwrap FactsC13.loopReportsCtxErr levels endAt c)
    = (levels.take endAt).map (·.key) := by
  unfold ctxEndThrough
  exact sentinel_path _ _ (by simp [loopCtxError, userErr])

/-- negation witness, with the fact `loopReportsCtxErr` at `false` (what the patch `seeded/C13-41`
    does to /repo): a loop that reports a fixed cancellation sentinel makes an expired deadline
    look like a cancellation — `DeadlineExceeded` is not matched, `Canceled` is — while a real
    cancellation is reported exactly as before. -/
theorem deadline_misreported_with_fixed_sentinel :
    errorsIs true (ctxEndThrough true false [⟨"sub", []⟩] 1 .deadline) deadlineId = false ∧
    errorsIs true (ctxEndThrough true false [⟨"sub", []⟩] 1 .deadline) canceledId = true ∧
    ctxEndThrough true false [⟨"sub", []⟩] 1 .canceled = ctxEndThrough true true [⟨"sub", []⟩] 1 .canceled := by decide

/-- **text_names_node_path.** Whatever happened to the error between the failing body and the
    caller — any number of enclosing graphs prepending their key to the same error object, any
    number of readers of `err.Error()` at any inner level (logging `OnError` handlers), any number
    of `fmt.Errorf("…: %w", err)` layers (a lambda or tool that runs a compiled graph) in any
    order — the path the TEXT of the returned error names is the path its `nodePath` field holds. -/
theorem text_names_node_path (hops : List Hop) (e : GoErr) :
    textPath (travel FactsC13.internalErrorHasUnwrap FactsC13.errorTextMemoised hops e)
    = nodePath (travel FactsC13.internalErrorHasUnwrap FactsC13.errorTextMemoised hops e).err := by
  have hm : FactsC13.errorTextMemoised = false := by decide
  rw [hm]; exact textPath_travel_noMemo _ hops e

/-- **text_path_is_key_path.** … and for a user error that path is exactly the keys of the
    enclosing graphs, outermost first — "the run returns an error that names the failing node path
    (through nested graphs)", as a caller holding only the public API can read it. -/
theorem text_path_is_key_path (hops : List Hop) (e : GoErr) (h : userErr e = true) :
    textPath (travel FactsC13.internalErrorHasUnwrap FactsC13.errorTextMemoised hops e)
    = (hopKeys hops).reverse := by
  rw [text_names_node_path]
  have hm : FactsC13.errorTextMemoised = false := by decide
  rw [hasUnwrap_eq, hm]; unfold travel
  rw [(foldl_hop_path hops _ (userErr_not_interrupt h)).1, nodePath_of_userErr h, List.append_nil]

/-- … and observers change nothing else either: `errors.Is` is as on the original error -/
theorem observed_orig_recoverable (hops : List Hop) (e : GoErr) (t : Nat) :
    errorsIs FactsC13.internalErrorHasUnwrap
      (travel FactsC13.internalErrorHasUnwrap FactsC13.errorTextMemoised hops e).err t
    = errorsIs FactsC13.internalErrorHasUnwrap e t := by
  rw [hasUnwrap_eq]; exact errorsIs_travel _ hops e t

/-- negation witness, with the fact `errorTextMemoised` at `true` (what the patch `seeded/C13-51`
    does to /repo): with a memoised text, one reader at the innermost level freezes the text at
    `[leaf]` while the field (and `errors.Is`) go on to the full path; the same hops without
    memoisation name the full path; without a reader memoisation does no harm. -/
theorem stale_text_with_memoised_error :
    textPath (travel true true [.wrap "leaf", .observe, .wrap "mid", .wrap "outer"] (.leaf 1)) = ["leaf"] ∧
    nodePath (travel true true [.wrap "leaf", .observe, .wrap "mid", .wrap "outer"] (.leaf 1)).err = ["outer", "mid", "leaf"] ∧
    textPath (travel true false [.wrap "leaf", .observe, .wrap "mid", .wrap "outer"] (.leaf 1)) = ["outer", "mid", "leaf"] ∧
    textPath (travel true true [.wrap "step", .rewrap, .wrap "tools"] (.leaf 1)) = ["step"] ∧
    textPath (travel true true [.wrap "leaf", .wrap "mid", .wrap "outer"] (.leaf 1)) = ["outer", "mid", "leaf"] := by decide

/-- **failure_beats_interrupt.** Eager mode (Workflow): the loop takes the tasks one at a time
    in completion order and, at an interrupt point (a task asks for a rerun, a nested graph
    interrupted, an interrupt-after / interrupt-before node is reached: any `point`), drains the
    tasks still in flight.  For EVERY completion order: if some task of the run really failed
    (returned an error that is not an interrupt, or panicked — `panicE`), the run does not report the
    interrupt but the wrapped error of a task that really failed — so `errors.Is` reaches that
    task's original error, the error is not an interrupt, and (user error) its path is that task's
    key: "when a node fails, the run returns an error that names the failing node … a panic … is
    never swallowed", also when the failure is found while draining. -/
theorem failure_beats_interrupt (point : Key → Bool) (order : List (Key × Option GoErr))
    (h : ∃ k e, (k, some e) ∈ order ∧ isInterrupt FactsC13.internalErrorHasUnwrap e = false) :
    ∃ k e, (k, some e) ∈ order ∧ isInterrupt FactsC13.internalErrorHasUnwrap e = false ∧
      eagerRun FactsC13.internalErrorHasUnwrap FactsC13.drainedTaskErrorChecked point order
        = .failed (wrapNode FactsC13.internalErrorHasUnwrap k e) ∧
      (∀ t, errorsIs FactsC13.internalErrorHasUnwrap (wrapNode FactsC13.internalErrorHasUnwrap k e) t
        = errorsIs FactsC13.internalErrorHasUnwrap e t) ∧
      isInterrupt FactsC13.internalErrorHasUnwrap (wrapNode FactsC13.internalErrorHasUnwrap k e) = false ∧
      (userErr e = true → nodePath (wrapNode FactsC13.internalErrorHasUnwrap k e) = [k]) := by
  have hd : FactsC13.drainedTaskErrorChecked = true := by decide
  rw [hasUnwrap_eq, hd] at *
  obtain ⟨k, e, h1, h2, h3⟩ := eagerRun_failure_wins true point order h
  refine ⟨k, e, h1, h2, h3, fun t => errorsIs_wrapNode k e t, ?_, ?_⟩
  · rw [isInterrupt_wrapNode]; exact h2
  · intro hu
    rw [nodePath_wrapNode k e h2, nodePath_of_userErr hu]

/-- … and only a failure is reported as one: with no real failure among the tasks the run is
    interrupted or goes on. -/
theorem interrupt_only_without_failure (point : Key → Bool) (order : List (Key × Option GoErr))
    (h : ∀ k e, (k, some e) ∈ order → isInterrupt FactsC13.internalErrorHasUnwrap e = true) :
    eagerRun FactsC13.internalErrorHasUnwrap FactsC13.drainedTaskErrorChecked point order = .interrupted ∨
    eagerRun FactsC13.internalErrorHasUnwrap FactsC13.drainedTaskErrorChecked point order = .goesOn :=
  eagerRun_no_failure _ _ point order h

/-- negation witness, with the fact `drainedTaskErrorChecked` at `false` (what the patch
    `seeded/C13-52` does to /repo): when the classification of the drained tasks is not looked at,
    a sibling that fails or panics after the interrupting task was taken is swallowed — the run
    reports the interrupt; taken BEFORE the interrupting task the same failure is reported. -/
theorem drained_failure_swallowed_when_unchecked :
    eagerRun true false (fun k => k == "A") [("A", none), ("B", some (.leaf 1))] = .interrupted ∧
    eagerRun true false (fun _ => false) [("A", some .interrupt), ("B", some (.panicE 1))] = .interrupted ∧
    eagerRun true true (fun k => k == "A") [("A", none), ("B", some (.leaf 1))]
      = .failed (.internal false ["B"] [] (.leaf 1)) ∧
    eagerRun true false (fun k => k == "A") [("B", some (.leaf 1)), ("A", none)]
      = .failed (.internal false ["B"] [] (.leaf 1)) := by decide

/-- the facts of the forwarding model (schema/stream.go) as regenerated from /repo -/
def srcFwd : FwdFacts :=
  { convRecovers := FactsC13.convForwarderRecovers, childRecovers := FactsC13.childForwarderRecovers }

theorem srcFwd_eq : srcFwd = ⟨true, true⟩ := by decide

/-- **forwarders_never_crash.** For every reader expression — any nesting of converted readers
    (whose convert function may panic or fail on any value), copies and merges over array- and
    channel-backed sources — building and draining it never kills the process. -/
theorem forwarders_never_crash (t : STree) : (build srcFwd t).isSome = true := by
  rw [srcFwd_eq]; exact build_recovering_isSome t

/-- **forwarded_panic_is_error_item.** A merged stream never panics on its consumer, delivers
    everything its two arguments deliver, and a panic raised while a forwarding goroutine pulls an
    argument (`panics = some v`: a converted reader, or a copy of anything that panics) arrives as
    an error item `perr v` — "a panic inside … a stream-forwarding goroutine surfaces as … an error
    item on the stream: it never kills the process … or is swallowed". -/
theorem forwarded_panic_is_error_item (a b : STree) :
    ∃ ra rb r, build srcFwd a = some ra ∧ build srcFwd b = some rb ∧ build srcFwd (.merge a b) = some r ∧
      r.panics = none ∧ (∀ e ∈ ra.evs, e ∈ r.evs) ∧ (∀ e ∈ rb.evs, e ∈ r.evs) ∧
      (∀ v, ra.panics = some v → Ev.perr v ∈ r.evs) ∧ (∀ v, rb.panics = some v → Ev.perr v ∈ r.evs) := by
  rw [srcFwd_eq]
  have h1 := build_recovering_isSome a
  have h2 := build_recovering_isSome b
  have h3 := build_recovering_isSome (.merge a b)
  obtain ⟨ra, ha⟩ := Option.isSome_iff_exists.mp h1
  obtain ⟨rb, hb⟩ := Option.isSome_iff_exists.mp h2
  obtain ⟨r, hr⟩ := Option.isSome_iff_exists.mp h3
  exact ⟨ra, rb, r, ha, hb, hr, build_merge_recovering a b ra rb r ha hb hr⟩

/-- negation witness, with the fact `childForwarderRecovers` at `false` (what the patch
    `seeded/C13-42` does to /repo): when the goroutine that forwards a COPY does not recover, a
    panic of the convert function below the copy kills the process, while the same converted
    reader merged directly is still contained; with both recovering the consumer gets item 1, the
    panic as an error item, and the other stream's item. -/
theorem copied_forwarder_crashes_without_recover :
    (build ⟨true, false⟩ (.merge (.copy (.conv (.arr [1, 2, 3]) (some 2) none)) (.pipe [100]))).isNone = true ∧
    (build ⟨true, false⟩ (.merge (.conv (.arr [1, 2, 3]) (some 2) none) (.pipe [100]))).map (·.evs)
      = some [.item 1, .perr 2, .item 100] ∧
    (build ⟨true, true⟩ (.merge (.copy (.conv (.arr [1, 2, 3]) (some 2) none)) (.pipe [100]))).map (fun r => (r.evs, r.panics, r.contained))
      = some ([.item 1, .perr 2, .item 100], none, [(2, true)]) := by decide

/-- non-vacuity: a panic on the consumer's own goroutine (no merge above) is not contained — the
    model distinguishes the two situations -/
example : (build ⟨true, true⟩ (.copy (.conv (.pipe [1, 2]) (some 2) none))).map (fun r => (r.ty, r.evs, r.panics))
    = some (.child, [.item 1], some 2) := by decide

/-- negation witness: without the deferred unlock a task that panics inside `ProcessState`
    leaves the state locked; a sibling of the same step that uses the state waits for ever and
    the step (which waits for all its tasks) hangs -/
theorem hang_without_deferred_unlock :
    stepResult ⟨true, true, false⟩ true true ["boom", "calm"]
      [("boom", .useState (some 1)), ("calm", .useState none), ("calm", .done)] = .hang := by decide

/-- with the deferred unlock the same step fails with the panic of `boom`, named -/
theorem no_hang_with_deferred_unlock :
    stepResult ⟨true, true, true⟩ true true ["boom", "calm"]
      [("boom", .useState (some 1)), ("calm", .useState none), ("calm", .done)]
      = .reported (some (.internal false ["boom"] [] (.panicE 1))) := by decide

/-- negation witness: a recover handler that itself panics lets the panic of the body escape -/
theorem crash_with_panicking_recover_handler :
    stepResult ⟨true, false, true⟩ true true ["boom"] [("boom", .panicBody 1)] = .crash := by decide

example : userErr (.wrapf (.leaf 7)) = true := rfl
example : failThrough true [⟨"sub", [3]⟩, ⟨"n", []⟩] (.wrapf (.leaf 7))
    = .internal false ["sub", "n"] [3] (.wrapf (.leaf 7)) := by decide

/-- Without `Unwrap` on `*internalError` the original error is *not* recoverable. -/
theorem orig_not_recoverable_without_unwrap :
    errorsIs false (failThrough false [⟨"n", []⟩] (.leaf 1)) 1 = false := by decide
theorem sentinel_not_matched_without_unwrap :
    errorsIs false (graphFailThrough false [] (.leaf 1)) 1 = false := by decide
/-- Without a `recover` a panicking body is a process crash. -/
theorem panic_crashes_without_recover : runInGoroutine false (.panic 0) = .processCrash := rfl

/-! ### The translated error wrapping (compose/error.go → Gen/TransC13.lean; gotrans phase 6)

  `newGraphRunError`, `wrapGraphNodeError`, `newStreamWrapperError`, `wrapStreamWrapperError` and
  `(*internalError).Unwrap` are re-translated from /repo on every run of this property.  Go `error` values are
  the prelude type `GoError` (Model/GoSemErr.lean — trusted: it also gives `errors.As` / `errors.Is` over the
  `Unwrap` chain their meaning); `enc` embeds the model's `GoErr` into it.  The theorems say that the translated
  functions compute the model's `wrapNode` / `wrapStream` / `newGraphRunError` — the functions
  `failThrough` / `graphFailThrough` (and with them every theorem above) are built from — and that the
  prelude's `errors.As` / `errors.Is` are the model's `asInternal` / `errorsIs`.  `isInterruptError` is an
  external, assumed to be the model's `isInterrupt`. -/
section TranslatedErrors
open EinoV.GoSem EinoV.TransC13 EinoV.Gen.TransC13
variable {V : Type} [Inhabited V]

theorem translated_source_is_current : FactsC13.errorWrappingTranslated = true := by decide

theorem translated_wrapGraphNodeError_refines (ext : Ext V) (eext : ErrExt) (act : Nat → String)
    (hi : ∀ e, eext.isInterrupt (enc act e) = isInterrupt FactsC13.internalErrorHasUnwrap e)
    (key : String) (e : GoErr) :
    wrapGraphNodeError (V := V) ext eext key (enc act e)
      = enc act (wrapNode FactsC13.internalErrorHasUnwrap key e) :=
  wrapGraphNodeError_refines ext eext act _ hi key e

theorem translated_wrapStreamWrapperError_refines (ext : Ext V) (eext : ErrExt) (act : Nat → String)
    (hi : ∀ e, eext.isInterrupt (enc act e) = isInterrupt FactsC13.internalErrorHasUnwrap e)
    (a : Nat) (e : GoErr) :
    wrapStreamWrapperError (V := V) ext eext (act a) (enc act e)
      = enc act (wrapStream FactsC13.internalErrorHasUnwrap a e) :=
  wrapStreamWrapperError_refines ext eext act _ hi a e

theorem translated_newGraphRunError_refines (ext : Ext V) (eext : ErrExt) (act : Nat → String) (e : GoErr) :
    EinoV.Gen.TransC13.newGraphRunError (V := V) ext eext (enc act e) = enc act (newGraphRunError e) :=
  newGraphRunError_refines ext eext act e

theorem translated_unwrap_refines (ext : Ext V) (eext : ErrExt) (x : internalError V) :
    internalError_Unwrap ext eext x = x.origError :=
  unwrap_refines ext eext x

theorem translated_errorsAs_is_model (act : Nat → String) (e : GoErr) :
    (enc act e).asInternal = (asInternal e).map
      (fun t => ((if t.1 then "GraphRunError" else "NodeRunError"), t.2.2.1.map act, t.2.1, enc act t.2.2.2)) :=
  asInternal_enc act e

theorem translated_errorsIs_is_model (act : Nat → String) (unwraps : Bool) (e : GoErr) (t : Nat) :
    (enc act e).is unwraps t = errorsIs unwraps e t :=
  is_enc act unwraps e t

/-- non-vacuity: a user error wrapped at node "a", then — behind a `%w` layer — at node "g": the key is
    prepended to the internal error found on the chain and that error is returned (the `%w` layer is dropped) -/
example : wrapGraphNodeError (V := Nat) { zeroValue := 0, emptyStream := 0, mergeValues := fun _ => (0, none) }
      { isInterrupt := fun _ => false } "g"
      (.wrapf (wrapGraphNodeError (V := Nat) { zeroValue := 0, emptyStream := 0, mergeValues := fun _ => (0, none) }
        { isInterrupt := fun _ => false } "a" (.leaf 7)))
    = .internal "NodeRunError" [] ["g", "a"] (.leaf 7) := by decide

end TranslatedErrors

end EinoV.C13
