/-
  C19 — A finished streaming run leaves no blocked producer or goroutine behind.
  Property theorems: the reader ledger of `resolveCompletedTasks` (Model/C19.lean), the run-level
  statement that no routed value is left waiting (instances of Proofs/C02Settled.lean), what the
  channel manager does with every copy (Model/C19Route.lean), the copies made for callback
  handlers (Model/C19Callbacks.lean), closing a merged reader early (Model/C19Merge.lean).
  Facts: EinoV/Gen/FactsC19.lean (regenerated from /repo).
-/
import EinoV.Model.C19
import EinoV.Gen.FactsC19
import EinoV.Expected.C19
import EinoV.Proofs.C02Settled
import EinoV.Proofs.C19Ledger
import EinoV.Proofs.C19Merge
import EinoV.Proofs.C19Route
import EinoV.Proofs.C19Callbacks

namespace EinoV.C19
open EinoV.Gen

theorem facts_match :
    FactsC19.closesSurplus = Expected.C19.closesSurplus ∧
    FactsC19.closesReplaced = Expected.C19.closesReplaced ∧
    FactsC19.skippedChannelClosesValues = Expected.C19.skippedChannelClosesValues ∧
    FactsC19.skipReleasesStored = Expected.C19.skipReleasesStored ∧
    FactsC19.closesNonDataValues = Expected.C19.closesNonDataValues ∧
    FactsC19.firstCopyExpr = Expected.C19.firstCopyExpr ∧
    FactsC19.recopyExpr = "toCopyNum+1" ∧
    FactsC19.toCopyNumExpr = "len(nextNodeKeys)-len(t.call.writeTo)-len(t.call.writeToBranches)" ∧
    -- the loop of multiStreamReader.close has one of the two shapes that release every sender
    -- (the oracle evaluates the model with the expected one; both give the same verdicts)
    (Merge.CloseShape.ofFact FactsC19.mergeCloseLoop).sound = true ∧
    (Merge.CloseShape.ofFact Expected.C19.mergeCloseLoop).sound = true ∧
    FactsC19.mergeRecvDrop = Expected.C19.mergeRecvDrop ∧
    -- updateValues lets the values sent to a target without data predecessors reach the closing arm
    Route.Missing.ofFact FactsC19.missingDpsArm = Route.Missing.ofFact Expected.C19.missingDpsArm ∧
    -- callback copies: as many as the loop hands out, plus the node's
    FactsC19.cbCopyCountExpr = Expected.C19.cbCopyCountExpr ∧
    FactsC19.cbHandLoop = Expected.C19.cbHandLoop := by
  -- string comparisons: evaluated by the kernel alone, several times faster than through the elaborator
  decide +kernel

theorem mergeCloseLoop_sound : (Merge.CloseShape.ofFact FactsC19.mergeCloseLoop).sound = true :=
  facts_match.2.2.2.2.2.2.2.2.1

/-- **ledger_balanced.** For every task — any number of data successors `W`, branches `B`,
    selected targets `sel` (a multi-branch may select none, or several) and repeated targets
    `dups` (a successor named by an edge and by a branch) — every reader derived from the
    task's output stream is consumed by a branch condition, held by exactly one successor
    channel slot, or closed: none is left over.  The bound `hd` is not needed: with both facts
    `true` the ledger balances for all four counts (`distribute_leaked_closing`). -/
theorem ledger_balanced (W B sel dups : Nat) (hd : dups ≤ sel + W) :
    (distribute FactsC19.closesSurplus FactsC19.closesReplaced W B sel dups).leaked = 0 := by
  have h : FactsC19.closesSurplus = true := by decide
  have h' : FactsC19.closesReplaced = true := by decide
  rw [h, h']
  exact distribute_leaked_closing W B sel dups

/-- **copy_count_exact.** Readers are never shared: a distinct reader exists for every branch
    condition and every successor entry (no two consumers get the same reader). -/
theorem copy_count_exact (c c' : Bool) (W B sel dups : Nat) (hd : dups ≤ sel + W) :
    (distribute c c' W B sel dups).toBranches + (distribute c c' W B sel dups).toSuccessors + dups
      ≤ (distribute c c' W B sel dups).created + (if sel + W = 0 then dups else 0) := by
  have hc := distribute_created_ge c c' W B sel dups
  rw [distribute_toBranches, distribute_toSuccessors]
  split <;> omega

/-- Without closing anything, a task with some successor leaks one reader per branch that
    selected nothing (beyond the other branches' extra selections) and one per repeated
    target. (`hs`: targets can only be selected by branches.) -/
theorem leak_without_close (W B sel dups : Nat) (h : 0 < sel + W) (hs : B = 0 → sel = 0) (hd : dups ≤ sel + W) :
    (distribute false false W B sel dups).leaked = (B - sel) + dups := by
  simpa using distribute_leaked false false W B sel dups h hs hd

/-- negation witnesses for code that does not close: one data successor and one multi-branch
    that selects nothing ⇒ one reader is never closed; an edge and a selecting branch to the
    same node ⇒ the replaced copy is never closed. -/
theorem surplus_leaks_without_close : (distribute false true 1 1 0 0).leaked = 1 := by decide
theorem replaced_copy_leaks_without_close : (distribute true false 1 1 1 1).leaked = 1 := by decide

example : distribute true true 2 1 3 0 = { created := 6, toBranches := 1, toSuccessors := 5, closed := 0 } := by decide
example : (distribute true true 1 1 0 0) = { created := 3, toBranches := 1, toSuccessors := 1, closed := 1 } := by decide
example : (distribute true true 1 1 1 1) = { created := 3, toBranches := 1, toSuccessors := 1, closed := 1 } := by decide

open EinoV.Engine EinoV.Engine.DagRun in
/-- **no_routed_value_left_waiting.** In a run of a well-formed acyclic all-predecessor runner
    that returns a value, under any fair completion schedule: every value a completed node routed
    as data to a node END (transitively) depends on has reached a node that *ran* — then the value
    is part of the input that node consumed (`C02.dag_input_is_exact`) — or that is *skipped* —
    then the channel closes the stored values (fact `skippedChannelClosesValues`).  No stream
    handed to such a successor is still parked in a channel when the run returns.  (Values routed
    to nodes END does not depend on are outside this statement: the property's "every produced
    value has a consumer".)  The conclusion speaks of `n` alone and holds of every ancestor `n` of
    END (`ha`); `_hp` and `_hr` are not used: they only record where the question comes from, a
    value `o` that the completed `p` routed to `n`. -/
theorem no_routed_value_left_waiting {V} (ops : ValOps V) (r : Runner V) (wf : DagWF r)
    (hs : lookupList START r.ctrlPreds = []) (sched : Sched V) (hf : sched.Fair) (x v : V)
    (hres : (runS ops r sched x).result = .ok v) (p : Key) (o : V) (n : Key)
    (_hp : (p, o) ∈ histOf r x (runS ops r sched x).trace.reverse) (_hr : RoutesD r p o n)
    (ha : AncEnd r n) :
    (∃ o', (n, o') ∈ histOf r x (runS ops r sched x).trace.reverse) ∨
      SkippedIn r (histOf r x (runS ops r sched x).trace.reverse) n :=
  run_ancestors_settled ops r wf hs sched hf x v hres n ha

open EinoV.Engine EinoV.Engine.DagRun in
/-- **no_routed_value_left_waiting_workflow.** The same for the eager loop of Workflows (history of
    the submitted tasks), for every completion order.  Here too the statement holds of every
    ancestor `n` of END, and `_hp`, `_hr` only record where the question comes from. -/
theorem no_routed_value_left_waiting_workflow {V} (ops : ValOps V) (r : Runner V) (wf : DagWF r)
    (hs : lookupList START r.ctrlPreds = []) (pick : Pick V) (x v : V)
    (hres : (runEager ops r pick x).result = .ok v) (p : Key) (o : V) (n : Key)
    (_hp : (p, o) ∈ histOf r x (runEager ops r pick x).batches.reverse) (_hr : RoutesD r p o n)
    (ha : AncEnd r n) :
    (∃ o', (n, o') ∈ histOf r x (runEager ops r pick x).batches.reverse) ∨
      SkippedIn r (histOf r x (runEager ops r pick x).batches.reverse) n :=
  runEager_ancestors_settled ops r wf hs pick x v hres n ha

open EinoV.C19.Route in
/-- **manager_routes_or_closes_every_copy.** `channelManager.updateValues` followed by the channel's
    `reportValues` and by a later `reportSkip`, as read from the source (facts `missingDpsArm`,
    `closesNonDataValues`, `skippedChannelClosesValues`, `skipReleasesStored`): for every target — with any set of data predecessors, or with
    *no entry* in `dataPredecessors` because no data edge ends at it (the end node of a data-less
    Workflow branch that works on its zero input or on static values) —, every sender, and
    whether the target's channel is never skipped, already skipped when the stream arrives, or
    turns skipped after it has stored the stream: a stream sent to the target is handed to the
    node that consumes it, or closed.  It is never dropped. -/
theorem manager_routes_or_closes_every_copy (dps : Option (List String)) (sender : String)
    (skip : SkipTime) (consumer : Fate) (hc : consumer ≠ .dropped) :
    routeCopy srcFacts dps sender skip consumer ≠ .dropped :=
  routeCopy_ne_dropped srcFacts_closing dps sender skip consumer hc

open EinoV.C19.Route in
/-- **workflow_copies_all_settled.** "every stream the framework created internally is drained or
    closed … with fan-out copies, … branches that read only a prefix of their input, key and
    field mappings": for every Workflow case of the family — any list of successors of the
    producer, each tied to it by data+control / data only / control only / as the end of a
    data-less branch, each taking its own data from START, from nothing, from static values, from
    START or from the producer without control; any condition (value or prefix-reading, single
    or multi-way) selecting any set of ends; END reading the producer's output or not; the caller
    reading everything or any prefix — no reader derived from the producer's output is dropped,
    their number is the one the ledger (`distribute`) creates, and the producer is released. -/
theorem workflow_copies_all_settled (c : Case) :
    (∀ x ∈ fates srcFacts c, x ≠ .dropped) ∧
    (fates srcFacts c).length =
      (distribute FactsC19.closesSurplus FactsC19.closesReplaced (writeToEntries c).length
        (nBranches c) (selectedEntries c).length
        ((selectedEntries c).filter (·.replaced)).length).created ∧
    mustRelease srcFacts c = true :=
  ⟨fates_ne_dropped srcFacts_closing c,
   (fates_length srcFacts c).trans (created_eq_ledger _ _ c _),
   mustRelease_of_closing srcFacts_closing c⟩

open EinoV.C19.Route in
/-- negation, general form: code that goes to the next target when the target has no entry in
    `dataPredecessors` drops the copy made for every selected branch end that takes no data from
    any node (the other facts as in the source). -/
theorem skipped_target_drops_copy_of_dataless_branch_end (f : Facts) (hm : f.missing = .skipTarget)
    (c : Case) (s : Succ) (hs : s ∈ c.succ) (hsel : isSelected c s = true)
    (hd : s.data = .none ∨ s.data = .static) :
    Fate.dropped ∈ fates f c := by
  have hk : s.kind = .branchend := by
    simp only [isSelected, isEnd, Bool.and_eq_true, beq_iff_eq] at hsel
    exact hsel.1.2
  have hdps : dpsOf s = none := by
    rcases hd with hd | hd <;> simp [dpsOf, dataFromP, dataFromStart, hk, hd]
  have hrep : dataFromP s = false := by
    rcases hd with hd | hd <;> simp [dataFromP, hk, hd]
  simp only [fates, List.mem_append, List.mem_map]
  refine Or.inl (Or.inr ⟨⟨s.key, dpsOf s, .never, .drained, dataFromP s⟩, ?_, ?_⟩)
  · simp only [entries, selectedEntries, List.mem_append, List.mem_map, List.mem_filter]
    exact Or.inl ⟨s, ⟨hs, hsel⟩, rfl⟩
  · simp only [entryFate, hrep, hdps, Bool.false_eq_true, ↓reduceIte]
    exact routeCopy_skipTarget hm _ _ _

open EinoV.C19.Route in
/-- negation witness: a producer of three chunks whose only successors are the two ends of a
    prefix-reading branch, the selected one taking no input at all; the caller reads the output to
    the end.  With the fallback of the source the copy is closed and the producer released; code
    that skips the target drops it, no other reader takes all the chunks: the producer stays
    blocked.  (The harness runs this shape; family `workflow`, data shape `none`.)
    A `Facts` literal lists `missing`, `closesNonData`, `skippedCloses`, `skipReleasesStored`,
    `closesSurplus`, `closesReplaced`, in this order (here and in the witnesses below). -/
theorem skipped_target_witness :
    let c : Case := { chunks := 3, succ := [⟨"n0", .branchend, .none⟩, ⟨"n1", .branchend, .start⟩],
                      cond := .pfx, select := ["n0"], endData := false, consume := none }
    let good : Facts := ⟨.emptySet, true, true, true, true, true⟩
    let bad : Facts := ⟨.skipTarget, true, true, true, true, true⟩
    fates good c = [.closedAfter 1 1, .closed] ∧ mustRelease good c = true ∧
    fates bad c = [.closedAfter 1 1, .dropped] ∧ mustRelease bad c = false ∧ mustBlock bad c = true := by
  decide

/-! non-vacuity: a selected branch end that also takes the producer's data without control (its
    branch copy is replaced and closed, the data copy is drained), a deselected one (skipped
    channel: closed), a data successor, END reading a prefix -/
open EinoV.C19.Route in
example : fates ⟨.emptySet, true, true, true, true, true⟩
    { chunks := 2, succ := [⟨"n0", .branchend, .pdata⟩, ⟨"n1", .branchend, .pdata⟩, ⟨"n2", .input, .start⟩],
      cond := .multiPfx, select := ["n0"], endData := true, consume := some 1 }
    = [.closedAfter 1 1, .closed, .drained, .closed, .drained, .closedAfter 0 1] := by decide

open EinoV.C19.Route in
/-- **cross_copies_all_settled.** The producer `A` and the node `B` that branches run side by
    side; the ends of `B`'s branch take `A`'s stream without control, with control, or not at all;
    END may read `A` directly.  For every such case — any ends, any selection, and **each order**
    in which `A`'s value reaches an end's channel and the branch skips that end (value stored
    first and the skip later; skip first and the value later; an order the run does not fix) —,
    any reading point of the caller: no reader derived from `A`'s output is dropped, their number
    is the ledger's, and `A`'s producer is released. -/
theorem cross_copies_all_settled (c : XCase) :
    (∀ x ∈ xFates srcFacts c, x ≠ .dropped) ∧
    (xFates srcFacts c).length =
      (distribute FactsC19.closesSurplus FactsC19.closesReplaced (xEntries c).length 0 0 0).created ∧
    xMustRelease srcFacts c = true :=
  ⟨xFates_ne_dropped srcFacts_closing c,
   (xFates_length srcFacts c).trans (xCreated_eq_ledger _ _ c),
   xMustRelease_of_closing srcFacts_closing c⟩

open EinoV.C19.Route in
/-- negation, general form (/repo without the lines of fixes/C19-skip-releases-stored-streams.diff): if
    `reportSkip` does not release what the channel already holds, the copy of `A`'s stream stored
    in the channel of an end that only the branch controls, and that the branch does not select
    afterwards, is dropped. -/
theorem stored_copy_dropped_when_skip_does_not_release (f : Facts) (hf : f.skipReleasesStored = false)
    (c : XCase) (ho : c.order = .valueFirst) (e : XEnd) (he : e ∈ c.ends) (hd : e.data = .adata)
    (hsel : c.select.contains e.key = false) :
    Fate.dropped ∈ xFates f c := by
  have h := xFates_adata_end f c e he hd
  have hsel' : e.key ∉ c.select := by simpa using hsel
  simpa [xSkip, xBranchOnly, hd, hsel', ho, skipFate, hf] using h

open EinoV.C19.Route in
/-- negation, general form, the other order: if `reportValues` on a skipped channel does not close
    the streams it is handed (e.g. it closes the values it already holds instead), the copy that
    arrives at an end the branch has already skipped is dropped. -/
theorem arriving_copy_dropped_when_skipped_channel_does_not_close (f : Facts) (hf : f.skippedCloses = false)
    (c : XCase) (ho : c.order = .skipFirst) (e : XEnd) (he : e ∈ c.ends) (hd : e.data = .adata)
    (hsel : c.select.contains e.key = false) :
    Fate.dropped ∈ xFates f c := by
  have h := xFates_adata_end f c e he hd
  have hsel' : e.key ∉ c.select := by simpa using hsel
  simpa [xSkip, xBranchOnly, hd, hsel', ho, skipFate, hf] using h

open EinoV.C19.Route in
/-- negation witnesses (the harness runs both shapes; family `cross`): `X` takes `A`'s stream
    without control and is not selected, `Y` passes `A`'s stream on to END lazily, the caller reads
    one chunk of five and closes.  Value first + a `reportSkip` that does not release: blocked.
    Skip first + a `reportValues` that does not close what arrives: blocked.  With the closing
    facts both are released.  (The `false` in fourth place is `skipReleasesStored`, the one in third
    place `skippedCloses`.) -/
theorem skipped_later_witness :
    let ends : List XEnd := [⟨"X", .adata, false⟩, ⟨"Y", .adata, false⟩]
    let c1 : XCase := { chunks := 5, order := .valueFirst, ends := ends, select := ["Y"], endData := false, consume := some 1 }
    let c2 : XCase := { c1 with order := .skipFirst }
    let good : Facts := ⟨.emptySet, true, true, true, true, true⟩
    xFates good c1 = [.closed, .closedAfter 0 1] ∧ xMustRelease good c1 = true ∧ xMustRelease good c2 = true ∧
    xFates ⟨.emptySet, true, true, false, true, true⟩ c1 = [.dropped, .closedAfter 0 1] ∧
    xMustBlock ⟨.emptySet, true, true, false, true, true⟩ c1 = true ∧
    xFates ⟨.emptySet, true, false, true, true, true⟩ c2 = [.dropped, .closedAfter 0 1] ∧
    xMustBlock ⟨.emptySet, true, false, true, true, true⟩ c2 = true := by
  decide

open EinoV.C19.Cb in
/-- **callback_copies_all_handed_out.** "callback handlers that close their copies": for every
    handler list of a streaming timing — any length, the same handler value listed any number of
    times (passed twice for the run; global and per call), handlers whose TimingChecker declines
    the timing anywhere in the list — `OnWithStreamHandle` as read from the source (facts
    `cbCopyCountExpr`, `cbHandLoop`) makes exactly one copy per kept occurrence plus the node's,
    hands the copy at position `i` to the `i`-th kept occurrence (every position once), and leaves
    none over.  Every copy is thereby owned by a handler (who closes it) or by the node. -/
theorem callback_copies_all_handed_out (hs : List Occ) :
    handed (HandRule.ofFact FactsC19.cbHandLoop) hs = List.range (kept hs).length ∧
    copies (CopyRule.ofFact FactsC19.cbCopyCountExpr) hs
      = some (if (kept hs).isEmpty then 1 else (kept hs).length + 1) ∧
    leaked (CopyRule.ofFact FactsC19.cbCopyCountExpr) (HandRule.ofFact FactsC19.cbHandLoop) hs = some 0 := by
  have hh : HandRule.ofFact FactsC19.cbHandLoop = .everyKept := by decide
  have hc : CopyRule.ofFact FactsC19.cbCopyCountExpr = .perKept := by decide
  have h1 : handed .everyKept hs = List.range (kept hs).length := by
    rw [handed, handedAux_every, List.range_eq_range']
  refine ⟨by rw [hh, h1], by rw [hc]; rfl, ?_⟩
  rw [hh, hc]
  simp only [leaked, copies, h1, List.length_range, Option.map_some, Option.some.injEq]
  split <;> omega

open EinoV.C19.Cb in
/-- negation, general form: a loop that passes over a handler value it has seen earlier in the
    list, while the copies are still made per listed occurrence, leaves a copy nobody owns
    whenever the kept list starts with a value that is listed again right away (in particular
    `WithCallbacks(h), WithCallbacks(h)`). -/
theorem repeated_handler_copy_leaks_when_loop_skips_it (o : Occ) (rest : List Occ) (ho : o.needs = true) :
    ∃ n, leaked .perKept .skipRepeated (o :: o :: rest) = some n ∧ 0 < n := by
  have hk : kept (o :: o :: rest) = o :: o :: kept rest := by simp [kept, List.filter, ho]
  have hl : (handed .skipRepeated (o :: o :: rest)).length ≤ 1 + (kept rest).length := by
    simp only [handed, hk, handedAux, List.contains_nil, Bool.false_eq_true, ↓reduceIte, List.length_cons,
      List.contains_cons, BEq.rfl, Bool.true_or]
    have := handedAux_skip_le [o.id] (kept rest) (0 + 1 + 1)
    omega
  refine ⟨_, rfl, ?_⟩
  simp only [hk, List.isEmpty_cons, Bool.false_eq_true, ↓reduceIte, List.length_cons]
  omega

open EinoV.C19.Cb in
/-- negation witness (the harness lists one handler value twice; handler-list entries `=i`, `g=i`):
    handler 7 passed twice, a decliner in between. -/
theorem repeated_handler_witness :
    leaked .perKept .everyKept [⟨7, true⟩, ⟨3, false⟩, ⟨7, true⟩] = some 0 ∧
    handed .everyKept [⟨7, true⟩, ⟨3, false⟩, ⟨7, true⟩] = [0, 1] ∧
    copies .perKept [⟨7, true⟩, ⟨3, false⟩, ⟨7, true⟩] = some 3 ∧
    handed .skipRepeated [⟨7, true⟩, ⟨3, false⟩, ⟨7, true⟩] = [0] ∧
    leaked .perKept .skipRepeated [⟨7, true⟩, ⟨3, false⟩, ⟨7, true⟩] = some 1 := by decide

open EinoV.C19.Merge in
/-- **merged_close_signals_every_open_source_once.** For any number of merged sources, any
    lengths and any run of `recv` picks (so: for any set of sources whose end the merged reader
    has already observed), the loop of `multiStreamReader.close` — in the shape read from the
    source, fact `mergeCloseLoop` — signals every source still in `chosenList` exactly once, and no
    source twice (`closeRecv` must not be called twice on a stream). -/
theorem merged_close_signals_every_open_source_once (srcs : List Src) (evs : List Ev) (s : St)
    (h : run (init srcs) evs = some s) :
    (∀ i, i ∈ s.chosen → (closeTargets (CloseShape.ofFact FactsC19.mergeCloseLoop) s).count i = 1) ∧
    (∀ i, (closeTargets (CloseShape.ofFact FactsC19.mergeCloseLoop) s).count i ≤ 1) := by
  have hi := inv_run evs (inv_init srcs) h
  have hn := closeTargets_nodup hi (CloseShape.ofFact FactsC19.mergeCloseLoop)
  exact ⟨fun i hc => hn.count.trans (if_pos (open_mem_closeTargets hi _ mergeCloseLoop_sound hc)),
    List.nodup_iff_count.mp hn⟩

open EinoV.C19.Merge in
/-- **merged_close_releases_every_sender.** "closed early by the caller … producers blocked on a
    send are released", for merges: whatever the consumer of a merged reader has read and
    whichever sources have already ended, after `close` every sender is released — it had
    delivered all its chunks (then it closes its side by itself), or its stream got `closeRecv`. -/
theorem merged_close_releases_every_sender (srcs : List Src) (evs : List Ev) (s : St)
    (h : run (init srcs) evs = some s) (i : Nat) (hi : i < srcs.length) :
    (close (CloseShape.ofFact FactsC19.mergeCloseLoop) s).released i = true :=
  released_close (inv_run evs (inv_init srcs) h) _ mergeCloseLoop_sound hi

open EinoV.C19.Merge in
/-- the same for the other sound loop shape (signal exactly the sources still being read):
    the property does not depend on signalling sources that have already ended. -/
theorem merged_close_open_values_releases_every_sender (srcs : List Src) (evs : List Ev) (s : St)
    (h : run (init srcs) evs = some s) (i : Nat) (hi : i < srcs.length) :
    (close .openValues s).released i = true ∧ (∀ j, j ∉ s.chosen → j ∉ closeTargets .openValues s) :=
  ⟨released_close (inv_run evs (inv_init srcs) h) _ rfl hi, fun _ hj => hj⟩

open EinoV.C19.Merge in
/-- negation, general form: a loop that uses the *positions* of `chosenList` as source indices
    sends no signal to an open source whose index is not below the number of open sources; its
    sender stays blocked if it still has chunks to deliver. -/
theorem merged_close_by_position_leaves_sender_blocked (srcs : List Src) (evs : List Ev) (s : St)
    (h : run (init srcs) evs = some s) (i : Nat) (hge : s.chosen.length ≤ i)
    (hgot : s.gotOf i ≠ s.lenOf i) (hpre : s.preOf i = false) :
    (close .openPositions s).released i = false :=
  positions_miss (inv_run evs (inv_init srcs) h) hge hgot hpre

open EinoV.C19.Merge in
/-- negation witness: two sources, the first ends at once and the reader observes it; closing
    by position then signals source 0 again and never source 1. Also on the `judge` function the
    oracle evaluates (consumer received nothing from a 1-chunk source 1, then closed). -/
theorem merged_close_by_position_witness :
    (∃ s, run (init [{ len := 0 }, { len := 3 }]) [.ended 0] = some s ∧
      closeTargets .openPositions s = [0] ∧ (close .openPositions s).released 1 = false) ∧
    (judge .openPositions [{ len := 0 }, { len := 3 }] [] false).release = [0] ∧
    (judge .allSources [{ len := 0 }, { len := 3 }] [] false).release = [0, 1] := by decide

/-! non-vacuity: a run with chunks and observed ends; seven sources (reflect.Select path) -/
open EinoV.C19.Merge in
example : ∃ s, run (init [{ len := 1 }, { len := 2 }, { len := 0 }]) [.chunk 1, .ended 2, .chunk 0, .ended 0] = some s ∧
    s.chosen = [1] ∧ closeTargets .allSources s = [0, 1, 2] ∧ closeTargets .openValues s = [1] ∧
    closeTargets .openPositions s = [0] := by decide
open EinoV.C19.Merge in
example : (judge .allSources ((List.range 7).map fun i => { len := i % 2 }) [1, 3] false).stillOpen = [5] ∧
    (judge .openPositions ((List.range 7).map fun i => { len := i % 2 }) [1, 3] false).release = [0, 1, 2, 3, 4, 6] := by decide

end EinoV.C19
