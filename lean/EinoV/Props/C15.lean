/-
  C15 — Workflow field mappings move exactly the mapped values; overlaps are rejected.
  Property theorems.  Model: EinoV/Model/C15.lean.  Source facts: EinoV/Gen/FactsC15.lean
  (regenerated from /repo on every run; a flipped fact breaks `facts_match` and with it the build).
-/
import EinoV.Model.C15
import EinoV.Proofs.C15Trie
import EinoV.Proofs.C15
import EinoV.Proofs.C15Keys
import EinoV.Proofs.C15Static
import EinoV.Model.C15Embed
import EinoV.Proofs.C15Embed
import EinoV.Gen.FactsC15
import EinoV.Expected.C15

namespace EinoV.C15
open EinoV.Gen

/-- the structural facts of `checkAndAddMappedPath` as extracted from the source -/
def srcTrie : TrieFacts :=
  { rejectsThroughTerminal := FactsC15.trieRejectsThroughTerminal
    descendsExisting := FactsC15.trieDescendsExisting
    rejectsEndOnInner := FactsC15.trieRejectsEndOnInner
    rejectsWholeAfterFields := FactsC15.trieRejectsWholeAfterFields
    emptyPathIsWhole := FactsC15.trieEmptyPathIsWhole }

/-- the structural facts of `takeOne` / `fieldMap` as extracted from the source -/
def srcTake : TakeFacts :=
  { guardsInvalid := FactsC15.takeGuardsInvalid
    guardsElem := FactsC15.takeGuardsElem
    returnsGenericErr := FactsC15.fieldMapReturnsGenericErr }

/-- the structural facts of the static checker as extracted from the source -/
def srcValidate : ValidateFacts :=
  { rejectsTrailingSegment := FactsC15.validateRejectsTrailingSegment
    checkerPerMapping := FactsC15.checkerPerMapping
    streamCheckerKeepsChunkType := FactsC15.streamCheckerKeepsChunkType
    ifaceCheckerGuardsNil := FactsC15.ifaceCheckerGuardsNil
    lastSegmentBelowIfaceIsIntermediate := FactsC15.lastSegmentBelowIfaceIsIntermediate
    derefsOnePointerLevel := FactsC15.derefsOnePointerLevel }

/-- Source fact tie: the regenerated facts are the ones the theorems below are proved for. -/
theorem facts_match :
    srcTrie = Expected.C15.trie ∧ srcTake = Expected.C15.take ∧ srcValidate = Expected.C15.validate := by
  decide

/-- **overlap_rejected_iff.** Whatever the order of the `AddInput` calls and of the mappings
    inside them, the declarations of a node are accepted iff no two target paths are equal or
    prefix-related (a dependency without mappings targets the whole input, the empty path). -/
theorem overlap_rejected_iff (groups : List (List Path)) :
    acceptedOverlap srcTrie groups = true ↔ noOverlap (targets groups) := by
  rw [facts_match.1]; exact acceptedOverlap_iff groups

/-- ... hence acceptance does not depend on the declaration order. -/
theorem overlap_order_independent (groups groups' : List (List Path))
    (h : (targets groups).Perm (targets groups')) :
    acceptedOverlap srcTrie groups = acceptedOverlap srcTrie groups' :=
  Bool.eq_iff_iff.mpr (by rw [overlap_rejected_iff, overlap_rejected_iff, noOverlap_perm h])

/-- **mapped_exact.** For a set of entries whose targets are pairwise prefix-unrelated and each
    of which is assignable, *every* iteration order of `convertTo` (Go map iteration) yields the
    same successor input `v`; `v` reads back, at every mapped target path, exactly the taken value
    (stored at the static type of the slot); and every path unrelated to all targets reads as in
    the fresh instance, i.e. is still zero. -/
theorem mapped_exact (T : FTy) (l : List (Path × Taken))
    (hno : noOverlap (l.map (·.1)))
    (hok : ∀ x ∈ l, (assign T (newInstance T) x.1 x.2).isSome) :
    ∃ v, (∀ l', l'.Perm l → convertTo T l' = some v) ∧
      (∀ x ∈ l, ∃ st w, slotTy T x.1 = some st ∧ store st x.2 = some w ∧ getT T v x.1 = some (st, w)) ∧
      (∀ q, (∀ x ∈ l, ¬ prefixRel x.1 q) → getT T v q = getT T (newInstance T) q) :=
  convertFrom_exact T (newInstance T) l hno hok

/-- **mapped_exact (no other keys).** "Everything else zero-valued" for maps and `any` holes: in
    the successor input built from an accepted set, a map found at a path `c` that is not at or
    below a target has no key except those lying on a target path (a fresh instance has none). -/
theorem mapped_exact_no_other_keys (T : FTy) (l : List (Path × Taken)) (v : FVal)
    (hv : convertTo T l = some v) (c : Path) (hc : ∀ x ∈ l, ¬ x.1 <+: c)
    (ks : List String) (hk : keysAt T v c = some ks) :
    ∀ k ∈ ks, ∃ x ∈ l, (c ++ [k]) <+: x.1 := by
  intro k hmem
  rcases convertFrom_keys T l (newInstance T) v c ks k hv hc hk hmem with ⟨ks0, h0, hin⟩ | h
  · have := keysAt_newInstance T c ks0 h0
    subst this
    simp at hin
  · exact h

/-- **stream_agrees.** In streaming execution every predecessor edge delivers its own chunk: the
    entries `l₁` of one edge (a sub-list of all entries `l`) are converted on their own.  The chunk
    holds the same values at its own target paths as the non-streaming input, and is zero at every
    path unrelated to them; with a single edge (`l₁ = l`) chunk and input coincide. -/
theorem stream_agrees (T : FTy) (l l₁ : List (Path × Taken)) (hsub : l₁.Sublist l)
    (hno : noOverlap (l.map (·.1)))
    (hok : ∀ x ∈ l, (assign T (newInstance T) x.1 x.2).isSome) :
    ∃ v v₁, convertTo T l = some v ∧ convertTo T l₁ = some v₁ ∧
      (∀ x ∈ l₁, getT T v₁ x.1 = getT T v x.1) ∧
      (∀ q, (∀ x ∈ l₁, ¬ prefixRel x.1 q) → getT T v₁ q = getT T (newInstance T) q) := by
  obtain ⟨v, hv, hA, _⟩ := mapped_exact T l hno hok
  obtain ⟨v₁, hv₁, hA₁, hB₁⟩ :=
    mapped_exact T l₁ (noOverlap_sublist (hsub.map _) hno) (fun x hx => hok x (hsub.subset hx))
  refine ⟨v, v₁, hv l (List.Perm.refl l), hv₁ l₁ (List.Perm.refl l₁), fun x hx => ?_, hB₁⟩
  obtain ⟨st, w, h1, h2, h3⟩ := hA x (hsub.subset hx)
  obtain ⟨st', w', h1', h2', h3'⟩ := hA₁ x hx
  rw [h1] at h1'; cases h1'
  rw [h2] at h2'; cases h2'
  rw [h3, h3']

/-- **source_unchanged.** Values taken from predecessor outputs are stored by reference.  In an
    accepted (overlap-free) set, whatever the order, no assignment reaches the value an earlier
    assignment stored, nor anything below it: the step for `x` leaves the whole subtree at the
    target of every earlier entry `y` as it was, so nothing is written through a predecessor's
    pointer or map.  (Extraction itself is a pure function of the predecessor output.) -/
theorem source_unchanged (T : FTy) (l pre post : List (Path × Taken)) (x : Path × Taken)
    (hno : noOverlap (l.map (·.1))) (hl : l = pre ++ x :: post) (d d' : FVal)
    (hx : assign T d x.1 x.2 = some d') :
    ∀ y ∈ pre, ∀ r, getT T d' (y.1 ++ r) = getT T d (y.1 ++ r) := by
  intro y hy r
  subst hl
  rw [List.map_append] at hno
  exact assign_getT_below
    (noOverlap_append_cross hno _ (List.mem_map_of_mem hy) _ (List.mem_map_of_mem List.mem_cons_self)) hx r

/-- **runtime_check_no_panic (extraction).** Whatever the predecessor output holds on the way
    (nil pointers, nil or unexpectedly typed interface values, absent keys), extraction along a
    source path ends in a value or an error, never in a panic. -/
theorem take_never_panics (t : FTy) (v : FVal) (p : Path) : take srcTake t v p ≠ .error .panic := by
  rw [facts_match.2.1]; exact take_no_panic t v p

/-- **runtime_check_no_panic.** If every mapping of every edge passed the static check, a run of
    the successor's input construction — edge handlers with their run-time checkers, then
    `convertTo` — never panics: type mismatches that can only be seen at run time are errors, and
    whatever passes the checkers can be assigned ("convertTo failed when must succeed" is
    unreachable), in non-streaming and streaming form alike. -/
theorem runtime_check_no_panic (allowMissing : Bool) (st : FTy) (es : List Edge)
    (hval : ∀ e ∈ es, ∀ m ∈ e.ms, (validateOne srcValidate e.pt st m).isSome) :
    runNode srcTake srcValidate allowMissing st es ≠ .error .panic := by
  rw [facts_match.2.1, facts_match.2.2] at *
  rw [← runNodeR_src _ _ allowMissing st (fun _ m => m.src) (fun _ _ => rfl)]
  exact runNodeR_no_panic allowMissing st _ es hval (fun _ _ _ _ _ _ _ => rfl)

/-- the structural facts of `preNodeHandlerManager.handle` as extracted from the source -/
def srcPreNode : ChainFacts :=
  { valueAppliesAll := FactsC15.preNodeValueAppliesAll
    streamAppliesAll := FactsC15.preNodeStreamAppliesAll }

/-- … of `preBranchHandlerManager.handle` and `edgeHandlerManager.handle` (the same loop shape:
    the field-mapping edge handlers `[fieldMap, checker]` go through the latter) -/
def srcPreBranch : ChainFacts :=
  { valueAppliesAll := FactsC15.preBranchValueAppliesAll
    streamAppliesAll := FactsC15.preBranchStreamAppliesAll }
def srcEdge : ChainFacts :=
  { valueAppliesAll := FactsC15.edgeValueAppliesAll
    streamAppliesAll := FactsC15.edgeStreamAppliesAll }

/-- Source fact tie for the handler managers: both twins of all three `handle` functions iterate
    over the whole handler list. -/
theorem chain_facts_match :
    srcPreNode = Expected.C15.chain ∧ srcPreBranch = Expected.C15.chain ∧ srcEdge = Expected.C15.chain := by
  decide

/-- **chain_twins_agree.** For every list of handlers (no bound on its length), every
    concatenation function and every chunk list: if each handler commutes with concatenation,
    the stream twin of `preNodeHandlerManager.handle` followed by concatenation gives what the
    value twin gives on the concatenated chunks — streaming and non-streaming execution hand the
    node the same input (an error in one is the same error in the other). -/
theorem chain_twins_agree {V E : Type} (concat : List V → V) (hs : List (HandlerPair V E))
    (hc : ∀ h ∈ hs, Commutes concat h) (cs : List V) :
    (chainStream srcPreNode.streamAppliesAll hs cs).map concat =
      chainValue srcPreNode.valueAppliesAll hs (concat cs) := by
  rw [chain_facts_match.1]
  exact chain_agree_along concat hs cs (commutesAlong_of_commutes concat hs hc cs)

/-- … the same for the handler lists on edges and in front of branches -/
theorem chain_twins_agree_edge_branch {V E : Type} (concat : List V → V) (hs : List (HandlerPair V E))
    (hc : ∀ h ∈ hs, Commutes concat h) (cs : List V) :
    (chainStream srcEdge.streamAppliesAll hs cs).map concat = chainValue srcEdge.valueAppliesAll hs (concat cs) ∧
    (chainStream srcPreBranch.streamAppliesAll hs cs).map concat = chainValue srcPreBranch.valueAppliesAll hs (concat cs) := by
  rw [chain_facts_match.2.1, chain_facts_match.2.2]
  exact ⟨chain_agree_along concat hs cs (commutesAlong_of_commutes concat hs hc cs),
         chain_agree_along concat hs cs (commutesAlong_of_commutes concat hs hc cs)⟩

/-- **chain_twins_agree (along the run).** It is enough that the handlers commute with
    concatenation on the chunk lists that occur along this run of the chain (the form the oracle
    evaluates on every generated case). -/
theorem chain_twins_agree_along {V E : Type} (concat : List V → V) (hs : List (HandlerPair V E))
    (cs : List V) (hc : CommutesAlong concat hs cs) :
    (chainStream srcPreNode.streamAppliesAll hs cs).map concat =
      chainValue srcPreNode.valueAppliesAll hs (concat cs) := by
  rw [chain_facts_match.1]; exact chain_agree_along concat hs cs hc

/-- The static-value handler commutes with concatenation: on `map[string]any` chunks whose keys
    (joined target paths) differ from the static ones (what `mergeMap` requires; the static keys
    are the keys of a Go map, hence distinct), merging the one-chunk static stream into the
    stream and concatenating equals `mergeValues` on the concatenated chunks. -/
theorem static_handler_commutes (st : List (Path × Taken)) (ls : List (List (Path × Taken)))
    (l : List (Path × Taken)) (hl : concatIn (ls.map NodeIn.entries) = .entries l)
    (hd : dupKey l st = false) (hnd : st.Pairwise (fun a b => a.1 ≠ b.1)) :
    ((staticHandler st).transform (ls.map NodeIn.entries)).map concatIn =
      (staticHandler st).invoke (concatIn (ls.map NodeIn.entries)) := by
  simp only [staticHandler, all_isEntries_map, if_true, Except.map, concatIn_append_one, hl, hd,
    NodeIn.merge]
  rw [mergeEntries_fresh st l (keyFree_of_dupKey_false l st hd) hnd]
  simp

/-- **static_assembled_exact.** A node with field mappings and static values: when the mapped
    target paths and the static paths are pairwise prefix-unrelated (what compilation accepts,
    `overlap_rejected_iff` with the static paths as one more group) and every entry is assignable,
    the pre-node chain `[merge static values, convertTo]` yields a node input `v` that is the same
    for every iteration order of the merged map, reads back exactly the mapped values at the
    mapped paths and the static values at the static paths, and is zero everywhere else:
    "mapped fields ∪ static fields". -/
theorem static_assembled_exact (T : FTy) (lm ls : List (Path × Taken))
    (hno : noOverlap ((lm ++ ls).map (·.1)))
    (hok : ∀ x ∈ lm ++ ls, (assign T (newInstance T) x.1 x.2).isSome) :
    ∃ v, assembleStatic srcPreNode T ls lm = .ok (.val v) ∧
      (∀ l', l'.Perm (lm ++ ls) → convertTo T l' = some v) ∧
      (∀ x ∈ lm ++ ls, ∃ st w, slotTy T x.1 = some st ∧ store st x.2 = some w ∧ getT T v x.1 = some (st, w)) ∧
      (∀ q, (∀ x ∈ lm ++ ls, ¬ prefixRel x.1 q) → getT T v q = getT T (newInstance T) q) := by
  obtain ⟨v, hperm, hA, hB⟩ := mapped_exact T (lm ++ ls) hno hok
  refine ⟨v, ?_, hperm, hA, hB⟩
  rw [assembleStatic_eq _ (by decide), dupKey_false_of_noOverlap lm ls hno, convertIn, hperm _ (.refl _)]; rfl

/-! ## non-vacuity -/

/-- a small universe: `struct Leaf{S string; N int}`, `struct Top{S string; L Leaf; PL *Leaf; MPL map[string]*Leaf; A any}` -/
def exLeaf : FTy := .struct "Leaf" (.cons "S" .str (.cons "N" .int .nil))
def exTop : FTy := .struct "Top"
  (.cons "S" .str (.cons "L" exLeaf (.cons "PL" (.ptr exLeaf) (.cons "MPL" (.map (.ptr exLeaf)) (.cons "A" .any .nil)))))
def exLeafV (s : String) (n : Int) : FVal := .obj (.cons "S" (.str s) (.cons "N" (.int n) .nil))
def exSrc : FVal := .obj (.cons "S" (.str "s") (.cons "L" (exLeafV "l" 1)
  (.cons "PL" (.ptr (exLeafV "pl" 2)) (.cons "MPL" .nil (.cons "A" .nil .nil)))))

/-- non-overlapping targets below shared prefixes: accepted, every order gives this value -/
example : acceptedOverlap Expected.C15.trie [[["L", "S"], ["L", "N"]], [["MPL", "k", "S"]], [["A", "x", "y"]]] = true := by
  decide

example :
    convertTo exTop [(["L", "S"], some (.str, .str "a")), (["MPL", "k", "N"], some (.int, .int 7)),
      (["A", "x", "y"], some (.str, .str "deep")), (["PL"], some (.ptr exLeaf, .ptr (exLeafV "p" 3)))]
    = some (.obj (.cons "S" (.str "") (.cons "L" (exLeafV "a" 0) (.cons "PL" (.ptr (exLeafV "p" 3))
        (.cons "MPL" (.map (.cons "k" (.ptr (exLeafV "" 7)) .nil))
        (.cons "A" (.box (.map .any) (.map (.cons "x" (.box (.map .any) (.map (.cons "y" (.box .str (.str "deep")) .nil))) .nil)))
          .nil)))))) := by
  decide

/-- the hypotheses of `mapped_exact` are satisfiable by that set -/
example : noOverlap ([(["L", "S"], some (FTy.str, FVal.str "a")), (["MPL", "k", "N"], some (.int, .int 7)),
    (["A", "x", "y"], some (.str, .str "deep"))].map (·.1)) := by decide

/-- extraction through an interface-typed field holding a struct; a nil interface on the way is
    an error -/
example : take Expected.C15.take exTop
    (.obj (.cons "S" (.str "s") (.cons "L" (exLeafV "l" 1) (.cons "PL" .nil (.cons "MPL" .nil
      (.cons "A" (.box exLeaf (exLeafV "dyn" 9)) .nil)))))) ["A", "S"] = .ok (some (.str, .str "dyn")) := rfl
example : take Expected.C15.take exTop exSrc ["A", "S"] = .error .bad := rfl
example : take Expected.C15.take exTop
    (.obj (.cons "S" (.str "s") (.cons "L" (exLeafV "l" 1) (.cons "PL" .nil (.cons "MPL" .nil (.cons "A" .nil .nil))))))
    ["PL", "S"] = .error .bad := rfl

/-! ## embedded struct fields: promoted selectors (Model/C15Embed.lean)

  A path segment may name a field promoted from an embedded struct (`ID` for `Base.ID`; `reflect`
  `FieldByName` follows embedding).  Go: "x.f is shorthand for x.A.f".  The model elaborates every
  declared path to the explicit path it is shorthand for (`elabTy`: against the static type;
  `elabVal`: on the value, for source paths below interface values) and hands the result to the
  core model.  The clauses of the property are therefore statements about the *slots the declared
  paths denote*. -/

/-- **promoted_conservative.** Without embedded fields no selector is promoted: elaboration is
    the identity and the extended model is the core model (every theorem above is the special
    case `e = []` of its promoted form). -/
theorem promoted_conservative (allowMissing : Bool) (st : FTy) (es : List Edge)
    (decls : List (FTy × List Mapping)) :
    (∀ t p, elabTy [] t p = p) ∧
    runNodeP [] srcTake srcValidate allowMissing st es = runNode srcTake srcValidate allowMissing st es ∧
    compileOKP [] srcTrie srcValidate st decls = compileOK srcTrie srcValidate st decls :=
  ⟨fun t p => elabTy_nil p t, runNodeP_nil .., compileOKP_nil ..⟩

/-- **overlap_rejected_iff (promoted).** Overlap is judged on the slots the target paths denote:
    whatever the declaration order, the declarations of a node with input type `st` are accepted
    iff no two *elaborated* target paths are equal or prefix-related — `ID` next to `Base`, or
    next to `Base.ID`, is an overlap although the declared paths share no segment. -/
theorem overlap_rejected_iff_promoted (e : Emb) (st : FTy) (groups : List (List Path)) :
    acceptedOverlap srcTrie (groups.map (·.map (elabTy e st))) = true ↔
      noOverlap (targets (groups.map (·.map (elabTy e st)))) :=
  overlap_rejected_iff _

/-- **mapped_exact (promoted).** For declared target paths whose elaborations are pairwise
    prefix-unrelated and assignable, every iteration order of `convertTo` yields the same
    successor input, which holds exactly the taken value at the slot each declared path denotes
    and is zero at every path unrelated to all of them. -/
theorem mapped_exact_promoted (e : Emb) (T : FTy) (l : List (Path × Taken))
    (hno : noOverlap (l.map (fun x => elabTy e T x.1)))
    (hok : ∀ x ∈ l, (assign T (newInstance T) (elabTy e T x.1) x.2).isSome) :
    ∃ v, (∀ l' : List (Path × Taken), l'.Perm l → convertTo T (l'.map (fun x => (elabTy e T x.1, x.2))) = some v) ∧
      (∀ x ∈ l, ∃ st w, slotTy T (elabTy e T x.1) = some st ∧ store st x.2 = some w ∧
        getT T v (elabTy e T x.1) = some (st, w)) ∧
      (∀ q, (∀ x ∈ l, ¬ prefixRel (elabTy e T x.1) q) → getT T v q = getT T (newInstance T) q) := by
  let g : Path × Taken → Path × Taken := fun x => (elabTy e T x.1, x.2)
  have hno' : noOverlap ((l.map g).map (·.1)) := by simpa [List.map_map, Function.comp_def, g] using hno
  have hok' : ∀ y ∈ l.map g, (assign T (newInstance T) y.1 y.2).isSome := by
    intro y hy
    obtain ⟨x, hx, rfl⟩ := List.mem_map.mp hy
    exact hok x hx
  obtain ⟨v, hperm, hA, hB⟩ := mapped_exact T (l.map g) hno' hok'
  refine ⟨v, fun l' hp => hperm _ (hp.map g), fun x hx => hA (g x) (List.mem_map_of_mem hx),
    fun q hq => hB q (fun y hy => ?_)⟩
  obtain ⟨x, hx, rfl⟩ := List.mem_map.mp hy
  exact hq x hx

/-- **runtime_check_no_panic (promoted).** If every declared mapping, elaborated against the
    static types, passed the static check, a run never panics — whatever selectors are promoted
    and wherever: a source path through a nil embedded pointer is an error like any nil pointer
    on a source path, a promoted selector below an interface value is resolved on the value, a
    target path through an embedded pointer instantiates it, and whatever passes the run-time
    checkers can be assigned; in non-streaming and streaming form alike. -/
theorem runtime_check_no_panic_promoted (e : Emb) (allowMissing : Bool) (st : FTy) (es : List Edge)
    (hval : ∀ ed ∈ es, ∀ m ∈ ed.ms, (validateOne srcValidate ed.pt st (elabMapping e ed.pt st m)).isSome) :
    runNodeP e srcTake srcValidate allowMissing st es ≠ .error .panic := by
  rw [facts_match.2.1, facts_match.2.2] at *
  unfold runNodeP
  refine runNodeR_no_panic allowMissing st _ _ ?_ (runPath_agrees e _ _)
  intro ed' hed' m' hm'
  obtain ⟨ed, hed, rfl⟩ := List.mem_map.mp hed'
  simp only [elabEdge] at hm' ⊢
  obtain ⟨m, hm, rfl⟩ := List.mem_map.mp hm'
  exact hval ed hed m hm

/-! ### promoted selectors: non-vacuity and the negations for the code as found -/

/-- `Base{ID; N}`, `SrcV{Base; Name}` (embedded by value), `SrcP{*Base; Name}` (by pointer),
    `Outer{*SrcP; X}` (two levels, both by pointer) -/
def exBase : FTy := .struct "Base" (.cons "ID" .str (.cons "N" .int .nil))
def exSrcV : FTy := .struct "SrcV" (.cons "Base" exBase (.cons "Name" .str .nil))
def exSrcP : FTy := .struct "SrcP" (.cons "Base" (.ptr exBase) (.cons "Name" .str .nil))
def exOuter : FTy := .struct "Outer" (.cons "SrcP" (.ptr exSrcP) (.cons "X" .str .nil))
def exEmb : Emb := [("SrcV", "Base"), ("SrcP", "Base"), ("Outer", "SrcP")]

/-- selectors at one and two levels of embedding; a declared field and an explicit path are
    their own elaboration; an unknown name is kept -/
example : elabTy exEmb exSrcV ["ID"] = ["Base", "ID"] ∧ elabTy exEmb exOuter ["N"] = ["SrcP", "Base", "N"] ∧
    elabTy exEmb exOuter ["SrcP", "Base", "N"] = ["SrcP", "Base", "N"] ∧ elabTy exEmb exOuter ["Name"] = ["SrcP", "Name"] ∧
    elabTy exEmb exSrcV ["Name"] = ["Name"] ∧ elabTy exEmb exSrcV ["Nope", "x"] = ["Nope", "x"] := by decide

/-- a promoted source field yields the field's value (not the embedded struct), by value and
    through a non-nil embedded pointer; through a nil embedded pointer it is an error -/
example :
    take Expected.C15.take exSrcV (.obj (.cons "Base" (.obj (.cons "ID" (.str "id-1") (.cons "N" (.int 7) .nil))) (.cons "Name" (.str "nm") .nil)))
      (elabTy exEmb exSrcV ["ID"]) = .ok (some (.str, .str "id-1")) ∧
    take Expected.C15.take exSrcP (.obj (.cons "Base" (.ptr (.obj (.cons "ID" (.str "id-1") (.cons "N" (.int 7) .nil)))) (.cons "Name" (.str "nm") .nil)))
      (elabTy exEmb exSrcP ["N"]) = .ok (some (.int, .int 7)) ∧
    take Expected.C15.take exSrcP (.obj (.cons "Base" .nil (.cons "Name" (.str "nm") .nil)))
      (elabTy exEmb exSrcP ["N"]) = .error .bad := by decide

/-- a promoted selector below an interface value is resolved on the value -/
example :
    runPath exEmb Expected.C15.take exTop
      (.obj (.cons "S" (.str "s") (.cons "L" (exLeafV "l" 1) (.cons "PL" .nil (.cons "MPL" .nil
        (.cons "A" (.box exSrcV (.obj (.cons "Base" (.obj (.cons "ID" (.str "dyn") (.cons "N" (.int 1) .nil))) (.cons "Name" (.str "") .nil)))) .nil))))))
      ⟨["A", "ID"], ["S"]⟩ = ["A", "Base", "ID"] := by decide

/-- a target through two embedded pointers: both are instantiated, the run succeeds -/
example :
    runNodeP exEmb Expected.C15.take Expected.C15.validate false exOuter
      [{ pt := exLeaf, v := exLeafV "v" 3, ms := [⟨["S"], ["ID"]⟩] }] =
    .ok (.obj (.cons "SrcP" (.ptr (.obj (.cons "Base" (.ptr (.obj (.cons "ID" (.str "v") (.cons "N" (.int 0) .nil)))) (.cons "Name" (.str "") .nil))))
      (.cons "X" (.str "") .nil))) := by decide

/-- The overlap check on the paths as declared (the code as found) accepts a promoted selector
    next to the embedded struct that holds the field, and next to the explicit path of the same
    field; on the slots denoted both are conflicts; and the result of such a set depends on the
    iteration order of `convertTo`. -/
theorem promoted_alias_accepted_as_declared :
    acceptedOverlap Expected.C15.trie [[["ID"]], [["Base"]]] = true ∧
    acceptedOverlap Expected.C15.trie [[["ID"]], [["Base", "ID"]]] = true ∧
    acceptedOverlap Expected.C15.trie ([[["ID"]], [["Base"]]].map (·.map (elabTy exEmb exSrcV))) = false ∧
    acceptedOverlap Expected.C15.trie ([[["ID"]], [["Base", "ID"]]].map (·.map (elabTy exEmb exSrcV))) = false ∧
    convertTo exSrcV [(elabTy exEmb exSrcV ["ID"], some (.str, .str "a")),
        (elabTy exEmb exSrcV ["Base"], some (exBase, .obj (.cons "ID" (.str "whole") (.cons "N" (.int 5) .nil))))] ≠
      convertTo exSrcV [(elabTy exEmb exSrcV ["Base"], some (exBase, .obj (.cons "ID" (.str "whole") (.cons "N" (.int 5) .nil)))),
        (elabTy exEmb exSrcV ["ID"], some (.str, .str "a"))] := by decide

/-- A path through a pointer to a map cannot be walked at run time (`takeOne` and `assignOne`
    follow pointers only to structs): the static check rejects it for every element type and every
    continuation, on the source and on the target side, so no accepted mapping set contains one. -/
theorem path_through_pointer_to_map_rejected (el pt st : FTy) (s : Seg) (r src dst : Path) :
    extractTy true (.ptr (.map el)) (s :: r) = none ∧
    extractTy true (.ptr (.ptr (.map el))) (s :: r) = none ∧
    validateOne srcValidate (.ptr (.map el)) st ⟨s :: r, dst⟩ = none ∧
    validateOne srcValidate pt (.ptr (.map el)) ⟨src, s :: r⟩ = none := by
  rw [facts_match.2.2]
  -- no child type below a pointer to a map, and it is no interface
  have h1 : extractTy true (.ptr (.map el)) (s :: r) = none := by rw [extractTy_cons]; rfl
  have h2 : extractTy true (.ptr (.ptr (.map el))) (s :: r) = none := by rw [extractTy_cons]; rfl
  refine ⟨h1, h2, ?_, ?_⟩
  · simp [validateOne, extractTyF_expected, h1]
  · simp only [validateOne, extractTyF_expected, h1]
    cases extractTy true pt src <;> rfl

/-- … and what a run does when the static check lets such a path through (pointers dereferenced
    before the map test): the assignment fails ("convertTo failed when must succeed", a panic),
    the extraction is an error although the value is there. -/
theorem path_through_pointer_to_map_cannot_run :
    assign (.struct "D" (.cons "M" (.ptr (.map .str)) .nil)) (newInstance (.struct "D" (.cons "M" (.ptr (.map .str)) .nil)))
      ["M", "k"] (some (.str, .str "v")) = none ∧
    take Expected.C15.take (.struct "D" (.cons "M" (.ptr (.map .str)) .nil))
      (.obj (.cons "M" (.ptr (.map (.cons "k" (.str "v") .nil))) .nil)) ["M", "k"] = .error .bad := by decide

/-! ## the defects found on the unfixed tree: negations for the fact values found there -/

/-- The overlap check as found is declaration-order dependent: `A.B` then `A` is accepted,
    `A` then `A.B` is rejected (replayed on the real code by the harness' fixed cases). -/
theorem overlap_order_dependent_as_found :
    acceptedOverlap Expected.C15.trieAsFound [[["A", "B"]], [["A"]]] = true ∧
    acceptedOverlap Expected.C15.trieAsFound [[["A"]], [["A", "B"]]] = false := by decide

/-- ... and below the first level it does not detect prefix conflicts in either order, nor a
    whole-input dependency declared after field mappings. -/
theorem deep_overlap_accepted_as_found :
    acceptedOverlap Expected.C15.trieAsFound [[["A", "B"]], [["A", "B", "C"]]] = true ∧
    acceptedOverlap Expected.C15.trieAsFound [[["A", "B", "C"]], [["A", "B"]]] = true ∧
    acceptedOverlap Expected.C15.trieAsFound [[["A"]], []] = true := by decide

/-- An accepted overlapping pair makes the result depend on the iteration order of `convertTo`
    (Go map iteration): the run is nondeterministic. -/
theorem overlap_result_order_dependent :
    convertTo exTop [(["L", "S"], some (.str, .str "a")), (["L"], some (exLeaf, exLeafV "whole" 5))] ≠
    convertTo exTop [(["L"], some (exLeaf, exLeafV "whole" 5)), (["L", "S"], some (.str, .str "a"))] := by
  decide

/-- An accepted overlapping pair writes through the stored (shared) value: what the first entry
    stored at `MPL.k` is changed by the second one. -/
theorem overlap_writes_through_stored_value :
    ∃ d d', assign exTop (newInstance exTop) ["MPL", "k"] (some (.ptr exLeaf, .ptr (exLeafV "pl" 2))) = some d ∧
      assign exTop d ["MPL", "k", "S"] (some (.str, .str "a")) = some d' ∧
      getT exTop d' ["MPL", "k"] ≠ getT exTop d ["MPL", "k"] := by
  refine ⟨_, _, rfl, rfl, by decide⟩

/-- Extraction as found panics on a nil interface and on a nil pointer on the source path, and on
    an interface value whose struct lacks the field. -/
theorem take_panics_as_found :
    take Expected.C15.takeAsFound exTop exSrc ["A", "S"] = .error .panic ∧
    take Expected.C15.takeAsFound exTop
      (.obj (.cons "S" (.str "s") (.cons "L" (exLeafV "l" 1) (.cons "PL" .nil (.cons "MPL" .nil (.cons "A" .nil .nil))))))
      ["PL", "S"] = .error .panic ∧
    take Expected.C15.takeAsFound exTop
      (.obj (.cons "S" (.str "s") (.cons "L" (exLeafV "l" 1) (.cons "PL" .nil (.cons "MPL" .nil
        (.cons "A" (.box exLeaf (exLeafV "dyn" 9)) .nil)))))) ["A", "Nope"] = .error .panic := ⟨rfl, rfl, rfl⟩

/-- The static checker as found accepts a trailing segment on a basic type (`S.x` on a string);
    the assignment then cannot succeed ("convertTo failed when must succeed"). -/
theorem trailing_segment_accepted_as_found :
    (validateOne Expected.C15.validateAsFound exTop exTop ⟨["S"], ["S", "x"]⟩).isSome = true ∧
    (validateOne Expected.C15.validate exTop exTop ⟨["S"], ["S", "x"]⟩).isSome = false ∧
    assign exTop (newInstance exTop) ["S", "x"] (some (.str, .str "a")) = none := by decide

/-- The run-time checkers as found all test against the field type of the *last* mapping of the
    edge: a mismatching value passes the checker (and `convertTo` then panics). -/
theorem checker_uses_last_mapping_as_found :
    let ms : List Mapping := [⟨["A"], ["S"]⟩, ⟨["A"], ["A"]⟩]
    checkE Expected.C15.validateAsFound exTop exTop ms [(⟨["A"], ["S"]⟩, some (.int, .int 3))] = true ∧
    checkE Expected.C15.validate exTop exTop ms [(⟨["A"], ["S"]⟩, some (.int, .int 3))] = false := by decide

/-! ## an untyped nil found at the end of a source path that crosses an interface

  `a.b.c` out of `map[string]any`, `A.k.S` out of a struct with an `any` field: the static check
  cannot know the type of the value found (`predecessorIntermediateInterface`), a run-time checker
  is installed.  What the property demands of it: a typed value is assignable or an error; an
  untyped nil is a value where nil is a value (pointer, map, slice, interface targets: the successor
  sees nil there) and an error elsewhere (string, int, struct, … and func / chan, which the
  converter does not take either) — what the sibling checker for `assignableTypeMay` does. -/

/-- Source fact tie: the three (four) lists of kinds for which the code accepts an untyped nil —
    run-time checkers, `checkAndExtractToField`, `checkAndExtractToMapKey` — are all
    `{Map, Slice, Ptr, Interface}`, the model's `nilable`: what a checker admits the converter can
    assign. -/
theorem nil_kinds_match : FactsC15.nilKindsAreMapSlicePtrInterface = true := by decide

/-- the model's `nilable` is that list -/
theorem nilable_iff (t : FTy) :
    nilable t = true ↔ t = .any ∨ (∃ e, t = .ptr e) ∨ (∃ e, t = .map e) ∨ (∃ n, t = .opq .slice n) ∨
      (∃ n is, t = .iface n is) := by
  cases t with
  | opq k n => cases k <;> simp [nilable]
  | _ => simp [nilable]

/-- **nil_behind_interface.** One mapping whose source path crosses an interface before its last
    segment (`validateOne` installs the interface-path checker against the successor field type
    `sf`), a predecessor output on which the path ends at an untyped nil: if `sf` has no nil the
    run is an ordinary error; if it has, the run succeeds and the successor reads nil at the
    target path — in non-streaming and streaming form.  Never a panic. -/
theorem nil_behind_interface (allowMissing : Bool) (st pt : FTy) (v : FVal) (m : Mapping) (sf : FTy)
    (hv : validateOne srcValidate pt st m = some (some (sf, true)))
    (ht : take srcTake pt v m.src = .ok none) :
    (nilable sf = false →
      runNode srcTake srcValidate allowMissing st [{ pt := pt, v := v, ms := [m] }] = .error .request) ∧
    (nilable sf = true → ∃ w,
      runNode srcTake srcValidate allowMissing st [{ pt := pt, v := v, ms := [m] }] = .ok w ∧
      getT st w m.dst = some (sf, .nil)) := by
  rw [facts_match.2.1] at ht ⊢
  rw [facts_match.2.2] at hv ⊢
  have hck := checkerOf_expected hv [m]
  have hfm : fieldMapE Expected.C15.take allowMissing pt v [m] = .ok [(m, none)] := by
    simp [fieldMapE, ht]
  have hpan := checkPanicE_expected pt st [m] [(m, none)]
  constructor
  · intro hn
    simp [runNode, edgesMap, hfm, hpan, checkE, hck, runtimeCheck, hn]
  · intro hn
    obtain ⟨w, ha⟩ := Option.isSome_iff_exists.mp <|
      assign_of_validated Expected.C15.take pt st v m (some (sf, true)) none hv ht
        (by simp [runtimeCheck, hn]) (newInstance st)
    refine ⟨w, ?_, ?_⟩
    · simp [runNode, edgesMap, hfm, hpan, checkE, hck, runtimeCheck, hn, convertTo, convertFrom, ha]
    · obtain ⟨st', w', h1, h2, h3⟩ := assign_getT_same m.dst st (newInstance st) w none ha
      rw [slotTy_of_ifaceChecker pt st m sf hv] at h1
      cases h1
      simp only [store, hn, if_true, Option.some.injEq] at h2
      subst h2
      exact h3

/-- `map[string]any`, three levels, an untyped nil at `a.b.c` -/
def exTree (leaf : FVal) : FVal :=
  .map (.cons "a" (.box (.map .any) (.map (.cons "b" (.box (.map .any) (.map (.cons "c" leaf .nil))) .nil))) .nil)

/-- the hypotheses of `nil_behind_interface` are satisfiable (target `Top.S`, a string, and
    `Top.PL`, a pointer), and these are the two outcomes; a typed value arrives, an ill-typed one,
    a missing key, a nil or a non-container on the way are errors -/
example :
    validateOne Expected.C15.validate (.map .any) exTop ⟨["a", "b", "c"], ["S"]⟩ = some (some (.str, true)) ∧
    take Expected.C15.take (.map .any) (exTree .nil) ["a", "b", "c"] = .ok none ∧
    runNode Expected.C15.take Expected.C15.validate false exTop
      [{ pt := .map .any, v := exTree .nil, ms := [⟨["a", "b", "c"], ["S"]⟩] }] = .error .request ∧
    runNode Expected.C15.take Expected.C15.validate false exTop
      [{ pt := .map .any, v := exTree .nil, ms := [⟨["a", "b", "c"], ["PL"]⟩] }] = .ok (newInstance exTop) ∧
    runNode Expected.C15.take Expected.C15.validate false exTop
      [{ pt := .map .any, v := exTree (.box .str (.str "x")), ms := [⟨["a", "b", "c"], ["S"]⟩] }] =
      .ok (.obj (.cons "S" (.str "x") (.cons "L" (exLeafV "" 0) (.cons "PL" .nil (.cons "MPL" .nil (.cons "A" .nil .nil)))))) ∧
    runNode Expected.C15.take Expected.C15.validate false exTop
      [{ pt := .map .any, v := exTree (.box .int (.int 7)), ms := [⟨["a", "b", "c"], ["S"]⟩] }] = .error .request ∧
    runNode Expected.C15.take Expected.C15.validate false exTop
      [{ pt := .map .any, v := exTree .nil, ms := [⟨["a", "b", "zz"], ["S"]⟩] }] = .error .request ∧
    runNode Expected.C15.take Expected.C15.validate false exTop
      [{ pt := .map .any, v := exTree .nil, ms := [⟨["a", "b", "c", "d"], ["S"]⟩] }] = .error .request ∧
    runNode Expected.C15.take Expected.C15.validate false exTop
      [{ pt := .map .any, v := exTree (.box .str (.str "x")), ms := [⟨["a", "b", "c", "d"], ["S"]⟩] }] = .error .request := by
  decide

/-- The interface-path checker as found (no nil guard: `reflect.TypeOf(a).AssignableTo(…)` on the
    nil `reflect.Type`) panics out of the run on that value, for a target without a nil and for one
    with a nil alike; with the guard the first is an error and the second succeeds (replayed on the
    real code by the harness' fixed cases). -/
theorem iface_checker_panics_on_nil_as_found :
    runNode Expected.C15.take Expected.C15.validateNoNilGuard false exTop
      [{ pt := .map .any, v := exTree .nil, ms := [⟨["a", "b", "c"], ["S"]⟩] }] = .error .panic ∧
    runNode Expected.C15.take Expected.C15.validateNoNilGuard true exTop
      [{ pt := .map .any, v := exTree .nil, ms := [⟨["a", "b", "c"], ["PL"]⟩] }] = .error .panic ∧
    runNode Expected.C15.take Expected.C15.validate false exTop
      [{ pt := .map .any, v := exTree .nil, ms := [⟨["a", "b", "c"], ["S"]⟩] }] = .error .request ∧
    runNode Expected.C15.take Expected.C15.validate true exTop
      [{ pt := .map .any, v := exTree .nil, ms := [⟨["a", "b", "c"], ["PL"]⟩] }] = .ok (newInstance exTop) := by
  decide

/-! ## static values: non-vacuity and the negation for a stream twin that returns early -/

/-- `Req{Query; Cfg{Mode; Level}; Meta map[string]any}`: `Query` and `Cfg.Level` mapped,
    `Cfg.Mode` and `Meta.a.b` static (the latter creates the intermediate map) -/
def exCfg : FTy := .struct "Cfg" (.cons "Mode" .str (.cons "Level" .int .nil))
def exReq : FTy := .struct "Req" (.cons "Query" .str (.cons "Cfg" exCfg (.cons "Meta" (.map .any) .nil)))
def exMapped : List (Path × Taken) := [(["Query"], some (.str, .str "hello")), (["Cfg", "Level"], some (.int, .int 3))]
def exStatic : List (Path × Taken) := [(["Cfg", "Mode"], some (.str, .str "fast")), (["Meta", "a", "b"], some (.int, .int 7))]
def exAssembled : FVal :=
  .obj (.cons "Query" (.str "hello") (.cons "Cfg" (.obj (.cons "Mode" (.str "fast") (.cons "Level" (.int 3) .nil)))
    (.cons "Meta" (.map (.cons "a" (.box (.map .any) (.map (.cons "b" (.box .int (.int 7)) .nil))) .nil)) .nil)))

/-- the hypotheses of `static_assembled_exact` are satisfiable, and this is the value -/
example : noOverlap ((exMapped ++ exStatic).map (·.1)) := by decide
example : ∀ x ∈ exMapped ++ exStatic, (assign exReq (newInstance exReq) x.1 x.2).isSome := by decide
example : assembleStatic Expected.C15.chain exReq exStatic exMapped = .ok (.val exAssembled) := by decide

/-- streaming execution of the same node (the mapped entries arrive in two chunks, the static
    values in a third): the chunks concatenate to the non-streaming input -/
example :
    (assembleStaticStream Expected.C15.chain exReq exStatic
      [.entries [(["Query"], some (.str, .str "hello"))], .entries [(["Cfg", "Level"], some (.int, .int 3))]]).map concatIn
      = .ok (.val exAssembled) := by decide

/-- a string arriving in two pieces (`Query` = "hel" then "lo", in different input chunks): the
    chunks of the node input concatenate to the non-streaming input -/
example :
    (assembleStaticStream Expected.C15.chain exReq exStatic
      [.entries [(["Query"], some (.str, .str "hel"))], .entries [(["Cfg", "Level"], some (.int, .int 3))],
       .entries [(["Query"], some (.str, .str "lo"))]]).map concatIn
      = .ok (.val exAssembled) := by decide

/-- the hypotheses of `static_handler_commutes` are satisfiable (two incoming chunks) -/
example : concatIn ([[exMapped.head!], exMapped.tail].map NodeIn.entries) = .entries exMapped ∧
    dupKey exMapped exStatic = false ∧ exStatic.Pairwise (fun a b => a.1 ≠ b.1) := by decide

/-- every handler of the chain of this node commutes with concatenation along the run on these
    chunks (the hypothesis of `chain_twins_agree_along`) -/
example : CommutesAlong concatIn (nodeHandlers exReq exStatic)
    [.entries [(["Query"], some (.str, .str "hel"))], .entries [(["Cfg", "Level"], some (.int, .int 3))],
     .entries [(["Query"], some (.str, .str "lo"))]] := by
  -- `+kernel` (here and for one long conjunction below): the kernel evaluates the closed instance itself;
  -- the elaborator's own, much slower, evaluation is skipped
  refine ⟨by decide +kernel, fun cs' h => ?_⟩
  have : cs' = [.entries [(["Query"], some (.str, .str "hel"))], .entries [(["Cfg", "Level"], some (.int, .int 3))],
     .entries [(["Query"], some (.str, .str "lo"))], .entries exStatic] := by
    simp [staticHandler, NodeIn.isEntries] at h; exact h.symm
  subst this
  exact ⟨by decide +kernel, fun _ _ => trivial⟩

/-- If the stream twin left the loop after the first handler (`return v.transform(…)`), the node
    would be handed the un-converted `map[string]any` chunks in streaming execution while
    non-streaming execution still hands it the typed input: the twins disagree. -/
theorem chain_twins_disagree_if_stream_returns_early :
    (assembleStaticStream Expected.C15.chainStreamReturnsEarly exReq exStatic [.entries exMapped]).map concatIn
      = .ok (.entries (exMapped ++ exStatic)) ∧
    assembleStatic Expected.C15.chainStreamReturnsEarly exReq exStatic exMapped = .ok (.val exAssembled) := by
  decide

/-! ## non-empty interfaces and pointers to pointers on source and target paths

  `R fmt.Stringer`, `PP **Inner`.  What the property demands: what lies below a non-empty interface
  is known only at request time — a SOURCE path may go on below it (the run-time checker against
  the target slot decides: the value arrives or the run is an error, never a panic), a TARGET path
  may not (nothing can be instantiated there, unlike the `any` hole that is expanded to a
  `map[string]any`): compilation rejects it.  Extraction and assignment follow one pointer level;
  no path, source or target, goes through a pointer to a pointer: compilation rejects it. -/

/-- **path_through_nested_pointer_rejected.** A path that reaches a slot of a pointer-to-pointer type
    (whatever it points to, at any depth, without crossing an interface before) and goes on below
    it is rejected by the static check, as a source path and as a target path: no accepted mapping
    set contains one. -/
theorem path_through_nested_pointer_rejected (pt st t u : FTy) (p : Path) (s : Seg) (r other : Path)
    (hp : extractTy true t p = some (.ptr (.ptr u), false)) :
    extractTy true t (p ++ s :: r) = none ∧
    validateOne srcValidate t st ⟨p ++ s :: r, other⟩ = none ∧
    validateOne srcValidate pt t ⟨other, p ++ s :: r⟩ = none := by
  rw [facts_match.2.2]
  have h1 : extractTy true t (p ++ s :: r) = none := by
    rw [extractTy_append p t _ (s :: r) hp (by simp), extractTy_cons]; rfl
  refine ⟨h1, ?_, ?_⟩
  · simp [validateOne, extractTyF_expected, h1]
  · simp only [validateOne, extractTyF_expected, h1]
    cases extractTy true pt other <;> rfl

/-- **target_below_interface_rejected.** A target path that goes on below a slot of a non-empty
    interface type is rejected at compile time, whatever the source. -/
theorem target_below_interface_rejected (pt st : FTy) (n : String) (is : List String) (p : Path) (s : Seg)
    (r src : Path) (hp : extractTy true st p = some (.iface n is, false)) :
    validateOne srcValidate pt st ⟨src, p ++ s :: r⟩ = none := by
  rw [facts_match.2.2]
  have h1 : extractTy true st (p ++ s :: r) = some (.iface n is, true) := by
    rw [extractTy_append p st _ (s :: r) hp (by simp), extractTy_cons]; rfl
  simp only [validateOne, extractTyF_expected, h1]
  cases extractTy true pt src with
  | none => rfl
  | some x => simp

/-- **source_below_interface_checked.** A source path that goes on below a slot of a non-empty
    interface type (one segment or more) is accepted for every target slot the static check can
    type, and gets the run-time checker against that slot's type: by `runtime_check_no_panic` the
    run then delivers the value found or is an ordinary error. -/
theorem source_below_interface_checked (pt st : FTy) (n : String) (is : List String) (p : Path) (s : Seg)
    (r dst : Path) (sf : FTy) (hp : extractTy true pt p = some (.iface n is, false))
    (hd : extractTy true st dst = some (sf, false)) :
    validateOne srcValidate pt st ⟨p ++ s :: r, dst⟩ = some (some (sf, true)) := by
  rw [facts_match.2.2]
  have h1 : extractTy true pt (p ++ s :: r) = some (.iface n is, true) := by
    rw [extractTy_append p pt _ (s :: r) hp (by simp), extractTy_cons]; rfl
  simp [validateOne, extractTyF_expected, h1, hd]

/-- `struct Impl{X string; N int}` (`*Impl` implements `Namer`), `struct Deep{S string; R Namer; PP **Leaf; A any}` -/
def exImpl : FTy := .struct "Impl" (.cons "X" .str (.cons "N" .int .nil))
def exNamer : FTy := .iface "Namer" ["*Impl"]
def exDeep : FTy := .struct "Deep"
  (.cons "S" .str (.cons "R" exNamer (.cons "PP" (.ptr (.ptr exLeaf)) (.cons "A" .any .nil))))
/-- `Deep{S: "s", R: &Impl{X: "rx", N: 3}, PP: &&Leaf{"pl", 2}}` -/
def exDeepV : FVal := .obj (.cons "S" (.str "s")
  (.cons "R" (.box (.ptr exImpl) (.ptr (.obj (.cons "X" (.str "rx") (.cons "N" (.int 3) .nil)))))
  (.cons "PP" (.ptr (.ptr (exLeafV "pl" 2))) (.cons "A" .nil .nil))))

/-- the hypotheses of the three theorems are satisfiable, and this is what a run does: `R.X` out
    of `&Impl{X: "rx"}` arrives in a string slot and in an `any` slot, is an error for the
    `Namer`-typed slot (a string does not implement it) and for an int slot; `R.N.y` and a nil `R`
    are errors; the whole `R` moves to `R` and to `A`; `*Impl` as the whole input moves to `R` -/
example :
    extractTy true exDeep ["R"] = some (exNamer, false) ∧
    extractTy true exDeep ["PP"] = some (.ptr (.ptr exLeaf), false) ∧
    validateOne Expected.C15.validate exDeep exDeep ⟨["R", "X"], ["S"]⟩ = some (some (.str, true)) ∧
    runNode Expected.C15.take Expected.C15.validate false exDeep [{ pt := exDeep, v := exDeepV, ms := [⟨["R", "X"], ["S"]⟩] }]
      = .ok (.obj (.cons "S" (.str "rx") (.cons "R" .nil (.cons "PP" .nil (.cons "A" .nil .nil))))) ∧
    runNode Expected.C15.take Expected.C15.validate true exDeep [{ pt := exDeep, v := exDeepV, ms := [⟨["R", "X"], ["A"]⟩] }]
      = .ok (.obj (.cons "S" (.str "") (.cons "R" .nil (.cons "PP" .nil (.cons "A" (.box .str (.str "rx")) .nil))))) ∧
    runNode Expected.C15.take Expected.C15.validate false exDeep [{ pt := exDeep, v := exDeepV, ms := [⟨["R", "X"], ["R"]⟩] }]
      = .error .request ∧
    runNode Expected.C15.take Expected.C15.validate false exLeaf [{ pt := exDeep, v := exDeepV, ms := [⟨["R", "X"], ["N"]⟩] }]
      = .error .request ∧
    runNode Expected.C15.take Expected.C15.validate false exDeep [{ pt := exDeep, v := exDeepV, ms := [⟨["R", "N", "y"], ["S"]⟩] }]
      = .error .request ∧
    runNode Expected.C15.take Expected.C15.validate false exDeep [{ pt := exDeep, v := newInstance exDeep, ms := [⟨["R", "X"], ["S"]⟩] }]
      = .error .request ∧
    validateOne Expected.C15.validate exDeep exDeep ⟨["R"], ["R"]⟩ = some none ∧
    runNode Expected.C15.take Expected.C15.validate false exDeep [{ pt := exDeep, v := exDeepV, ms := [⟨["R"], ["R"]⟩, ⟨["R"], ["A"]⟩] }]
      = .ok (.obj (.cons "S" (.str "") (.cons "R" (.box (.ptr exImpl) (.ptr (.obj (.cons "X" (.str "rx") (.cons "N" (.int 3) .nil)))))
          (.cons "PP" .nil (.cons "A" (.box (.ptr exImpl) (.ptr (.obj (.cons "X" (.str "rx") (.cons "N" (.int 3) .nil))))) .nil))))) ∧
    validateOne Expected.C15.validate (.ptr exImpl) exDeep ⟨[], ["R"]⟩ = some none ∧
    validateOne Expected.C15.validate exImpl exDeep ⟨[], ["R"]⟩ = none ∧
    validateOne Expected.C15.validate exDeep exDeep ⟨["R"], ["R", "x"]⟩ = none ∧
    validateOne Expected.C15.validate exDeep exDeep ⟨["S"], ["PP", "S"]⟩ = none ∧
    validateOne Expected.C15.validate exDeep exDeep ⟨["PP", "S"], ["S"]⟩ = none ∧
    validateOne Expected.C15.validate exDeep exDeep ⟨["PP"], ["PP"]⟩ = some none := by
  decide +kernel

/-- The static check as found took a LAST segment below a non-empty interface for a slot of the
    interface's own type: (target) `R → R.x` is accepted and the assignment cannot succeed
    ("convertTo failed when must succeed … output is not a struct", a panic out of Invoke and
    Stream); (source) `R.X → R` is accepted without a run-time checker and the string found panics
    in `convertTo`, `R.X → S` is refused although the value found is a string.  With the segment
    reported as an intermediate interface the first is rejected at compile time, the second is an
    ordinary error, the third delivers the value (replayed on the real code by the fixed cases of
    the family `deep`). -/
theorem iface_last_segment_as_found :
    (validateOne Expected.C15.validateIfaceLastLoose exDeep exDeep ⟨["R"], ["R", "x"]⟩).isSome = true ∧
    assign exDeep (newInstance exDeep) ["R", "x"] (some (.ptr exImpl, .ptr (.obj .nil))) = none ∧
    runNode Expected.C15.take Expected.C15.validateIfaceLastLoose false exDeep
      [{ pt := exDeep, v := exDeepV, ms := [⟨["R"], ["R", "x"]⟩] }] = .error .panic ∧
    (validateOne Expected.C15.validate exDeep exDeep ⟨["R"], ["R", "x"]⟩).isSome = false ∧
    validateOne Expected.C15.validateIfaceLastLoose exDeep exDeep ⟨["R", "X"], ["R"]⟩ = some none ∧
    runNode Expected.C15.take Expected.C15.validateIfaceLastLoose false exDeep
      [{ pt := exDeep, v := exDeepV, ms := [⟨["R", "X"], ["R"]⟩] }] = .error .panic ∧
    runNode Expected.C15.take Expected.C15.validate false exDeep
      [{ pt := exDeep, v := exDeepV, ms := [⟨["R", "X"], ["R"]⟩] }] = .error .request ∧
    validateOne Expected.C15.validateIfaceLastLoose exDeep exDeep ⟨["R", "X"], ["S"]⟩ = none ∧
    validateOne Expected.C15.validate exDeep exDeep ⟨["R", "X"], ["S"]⟩ = some (some (.str, true)) := by
  decide

/-- The static check as found removed every pointer level in front of a struct: `S → PP.S`
    (target through `**Leaf`) is accepted and the assignment cannot succeed ("… it's a nested
    pointer", a panic out of Invoke and Stream); `PP.S → S` (source) is accepted and every run is an
    error although the value is there.  With one level followed both are rejected at compile time. -/
theorem nested_pointer_accepted_as_found :
    (validateOne Expected.C15.validateDerefsAll exDeep exDeep ⟨["S"], ["PP", "S"]⟩).isSome = true ∧
    assign exDeep (newInstance exDeep) ["PP", "S"] (some (.str, .str "a")) = none ∧
    runNode Expected.C15.take Expected.C15.validateDerefsAll false exDeep
      [{ pt := exDeep, v := exDeepV, ms := [⟨["S"], ["PP", "S"]⟩] }] = .error .panic ∧
    (validateOne Expected.C15.validateDerefsAll exDeep exDeep ⟨["PP", "S"], ["S"]⟩).isSome = true ∧
    take Expected.C15.take exDeep exDeepV ["PP", "S"] = .error .bad ∧
    (validateOne Expected.C15.validate exDeep exDeep ⟨["S"], ["PP", "S"]⟩).isSome = false ∧
    (validateOne Expected.C15.validate exDeep exDeep ⟨["PP", "S"], ["S"]⟩).isSome = false := by
  decide

end EinoV.C15
