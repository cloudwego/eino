/-
  C06 — Interrupt points are honoured and reported exactly.
  Property theorems.  Models: EinoV/Model/C05.lean (the run loop with interrupts, built on
  Engine.lean), EinoV/Model/C05Nested.lean (graphs as nodes, for "at every nesting level"),
  EinoV/Model/C06Fault.lean (a checkpoint store that can fail, imported through
  Proofs/C06Fault.lean).  Source facts: EinoV/Gen/FactsC06.lean (regenerated from /repo on every run).

  Quantification: every runner (any topology, either trigger mode, cycles), every node body /
  handler (arbitrary functions, including nested graphs and rerun requests), every interrupt-before /
  interrupt-after set, every input, every completion order, every number of resume calls.
-/
import EinoV.Model.C05
import EinoV.Model.GraphBuild
import EinoV.Proofs.C05
import EinoV.Proofs.C05Resume
import EinoV.Model.C05Nested
import EinoV.Proofs.C06Nested
import EinoV.Proofs.C06Fault
import EinoV.Proofs.C05NestedExamples
import EinoV.Gen.FactsC06
import EinoV.Expected.C06

namespace EinoV.C06
open EinoV.Engine EinoV.Interrupt EinoV.Gen

/-- Source fact tie: the facts extracted from compose/graph_run.go and compose/interrupt.go are the
    ones the model is instantiated with. -/
theorem facts_match :
    FactsC06.initialTasksChecked = Expected.C06.initialTasksChecked ∧
    FactsC06.loopTasksChecked = Expected.C06.loopTasksChecked ∧
    FactsC06.createTasksForwardsStaleCP = Expected.C06.createTasksForwardsStaleCP ∧
    FactsC06.storeOnlyTopLevelWithID = Expected.C06.storeOnlyTopLevelWithID ∧
    FactsC06.checkpointWriteErrorReturned = Expected.C06.checkpointWriteErrorReturned ∧
    FactsC06.extractUsesErrorsAs = true := by decide

/-- the run as the source has it: both parameters of the model are extracted facts -/
def srcCfg : Cfg :=
  { initialTasksChecked := FactsC06.initialTasksChecked, fwdStale := FactsC06.createTasksForwardsStaleCP }

theorem srcCfg_checked : srcCfg.initialTasksChecked = true := by
  show FactsC06.initialTasksChecked = true
  decide

theorem srcCfg_fresh : srcCfg.fwdStale = false := by
  show FactsC06.createTasksForwardsStaleCP = false
  decide

variable {V S X : Type}

/-- **before_honoured.** Over the whole history of a run driven with the same checkpoint id until it
    completes (any number of calls): in every call, a node configured as interrupt-before is submitted
    only in the very first superstep of a call that resumes from a checkpoint, and only if the
    interrupt returned by the previous call reported that node (in BeforeNodes, or — for a node that
    had already been released once — in RerunNodes / as an interrupted nested graph).  In particular
    the first call (fresh input) never starts such a node: this needs the START-successor case, i.e.
    the source fact `initialTasksChecked`.  (`HistOK` / `GoodCall` are defined in Proofs/C05.lean.) -/
theorem before_honoured (ops : ValOps V) (r : IRunner V S X) (sched : ISched V S X)
    (calls : Nat) (x : V) :
    HistOK r.intBefore none (resumeUntilDone ops srcCfg r sched calls x) := by
  apply resumeLoop_histOK ops srcCfg r sched srcCfg_checked
  intro cp h; cases h

/-- the same, unfolded for one call: which supersteps may contain an interrupt-before node -/
theorem before_honoured_call (ops : ValOps V) (r : IRunner V S X) (sched : ISched V S X) (isSub hasID : Bool) :
    -- a call on a fresh input submits no interrupt-before node at all
    (∀ x, StepsAvoid r.intBefore (topSteps (runI ops srcCfg r sched isSub hasID (.inl x)).evs)) ∧
    -- a resumed call submits them only in its first superstep, and only those its checkpoint restores
    (∀ cp, StepsAvoid r.intBefore (topSteps (runI ops srcCfg r sched isSub hasID (.inr cp)).evs).tail) ∧
    -- and what a checkpoint restores was reported by the interrupt that produced it
    (∀ inp cp info, (runI ops srcCfg r sched isSub hasID inp).res = .interrupted cp info →
        CPListed r.intBefore cp info) :=
  ⟨fun x => runI_fresh_avoid ops _ r sched isSub hasID srcCfg_checked x,
   fun cp => runI_later_steps_avoid ops _ r sched isSub hasID (.inr cp),
   fun inp cp info h => runI_intr_listed ops _ r sched isSub hasID inp cp info h⟩

/-- **before_honoured_nested.** The statement above is about one graph level and the history of
    calls made to it.  For a graph nested in a node, those calls are made by the parent's supersteps:
    the nested run is *resumed* (handed its checkpoint) only when the parent restores that node from
    its own checkpoint, i.e. in the first superstep of a resumed parent call; every later execution of
    the node in the same parent call, and every execution in a parent call on a fresh input, starts
    the nested graph from its input — so that the nested level's history is again of the shape
    `before_honoured` speaks about (fresh call, or resume of the immediately preceding interrupt).
    This is where the stale-checkpoint fact of C05 enters (`createTasksForwardsStaleCP = false`). -/
theorem before_honoured_nested (ops : ValOps V) (r : IRunner V S X) (sched : ISched V S X) (isSub hasID : Bool) :
    (∀ x, StepsFresh (topSteps (runI ops srcCfg r sched isSub hasID (.inl x)).evs)) ∧
    (∀ cp, StepsFresh (topSteps (runI ops srcCfg r sched isSub hasID (.inr cp)).evs).tail) :=
  runI_steps_fresh ops srcCfg r sched isSub hasID srcCfg_fresh

/-- **before_honoured_partial** (what holds whichever way the source treats the tasks computed from
    START — kept next to the full statement): in every call only the first superstep can contain an
    interrupt-before node.  Without `fixes/C06-initial-tasks.diff` (`initialTasksChecked = false`)
    this is all that holds: `before_ignored_for_start_successor` below is the negation witness for the
    first superstep.  With it the first superstep is covered by `before_honoured`. -/
theorem before_honoured_partial (ops : ValOps V) (cfg : Cfg) (r : IRunner V S X) (sched : ISched V S X)
    (isSub hasID : Bool) (inp : V ⊕ Checkpoint V S X) :
    StepsAvoid r.intBefore (topSteps (runI ops cfg r sched isSub hasID inp).evs).tail :=
  runI_later_steps_avoid ops cfg r sched isSub hasID inp

/-- **after_honoured.** In any call, once a node configured as interrupt-after has completed, the
    call submits no further superstep: it returns (with an interrupt, the final result, or an error).
    For every completion order that loses no task. -/
theorem after_honoured (ops : ValOps V) (cfg : Cfg) (r : IRunner V S X) (sched : ISched V S X) (isSub hasID : Bool)
    (hs : SchedKeeps sched) (inp : V ⊕ Checkpoint V S X)
    (l1 l2 : List (Ev V S X)) (k : Key)
    (hsplit : (runI ops cfg r sched isSub hasID inp).evs = l1 ++ Ev.finish k :: l2) (hk : k ∈ r.intAfter) :
    topSteps l2 = [] := by
  have := runI_noStepAfter ops cfg r sched isSub hasID hs inp
  rw [hsplit] at this
  exact noStepAfter_split _ l1 l2 k this hk

/-- … on the step level: the loop goes on to a next superstep only when no completed task is an
    interrupt-after node. -/
theorem after_stops_loop (ops : ValOps V) (r : IRunner V S X) (sched : ISched V S X) (hs : SchedKeeps sched)
    (ls ls' : LoopSt V S X) (h : (stepI ops r sched ls).2 = .next ls') :
    ∀ k, Ev.finish k ∈ (stepI ops r sched ls).1 → k ∉ r.intAfter :=
  stepI_next_no_after ops r sched hs ls ls' h

/-- … and when the superstep ends in an interrupt (of either kind), every interrupt-after node that
    completed in it is listed in the AfterNodes of that interrupt. -/
theorem after_reported (ops : ValOps V) (r : IRunner V S X) (sched : ISched V S X) (hs : SchedKeeps sched)
    (ls : LoopSt V S X) (cp : Checkpoint V S X) (info : Info S X) (h : (stepI ops r sched ls).2 = .intr cp info) :
    ∀ k, Ev.finish k ∈ (stepI ops r sched ls).1 → k ∈ r.intAfter → k ∈ info.after :=
  stepI_intr_after ops r sched hs ls cp info h

/-- **interrupt_reported.** A call returns "interrupted" exactly when its trace carries an interrupt
    event, and the info of that event is the info returned (before/after/rerun lists, nested infos,
    state) — the error from which `ExtractInterruptInfo` extracts it. -/
theorem interrupt_reported (ops : ValOps V) (cfg : Cfg) (r : IRunner V S X) (sched : ISched V S X) (isSub hasID : Bool)
    (inp : V ⊕ Checkpoint V S X) (info : Info S X) :
    Ev.interrupt info ∈ (runI ops cfg r sched isSub hasID inp).evs ↔
      ∃ cp, (runI ops cfg r sched isSub hasID inp).res = .interrupted cp info :=
  runI_interrupt_mem ops cfg r sched isSub hasID inp info

/-- **store_iff.** The checkpoint store is written under the caller's id exactly when the run is a
    top-level run, an id was given, and the call returns an interrupt. -/
theorem store_iff (ops : ValOps V) (cfg : Cfg) (r : IRunner V S X) (sched : ISched V S X) (isSub hasID : Bool)
    (inp : V ⊕ Checkpoint V S X) :
    Ev.storeSet ∈ (runI ops cfg r sched isSub hasID inp).evs ↔
      (isSub = false ∧ hasID = true ∧ ∃ cp info, (runI ops cfg r sched isSub hasID inp).res = .interrupted cp info) :=
  runI_store_mem ops cfg r sched isSub hasID inp

def natOps : ValOps Nat := { merge := fun l => some l.sum, zero := 0 }

/-- start → a → b → end, interrupt-before {a, b}, interrupt-after {a} -/
def lin : IRunner Nat Unit Unit :=
  { base := compile 10 { nodes := [("a", fun v => .ok v), ("b", fun v => .ok v)],
                         edges := [(START, "a"), ("a", "b"), ("b", END)], branches := [] },
    inodes := [{ key := "a", body := fun v s _ => { res := .done (v + 1) s } },
               { key := "b", body := fun v s _ => { res := .done (v * 2) s } }],
    intBefore := ["a", "b"], intAfter := ["a"], initState := () }

def fixedCfg : Cfg := { initialTasksChecked := true, fwdStale := false }
def unfixedCfg : Cfg := { initialTasksChecked := false, fwdStale := false }

def stepsOf (h : List (Out Nat Unit Unit)) : List (List (List (Key × Bool))) := h.map (fun o => topSteps o.evs)
def stored (h : List (Out Nat Unit Unit)) : List Bool :=
  h.map (fun o => o.evs.any (fun e => match e with | .storeSet => true | _ => false))
def finalVal (h : List (Out Nat Unit Unit)) : Option Nat :=
  match Out.finalOf h with | some (.done v) => some v | _ => none

-- `lin_resumed` is stated only so that the run is evaluated once: `decide` shares a closed sub-term inside one
-- declaration, not across declarations.  What is claimed are the examples below, which are its parts.
theorem lin_resumed :
    let h := resumeUntilDone natOps fixedCfg lin ISched.id 10 1
    stepsOf h = [[], [[("a", false)]], [[("b", false)]]] ∧ stored h = [true, true, false] ∧ finalVal h = some 4 := by decide

/-- with the START-successor case handled: three calls — interrupt before `a`; run `a`, interrupt
    (after `a`, before `b`); run `b` and finish.  The hypotheses of the theorems are satisfiable and
    the statements are not vacuous: interrupts do happen, the store is written, the run completes. -/
example : stepsOf (resumeUntilDone natOps fixedCfg lin ISched.id 10 1) = [[], [[("a", false)]], [[("b", false)]]] := lin_resumed.1
example : stored (resumeUntilDone natOps fixedCfg lin ISched.id 10 1) = [true, true, false] := lin_resumed.2.1
example : finalVal (resumeUntilDone natOps fixedCfg lin ISched.id 10 1) = some 4 := lin_resumed.2.2
example : SchedKeeps (ISched.id (V := Nat) (S := Unit) (X := Unit)) := fun _ _ h => h

/-- **Negation witness for the code before the repair** (`initialTasksChecked = false`): the very first
    call starts `a` although `a` is an interrupt-before node and nothing was reported or resumed. -/
theorem before_ignored_for_start_successor :
    ¬ HistOK lin.intBefore none (resumeUntilDone natOps unfixedCfg lin ISched.id 10 1) := by
  intro h
  have hfirst : topSteps (runI natOps unfixedCfg lin ISched.id false true (.inl 1)).evs = [[("a", false)]] := by decide
  rw [resumeUntilDone, resumeLoop_succ natOps unfixedCfg lin ISched.id 9, histFrom] at h
  have := h.1 0 [("a", false)] (by rw [hfirst]; rfl) ("a", false) (by simp) (by decide)
  obtain ⟨_, info, hinfo, _⟩ := this
  cases hinfo

/-! ## Reported exactly, at every nesting level

  Model of nesting: EinoV/Model/C05Nested.lean (`subBody`: the body of a node that is a compiled graph;
  `NR d`: graphs nested `d` deep; `NR.toI`: the compiled runner; a `SubCodec` packs the nested run's
  checkpoint and info into the payload the parent stores under `SubGraphs[key]`).  Lemmas:
  Proofs/C06Nested.lean. -/
section Nested
open EinoV.Interrupt

/-- **interrupt_info_sound** (one level, every runner, node body and handler).  Whatever interrupt a
    call returns, every name in its info is justified: BeforeNodes are interrupt-before nodes that are
    pending tasks of the returned checkpoint; AfterNodes are interrupt-after nodes; RerunNodes are
    nodes whose body asked for a rerun; every SubGraphs entry is a payload some execution of that
    node's body reported; the info is never empty; with a rerun / sub-graph interrupt BeforeNodes is
    empty; the checkpoint stores the same SubGraphs.  For every completion order that invents no task. -/
theorem interrupt_info_sound (ops : ValOps V) (cfg : Cfg) (r : IRunner V S X) (sched : ISched V S X) (hs : SchedSub sched)
    (isSub hasID : Bool) (inp : V ⊕ Checkpoint V S X) (cp : Checkpoint V S X) (info : Info S X)
    (h : (runI ops cfg r sched isSub hasID inp).res = .interrupted cp info) :
    (∀ k ∈ info.before, k ∈ r.intBefore ∧ k ∈ cp.inputs.map (·.1)) ∧
    (∀ k ∈ info.after, k ∈ r.intAfter) ∧
    (∀ k ∈ info.rerun, ∃ n v s x s', r.inode? k = some n ∧ (n.body v s x).res = .rerun s') ∧
    (∀ kp ∈ info.subs, ∃ n v s x s', r.inode? kp.1 = some n ∧ (n.body v s x).res = .subInt kp.2 s') ∧
    (info.before ≠ [] ∨ info.after ≠ [] ∨ info.rerun ≠ [] ∨ info.subs ≠ []) ∧
    ((info.subs ≠ [] ∨ info.rerun ≠ []) → info.before = []) ∧
    cp.subs = info.subs :=
  runI_info_sound ops cfg r sched hs isSub hasID inp cp info h

/-- **interrupt_info_complete** (the superstep that ends in the interrupt).  Every node whose body asked
    for a rerun in that superstep is in RerunNodes, every node whose body reported a nested interrupt
    is in SubGraphs with exactly that payload; and in that case the checkpoint restores exactly
    RerunNodes ∪ SubGraphs (zero inputs; SkipPreHandler exactly the SubGraphs keys): no node that
    completed in the superstep is started again by the resume.  (Interrupt-after nodes: `after_reported`.)
    For every completion order that loses no task. -/
theorem interrupt_info_complete (ops : ValOps V) (r : IRunner V S X) (sched : ISched V S X) (hk : SchedKeeps sched)
    (ls : LoopSt V S X) (cp : Checkpoint V S X) (info : Info S X) (h : (stepI ops r sched ls).2 = .intr cp info) :
    (∀ k s, (k, BodyRes.rerun s) ∈ (runBodies r (runPres r ls.tasks ls.st).1 (runPres r ls.tasks ls.st).2).1 →
      k ∈ info.rerun) ∧
    (∀ k p s, (k, BodyRes.subInt p s) ∈ (runBodies r (runPres r ls.tasks ls.st).1 (runPres r ls.tasks ls.st).2).1 →
      (k, p) ∈ info.subs) ∧
    ((info.subs ≠ [] ∨ info.rerun ≠ []) →
      (∀ k, k ∈ cp.inputs.map (·.1) ↔ (k ∈ info.rerun ∨ k ∈ info.subs.map (·.1))) ∧
      (∀ q ∈ cp.inputs, q.2 = ops.zero) ∧ cp.skipPre = info.subs.map (·.1)) :=
  stepI_sr_complete ops r sched hk ls cp info h

/-- **nested_interrupt_reported** (every nesting depth).  For a graph nested `d` deep, whatever interrupt
    a call returns is reported exactly at every level (`NR.Reported`): at each level BeforeNodes /
    AfterNodes are configured interrupt points of that level (BeforeNodes being pending tasks of that
    level's checkpoint), there are no RerunNodes, the info names something, the checkpoint's SubGraphs
    are the info's SubGraphs, and every SubGraphs entry sits under the key of a graph node of that
    level and is the (checkpoint, info) pair the nested run of that node returned — itself reported
    exactly, down to the level where the interrupt is a plain before/after interrupt. -/
theorem nested_interrupt_reported (ops : ValOps V) (cfg : Cfg) (cd : SubCodec V S X)
    (hcd : ∀ cp info, cd.cp (cd.pack cp info) = cp) (hci : ∀ cp info, cd.info (cd.pack cp info) = info)
    (d : Nat) (nr : NR V S X d) (sched : ISched V S X) (hs : SchedSub sched) (hss : NR.SubScheds d nr)
    (isSub hasID : Bool) (inp : V ⊕ Checkpoint V S X) (cp : Checkpoint V S X) (info : Info S X)
    (h : (runI ops cfg (NR.toI ops cfg cd d nr) sched isSub hasID inp).res = .interrupted cp info) :
    NR.Reported cd d nr cp info :=
  NR.reported ops cfg cd hcd hci d nr sched hs hss isSub hasID inp cp info h

/-- **nested_payload_is_child_result.**  In a compiled level, a nested interrupt is reported only by a
    graph node, and the payload stored under its key packs the checkpoint and info the nested run
    returned in that very execution (so `interrupt_reported` / `store_iff` apply to the nested run:
    it returned that info as its error, and — being a sub-graph — wrote no store). -/
theorem nested_payload_is_child_result {C : Type} (ops : ValOps V) (cfg : Cfg) (cd : SubCodec V S X)
    (toC : C → IRunner V S X) (l : NLevel V S X C) (k : Key) (n : INode V S X) (v : V) (s : S) (x : Option X)
    (p : X) (s' : S) (hn : (l.toIWith ops cfg cd toC).inode? k = some n) (hb : (n.body v s x).res = .subInt p s') :
    ∃ c sc, l.child? k = some c ∧ (∃ n', l.node? k = some n' ∧ n'.body = .graph c sc) ∧
      ∃ cpc infoc, (runI ops cfg (toC c) sc true false (subInp cd v x)).res = .interrupted cpc infoc ∧
        p = cd.pack cpc infoc :=
  NLevel.subInt_from_child ops cfg cd toC l k n v s x p s' hn hb

/- The runners are those of Proofs/C05NestedExamples.lean: `inner` = start → a → c → end with interrupt-after
   {a}, interrupt-before {c}; `outer` = start → g, start → p; g, p → j → end where `g` is the graph `inner`,
   interrupt-before {j}. -/
open EinoV.NestedEx (Pay payCodec inner outer outer_subScheds)

/-- per call that returns an interrupt: BeforeNodes, AfterNodes, the keys the checkpoint restores, the
    SubGraphs keys, and — concatenated over the SubGraphs entries — the nested BeforeNodes, AfterNodes and
    restored keys -/
def shape (o : Out Nat Nat Pay) : List (List Key) :=
  match o.res with
  | .interrupted cp info =>
    [info.before, info.after, cp.inputs.map (·.1), info.subs.map (·.1),
     info.subs.flatMap (fun kp => (Pay.info kp.2).before), info.subs.flatMap (fun kp => (Pay.info kp.2).after),
     info.subs.flatMap (fun kp => (Pay.cp kp.2).inputs.map (·.1))]
  | _ => []

/-- the first call interrupts inside `g` (after `a`, before `c`): reported under SubGraphs["g"], the
    parent restores exactly `g`; the second call interrupts before `j` at the outer level; the third
    completes (`decide +kernel`: the nested history is long for the elaborator's evaluation) -/
example : (resumeUntilDone natOps fixedCfg (NR.toI natOps fixedCfg payCodec 1 outer) ISched.id 10 1).map shape =
    [[[], [], ["g"], ["g"], ["c"], ["a"], ["c"]], [["j"], [], ["j"], [], [], [], []], []] := by decide +kernel
example : SchedSub (ISched.id (V := Nat) (S := Nat) (X := Pay)) := fun _ _ h => h
example : payCodec.cp (payCodec.pack cp info) = cp ∧ payCodec.info (payCodec.pack cp info) = info := ⟨rfl, rfl⟩

/-- all hypotheses of `nested_interrupt_reported` at once: whatever interrupt a call on `outer` returns is
    reported exactly at both levels -/
example (inp : Nat ⊕ Checkpoint Nat Nat Pay) (cp : Checkpoint Nat Nat Pay) (info : Info Nat Pay)
    (h : (runI natOps fixedCfg (NR.toI natOps fixedCfg payCodec 1 outer) ISched.id false true inp).res = .interrupted cp info) :
    NR.Reported payCodec 1 outer cp info :=
  nested_interrupt_reported natOps fixedCfg payCodec (fun _ _ => rfl) (fun _ _ => rfl) 1 outer ISched.id
    (fun _ _ h => h) outer_subScheds false true inp cp info h

end Nested

/-! ## A checkpoint store that fails (family `fault`)

  Model: EinoV/Model/C06Fault.lean (`Plan`: which `Get` / `Set` calls of the caller's store fail;
  `callF`: one call with the id on a store state; `histF`: the caller repeats the call — resume after
  an interrupt, retry after an error of the store).  Whether the error of `r.checkPointer.set`
  reaches the handler's return is the source fact `checkpointWriteErrorReturned`. -/
section Fault
open EinoV.Interrupt.Fault

theorem runI_runOK (ops : ValOps V) (cfg : Cfg) (r : IRunner V S X) (sched : ISched V S X) :
    RunOK (runI ops cfg r sched false true) :=
  { intr := fun inp info => runI_interrupt_mem ops cfg r sched false true inp info,
    store := fun inp => by
      rw [runI_store_mem ops cfg r sched false true inp]
      exact ⟨fun h => h.2.2, fun h => ⟨rfl, rfl, h⟩⟩ }

/-- **store_iff_under_faults** (clause 4 for every behaviour of the store).  One call with a checkpoint
    id, on any store state, for every fault plan (any `Get` / `Set` call may fail), every runner, input,
    completion order: the interrupt is returned (the error carries the info / the result is
    `interrupted`) exactly when the checkpoint was written, and then the store holds under the id
    exactly the checkpoint of that interrupt; every other outcome — result, error of the run, failed
    read, failed write — leaves what was stored untouched; and the call fails with the write error
    exactly when the run reached an interrupt and that `Set` failed.  Needs the source fact. -/
theorem store_iff_under_faults (ops : ValOps V) (r : IRunner V S X) (sched : ISched V S X) (plan : Plan) (x : V)
    (st : Store V S X) :
    let p := callF FactsC06.checkpointWriteErrorReturned plan (runI ops srcCfg r sched false true) x st
    ((∃ info, Ev.interrupt info ∈ p.1.evs) ↔ p.1.interrupted) ∧
    (Ev.storeSet ∈ p.1.evs ↔ p.1.interrupted) ∧
    (p.1.interrupted ↔ ∃ cp info, p.1.res = .ran (.interrupted cp info) ∧ p.2.content = some cp) ∧
    (¬ p.1.interrupted → p.2.content = st.content) ∧
    (p.1.res = .writeFailed ↔
      (plan.getFails st.gets = false ∧ plan.setFails st.sets = true ∧
        ∃ cp info, (runI ops srcCfg r sched false true (inpOf x st)).res = .interrupted cp info)) := by
  have hf : FactsC06.checkpointWriteErrorReturned = true := by decide
  rw [hf]
  exact callF_exact plan _ (runI_runOK ops srcCfg r sched) x st

/-- **store_tracks_returned_interrupts** (the same over a whole history, all fault positions).  The
    caller repeats the call with the same id (resume after an interrupt, retry after an error of the
    store), any number of calls, any fault plan: every call of the history satisfies
    `store_iff_under_faults` on the store the previous calls left, and what is stored under the id
    after each call is a function of the results the caller saw — the checkpoint of the latest
    interrupt that was returned (nothing before the first): an interrupt is never reported without its
    checkpoint, a checkpoint never replaced without the interrupt being reported. -/
theorem store_tracks_returned_interrupts (ops : ValOps V) (r : IRunner V S X) (sched : ISched V S X) (plan : Plan)
    (x : V) (n : Nat) (st : Store V S X) :
    let h := histF FactsC06.checkpointWriteErrorReturned plan (runI ops srcCfg r sched false true) x n st
    (∀ p ∈ h, ∃ st0, p = callF true plan (runI ops srcCfg r sched false true) x st0 ∧
      (p.1.interrupted ↔ Ev.storeSet ∈ p.1.evs) ∧
      (p.1.interrupted ↔ ∃ cp info, p.1.res = .ran (.interrupted cp info) ∧ p.2.content = some cp)) ∧
    h.map (fun p => p.2.content) = scanCP st.content (h.map (fun p => p.1)) := by
  have hf : FactsC06.checkpointWriteErrorReturned = true := by decide
  rw [hf]
  refine ⟨fun p hp => ?_, histF_content plan _ x n st⟩
  obtain ⟨st0, rfl⟩ := histF_mem true plan _ x n st p hp
  have := callF_exact plan _ (runI_runOK ops srcCfg r sched) x st0
  exact ⟨st0, rfl, this.2.1.symm, this.2.2.1⟩

/-- the `Set` of the first interrupt fails, every other call of the store succeeds -/
def firstSetFails : Plan := { getFails := fun _ => false, setFails := fun k => k == 0 }

def fresShape : FRes Nat Unit Unit → String
  | .ran (.done _) => "done" | .ran (.interrupted ..) => "interrupted" | .ran (.failed _) => "failed"
  | .readFailed => "readFailed" | .writeFailed => "writeFailed"

/-- non-vacuity on `lin` (start → a → b → end, interrupt-before {a, b}, interrupt-after {a}): the first
    call reaches the interrupt before `a`, the write fails: a plain error, nothing stored; the retry
    starts from START again, interrupts and is stored; then the history goes on as without faults -/
example : (histF true firstSetFails (runI natOps fixedCfg lin ISched.id false true) 1 10 {}).map
      (fun p => (fresShape p.1.res, p.2.content.isSome, topSteps p.1.evs)) =
    [("writeFailed", false, []), ("interrupted", true, []), ("interrupted", true, [[("a", false)]]),
     ("done", true, [[("b", false)]])] := by decide

/-- **write_error_dropped_reports_unsaved_interrupt** (negation witness for the fact): were the error
    of `checkPointer.set` not returned, the same call would report an interrupt (extractable info)
    while nothing is stored under the id — and the "resume" would be a fresh run from START. -/
theorem write_error_dropped_reports_unsaved_interrupt :
    let p := callF false firstSetFails (runI natOps fixedCfg lin ISched.id false true) 1 {}
    fresShape p.1.res = "interrupted" ∧ p.2.content.isSome = false ∧ p.1.evs.any Ev.isStoreSet = false ∧
    ((histF false firstSetFails (runI natOps fixedCfg lin ISched.id false true) 1 10 {}).map
      (fun p => (fresShape p.1.res, p.2.content.isSome, topSteps p.1.evs))).take 2 =
    [("interrupted", false, []), ("interrupted", true, [])] := by decide

end Fault

end EinoV.C06
