/-
  C02 — All-predecessor (DAG/Workflow) nodes run at most once, exactly when triggered.
  Property theorems: channel level (firing condition, input, reset, skip); run level, batch and eager
  loop (at most once, justified starts, enabled nodes start, exact inputs, compiled definitions are
  well-formed, END); workflow lowering; repeated calls of one runner; the translated source.
-/
import EinoV.Model.Engine
import EinoV.Proofs.C02Run
import EinoV.Proofs.C02Compile
import EinoV.Proofs.C02CompileWF
import EinoV.Proofs.C02CompileWWF
import EinoV.Proofs.C02Settled
import EinoV.Proofs.C02EndWaits
import EinoV.Proofs.C02Eager
import EinoV.Proofs.C02Just
import EinoV.Proofs.C02Complete
import EinoV.Proofs.C02Exact
import EinoV.Proofs.C02EagerComplete
import EinoV.Proofs.C02EagerExact
import EinoV.Gen.FactsC02
import EinoV.Expected.C02
import EinoV.Proofs.C02Workflow
import EinoV.Proofs.C02Rerun
import EinoV.Expected.C02Workflow
import EinoV.Proofs.TransDag
import EinoV.Proofs.TransMgrInit
import EinoV.Proofs.TransStep
import EinoV.Proofs.TransTab

namespace EinoV.C02
open EinoV.Engine EinoV.Gen

theorem facts_match :
    FactsC02.reportSkipMarksData = Expected.C02.reportSkipMarksData ∧
    FactsC02.skippedIffAllSkipped = Expected.C02.skippedIffAllSkipped ∧
    FactsC02.getResetsAll = Expected.C02.getResetsAll ∧
    FactsC02.workflowIsEagerDag = Expected.C02.workflowIsEagerDag := by decide

/-- the readiness predicate of the property -/
def Triggered {V} (c : Chan V) : Prop :=
  c.skipped = false ∧ ¬ (c.ctrl = [] ∧ c.data = []) ∧
  (∀ p ∈ c.ctrl, p.2 ≠ Dep.waiting) ∧ (∀ p ∈ c.data, p.2 = true)

theorem triggered_iff {V} (c : Chan V) : c.triggered = true ↔ Triggered c :=
  triggered_eq_true_iff c

/-- **dag_fires_iff_triggered.** A DAG channel hands out an input (or fails to merge one)
    exactly when it is triggered: not skipped, it has predecessors at all, all control
    predecessors finished or skipped, all data predecessors reported. Otherwise it is left
    untouched. -/
theorem dag_fires_iff_triggered {V} (ops : ValOps V) (c : Chan V) :
    ((c.get ops true).2 ≠ .notReady ↔ Triggered c) ∧
    (¬ Triggered c → (c.get ops true).1 = c) := by
  rw [← triggered_iff]
  cases h : c.triggered with
  | false => simp [get_not_triggered ops c h]
  | true => exact ⟨iff_of_true (get_ne_notReady ops c h) rfl, fun hn => absurd rfl hn⟩

/-- **dag_input_is_merge.** When it fires, the input is the zero value if no data arrived,
    the single value if one arrived, and the merge of exactly the reported values otherwise. -/
theorem dag_input_is_merge {V} (ops : ValOps V) (c : Chan V) (v : V)
    (h : (c.get ops true).2 = .ready v) :
    (c.values = [] ∧ v = ops.zero) ∨ (c.values.map (·.2) = [v]) ∨
    (2 ≤ c.values.length ∧ ops.merge (c.values.map (·.2)) = some v) := by
  cases ht : c.triggered with
  | false => rw [get_not_triggered ops c ht] at h; cases h
  | true =>
    exact (get_ready ops c ht h).imp_right fun h =>
      (collect_ready ops _ v h).imp_right fun ⟨h2, h3⟩ => ⟨by simpa using h2, h3⟩

/-- **dag_fire_resets.** Firing resets the channel completely (values cleared, every
    control predecessor waiting again, every data predecessor unreported): together with
    acyclicity this is what makes a node run at most once. -/
theorem dag_fire_resets {V} (ops : ValOps V) (c : Chan V)
    (h : (c.get ops true).2 ≠ .notReady) :
    (c.get ops true).1.values = [] ∧
    (∀ p ∈ (c.get ops true).1.ctrl, p.2 = Dep.waiting) ∧
    (∀ p ∈ (c.get ops true).1.data, p.2 = false) := by
  cases ht : c.triggered with
  | false => exact absurd (by rw [get_not_triggered ops c ht]) h
  | true =>
    rw [get_of_triggered ops c ht]
    simp only [Chan.reset, List.mem_map]
    exact ⟨trivial, by rintro p ⟨q, _, rfl⟩; rfl, by rintro p ⟨q, _, rfl⟩; rfl⟩

/-- **skipped_iff_all_skipped.** After a skip report the channel is skipped exactly when
    every one of its control predecessors is skipped. -/
theorem skipped_iff_all_skipped {V} (c : Chan V) (keys : List Key) :
    (c.reportSkip true keys).1.skipped = (c.reportSkip true keys).1.ctrl.all (fun p => p.2 == Dep.skipped) := by
  simp [Chan.reportSkip]

theorem skipped_never_fires {V} (ops : ValOps V) (c : Chan V) (h : c.skipped = true) :
    (c.get ops true).2 = .notReady := by
  simp [Chan.get, Chan.triggered, h]

example : Triggered ({ ctrl := [("p", Dep.ready), ("q", Dep.skipped)], data := [("p", true)], values := [("p", 3)] } : Chan Nat) := by
  simp [Triggered]


open EinoV.Engine.DagRun in
/-- **dag_at_most_once.** In all-predecessor mode every node of a well-formed acyclic runner
    (`DagWF`: distinct keys, START is no node, every node is a declared predecessor of its
    successors, the predecessor relation is acyclic — what `compile` / `validateDAG` guarantee) is
    started at most once per run: for every wiring (control-only, data-only and combined
    dependencies, any number of single and multi-way branches, branches converging on one node,
    nested skips), all node functions and branch outcomes, every input and every fair completion
    schedule.  No bound on the size of the graph. -/
theorem dag_at_most_once {V} (ops : ValOps V) (r : Runner V) (wf : DagWF r) (sched : Sched V)
    (hf : sched.Fair) (x : V) (k : Key) :
    ((runS ops r sched x).trace.flatten.map (·.1)).count k ≤ 1 :=
  run_at_most_once ops r wf sched hf x k

open EinoV.Engine.DagRun in
/-- **dag_fuel_never_binds.** The model's loop bound for all-predecessor runs (`nodes + 2`
    rounds; the Go loop has none) is never what ends a run: with any larger bound the run is the
    same.  (Every round starts a node, and no node starts twice.) -/
theorem dag_fuel_never_binds {V} (ops : ValOps V) (r : Runner V) (wf : DagWF r) (sched : Sched V)
    (hf : sched.Fair) (x : V) (cm : Chans V) (ts : List (Key × V))
    (hc : calcNext ops r (initChans r) [(START, x)] = .ok (cm, .tasks ts)) (extra : Nat) :
    loop ops r sched (r.fuel + extra) cm ts [] = loop ops r sched r.fuel cm ts [] :=
  run_fuel_enough ops r wf sched hf x cm ts hc extra

open EinoV.Engine.DagRun in
/-- **dag_wf_check_sound.** The executable well-formedness check the oracle evaluates on every
    generated all-predecessor case implies the hypothesis of the run-level theorems. -/
theorem dag_wf_check_sound {V} (r : Runner V) (h : dagWFb r = true) : DagWF r := dagWFb_sound r h

open EinoV.Engine.DagRun in
/-- **compiled_graph_declares_predecessors.** Whatever `AddEdge` / `AddBranch` recorded, the
    compiled runner lists every node as a control or data predecessor of each of its successors
    (clause `succ` of `DagWF`, here for every graph definition). -/
theorem compiled_graph_declares_predecessors {V} (slack : Nat) (g : GraphDef V) (hd : g.dag = true) :
    SuccOK (compile slack g) := compile_succOK slack g hd

/-! non-vacuity: a diamond with a three-way branch and a converging node satisfies `DagWF`.
  (The longer engine runs of this file are closed `Decidable` instances evaluated by the kernel
  alone, `decide +kernel`: the elaborator's own evaluation of the same instance is several times
  slower and would only repeat it.) -/
def gDiamond : GraphDef Nat :=
  { dag := true, nodes := [("a", fun v => .ok (v + 1)), ("b", fun v => .ok (v * 2)), ("c", fun v => .ok v), ("d", fun v => .ok v)],
    edges := [(START, "a"), ("b", "d"), ("c", "d"), ("d", END)],
    branches := [("a", { ends := ["b", "c", "d"], cond := fun v => .ok (if v % 2 == 0 then ["b"] else ["c", "d"]) })] }

example : EinoV.Engine.DagRun.dagWFb (compile 0 gDiamond) = true := by decide

open EinoV.Engine.DagRun in
/-- **dag_starts_are_justified.** In a run of a well-formed acyclic all-predecessor runner, under
    any fair completion schedule, *every task of every step is justified by the completions of
    the older steps* (`Spec/DagStatus.lean`, `Justified`): each control predecessor has completed
    and routed to the node (control edge or selecting branch), or is skipped (recursively: all
    its control predecessors skipped or deselecting), or completed and deselected it; at least
    one actually routed; and the input is the zero value / the single value / the merge of
    values that data predecessors which completed and routed to it produced.  The trace is read
    newest step first; `histOf r x older` are START's completion and the outputs of the older
    steps. -/
theorem dag_starts_are_justified {V} (ops : ValOps V) (r : Runner V) (wf : DagWF r) (sched : Sched V)
    (hf : sched.Fair) (x : V) : JustTr ops r x (runS ops r sched x).trace.reverse :=
  (run_justified ops r wf sched hf x).1

open EinoV.Engine.DagRun in
/-- **dag_result_is_end_input.** A returned value is the justified input of END: assembled from
    the outputs of exactly data predecessors of END that completed and routed to it, with every
    control predecessor of END completed-and-routed, skipped or deselecting. -/
theorem dag_result_is_end_input {V} (ops : ValOps V) (r : Runner V) (wf : DagWF r) (sched : Sched V)
    (hf : sched.Fair) (x v : V) (h : (runS ops r sched x).result = .ok v) :
    Justified ops r (histOf r x (runS ops r sched x).trace.reverse) END v :=
  (run_justified ops r wf sched hf x).2 v h

open EinoV.Engine.DagRun in
/-- **dag_enabled_nodes_start** (the converse of `dag_starts_are_justified`).  In a run of a
    well-formed acyclic all-predecessor runner (`DagWF`, and `DagWF2`: every declared predecessor
    lists the node among its control / data successors, every key with control predecessors is a
    node), under any fair completion schedule: at every step, every node that is *enabled* by
    the completions of the older steps — it has control predecessors, each of them completed or
    is skipped, at least one completed and routed to it, every data predecessor completed or is
    skipped (`Spec/DagStatus.lean`, `Enabled`) — is among the tasks started by then.  Together
    with at-most-once and justification: a node with control predecessors executes exactly once,
    exactly when it is enabled, as long as the run goes on.  (Nodes with data predecessors only
    are outside `Enabled`; the eager loop is not covered by this theorem.) -/
theorem dag_enabled_nodes_start {V} (ops : ValOps V) (r : Runner V) (wf : DagWF r) (wf2 : DagWF2 r)
    (sched : Sched V) (hf : sched.Fair) (x : V) : CompTr r x (runS ops r sched x).trace.reverse :=
  run_complete ops r wf wf2 sched hf x

open EinoV.Engine.DagRun in
/-- **dag_input_is_exact.** In a run of a well-formed acyclic all-predecessor runner (`DagWF`,
    `DagWF2`) under any fair completion schedule, the input of every task of every step is the
    zero value, the single value, or the merge of the outputs of *exactly* those data
    predecessors that completed in older steps and routed to it (`ExactIn`: the list of merged
    values is, as a set, `{(p, w) | p completed with output w and routed w to the node as data}`). -/
theorem dag_input_is_exact {V} (ops : ValOps V) (r : Runner V) (wf : DagWF r) (wf2 : DagWF2 r)
    (sched : Sched V) (hf : sched.Fair) (x : V) : ExactTr ops r x (runS ops r sched x).trace.reverse :=
  run_exact ops r wf wf2 sched hf x

open EinoV.Engine.DagRun in
/-- **dag_wf2_check_sound.** The second executable check the oracle evaluates on every generated
    all-predecessor case implies `DagWF2`. -/
theorem dag_wf2_check_sound {V} (r : Runner V) (h : dagWF2b r = true) : DagWF2 r := dagWF2b_sound r h

example : EinoV.Engine.DagRun.dagWF2b (compile 0 gDiamond) = true := by decide

/-! the justification predicate discriminates: on the diamond, with `a`'s output 3 (odd: the
    branch selects `c` and `d`), starting the deselected `b` is NOT justified -/
def sumOps : ValOps Nat := { merge := fun l => some (l.foldl (· + ·) 0), zero := 0 }
def rDiamond : Runner Nat := compile 0 gDiamond

open EinoV.Engine.DagRun in
example : ¬ Justified sumOps rDiamond [(START, 2), ("a", 3)] "b" 3 := by
  intro h
  obtain ⟨_, h2, _⟩ := h
  have : lookupList "b" rDiamond.ctrlPreds ≠ [] := by decide
  obtain ⟨p, hp, o, ho, nd, hc, hr⟩ := h2 this
  have hp' : p = "a" := by
    have : lookupList "b" rDiamond.ctrlPreds = ["a"] := by decide
    rw [this] at hp; simpa using hp
  subst hp'
  simp only [List.mem_cons, Prod.mk.injEq, List.mem_nil_iff, or_false] at ho
  rcases ho with ⟨h1, _⟩ | ⟨_, rfl⟩
  · exact absurd h1 (by decide)
  · have e : rDiamond.call? "a" = rDiamond.nodes[0]? := by rfl
    rw [e] at hc
    have e2 : rDiamond.nodes[0]? = some (rDiamond.nodes[0]'(by decide)) := by simp
    rw [e2] at hc
    cases hc
    rcases hr with h | ⟨sel, hs, hb⟩
    · exact absurd h (by decide)
    · have e3 : selectOf (rDiamond.nodes[0]'(by decide)) 3 = .ok ["c", "d"] := by rfl
      rw [e3] at hs
      cases hs
      exact absurd hb (by decide)

/-- and the run on that input starts `a`, then `c` (and returns through `d`), never `b` -/
example : ((run sumOps rDiamond 2).trace.map (·.map (·.1))) = [["a"], ["c"], ["d"]] := by decide +kernel

/-! Workflows (Model/C02Workflow.lean): `compileW` lowers a `WorkflowDef` to a runner; the eager
  loop `runEager` is built from the engine's own `calcNext`. -/

theorem workflow_facts_match :
    FactsC02.wfAddInputEdge = Expected.C02Workflow.wfAddInputEdge ∧
    FactsC02.wfAddDependencyEdge = Expected.C02Workflow.wfAddDependencyEdge ∧
    FactsC02.wfNoDirectEdge = Expected.C02Workflow.wfNoDirectEdge ∧
    FactsC02.wfOptionsSelectBranches = Expected.C02Workflow.wfOptionsSelectBranches ∧
    FactsC02.wfBranchSkipsData = Expected.C02Workflow.wfBranchSkipsData ∧
    FactsC02.edgeFlagsGuardAppends = Expected.C02Workflow.edgeFlagsGuardAppends ∧
    FactsC02.skipDataSetsNoDataFlow = Expected.C02Workflow.skipDataSetsNoDataFlow ∧
    FactsC02.eagerWaitsForOne = Expected.C02Workflow.eagerWaitsForOne := by decide

/-- the three ways of declaring a dependency are the flag pairs `workflow.go` passes to
    `addEdgeWithMappings` (regenerated from the source on every run) -/
theorem workflow_dependency_kinds (f t : Key) :
    WDep.input f t = WDep.ofFlags f t FactsC02.wfAddInputEdge ∧
    WDep.dependency f t = WDep.ofFlags f t FactsC02.wfAddDependencyEdge ∧
    WDep.noDirect f t = WDep.ofFlags f t FactsC02.wfNoDirectEdge := ⟨rfl, rfl, rfl⟩

/-- **workflow_lowering.** `compileW` (= `Workflow.compile` → `graph.compile`) yields an
    all-predecessor, eager runner whose predecessor tables and edge lists are exactly the
    declared ones; a branch makes control predecessors only (every branch is `noDataFlow`). -/
theorem workflow_lowering {V} (ops : ValOps V) (w : WorkflowDef V) :
    ((compileW ops w).dag = FactsC02.workflowIsEagerDag ∧ (compileW ops w).eager = FactsC02.workflowIsEagerDag) ∧
    (∀ t x, x ∈ lookupList t (compileW ops w).ctrlPreds ↔
      (∃ d ∈ w.deps, d.control = true ∧ d.to = t ∧ d.from_ = x) ∨ (∃ b ∈ w.branches, b.1 = x ∧ t ∈ b.2.ends)) ∧
    (∀ t x, x ∈ lookupList t (compileW ops w).dataPreds ↔ ∃ d ∈ w.deps, d.data = true ∧ d.to = t ∧ d.from_ = x) ∧
    (∀ n, (n ∈ (compileW ops w).nodes ∨ n = (compileW ops w).start) →
      (∀ t, t ∈ n.writeTo ↔ ∃ d ∈ w.deps, d.data = true ∧ d.from_ = n.key ∧ d.to = t) ∧
      (∀ t, t ∈ n.controls ↔ ∃ d ∈ w.deps, d.control = true ∧ d.from_ = n.key ∧ d.to = t) ∧
      (∀ b ∈ n.branches, b.noData = FactsC02.wfBranchSkipsData) ∧
      n.branches.map (·.ends) = (w.branches.filter (·.1 == n.key)).map (·.2.ends)) := by
  refine ⟨⟨rfl, rfl⟩, compileW_ctrlPreds ops w, compileW_dataPreds ops w, ?_⟩
  intro n hn
  obtain ⟨h1, h2, h3, h4⟩ := compileW_node ops w n hn
  exact ⟨fun t => by rw [h1]; exact mem_dataOut w n.key t, fun t => by rw [h2]; exact mem_ctrlOut w n.key t, h3, h4⟩

/-- **workflow_lowering_kinds.** Per declaration: `AddInput` = control + data predecessor,
    `AddDependency` = control only, `WithNoDirectDependency` = data only, a branch = control
    only — and a pair (f, t) with no data (control) declaration is no data (control) predecessor. -/
theorem workflow_lowering_kinds {V} (ops : ValOps V) (w : WorkflowDef V) (f t : Key) :
    (WDep.input f t ∈ w.deps → f ∈ lookupList t (compileW ops w).ctrlPreds ∧ f ∈ lookupList t (compileW ops w).dataPreds) ∧
    (WDep.dependency f t ∈ w.deps → f ∈ lookupList t (compileW ops w).ctrlPreds) ∧
    (WDep.noDirect f t ∈ w.deps → f ∈ lookupList t (compileW ops w).dataPreds) ∧
    (∀ b, (f, b) ∈ w.branches → t ∈ b.ends → f ∈ lookupList t (compileW ops w).ctrlPreds) ∧
    ((∀ d ∈ w.deps, d.from_ = f → d.to = t → d.data = false) → f ∉ lookupList t (compileW ops w).dataPreds) ∧
    ((∀ d ∈ w.deps, d.from_ = f → d.to = t → d.control = false) → (∀ b ∈ w.branches, b.1 = f → t ∉ b.2.ends) →
      f ∉ lookupList t (compileW ops w).ctrlPreds) := by
  refine ⟨?_, ?_, ?_, ?_, ?_, ?_⟩
  · intro h
    exact ⟨(compileW_ctrlPreds ops w t f).mpr (Or.inl ⟨_, h, rfl, rfl, rfl⟩),
           (compileW_dataPreds ops w t f).mpr ⟨_, h, rfl, rfl, rfl⟩⟩
  · intro h; exact (compileW_ctrlPreds ops w t f).mpr (Or.inl ⟨_, h, rfl, rfl, rfl⟩)
  · intro h; exact (compileW_dataPreds ops w t f).mpr ⟨_, h, rfl, rfl, rfl⟩
  · intro b hb ht; exact (compileW_ctrlPreds ops w t f).mpr (Or.inr ⟨_, hb, rfl, ht⟩)
  · intro h hm
    obtain ⟨d, hd, h1, h2, h3⟩ := (compileW_dataPreds ops w t f).mp hm
    rw [h d hd h3 h2] at h1; cases h1
  · intro h hb hm
    rcases (compileW_ctrlPreds ops w t f).mp hm with ⟨d, hd, h1, h2, h3⟩ | ⟨b, hbm, h1, h2⟩
    · rw [h d hd h3 h2] at h1; cases h1
    · exact hb b hbm h1 h2

/-- `calculateNextTasks` is `calcCore` (resolve, update, hand out) followed by the END check -/
theorem calcNext_is_core_then_classify {V} (ops : ValOps V) (r : Runner V) (cm : Chans V) (done : List (Done V)) :
    calcNext ops r cm done = (calcCore ops r cm done).bind classify := calcNext_eq_core ops r cm done

/-- **eager_batch_agree_partial** (one step of "the eager run executes what the batch run
    executes"). In an all-predecessor runner let `a`, `b` be completed tasks of different nodes
    whose completions report no skip (no branch, or every branch end selected), `b` still
    pending. Taking `a` alone (resolve, hand out the ready inputs — the eager loop), then `b`,
    reaches exactly the channels that the batch `[a, b]` reaches (`waitAll`), hands out the
    same (node, input) pairs as a multiset, and sees a merge failure iff the batch does.
    Partial: completions that report skips are not covered (see `EagerConfluenceGoal`). -/
theorem eager_batch_agree_partial {V} (ops : ValOps V) (r : Runner V) (hdag : r.dag = true) (cm : Chans V)
    (na nb : Node V) (a b : Done V) (selA selB : List Key)
    (ha : SkipFree r na a selA) (hb : SkipFree r nb b selB) (hne : a.1 ≠ b.1)
    (hpend : Pending r nb selB b cm) (hpred : AllHavePreds cm) :
    ∃ cmA rdA badA cmAB rdB badB rdAB,
      calcCore ops r cm [a] = .ok (cmA, rdA, badA) ∧
      calcCore ops r cmA [b] = .ok (cmAB, rdB, badB) ∧
      calcCore ops r cm [a, b] = .ok (cmAB, rdAB, badA || badB) ∧
      rdAB.Perm (rdA ++ rdB) :=
  calcCore_seq_eq_batch ops r hdag cm na nb a b selA selB ha hb hne hpend hpred

/-- **eager_completion_order_partial** (the diamond: one step of "for every completion
    schedule …"). Same setting, both tasks pending, `mergeValues` insensitive to the order of
    its arguments. If taking `a` then `b`, one completion at a time, neither returns a result
    nor fails (they do not race for END), then taking `b` then `a` does not either, submits
    the same tasks (same nodes, same inputs, as a multiset) and reaches the same channels up
    to the order in which values were reported; and the batch `[a, b]` does the same. -/
theorem eager_completion_order_partial {V} (ops : ValOps V) (hm : MergePerm ops) (r : Runner V)
    (hdag : r.dag = true) (cm : Chans V) (na nb : Node V) (a b : Done V) (selA selB : List Key)
    (ha : SkipFree r na a selA) (hb : SkipFree r nb b selB) (hne : a.1 ≠ b.1)
    (hpa : Pending r na selA a cm) (hpb : Pending r nb selB b cm) (hpred : AllHavePreds cm)
    (cmA cmAB : Chans V) (tsA tsB : List (Key × V))
    (h1 : calcNext ops r cm [a] = .ok (cmA, .tasks tsA))
    (h2 : calcNext ops r cmA [b] = .ok (cmAB, .tasks tsB)) :
    (∃ ts, calcNext ops r cm [a, b] = .ok (cmAB, .tasks ts) ∧ ts.Perm (tsA ++ tsB)) ∧
    (∃ cmB cmBA tsB' tsA',
      calcNext ops r cm [b] = .ok (cmB, .tasks tsB') ∧ calcNext ops r cmB [a] = .ok (cmBA, .tasks tsA') ∧
      ChansEquiv cmAB cmBA ∧ (tsA ++ tsB).Perm (tsB' ++ tsA')) :=
  calcNext_diamond ops hm r hdag cm na nb a b selA selB ha hb hne hpa hpb hpred cmA cmAB tsA tsB h1 h2

/-- the same at the level of channels / ready inputs / merge failures, END or not -/
theorem eager_completion_order_core_partial {V} (ops : ValOps V) (hm : MergePerm ops) (r : Runner V)
    (hdag : r.dag = true) (cm : Chans V) (na nb : Node V) (a b : Done V) (selA selB : List Key)
    (ha : SkipFree r na a selA) (hb : SkipFree r nb b selB) (hne : a.1 ≠ b.1)
    (hpa : Pending r na selA a cm) (hpb : Pending r nb selB b cm) (hpred : AllHavePreds cm) :
    ∃ cmA rdA badA cmAB rdB badB cmB rdB' badB' cmBA rdA' badA',
      calcCore ops r cm [a] = .ok (cmA, rdA, badA) ∧ calcCore ops r cmA [b] = .ok (cmAB, rdB, badB) ∧
      calcCore ops r cm [b] = .ok (cmB, rdB', badB') ∧ calcCore ops r cmB [a] = .ok (cmBA, rdA', badA') ∧
      ChansEquiv cmAB cmBA ∧ (rdA ++ rdB).Perm (rdB' ++ rdA') ∧ (badA || badB) = (badB' || badA') :=
  calcCore_diamond ops hm r hdag cm na nb a b selA selB ha hb hne hpa hpb hpred

open EinoV.Engine.DagRun in
/-- **workflow_at_most_once.** Under the eager run loop of Workflows — one completion at a time,
    chosen by an arbitrary completion schedule `pick` — no node of a well-formed acyclic runner
    is submitted twice: every wiring (control-only `AddDependency`, data-only
    `WithNoDirectDependency`, `AddInput`, branches, static values), every node function and
    branch outcome, every input, every completion order. -/
theorem workflow_at_most_once {V} (ops : ValOps V) (r : Runner V) (wf : DagWF r) (pick : Pick V) (x : V) (k : Key) :
    ((runEager ops r pick x).submitted.map (·.1)).count k ≤ 1 :=
  runEager_at_most_once ops r wf pick x k

open EinoV.Engine.DagRun in
/-- **workflow_starts_are_justified.** The same for the eager loop of Workflows, whatever the
    completion order: every submitted batch is justified by the outputs of tasks submitted in
    earlier batches (a superset of the completions that had happened), and the result is END's
    justified input. -/
theorem workflow_starts_are_justified {V} (ops : ValOps V) (r : Runner V) (wf : DagWF r) (pick : Pick V) (x : V) :
    JustTr ops r x (runEager ops r pick x).batches.reverse ∧
    (∀ v, (runEager ops r pick x).result = .ok v →
      Justified ops r (histOf r x (runEager ops r pick x).batches.reverse) END v) :=
  runEager_justified ops r wf pick x

open EinoV.Engine.DagRun in
/-- **workflow_enabled_nodes_are_submitted** (completeness for the eager loop of Workflows).
    `EReach` are the states `runEager` passes through (`Spec/DagStatus.lean`); `histC` the
    completions processed so far.  Under `DagWF` and `DagWF2`, for every completion order `pick`:
    in every such state, every node enabled by the processed completions has been submitted. -/
theorem workflow_enabled_nodes_are_submitted {V} (ops : ValOps V) (r : Runner V) (wf : DagWF r) (wf2 : DagWF2 r)
    (pick : Pick V) (x : V) (cm : Chans V) (running : List (Key × V)) (bs : List (List (Key × V))) (comp : List Key)
    (h : EReach ops r pick x cm running bs comp) :
    ∀ n, Enabled r (histC r x bs comp) n → n ∈ bs.flatten.map (·.1) :=
  ereach_complete ops r wf wf2 pick x cm running bs comp h

open EinoV.Engine.DagRun in
/-- **workflow_input_is_exact.** Whenever the eager loop, in a state it passes through, processes a
    completion and submits new tasks, the input of each of them is the zero value / the single
    value / the merge of the outputs of *exactly* those data predecessors among the completions
    processed so far that routed to it (for the first batch: START's output). -/
theorem workflow_input_is_exact {V} (ops : ValOps V) (r : Runner V) (wf : DagWF r) (wf2 : DagWF2 r) (pick : Pick V) (x : V)
    (cm cm' : Chans V) (running ts : List (Key × V)) (bs : List (List (Key × V))) (comp : List Key)
    (t : Key × V) (d : Done V)
    (h : EReach ops r pick x cm running bs comp)
    (hp : running[pick running % running.length]? = some t)
    (hce : collectOne (execOne r t) = .ok d)
    (hc : calcNext ops r cm [d] = .ok (cm', .tasks ts)) :
    ∀ n v, (n, v) ∈ ts → ExactIn ops r (histC r x (bs ++ [ts]) (comp ++ [t.1])) n v :=
  ereach_exact ops r wf wf2 pick x cm cm' running ts bs comp t d h hp hce hc

open EinoV.Engine.DagRun in
/-- **workflow_run_complete.** On the outcome of `runEager`: when the run stops (result, error,
    nothing left to run, or no fuel), every node enabled by the completions it had processed — all
    collected tasks, except possibly the last one, at which it stopped — is among the submitted tasks.
    Nothing is claimed of a run that ended at its first `calcNext`, on START's completion
    (`batches = []`). -/
theorem workflow_run_complete {V} (ops : ValOps V) (r : Runner V) (wf : DagWF r) (wf2 : DagWF2 r) (pick : Pick V) (x : V) :
    ∃ comp', ((runEager ops r pick x).completed = comp' ∨ ∃ k, (runEager ops r pick x).completed = comp' ++ [k]) ∧
      ((runEager ops r pick x).batches = [] ∨
       ∀ n, Enabled r (histC r x (runEager ops r pick x).batches comp') n →
         n ∈ (runEager ops r pick x).submitted.map (·.1)) :=
  runEager_complete ops r wf wf2 pick x

open EinoV.Engine.DagRun in
/-- **compiled_workflow_declares_predecessors.** Every compiled Workflow lists each node as a
    control or data predecessor of each of its successors (clause `succ` of `DagWF`). -/
theorem compiled_workflow_declares_predecessors {V} (ops : ValOps V) (w : WorkflowDef V) :
    SuccOK (compileW ops w) := compileW_succOK ops w


/-! Proved of it (`Props/C03.lean`): two eager runs under two arbitrary completion orders that both return a
  value return the same one (`workflow_result_completion_order_independent`; for every well-formed Workflow
  definition, and with the batch run, `compiled_workflow_result_completion_order_independent`).
  Not proved: the full run-level statement `EinoV.Engine.EagerConfluenceGoal`
  (Proofs/C02Workflow.lean) — for `MergePerm ops` and `w.WF`, a run that returns `v` under one
  completion schedule returns `v` under every other, submits the same tasks as a multiset,
  abandons nothing, and the batch run agrees.
  `WF` excludes the shapes of three findings of DESIGN.md §5: a control dependency doubled by a
  branch end (`noEdgeAndBranch`; the model's behaviour there: `edge_beats_unselected_branch`), a
  node without a control predecessor (`hasCtrlPred`; `node_without_predecessor_never_runs`), and a
  node without a control path to END (`reachesEnd`; C03). The correspondence check
  (harness/props/c02_workflow.go) tests the goal on generated workflows against the real
  runtime under enforced completion orders. -/

def natOps : ValOps Nat := { merge := fun l => some (l.foldl (· + ·) 0), zero := 0 }

/-- the hypothesis `MergePerm` is satisfiable -/
theorem natOps_mergePerm : MergePerm natOps := by
  intro l l' h
  simp only [natOps, h.foldl_eq' (fun x _ y _ z => Nat.add_right_comm z x y) 0]

/-- START→a, START→b (inputs); c: input from a, control-only dependency on b;
    d: control-only dependency on b, data-only dependency on a; c and d feed END -/
def wDiamond : WorkflowDef Nat :=
  { nodes := [("a", fun v => .ok (v + 1)), ("b", fun v => .ok (v + 2)), ("c", fun v => .ok (v + 10)), ("d", fun v => .ok (v + 20))],
    deps := [WDep.input START "a", WDep.input START "b", WDep.input "a" "c", WDep.dependency "b" "c",
             WDep.dependency "b" "d", WDep.noDirect "a" "d", WDep.input "c" END, WDep.input "d" END],
    branches := [] }

def rD : Runner Nat := compileW natOps wDiamond
/-- the channels after START was resolved: a and b are running -/
def cmD : Chans Nat := match calcNext natOps rD (initChans rD) [(START, 5)] with | .ok (cm, _) => cm | .error _ => []
def naD : Node Nat := wDiamond.mkNode "a" (fun v => .ok (v + 1))
def nbD : Node Nat := wDiamond.mkNode "b" (fun v => .ok (v + 2))

/-- the hypotheses of the two-completion theorems hold in a reachable, non-trivial state:
    two running tasks, a shared successor with a control-only and a combined dependency, a
    successor with a data-only dependency -/
example : (match calcNext natOps rD (initChans rD) [(START, 5)] with | .ok (_, .tasks ts) => ts | _ => [])
      = [("a", 5), ("b", 5)] ∧
    SkipFree rD naD ("a", 6) [] ∧ SkipFree rD nbD ("b", 7) [] ∧
    Pending rD naD [] ("a", 6) cmD ∧ Pending rD nbD [] ("b", 7) cmD ∧ AllHavePreds cmD :=
  ⟨by decide, skipFree_of_no_branches rD naD ("a", 6) rfl rfl, skipFree_of_no_branches rD nbD ("b", 7) rfl rfl,
   by unfold Pending; decide, by unfold Pending; decide, by unfold AllHavePreds; decide⟩

/-- … and there the conclusion is not trivial: neither completion alone makes anything ready,
    both together make c (input = a's output only) and d (input = a's output, data-only) ready -/
example : (calcCore natOps rD cmD [("a", 6)]).toOption.map (·.2.1) = some [] ∧
    (calcCore natOps rD cmD [("b", 7)]).toOption.map (·.2.1) = some [] ∧
    (calcCore natOps rD cmD [("a", 6), ("b", 7)]).toOption.map (·.2.1) = some [("c", 6), ("d", 6)] := by decide +kernel

def okv (o : EOutcome Nat) : Option Nat := match o.result with | .ok v => some v | .error _ => none

/-- instance of the goal: three completion schedules and the batch run of `wDiamond` agree -/
example : okv (runEager natOps rD (fun _ => 0) 5) = some 42 ∧
    okv (runEager natOps rD (fun l => l.length - 1) 5) = some 42 ∧ okv (runEager natOps rD (fun _ => 1) 5) = some 42 ∧
    (run natOps rD 5).okVal? = some 42 ∧
    (runEager natOps rD (fun _ => 0) 5).completed = ["a", "b", "c", "d"] ∧
    (runEager natOps rD (fun l => l.length - 1) 5).completed = ["b", "a", "d", "c"] ∧
    (runEager natOps rD (fun l => l.length - 1) 5).submitted = [("a", 5), ("b", 5), ("c", 6), ("d", 6)] := by decide +kernel

/-- a branch without data flow: START→p; p's branch {u, v} picks u; u→t, v→t (dependencies);
    t takes its data from p only (data-only: the branch handles the order); t→END -/
def wBranch : WorkflowDef Nat :=
  { nodes := [("p", fun v => .ok (v + 1)), ("u", fun v => .ok (v + 100)), ("v", fun v => .ok (v + 200)), ("t", fun v => .ok (v * 2))],
    deps := [WDep.input START "p", WDep.dependency "u" "t", WDep.dependency "v" "t", WDep.noDirect "p" "t", WDep.input "t" END],
    branches := [("p", { ends := ["u", "v"], cond := fun _ => .ok ["u"] })] }

/-- the unselected end is skipped, the selected one runs on the zero value (control-only
    input), the join runs once on exactly its data-only predecessor's output -/
example : (runEager natOps (compileW natOps wBranch) (fun _ => 0) 3).submitted = [("p", 3), ("u", 0), ("t", 4)] ∧
    okv (runEager natOps (compileW natOps wBranch) (fun _ => 0) 3) = some 8 ∧
    (run natOps (compileW natOps wBranch) 3).okVal? = some 8 := by decide +kernel

/-- START→p, START→q; p→n by a dependency AND n an end of p's branch (which picks m);
    q's branch {n, x} picks x; n, m, x feed END -/
def wEdgeBranch : WorkflowDef Nat :=
  { nodes := [("p", fun v => .ok (v + 1)), ("q", fun v => .ok (v + 2)), ("n", fun _ => .ok 7),
              ("m", fun _ => .ok 1), ("x", fun _ => .ok 1)],
    deps := [WDep.input START "p", WDep.input START "q", WDep.dependency "p" "n",
             WDep.input "n" END, WDep.dependency "m" END, WDep.dependency "x" END],
    branches := [("p", { ends := ["n", "m"], cond := fun _ => .ok ["m"] }),
                 ("q", { ends := ["n", "x"], cond := fun _ => .ok ["x"] })] }

/-- **edge_beats_unselected_branch** (the shape of a C02 finding of DESIGN.md §5.1, repaired in
    /repo: a successor a node also triggers through a plain control edge is never reported
    skipped by that node's branches). Whether p finishes before q or after it, n — reached from
    p by a dependency and deselected by p's branch — runs, and the result is n's output: the run
    does not depend on the completion order. -/
theorem edge_beats_unselected_branch :
    okv (runEager natOps (compileW natOps wEdgeBranch) (fun _ => 0) 0) = some 7 ∧
    okv (runEager natOps (compileW natOps wEdgeBranch) (fun l => l.length - 1) 0) = some 7 ∧
    "n" ∈ (runEager natOps (compileW natOps wEdgeBranch) (fun _ => 0) 0).completed ∧
    "n" ∈ (runEager natOps (compileW natOps wEdgeBranch) (fun l => l.length - 1) 0).completed := by
  decide +kernel

/-- START→a→b→END and a node o that nobody declared a dependency for -/
def wOrphan : WorkflowDef Nat :=
  { nodes := [("a", fun v => .ok (v + 1)), ("b", fun v => .ok (v + 1)), ("o", fun _ => .ok 5)],
    deps := [WDep.input START "a", WDep.input "a" "b", WDep.input "b" END], branches := [] }

/-- **node_without_predecessor_never_runs** (a finding of DESIGN.md §5.1, repaired in /repo:
    before the repair a `dagChannel` without any predecessor was "always ready", so the node was
    submitted again after every completion). A node nobody declared a dependency for never
    runs; every other node runs once. -/
theorem node_without_predecessor_never_runs :
    (runEager natOps (compileW natOps wOrphan) (fun _ => 0) 0).submitted = [("a", 0), ("b", 1)] ∧
    okv (runEager natOps (compileW natOps wOrphan) (fun _ => 0) 0) = some 2 := by decide

open EinoV.Engine.DagRun in
/-- **well_formed_graph_compiles_to_well_formed_runner.** `GraphDefWF g` states what `AddNode` /
    `AddEdge` / `AddBranch` / `Compile` accept in all-predecessor mode: distinct node keys other
    than START and END, every edge target and branch end an existing node or END, and an acyclic
    edge / branch-end relation.  The compiled runner of *every* such definition satisfies `DagWF`,
    `DagWF2` and `DagWF3`, i.e. all the hypotheses of the run-level theorems of C02 and C03 — they
    are not an assumption about compiled graphs but a consequence of how `compile` builds the
    predecessor maps and the successor lists. -/
theorem well_formed_graph_compiles_to_well_formed_runner {V} (slack : Nat) (g : GraphDef V)
    (w : GraphDefWF g) : DagWF (compile slack g) ∧ DagWF2 (compile slack g) ∧ DagWF3 (compile slack g) :=
  compile_wf slack g w

open EinoV.Engine.DagRun in
/-- **compiled_graph_at_most_once.** For every well-formed acyclic graph definition, every fair
    completion schedule and every input: no node of the compiled graph starts twice. -/
theorem compiled_graph_at_most_once {V} (ops : ValOps V) (slack : Nat) (g : GraphDef V) (w : GraphDefWF g)
    (sched : Sched V) (hf : sched.Fair) (x : V) (k : Key) :
    ((runS ops (compile slack g) sched x).trace.flatten.map (·.1)).count k ≤ 1 :=
  run_at_most_once ops _ (compile_wf slack g w).1 sched hf x k

open EinoV.Engine.DagRun in
/-- **compiled_graph_runs_exactly_the_enabled_nodes.** … and the tasks of every step are justified
    by the completions of the older steps, every enabled node is among them, and each runs on
    exactly the outputs of the data predecessors that routed to it. -/
theorem compiled_graph_runs_exactly_the_enabled_nodes {V} (ops : ValOps V) (slack : Nat) (g : GraphDef V)
    (w : GraphDefWF g) (sched : Sched V) (hf : sched.Fair) (x : V) :
    JustTr ops (compile slack g) x (runS ops (compile slack g) sched x).trace.reverse ∧
    CompTr (compile slack g) x (runS ops (compile slack g) sched x).trace.reverse ∧
    ExactTr ops (compile slack g) x (runS ops (compile slack g) sched x).trace.reverse :=
  have h := compile_wf slack g w
  ⟨(run_justified ops _ h.1 sched hf x).1, run_complete ops _ h.1 h.2.1 sched hf x,
   run_exact ops _ h.1 h.2.1 sched hf x⟩

open EinoV.Engine.DagRun in
/-- **graphdef_wf_check_sound.** The executable check of `GraphDefWF` the oracle evaluates on every
    generated all-predecessor case eino compiled (a definition eino accepts and the check rejects
    is reported, signature `C02:graphdef-wf`) implies it. -/
theorem graphdef_wf_check_sound {V} (g : GraphDef V) (h : graphDefWFb g = true) : GraphDefWF g :=
  graphDefWFb_sound g h

example : EinoV.Engine.DagRun.graphDefWFb gDiamond = true := by decide

/-- non-vacuity: the diamond with a three-way branch is such a definition -/
example : EinoV.Engine.DagRun.GraphDefWF gDiamond where
  dag := rfl
  keys := by decide
  noStart := by decide
  noEnd := by decide
  edgeTo := by decide
  brTo := by decide
  acyclic := ⟨fun k => if k = START then 0 else if k = "a" then 1 else if k = "b" then 2
      else if k = "c" then 2 else if k = "d" then 3 else 4, by decide, by decide⟩

open EinoV.Engine.DagRun in
/-- **well_formed_workflow_compiles_to_well_formed_runner.** The same for Workflows
    (`Spec/WorkflowDefWF.lean`: distinct node keys other than START / END, control dependencies and
    branch ends target existing nodes or END, a node that receives data has a control predecessor,
    the dependency / branch-end relation is acyclic): the compiled runner satisfies `DagWF`,
    `DagWF2` and `DagWF3`. -/
theorem well_formed_workflow_compiles_to_well_formed_runner {V} (ops : ValOps V) (w : WorkflowDef V)
    (h : WorkflowDefWF w) :
    DagWF (compileW ops w) ∧ DagWF2 (compileW ops w) ∧ DagWF3 (compileW ops w) := compileW_wf ops w h

open EinoV.Engine.DagRun in
/-- **compiled_workflow_at_most_once.** For every well-formed acyclic Workflow definition, every
    completion order and every input, no node is submitted twice. -/
theorem compiled_workflow_at_most_once {V} (ops : ValOps V) (w : WorkflowDef V) (h : WorkflowDefWF w)
    (pick : Pick V) (x : V) (k : Key) :
    ((runEager ops (compileW ops w) pick x).submitted.map (·.1)).count k ≤ 1 :=
  runEager_at_most_once ops _ (compileW_wf ops w h).1 pick x k

open EinoV.Engine.DagRun in
/-- **workflowdef_wf_check_sound.** The executable check the oracle evaluates on every generated
    Workflow case (counted in the evidence) implies `WorkflowDefWF`. -/
theorem workflowdef_wf_check_sound {V} (ops : ValOps V) (w : WorkflowDef V)
    (h : workflowDefWFb ops w = true) : WorkflowDefWF w := workflowDefWFb_sound ops w h

example : EinoV.Engine.DagRun.workflowDefWFb natOps wDiamond = true := by decide
example : EinoV.Engine.DagRun.workflowDefWFb natOps wBranch = true := by decide

open EinoV.Engine.DagRun in
/-- **dag_return_means_ancestors_settled.** When a run of a well-formed acyclic all-predecessor
    runner returns a value, under any fair completion schedule, *every control ancestor of END*
    (`AncEnd`: a declared control predecessor of END, or of another ancestor) has completed, or is
    skipped (`Settled`): the engine never returns while a node END transitively waits for is
    still to run.  (START has no predecessors: `hs`, a clause of `DagWF3`.) -/
theorem dag_return_means_ancestors_settled {V} (ops : ValOps V) (r : Runner V) (wf : DagWF r)
    (hs : lookupList START r.ctrlPreds = []) (sched : Sched V) (hf : sched.Fair) (x v : V)
    (hres : (runS ops r sched x).result = .ok v) (p : Key) (ha : AncEnd r p) :
    Settled r (histOf r x (runS ops r sched x).trace.reverse) p :=
  run_ancestors_settled ops r wf hs sched hf x v hres p ha

open EinoV.Engine.DagRun in
/-- **workflow_return_means_ancestors_settled.** The same for the eager loop of Workflows and every
    completion order; here the history is that of the *submitted* tasks (a task submitted whose body
    succeeds), the superset of the processed completions the justification theorem speaks about. -/
theorem workflow_return_means_ancestors_settled {V} (ops : ValOps V) (r : Runner V) (wf : DagWF r)
    (hs : lookupList START r.ctrlPreds = []) (pick : Pick V) (x v : V)
    (hres : (runEager ops r pick x).result = .ok v) (p : Key) (ha : AncEnd r p) :
    Settled r (histOf r x (runEager ops r pick x).batches.reverse) p :=
  runEager_ancestors_settled ops r wf hs pick x v hres p ha

/-- non-vacuity: in the diamond, `a` is a control ancestor of END (through `d`) -/
example : EinoV.Engine.DagRun.AncEnd rDiamond "a" :=
  .step "a" "d" (.base "d" (by decide)) (by decide)

open EinoV.Engine.DagRun in
/-- **dag_end_is_never_a_task.** END is never among the tasks of a step (any runner, any mode, any
    schedule): when END becomes ready the run returns its input. -/
theorem dag_end_is_never_a_task {V} (ops : ValOps V) (r : Runner V) (sched : Sched V) (x : V) :
    ∀ t, t ∈ (runS ops r sched x).trace.flatten → t.1 ≠ END :=
  run_no_end_task ops r sched x

open EinoV.Engine.DagRun in
/-- **dag_returns_as_soon_as_end_is_enabled.** The dual of `dag_return_means_ancestors_settled`: a
    run of a well-formed acyclic all-predecessor runner never goes on once END is enabled — at
    every step it executes (`trace = … step :: older`, newest first), END is *not* enabled by the
    completions of the older steps, under any fair completion schedule. -/
theorem dag_returns_as_soon_as_end_is_enabled {V} (ops : ValOps V) (r : Runner V) (wf : DagWF r)
    (wf2 : DagWF2 r) (sched : Sched V) (hf : sched.Fair) (x : V) (pre : Trace V) (step : List (Key × V))
    (older : Trace V) (h : (runS ops r sched x).trace.reverse = pre ++ step :: older) :
    ¬ Enabled r (histOf r x older) END :=
  run_end_never_waits ops r wf wf2 sched hf x pre step older h

open EinoV.Engine.DagRun in
/-- **dag_stuck_run_has_nothing_enabled.** A run ends with "no tasks to execute" only in a state in
    which the specification enables nothing: if the last step of the trace is empty (the loop's
    `noTasks` exit), every node enabled by the completions so far has been started already, and END
    is not enabled — the engine never gives up while something could still run. -/
theorem dag_stuck_run_has_nothing_enabled {V} (ops : ValOps V) (r : Runner V) (wf : DagWF r) (wf2 : DagWF2 r)
    (sched : Sched V) (hf : sched.Fair) (x : V) (older : Trace V)
    (h : (runS ops r sched x).trace.reverse = [] :: older) :
    (∀ n, Enabled r (histOf r x older) n → n ∈ keysOfTr older) ∧ ¬ Enabled r (histOf r x older) END := by
  refine ⟨fun n hen => ?_, run_end_never_waits ops r wf wf2 sched hf x [] [] older h⟩
  have := compTr_at r x _ (run_complete ops r wf wf2 sched hf x) [] [] older h n hen
  rwa [keysOfTr_cons, akeys_nil, List.nil_append] at this

/-! ### The same compiled runnable called several times (a session)

The run-level theorems above speak about ONE call of `runner.run`.  A compiled Graph / Workflow is
called many times; the property is stated "per run", so what a node receives in one call must not
depend on the calls made before.  `Model/C02Rerun.lean` threads the channels a completed call
leaves behind to the next call, under the source fact `FactsC02.runBuildsFreshChannels`
(`runner.run` takes its channel manager from `initChannelManager`, which makes every channel with
the channel builder; the runner struct keeps no channels) and an arbitrary clean-up `recycle`. -/

theorem rerun_facts_match :
    FactsC02.runBuildsFreshChannels = Expected.C02.runBuildsFreshChannels := by decide

/-- **runs_are_independent** (Workflows, eager loop): calling the same compiled runner on a
    sequence of inputs, each under its own completion schedule, yields exactly the outcomes of the
    independent runs `runEager ops r pick x` — for every runner, every sequence of calls, whatever
    the previous calls left behind (`idle`) and whatever a clean-up would do (`recycle`).  So every
    statement about `runEager` (at most once, justified starts, exact inputs, the result is END's
    input) holds for the k-th call of a session with the k-th input alone. -/
theorem runs_are_independent {V} (recycle : Chans V → Chans V) (ops : ValOps V) (r : Runner V)
    (idle : Option (Chans V)) (calls : List (Pick V × V)) :
    sessionEager FactsC02.runBuildsFreshChannels recycle ops r idle calls
      = calls.map (fun c => runEager ops r c.1 c.2) :=
  sessionEager_of_start _ recycle ops r (fun i => by
    have h : FactsC02.runBuildsFreshChannels = true := by decide
    rw [h]; exact startChans_fresh recycle r i) idle calls

/-- **dag_runs_are_independent** (all-predecessor Graphs, batch loop): the same for `runS`. -/
theorem dag_runs_are_independent {V} (recycle : Chans V → Chans V) (ops : ValOps V) (r : Runner V)
    (idle : Option (Chans V)) (calls : List (Sched V × V)) :
    sessionS FactsC02.runBuildsFreshChannels recycle ops r idle calls
      = calls.map (fun c => runS ops r c.1 c.2) :=
  sessionS_of_start _ recycle ops r (fun i => by
    have h : FactsC02.runBuildsFreshChannels = true := by decide
    rw [h]; exact startChans_fresh recycle r i) idle calls

/-- a runner that keeps the channels of completed calls is equally right provided its clean-up
    restores what the channel builder creates (both loops) -/
theorem kept_channels_need_a_complete_reset {V} (recycle : Chans V → Chans V) (ops : ValOps V) (r : Runner V)
    (h : ∀ cm, recycle cm = initChans r) (idle : Option (Chans V)) :
    (∀ calls : List (Pick V × V), sessionEager false recycle ops r idle calls = calls.map (fun c => runEager ops r c.1 c.2)) ∧
    (∀ calls : List (Sched V × V), sessionS false recycle ops r idle calls = calls.map (fun c => runS ops r c.1 c.2)) := by
  have hs : ∀ i, startChans false recycle r i = initChans r := by
    intro i; cases i <;> simp [startChans, h]
  exact ⟨fun calls => sessionEager_of_start _ recycle ops r hs idle calls,
         fun calls => sessionS_of_start _ recycle ops r hs idle calls⟩

/-- START→s; s's branch {d, nd} takes d on odd inputs; d and nd precede the gate g, which reads
    s (data-only); g's branch {x, nx} takes x when bit 1 of the input is set; x reads d and s
    over data-only dependencies — its control comes from a branch decided after d has finished;
    x and nx feed END. -/
def wStale : WorkflowDef Nat :=
  { nodes := [("s", fun v => .ok v), ("d", fun v => .ok (v + 10)), ("nd", fun _ => .ok 0), ("g", fun v => .ok v),
              ("x", fun v => .ok v), ("nx", fun _ => .ok 0)],
    deps := [WDep.input START "s", WDep.noDirect "s" "d", WDep.dependency "d" "g", WDep.dependency "nd" "g",
             WDep.noDirect "s" "g", WDep.noDirect "d" "x", WDep.noDirect "s" "x",
             WDep.input "x" END, WDep.input "nx" END],
    branches := [("s", { ends := ["d", "nd"], cond := fun v => .ok [if v % 2 == 1 then "d" else "nd"] }),
                 ("g", { ends := ["x", "nx"], cond := fun v => .ok [if v / 2 % 2 == 1 then "x" else "nx"] })] }

/-- **kept_channels_with_bookkeeping_reset_leak** (non-vacuity of `runs_are_independent`: the
    hypothesis "every call starts from fresh channels" is what carries it).  Call 1 (input 1): d
    runs, x is discarded holding d's 11.  Call 2 (input 2): d is skipped, x runs.  Alone, call 2
    gives x the input 2 and returns 2; in a session whose clean-up restores only the dependency
    bookkeeping x receives 11 + 2; with the complete clean-up the session is right again. -/
theorem kept_channels_with_bookkeeping_reset_leak :
    okv (runEager natOps (compileW natOps wStale) (fun _ => 0) 2) = some 2 ∧
    (sessionEager false recycleDepsOnly natOps (compileW natOps wStale) none
        [((fun _ => 0), 1), ((fun _ => 0), 2)]).map okv = [some 0, some 13] ∧
    (sessionEager false recycleAll natOps (compileW natOps wStale) none
        [((fun _ => 0), 1), ((fun _ => 0), 2)]).map okv = [some 0, some 2] ∧
    (sessionEager FactsC02.runBuildsFreshChannels recycleDepsOnly natOps (compileW natOps wStale) none
        [((fun _ => 0), 1), ((fun _ => 0), 2)]).map okv = [some 0, some 2] := by decide +kernel

/-! ### The source itself: compose/dag.go translated (Gen/TransC02.lean) refines the channel model

`tools/factgen/gotrans.go` re-translates `dagChannel.{reportValues, reportDependencies, reportSkip,
get}` (and `get`'s deferred reset) from /repo's working tree on every run.  The theorems below say
that the translated text computes exactly what `Chan.reportValues / reportDeps / reportSkip / get`
compute in all-predecessor mode — so every statement of this file about the channel model (and the
run-level theorems built on it) is a statement about the code as it is now, not about a reading of
it.  A changed statement in dag.go changes the generated definitions and these proofs are re-checked. -/
section Translated
open EinoV.GoSem EinoV.TransDag EinoV.Gen.TransC02
variable {V : Type} [Inhabited V]

theorem translated_source_is_current : FactsC02.dagChannelTranslated = true := by decide

theorem translated_reportValues_refines (ext : Ext V) (ch : dagChannel V) (ins : GoMap V) :
    toChan (dagChannel_reportValues ext ch ins).1 = (toChan ch).reportValues true ins ∧
    (dagChannel_reportValues ext ch ins).2 = none :=
  reportValues_refines ext ch ins

theorem translated_reportDependencies_refines (ext : Ext V) (ch : dagChannel V) (deps : List String) :
    toChan (dagChannel_reportDependencies ext ch deps) = (toChan ch).reportDeps true deps :=
  reportDependencies_refines ext ch deps

theorem translated_reportSkip_refines (ext : Ext V) (ch : dagChannel V) (keys : List String) :
    (toChan (dagChannel_reportSkip ext ch keys).1, (dagChannel_reportSkip ext ch keys).2)
      = (toChan ch).reportSkip true keys :=
  reportSkip_refines ext ch keys

/-- `dagChannel.get`, both modes of `isStream` (in stream mode the value handed out when nothing
    arrived is the empty stream), for channels with one entry per predecessor (Go maps) -/
theorem translated_get_refines (ops : ValOps V) (es : V) (ch : dagChannel V) (isStream : Bool) (h : WF ch) :
    toChan (dagChannel_get (extOf ops es) ch isStream).1 = ((toChan ch).get (opsFor ops es isStream) true).1 ∧
    getResult (dagChannel_get (extOf ops es) ch isStream).2 = ((toChan ch).get (opsFor ops es isStream) true).2 :=
  get_refines ops es ch isStream h

/-- the hypothesis `WF` is what `dagChannelBuilder` establishes and every translated operation keeps -/
theorem translated_ops_keep_wf (ext : Ext V) (ch : dagChannel V) (h : WF ch) :
    (∀ ins, WF (dagChannel_reportValues ext ch ins).1) ∧
    (∀ deps, WF (dagChannel_reportDependencies ext ch deps)) ∧
    (∀ keys, WF (dagChannel_reportSkip ext ch keys).1) ∧
    (∀ cp dp : List Key, WF (ofChan (Chan.init (V := V) true cp dp))) :=
  ⟨fun ins => reportValues_wf ext ch ins h, fun d => reportDependencies_wf ext ch d h,
   fun k => reportSkip_wf ext ch k h, fun cp dp => init_wf cp dp⟩

/-- the property clause, read off the translated `get`: the Go function reports ready (or a merge
    error) exactly when the channel is `Triggered`, and leaves an untriggered channel untouched -/
theorem translated_get_fires_iff_triggered (ops : ValOps V) (es : V) (ch : dagChannel V) (isStream : Bool)
    (h : WF ch) :
    (getResult (dagChannel_get (extOf ops es) ch isStream).2 ≠ .notReady ↔ Triggered (toChan ch)) ∧
    (¬ Triggered (toChan ch) → (dagChannel_get (extOf ops es) ch isStream).1 = ch) := by
  obtain ⟨h1, h2⟩ := get_refines ops es ch isStream h
  obtain ⟨g1, g2⟩ := dag_fires_iff_triggered (opsFor ops es isStream) (toChan ch)
  refine ⟨by rw [h2]; exact g1, fun hn => ?_⟩
  have := g2 hn
  rw [← h1] at this
  have e := congrArg ofChan this
  simpa [ofChan_toChan] using e

def exChan : dagChannel Nat :=
  { ControlPredecessors := [("a", Dep.ready), ("b", Dep.skipped)], Values := [("a", 1)],
    DataPredecessors := [("a", true)], Skipped := false }
example : WF exChan := by unfold WF KeysNodup exChan; decide
example : (dagChannel_get (extOf natOps 0) exChan false).2 = (1, true, none) := by decide

end Translated

/-! ### The translated channel manager (compose/graph_manager.go → Gen/TransMgr.lean)

  `channelManager.{updateValues, updateDependencies, getFromReadyChannels, updateAndGet, reportBranch}` and the
  interface `channel` (a sum of `dagChannel | pregelChannel`, checked from the source to be its only
  implementations) are re-translated from /repo on every run; the theorems below say that the translated
  functions compute what the model's channel manager (`updateValues`, `updateDeps`, `getReady`,
  `reportBranch` with `skipOne / skipStep / propagateSkips`) computes.  They hold for both kinds of channel
  (`r.dag` is the kind of every channel: `ChansOK r.dag`); this property uses them with `r.dag = true`.

  Hypotheses (all proved for what `initChannelManager` builds, `translated_manager_hypotheses_hold`, and
  returned again by each theorem for the new manager):
    `Rel r c`      the manager's static tables are the runner's (predecessor sets, successors, channel kind)
    `ChansOK`      one channel per key (a Go map), of the runner's kind, one entry per predecessor
    `NoHandlers`   the edge / pre-node handler managers (externals) return their argument and a nil error:
                   the model has no handlers
    presence       every addressed key has a channel: `updateValues` / `updateDependencies` return an error
                   otherwise, `reportBranch` dereferences nil (the outcome `MayPanic.panic`) -/
section TranslatedManager
open EinoV.GoSem EinoV.TransMgr EinoV.GoWorkList EinoV.Gen.TransC02 EinoV.Gen.TransC01 EinoV.Gen.TransMgr
variable {V : Type} [Inhabited V]

theorem translated_manager_source_is_current : FactsC02.channelManagerTranslated = true := by decide

/-- the interface `channel`: each dispatched method is the model's operation on the channel of that kind -/
theorem translated_channel_methods_refine (ext : Ext V) (ch : channel V) :
    (∀ ins, chanOf (channel_reportValues ext ch ins).1 = (chanOf ch).reportValues (isDag ch) ins ∧
      (channel_reportValues ext ch ins).2 = none) ∧
    (∀ deps, chanOf (channel_reportDependencies ext ch deps) = (chanOf ch).reportDeps (isDag ch) deps) ∧
    (∀ keys, (chanOf (channel_reportSkip ext ch keys).1, (channel_reportSkip ext ch keys).2)
      = (chanOf ch).reportSkip (isDag ch) keys) :=
  ⟨fun ins => ⟨(ch_reportValues ext ch ins).1, (ch_reportValues ext ch ins).2.1⟩,
   fun deps => (ch_reportDependencies ext ch deps).1, fun keys => (ch_reportSkip ext ch keys).1⟩

theorem translated_channel_get_refines (ops : ValOps V) (es : V) (ch : channel V) (isStream : Bool) (h : ChWF ch) :
    chanOf (channel_get (TransDag.extOf ops es) ch isStream).1
      = ((chanOf ch).get (TransDag.opsFor ops es isStream) (isDag ch)).1 ∧
    TransDag.getResult (channel_get (TransDag.extOf ops es) ch isStream).2
      = ((chanOf ch).get (TransDag.opsFor ops es isStream) (isDag ch)).2 :=
  ⟨(ch_get ops es ch isStream h).1, (ch_get ops es ch isStream h).2.1⟩

/-- `channelManager.updateValues`: no panic, a nil error, and the model's `updateValues` (per target only
    the declared data predecessors are reported), when every target has a channel -/
theorem translated_updateValues_refines (ext : Ext V) (mext : MgrExt V) (r : Runner V) (c : channelManager V)
    (values : GoMap (GoMap V)) (hrel : Rel r c) (hok : ChansOK r.dag c.channels) (hE : NoHandlers mext)
    (hpres : ∀ w ∈ values, c.channels.has w.1 = true) (hmaps : ∀ w ∈ values, TransDag.KeysNodup w.2) :
    ∃ c', channelManager_updateValues ext mext c values = .ret (c', none) ∧
      toChans c'.channels = updateValues r (toChans c.channels) values ∧
      Frame c c' ∧ ChansOK r.dag c'.channels :=
  updateValues_refines ext mext r c values hrel hok hE hpres hmaps

theorem translated_updateDependencies_refines (ext : Ext V) (mext : MgrExt V) (r : Runner V)
    (c : channelManager V) (deps : GoMap (List String)) (hrel : Rel r c) (hok : ChansOK r.dag c.channels)
    (hpres : ∀ d ∈ deps, c.channels.has d.1 = true) :
    ∃ c', channelManager_updateDependencies ext mext c deps = .ret (c', none) ∧
      toChans c'.channels = updateDeps r (toChans c.channels) deps ∧
      Frame c c' ∧ ChansOK r.dag c'.channels :=
  updateDependencies_refines ext mext r c deps hrel hok hpres

/-- `channelManager.getFromReadyChannels` against `getReady`: no `get` fails exactly when the model reports
    no merge error, and then channels and ready values are the model's; otherwise an error and a nil map
    (Go stops at the first failing channel, the model resets the others too: the run is over) -/
theorem translated_getFromReadyChannels_refines (ops : ValOps V) (es : V) (mext : MgrExt V) (dag : Bool)
    (c : channelManager V) (hok : ChansOK dag c.channels) (hE : NoHandlers mext) :
    let g := getReady (TransDag.opsFor ops es c.isStream) dag (toChans c.channels)
    let res := channelManager_getFromReadyChannels (TransDag.extOf ops es) mext c
    (g.2.2 = false → toChans res.1.channels = g.1 ∧ res.2.1 = g.2.1 ∧ res.2.2 = none ∧
        Frame c res.1 ∧ ChansOK dag res.1.channels) ∧
    (g.2.2 = true → res.2.2.isSome = true ∧ res.2.1 = []) :=
  getFromReadyChannels_refines ops es mext dag c hok hE

/-- `channelManager.updateAndGet` is the channel part of the model's `calcNext`:
    `updateValues`, then `updateDeps`, then `getReady` -/
theorem translated_updateAndGet_refines (ops : ValOps V) (es : V) (mext : MgrExt V) (r : Runner V)
    (c : channelManager V) (values : GoMap (GoMap V)) (deps : GoMap (List String))
    (hrel : Rel r c) (hok : ChansOK r.dag c.channels) (hE : NoHandlers mext)
    (hpv : ∀ w ∈ values, c.channels.has w.1 = true) (hmaps : ∀ w ∈ values, TransDag.KeysNodup w.2)
    (hpd : ∀ d ∈ deps, c.channels.has d.1 = true) :
    let g := getReady (TransDag.opsFor ops es c.isStream) r.dag
      (updateDeps r (updateValues r (toChans c.channels) values) deps)
    ∃ res, channelManager_updateAndGet (TransDag.extOf ops es) mext c values deps = .ret res ∧
      (g.2.2 = false → toChans res.1.channels = g.1 ∧ res.2.1 = g.2.1 ∧ res.2.2 = none ∧
        Frame c res.1 ∧ ChansOK r.dag res.1.channels) ∧
      (g.2.2 = true → res.2.2.isSome = true ∧ res.2.1 = []) :=
  updateAndGet_refines ops es mext r c values deps hrel hok hE hpv hmaps hpd

/-- `channelManager.reportBranch`, step 1: the translated function computes Go's work list (`goReportBranch`:
    a key is appended whenever `reportSkip` returns true) on the model's channels — for every fuel with which
    that list is exhausted (the Go loop has no fuel); no nil dereference when every successor and every
    skipped node has a channel -/
theorem translated_reportBranch_is_go_worklist (ext : Ext V) (mext : MgrExt V) (r : Runner V)
    (c : channelManager V) (fuel : Nat) (from_ : Key) (sk : List Key) (hrel : Rel r c)
    (hok : ChansOK r.dag c.channels) (hcl : SuccClosed c) (hsk : ∀ s ∈ sk, c.channels.has s = true)
    (res : Except Err (Chans V)) (hgo : goReportBranch r fuel (toChans c.channels) from_ sk = some res) :
    ∃ c' e, channelManager_reportBranch ext mext fuel c from_ sk = .ret (c', e) ∧
      match (generalizing := false) res with
      | .ok cm' => e = none ∧ toChans c'.channels = cm' ∧ Frame c c' ∧ ChansOK r.dag c'.channels
      | .error _ => e = some (GoErr.mk "unknown node: %s") :=
  reportBranch_go ext mext r c fuel from_ sk hrel hok hcl hsk res hgo

omit [Inhabited V] in
/-- step 2 (about the model alone): Go's work list and the model's (`skipOne` pushes a key only when it
    *becomes* skipped, fuel `(n+2)²`) have the same outcome — a key Go pops in addition has passed its skip
    on already, and reporting a skip twice changes nothing; the model's fuel is never exhausted.
    `SkipClosed` (every skipped channel has passed its skip on) and `AllSkImp` hold initially and are kept. -/
theorem go_worklist_is_model_worklist (r : Runner V) (fuel : Nat) (cm : Chans V) (from_ : Key) (sk : List Key)
    (R : Except Err (Chans V)) (hnd : (akeys cm).Nodup) (hsk : AllSkImp cm) (hcl : SkipClosed r cm)
    (hlen : cm.length ≤ (r.nodes.length + 2) * (r.nodes.length + 2))
    (hgo : goReportBranch r fuel cm from_ sk = some R) :
    reportBranch r cm from_ sk = R ∧
      ∀ cm', R = .ok cm' → r.dag = true → (akeys cm').Nodup ∧ AllSkImp cm' ∧ SkipClosed r cm' :=
  goReportBranch_eq r fuel cm from_ sk R hnd hsk hcl hlen hgo

/-- `channelManager.reportBranch` refines the model's `reportBranch` (both steps together): whenever the Go
    loop runs to completion, no panic, and the model's channels with a nil error — or the error
    "unknown node" exactly when the model reports `endSkipped` -/
theorem translated_reportBranch_refines (ext : Ext V) (mext : MgrExt V) (r : Runner V) (c : channelManager V)
    (fuel : Nat) (from_ : Key) (sk : List Key) (hrel : Rel r c) (hok : ChansOK r.dag c.channels)
    (hcl : SuccClosed c) (hsk : ∀ s ∈ sk, c.channels.has s = true)
    (hsi : AllSkImp (toChans c.channels)) (hsc : SkipClosed r (toChans c.channels))
    (hlen : c.channels.length ≤ (r.nodes.length + 2) * (r.nodes.length + 2))
    (R : Except Err (Chans V)) (hgo : goReportBranch r fuel (toChans c.channels) from_ sk = some R) :
    reportBranch r (toChans c.channels) from_ sk = R ∧
    ∃ c' e, channelManager_reportBranch ext mext fuel c from_ sk = .ret (c', e) ∧
      match (generalizing := false) R with
      | .ok cm' => e = none ∧ toChans c'.channels = cm' ∧ Frame c c' ∧ ChansOK r.dag c'.channels ∧
          (r.dag = true → AllSkImp cm' ∧ SkipClosed r cm')
      | .error _ => e = some (GoErr.mk "unknown node: %s") :=
  reportBranch_refines ext mext r c fuel from_ sk hrel hok hcl hsk hsi hsc hlen R hgo

/-- `channelManager.reportBranch` refines the model's `reportBranch`, without a condition on the fuel, when
    the successor relation is acyclic (`rank`; what `validateDAG` enforces, `translated_manager_acyclic`):
    the Go loop terminates — there is a fuel `N` from which on the translated loop exhausts its work list —
    with the outcome of `translated_reportBranch_refines` (`endSkipped`: END became skipped) -/
theorem translated_reportBranch_total (ext : Ext V) (mext : MgrExt V) (r : Runner V) (c : channelManager V)
    (from_ : Key) (sk : List Key) (hrel : Rel r c) (hok : ChansOK r.dag c.channels) (hcl : SuccClosed c)
    (hsk : ∀ s ∈ sk, c.channels.has s = true)
    (hsi : AllSkImp (toChans c.channels)) (hsc : SkipClosed r (toChans c.channels))
    (hlen : c.channels.length ≤ (r.nodes.length + 2) * (r.nodes.length + 2))
    (rank : Key → Nat) (hacyc : r.dag = true → ∀ n ∈ r.nodes, ∀ s ∈ n.successors, rank n.key < rank s) :
    ∃ N, ∀ fuel, N ≤ fuel →
      ∃ c' e, channelManager_reportBranch ext mext fuel c from_ sk = .ret (c', e) ∧
        match reportBranch r (toChans c.channels) from_ sk with
        | .ok cm' => e = none ∧ toChans c'.channels = cm' ∧ Frame c c' ∧ ChansOK r.dag c'.channels ∧
            (r.dag = true → AllSkImp cm' ∧ SkipClosed r cm')
        | .error _ => e = some (GoErr.mk "unknown node: %s") :=
  reportBranch_total ext mext r c from_ sk hrel hok hcl hsk hsi hsc hlen rank hacyc

/-- the acyclicity hypothesis for a compiled all-predecessor runner -/
theorem translated_manager_acyclic (r : Runner V) (wf : DagRun.DagWF r) (hc : RunnerClosed r) :
    ∃ rank : Key → Nat, ∀ n ∈ r.nodes, ∀ s ∈ n.successors, rank n.key < rank s :=
  acyc_of_dagWF r wf hc

/-- the hypotheses are what `initChannelManager` establishes for a compiled runner: `initMgr r s` is the
    manager built from the runner (its channels are the model's `initChans`); closedness holds for every
    runner `compile` builds from a graph definition whose edges and branch ends are nodes or END -/
theorem translated_manager_hypotheses_hold (r : Runner V) (s : Bool) (hnd : (akeys (initChans r)).Nodup) :
    Rel r (initMgr r s) ∧ ChansOK r.dag (initMgr r s).channels ∧
    toChans (initMgr r s).channels = initChans r ∧
    SkipClosed r (initChans r) ∧ AllSkImp (initChans r) ∧
    (initMgr r s).channels.length ≤ (r.nodes.length + 2) * (r.nodes.length + 2) ∧
    (RunnerClosed r → SuccClosed (initMgr r s)) ∧
    (∀ (slack : Nat) (g : GraphDef V), DagRun.GraphDefWF g → RunnerClosed (compile slack g)) :=
  ⟨initMgr_rel r s, initMgr_ok r s hnd, initMgr_chans r s, (init_skipClosed r).1, (init_skipClosed r).2,
   initMgr_len r s, initMgr_closed r s, fun slack g wf => compile_closed slack g wf.edgeTo wf.brTo⟩

/-! non-vacuity: a concrete runner, the manager built for it, and runs of the translated functions -/

/-- a → branch {b, c};  b → end;  c → end  (all-predecessor mode) -/
def exR2 : Runner Nat :=
  { nodes := [{ key := "a", act := fun v => .ok v, branches := [{ ends := ["b", "c"], cond := fun _ => .ok ["c"] }] },
              { key := "b", act := fun v => .ok v, writeTo := ["end"], controls := ["end"] },
              { key := "c", act := fun v => .ok v, writeTo := ["end"], controls := ["end"] }],
    start := { key := "start", act := fun v => .ok v, writeTo := ["a"], controls := ["a"] },
    dataPreds := [("a", ["start"]), ("b", ["a"]), ("c", ["a"]), ("end", ["b", "c"])],
    ctrlPreds := [("a", ["start"]), ("b", ["a"]), ("c", ["a"]), ("end", ["b", "c"])],
    maxSteps := 0, dag := true }

def noH : MgrExt Nat := { edgeHandle := fun _ _ v _ => (v, none), preNodeHandle := fun _ v _ => (v, none) }

example : NoHandlers noH := ⟨fun _ _ _ _ => rfl, fun _ _ _ => rfl⟩
example : Rel exR2 (initMgr exR2 false) := initMgr_rel _ _
example : ChansOK exR2.dag (initMgr exR2 false).channels := initMgr_ok exR2 false (by decide)
example : SuccClosed (initMgr exR2 false) := initMgr_closed exR2 false (by unfold RunnerClosed; decide)

/-- the branch at `a` deselects `b`: `b` becomes skipped, END learns that `b` is skipped and keeps waiting for `c` -/
example : (match channelManager_reportBranch (TransDag.extOf natOps 0) noH 10 (initMgr exR2 false) "a" ["b"] with
    | .ret (c', none) => (toChans c'.channels).map (fun p => (p.1, p.2.skipped, p.2.ctrl))
    | _ => []) =
    [("a", false, [("start", Dep.waiting)]), ("b", true, [("a", Dep.skipped)]), ("c", false, [("a", Dep.waiting)]),
     ("end", false, [("b", Dep.skipped), ("c", Dep.waiting)])] := by decide

/-- both ends deselected: END becomes skipped — the error "unknown node" (Go pops b, c, end) -/
example : (match channelManager_reportBranch (TransDag.extOf natOps 0) noH 10 (initMgr exR2 false) "a" ["b", "c"] with
    | .ret (_, some (GoErr.mk s)) => s
    | _ => "") = "unknown node: %s" := by decide

/-- the Go work list of that call reaches the error with fuel 10: the list grows to b, c, end, end (`end` is
    listed twice among the successors of `c`), and the pop of the first `end` is the "unknown node" error -/
example : (match goReportBranch exR2 10 (initChans exR2) "a" ["b", "c"] with
    | some (.error e) => e.cls == ErrClass.endSkipped
    | _ => false) = true := by decide

/-- a missing channel: the nil dereference is explicit -/
example : (match channelManager_reportBranch (TransDag.extOf natOps 0) noH 10 (initMgr exR2 false) "a" ["nope"] with
    | .panic => true
    | _ => false) = true := by decide

/-- one step of the engine through the translated `updateAndGet`: START's value reaches `a` -/
example : (match channelManager_updateAndGet (TransDag.extOf natOps 0) noH (initMgr exR2 false)
      [("a", [("start", 7)])] [("a", ["start"])] with
    | .ret r => r.2.1
    | .panic => []) = [("a", 7)] := by decide

/-- why `SkipClosed` is a hypothesis: `s` (control predecessor `a`, data-only predecessor `b`) was skipped and
    told `t`; then `t` ran (its other predecessor `u` finished) and was reset; now `b` is skipped.  Go's
    `reportSkip(s, [b])` returns true again, `s` is popped a second time and marks `t`'s (reset) entry for `s`
    skipped; the model does not pop `s` again.  (No later `get` of `t` is affected in an acyclic graph: `u`
    never completes again.) -/
def exR3 : Runner Nat :=
  { nodes := [{ key := "b", act := fun v => .ok v, writeTo := ["s"] },
              { key := "s", act := fun v => .ok v, writeTo := ["t"], controls := ["t"] },
              { key := "t", act := fun v => .ok v, writeTo := ["end"], controls := ["end"] }],
    start := { key := "start", act := fun v => .ok v },
    dataPreds := [], ctrlPreds := [], maxSteps := 0, dag := true }

def exCm3 : Chans Nat :=
  [("b", { ctrl := [("x", Dep.waiting)] }),
   ("s", { ctrl := [("a", Dep.skipped)], data := [("a", true), ("b", false)], skipped := true }),
   ("t", { ctrl := [("s", Dep.waiting), ("u", Dep.waiting)] }),
   ("end", { ctrl := [("t", Dep.waiting)] })]

def ctrlOfT (cm : Chans Nat) : List (Key × Dep) := ((alookup "t" cm).map (·.ctrl)).getD []

example : (match goReportBranch exR3 10 exCm3 "x" ["b"] with
    | some (.ok cm) => ctrlOfT cm | _ => []) = [("s", Dep.skipped), ("u", Dep.waiting)] := by decide
example : (match reportBranch exR3 exCm3 "x" ["b"] with
    | .ok cm => ctrlOfT cm | _ => []) = [("s", Dep.waiting), ("u", Dep.waiting)] := by decide

end TranslatedManager

/-! ### The translated step function (compose/graph_run.go → Gen/TransStep.lean; gotrans phase 4)

  `copyItem`, `runner.calculateBranch`, `resolveCompletedTasks`, `createTasks`, `calculateNextTasks` are
  re-translated from /repo on every run (value mode; structs `task`, `chanCall`, `GraphBranch`, `runner` by
  value; `cm *channelManager` as an in/out parameter; every slice index / slice expression with an explicit
  bounds guard whose failure is the outcome `GoOutcome.panic`).  The theorems below say that for
  `isStream = false` the translated functions compute the model's `calcBranch`, `resolve`, `calcNext` — the
  step function the run-level theorems of this property stand on (`run_at_most_once`, `run_justified`,
  `run_complete`, schedule independence) — and never return `.panic` / `.unspecified`.

  Relations / hypotheses (Proofs/TransStep.lean):
    `BranchRel`, `CallRel`, `TaskRel`   a translated GraphBranch / chanCall / completed task is the model's
                   Branch / Node / completed task: end nodes in the map's stored order (so every stored order
                   of `endNodes` is covered by the model's arbitrary list `ends`), writeTo, controls, and the
                   external `branch.invoke` is the model's condition followed by the end-node check
    `MgrInv r c`   the hypotheses of the translated channel manager (`Rel`, `ChansOK`, `SuccClosed`, the skip
                   invariants, the model's fuel bound) — kept by `calculateBranch` / `resolveCompletedTasks`
    `CallsClosed`, `SubsOK`   every successor of a node that can complete has a channel; every channel but END
                   has a `chanSubscribeTo` entry (what `compile` builds)
    `NoBranchHandlers`, `NoHandlers`   the handler managers (externals) are the identity
    fuel           Go's `reportBranch` loop has no fuel; the translated one terminates on acyclic graphs:
                   "there is N such that for every fuel ≥ N" (N depends on the model state only)
  Orders: the list handed to `reportBranch` and the created tasks are *equal* to the model's lists (not only
  up to permutation): Go's map `skippedNodes` is filled in branch order × stored end-node order and
  deletions keep the order of the rest, which is the model's `skippedOf`; the created tasks follow the
  stored order of the ready map, which is the model's `getReady` order. -/
section TranslatedStep
open EinoV.GoSem EinoV.TransMgr EinoV.TransStep EinoV.GoWorkList EinoV.Gen.TransMgr EinoV.Gen.TransStep
variable {V : Type} [Inhabited V]

theorem translated_step_source_is_current : FactsC02.stepFunctionTranslated = true := by decide

theorem translated_copyItem_refines (ext : Ext V) (mext : MgrExt V) (sext : StepExt V) (item : V) (n : Int) :
    copyItem ext mext sext item n = .ret (if n < 2 then [item] else List.replicate n.toNat item) :=
  copyItem_spec ext mext sext item n

/-- `delete(m, k)` (`GoMap.erase` of `Model/GoSemStep.lean`) is removal from the model's association list -/
theorem translated_delete_is_assoc_removal {α : Type} (m : GoMap α) (k k' : Key) :
    alookup k' (m.erase k) = if k' == k then none else alookup k' m :=
  alookup_erase m k k'

/-- **`calculateBranch` refines `calcBranch`.**  For every model state `cm` there is a fuel from which on, for
    every manager representing `cm`, the translated function returns the model's selected keys and channels
    (the copies it was handed unchanged), or an error exactly when the model fails. -/
theorem translated_calculateBranch_refines (ext : Ext V) (mext : MgrExt V) (sext : StepExt V) (r : Runner V)
    (gr : runner V) (cm : Chans V) (n : Node V) (out : V) (rank : Key → Nat)
    (hacyc : r.dag = true → ∀ n ∈ r.nodes, ∀ s ∈ n.successors, rank n.key < rank s)
    (hE : NoBranchHandlers sext) :
    ∃ N, ∀ (c : channelManager V) (cc : chanCall V) (fuel : Nat), N ≤ fuel → toChans c.channels = cm →
      MgrInv r c → CallRel sext cc n →
      (∀ b ∈ n.branches, ∀ e ∈ b.ends, c.channels.has e = true) →
      match calcBranch r cm n out with
      | .ok (cm', sel) => ∃ c',
          (∀ m, cc.writeToBranches.length ≤ m →
            runner_calculateBranch ext mext sext fuel gr n.key cc (List.replicate m out) false c
              = .ret (List.replicate m out, c', sel, none)) ∧
          toChans c'.channels = cm' ∧ Frame c c' ∧ MgrInv r c' ∧ (n.branches = [] → sel = [])
      | .error _ => ∃ c' e, ∀ m, cc.writeToBranches.length ≤ m →
          runner_calculateBranch ext mext sext fuel gr n.key cc (List.replicate m out) false c
            = .ret (List.replicate m out, c', [], some e) :=
  calculateBranch_refines ext mext sext r gr cm n out rank hacyc hE

theorem translated_resolveCompletedTasks_refines (ext : Ext V) (mext : MgrExt V) (sext : StepExt V)
    (r : Runner V) (gr : runner V) (rank : Key → Nat)
    (hacyc : r.dag = true → ∀ n ∈ r.nodes, ∀ s ∈ n.successors, rank n.key < rank s)
    (hE : NoBranchHandlers sext) (ts : List (task V)) (ds : List (Done V))
    (hrel : ListRel (TaskRel sext r) ts ds) (cm : Chans V) :
    ∃ N, ∀ fuel, N ≤ fuel → ∀ c, toChans c.channels = cm → MgrInv r c → EndsClosed r c →
      match resolve r cm ds with
      | .ok res => ∃ c', runner_resolveCompletedTasks ext mext sext fuel gr ts false c
            = .ret (c', res.writes, res.deps, none) ∧
          toChans c'.channels = res.cm ∧ Frame c c' ∧ MgrInv r c'
      | .error _ => ∃ c' e, runner_resolveCompletedTasks ext mext sext fuel gr ts false c
            = .ret (c', [], [], some e) :=
  resolveCompletedTasks_refines ext mext sext r gr rank hacyc hE ts ds hrel cm

/-- `createTasks`: one task per ready node, in the stored order of the map -/
theorem translated_createTasks_refines (ext : Ext V) (mext : MgrExt V) (sext : StepExt V) (gr : runner V)
    (nm : GoMap V) (om : GoMap (List V)) (h : ∀ p ∈ nm, gr.chanSubscribeTo.has p.1 = true) :
    runner_createTasks ext mext sext gr nm om = (nm.map (mkTask gr), none) :=
  createTasks_spec ext mext sext gr nm om h

/-- **`calculateNextTasks` refines `calcNext`** — the model's step function is what the code computes. -/
theorem translated_calculateNextTasks_refines (ops : ValOps V) (es : V) (mext : MgrExt V) (sext : StepExt V)
    (r : Runner V) (gr : runner V) (rank : Key → Nat)
    (hacyc : r.dag = true → ∀ n ∈ r.nodes, ∀ s ∈ n.successors, rank n.key < rank s)
    (hE : NoBranchHandlers sext) (hM : NoHandlers mext)
    (ts : List (task V)) (ds : List (Done V)) (hrel : ListRel (TaskRel sext r) ts ds) (cm : Chans V) :
    ∃ N, ∀ fuel, N ≤ fuel → ∀ c om, toChans c.channels = cm → c.isStream = false → MgrInv r c →
      CallsClosed r c → SubsOK gr c →
      match calcNext (TransDag.opsFor ops es false) r cm ds with
      | .ok (cm3, .result v) => ∃ c',
          runner_calculateNextTasks (TransDag.extOf ops es) mext sext fuel gr ts false c om = .ret (c', [], v, none) ∧
          toChans c'.channels = cm3 ∧ Frame c c' ∧ ChansOK r.dag c'.channels
      | .ok (cm3, .tasks ready) => ∃ c',
          runner_calculateNextTasks (TransDag.extOf ops es) mext sext fuel gr ts false c om
            = .ret (c', ready.map (mkTask gr), default, none) ∧
          toChans c'.channels = cm3 ∧ Frame c c' ∧ ChansOK r.dag c'.channels
      | .error _ => ∃ c' e,
          runner_calculateNextTasks (TransDag.extOf ops es) mext sext fuel gr ts false c om
            = .ret (c', [], default, some e) :=
  calculateNextTasks_refines ops es mext sext r gr rank hacyc hE hM ts ds hrel cm

/-- the step function never leaves the translated semantics (no nil dereference, no index / slice bound
    violated, no assignment into a nil map, nothing Go leaves unspecified) -/
theorem translated_step_total (ops : ValOps V) (es : V) (mext : MgrExt V) (sext : StepExt V)
    (r : Runner V) (gr : runner V) (rank : Key → Nat)
    (hacyc : r.dag = true → ∀ n ∈ r.nodes, ∀ s ∈ n.successors, rank n.key < rank s)
    (hE : NoBranchHandlers sext) (hM : NoHandlers mext)
    (ts : List (task V)) (ds : List (Done V)) (hrel : ListRel (TaskRel sext r) ts ds) (cm : Chans V) :
    ∃ N, ∀ fuel, N ≤ fuel → ∀ c om, toChans c.channels = cm → c.isStream = false → MgrInv r c →
      CallsClosed r c → SubsOK gr c →
      ∃ res, runner_calculateNextTasks (TransDag.extOf ops es) mext sext fuel gr ts false c om = .ret res :=
  step_total ops es mext sext r gr rank hacyc hE hM ts ds hrel cm

/-- the manager hypotheses hold for what `initChannelManager` builds, for every runner whose successors (of
    the nodes and of START) are nodes or END; `MgrInv` is returned again by `calculateBranch` /
    `resolveCompletedTasks` for the new manager -/
theorem translated_step_hypotheses_hold (r : Runner V) (s : Bool) (hnd : (akeys (initChans r)).Nodup)
    (hc : RunnerClosed r) (hs : ∀ k ∈ r.start.successors, k ∈ akeys (initChans r)) :
    MgrInv r (initMgr r s) ∧ CallsClosed r (initMgr r s) ∧ toChans (initMgr r s).channels = initChans r :=
  step_hypotheses_hold r s hnd hc hs

/-! non-vacuity: the runner `exR2` (a → branch {b, c}; b, c → end), its translated twin, one step -/

def exBrA : GraphBranch Nat := { endNodes := [("b", true), ("c", true)], idx := 0 }
def exCallStart : chanCall Nat := { writeTo := ["a"], writeToBranches := [], controls := ["a"] }
def exCallA : chanCall Nat := { writeTo := [], writeToBranches := [exBrA], controls := [] }
def exCallBC : chanCall Nat := { writeTo := ["end"], writeToBranches := [], controls := ["end"] }
def exGr : runner Nat := { chanSubscribeTo := [("a", exCallA), ("b", exCallBC), ("c", exCallBC)] }
def exSext : StepExt Nat :=
  { branchInvoke := fun _ _ => (["c"], none), branchCollect := fun _ _ => (["c"], none),
    preBranchHandle := fun _ _ v _ => (v, none) }

example : NoBranchHandlers exSext := fun _ _ _ _ => rfl
example : BranchRel exSext exBrA { ends := ["b", "c"], cond := fun _ => .ok ["c"] } :=
  ⟨rfl, fun _ ws h => by simp [brSel, bind, Except.bind, pure, Except.pure] at h; subst h; rfl,
   fun _ e h => by simp [brSel, bind, Except.bind, pure, Except.pure] at h⟩
example : MgrInv exR2 (initMgr exR2 false) ∧ CallsClosed exR2 (initMgr exR2 false) :=
  let h := step_hypotheses_hold exR2 false (by decide) (by unfold RunnerClosed; decide) (by decide)
  ⟨h.1, h.2.1⟩

/-- START completed with 7: the translated step function hands `a` its input -/
example : (match runner_calculateNextTasks (TransDag.extOf natOps 0) noH exSext 10 exGr
      [{ nodeKey := "start", call := exCallStart, input := 7, output := 7 }] false (initMgr exR2 false) [] with
    | .ret r => r.2.1.map (fun t => (t.nodeKey, t.input))
    | _ => []) = [("a", 7)] := by decide

/-- `a` completed on the initial manager: the branch selects `c`; `b` is reported skipped, `c` is started
    — the same tasks as the model's `calcNext` -/
example : (match runner_calculateNextTasks (TransDag.extOf natOps 0) noH exSext 10 exGr
      [{ nodeKey := "a", call := exCallA, input := 7, output := 7 }] false (initMgr exR2 false) [] with
    | .ret r => r.2.1.map (fun t => (t.nodeKey, t.input))
    | _ => []) = [("c", 7)] := by decide
example : (match calcNext natOps exR2 (initChans exR2) [("a", 7)] with
    | .ok (_, .tasks ts) => ts
    | _ => []) = [("c", 7)] := by decide

/-- the bounds guards are live: `calculateBranch` handed fewer copies than there are branches returns Go's
    "unreachable" error, and an index beyond the copies is the explicit outcome panic -/
example : (match runner_calculateBranch (TransDag.extOf natOps 0) noH exSext 10 exGr "a" exCallA [] false (initMgr exR2 false) with
    | .ret r => r.2.2.2.isSome
    | _ => false) = true := by decide
example : goIdx? [1, 2, 3] 3 = none ∧ goIdx? [1, 2, 3] (-1) = none ∧ goSlice? [1, 2, 3] 2 4 = none ∧
    goSlice? [1, 2, 3] 1 3 = some [2, 3] := by decide

end TranslatedStep

/-! ### The translated table-building code (Gen/TransTab.lean; gotrans phase 5)

  What the translated functions of phases 2–4 READ is built by code that is translated too:
  `dagChannelBuilder` / `pregelChannelBuilder` (the initial channel state), the func type `chanBuilder` as a
  source-checked closed sum, `getSuccessors`, `(*runner).initChannelManager`, and — as a *fragment*, the
  statements from `dataPredecessors := make(map[string][]string)` up to the one before
  `inputChannels := &chanCall{…}` — the part of `(*graph).compile` that builds `dataPredecessors` /
  `controlPredecessors`.  The theorems say: the fragment computes the predecessor tables of the model's
  `compile` (Model/GraphBuild.lean); the builders compute `Chan.init`; `initChannelManager` returns exactly
  the manager `initMgr r s` for which `Rel` / `ChansOK` (phase 2) and `MgrInv` / `CallsClosed` (phase 4) are
  proved — so these hypotheses hold for the manager the SOURCE builds.

  Orders.  Go ranges over the maps `g.controlEdges`, `g.dataEdges`, `g.branches` and `branch.endNodes`; the
  model folds over lists.  The theorems are equalities for every stored order: the model's lists are the
  flattened maps *in their stored order* (`flatEdges`, `flatBranches`, `ends = akeys endNodes`), and every
  theorem about the model holds for all lists.  Nothing is proved "up to permutation". -/
section TranslatedTables
open EinoV.GoSem EinoV.TransMgr EinoV.TransStep EinoV.TransTab EinoV.Gen.TransMgr EinoV.Gen.TransTab
variable {V : Type} [Inhabited V]

theorem translated_tables_source_is_current : FactsC02.tablesTranslated = true := by decide

/-- the fragment of `graph.compile`: the model's folds over the flattened edge / branch maps -/
theorem translated_compile_predecessors_refines (ext : Ext V) (mext : MgrExt V) (g : graph V) :
    graph_compile_predecessors ext mext g =
      ((flatBranches g.branches).foldl (fun m b =>
          if b.2.noDataFlow then m else (akeys b.2.endNodes).foldl (fun m e => addPred m e b.1) m)
        ((flatEdges g.dataEdges).foldl (fun m e => addPred m e.2 e.1) []),
       (flatBranches g.branches).foldl (fun m b => (akeys b.2.endNodes).foldl (fun m e => addPred m e b.1) m)
        ((flatEdges g.controlEdges).foldl (fun m e => addPred m e.2 e.1) [])) :=
  compile_predecessors_spec ext mext g

theorem translated_compile_predecessors_is_model (ext : Ext V) (mext : MgrExt V) (slack : Nat) (gd : GraphDef V)
    (g : graph V) (hce : flatEdges g.controlEdges = gd.edges) (hde : flatEdges g.dataEdges = gd.edges)
    (hbr : ListRel BrTabRel (flatBranches g.branches) gd.branches) :
    graph_compile_predecessors ext mext g = ((compile slack gd).dataPreds, (compile slack gd).ctrlPreds) :=
  compile_predecessors_model ext mext slack gd g hce hde hbr

/-- the model's tables have one entry per key: they are Go maps -/
theorem translated_model_tables_are_maps (slack : Nat) (g : GraphDef V) :
    (akeys (compile slack g).dataPreds).Nodup ∧ (akeys (compile slack g).ctrlPreds).Nodup :=
  compile_tables_nodup slack g

theorem translated_getSuccessors_refines (ext : Ext V) (mext : MgrExt V) (c : chanCall V) (n : Node V)
    (hw : c.writeTo = n.writeTo) (hc : c.controls = n.controls)
    (hb : c.writeToBranches.map (fun b => akeys b.endNodes) = n.branches.map (·.ends)) :
    getSuccessors ext mext c = .ret n.successors :=
  getSuccessors_is_successors ext mext c n hw hc hb

theorem translated_channelBuilders_refine (ext : Ext V) (mext : MgrExt V) (cp dp : List String) :
    chanOf (dagChannelBuilder ext mext cp dp) = Chan.init true cp dp ∧
    chanOf (pregelChannelBuilder ext mext cp dp) = Chan.init false cp dp ∧
    ChWF (dagChannelBuilder ext mext cp dp) := by
  refine ⟨?_, ?_, dagChannelBuilder_wf ext mext cp dp⟩
  · rw [dagChannelBuilder_spec]; exact chanOf_ofChanR_init true cp dp
  · rw [pregelChannelBuilder_spec]; exact chanOf_ofChanR_init false cp dp

theorem translated_initChannelManager_is_initMgr (ext : Ext V) (mext : MgrExt V) (gr : runner V) (r : Runner V)
    (s : Bool) (h : TabRel gr r) (hnd : (akeys (initChans r)).Nodup)
    (hdk : (akeys r.dataPreds).Nodup) (hck : (akeys r.ctrlPreds).Nodup) :
    runner_initChannelManager ext mext gr s = .ret (initMgr r s) :=
  initChannelManager_is_initMgr ext mext gr r s h hnd hdk hck

theorem translated_init_hypotheses_from_source (ext : Ext V) (mext : MgrExt V) (gr : runner V) (r : Runner V)
    (s : Bool) (h : TabRel gr r) (hnd : (akeys (initChans r)).Nodup)
    (hdk : (akeys r.dataPreds).Nodup) (hck : (akeys r.ctrlPreds).Nodup)
    (hc : RunnerClosed r) (hs : ∀ k ∈ r.start.successors, k ∈ akeys (initChans r)) :
    ∃ c, runner_initChannelManager ext mext gr s = .ret c ∧ c.isStream = s ∧
      MgrInv r c ∧ CallsClosed r c ∧ toChans c.channels = initChans r :=
  init_hypotheses_from_source ext mext gr r s h hnd hdk hck hc hs

/-- the successors fragment of `graph.compile` (`successors := make(…)` … before `r.successors = successors`;
    the local `r` is a parameter): one entry per registered node, in stored order, holding `getSuccessors` -/
theorem translated_compile_successors_refines (ext : Ext V) (mext : MgrExt V) (g : graph V) (r : runner V)
    (hn : (akeys r.chanSubscribeTo).Nodup) :
    graph_compile_successors ext mext g r = .ret (r.chanSubscribeTo.map (fun p => (p.1, succOf p.2))) :=
  compile_successors_spec ext mext g r hn

/-- … which is the `successors` table `TabRel` asks for when every `chanCall` is the model's node of its key -/
theorem translated_compile_successors_is_model (ext : Ext V) (mext : MgrExt V) (g : graph V) (r : runner V)
    (nodes : List (Node V)) (hn : (akeys r.chanSubscribeTo).Nodup)
    (hrel : ListRel (fun (p : Key × chanCall V) (n : Node V) => p.1 = n.key ∧ p.2.writeTo = n.writeTo ∧
      p.2.controls = n.controls ∧ p.2.writeToBranches.map (fun b => akeys b.endNodes) = n.branches.map (·.ends))
      r.chanSubscribeTo nodes) :
    graph_compile_successors ext mext g r = .ret (nodes.map (fun n => (n.key, n.successors))) :=
  compile_successors_model ext mext g r nodes hn hrel

/-! non-vacuity: the Go maps of the graph `exR2` (start → a; a → branch {b, c}; b, c → end) -/

def exTabBr : GraphBranch Nat := { endNodes := [("b", true), ("c", true)], noDataFlow := false }
def exTabG : graph Nat :=
  { controlEdges := [("start", ["a"]), ("b", ["end"]), ("c", ["end"])],
    dataEdges := [("start", ["a"]), ("b", ["end"]), ("c", ["end"])],
    branches := [("a", [exTabBr])] }

/-- the translated fragment on these maps gives the tables of `exR2` (edges first, then branch ends) -/
example : graph_compile_predecessors (TransDag.extOf natOps 0) noH exTabG =
    ([("a", ["start"]), ("end", ["b", "c"]), ("b", ["a"]), ("c", ["a"])],
     [("a", ["start"]), ("end", ["b", "c"]), ("b", ["a"]), ("c", ["a"])]) := by decide

/-- a control-only branch (`noDataFlow`) is recorded in the control table only -/
example : graph_compile_predecessors (TransDag.extOf natOps 0) noH
    { exTabG with branches := [("a", [{ exTabBr with noDataFlow := true }])] }
    = ([("a", ["start"]), ("end", ["b", "c"])],
       [("a", ["start"]), ("end", ["b", "c"]), ("b", ["a"]), ("c", ["a"])]) := by decide

def exTabR : runner Nat :=
  { chanSubscribeTo := [("a", { writeTo := [], writeToBranches := [exTabBr], controls := [] }),
                        ("b", { writeTo := ["end"], writeToBranches := [], controls := ["end"] }),
                        ("c", { writeTo := ["end"], writeToBranches := [], controls := ["end"] })],
    successors := exR2.nodes.map (fun n => (n.key, n.successors)),
    dataPredecessors := exR2.dataPreds, controlPredecessors := exR2.ctrlPreds,
    chanBuilder := .of_dagChannelBuilder }

example : TabRel exTabR exR2 := ⟨by decide, rfl, rfl, rfl, ⟨fun _ => rfl, fun h => by simp [exR2] at h⟩⟩

/-- the translated `initChannelManager` on this runner: channels a, b, c, end with the model's initial state -/
example : (match runner_initChannelManager (TransDag.extOf natOps 0) noH exTabR false with
    | .ret c => (toChans c.channels).map (fun p => (p.1, p.2.ctrl, p.2.data))
    | _ => []) =
    [("a", [("start", Dep.waiting)], [("start", false)]), ("b", [("a", Dep.waiting)], [("a", false)]),
     ("c", [("a", Dep.waiting)], [("a", false)]),
     ("end", [("b", Dep.waiting), ("c", Dep.waiting)], [("b", false), ("c", false)])] := by decide

/-- the successors fragment on this runner is the table it carries -/
example : (match graph_compile_successors (TransDag.extOf natOps 0) noH exTabG exTabR with
    | .ret t => t
    | _ => []) = exTabR.successors := by decide

/-- a nil builder is the pregel builder; a call of a nil func value would be the explicit outcome panic -/
example : (chanBuilder_call (V := Nat) (TransDag.extOf natOps 0) noH .nil [] []).isNone = true := by decide

end TranslatedTables

end EinoV.C02
