/-
  C20 — Ill-formed graphs are rejected deterministically; compiled graphs are immutable.
  Property theorems.  Model: EinoV/Model/C20Builder.lean (shared with C07), with C20Wf.lean
  (Workflow API, graphs as nodes), C20Nest.lean, C20Keys.lean, C20Static.lean, C20Dup.lean on top.
  Source facts: EinoV/Gen/FactsC20.lean (regenerated from /repo on every run).
-/
import EinoV.Model.C20Builder
import EinoV.Proofs.C20
import EinoV.Proofs.C20Ends
import EinoV.Proofs.C20Kahn
import EinoV.Model.C20Wf
import EinoV.Proofs.C20Wf
import EinoV.Model.C20Nest
import EinoV.Proofs.C20Nest
import EinoV.Model.C20Keys
import EinoV.Proofs.C20Keys
import EinoV.Proofs.C20KeysTie
import EinoV.Proofs.C20Static
import EinoV.Proofs.C20Dup
import EinoV.Expected.C20Static
import EinoV.Gen.FactsC20
import EinoV.Expected.C20
import EinoV.Gen.TransC20
import EinoV.Proofs.TransKahn

namespace EinoV.C20
open EinoV.Gen EinoV.Build

/-- the model configuration read off the source: guards of the three Add* functions and
    whether `compile` assigns any builder field besides the `compiled` flag.  (The two
    addBranch facts belong to C07 and are taken at their expected value here.) -/
def srcFacts : Facts :=
  { nodeG := ⟨FactsC20.nodeCheckErrFirst, FactsC20.nodeCheckCompiledSecond, FactsC20.nodeDeferStoresErr⟩,
    edgeG := ⟨FactsC20.edgeCheckErrFirst, FactsC20.edgeCheckCompiledSecond, FactsC20.edgeDeferStoresErr⟩,
    branchG := ⟨FactsC20.branchCheckErrFirst, FactsC20.branchCheckCompiledSecond, FactsC20.branchDeferStoresErr⟩,
    branchGuarded := Expected.C20.facts.branchGuarded,
    branchPropagates := Expected.C20.facts.branchPropagates,
    compileMutates := FactsC20.compileAssigns != Expected.C20.compileAssigns,
    compileChecksTypes := FactsC20.compileChecksNodeTypes }

/-- Source fact tie: the regenerated facts are the ones the theorems below are proved for
    and the oracle runs with; the only error returned before the `defer` is installed is the
    noControl∧noData refusal of addEdgeWithMappings; compile returns the stored error first. -/
theorem facts_match :
    srcFacts = Expected.C20.facts ∧
    FactsC20.nodeUnstoredReturns = 0 ∧ FactsC20.edgeUnstoredReturns = 1 ∧
    FactsC20.branchUnstoredReturns = 0 ∧ FactsC20.compileReturnsStoredErrFirst = true ∧
    FactsC20.entryExitInControlBlock = Expected.C20.entryExitInControlBlock ∧
    FactsC20.wfBranchEndsChecked = Expected.C20.wfBranchEndsChecked ∧
    FactsC20.wfInputsReplayedInDeclaredOrder = Expected.C20.wfInputsReplayedInDeclaredOrder := by
  decide

theorem srcFacts_guarded : srcFacts.Guarded := by
  have h := facts_match.1
  rw [h]; exact ⟨rfl, rfl, rfl⟩

/-- **first_error_sticks.** In any call sequence, once an Add* call fails (with anything
    but the unstored noControl∧noData refusal), every later call – Add* or Compile – returns
    that very error value and changes nothing; no runner is produced. -/
theorem first_error_sticks (im : Impl) (ord : Ord) (b : Builder) (op : Op) (rest : List Op)
    (k : ErrKind) (hop : op.isCompile = false) (hk : k ≠ .edgeBothNo)
    (h : (step srcFacts im ord b op).2.1 = .fresh k) :
    let b1 := (step srcFacts im ord b op).1
    run srcFacts im ord b1 rest = (b1, rest.map (fun _ => .stored k), []) := by
  intro b1
  exact run_stored srcFacts srcFacts_guarded im ord b1 k
    (step_fresh_stores srcFacts srcFacts_guarded im ord b op hop k hk h) rest

/-- the stored error is also what every call returns when the builder already carries it -/
theorem stored_error_returned (im : Impl) (ord : Ord) (b : Builder) (k : ErrKind)
    (h : b.buildError = some k) (ops : List Op) :
    run srcFacts im ord b ops = (b, ops.map (fun _ => .stored k), []) :=
  run_stored srcFacts srcFacts_guarded im ord b k h ops

/-- **compiled_immutable.** After a successful Compile every Add* call returns
    `ErrGraphCompiled` and the builder state is unchanged. -/
theorem compiled_immutable (im : Impl) (ord : Ord) (b : Builder) (o : COpts)
    (h : (compile srcFacts ord b o).2.1 = .ok) (op : Op) (hop : op.isCompile = false) :
    let b1 := (compile srcFacts ord b o).1
    step srcFacts im ord b1 op = (b1, .compiled, none) := by
  intro b1
  have := compile_ok_flags srcFacts ord b o h
  exact step_compiled srcFacts srcFacts_guarded im ord b1 this.2.1 this.1 op hop

/-- one later call (Add* or another Compile) leaves every builder cell the runner aliases
    as it is -/
theorem later_step_keeps_aliased (im : Impl) (ord : Ord) (b : Builder)
    (he : b.buildError = none) (hc : b.compiled = true) (op : Op) :
    let b' := (step srcFacts im ord b op).1
    b'.aliased = b.aliased ∧ b'.buildError = none ∧ b'.compiled = true := by
  intro b'
  -- an Add* call is refused and changes nothing; Compile at most sets the flag again
  have hb : b' = b ∨ b' = b.setCompiled := by
    cases hop : op.isCompile
    · exact Or.inl (congrArg Prod.fst (step_compiled srcFacts srcFacts_guarded im ord b he hc op hop))
    · cases op with
      | compile o => exact compile_state srcFacts (by decide) ord b o
      | node n => cases hop
      | edge s e nc nd m => cases hop
      | branch s t ends sk => cases hop
  rcases hb with hb | hb <;> rw [hb]
  · exact ⟨rfl, he, hc⟩
  · exact ⟨rfl, he, rfl⟩

/-- **runnable_unaffected.** After a successful Compile, no sequence of later calls
    (Add* attempts, further Compiles) changes any builder-owned cell the runner holds a
    reference to (node table and types, edge lists, branches, the three handler maps); in
    particular the pre-node handler list the first runner uses stays what it was. -/
theorem runnable_unaffected (im : Impl) (ord : Ord) (b : Builder)
    (he : b.buildError = none) (hc : b.compiled = true) (ops : List Op) :
    (run srcFacts im ord b ops).1.aliased = b.aliased := by
  induction ops generalizing b with
  | nil => rfl
  | cons op ops ih =>
    have h1 := later_step_keeps_aliased im ord b he hc op
    simp only [run]
    rw [ih _ h1.2.1 h1.2.2]; exact h1.1

theorem first_runner_handlers_stable (im : Impl) (ord : Ord) (b : Builder) (o : COpts) (r : Runner)
    (h : (compile srcFacts ord b o).2.1 = .ok) (hr : (compile srcFacts ord b o).2.2 = some r)
    (ops : List Op) :
    let b1 := (compile srcFacts ord b o).1
    r.preNodeNow (run srcFacts im ord b1 ops).1 = r.preNode := by
  intro b1
  have hs : r.sharesPreNode = false := by
    rw [(compile_runner hr).2]; exact (by decide : srcFacts.compileMutates = false)
  simp [Runner.preNodeNow, hs]

section rejects
variable (im : Impl) (ord : Ord) (b : Builder) (he : b.buildError = none) (hc : b.compiled = false)
include he hc

/-- reserved node keys -/
theorem rejects_reserved_key (n : NodeSpec) (h : n.key = START ∨ n.key = END) :
    (addNode srcFacts b n).2 = .fresh .reserved := by
  refine addNode_refused he hc ?_
  unfold addNodeCheck; rcases h with h | h <;> simp [h]

/-- duplicate node keys -/
theorem rejects_duplicate_node (n : NodeSpec) (h : b.hasNode n.key = true)
    (h1 : n.key ≠ START) (h2 : n.key ≠ END) :
    (addNode srcFacts b n).2 = .fresh .dupNode := by
  refine addNode_refused he hc ?_
  unfold addNodeCheck; simp [h, h1, h2]

/-- state handlers on a graph without state -/
theorem rejects_handler_without_state (n : NodeSpec) (hs : b.stateTy = none)
    (hh : n.pre.isSome = true ∨ n.post.isSome = true)
    (h0 : b.hasNode n.key = false) (h1 : n.key ≠ START) (h2 : n.key ≠ END) :
    (addNode srcFacts b n).2 = .fresh .needState := by
  refine addNode_refused he hc ?_
  unfold addNodeCheck; rcases hh with hh | hh <;> simp [h0, h1, h2, hs, hh]

/-- invalid option: WithNodeKey outside a chain -/
theorem rejects_node_key_option (n : NodeSpec) (hk : n.nodeKeyOpt = true) (hcmp : b.cmp ≠ .chain) :
    ∃ k, (addNode srcFacts b n).2 = .fresh k := by
  cases hr : addNodeCheck b n with
  | some k => exact ⟨k, addNode_refused he hc hr⟩
  | none => exact absurd (addNodeCheck_nodeKeyOpt hr hk) hcmp

/-- edges naming a node that was never added (either end) -/
theorem rejects_unknown_edge_node (s e : Key) (m : Option Nat)
    (h : (b.hasNode s = false ∧ s ≠ START) ∨ (b.hasNode e = false ∧ e ≠ END)) :
    ∃ k, (addEdge srcFacts im ord b s e false false m).2 = .fresh k := by
  cases hr : addEdgeBody im ord b s e false false m with
  | error k => exact ⟨k, addEdge_refused he hc rfl hr⟩
  | ok b' =>
    -- an accepted edge names known nodes
    obtain ⟨b1, h1, -⟩ := addEdgeBody_accepted hr
    obtain ⟨-, -, hs, he', -⟩ := edgeHead_accepted h1
    rcases h with ⟨h1, h2⟩ | ⟨h1, h2⟩
    · exact absurd (hs h1) h2
    · exact absurd (he' h1) h2

/-- duplicate edges -/
theorem rejects_duplicate_edge (s e : Key) (m : Option Nat)
    (h : (s, e) ∈ b.controlEdges) :
    ∃ k, (addEdge srcFacts im ord b s e false false m).2 = .fresh k := by
  obtain ⟨k, hk⟩ := addEdgeBody_dup im ord b s e false false m (Or.inl ⟨rfl, h⟩)
  exact ⟨k, addEdge_refused he hc rfl hk⟩

/-- single-target branches (and branches from an unknown node / END) -/
theorem rejects_single_target_branch (s : Key) (t : Ty) (e : Key) (sk : Bool) :
    ∃ k, (addBranch srcFacts im ord b s t [e] sk).2 = .fresh k := by
  cases hr : addBranchBody srcFacts im ord b s t [e] sk with
  | error k => exact ⟨k, addBranch_refused he hc hr⟩
  | ok b' => exact absurd rfl (addBranchBody_accepted hr).2.2.1

theorem rejects_branch_unknown_start (s : Key) (t : Ty) (ends : List Key) (sk : Bool)
    (h : b.hasNode s = false) (h1 : s ≠ START) :
    ∃ k, (addBranch srcFacts im ord b s t ends sk).2 = .fresh k := by
  cases hr : addBranchBody srcFacts im ord b s t ends sk with
  | error k => exact ⟨k, addBranch_refused he hc hr⟩
  | ok b' => exact absurd ((addBranchBody_accepted hr).2.1 h) h1

omit hc in
/-- Compile: missing entry edge, missing exit edge, a pass-through node whose type could not
    be inferred (a pending edge between untyped nodes, or a node nothing ever touched), and
    the invalid option combinations – each is an error (and, Compile being side-effect free on
    failure, the same error on every retry). -/
theorem rejects_at_compile (o : COpts)
    (h : b.startNodes = [] ∨ b.endNodes = [] ∨ b.hasPending = true ∨
         b.hasUntyped = true ∨
         ((b.cmp = .chain ∨ b.cmp = .workflow) ∧ o.trigger ≠ .unset) ∨
         (b.cmp ≠ .workflow ∧ o.getState = true)) :
    ∃ k, compile srcFacts ord b o = (b, .fresh k, none) := by
  refine compile_refused (by decide) (by decide) he (Or.inl fun hp => ?_)
  -- past the checks none of the six holds
  obtain ⟨h1, h2, h3, h4, h5, h6, -⟩ := compilePre_eq_none.mp hp
  rcases h with h | h | h | h | ⟨h, h'⟩ | ⟨h, h'⟩
  · exact absurd h h3
  · exact absurd h h4
  · rw [h5] at h; cases h
  · rw [h6 (by decide)] at h; cases h
  · exact absurd (h1 h) h'
  · rw [h2 h] at h'; cases h'

omit he hc in
theorem compilePre_typed (o : COpts) (hp : compilePre srcFacts b o = none) : b.hasUntyped = false := by
  exact (compilePre_eq_none.mp hp).2.2.2.2.2.1 (by decide)

omit hc in
/-- Compile in all-predecessor mode: a control graph Kahn's loop cannot exhaust, or a step
    limit, is an error -/
theorem rejects_dag_violations (o : COpts) (hd : isDag b o = true)
    (h : validateDAG b ord = false ∨ o.maxSteps > 0) (hp : compilePre srcFacts b o = none) :
    ∃ k, compile srcFacts ord b o = (b, .fresh k, none) := by
  refine compile_refused (by decide) (by decide) he (Or.inr fun hr => ?_)
  -- past these checks the graph is a DAG and there is no step limit
  obtain ⟨h1, -, h3⟩ := compilePost_eq_none.mp hr
  rcases h with h | h
  · rw [h1 hd] at h; cases h
  · rw [h3 hd] at h; cases h

end rejects

/-- **outcome_order_free.**  Go iterates `g.toValidateMap` in a random order every time
    `updateToValidateMap` runs (once per AddEdge, several times per AddBranch),
    `branch.endNodes` in a random order in every AddBranch, and the counter map of
    `validateDAG` in a random order at Compile; the inferred pass-through types, the pending
    entries and therefore every later accept/reject decision depend on what those loops do.
    For every sequence of public Graph-API calls and any two iteration orders – arbitrary,
    state-dependent, independent for the three maps – every call has the same outcome class
    (ok / error / ErrGraphCompiled) in both runs. -/
theorem outcome_order_free (im : Impl) (ord ord' : Ord) (hv : ord.Valid) (hv' : ord'.Valid)
    (cmp : Cmp) (inT outT : Ty) (st : Option Nat) (ops : List Op)
    (hops : ∀ op ∈ ops, op.isGraphApi = true) :
    (run srcFacts im ord (Builder.new cmp inT outT st) ops).2.1.map Outcome.cls =
    (run srcFacts im ord' (Builder.new cmp inT outT st) ops).2.1.map Outcome.cls :=
  run_order_free srcFacts srcFacts_guarded (by decide) (by decide) (by decide) im ord ord' hv hv' ops _ _ hops
    (Or.inl ⟨Sim.refl _ rfl, Inv_new im cmp inT outT st, Inv_new im cmp inT outT st, KeysOK_new cmp inT outT st⟩)

/-- **kahn_sound_complete.**  Whatever order Go's map iteration takes, `validateDAG`
    answers "valid" exactly when every node can be scheduled: all its control predecessors
    (edge sources and branch starts, START excluded) can, inductively. -/
theorem kahn_sound_complete (b : Builder) (hk : KeysOK b) (ord : Ord) (hv : ord.Valid) :
    validateDAG b ord = true ↔ ∀ k ∈ b.nodes.map (·.key), Sched b k :=
  validateDAG_iff b hk ord hv.kahn

/-- **rejects_cycles.**  A node on a cycle of control edges / branch targets makes
    `validateDAG` answer "invalid" – Compile in all-predecessor mode then fails
    (`rejects_dag_violations`). -/
theorem rejects_cycles (b : Builder) (hk : KeysOK b) (ord : Ord) (hv : ord.Valid)
    (k : Key) (hkn : k ∈ b.nodes.map (·.key)) (hc : PredTC b k k) : validateDAG b ord = false := by
  rcases h : validateDAG b ord
  · rfl
  · exact absurd hc ((kahn_sound_complete b hk ord hv).mp h k hkn).no_cycle

/-- the decision whether `updateToValidateMap` fails, and the types it leaves behind, are
    functions of the state it starts from – for every iteration order (no agreement needed) -/
theorem inference_order_free (im : Impl) (ord ord' : Ord) (hv : ord.Valid) (hv' : ord'.Valid) (T : Ty)
    (b : Builder) (hw : WF b) (hq : Q b T) (hp : PN b) (he : b.buildError = none) :
    (update im ord b = .error .edgeMismatch ∧ update im ord' b = .error .edgeMismatch) ∨
    (∃ c c', update im ord b = .ok c ∧ update im ord' b = .ok c' ∧
       (∀ k, c'.nodeIn k = c.nodeIn k) ∧ (∀ k, c'.nodeOut k = c.nodeOut k) ∧
       (∀ s x, x ∈ getSlice c'.toValidate s ↔ x ∈ getSlice c.toValidate s)) := by
  rcases update_sim im ord ord' hv hv' T b b (Sim.refl b he) hw hw hq hp hp with h | ⟨c, c', h1, h2, hs⟩
  · exact Or.inl h
  · exact Or.inr ⟨c, c', h1, h2, hs.tin, hs.tout, hs.pend⟩

/-- **never a panic.** No call of the builder API, in any state, ends in a panic: every
    outcome is `ok`, an error value, or `ErrGraphCompiled`. -/
theorem never_panics (im : Impl) (ord : Ord) (b : Builder) (op : Op) :
    (step srcFacts im ord b op).2.1 ≠ .panic := by
  cases op with
  | node n => exact guarded_ne_panic _ _ _
  | edge s e nc nd m =>
    simp only [step, addEdge_eq_guarded]
    split <;> exact guarded_ne_panic _ _ _
  | branch s t ends sk => exact guarded_ne_panic _ _ _
  | compile o => exact compile_ne_panic srcFacts (by decide) ord b o

/-- a failed Compile changes nothing: retrying gives the same answer -/
theorem compile_retry_same (ord : Ord) (b : Builder) (o : COpts) (k : ErrKind)
    (h : (compile srcFacts ord b o).2.1 = .fresh k) :
    (compile srcFacts ord b o).1 = b := by
  rw [compile_fst srcFacts (by decide), h]; rfl

/-- how declarations are evaluated for the source at hand: the builder facts, and where
    `addEdgeWithMappings` records entry / exit edges -/
def srcEnv (im : Impl) (ord : Ord) : Env :=
  { f := srcFacts, inCtl := FactsC20.entryExitInControlBlock, im, ord }

theorem srcEnv_inCtl (im : Impl) (ord : Ord) : (srcEnv im ord).inCtl = true := facts_match.2.2.2.2.2.1

/-- **Source fact tie (entry / exit bookkeeping).**  With the two appends where the source has
    them – inside `if !noControl { … }` – `addEdgeWithMappings` is the function of the builder
    model: every theorem above speaks about the calls a declaration is lowered to. -/
theorem edge_bookkeeping_tie (im : Impl) (ord : Ord) (b : Builder) (op : Op) :
    stepK (srcEnv im ord) b op = step srcFacts im ord b op :=
  stepK_true (srcEnv im ord) (srcEnv_inCtl im ord) b op

/-- a data-only edge (`WithNoDirectDependency`) is neither an entry nor an exit edge -/
theorem data_only_edge_is_no_entry_or_exit (im : Impl) (ord : Ord) (b : Builder) (s e : Key) (nd : Bool)
    (m : Option Nat) :
    let b' := (stepK (srcEnv im ord) b (.edge s e true nd m)).1
    b'.startNodes = b.startNodes ∧ b'.endNodes = b.endNodes := by
  intro b'
  have h := addEdge_keeps srcFacts im ord b s e true nd m
  have e : b' = (addEdge srcFacts im ord b s e true nd m).1 := by
    simp only [b', edge_bookkeeping_tie, step]
  rw [e]
  exact ⟨h.1 (by simp), h.2.1 (by simp)⟩

/-- **rejects_workflow_without_entry_edge.**  A Workflow in which every input taken from START
    is declared `WithNoDirectDependency()` (no AddInput / AddDependency on START; the
    Workflow's branches, added with `skipData`, record no entry edge either) has no entry edge:
    every Compile of it, with any options, whatever sub-graphs it contains, is refused. -/
theorem rejects_workflow_without_entry_edge (im : Impl) (ord : Ord) (hv : ord.Valid) (chk : Bool) (d : WfDecl)
    (h : ∀ n ∈ d.nodes, ∀ i ∈ n.ins, i.src = START → i.kind = .indirect)
    (hE : ∀ i ∈ d.endIns, i.src = START → i.kind = .indirect) (cos : List COpts) :
    ∀ oc ∈ (d.lower chk).compiles (srcEnv im ord) cos, oc.isOk = false := by
  intro oc hoc
  simp only [Decl.compiles, WfDecl.lower, Decl.compilesX, List.mem_map] at hoc
  rcases hoc with ⟨r, hr, rfl⟩
  have hb := (build_keeps (srcEnv im ord) (srcEnv_inCtl im ord) hv (wfNodeOps d.nodes)
    (Builder.new .workflow d.inT d.outT d.stateTy)).1 (wfNodeOps_all _ (fun _ => rfl) d.nodes)
  exact compilesFrom_no_entry (srcEnv im ord) (srcEnv_inCtl im ord) hv _ _ _ (wf_guard_not_ok chk d)
    (fun op hop => (wf_branchOps_entry d op hop).1) cos _ _ (by rw [hb]; rfl)
    (wf_inputOps_entry d h hE) r hr

/-- **rejects_workflow_without_exit_edge.**  Likewise when END only takes
    `WithNoDirectDependency()` inputs (or none at all). -/
theorem rejects_workflow_without_exit_edge (im : Impl) (ord : Ord) (hv : ord.Valid) (chk : Bool) (d : WfDecl)
    (h : ∀ n ∈ d.nodes, n.key ≠ END) (hE : ∀ i ∈ d.endIns, i.kind = .indirect) (cos : List COpts) :
    ∀ oc ∈ (d.lower chk).compiles (srcEnv im ord) cos, oc.isOk = false := by
  intro oc hoc
  simp only [Decl.compiles, WfDecl.lower, Decl.compilesX, List.mem_map] at hoc
  rcases hoc with ⟨r, hr, rfl⟩
  have hb := (build_keeps (srcEnv im ord) (srcEnv_inCtl im ord) hv (wfNodeOps d.nodes)
    (Builder.new .workflow d.inT d.outT d.stateTy)).2.1 (wfNodeOps_all _ (fun _ => rfl) d.nodes)
  exact compilesFrom_no_exit (srcEnv im ord) (srcEnv_inCtl im ord) hv _ _ _ (wf_guard_not_ok chk d)
    (fun op hop => (wf_branchOps_entry d op hop).2) cos _ _ (by rw [hb]; rfl)
    (wf_inputOps_exit d h hE) r hr

/-- **rejects_workflow_options.**  `WithMaxRunSteps` (a Workflow always runs in all-predecessor
    mode) and `WithNodeTriggerMode` are invalid on a Workflow: its first Compile with such
    options is refused – also when the Workflow is a node of another graph, see
    `sub_graph_failure_rejects_parent`. -/
theorem rejects_workflow_options (im : Impl) (ord : Ord) (hv : ord.Valid) (chk : Bool) (d : WfDecl) (co : COpts)
    (ho : co.maxSteps > 0 ∨ co.trigger ≠ .unset) :
    (Decl.first (srcEnv im ord) (d.lower chk) co).isOk = false := by
  simp only [WfDecl.lower, Decl.first]
  have hb := (build_keeps (srcEnv im ord) (srcEnv_inCtl im ord) hv (wfNodeOps d.nodes)
    (Builder.new .workflow d.inT d.outT d.stateTy)).2.2 (wfNodeOps_all _ (fun _ => rfl) d.nodes)
  exact attempt_bad_options (srcEnv im ord) (srcEnv_inCtl im ord) hv _ _ _ co _ (wf_guard_not_ok chk d)
    (by have := congrArg Prod.snd hb; simp only at this; rw [this]; rfl) (wf_calls_noCompile d) ho

/-- **sub_graph_failure_rejects_parent.**  If the graph given to `AddGraphNode(key, child,
    WithGraphCompileOptions(co))` cannot be compiled with `co` – no entry edge, a step limit on
    a Workflow, a stored error, … – the first Compile of the declaring graph is refused too. -/
theorem sub_graph_failure_rejects_parent (im : Impl) (ord : Ord) (hv : ord.Valid)
    (cmp : Cmp) (inT outT : Ty) (st : Option Nat) (ops : DOps) (re once : List Op) (guard : Option Outcome)
    (hg : ∀ oc, guard = some oc → oc.isOk = false)
    (hops : ops.all (fun o => !o.isCompile) = true)
    (key : Key) (child : Decl) (co : COpts) (hs : DOps.hasSub key child co ops)
    (hchild : (Decl.first (srcEnv im ord) child co).isOk = false) (o : COpts) :
    (Decl.first (srcEnv im ord) (.mk cmp inT outT st ops re once guard) o).isOk = false := by
  simp only [Decl.first]
  unfold attempt
  split
  · rfl
  · rename_i hn
    split
    · rename_i oc; exact hg oc rfl
    · -- no error was stored, so the child's outcome is among those Compile looks at
      rcases build_sub (srcEnv im ord) srcFacts_guarded (srcEnv_inCtl im ord) hv key child co ops
        (Builder.new cmp inT outT st) hops rfl hs with h | h
      · exact absurd hn h
      · exact compileN_kid_fails _ _ _ _ _ _ h hchild

/-- `Decl.first` is the first element of `Decl.compiles`: what a parent sees of a sub-graph is
    what the first Compile of that graph would answer -/
theorem first_is_first_compile (E : Env) (d : Decl) (co : COpts) :
    d.compiles E [co] = [Decl.first E d co] := by
  cases d
  simp [Decl.compiles, Decl.compilesX, compilesFrom, Decl.first]

/-- Go compiles the sub-graph nodes in map order; accept / reject does not depend on it -/
theorem sub_graph_order_free (ord : Ord) (b : Builder) (o : COpts) (kids kids' : List Outcome)
    (hp : kids.Perm kids') :
    (compileN srcFacts ord b o kids).2.1.isOk = (compileN srcFacts ord b o kids').2.1.isOk :=
  compileN_perm srcFacts ord b o kids kids' hp

/-- **workflow_compile_never_panics_partial.**  Full statement: no Compile of a declared
    Workflow panics.  Proved for Workflows whose branches only name declared end nodes, or for a
    source in which `Workflow.compile` checks that lookup (fact `wfBranchEndsChecked`; the
    unrepaired source does not: `workflow_compile_panics_on_undeclared_branch_end`), given that
    none of its sub-graphs panics. -/
theorem workflow_compile_never_panics_partial (im : Impl) (ord : Ord) (d : WfDecl) (co : COpts)
    (h : FactsC20.wfBranchEndsChecked = true ∨ d.badBranchEnd = false)
    (hk : ∀ k ∈ (d.lower FactsC20.wfBranchEndsChecked).kidOutcomes (srcEnv im ord), k ≠ .panic) :
    Decl.first (srcEnv im ord) (d.lower FactsC20.wfBranchEndsChecked) co ≠ .panic := by
  simp only [WfDecl.lower, Decl.first, Decl.kidOutcomes] at hk ⊢
  unfold attempt
  split
  · simp
  · split
    · rename_i oc hoc
      unfold WfDecl.guard at hoc
      rcases h with h | h
      · simp only [h, ↓reduceIte] at hoc
        split at hoc
        · simp only [Option.some.injEq] at hoc; rw [← hoc]; simp
        · simp at hoc
      · simp [h] at hoc
    · exact compileN_ne_panic srcFacts (by decide) ord _ co _ hk

/-- **workflow_compile_deterministic_partial.**  Full statement: a declared Workflow gives the
    same Compile outcomes on every attempt.  `Workflow.compile` replays the recorded inputs in the
    order it visits its nodes; proved for a source that visits them in declaration order (fact
    `wfInputsReplayedInDeclaredOrder`): then whatever order `adv` / `adv'` a Go map iteration
    might have produced plays no role and the outcome is the function `WfDecl.lower` of the
    declaration.  The unrepaired source ranges over the map, and the order does matter as soon as
    a pass-through node can take its type from several edges:
    `workflow_input_order_matters`. -/
theorem workflow_compile_deterministic_partial (chk : Bool) (d : WfDecl)
    (h : FactsC20.wfInputsReplayedInDeclaredOrder = true) (adv adv' : List Nat) :
    d.lowerBy chk (replayOrder FactsC20.wfInputsReplayedInDeclaredOrder adv (d.nodes.length + 1)) =
      d.lowerBy chk (replayOrder FactsC20.wfInputsReplayedInDeclaredOrder adv' (d.nodes.length + 1)) ∧
    d.lowerBy chk (replayOrder FactsC20.wfInputsReplayedInDeclaredOrder adv (d.nodes.length + 1)) = d.lower chk := by
  simp only [replayOrder, h, ↓reduceIte, lowerBy_declared, and_self]

/-- **nested_graphs_frozen.**  "After a successful Compile the graph can no longer be modified"
    for the graphs a compiled graph contains: if the first Compile of a declared graph succeeds,
    then every graph it was given with `AddGraphNode(key, child, WithGraphCompileOptions(cco))`
    was compiled with `cco` successfully, the builder that compile left behind has the `compiled`
    flag, and every later Add* call on it answers `ErrGraphCompiled` and changes nothing.
    (`guard` / `child.guard` – what `Workflow.compile` answers before touching the graph – is
    never a success.)  Applied to `child` in place of the parent the statement reaches the graphs
    `child` contains, and so every nesting depth. -/
theorem nested_graphs_frozen (im : Impl) (ord : Ord) (hv : ord.Valid)
    (cmp : Cmp) (inT outT : Ty) (st : Option Nat) (ops : DOps) (re once : List Op) (guard : Option Outcome)
    (co : COpts) (hok : Decl.first (srcEnv im ord) (.mk cmp inT outT st ops re once guard) co = .ok)
    (hops : ops.all (fun o => !o.isCompile) = true) (hg : guard ≠ some .ok)
    (key : Key) (child : Decl) (cco : COpts) (hs : DOps.hasSub key child cco ops)
    (hcg : child.guard ≠ some .ok) :
    Decl.first (srcEnv im ord) child cco = .ok ∧
    (Decl.firstB (srcEnv im ord) child cco).1.compiled = true ∧
    ∀ op : Op, op.isCompile = false →
      stepK (srcEnv im ord) (Decl.firstB (srcEnv im ord) child cco).1 op =
        ((Decl.firstB (srcEnv im ord) child cco).1, .compiled, none) := by
  have hchild : Decl.first (srcEnv im ord) child cco = .ok := by
    -- a child that fails makes the parent fail
    apply Outcome.eq_ok_of_isOk
    cases hc : (Decl.first (srcEnv im ord) child cco).isOk
    · have := sub_graph_failure_rejects_parent im ord hv cmp inT outT st ops re once guard
        (fun oc hoc => Bool.eq_false_iff.mpr fun h => hg (hoc ▸ congrArg some (Outcome.eq_ok_of_isOk h)))
        hops key child cco hs hc co
      rw [hok] at this; cases this
    · rfl
  have hfz : (Decl.firstB (srcEnv im ord) child cco).1.compiled = true ∧
      (Decl.firstB (srcEnv im ord) child cco).1.buildError = none := by
    rw [Decl.first_eq] at hchild
    cases child with
    | mk c i o s cops cre conce cguard =>
      simp only [Decl.firstB] at hchild ⊢
      have := attempt_ok (srcEnv im ord) _ (cre ++ conce) cguard cco _ (by simpa [Decl.guard] using hcg) hchild
      exact ⟨this.2.2.1, this.2.2.2⟩
  exact ⟨hchild, hfz.1, fun op hop =>
    stepK_compiled (srcEnv im ord) srcFacts_guarded (srcEnv_inCtl im ord) _ hfz.2 hfz.1 op hop⟩

/-- the two source facts of the keyed model -/
def srcKFacts : KFacts := ⟨FactsC20.mapHelperNilSafe, FactsC20.compileChecksOwnTypes⟩

/-- Source fact tie: `forMapInput` / `forMapOutput` accept a nil helper, and `compile` refuses a
    node whose own type is unknown. -/
theorem key_facts_match : srcKFacts = Expected.C20.kfacts := by decide

/-- **keyed_calls_never_panic.**  "With an error and never a panic" for graphs whose nodes carry
    `WithInputKey` / `WithOutputKey`: no Add* call and no Compile, in any state, in any order,
    ends in a panic.  (A keyed pass-through node shows `map[string]any` while its own type – and
    its generic helper – may still be unknown; the work list only ever asks such a node for the
    map side of its helper, and Compile refuses it.) -/
theorem keyed_calls_never_panic (im : Impl) (ord : Ord) (x : XB) (xo : XOp) :
    (stepX srcKFacts srcFacts im ord x xo).2.1 ≠ .panic := by
  have h := key_facts_match
  exact stepX_no_panic srcKFacts (by rw [h]; rfl) (by rw [h]; rfl) srcFacts im ord x xo

/-- **rejects_keyed_node_without_own_type.**  "Pass-through nodes whose type cannot be inferred"
    when a key option hides the missing type: a node with `WithInputKey` / `WithOutputKey` whose
    own type was never inferred (no data predecessor, no data successor, both sides keyed,
    control-only edges) makes Compile answer with an error, and the builder stays as it was. -/
theorem rejects_keyed_node_without_own_type (ord : Ord) (x : XB) (o : COpts) (h : x.keyedUntyped = true) :
    ∃ k, compileX srcKFacts srcFacts ord x o = (x, .fresh k, none) ∨
         compileX srcKFacts srcFacts ord x o = (x, .stored k, none) :=
  compileX_rejects_keyedUntyped srcKFacts (by rw [key_facts_match]; rfl) srcFacts ord x o h

/-- **keyed_model_extends_builder.**  Without key options the keyed model is the builder model:
    same outcomes, same runners, same builder – every theorem above about `run` / `step` speaks
    about the calls of the keyed model too. -/
theorem keyed_model_extends_builder (im : Impl) (ord : Ord) (mt : Ty) (b : Builder) (ops : List Op) :
    runX srcKFacts srcFacts im ord (XB.ofB b mt) (ops.map XOp.plain) =
      (XB.ofB (run srcFacts im ord b ops).1 mt, (run srcFacts im ord b ops).2.1, (run srcFacts im ord b ops).2.2) :=
  runX_plain srcKFacts srcFacts (by decide) im ord mt ops b

/-- the two source facts of the static-value model -/
def srcSFacts : SV.SFacts := ⟨FactsC20.wfStaticValuesCopied, FactsC20.setStaticValueChecksCompiled⟩

/-- Source fact tie: `Workflow.compile` copies `n.staticValues` for the handler closures;
    `SetStaticValue` returns at once when the graph is compiled (`if n.g.compiled { return n }`). -/
theorem static_facts_match : srcSFacts = Expected.C20.sfacts := by decide

/-- **static_values_frozen.**  "The compiled runnable is unaffected by later attempts", as equality
    of run results: build a Workflow by any declarations `decl` and any calls `ops1`
    (`SetStaticValue`, `AddInput`, Compile, runs), then make any further calls `ops2` – through the
    retained node handles, further Compiles included.  Every runnable that existed after `ops1`
    still exists and answers every input exactly as it did before `ops2`. -/
theorem static_values_frozen (decl : List (String × List SV.SIn)) (inp inp' : SV.KVs)
    (ops1 ops2 : List SV.SOp) :
    let st1 := (SV.runOps srcSFacts inp (SV.SW.new decl, []) ops1).1
    let st2 := (SV.runOps srcSFacts inp st1 ops2).1
    st1.2 <+: st2.2 ∧ ∀ r ∈ st1.2, r.run st2.1 inp' = r.run st1.1 inp' := by
  intro st1 st2
  have hc : srcSFacts.copies = true := by rw [static_facts_match]; rfl
  have h1 : SV.St.Closed st1 := SV.runOps_closed srcSFacts hc inp _ (SV.new_closed decl) ops1
  exact ⟨SV.runOps_runners srcSFacts inp st1 ops2,
    fun r hr => SV.run_closed r (h1.2 r hr) _ _ inp'⟩

/-- **rejects_static_value_on_taken_path.**  "Invalid option combinations" for static values: when
    the recorded inputs have been replayed and some node carries a static value although its whole
    input is mapped, or on a field that an input maps, Compile returns an error (and no runnable),
    at this and – the trie only grows – every later attempt. -/
theorem rejects_static_value_on_taken_path (w : SV.SW) (hp : ∀ m ∈ w.nodes, m.pend = [])
    (n : SV.SNode) (hn : n ∈ w.nodes) (hne : n.static.isEmpty = false)
    (ht : n.trie = .whole ∨ ∃ fs p, n.trie = .fields fs ∧ p ∈ fs ∧ p ∈ n.static.keys) :
    (SV.compile srcSFacts w).2 = none :=
  SV.compile_static_taken srcSFacts w hp n hn hne ht

/-- a Compile that hands out a runnable leaves the Workflow's graph compiled -/
theorem static_compile_sets_compiled (w : SV.SW) (r : SV.SRunner)
    (h : (SV.compile srcSFacts w).2 = some r) : (SV.compile srcSFacts w).1.compiled = true :=
  SV.compile_some_compiled srcSFacts w r h

/-- **workflow_static_values_fixed_partial.**  Full statement ("after a successful Compile the
    graph can no longer be modified", for the static values): once a Workflow is compiled, no call
    sequence changes the static values of any of its nodes, so every later Compile reads what the
    first one read.  Proved for `guarded = true` (`SetStaticValue` looks at the `compiled` flag),
    the value the source has (`static_facts_match`); for `false` see
    `late_static_value_reaches_next_compile`. -/
theorem workflow_static_values_fixed_partial (F : SV.SFacts) (hg : F.guarded = true) (inp : SV.KVs)
    (st : SV.St) (hc : st.1.compiled = true) (ops : List SV.SOp) :
    (SV.runOps F inp st ops).1.1.statics = st.1.statics ∧ (SV.runOps F inp st ops).1.1.compiled = true :=
  SV.runOps_guarded F hg inp st hc ops

/-- Source fact tie: `addEdgeWithMappings` looks for the new edge among the control edges inside
    `if !noControl { … }` and among the data edges inside `if !noData { … }`, each time before
    the half is recorded – the two scans the builder model's `addEdgeBody` has. -/
theorem edge_dup_scan_facts_match :
    FactsC20.edgeDupScanInControlBlock = true ∧ FactsC20.edgeDupScanInDataBlock = true := by
  decide

/-- **rejects_duplicate_edge_of_any_kind.**  "Duplicate edges", per call and for every kind of
    edge: on an error-free, uncompiled builder a call `addEdgeWithMappings(s, e, noControl, noData)`
    that carries a half – control or data – which the pair (s, e) already has is answered with an
    error, and the error is stored. -/
theorem rejects_duplicate_edge_of_any_kind (im : Impl) (ord : Ord) (b : Builder)
    (he : b.buildError = none) (hc : b.compiled = false) (s e : Key) (nc nd : Bool) (m : Option Nat)
    (hn : (nc && nd) = false)
    (h : (nc = false ∧ (s, e) ∈ b.controlEdges) ∨ (nd = false ∧ (s, e) ∈ b.dataEdges)) :
    ∃ k, (step srcFacts im ord b (.edge s e nc nd m)).2.1 = .fresh k ∧
         (step srcFacts im ord b (.edge s e nc nd m)).1.buildError = some k :=
  step_edge_dup_err srcFacts srcFacts_guarded im ord b he hc s e nc nd m hn h

/-- **rejects_workflow_duplicate_input.**  "Duplicate edges" for the Workflow API, whatever the
    kinds, the order and the position: if the declarations of some node (or of END) name one
    predecessor twice – `i1` somewhere before `i2`, anything in between, before and after – and the
    two kinds share a half (`InKind.clash`: every combination of AddInput / AddDependency /
    WithNoDirectDependency except AddDependency + WithNoDirectDependency), then no Compile of the
    Workflow succeeds, with any options, under every map iteration order, sub-graphs arbitrary. -/
theorem rejects_workflow_duplicate_input (im : Impl) (ord : Ord) (hv : ord.Valid) (chk : Bool) (d : WfDecl)
    (dst : Key) (ins : List WfIn)
    (hwhere : (∃ n ∈ d.nodes, n.key = dst ∧ n.ins = ins) ∨ (dst = END ∧ d.endIns = ins))
    (i1 i2 : WfIn) (hsub : List.Sublist [i1, i2] ins) (hsrc : i1.src = i2.src)
    (hcl : i1.kind.clash i2.kind = true) (cos : List COpts) :
    ∀ oc ∈ (d.lower chk).compiles (srcEnv im ord) cos, oc.isOk = false :=
  wf_dup_rejected (srcEnv im ord) srcFacts_guarded (srcEnv_inCtl im ord) hv chk d dst ins hwhere i1 i2 hsub hsrc hcl cos

/-! ## non-vacuity and negation witnesses

The test vectors are closed terms, proved by `decide`.  For the two largest, `decide +kernel` lets
the kernel evaluate them once, where plain `decide` has the elaborator evaluate the instance first
and the kernel again. -/

def exImpl : Impl := [(.conc 3, 0)]
def lam (k : Key) (i o : Ty) : Op :=
  .node { key := k, passthrough := false, inTy := i, outTy := o, pre := none, post := none, nodeKeyOpt := false }
def pt (k : Key) : Op :=
  .node { key := k, passthrough := true, inTy := .any, outTy := .any, pre := none, post := none, nodeKeyOpt := false }
def copts : COpts := { trigger := .unset, maxSteps := 0, getState := false }
def b0 : Builder := Builder.new .graph (.conc 0) (.conc 0) none

/-- a well-formed graph compiles, then refuses changes, and a second Compile still works -/
example : (run srcFacts exImpl Ord.id b0
    [lam "a" (.conc 0) (.conc 0), .edge START "a" false false none, .edge "a" END false false none,
     .compile copts, lam "b" (.conc 0) (.conc 0), .compile copts]).2.1
    = [.ok, .ok, .ok, .ok, .compiled, .ok] := by decide

/-- an error in the middle sticks, Compile included -/
example : (run srcFacts exImpl Ord.id b0
    [lam "a" (.conc 0) (.conc 0), lam "a" (.conc 0) (.conc 0), .edge START "a" false false none,
     .compile copts]).2.1
    = [.ok, .fresh .dupNode, .stored .dupNode, .stored .dupNode] := by decide

/-- With the append to `g.handlerPreNode` inside compile (the unfixed source), a second
    Compile of a graph with field mappings changes the handler list the *first* runner
    uses: `runnable_unaffected` is false for that value of the fact. -/
theorem runnable_affected_when_compile_mutates :
    let f := { Expected.C20.facts with compileMutates := true }
    let ops := [lam "a" (.conc 0) (.conc 0), .edge START "a" false false (some 0),
                .edge "a" END false false none, .compile copts]
    let st := run f exImpl Ord.id { b0 with cmp := .workflow } ops
    st.2.1 = [.ok, .ok, .ok, .ok] ∧
    st.2.2.map (fun r => (r.preNode, r.preNodeNow (step f exImpl Ord.id st.1 (.compile copts)).1))
      = [([("a", 1)], [("a", 2)])] := by
  decide

/-- Without the node-type check in compile (the unfixed source) a pass-through node that no
    edge ever touched makes Compile panic instead of returning an error. -/
theorem compile_panics_without_type_check :
    let f := { Expected.C20.facts with compileChecksTypes := false }
    (run f exImpl Ord.id b0
      [lam "a" (.conc 0) (.conc 0), pt "p",
       .edge START "a" false false none, .edge "a" END false false none, .compile copts]).2.1
      = [.ok, .ok, .ok, .ok, .panic] := by
  decide

/-- a two-node cycle a → b → a: Kahn's loop rejects it, Compile in all-predecessor mode fails -/
example : (run srcFacts exImpl Ord.id b0
    [lam "a" (.conc 0) (.conc 0), lam "b" (.conc 0) (.conc 0), .edge START "a" false false none,
     .edge "a" "b" false false none, .edge "b" "a" false false none, .edge "b" END false false none,
     .compile { copts with trigger := .allPred }]).2.1
    = [.ok, .ok, .ok, .ok, .ok, .ok, .fresh .dagLoop] := by decide

/-- Without the deferred store the first error would not stick. -/
theorem error_not_sticky_without_store :
    let f := { Expected.C20.facts with nodeG := { Expected.C20.allGuards with storeErr := false } }
    (run f exImpl Ord.id b0 [lam "start" (.conc 0) (.conc 0), lam "a" (.conc 0) (.conc 0)]).2.1
      = [.fresh .reserved, .ok] := by
  decide

def wlam (k : Key) (ins : List WfIn) : WfNode := { key := k, body := .plain false (.conc 0) (.conc 0), ins }
def exEnv (inCtl : Bool) : Env := { f := Expected.C20.facts, inCtl, im := exImpl, ord := Ord.id }

/-- `a.AddInputWithOptions(START, nil, WithNoDirectDependency()); End().AddInput("a")` -/
def wfNoEntry : WfDecl :=
  { inT := .conc 0, outT := .conc 0, stateTy := none,
    nodes := [wlam "a" [⟨START, .indirect, none⟩]], endIns := [⟨"a", .input, none⟩], branches := [] }

/-- the same with a real entry edge -/
def wfOk : WfDecl := { wfNoEntry with nodes := [wlam "a" [⟨START, .input, none⟩]] }

/-- the well-formed Workflow compiles (three times), the entry-less one is refused with
    `start node not set` every time; a step limit is refused and leaves the Workflow usable -/
example : (wfOk.lower true).compiles (exEnv true) [copts, copts, copts] = [.ok, .ok, .ok] ∧
    (wfNoEntry.lower true).compiles (exEnv true) [copts, copts] = [.fresh .noStart, .fresh .noStart] ∧
    (wfOk.lower true).compiles (exEnv true) [{ copts with maxSteps := 5 }, copts] =
      [.fresh .maxStepsInDag, .ok] := by decide

/-- …and as a node of a well-formed graph it makes the graph's Compile fail -/
example :
    let g (child : Decl) (co : COpts) : Decl := .mk .graph (.conc 0) (.conc 0) none
      (.sub "w" child co (.ofList [.edge START "w" false false none, .edge "w" END false false none])) [] [] none
    Decl.first (exEnv true) (g (wfOk.lower true) copts) copts = .ok ∧
    Decl.first (exEnv true) (g (wfNoEntry.lower true) copts) copts = .fresh .noStart ∧
    Decl.first (exEnv true) (g (wfOk.lower true) { copts with maxSteps := 7 }) copts = .fresh .maxStepsInDag := by
  decide

/-- With the two appends moved behind the data part of `addEdgeWithMappings` (run for every
    accepted edge), the Workflow without entry edge compiles:
    `rejects_workflow_without_entry_edge` is false for that value of the fact. -/
theorem entry_less_workflow_accepted_when_bookkeeping_hoisted :
    (wfNoEntry.lower true).compiles (exEnv false) [copts] = [.ok] ∧
    ({ wfOk with endIns := [⟨"a", .indirect, none⟩] }.lower true).compiles (exEnv false) [copts] = [.ok] := by
  decide

/-- Workflow[c1 → c2]: pass-through `a` ← START; `b` (any → c0) ← `a`; END ← `b` (dependency),
    END ← `a` (data only).  Which edge types `a` first decides everything: replaying `b`'s input
    first makes `a` an `any` (all later edges are checked at run time, Compile succeeds);
    replaying `a`'s own input first makes it a c1, and the edge into END (c2) is refused. -/
theorem workflow_input_order_matters :
    let d : WfDecl :=
      { inT := .conc 1, outT := .conc 2, stateTy := none,
        nodes := [{ key := "a", body := .plain true .any .any, ins := [⟨START, .input, none⟩] },
                  { key := "b", body := .plain false .any (.conc 0), ins := [⟨"a", .input, none⟩] }],
        endIns := [⟨"b", .dep, none⟩, ⟨"a", .indirect, none⟩], branches := [] }
    Decl.first (exEnv true) (d.lowerBy true [1, 0, 2]) copts = .ok ∧
    Decl.first (exEnv true) (d.lowerBy true [0, 1, 2]) copts = .stored .edgeMismatch ∧
    Decl.first (exEnv true) (d.lowerBy true [2, 0, 1]) copts = .stored .edgeMismatch := by
  decide

/-- `Workflow.compile` on the unrepaired source: a branch naming an end node that no
    Add…Node call declared makes Compile panic (nil entry of `wf.workflowNodes`). -/
theorem workflow_compile_panics_on_undeclared_branch_end :
    let d : WfDecl := { wfOk with branches := [⟨"a", .conc 0, [END, "ghost"]⟩] }
    (d.lower false).compiles (exEnv true) [copts, copts] = [.panic, .panic] ∧
    (d.lower true).compiles (exEnv true) [copts] = [.fresh .branchUnknownEnd] := by
  decide

def kv (l : List (String × SV.V)) : SV.KVs := l.foldr (fun p r => .cons p.1 p.2 r) .nil
/-- `a` takes field `f0` from START, END takes `a`'s whole output as field `a` -/
def svDecl : List (String × List SV.SIn) :=
  [("a", [⟨"start", [.field "f0" "f0"]⟩]), ("end", [⟨"a", [.to "a"]⟩])]
def svIn : SV.KVs := kv [("f0", .str "x0")]

/-- set, compile, run, overwrite and add through the retained handle, run again, compile again, run:
    the first runnable answers the same three times; the second Compile fails (the paths of the
    static values are taken) – `static_values_frozen` and its hypotheses are not vacuous -/
example :
    (SV.runOps srcSFacts svIn (SV.SW.new svDecl, [])
      [.set "a" "s" "v", .compile, .run 0, .set "a" "s" "changed", .set "a" "extra" "42", .run 0,
       .compile, .run 0, .run 1]).2
    = [.ok, .compiled, .ran (some (kv [("a", .obj (kv [("f0", .str "x0"), ("s", .str "v")]))])),
       .ok, .ok, .ran (some (kv [("a", .obj (kv [("f0", .str "x0"), ("s", .str "v")]))])),
       .error, .ran (some (kv [("a", .obj (kv [("f0", .str "x0"), ("s", .str "v")]))])), .noRunner] := by
  decide

/-- a static value on a path that an input maps is refused, at every Compile -/
example : (SV.runOps srcSFacts svIn (SV.SW.new svDecl, [])
    [.set "a" "f0" "clash", .compile, .compile]).2 = [.ok, .error, .error] := by decide

/-- With the handler closures reading the builder's own map (`value := n.staticValues`), a later
    `SetStaticValue` through the retained handle changes what the compiled runnable answers:
    `static_values_frozen` is false for that value of the fact. -/
theorem runnable_follows_late_static_value_when_aliased :
    (SV.runOps { copies := false, guarded := false } svIn (SV.SW.new svDecl, [])
      [.set "a" "s" "v", .compile, .run 0, .set "a" "s" "changed", .set "a" "extra" "42", .run 0]).2
    = [.ok, .compiled, .ran (some (kv [("a", .obj (kv [("f0", .str "x0"), ("s", .str "v")]))])),
       .ok, .ok,
       .ran (some (kv [("a", .obj (kv [("f0", .str "x0"), ("s", .str "changed"), ("extra", .str "42")]))]))] := by
  decide

/-- `SetStaticValue` without a look at the `compiled` flag (`guarded := false`, the unrepaired
    source): a static value set after Compile on a node that had none is compiled into the next
    runnable – the compiled Workflow was modified; with the guard the second runnable is the first
    one again. -/
theorem late_static_value_reaches_next_compile :
    (SV.runOps { copies := true, guarded := false } svIn (SV.SW.new svDecl, [])
      [.compile, .set "a" "late" "v", .compile, .run 0, .run 1]).2
    = [.compiled, .ok, .compiled, .ran (some (kv [("a", .obj (kv [("f0", .str "x0")]))])),
       .ran (some (kv [("a", .obj (kv [("f0", .str "x0"), ("late", .str "v")]))]))] ∧
    (SV.runOps { copies := true, guarded := true } svIn (SV.SW.new svDecl, [])
      [.compile, .set "a" "late" "v", .compile, .run 0, .run 1]).2
    = [.compiled, .ok, .compiled, .ran (some (kv [("a", .obj (kv [("f0", .str "x0")]))])),
       .ran (some (kv [("a", .obj (kv [("f0", .str "x0")]))]))] := by
  decide

/-- which pairs of kinds are duplicates: all but AddDependency + WithNoDirectDependency -/
example :
    InKind.clash .dep .indirect = false ∧ InKind.clash .indirect .dep = false ∧
    InKind.clash .input .input = true ∧ InKind.clash .input .dep = true ∧ InKind.clash .input .indirect = true ∧
    InKind.clash .dep .input = true ∧ InKind.clash .dep .dep = true ∧
    InKind.clash .indirect .input = true ∧ InKind.clash .indirect .indirect = true := by
  decide

/-- Workflow START → a → END with a second declaration of the pair (START, END) in every
    combination: refused at every Compile, except AddDependency + WithNoDirectDependency (either
    order), which is one control + data connection – `rejects_workflow_duplicate_input` is not
    vacuous and its exception is real -/
example :
    let wf (k1 k2 : InKind) : WfDecl :=
      { inT := .conc 0, outT := .conc 0, stateTy := none, nodes := [wlam "a" [⟨START, .input, none⟩]],
        endIns := [⟨"a", .input, some 1⟩, ⟨START, k1, some 2⟩, ⟨START, k2, some 3⟩], branches := [] }
    ((wf .indirect .input).lower true).compiles (exEnv true) [copts, copts] = [.stored .dupData, .stored .dupData] ∧
    ((wf .input .indirect).lower true).compiles (exEnv true) [copts] = [.stored .dupData] ∧
    ((wf .input .dep).lower true).compiles (exEnv true) [copts] = [.stored .dupControl] ∧
    ((wf .dep .dep).lower true).compiles (exEnv true) [copts] = [.stored .dupControl] ∧
    ((wf .indirect .indirect).lower true).compiles (exEnv true) [copts] = [.stored .dupData] ∧
    ((wf .dep .indirect).lower true).compiles (exEnv true) [copts, copts] = [.ok, .ok] ∧
    ((wf .indirect .dep).lower true).compiles (exEnv true) [copts] = [.ok] := by
  decide +kernel

/-- With ONE scan "among the edges of the new edge's own kind" in front of the bookkeeping, a
    control + data edge after a data-only edge of the same pair is accepted (the other order and
    every other combination are still refused): `rejects_duplicate_edge_of_any_kind` is false for
    that shape of `addEdgeWithMappings`. -/
theorem duplicate_accepted_when_scan_is_by_own_kind :
    let ops (nc1 nd1 nc2 nd2 : Bool) : List Op :=
      [lam "a" (.conc 0) (.conc 0), .edge START "a" nc1 nd1 none, .edge START "a" nc2 nd2 none]
    runScan false Expected.C20.facts exImpl Ord.id b0 (ops true false false false) = [.ok, .ok, .ok] ∧
    runScan true Expected.C20.facts exImpl Ord.id b0 (ops true false false false) = [.ok, .ok, .fresh .dupData] ∧
    runScan false Expected.C20.facts exImpl Ord.id b0 (ops false false true false) = [.ok, .ok, .fresh .dupData] ∧
    runScan false Expected.C20.facts exImpl Ord.id b0 (ops false false false false) = [.ok, .ok, .fresh .dupControl] := by
  decide

def xpt (k : Key) (ik ok : Bool) : XOp :=
  .node { key := k, passthrough := true, inTy := .any, outTy := .any, pre := none, post := none, nodeKeyOpt := false } ik ok
def xlam (k : Key) (i o : Ty) : XOp := .plain (lam k i o)
def xedge (s e : Key) : XOp := .plain (.edge s e false false none)
/-- Graph[map[string]any, map[string]any] -/
def xb0 : XB := XB.ofB (Builder.new .graph (.conc 5) (.conc 5) none) (.conc 5)

/-- a pass-through node with an input key and a data successor is typed by that successor and the
    graph compiles; the same node as a dead end (data predecessor only), with both keys on the
    spine, or without data predecessor under an output key is refused by Compile – every time –
    with `cannot be inferred` -/
example :
    (runX Expected.C20.kfacts Expected.C20.facts exImpl Ord.id xb0
      [xpt "p" true false, xlam "a" (.conc 0) (.conc 5), xedge START "p", xedge "p" "a", xedge "a" END,
       .plain (.compile copts)]).2.1 = [.ok, .ok, .ok, .ok, .ok, .ok] ∧
    (runX Expected.C20.kfacts Expected.C20.facts exImpl Ord.id xb0
      [xlam "a" (.conc 5) (.conc 5), xedge START "a", xedge "a" END, xpt "p" true false, xedge START "p",
       .plain (.compile copts), .plain (.compile copts)]).2.1
        = [.ok, .ok, .ok, .ok, .ok, .fresh .uninferred, .fresh .uninferred] ∧
    (runX Expected.C20.kfacts Expected.C20.facts exImpl Ord.id xb0
      [xpt "p" true true, xedge START "p", xedge "p" END, .plain (.compile copts)]).2.1
        = [.ok, .ok, .ok, .fresh .uninferred] ∧
    (runX Expected.C20.kfacts Expected.C20.facts exImpl Ord.id xb0
      [xlam "a" (.conc 5) (.conc 5), xedge START "a", xedge "a" END, xpt "p" false true, xedge "p" "a",
       .plain (.compile copts)]).2.1 = [.ok, .ok, .ok, .ok, .ok, .fresh .uninferred] := by decide +kernel

/-- With `forMapInput` / `forMapOutput` dereferencing their receiver (the unrepaired source) an
    edge next to a still untyped keyed pass-through node makes AddEdge panic:
    `keyed_calls_never_panic` is false for that value of the fact. -/
theorem add_edge_panics_on_untyped_keyed_passthrough :
    let K : KFacts := { Expected.C20.kfacts with helperNilSafe := false }
    (runX K Expected.C20.facts exImpl Ord.id xb0 [xpt "p1" false true, xpt "p2" false false, xedge "p1" "p2"]).2.1
      = [.ok, .ok, .panic] ∧
    (runX K Expected.C20.facts exImpl Ord.id xb0 [xpt "p1" false false, xpt "p2" true false, xedge "p1" "p2"]).2.1
      = [.ok, .ok, .panic] ∧
    (runX Expected.C20.kfacts Expected.C20.facts exImpl Ord.id xb0
      [xpt "p1" false true, xpt "p2" false false, xedge "p1" "p2"]).2.1 = [.ok, .ok, .ok] ∧
    (runX Expected.C20.kfacts Expected.C20.facts exImpl Ord.id xb0
      [xpt "p1" false false, xpt "p2" true false, xedge "p1" "p2"]).2.1 = [.ok, .ok, .ok] := by
  decide

/-- Without the own-type check in compile and with the dereferencing helpers (the unrepaired
    source), START → p (both key options) → END passes every check and Compile panics in
    `compileIfNeeded`, on every attempt; with the check it is an error. -/
theorem compile_panics_on_both_keys_without_own_type_check :
    let ops := [xpt "p" true true, xedge START "p", xedge "p" END, .plain (.compile copts), .plain (.compile copts)]
    (runX { helperNilSafe := false, compileChecksOwnTypes := false } Expected.C20.facts exImpl Ord.id xb0 ops).2.1
      = [.ok, .ok, .ok, .panic, .panic] ∧
    (runX Expected.C20.kfacts Expected.C20.facts exImpl Ord.id xb0 ops).2.1
      = [.ok, .ok, .ok, .fresh .uninferred, .fresh .uninferred] := by
  decide

/-- a graph used as a node: compiled by its parent, frozen – `nested_graphs_frozen` is not vacuous -/
example :
    let inner : Decl := .mk .graph (.conc 0) (.conc 0) none
      (.ofList [lam "a" (.conc 0) (.conc 0), .edge START "a" false false none, .edge "a" END false false none]) [] [] none
    let outer : Decl := .mk .graph (.conc 0) (.conc 0) none
      (.sub "g" inner copts (.ofList [.edge START "g" false false none, .edge "g" END false false none])) [] [] none
    Decl.first (exEnv true) outer copts = .ok ∧
    (Decl.firstB (exEnv true) inner copts).1.compiled = true ∧
    modOutcome (exEnv true) (Decl.firstB (exEnv true) inner copts).1 (lam "late" (.conc 0) (.conc 0)) = .compiled ∧
    modOutcome (exEnv true) (Decl.firstB (exEnv true) inner copts).1 (.edge START "a" false false none) = .compiled ∧
    Decl.again (exEnv true) (fun _ => false) [] outer copts = .ok ∧
    Decl.again (exEnv true) (fun p => p == ["g"]) [] outer copts = .compiled := by decide

/-! ### Translated source: `validateDAG`

`lean/EinoV/Gen/TransC20.lean` is produced on every run by `tools/factgen/c20_trans.go` (translator `gotrans*.go`) from the text of
`validateDAG` in compose/graph.go (Kahn's loop over Go maps), against the prelude `Model/GoSem*.lean`.  The
theorems below (proved in `Proofs/TransKahn.lean`) say that the translated text decides exactly what the model's
`validateDAG` decides — so `kahn_sound_complete` / `rejects_cycles` are statements about the code as it is now.
The relation `KahnRel` between a builder and the Go arguments fixes no order: the statements hold for every
stored order of `chanSubscribeTo`, of every `endNodes` map and of every predecessor list.  The Go loop has no
fuel; the translation's fuel is irrelevant from nodes + 1 on (`translated_validateDAG_total`). -/
section TranslatedValidateDAG
open EinoV.GoSem EinoV.TransKahn
variable {V : Type} [Inhabited V]

theorem translated_source_is_current : FactsC20.validateDAGTranslated = true := by decide

/-- the Go constants the translated text compares with are the model's reserved keys -/
theorem translated_constants :
    TransC20.const_START = START ∧ TransC20.const_END = END ∧
    TransC20.const_START = EinoV.Engine.START ∧ TransC20.const_END = EinoV.Engine.END :=
  ⟨const_START_eq, const_END_eq, const_START_engine, const_END_engine⟩

/-- Go's `validateDAG` refines the model's: it returns (no panic, nothing unspecified), and it returns nil
    exactly when the model's verdict — for any iteration order — is "valid" -/
theorem translated_validateDAG_refines (ext : Ext V) (b : Builder) (chans : GoMap (TransC20.chanCall V))
    (preds : GoMap (List String)) (fuel : Nat) (ord : Ord) (hv : ord.Valid) (hk : KeysOK b)
    (hr : KahnRel b chans preds) (hf : b.nodes.length + 1 ≤ fuel) :
    ∃ e, TransC20.validateDAG ext fuel chans preds = GoOutcome.ret e ∧ (e = none ↔ validateDAG b ord = true) :=
  validateDAG_go_refines ext b chans preds fuel ord hv hk hr hf

/-- no nil dereference, no key added to `m` while it is ranged over, and the loop `for hasChanged {…}` stops
    within nodes + 1 rounds: every fuel from there on gives the same result -/
theorem translated_validateDAG_total (ext : Ext V) (b : Builder) (chans : GoMap (TransC20.chanCall V))
    (preds : GoMap (List String)) (fuel : Nat) (hk : KeysOK b) (hr : KahnRel b chans preds)
    (hf : b.nodes.length + 1 ≤ fuel) :
    TransC20.validateDAG ext fuel chans preds ≠ GoOutcome.panic ∧
    TransC20.validateDAG ext fuel chans preds ≠ GoOutcome.unspecified ∧
    ∀ fuel', b.nodes.length + 1 ≤ fuel' →
      TransC20.validateDAG ext fuel' chans preds = TransC20.validateDAG ext fuel chans preds :=
  validateDAG_go_total ext b chans preds fuel hk hr hf

/-- Go's text returns nil exactly when every node can be scheduled, i.e. when no cycle of control edges /
    branch targets reaches any node; a node on a cycle makes it return the error -/
theorem translated_validateDAG_sound_complete (ext : Ext V) (b : Builder) (chans : GoMap (TransC20.chanCall V))
    (preds : GoMap (List String)) (fuel : Nat) (hk : KeysOK b) (hr : KahnRel b chans preds)
    (hf : b.nodes.length + 1 ≤ fuel) :
    ∃ e, TransC20.validateDAG ext fuel chans preds = GoOutcome.ret e ∧
      (e = none ↔ ∀ k ∈ b.nodes.map (·.key), Sched b k) ∧
      (∀ k ∈ b.nodes.map (·.key), PredTC b k k → e = some (GoErr.mk "DAG invalid, node[%s] has loop")) := by
  obtain ⟨e, h1, h2⟩ := validateDAG_go_sound_complete ext b chans preds fuel hk hr hf
  refine ⟨e, h1, h2, fun k hkn hc => ?_⟩
  have h3 := validateDAG_go_rejects_cycles ext b chans preds fuel hk hr hf k hkn hc
  rw [h1] at h3
  exact GoOutcome.ret.inj h3

/-- the hypothesis `closed` of `KahnRel` is needed: a successor outside `chanSubscribeTo` leaves the translated
    semantics (Go would add a key to `m` while ranging over it) -/
example (ext : Ext Unit) :
    TransC20.validateDAG ext 2 [("a", { writeToBranches := [], controls := ["zz"] })] [] = GoOutcome.unspecified := rfl

/-- both verdicts, through the theorem, on Go maps stored in another order than the node list -/
example (ext : Ext Unit) (fuel : Nat) (hf : 4 ≤ fuel) :
    TransC20.validateDAG ext fuel exAcyclicChans exAcyclicPreds = GoOutcome.ret none ∧
    TransC20.validateDAG ext fuel exCyclicChans exCyclicPreds =
      GoOutcome.ret (some (GoErr.mk "DAG invalid, node[%s] has loop")) := by
  obtain ⟨e, h1, h2, _⟩ := translated_validateDAG_sound_complete ext exAcyclic _ _ fuel exAcyclic_ok exAcyclic_rel hf
  obtain ⟨e', h1', _, h3'⟩ := translated_validateDAG_sound_complete ext exCyclic _ _ fuel exCyclic_ok exCyclic_rel hf
  have hv : validateDAG exAcyclic Ord.id = true := by decide
  rw [h1, h1', h2.mpr ((kahn_sound_complete exAcyclic exAcyclic_ok Ord.id Ord.id_valid).mp hv),
    h3' "a" (by decide) (PredTC.step (q := "a") (p := "b") (k := "a") (PredTC.base (by decide) (by decide))
      (by decide) (by decide))]
  exact ⟨rfl, rfl⟩

end TranslatedValidateDAG

end EinoV.C20
