/-
  C05 — Interrupting and resuming a run is equivalent to running it uninterrupted.
  Property theorems.  Model: EinoV/Model/C05.lean (the run loop with interrupts, checkpoints and
  resume, built on Engine.lean).  Source facts: EinoV/Gen/FactsC05.lean (regenerated from /repo).

  Quantification: every runner (any topology, cycles; trigger mode as stated per theorem), every node
  body and state handler (arbitrary functions), every interrupt-before / interrupt-after set, every
  input, every completion order that invents no task, any number of interrupts and resume calls.

  FULL STATEMENT (DESIGN.md §4 C05), kept visible:
    resume_equiv : ∀ r x (interrupt sets at every nesting level, rerun-requesting nodes),
      let h := resumeUntilDone r x
      h.final = (run₀ r x).result ∧ execLog h ~ execLog (run₀ r x)
    where run₀ has interrupts off at every level and no rerun requests, and `~` ignores the aborted
    attempt of a rerun-requesting node.
  PROVED here: the statement for one graph level whose nodes do not themselves interrupt
  (`resume_equiv_single_level`; without side hypothesis in both trigger modes: `resume_equiv_pregel`,
  `resume_equiv_dag`),
  from the core lemmas `loop_from_checkpoint` and `interrupt_is_pause`; for the sub-graph / rerun
  interrupt only what is saved and restored (`sr_checkpoint_partial`, `sr_restore_partial`).
  Nesting (sections "Nested graphs" and "Rerun nodes" below): the compositional rule for nesting is
  proved — `resume_equiv_nested` / `resume_equiv_nested_bounded` for every nesting
  depth, from `fold_then_get = get_after_all` (`SplitOK`), which is proved for any-predecessor levels
  (`split_rule_pregel`, `fold_then_get_pregel`) and is a stated hypothesis for all-predecessor levels
  (the edge+branch-same-pred counterexample is repaired on the tree under /repo: known_findings/C05.json).
  MISSING for the full statement: (1) all-predecessor levels: there `SplitOK` does not hold with
  *equal* channel maps (a channel that waits for further predecessors keeps the values it has in
  arrival order, a channel skipped later keeps values written earlier), only up to an equivalence of
  channel maps that `get` cannot observe — the simulation would have to be carried out up to that
  equivalence (a confluence argument like C02's); (2) rerun nodes, which relate two different node behaviours through the
  user's pre-handler and the state (only what is restored is proved: `rerun_restores_exactly`,
  `rerun_input_rebuilt`); (3) the stream paradigms (`mixed_paradigm_resume`): modelled only as far as they
  differ observably from the value paradigm in the case language — the stream without chunks, section
  "Streams" below: the checkpoint round trip of a stream keeps "no chunk" / the merged
  chunks (`checkpoint_preserves_chunkless_stream`, `checkpoint_preserves_observed_stream`, for the
  converter as the source has it), a history whose calls all run in one mode is the `resumeLoop` the
  theorems above speak about (`one_mode_history_is_resume_loop`), so `resume_equiv_*` apply to stream-mode
  histories over a value universe that contains the chunk-less stream; a value-mode call resuming a
  stream-mode checkpoint (or vice versa) has no theorem; (4) failing
  runs with nested interrupts (the error reported depends on the completion order).  These are covered
  by the correspondence check only (harness/props/c05.go compares every resumed history, a part of them
  driven through Stream, with the uninterrupted run).
-/
import EinoV.Model.C05
import EinoV.Model.C05Eager
import EinoV.Model.GraphBuild
import EinoV.Proofs.C05
import EinoV.Proofs.C05Engine
import EinoV.Proofs.C05Resume
import EinoV.Model.C05Nested
import EinoV.Proofs.C05Nested
import EinoV.Proofs.C05NestedEngine
import EinoV.Proofs.C05NestedDepth
import EinoV.Proofs.C06Nested
import EinoV.Proofs.C05NestedExamples
import EinoV.Model.C05Streams
import EinoV.Proofs.C05Streams
import EinoV.Gen.FactsC05
import EinoV.Expected.C05
import EinoV.Proofs.TransCp

namespace EinoV.C05
open EinoV.Engine EinoV.Interrupt EinoV.Gen

theorem facts_match :
    FactsC05.createTasksForwardsStaleCP = Expected.C05.createTasksForwardsStaleCP ∧
    FactsC05.subGraphSavedWithSkipPre = Expected.C05.subGraphSavedWithSkipPre ∧
    FactsC05.rerunInputsSavedZero = Expected.C05.rerunInputsSavedZero ∧
    FactsC05.foldWithoutGet = Expected.C05.foldWithoutGet ∧
    FactsC05.checkpointStartEndPairsSet = Expected.C05.checkpointStartEndPairsSet ∧
    FactsC05.stepCounterRestartsOnResume = true ∧
    FactsC05.resumeBranches = 2 := by decide

/-- the run as the source has it: whether a resumed run's ctx keeps the checkpoint is the extracted
    fact; the C06 fact (tasks computed from START checked) is left arbitrary — every theorem below
    holds for both values -/
def srcCfg (initialChecked : Bool) : Cfg :=
  { initialTasksChecked := initialChecked, fwdStale := FactsC05.createTasksForwardsStaleCP }

theorem srcCfg_fresh (b : Bool) : (srcCfg b).fwdStale = false := by
  show FactsC05.createTasksForwardsStaleCP = false
  decide

variable {V S X : Type}

/-- **loop_from_checkpoint.** Resuming from the checkpoint `handleInterrupt` writes for a loop state
    (channels as they are after `get`, the inputs of the not yet submitted tasks before their
    pre-handlers, the state) continues exactly like the loop from that state: same result, same
    events — nothing completed is re-executed or lost, pending inputs, channel contents and state
    survive.  Only the step counter restarts (`r.base.fuel` is the full budget).
    For every runner, scheduler and loop state produced by a run without inherited checkpoint. -/
theorem loop_from_checkpoint (ops : ValOps V) (b : Bool) (r : IRunner V S X) (sched : ISched V S X)
    (isSub hasID : Bool) (ls : LoopSt V S X)
    (hf : ls.Fresh) (hk : ls.KeysOK r) (hnd : (akeys (initChans r.base)).Nodup) :
    runI ops (srcCfg b) r sched isSub hasID (.inr ls.toCP) = loopI ops r sched isSub hasID r.base.fuel ls := by
  simp only [runI, restore_toCP (srcCfg b) r ls (srcCfg_fresh b) hf hk hnd]

/-- **interrupt_is_pause.** One superstep of the run with interrupt points against the same
    superstep with the interrupt sets empty: same events; same result/failure; and where the
    reference loop goes on with state `ls'`, the interrupted run either goes on with `ls'` too or
    returns an interrupt whose checkpoint is exactly `ls'.toCP` (so that, by `loop_from_checkpoint`,
    the next call continues from `ls'`). -/
theorem interrupt_is_pause (ops : ValOps V) (r : IRunner V S X) (sched : ISched V S X) (Inv : Chans V → Prop)
    (hq : QuietUnder ops r.base Inv) (hnsr : NoSR r) (hsub : SchedSub sched)
    (ls : LoopSt V S X) (hf : ls.Fresh) (hk : ls.KeysOK r) (hinv : Inv ls.cm) :
    (stepI ops r sched ls).1 = (stepI ops r.plain sched ls).1 ∧
    (match (stepI ops r.plain sched ls).2 with
     | .done v => (stepI ops r sched ls).2 = .done v
     | .fail e => (stepI ops r sched ls).2 = .fail e
     | .intr _ _ => False
     | .next ls' => ls'.Fresh ∧ ls'.KeysOK r ∧ Inv ls'.cm ∧
        ((stepI ops r sched ls).2 = .next ls' ∨ ∃ info, (stepI ops r sched ls).2 = .intr ls'.toCP info)) :=
  stepI_sim ops r sched Inv hq hnsr hsub ls hf hk hinv

/-- **resume_equiv_single_level.** For a graph level whose nodes do not themselves interrupt
    (`NoSR`: no rerun request, no nested interrupt), with arbitrary interrupt-before/after sets: if
    the uninterrupted run returns within `n` supersteps (`n` below the step limit — the step counter
    restarts on resume, so nothing is claimed at the limit), then the history of calls with the same
    checkpoint id (enough calls: one per interrupt) ends with the same result or the same error, and
    all node-level events of the history — supersteps, node starts with their inputs (after the
    pre-handler), completions, nested blocks — are, in order, those of the uninterrupted run.
    `QuietUnder Inv` (on channel maps satisfying the run invariant `Inv`, the extra
    `calculateNextTasks` taken on the interrupt path changes nothing and yields no task) is discharged
    for any-predecessor mode in `resume_equiv_pregel` (no invariant needed) and for all-predecessor
    mode in `resume_equiv_dag` (invariant: every channel has a predecessor). -/
theorem resume_equiv_single_level (ops : ValOps V) (b : Bool) (r : IRunner V S X) (sched : ISched V S X)
    (Inv : Chans V → Prop)
    (hnd : (akeys (initChans r.base)).Nodup) (hq : QuietUnder ops r.base Inv) (hinit : Inv (initChans r.base))
    (hnsr : NoSR r) (hsub : SchedSub sched)
    (n calls : Nat) (x : V) (hfin : run₀FinishesIn ops r sched n x) (hn : n ≤ r.base.fuel) (hc : n + 1 ≤ calls) :
    (Out.finalOf (resumeUntilDone ops (srcCfg b) r sched calls x)).bind Res.final? =
        (run₀ ops (srcCfg b) r sched x).res.final? ∧
    (run₀ ops (srcCfg b) r sched x).res.final? ≠ none ∧
    obsEvs (allEvs (resumeUntilDone ops (srcCfg b) r sched calls x)) = obsEvs (run₀ ops (srcCfg b) r sched x).evs :=
  resume_equiv_top ops (srcCfg b) r sched Inv (srcCfg_fresh b) hnd hq hinit hnsr hsub n calls x hfin hn hc

/-- any-predecessor (Pregel) mode: the side hypothesis holds for every runner -/
theorem pregel_secondGetQuiet (ops : ValOps V) (base : Runner V) (hdag : base.dag = false) :
    SecondGetQuiet ops base :=
  fun cm done cm' ts _ h => ⟨trivial, pregel_quiet ops base hdag cm done cm' ts h⟩

/-- all-predecessor (DAG) mode: the side hypothesis holds on channel maps in which every channel
    has at least one control or data predecessor — an invariant of the run -/
theorem dag_quietUnder (ops : ValOps V) (base : Runner V) (hdag : base.dag = true) :
    QuietUnder ops base (AllP HasPred) :=
  fun cm done cm' ts hinv h => dag_quiet ops base hdag cm done cm' ts hinv h

/-- **resume_equiv_pregel.** `resume_equiv_single_level` for every any-predecessor runner (cyclic or
    not), with no side hypothesis on the channels. -/
theorem resume_equiv_pregel (ops : ValOps V) (b : Bool) (r : IRunner V S X) (sched : ISched V S X)
    (hdag : r.base.dag = false)
    (hnd : (akeys (initChans r.base)).Nodup) (hnsr : NoSR r) (hsub : SchedSub sched)
    (n calls : Nat) (x : V) (hfin : run₀FinishesIn ops r sched n x) (hn : n ≤ r.base.fuel) (hc : n + 1 ≤ calls) :
    (Out.finalOf (resumeUntilDone ops (srcCfg b) r sched calls x)).bind Res.final? =
        (run₀ ops (srcCfg b) r sched x).res.final? ∧
    (run₀ ops (srcCfg b) r sched x).res.final? ≠ none ∧
    obsEvs (allEvs (resumeUntilDone ops (srcCfg b) r sched calls x)) = obsEvs (run₀ ops (srcCfg b) r sched x).evs :=
  resume_equiv_single_level ops b r sched (fun _ => True) hnd (pregel_secondGetQuiet ops r.base hdag) trivial
    hnsr hsub n calls x hfin hn hc

/-- **resume_equiv_dag.** `resume_equiv_single_level` for every all-predecessor runner in which every
    node (and END) has at least one predecessor (what `compile` accepts), with no other side hypothesis. -/
theorem resume_equiv_dag (ops : ValOps V) (b : Bool) (r : IRunner V S X) (sched : ISched V S X)
    (hdag : r.base.dag = true) (hpred : AllP HasPred (initChans r.base))
    (hnd : (akeys (initChans r.base)).Nodup) (hnsr : NoSR r) (hsub : SchedSub sched)
    (n calls : Nat) (x : V) (hfin : run₀FinishesIn ops r sched n x) (hn : n ≤ r.base.fuel) (hc : n + 1 ≤ calls) :
    (Out.finalOf (resumeUntilDone ops (srcCfg b) r sched calls x)).bind Res.final? =
        (run₀ ops (srcCfg b) r sched x).res.final? ∧
    (run₀ ops (srcCfg b) r sched x).res.final? ≠ none ∧
    obsEvs (allEvs (resumeUntilDone ops (srcCfg b) r sched calls x)) = obsEvs (run₀ ops (srcCfg b) r sched x).evs :=
  resume_equiv_single_level ops b r sched (AllP HasPred) hnd (dag_quietUnder ops r.base hdag) hpred
    hnsr hsub n calls x hfin hn hc

/-- **fresh_after_resume.** A task created by `createTasks` never receives a nested checkpoint: in a
    call on a fresh input no superstep hands one down, and in a resumed call only the first superstep
    (the restored tasks) does.  True because the resumed run's ctx no longer carries the checkpoint
    (source fact `createTasksForwardsStaleCP = false`). -/
theorem fresh_after_resume (ops : ValOps V) (b : Bool) (r : IRunner V S X) (sched : ISched V S X) (isSub hasID : Bool) :
    (∀ x, StepsFresh (topSteps (runI ops (srcCfg b) r sched isSub hasID (.inl x)).evs)) ∧
    (∀ cp, StepsFresh (topSteps (runI ops (srcCfg b) r sched isSub hasID (.inr cp)).evs).tail) :=
  runI_steps_fresh ops (srcCfg b) r sched isSub hasID (srcCfg_fresh b)

/-- **sr_checkpoint_partial** (sub-graph / rerun interrupt — partial result towards the full
    `resume_equiv`): the checkpoint written when a nested graph interrupted or a node asked to be
    re-run restores exactly the nodes the interrupt reports (RerunNodes / SubGraphs), each with the
    zero input; SkipPreHandler holds exactly the interrupted nested graphs; their checkpoints are
    stored under their keys; the state is the reported state. -/
theorem sr_checkpoint_partial (ops : ValOps V) (r : IRunner V S X) (sched : ISched V S X) (ls : LoopSt V S X)
    (cp : Checkpoint V S X) (info : Info S X) (h : (stepI ops r sched ls).2 = .intr cp info)
    (hsr : info.subs ≠ [] ∨ info.rerun ≠ []) :
    cp.subs = info.subs ∧ cp.skipPre = info.subs.map (·.1) ∧ cp.state = info.state ∧
    (∀ p ∈ cp.inputs, p.2 = ops.zero) ∧
    (∀ k ∈ cp.inputs.map (·.1), k ∈ info.rerun ∨ k ∈ info.subs.map (·.1)) :=
  stepI_sr_shape ops r sched ls cp info h hsr

/-- **sr_restore_partial**: on resume, the tasks rebuilt from such a checkpoint get the zero input;
    the pre-handler is skipped and the nested checkpoint handed down exactly for the nested graphs
    that interrupted (a rerun node runs its pre-handler again, which rebuilds the input from state). -/
theorem sr_restore_partial (zero : V) (inputs : List (Key × V)) (subs : List (Key × X))
    (hz : ∀ p ∈ inputs, p.2 = zero) :
    ∀ t ∈ restoreTasks inputs (subs.map (·.1)) subs,
      t.input = zero ∧ (t.skipPre = true ↔ t.key ∈ subs.map (·.1)) ∧ (t.sub.isSome ↔ t.key ∈ subs.map (·.1)) :=
  restoreTasks_sr zero inputs subs hz

/-! ### non-vacuity and the negation witness

  Concrete runs are evaluated: by `decide` where that is cheap, by `decide +kernel` for the longer histories
  (eager witnesses, nested runners), which the kernel runs several times faster than the elaborator; no
  axiom is involved. -/

def natOps : ValOps Nat := { merge := fun l => some l.sum, zero := 0 }

/-- start → a → b → end, interrupt-before {b}, interrupt-after {a}; `a` has a pre-handler, `b` a
    post-handler, both on the state -/
def lin : IRunner Nat Nat Unit :=
  { base := compile 10 { nodes := [("a", fun v => .ok v), ("b", fun v => .ok v)],
                         edges := [(START, "a"), ("a", "b"), ("b", END)], branches := [] },
    inodes := [{ key := "a", body := fun v s _ => { res := .done (v + 1) (s + 1) },
                 pre := some (fun v s => (v + s, s)) },
               { key := "b", body := fun v s _ => { res := .done (v * 2) s },
                 post := some (fun v s => (v + s, s + 10)) }],
    intBefore := ["b"], intAfter := ["a"], initState := 5 }

def fixedCfg : Cfg := { initialTasksChecked := true, fwdStale := false }

def finalVal (h : List (Out Nat Nat Unit)) : Option Nat :=
  match Out.finalOf h with | some (.done v) => some v | _ => none
def execsOf (h : List (Out Nat Nat Unit)) : List (Key × Nat) := execLog (allEvs h)

-- `lin_resumed`, `lin_plain` (likewise `outer*_`, `rr_`, `chunkless_` below) are stated only so that each run is
-- evaluated once: `decide` shares a closed sub-term inside one declaration, not across declarations.  What is claimed
-- are the examples after them, which are their parts.
theorem lin_resumed :
    let h := resumeUntilDone natOps fixedCfg lin ISched.id 10 1
    h.length = 2 ∧ finalVal h = some 20 ∧ execsOf h = [("a", 6), ("b", 7)] := by decide
theorem lin_plain :
    let o := run₀ natOps fixedCfg lin ISched.id 1
    finalVal [o] = some 20 ∧ execsOf [o] = [("a", 6), ("b", 7)] := by decide

/-- the hypotheses of `resume_equiv_pregel` are satisfiable by a run that does interrupt -/
example : (resumeUntilDone natOps fixedCfg lin ISched.id 10 1).length = 2 := lin_resumed.1
example : finalVal (resumeUntilDone natOps fixedCfg lin ISched.id 10 1) = some 20 := lin_resumed.2.1
example : finalVal [run₀ natOps fixedCfg lin ISched.id 1] = some 20 := lin_plain.1
example : execsOf (resumeUntilDone natOps fixedCfg lin ISched.id 10 1) = [("a", 6), ("b", 7)] := lin_resumed.2.2
example : execsOf [run₀ natOps fixedCfg lin ISched.id 1] = [("a", 6), ("b", 7)] := lin_plain.2
example : lin.base.dag = false := rfl
example : (akeys (initChans lin.base)).Nodup := by decide
example : NoSR lin := by
  intro n hn v s x
  simp only [lin, List.mem_cons, List.not_mem_nil, or_false] at hn
  rcases hn with rfl | rfl <;> exact ⟨fun s' h => by simp at h, fun y s' h => by simp at h⟩
example : SchedSub (ISched.id (V := Nat) (S := Nat) (X := Unit)) := fun _ _ h => h
example : run₀FinishesIn natOps lin ISched.id 2 1 := run₀FinishesIn_of_B natOps lin ISched.id 2 1 (by decide)
example : (2 : Nat) ≤ lin.base.fuel := by decide

/-- all-predecessor mode: start → a → b, start → b, b → end; interrupt-after {a}: at the interrupt
    b's channel still holds START's output -/
def dagJoin : IRunner Nat Nat Unit :=
  { base := compile 10 { dag := true, nodes := [("a", fun v => .ok v), ("b", fun v => .ok v)],
                         edges := [(START, "a"), ("a", "b"), (START, "b"), ("b", END)], branches := [] },
    inodes := [{ key := "a", body := fun v s _ => { res := .done (v + 1) s } },
               { key := "b", body := fun v s _ => { res := .done (v * 2) s } }],
    intAfter := ["a"], initState := 0 }

theorem dagJoin_resumed :
    let h := resumeUntilDone natOps fixedCfg dagJoin ISched.id 10 1
    h.length = 2 ∧ finalVal h = some 6 := by decide

/-- the hypotheses of `resume_equiv_dag` are satisfiable by a run that does interrupt -/
example : dagJoin.base.dag = true := rfl
example : AllP HasPred (initChans dagJoin.base) := allP_hasPred_of_all _ (by decide)
example : (akeys (initChans dagJoin.base)).Nodup := by decide
example : (resumeUntilDone natOps fixedCfg dagJoin ISched.id 10 1).length = 2 := dagJoin_resumed.1
example : finalVal (resumeUntilDone natOps fixedCfg dagJoin ISched.id 10 1) = some 6 := dagJoin_resumed.2
example : finalVal [run₀ natOps fixedCfg dagJoin ISched.id 1] = some 6 := by decide
example : run₀FinishesIn natOps dagJoin ISched.id 2 1 :=
  run₀FinishesIn_of_B natOps dagJoin ISched.id 2 1 (by decide)

/-- a cycle through a node that behaves like a nested graph: `s` interrupts inside when it starts
    from an input, and completes when it is resumed from its nested checkpoint; s → s -/
def cyc : IRunner Nat Unit Nat :=
  { base := compile 10 { nodes := [("s", fun v => .ok v)], edges := [(START, "s"), ("s", "s")], branches := [], maxSteps := 3 },
    inodes := [{ key := "s", body := fun v st sub =>
      match sub with
      | some x => { res := .done (v + x) st }
      | none => { res := .subInt 7 st } }],
    initState := () }

def staleCfg : Cfg := { initialTasksChecked := true, fwdStale := true }

/-- supersteps (with the "handed a nested checkpoint" flag) of the call that resumes the first interrupt -/
def secondCallSteps (cfg : Cfg) : List (List (Key × Bool)) :=
  match (runI natOps cfg cyc ISched.id false true (.inl 1)).res with
  | .interrupted cp _ => topSteps (runI natOps cfg cyc ISched.id false true (.inr cp)).evs
  | _ => []

/-- repaired code: the second execution of `s` in the resumed call starts fresh (and interrupts again) -/
example : secondCallSteps fixedCfg = [[("s", true)], [("s", false)]] := by decide

/-- **Negation witness for the code before the repair** (`createTasksForwardsStaleCP = true`): every
    later execution of `s` in the resumed call is handed the old nested checkpoint again — `s` is
    re-run from the stale checkpoint until the step limit. -/
theorem stale_checkpoint_reapplied :
    ¬ StepsFresh (topSteps (match (runI natOps staleCfg cyc ISched.id false true (.inl 1)).res with
        | .interrupted cp _ => runI natOps staleCfg cyc ISched.id false true (.inr cp)
        | _ => { res := .done 0, evs := [] }).evs).tail := by
  have h : topSteps (match (runI natOps staleCfg cyc ISched.id false true (.inl 1)).res with
        | .interrupted cp _ => runI natOps staleCfg cyc ISched.id false true (.inr cp)
        | _ => { res := .done 0, evs := [] }).evs = [[("s", true)], [("s", true)], [("s", true)]] := by decide
  rw [h]
  intro hf
  have := hf [("s", true)] (by simp) ("s", true) (by simp)
  simp at this

/-! ## Eager mode (Workflows): the interrupt site after `tm.waitAll()`

  Model: EinoV/Model/C05Eager.lean (`callLoop`, `secondSite`, `historyE`), reference run:
  `EinoV.Engine.runEager` (Model/C02Workflow.lean).

  FULL STATEMENT for eager mode, kept visible (NOT proved):
    resume_equiv_eager : ∀ r (DagWF r.base) pick x calls, (historyE ops .pending r pick calls x) completes →
      (historyE ops .pending r pick calls x).final = (runEager ops r.base pick' x).result  for every pick'
      ∧ (historyE …).execs ~ (runEager …).submitted                       (as multisets)
  MISSING: that folding the drained tasks without `get` and taking the ready channels at the first
  `calculateNextTasks` after the resume yields the tasks the uninterrupted eager loop submits one
  completion at a time (a confluence argument over `calcNext`, as for C02's run-level theorems).
  What IS machine-checked here: the tie of the source fact, what the repaired site persists, and the
  negation witnesses showing that the two other variants of the site are NOT resume-equivalent.
  On generated workflows the statement
  is checked on the implementation (harness/props/c05_eager.go) and, for the model's `pending`
  variant, by the oracle under several completion schedules. -/
section Eager
open EinoV.Interrupt.Eager

/-- **Source fact tie for the eager drain site.**  `0` = the shipped code
    (`append(completedTasks, newCompletedTasks...)`, next tasks dropped: the recorded finding, see
    `eager_refold_loses_join` / `eager_refold_loses_carried_ready`), `2` = the repaired site
    (fixes/C05-eager-drain-pending.diff).  `1` (only the drained tasks, next tasks dropped) is the
    regression `eager_drainedOnly_loses_successor` refutes; any other shape is unknown to the model. -/
theorem eager_drain_fact_recognised :
    FactsC05.eagerDrainSave = 0 ∨ FactsC05.eagerDrainSave = 2 := by decide

/-- What the repaired site persists is the paused loop state: the channels after every task collected
    so far (`cm'` already contains the first batch, the drained ones are folded in), the tasks already
    computed but not submitted (`ts`), and the aborting tasks — nothing is dropped, nothing is folded
    twice.  (Definitional; the equivalence with the uninterrupted loop is the unproved part.) -/
theorem eager_second_site_pending_partial (r : Runner V) (cm' : Chans V) (o : Done V) (ts : List (Key × V))
    (d : Drained V) :
    secondSite .pending r cm' o ts d =
      (match foldDone r cm' d.others with
       | .error e => .error e
       | .ok cm2 => .ok { chans := cm2, inputs := ts ++ d.aborting, att := d.att }) := rfl

/-- a resumed call continues the eager loop from exactly what was persisted -/
theorem eager_resume_from_checkpoint (ops : ValOps V) (save : DrainSave) (r : EIRunner V) (pick : Pick V) (cp : ECp V) :
    callE ops save r pick (.inr cp) = callLoop ops save r pick r.base.eagerFuel cp.chans cp.inputs cp.att [] := rfl

/-- START → a, START → j, a → j (join, interrupt-before), START → s (aborts once); j, s → END -/
def wJoin : EIRunner Nat :=
  { base := compileW natOps
      { nodes := [("a", fun v => .ok (v + 1)), ("j", fun v => .ok (v * 2)), ("s", fun v => .ok (v + 10))],
        deps := [.input START "a", .input START "j", .input "a" "j", .input START "s", .input "j" END, .input "s" END],
        branches := [] },
    intBefore := ["j"], aborts := [("s", 1)] }

/-- START → a → b (interrupt-before), START → s (aborts once); b, s → END -/
def wSingle : EIRunner Nat :=
  { base := compileW natOps
      { nodes := [("a", fun v => .ok (v + 1)), ("b", fun v => .ok (v * 2)), ("s", fun v => .ok (v + 10))],
        deps := [.input START "a", .input "a" "b", .input START "s", .input "b" END, .input "s" END],
        branches := [] },
    intBefore := ["b"], aborts := [("s", 1)] }

/-- like `wSingle` with a second aborting sibling r (aborts twice) -/
def wCarried : EIRunner Nat :=
  { base := compileW natOps
      { nodes := [("a", fun v => .ok (v + 1)), ("b", fun v => .ok (v * 2)), ("s", fun v => .ok (v + 10)), ("r", fun v => .ok (v + 100))],
        deps := [.input START "a", .input "a" "b", .input START "s", .input START "r",
                 .input "b" END, .input "s" END, .input "r" END],
        branches := [] },
    intBefore := ["b"], aborts := [("s", 1), ("r", 2)] }

/-- completion schedule: `a` finishes first, otherwise the oldest task -/
def aFirst : Pick Nat := fun l => (l.findIdx? (fun t => t.1 == "a")).getD 0

def okOfE (o : EOutcome Nat) : Option Nat := match o.result with | .ok v => some v | .error _ => none

/-- **Negation witness for the shipped site** (`eagerDrainSave = 0`): a join whose other predecessor
    (START) reported in an earlier step is lost — the run ends with `no tasks to execute`, the
    uninterrupted run returns 17. -/
theorem eager_refold_loses_join :
    (historyE natOps .refold wJoin aFirst 6 1).final.errCls? = some .noTasks ∧
    ¬ ("j" ∈ (historyE natOps .refold wJoin aFirst 6 1).execs.map (·.1)) ∧
    okOfE (runEager natOps wJoin.base aFirst 1) = some 17 := by decide +kernel

/-- second manifestation of the shipped site: a node carried *ready* in the channels of the previous
    checkpoint is not a successor of the first batch at all (two aborting siblings) -/
theorem eager_refold_loses_carried_ready :
    (historyE natOps .refold wCarried aFirst 8 1).final.errCls? = some .noTasks ∧
    ¬ ("b" ∈ (historyE natOps .refold wCarried aFirst 8 1).execs.map (·.1)) ∧
    okOfE (runEager natOps wCarried.base aFirst 1) = some 116 := by decide +kernel

/-- **Negation witness for the regression** (`eagerDrainSave = 1`): already the single-predecessor
    successor of the task that finished first is lost (the shipped site gets this one right) -/
theorem eager_drainedOnly_loses_successor :
    (historyE natOps .drainedOnly wSingle aFirst 6 1).final.errCls? = some .noTasks ∧
    ¬ ("b" ∈ (historyE natOps .drainedOnly wSingle aFirst 6 1).execs.map (·.1)) ∧
    (historyE natOps .refold wSingle aFirst 6 1).final.val? = okOfE (runEager natOps wSingle.base aFirst 1) ∧
    okOfE (runEager natOps wSingle.base aFirst 1) = some 15 := by decide +kernel

/-- the repaired site is resume-equivalent on all three witnesses: same result, same executions as the
    uninterrupted eager run (non-vacuity: each history does interrupt) -/
theorem eager_pending_equiv_on_witnesses :
    (historyE natOps .pending wJoin aFirst 6 1).final.val? = okOfE (runEager natOps wJoin.base aFirst 1) ∧
    (historyE natOps .pending wSingle aFirst 6 1).final.val? = okOfE (runEager natOps wSingle.base aFirst 1) ∧
    (historyE natOps .pending wCarried aFirst 8 1).final.val? = okOfE (runEager natOps wCarried.base aFirst 1) ∧
    (historyE natOps .pending wJoin aFirst 6 1).execs = [("a", 1), ("j", 3), ("s", 1)] ∧
    (runEager natOps wJoin.base aFirst 1).submitted = [("a", 1), ("s", 1), ("j", 3)] ∧
    (historyE natOps .pending wJoin aFirst 6 1).calls = 2 ∧
    (historyE natOps .pending wCarried aFirst 8 1).calls = 3 := by decide +kernel

end Eager

/-! ## Nested graphs: interrupts inside graph nodes, at every nesting depth

  Model: EinoV/Model/C05Nested.lean — `subBody` (the body of a node that is a compiled graph: the nested
  `runner.run` as a sub-graph, started from the input or from the nested checkpoint the parent stored
  under `SubGraphs[key]`; the body Oracle/C05GraphCase.lean builds for a `"graph"` node, up to the
  input-key / empty-stream wrappers of the keyed family),
  `NR d` (graphs nested `d` deep: nodes are functions or graphs of `NR (d-1)`, each level with its own
  interrupt-before/after sets, state, handlers, completion order), `NR.toI` (the compiled runner),
  `NR.deepPlain` (interrupt sets emptied at every level: the uninterrupted reference), `NR.leafLog` (the
  executions of the function nodes of all levels: node path and input after the pre-handler).
  Proofs: Proofs/C05Nested.lean (one level: `step_sim`, `loop_sim`, `call_sim`, `subBody_sim`),
  Proofs/C05NestedDepth.lean (induction on the depth, the history of calls, the split rule),
  Proofs/C05NestedEngine.lean (the engine facts in any-predecessor mode).

  FULL STATEMENT, kept visible:
    resume_equiv_nested_full : ∀ d (nr : NR d) sched x calls, calls > (number of interrupts the run can take) →
      finalOf (resumeUntilDone (toI nr) sched calls x) = (run₀ (toI (deepPlain nr)) sched x).res   (value or error)
      ∧ leafLog (history) ~ leafLog (run₀ …)
  PROVED (`resume_equiv_nested`, `resume_equiv_nested_bounded`): the statement for every depth, every interrupt-before/after set at
  every level, every topology and handler, every completion order that is a permutation, any number of
  interrupts, whenever the uninterrupted run returns a value and the history is continued until it no
  longer ends in an interrupt; per level under `LevelHyp` (distinct channel keys, the mode invariant, and
  the split rule `SplitOK`).  `SplitOK` is proved for every any-predecessor level with an
  order-insensitive merge and commuting post-handlers (`split_rule_pregel`), and in general from
  `FoldThenGet` + `CalcNextPerm` + `PostsCommute` (`split_rule_of`).
  The number of calls is bounded by the work of the uninterrupted run (`resume_terminates_nested`,
  `resume_equiv_nested_bounded`).
  MISSING for the full statement: (1) runs in which the uninterrupted run fails: which error is
  reported depends on the completion order, and an interrupted graph node fails only after its resume,
  so the history's error is one the uninterrupted run reports under *some* completion order, not under
  the same one; (2) all-predecessor levels: `FoldThenGet` / `CalcNextPerm` hold there only up to an
  equivalence of channel maps that `get` cannot observe (pending values in arrival order, contents of
  channels skipped later), not with equal channel maps as `SplitOK` demands — the theorems below are
  stated for any level satisfying `SplitOK`, which is proved for any-predecessor levels only; (3) executions are compared as
  multisets (`List.Perm`): tasks of a superstep run concurrently and the resumed graph node logs its
  remaining executions in a later call.  Rerun nodes: see the section below. -/
section Nested
open EinoV.Interrupt

variable {V S X : Type}

/-- **nested_call_sim** (one call, every nesting depth).  If the uninterrupted reference — started on
    the same input, or *from the same checkpoint* — returns `v`, then the call of the run with interrupt
    points at every level returns `v` with the same function-node executions, or returns an interrupt
    whose checkpoint (carrying the nested checkpoints of the interrupted graph nodes under their keys) is
    acceptable and from which the reference returns `v`, the reference's executions being those of this
    call plus those of the reference from that checkpoint: "the uninterrupted run = this call, then
    the uninterrupted run from the checkpoint" — and the work left (`NR.work`: supersteps of the
    reference at all levels, plus one per run started on a fresh input) is strictly smaller than before
    the call.  It never fails.  By induction on the depth
    (`NR.call_sim`); the step from a nested runner to the node containing it is `subBody_sim`. -/
theorem nested_call_sim (ops : ValOps V) (b : Bool) (cd : SubCodec V S X)
    (hcd : ∀ cp info, cd.cp (cd.pack cp info) = cp)
    (d : Nat) (nr : NR V S X d) (sched : ISched V S X) (hyp : NR.Hyp ops (srcCfg b) cd d nr sched)
    (isSub hasID s0 h0 : Bool) (v : V) (inp : V ⊕ Checkpoint V S X)
    (hinp : InpOK (srcCfg b) (NR.toI ops (srcCfg b) cd d nr) (NR.xok ops (srcCfg b) cd d nr) inp)
    (href : (runI ops (srcCfg b) (NR.toI ops (srcCfg b) cd d (NR.deepPlain d nr)) sched s0 h0 inp).res = .done v) :
    SimOut ops (srcCfg b) (NR.isFn d nr) (NR.xok ops (srcCfg b) cd d nr) (NR.clog d nr) (NR.wt ops (srcCfg b) cd d nr)
      (NR.toI ops (srcCfg b) cd d nr) (NR.toI ops (srcCfg b) cd d (NR.deepPlain d nr)) sched s0 h0 v
      (levelLog (NR.isFn d nr) (NR.clog d nr)
        (runI ops (srcCfg b) (NR.toI ops (srcCfg b) cd d (NR.deepPlain d nr)) sched s0 h0 inp).evs)
      (NR.work ops (srcCfg b) cd d nr sched inp)
      (runI ops (srcCfg b) (NR.toI ops (srcCfg b) cd d nr) sched isSub hasID inp) :=
  NR.call_sim ops (srcCfg b) cd hcd (srcCfg_fresh b) d nr sched hyp isSub hasID s0 h0 v inp hinp href

/-- **resume_equiv_nested.**  For a graph nested to any depth `d`, with interrupt-before/after sets at
    every level (so that graph nodes interrupt inside, any number of times, and the parent's checkpoint
    carries the nested checkpoints): if the uninterrupted run (interrupt sets emptied at every level)
    returns `v`, then every history of calls with the same checkpoint id that no longer ends in an
    interrupt ends with `v` — it does not fail — and the function nodes of all levels are executed, over
    the whole history, exactly as often and on exactly the inputs (after their pre-handlers) as in the
    uninterrupted run (`List.Perm` of the logs of (node path, input)).  Nothing completed is
    re-executed, nothing is lost.  For every completion order that is a permutation, at every level. -/
theorem resume_equiv_nested (ops : ValOps V) (b : Bool) (cd : SubCodec V S X)
    (hcd : ∀ cp info, cd.cp (cd.pack cp info) = cp)
    (d : Nat) (nr : NR V S X d) (sched : ISched V S X) (hyp : NR.Hyp ops (srcCfg b) cd d nr sched)
    (calls : Nat) (x v : V)
    (href : (run₀ ops (srcCfg b) (NR.toI ops (srcCfg b) cd d (NR.deepPlain d nr)) sched x).res = .done v)
    (res : Res V S X)
    (hfin : Out.finalOf (resumeUntilDone ops (srcCfg b) (NR.toI ops (srcCfg b) cd d nr) sched calls x) = some res)
    (hne : res.final? ≠ none) :
    res = .done v ∧
    (NR.leafLog d nr (run₀ ops (srcCfg b) (NR.toI ops (srcCfg b) cd d (NR.deepPlain d nr)) sched x).evs).Perm
      (NR.leafLog d nr (allEvs (resumeUntilDone ops (srcCfg b) (NR.toI ops (srcCfg b) cd d nr) sched calls x))) :=
  NR.resume_equiv ops (srcCfg b) cd hcd (srcCfg_fresh b) d nr sched hyp calls x v href res hfin hne

/-- **resume_terminates_nested.**  The history completes: the work of the uninterrupted run
    (`NR.work`, a number computed from the reference run alone) bounds the number of interrupts, at
    whatever levels they are taken; a caller that allows more calls than that ends with a result. -/
theorem resume_terminates_nested (ops : ValOps V) (b : Bool) (cd : SubCodec V S X)
    (hcd : ∀ cp info, cd.cp (cd.pack cp info) = cp)
    (d : Nat) (nr : NR V S X d) (sched : ISched V S X) (hyp : NR.Hyp ops (srcCfg b) cd d nr sched)
    (calls : Nat) (x v : V)
    (href : (run₀ ops (srcCfg b) (NR.toI ops (srcCfg b) cd d (NR.deepPlain d nr)) sched x).res = .done v)
    (hc : NR.work ops (srcCfg b) cd d nr sched (.inl x) < calls) :
    ∃ res, Out.finalOf (resumeUntilDone ops (srcCfg b) (NR.toI ops (srcCfg b) cd d nr) sched calls x) = some res ∧
      res.final? ≠ none :=
  NR.resume_terminates ops (srcCfg b) cd hcd (srcCfg_fresh b) d nr sched hyp calls x v href hc

/-- **resume_equiv_nested_bounded.**  Both together, in the shape of `resume_equiv_single_level`: enough
    calls (more than the work of the uninterrupted run), then the history ends with the value of the
    uninterrupted run and executes the function nodes of all levels exactly as the uninterrupted run. -/
theorem resume_equiv_nested_bounded (ops : ValOps V) (b : Bool) (cd : SubCodec V S X)
    (hcd : ∀ cp info, cd.cp (cd.pack cp info) = cp)
    (d : Nat) (nr : NR V S X d) (sched : ISched V S X) (hyp : NR.Hyp ops (srcCfg b) cd d nr sched)
    (calls : Nat) (x v : V)
    (href : (run₀ ops (srcCfg b) (NR.toI ops (srcCfg b) cd d (NR.deepPlain d nr)) sched x).res = .done v)
    (hc : NR.work ops (srcCfg b) cd d nr sched (.inl x) < calls) :
    Out.finalOf (resumeUntilDone ops (srcCfg b) (NR.toI ops (srcCfg b) cd d nr) sched calls x) = some (.done v) ∧
    (NR.leafLog d nr (run₀ ops (srcCfg b) (NR.toI ops (srcCfg b) cd d (NR.deepPlain d nr)) sched x).evs).Perm
      (NR.leafLog d nr (allEvs (resumeUntilDone ops (srcCfg b) (NR.toI ops (srcCfg b) cd d nr) sched calls x))) := by
  obtain ⟨res, h1, h2⟩ := resume_terminates_nested ops b cd hcd d nr sched hyp calls x v href hc
  obtain ⟨h3, h4⟩ := resume_equiv_nested ops b cd hcd d nr sched hyp calls x v href res h1 h2
  exact ⟨by rw [h1, h3], h4⟩

/-- **resume_equiv_nested_pregel.**  `resume_equiv_nested_bounded` with every hypothesis about the engine
    discharged: for a graph nested to any depth whose levels are all any-predecessor (Pregel) levels —
    any topology, cycles, branches, fan-in — with distinct channel keys, completion orders that are
    permutations, commuting post-handlers at every level, and a merge that does not depend on the order
    of its arguments. -/
theorem resume_equiv_nested_pregel (ops : ValOps V) (hm : MergePerm ops) (b : Bool) (cd : SubCodec V S X)
    (hcd : ∀ cp info, cd.cp (cd.pack cp info) = cp)
    (d : Nat) (nr : NR V S X d) (sched : ISched V S X) (hyp : NR.PregelHyp ops (srcCfg b) cd d nr sched)
    (calls : Nat) (x v : V)
    (href : (run₀ ops (srcCfg b) (NR.toI ops (srcCfg b) cd d (NR.deepPlain d nr)) sched x).res = .done v)
    (hc : NR.work ops (srcCfg b) cd d nr sched (.inl x) < calls) :
    Out.finalOf (resumeUntilDone ops (srcCfg b) (NR.toI ops (srcCfg b) cd d nr) sched calls x) = some (.done v) ∧
    (NR.leafLog d nr (run₀ ops (srcCfg b) (NR.toI ops (srcCfg b) cd d (NR.deepPlain d nr)) sched x).evs).Perm
      (NR.leafLog d nr (allEvs (resumeUntilDone ops (srcCfg b) (NR.toI ops (srcCfg b) cd d nr) sched calls x))) :=
  resume_equiv_nested_bounded ops b cd hcd d nr sched (NR.hyp_of_pregel ops hm (srcCfg b) cd d nr sched hyp) calls x v href hc

/-- **nesting_step.**  The inductive step in isolation, for any two runners (not only those of the
    family `NR`): if the calls of a nested runner `c` simulate those of `c₀` (`CallSim`, the statement of
    `nested_call_sim`), then the graph node containing `c` simulates the graph node containing `c₀`
    (`BodySim`, what `call_sim` assumes of the node bodies of the parent level). -/
theorem nesting_step (ops : ValOps V) (cfg : Cfg) (cd : SubCodec V S X) (hcd : ∀ cp info, cd.cp (cd.pack cp info) = cp)
    (isFn : Key → Bool) (XOK : Key → X → Prop) (clog : Key → List (Ev V S X) → Log V)
    (wt : Key → V → S → Option X → Nat)
    (c c₀ : IRunner V S X) (sc : ISched V S X) (k : Key) (h : CallSim ops cfg isFn XOK clog wt c c₀ sc) :
    BodySim (fun p => LsOK c XOK (restore cfg c (cd.cp p))) (fun evs => pfxLog k (levelLog isFn clog evs))
      (fun v _ x => callWt ops cfg wt c₀ sc (subInp cd v x))
      (subBody ops cfg cd c sc) (subBody ops cfg cd c₀ sc) :=
  subBody_sim ops cfg cd hcd isFn XOK clog wt c c₀ sc k h

/-- **split_rule_pregel.**  The per-level hypothesis `SplitOK` ("post-handlers of the tasks finished
    before the nested interrupt, fold without `get`, then the resumed graph nodes and
    `calculateNextTasks` = post-handlers of all and `calculateNextTasks`") holds for every
    any-predecessor level — any topology, cycles, branches, fan-in — when merging does not depend on the
    order of its arguments and the post-handlers of different nodes commute.  Engine part:
    `pregel_fold_then_get`, `pregel_calcNext_perm` (Proofs/C05NestedEngine.lean). -/
theorem split_rule_pregel (ops : ValOps V) (hm : MergePerm ops) (r : IRunner V S X) (hdag : r.base.dag = false)
    (hc : PostsCommute r) : SplitOK ops r :=
  pregel_splitOK ops hm r hdag hc

/-- **split_rule_of.**  In either trigger mode the split rule follows from three facts about the level:
    fold-then-get = get-after-all (`FoldThenGet`), order-insensitivity of one `calculateNextTasks`
    (`CalcNextPerm`), commuting post-handlers. -/
theorem split_rule_of (ops : ValOps V) (r : IRunner V S X) (hf : FoldThenGet ops r.base) (hp : CalcNextPerm ops r.base)
    (hc : PostsCommute r) : SplitOK ops r :=
  splitOK_of ops r hf hp hc

/-- **fold_then_get_pregel.**  The compositional rule of the sub-graph interrupt path, any-predecessor
    mode, every runner and channel map: folding the tasks that finished before the interrupt into the
    channels without `get` and reporting the resumed ones later gives exactly the channels and next tasks
    of reporting all of them at once. -/
theorem fold_then_get_pregel (ops : ValOps V) (base : Runner V) (hdag : base.dag = false) : FoldThenGet ops base :=
  fun cm D1 D2 cm' nx _ h => pregel_fold_then_get ops base hdag cm D1 D2 cm' nx h

/-! ### non-vacuity: nested runners that do interrupt inside, two and three levels deep

  The runners (`inner`: start → a → c → end with interrupt-after {a}, interrupt-before {c}; `outer`:
  start → g, start → p; g, p → j → end where `g` is the graph `inner` and interrupt-before {j}; `outer2`:
  start → h → end, start → q → end where `h` is the graph `outer`, interrupt-after {q}, completion order
  reversed) and the proofs of their hypotheses (`outer_hyp`, `outer2_hyp`) are in
  Proofs/C05NestedExamples.lean. -/
open EinoV.NestedEx (Pay payCodec inner outer outer2 revSched outer_hyp outer2_hyp)

def finalValP (h : List (Out Nat Nat Pay)) : Option Nat :=
  match Out.finalOf h with | some (.done v) => some v | _ => none
/-- 1: the call returned an interrupt -/
def kindsP (h : List (Out Nat Nat Pay)) : List Nat :=
  h.map (fun o => match o.res with | .done _ => 0 | .interrupted .. => 1 | .failed _ => 2)

theorem outer_resumed :
    let h := resumeUntilDone natOps fixedCfg (NR.toI natOps fixedCfg payCodec 1 outer) ISched.id 10 1
    kindsP h = [1, 1, 0] ∧ finalValP h = some 120 ∧
    NR.leafLog 1 outer (allEvs h) = [(["g", "a"], 1), (["p"], 1), (["g", "c"], 2), (["j"], 15)] := by decide +kernel
theorem outer_plain :
    let o := run₀ natOps fixedCfg (NR.toI natOps fixedCfg payCodec 1 (NR.deepPlain 1 outer)) ISched.id 1
    finalValP [o] = some 120 ∧
    NR.leafLog 1 outer o.evs = [(["g", "a"], 1), (["g", "c"], 2), (["p"], 1), (["j"], 15)] := by decide +kernel
theorem outer2_resumed :
    let h := resumeUntilDone natOps fixedCfg (NR.toI natOps fixedCfg payCodec 2 outer2) revSched 10 1
    kindsP h = [1, 1, 0] ∧
    NR.leafLog 2 outer2 (allEvs h) =
      [(["h", "g", "a"], 1), (["h", "p"], 1), (["q"], 1), (["h", "g", "c"], 2), (["h", "j"], 15)] ∧
    finalValP h = finalValP [run₀ natOps fixedCfg (NR.toI natOps fixedCfg payCodec 2 (NR.deepPlain 2 outer2)) revSched 1] := by
  decide +kernel

/-- the hypotheses of `resume_equiv_nested` hold for `outer` (two levels) and `outer2` (three levels); the
    histories do interrupt — inside the nested graphs — and complete with the value of the
    uninterrupted run; the executions are a permutation (not the same order) of the uninterrupted ones -/
example : payCodec.cp (payCodec.pack cp info) = cp := rfl
example : kindsP (resumeUntilDone natOps fixedCfg (NR.toI natOps fixedCfg payCodec 1 outer) ISched.id 10 1) = [1, 1, 0] := outer_resumed.1
example : finalValP (resumeUntilDone natOps fixedCfg (NR.toI natOps fixedCfg payCodec 1 outer) ISched.id 10 1) = some 120 := outer_resumed.2.1
example : finalValP [run₀ natOps fixedCfg (NR.toI natOps fixedCfg payCodec 1 (NR.deepPlain 1 outer)) ISched.id 1] = some 120 := outer_plain.1
example : NR.leafLog 1 outer (allEvs (resumeUntilDone natOps fixedCfg (NR.toI natOps fixedCfg payCodec 1 outer) ISched.id 10 1)) =
    [(["g", "a"], 1), (["p"], 1), (["g", "c"], 2), (["j"], 15)] := outer_resumed.2.2
example : NR.leafLog 1 outer (run₀ natOps fixedCfg (NR.toI natOps fixedCfg payCodec 1 (NR.deepPlain 1 outer)) ISched.id 1).evs =
    [(["g", "a"], 1), (["g", "c"], 2), (["p"], 1), (["j"], 15)] := outer_plain.2
example : kindsP (resumeUntilDone natOps fixedCfg (NR.toI natOps fixedCfg payCodec 2 outer2) revSched 10 1) = [1, 1, 0] := outer2_resumed.1
example : NR.leafLog 2 outer2 (allEvs (resumeUntilDone natOps fixedCfg (NR.toI natOps fixedCfg payCodec 2 outer2) revSched 10 1)) =
    [(["h", "g", "a"], 1), (["h", "p"], 1), (["q"], 1), (["h", "g", "c"], 2), (["h", "j"], 15)] := outer2_resumed.2.1
example : finalValP (resumeUntilDone natOps fixedCfg (NR.toI natOps fixedCfg payCodec 2 outer2) revSched 10 1) =
    finalValP [run₀ natOps fixedCfg (NR.toI natOps fixedCfg payCodec 2 (NR.deepPlain 2 outer2)) revSched 1] := outer2_resumed.2.2

theorem outer2_plain :
    (run₀ natOps (srcCfg true) (NR.toI natOps (srcCfg true) payCodec 2 (NR.deepPlain 2 outer2)) revSched 1).res = .done 1121 :=
  Res.eq_done_of_final? (by decide +kernel)

/-- all hypotheses of `resume_equiv_nested_bounded` at once, on the three-level runner: any number of calls
    above the bound `NR.work` (which evaluates to 8 here; the history takes 2 interrupts) -/
example (n : Nat) (hn : NR.work natOps (srcCfg true) payCodec 2 outer2 revSched (.inl 1) < n) :
    Out.finalOf (resumeUntilDone natOps (srcCfg true) (NR.toI natOps (srcCfg true) payCodec 2 outer2) revSched n 1) =
      some (.done 1121) :=
  (resume_equiv_nested_bounded natOps true payCodec (fun _ _ => rfl) 2 outer2 revSched outer2_hyp n 1 1121 outer2_plain hn).1

/-- all hypotheses of `resume_equiv_nested` at once, on the three-level runner: whatever the history
    (10 calls allowed) ends with, if it is not an interrupt it is the value of the uninterrupted run -/
example (res : Res Nat Nat Pay)
    (hfin : Out.finalOf (resumeUntilDone natOps (srcCfg true) (NR.toI natOps (srcCfg true) payCodec 2 outer2) revSched 10 1) = some res)
    (hne : res.final? ≠ none) : res = .done 1121 :=
  (resume_equiv_nested natOps true payCodec (fun _ _ => rfl) 2 outer2 revSched outer2_hyp 10 1 1121 outer2_plain res hfin hne).1

end Nested

/-! ## Rerun nodes: a node that asks to be interrupted and re-run

  FULL STATEMENT, kept visible (NOT proved):
    resume_equiv_rerun : a history in which nodes return `InterruptAndRerun` ends like the run of the same
      graph with the rerun requests removed, and executes the same nodes on the same inputs apart from the
      aborted attempts.
  PROVED: what the resume does with such a node — `rerun_restores_exactly` (the checkpoint restores
  exactly the nodes that asked for a rerun and the graph nodes that interrupted inside, each on the
  zero input; the tasks that completed in the interrupted superstep are folded into the channels and
  are not started again) and `rerun_input_rebuilt` (the restored task has no nested checkpoint and its
  pre-handler is *not* skipped: the body starts on what the pre-handler makes of the zero input and the
  restored state — the input it had, if the pre-handler rebuilds it from the state).
  MISSING: the aborted attempt and the re-execution necessarily communicate through the state (in a
  deterministic model a node can only stop asking for a rerun because the state changed), so the
  states of the history and of the run without rerun requests differ by that bookkeeping for ever
  after; the equivalence holds only *up to a relation on states* that every handler and body respects.
  `call_sim` is stated with equal states; its relational version (same structure, `LsOK` with related
  states, handlers and bodies assumed to respect the relation, the rerun node's second execution
  assumed to return what the execution without request returns) is not done.  The correspondence check
  covers it (≈960 rerun histories per quick run, states compared modulo the attempt counters). -/
section Rerun
open EinoV.Interrupt

variable {V S X : Type}

/-- **rerun_restores_exactly.**  When a superstep ends in an interrupt because nodes asked for a rerun
    (or graph nodes interrupted inside): every such node is reported (RerunNodes / SubGraphs with its
    payload); the checkpoint restores exactly these nodes, each on the zero input, with SkipPreHandler
    exactly for the graph nodes — no node that completed in the superstep is started again by the resume
    (its output is already folded into the channels, `sr_checkpoint_partial`).  For every completion
    order that loses no task. -/
theorem rerun_restores_exactly (ops : ValOps V) (r : IRunner V S X) (sched : ISched V S X) (hk : SchedKeeps sched)
    (ls : LoopSt V S X) (cp : Checkpoint V S X) (info : Info S X) (h : (stepI ops r sched ls).2 = .intr cp info) :
    (∀ k s, (k, BodyRes.rerun s) ∈ (runBodies r (runPres r ls.tasks ls.st).1 (runPres r ls.tasks ls.st).2).1 →
      k ∈ info.rerun) ∧
    (∀ k p s, (k, BodyRes.subInt p s) ∈ (runBodies r (runPres r ls.tasks ls.st).1 (runPres r ls.tasks ls.st).2).1 →
      (k, p) ∈ info.subs) ∧
    ((info.subs ≠ [] ∨ info.rerun ≠ []) →
      (∀ k, k ∈ cp.inputs.map (·.1) ↔ (k ∈ info.rerun ∨ k ∈ info.subs.map (·.1))) ∧
      (∀ q ∈ cp.inputs, q.2 = ops.zero) ∧ cp.skipPre = info.subs.map (·.1)) :=
  stepI_sr_complete ops r sched hk ls cp info h

/-- **rerun_input_rebuilt.**  The task the resume builds for a node that asked for a rerun (a restored
    key that is not a SubGraphs key): zero input, pre-handler not skipped, no nested checkpoint; and its
    pre-handler `h` turns it into a task on `(h zero st).1` — the body of the re-execution starts on what
    the pre-handler rebuilds from the restored state (`st`: the state when the pre-handler runs). -/
theorem rerun_input_rebuilt (r : IRunner V S X) (zero : V) (inputs : List (Key × V)) (subs : List (Key × X)) (k : Key)
    (hin : ∀ q ∈ inputs, q.2 = zero) (hnsub : k ∉ subs.map (·.1))
    (n : INode V S X) (h : V → S → V × S) (hn : r.inode? k = some n) (hp : n.pre = some h) :
    (∀ t ∈ restoreTasks inputs (subs.map (·.1)) subs, t.key = k →
      t = { key := k, input := zero, skipPre := false, sub := none }) ∧
    (∀ st, preOne r { key := k, input := zero, skipPre := false, sub := none } st =
      ({ key := k, input := (h zero st).1, skipPre := false, sub := none }, (h zero st).2)) :=
  ⟨restoreTasks_rerun zero inputs (subs.map (·.1)) subs k hin hnsub hnsub,
   fun st => preOne_rerun r k n h hn hp zero st⟩

/-- start → a → t → end; `t` asks for a rerun on its first attempt (attempt counter in the state, second
    component); its pre-handler saves the input in the state (first component) and rebuilds it when it
    is handed the zero input.  `plainBody`: the same graph with the rerun request removed. -/
def rr (plainBody : Bool) : IRunner Nat (Nat × Nat) Unit :=
  { base := compile 10 { nodes := [("a", fun v => .ok v), ("t", fun v => .ok v)],
                         edges := [(START, "a"), ("a", "t"), ("t", END)], branches := [] },
    inodes := [{ key := "a", body := fun v s _ => { res := .done (v + 1) s } },
               { key := "t",
                 pre := some (fun v s => if v == 0 then (s.1, s) else (v, (v, s.2))),
                 body := fun v s _ =>
                   if !plainBody && s.2 < 1 then { res := .rerun (s.1, s.2 + 1) } else { res := .done (v * 2) s } }],
    initState := (0, 0) }

def finalValR (h : List (Out Nat (Nat × Nat) Unit)) : Option Nat :=
  match Out.finalOf h with | some (.done v) => some v | _ => none

theorem rr_resumed :
    let h := resumeUntilDone natOps fixedCfg (rr false) ISched.id 10 5
    finalValR h = some 12 ∧ execLog (allEvs h) = [("a", 5), ("t", 6), ("t", 6)] ∧
    h.map (fun o => topSteps o.evs) = [[[("a", false)], [("t", false)]], [[("t", false)]]] := by decide
theorem rr_plain :
    let o := run₀ natOps fixedCfg (rr true) ISched.id 5
    finalValR [o] = some 12 ∧ execLog o.evs = [("a", 5), ("t", 6)] := by decide

/-- the full statement on this instance: same final value; `t` is executed twice on the same input 6
    (the aborted attempt and the re-execution on the rebuilt input), `a` once; the resumed call starts
    with the superstep `[t]` only -/
example : finalValR (resumeUntilDone natOps fixedCfg (rr false) ISched.id 10 5) = some 12 := rr_resumed.1
example : finalValR [run₀ natOps fixedCfg (rr true) ISched.id 5] = some 12 := rr_plain.1
example : execLog (allEvs (resumeUntilDone natOps fixedCfg (rr false) ISched.id 10 5)) = [("a", 5), ("t", 6), ("t", 6)] := rr_resumed.2.1
example : execLog (run₀ natOps fixedCfg (rr true) ISched.id 5).evs = [("a", 5), ("t", 6)] := rr_plain.2
example : (resumeUntilDone natOps fixedCfg (rr false) ISched.id 10 5).map (fun o => topSteps o.evs) =
    [[[("a", false)], [("t", false)]], [[("t", false)]]] := rr_resumed.2.2
example : SchedKeeps (ISched.id (V := Nat) (S := Nat × Nat) (X := Unit)) := fun _ _ h => h

end Rerun

/-! ## Streams: the stream without chunks through a checkpoint

  The stream paradigms (Stream / Collect / Transform) run the same loop on streams. In the graph case
  language they differ observably from the value paradigm in one value only: the stream that is closed
  without any chunk (a filter that lets nothing through). The value paradigm has no such value; a
  checkpoint taken in a stream paradigm has to carry it — as a pending input, as a channel content, at any
  nesting level — and hand it back as what it was. A checkpoint stores values, so every stream goes
  through `defaultStreamConvertPair` (`concatStream` on write, `restoreStream` on read): Model/C05Streams.lean
  `concatS` / `restoreS`, with the answer for the chunk-less stream as source fact `emptyStreamStoredAsNil`.

  PROVED: the round trip keeps "no chunk at all" and otherwise the merged chunks, i.e. everything the case
  language observes of a stream (`checkpoint_preserves_chunkless_stream`,
  `checkpoint_preserves_observed_stream`, for the converter as the source has it); a second round trip
  changes nothing (`checkpoint_round_trip_idempotent`); with the typed zero value stored instead, the
  chunk-less stream comes back as a stream with one zero chunk (`zero_value_checkpoint_loses_chunkless_stream`,
  negation witness); the extension of the value universe by `emptyV` is conservative
  (`mergeE_conservative`), a fan-in drops chunk-less streams (`mergeE_drops_chunkless`); a history whose
  calls all run in one mode is `resumeLoop` (`one_mode_history_is_resume_loop`) — hence
  `resume_equiv_pregel` / `resume_equiv_dag` / `resume_equiv_nested` speak about stream-mode histories
  over a value universe that contains the chunk-less stream (`V` is arbitrary there; the `example`s below
  run such a history).
  NOT PROVED: that the Go run loop on streams is this loop on `absS`-abstractions of the streams (the
  correspondence check: streams family, harness/props/c05_empty.go); histories that mix value-mode and
  stream-mode calls. -/
section Streams
open EinoV.Interrupt.Streams

variable {V S X : Type}

theorem empty_stream_fact_match : FactsC05.emptyStreamStoredAsNil = Expected.C05.emptyStreamStoredAsNil := by decide

/-- **checkpoint_preserves_chunkless_stream.**  Through one checkpoint round trip (written in a stream
    paradigm, read in a stream paradigm; the converter as the source has it) a stream comes back without
    chunks exactly if it had none: "pending inputs, channel contents … survive the round trip" for the one
    value the stream paradigms add. -/
theorem checkpoint_preserves_chunkless_stream (ops : ValOps V) (s cs : Chunks V)
    (h : roundTrip FactsC05.emptyStreamStoredAsNil ops s = some cs) : cs = [] ↔ s = [] := by
  have hf : FactsC05.emptyStreamStoredAsNil = true := by decide
  rw [hf] at h
  exact roundTrip_nil_iff ops s cs h

/-- **checkpoint_preserves_observed_stream.**  … and what a reader observes of the stream — no chunk at
    all (`e`), or the chunks merged — is the same before and after (chunk boundaries other than "none" are
    not preserved: a restored stream has at most one chunk). -/
theorem checkpoint_preserves_observed_stream (ops : ValOps V) (e : V) (s cs : Chunks V)
    (h : roundTrip FactsC05.emptyStreamStoredAsNil ops s = some cs) : absS ops e cs = absS ops e s := by
  have hf : FactsC05.emptyStreamStoredAsNil = true := by decide
  rw [hf] at h
  exact roundTrip_abs ops e s cs h

/-- the round trip fails only for chunks that cannot be merged (whatever is stored for "no chunk") -/
theorem checkpoint_round_trip_fails_iff (ops : ValOps V) (e : V) (s : Chunks V) :
    roundTrip FactsC05.emptyStreamStoredAsNil ops s = none ↔ absS ops e s = none :=
  roundTrip_none_iff ops e _ s

/-- a second round trip (interrupt again before the stream is consumed) changes nothing -/
theorem checkpoint_round_trip_idempotent (ops : ValOps V) (s cs : Chunks V)
    (h : roundTrip FactsC05.emptyStreamStoredAsNil ops s = some cs) :
    roundTrip FactsC05.emptyStreamStoredAsNil ops cs = some cs := by
  have hf : FactsC05.emptyStreamStoredAsNil = true := by decide
  rw [hf] at h ⊢
  exact roundTrip_idem ops s cs h

/-- **Negation witness for the other converter** (`emptyStreamStoredAsNil = false`: the typed zero value
    is stored for a stream without chunks): the chunk-less stream comes back as a stream with one zero
    chunk, which every reader that tells "no chunk" from the zero value observes. -/
theorem zero_value_checkpoint_loses_chunkless_stream (ops : ValOps V) (e : V) (he : e ≠ ops.zero) :
    roundTrip false ops ([] : Chunks V) = some [ops.zero] ∧
    absS ops e [ops.zero] ≠ absS ops e ([] : Chunks V) := by
  refine ⟨rfl, ?_⟩
  simp only [absS, ne_eq, Option.some.injEq]
  exact fun h => he h.symm

/-- **mergeE_conservative.**  On values other than the stream without chunks (`emptyV`) the oracle's
    merge is `FlatMap.merge`. -/
theorem mergeE_conservative (vs : List FlatMap) (h : ∀ v ∈ vs, isE v = false) : mergeE vs = FlatMap.merge vs :=
  mergeE_of_no_empty vs h

/-- **mergeE_drops_chunkless.**  A fan-in of streams is one stream with the chunks of all: chunk-less
    streams contribute nothing; only chunk-less streams give a chunk-less stream. -/
theorem mergeE_drops_chunkless (vs : List FlatMap) :
    ((∃ v ∈ vs, isE v = false) → mergeE (emptyV :: vs) = mergeE vs) ∧
    (vs ≠ [] → (∀ v ∈ vs, isE v = true) → mergeE vs = some emptyV) :=
  ⟨mergeE_cons_empty vs, mergeE_all_empty vs⟩

/-- **one_mode_history_is_resume_loop.**  A history whose calls all run the graph in the same mode (the
    oracle's `histLoop` with a constant runner) is `resumeLoop`: the resume-equivalence theorems of this
    file apply to it as they stand. -/
theorem one_mode_history_is_resume_loop (ops : ValOps V) (cfg : Cfg) (r : IRunner V S X) (sched : ISched V S X)
    (n i : Nat) (inp : V ⊕ Checkpoint V S X) :
    histLoop ops cfg (fun _ => r) sched n i inp = resumeLoop ops cfg r sched n inp :=
  histLoop_const ops cfg r sched n i inp

/-! non-vacuity: a value universe with the stream without chunks (`none`), a history that carries it
    through two checkpoints as a pending input -/

/-- values `some n`, the stream without chunks `none`; a fan-in drops it -/
def optOps : ValOps (Option Nat) :=
  { merge := fun l => some (match l.filterMap id with | [] => none | ns => some ns.sum), zero := some 0 }

/-- start → e → p → c → end: `e` answers with a stream without chunks, `p` hands on what it gets, `c` reads
    the chunks (none: 100); interrupt-after {e}, interrupt-before {c} -/
def chunkless : IRunner (Option Nat) Nat Unit :=
  { base := compile 10 { nodes := [("e", fun v => .ok v), ("p", fun v => .ok v), ("c", fun v => .ok v)],
                         edges := [(START, "e"), ("e", "p"), ("p", "c"), ("c", END)], branches := [] },
    inodes := [{ key := "e", body := fun _ s _ => { res := .done none (s + 1) } },
               { key := "p", body := fun v s _ => { res := .done v s } },
               { key := "c", body := fun v s _ => { res := .done (some (match v with | none => 100 | some n => n + 1)) s } }],
    intBefore := ["c"], intAfter := ["e"], initState := 0 }

def finalValO (h : List (Out (Option Nat) Nat Unit)) : Option (Option Nat) :=
  match Out.finalOf h with | some (.done v) => some v | _ => none

theorem chunkless_resumed :
    let h := resumeUntilDone optOps fixedCfg chunkless ISched.id 10 (some 1)
    h.length = 3 ∧ finalValO h = some (some 100) ∧
    execLog (allEvs h) = [("e", some 1), ("p", none), ("c", none)] := by decide
theorem chunkless_plain :
    let o := run₀ optOps fixedCfg chunkless ISched.id (some 1)
    finalValO [o] = some (some 100) ∧ execLog (allEvs [o]) = [("e", some 1), ("p", none), ("c", none)] := by decide
example : (resumeUntilDone optOps fixedCfg chunkless ISched.id 10 (some 1)).length = 3 := chunkless_resumed.1
example : finalValO (resumeUntilDone optOps fixedCfg chunkless ISched.id 10 (some 1)) = some (some 100) := chunkless_resumed.2.1
example : finalValO [run₀ optOps fixedCfg chunkless ISched.id (some 1)] = some (some 100) := chunkless_plain.1
example : execLog (allEvs (resumeUntilDone optOps fixedCfg chunkless ISched.id 10 (some 1))) =
    [("e", some 1), ("p", none), ("c", none)] := chunkless_resumed.2.2
example : execLog (allEvs [run₀ optOps fixedCfg chunkless ISched.id (some 1)]) =
    [("e", some 1), ("p", none), ("c", none)] := chunkless_plain.2
example : run₀FinishesIn optOps chunkless ISched.id 3 (some 1) :=
  run₀FinishesIn_of_B optOps chunkless ISched.id 3 (some 1) (by decide)
example : roundTrip true optOps ([] : Chunks (Option Nat)) = some [] := rfl
example : absS optOps none <$> roundTrip false optOps ([] : Chunks (Option Nat)) = some (some (some 0)) := rfl
example : mergeE [emptyV, [("a", "1")]] = some [("a", "1")] := by decide
example : mergeE [emptyV, emptyV] = some emptyV := by decide

end Streams

/-! ### Restoring channels from a checkpoint, translated (Gen/TransCp.lean)

  `(*dagChannel).load`, `(*pregelChannel).load` and `(*channelManager).loadChannels` are re-translated from
  /repo on every run of this property (together with the channel units they stand on: TransC02, TransC01,
  TransMgr).  `c.(*dagChannel)` on a value of the closed interface sum `channel` is a match on the constructor.
  The theorems say that `loadChannels` computes the model's `loadChans` — what `restore` (Model/C05.lean)
  installs in the fresh manager of a resumed run: every channel of the manager that the checkpoint has is
  replaced by the checkpoint's, a key missing from the checkpoint keeps its channel, keys of the checkpoint
  the manager does not have are ignored — with the frame conditions of the translated manager (`Frame`) and
  `ChansOK` kept; a channel of the other kind is the load error.
  Aliasing: the Go `load` assigns the argument's maps to the receiver's fields, so the live channel shares
  its maps with the checkpoint's channel.  Under maps-as-values this is invisible; it would become visible if
  the checkpoint were used again after the run has mutated a restored channel (trusted base, DESIGN §6). -/
section TranslatedLoad
open EinoV.GoSem EinoV.TransMgr EinoV.TransCp EinoV.Gen.TransMgr EinoV.Gen.TransC02 EinoV.Gen.TransC01 EinoV.Gen.TransCp
variable {V : Type} [Inhabited V]

theorem translated_load_source_is_current : EinoV.Gen.FactsC05.checkpointLoadTranslated = true := by decide

/-- `load` takes a channel of the same kind over entirely; a channel of the other kind is the error -/
theorem translated_channel_load_refines (ext : Ext V) (mext : MgrExt V) (x y : dagChannel V)
    (p q : pregelChannel V) :
    dagChannel_load ext mext x (.of_dagChannel y) = (y, none) ∧
    pregelChannel_load ext mext p (.of_pregelChannel q) = (q, none) ∧
    dagChannel_load ext mext x (.of_pregelChannel q)
      = (x, some (GoErr.mk "load dag channel fail, got %T, want *dagChannel")) ∧
    pregelChannel_load ext mext p (.of_dagChannel y)
      = (p, some (GoErr.mk "load pregel channel fail, got %T, want *pregelChannel")) :=
  ⟨dag_load_dag ext mext x y, pregel_load_pregel ext mext p q, dag_load_pregel ext mext x q,
   pregel_load_dag ext mext p y⟩

theorem translated_loadChannels_refines (ext : Ext V) (mext : MgrExt V) (dag : Bool) (c : channelManager V)
    (cp : GoMap (channel V)) (hok : ChansOK dag c.channels) (hcp : CpOK dag cp) :
    ∃ c', channelManager_loadChannels ext mext c cp = .ret (c', none) ∧
      toChans c'.channels = EinoV.Interrupt.loadChans (toChans c.channels) (toChans cp) ∧
      Frame c c' ∧ ChansOK dag c'.channels :=
  loadChannels_refines ext mext dag c cp hok hcp

/-- a channel of the other kind under a key of the manager: the error "load channel[%s] fail" (never a panic) -/
theorem translated_loadChannels_kind_mismatch (ext : Ext V) (mext : MgrExt V) (c : channelManager V)
    (cp : GoMap (channel V)) (hnd : TransDag.KeysNodup c.channels) (hbad : c.channels.any (mismatch cp) = true) :
    ∃ c', channelManager_loadChannels ext mext c cp = .ret (c', some (GoErr.mk "load channel[%s] fail: %w")) :=
  loadChannels_kind_mismatch ext mext c cp hnd hbad

/-- non-vacuity: a manager with channels a, b; the checkpoint has b (with a value) and an unknown key z:
    b is replaced, a kept, z ignored -/
example : (match channelManager_loadChannels (V := Nat) { zeroValue := 0, emptyStream := 0, mergeValues := fun _ => (0, none) }
      { edgeHandle := fun _ _ v _ => (v, none), preNodeHandle := fun _ v _ => (v, none) }
      { isStream := false, channels := [("a", .of_pregelChannel { Values := [] }), ("b", .of_pregelChannel { Values := [] })],
        successors := [], dataPredecessors := [], controlPredecessors := [] }
      [("b", .of_pregelChannel { Values := [("x", 7)] }), ("z", .of_pregelChannel { Values := [("y", 9)] })] with
    | .ret r => (toChans r.1.channels).map (fun p => (p.1, p.2.values))
    | _ => []) = [("a", []), ("b", [("x", 7)])] := by decide

end TranslatedLoad

end EinoV.C05
