/-
  C01 — Any-predecessor (Pregel) runs follow lock-step superstep semantics and terminate.
  Property theorems.  Model: EinoV/Model/Engine.lean, GraphBuild.lean.
  Source facts: EinoV/Gen/FactsC01.lean (regenerated from /repo on every run).
-/
import EinoV.Model.Engine
import EinoV.Model.GraphBuild
import EinoV.Proofs.C01
import EinoV.Proofs.C01Refine
import EinoV.Proofs.C01Chain
import EinoV.Proofs.C01ChainKeys
import EinoV.Proofs.C01Share
import EinoV.Spec.Superstep
import EinoV.Gen.FactsC01
import EinoV.Expected.C01
import EinoV.Proofs.TransPregel
import EinoV.Proofs.TransMgrInit
import EinoV.Proofs.TransStep
import EinoV.Proofs.TransTab

namespace EinoV.C01
open EinoV.Engine EinoV.Gen

/-- Source fact tie: the step guard and the default slack are the ones modelled. -/
theorem facts_match :
    FactsC01.stepSlack = Expected.C01.stepSlack ∧
    FactsC01.stepGuardBeforeSubmit = Expected.C01.stepGuardBeforeSubmit ∧
    FactsC01.stepGuardOp = Expected.C01.stepGuardOp ∧
    FactsC01.stepGuardOnlyNonDag = true ∧
    FactsC01.limitValidated = true ∧
    FactsC01.needAllIsNotEager = true ∧
    FactsC01.appendBranchLeavesBuilderIntact = Expected.C01.appendBranchLeavesBuilderIntact ∧
    FactsC01.appendBranchClosureReads = "internalBranch" ∧
    FactsC01.appendParallelLeavesBuilderIntact = true := by decide

/-- **pregel_refines_superstep.** For every runner in any-predecessor mode whose node keys
    are distinct (and differ from END) — cyclic or not, any branches, any fan-in —, every node
    function, every input and every order in which the nodes of a step complete, the run
    computed by the engine (write maps keyed by target and sender, data-predecessor filter,
    channel report / get / clear, END detection) is exactly the run of the superstep
    specification `Spec.run` (EinoV/Spec/Superstep.lean): every node that was sent at least one
    value runs exactly once in the next step on the merge of exactly those values, branch
    conditions decide which targets receive the value, the merged value delivered to END in the
    first step in which END receives one is the result — same result or error class, same
    per-step trace. -/
theorem pregel_refines_superstep {V} (ops : ValOps V) (r : Runner V) (h : r.dag = false)
    (hk : (Spec.keys r).Nodup) (sched : Sched V) (hf : sched.Fair) (x : V) :
    runS ops r sched x = Spec.run ops r sched x :=
  run_pregel ops r h hk sched hf x

/-- **spec_step_exact** (what `Spec.next` says, spelled out). After a step in which the
    finished tasks sent `sent`, node `t` is scheduled with input `v` exactly when `t` is a
    node (or END) and `v` is the single value / the merge of exactly the values sent to `t`
    by its data predecessors; a node that was sent nothing is not scheduled. -/
theorem spec_step_exact {V} (ops : ValOps V) (r : Runner V) (sent : List (Spec.Sent V)) (t : Key) (v : V) :
    (t, v) ∈ ((Spec.keys r).map (fun t => (t, collect ops ((Spec.inbox r sent t).map (·.2))))).filterMap
        (fun g => match g.2 with | .ready v => some (g.1, v) | _ => none)
      ↔ t ∈ Spec.keys r ∧ collect ops ((Spec.inbox r sent t).map (·.2)) = .ready v := by
  simp only [List.mem_filterMap, List.mem_map]
  constructor
  · rintro ⟨g, ⟨t', ht', rfl⟩, hg⟩
    simp only at hg
    cases hc : collect ops ((Spec.inbox r sent t').map (·.2)) with
    | ready w => simp [hc] at hg; obtain ⟨rfl, rfl⟩ := hg; exact ⟨ht', hc⟩
    | notReady => simp [hc] at hg
    | mergeErr => simp [hc] at hg
  · rintro ⟨ht, hc⟩
    exact ⟨(t, collect ops ((Spec.inbox r sent t).map (·.2))), ⟨t, ht, rfl⟩, by simp [hc]⟩

/-- a node that was sent nothing is not scheduled; one value is passed on as is -/
theorem collect_cases {V} (ops : ValOps V) : collect ops ([] : List V) = .notReady ∧
    ∀ v, collect ops [v] = .ready v := ⟨rfl, fun _ => rfl⟩

/-- every runner the builder produces from distinct node keys (none of them END) meets the
    hypothesis of `pregel_refines_superstep` -/
theorem compile_keys_nodup {V} (slack : Nat) (g : GraphDef V) (h : (g.nodes.map (·.1) ++ [END]).Nodup) :
    (Spec.keys (compile slack g)).Nodup := by
  rw [Chain.keys_compile]; exact h

theorem sched_id_fair {V} : (Sched.id : Sched V).Fair := fun _ _ => List.Perm.refl _

/-- **pregel_steps_le.** A run in any-predecessor mode never executes more supersteps than
    the configured limit — for every runner (cyclic or not), every node function, every input, every completion order. -/
theorem pregel_steps_le {V} (ops : ValOps V) (r : Runner V) (sched : Sched V) (x : V)
    (h : r.dag = false) :
    (runS ops r sched x).trace.length ≤ r.maxSteps := by
  refine runS_elim ops r sched x (fun _ _ => Nat.zero_le _) (fun _ _ _ => Nat.zero_le _) (fun cm ts _ => ?_)
  simpa [Runner.fuel, h] using loop_trace_length ops r sched r.fuel cm ts []

/-- **pregel_exhausted_is_maxSteps.** `run` is a total function: every run returns a value or an
    error (termination is by structural recursion on the remaining step budget, which is what
    the guard `step >= maxSteps` provides); when the budget is exhausted the outcome is the
    max-steps error. -/
theorem pregel_exhausted_is_maxSteps {V} (ops : ValOps V) (r : Runner V) (sched : Sched V)
    (h : r.dag = false) (cm : Chans V) (ts : List (Key × V)) (tr : Trace V) :
    (loop ops r sched 0 cm ts tr).result = .error { cls := .maxSteps } := by
  rw [loop_zero_result, h]; rfl

/-- **default_limit.** Without an explicit limit the compiled runner's limit is the number of
    nodes plus the slack found in the source. -/
theorem default_limit {V} (g : GraphDef V) (h : g.maxSteps = 0) :
    (compile FactsC01.stepSlack g).maxSteps = g.nodes.length + 10 := by
  have : FactsC01.stepSlack = 10 := by decide
  simp [compile, h, this]

/-- **subgraph_transparent.** A graph used as a node behaves like the same graph compiled
    alone: the engine uses a node only by applying its function, so a node whose function is
    the nested run `fun v => (run ops r' v).result` is interchangeable with any function
    that agrees with that run on every input. -/
theorem subgraph_transparent {V} (ops : ValOps V) (r' : Runner V) (f : V → Except Err V)
    (hf : ∀ v, f v = (run ops r' v).result)
    (mk : (V → Except Err V) → Runner V) (x : V) :
    run ops (mk f) x = run ops (mk (fun v => (run ops r' v).result)) x := by
  have : f = fun v => (run ops r' v).result := funext hf
  rw [this]

/-! ### non-vacuity: concrete well-formed runners -/

-- `decide +kernel` on the concrete runs of this file: the kernel evaluates the run once; plain
-- `decide` evaluates it in the elaborator first, several times slower, and the kernel again.

def natOps : ValOps Nat := { merge := fun l => some l.sum, zero := 0 }

/-- a two-node cycle a → b → a that never reaches END: hits the limit -/
def cyc : GraphDef Nat :=
  { nodes := [("a", fun v => .ok (v + 1)), ("b", fun v => .ok (v * 2))],
    edges := [(START, "a"), ("a", "b"), ("b", "a"), ("b", "zz")], branches := [], maxSteps := 4 }

example : (run natOps (compile 10 cyc) 1).errCls? = some .maxSteps := by decide +kernel
example : (run natOps (compile 10 cyc) 1).trace.length = 4 := by decide +kernel
/-- the hypotheses of the refinement theorem hold for this cyclic runner -/
example : (compile 10 cyc).dag = false ∧ (Spec.keys (compile 10 cyc)).Nodup := by decide

def lin : GraphDef Nat :=
  { nodes := [("a", fun v => .ok (v + 1))], edges := [(START, "a"), ("a", END)], branches := [] }

example : (run natOps (compile 10 lin) 1).okVal? = some 2 := by decide +kernel

/-! ## last clause: a chain is sequential function composition of its stages, with parallel
    stages merged by key  (model: EinoV/Model/C01Chain.lean, proofs: EinoV/Proofs/C01Chain.lean) -/

open EinoV.Chain

/-- **chain_is_composition.** For every chain `Compile` accepts (`Chain.WF`: not empty; every
    parallel/branch stage has ≥ 2 members with distinct keys and does not directly follow
    another parallel/branch stage; `graph.addNode` saw no duplicate node key), all stage
    functions (arbitrary, possibly failing; a nested graph or chain is just such a function —
    `subgraph_transparent`, `chain_as_stage`) and every input: running the graph that chain.go
    builds (`lower`: nodes `node_i`, `node_i_parallel_j`, `node_i_branch_key`; an edge from every
    previous-stage node; `WithOutputKey` wrappers; the GraphBranch with key translation; the END
    edges) on the engine, with the default step limit, returns exactly `Chain.sem`: the
    composition of the stage functions, a parallel stage being the keyed map of its members'
    results (fan-in by `mergeMap`), a branch stage the member its condition selects — or the
    same error, attributed to the same node key. -/
theorem chain_is_composition (c : Chain) (h : c.WF) (x : CVal) :
    (run cvalOps (compile FactsC01.stepSlack (lower c)) x).result = c.sem x :=
  Chain.chain_is_composition FactsC01.stepSlack c h x

/-- **chain_keys_distinct.** The node keys chain.go generates never collide and are never
    START / END: the third conjunct of `Chain.WF` follows from the Append* checks. -/
theorem chain_keys_distinct (c : Chain) (h : stagesOK false c = true) :
    (START :: (lowerKeys c ++ [END])).Nodup :=
  Chain.lowerKeys_nodup c h

/-- `chain_is_composition` with the purely structural hypotheses: a non-empty chain whose
    parallel / branch stages have ≥ 2 members with distinct keys and never directly follow
    another parallel / branch stage. -/
theorem chain_is_composition_structural (c : Chain) (hne : c ≠ []) (h : stagesOK false c = true) (x : CVal) :
    (run cvalOps (compile FactsC01.stepSlack (lower c)) x).result = c.sem x :=
  chain_is_composition c (Chain.wf_of_stagesOK c hne h) x

/-- **chain_never_hits_limit.** The default step limit of a compiled chain is at least its
    number of stages (one superstep per stage), whatever the slack found in the source. -/
theorem chain_never_hits_limit (c : Chain) (h : c.WF) :
    c.length ≤ (compile FactsC01.stepSlack (lower c)).maxSteps :=
  Chain.chain_stages_le_limit FactsC01.stepSlack c h

/-- **chain_nested.** A compiled chain appended to another chain (`AppendGraph(chain)`) can be
    replaced by the stage whose function is the inner chain's meaning. -/
theorem chain_nested (c' : Chain) (h : c'.WF) (pre post : Chain) (x : CVal)
    (hw : (pre ++ Stage.lambda (c'.exec FactsC01.stepSlack) :: post).WF) :
    (run cvalOps (compile FactsC01.stepSlack (lower (pre ++ Stage.lambda (c'.exec FactsC01.stepSlack) :: post))) x).result
      = (pre ++ Stage.lambda c'.sem :: post).sem x := by
  rw [chain_is_composition _ hw, Chain.chain_as_stage FactsC01.stepSlack c' h]

/-! ### non-vacuity -/

def tagF (s : String) : Fn := fun v =>
  match v with
  | .map kvs => .ok (.map (kvs ++ [(s, .leaf "x")]))
  | .leaf _ => .error { cls := .user 1 }

def failF : Fn := fun _ => .error { cls := .user 7 }

def pickF : CVal → Except Err String
  | .map kvs => .ok (if kvs.length % 2 == 0 then "l" else "r")
  | .leaf _ => .ok "zz"

def exChain : Chain :=
  [.lambda (tagF "a"), .parallel [("p", tagF "b"), ("q", tagF "c")], .passthrough,
   .branch pickF [("l", tagF "d"), ("r", tagF "e")], .lambda (tagF "f")]

theorem exChain_wf : exChain.WF := ⟨by simp [exChain], by decide +kernel, by decide +kernel⟩

/-- the keys are the ones chain.go generates -/
example : lowerKeys exChain =
    ["node_0", "node_1_parallel_0", "node_1_parallel_1", "node_2", "node_3_branch_l", "node_3_branch_r", "node_4"] := by
  decide +kernel

def cvalKeys : CVal → List String
  | .map kvs => kvs.map (·.1)
  | .leaf _ => []

/-- the run succeeds, passes through the parallel merge and the selected branch member -/
example : ((run cvalOps (compile 10 (lower exChain)) (.map [])).okVal?.map cvalKeys) = some ["p", "q", "d", "f"] := by
  decide +kernel
example : ((exChain.sem (.map [])).toOption.map cvalKeys) = some ["p", "q", "d", "f"] := by decide +kernel

/-- a failing parallel member fails the chain, attributed to that member's node -/
def exFail : Chain := [.lambda (tagF "a"), .parallel [("p", tagF "b"), ("q", failF)], .lambda (tagF "z")]
theorem exFail_wf : exFail.WF := ⟨by simp [exFail], by decide +kernel, by decide +kernel⟩
example : (match exFail.sem (.map []) with | .error e => some (e.cls, e.path) | .ok _ => none)
    = some (.user 7, ["node_1_parallel_1"]) := by decide +kernel

/-- the hypotheses matter: two parallel stages in a row are not a legal chain (chain.go rejects
    "multiple previous nodes"); in the lowered graph only the first member would be connected -/
example : stagesOK false [.parallel [("p", tagF "b"), ("q", tagF "c")], .parallel [("r", tagF "b"), ("s", tagF "c")]] = false := by
  decide

/-! ### shared builder objects: a chain is the composition of *its own* stages
    (model: EinoV/Model/C01Share.lean, proofs: EinoV/Proofs/C01Share.lean)

A `*compose.ChainBranch` / `*compose.Parallel` / `*compose.Lambda` / `*compose.Chain` value may be
handed to `Append*` any number of times: twice in one chain, in several chains, in a chain used as a
node and in a sibling.  `Share.Prog` is such a program over a pool of builder objects, `Share.Op` the
sequence of build / compile / run operations, `Share.St.heap` what the `Append*` calls left in the
builder objects.  The model is parameterised by the source fact `appendBranchLeavesBuilderIntact`
(`Share.Mech`): `AppendBranch` keeps the key table of an append in a local captured by that append's
closures. -/
section Shared
open EinoV.Chain.Share

/-- the mechanism the source has (regenerated fact) -/
def srcMech : Mech := { builderIntact := FactsC01.appendBranchLeavesBuilderIntact }

theorem srcMech_intact : srcMech.builderIntact = true := by decide

/-- **shared_builders_lower_alike.** What a sequence of `Append*` calls builds depends only on the
    stage descriptions and their positions: for every state `h` the builder objects may be in
    (whatever else they were appended to, before or after), the graph is the one `lower` builds
    from the plain stage list — in particular the branch at position `i` routes to `node_i_branch_*`
    also when the same `*ChainBranch` was appended again at position `i'`. -/
theorem shared_builders_lower_alike (h : Heap) (ts : List TStage) :
    lowerS srcMech h ts = lower (untag ts) :=
  lowerS_intact srcMech srcMech_intact h ts

/-- **shared_run_is_composition.** For every program (pool of builder objects, chains referring
    to them and to each other as nodes), in every state `s` of the program — whatever was built,
    compiled or run before —, running a compiled chain `c` whose resolved stage list is well-formed
    returns the composition of that chain's own stages (`Chain.sem`), for every input. -/
theorem shared_run_is_composition (p : Prog) (s : St) (c : Nat) (x : CVal) (rc : RChain)
    (hrc : (p.resolved srcMech FactsC01.stepSlack [])[c]? = some rc) (hwf : rc.chain.WF)
    (hc : s.compiled.contains c = true) :
    (step srcMech FactsC01.stepSlack p s (.run c x)).2 = .ran (rc.chain.sem x) :=
  run_is_sem srcMech srcMech_intact FactsC01.stepSlack p s c x rc hrc hwf hc

/-- **shared_run_ignores_history.** Building, compiling or running anything else (any operation
    sequence `ops`) does not change what an already compiled chain computes. -/
theorem shared_run_ignores_history (p : Prog) (s : St) (ops : List Op) (c : Nat) (x : CVal) (rc : RChain)
    (hrc : (p.resolved srcMech FactsC01.stepSlack [])[c]? = some rc) (hwf : rc.chain.WF)
    (hc : s.compiled.contains c = true) :
    (step srcMech FactsC01.stepSlack p (after srcMech FactsC01.stepSlack p s ops) (.run c x)).2
      = (step srcMech FactsC01.stepSlack p s (.run c x)).2 := by
  rw [shared_run_is_composition p s c x rc hrc hwf hc,
    shared_run_is_composition p _ c x rc hrc hwf (after_compiled_mono _ _ p c ops s hc)]

/-- **shared_compile_accepts_wf.** `Compile` of a chain whose `Append*` calls were issued reports
    acceptance exactly when no reference dangles, every chain used as a node is accepted, and the
    resolved stage list is well-formed — sharing builder objects neither adds nor removes a
    rejection. -/
theorem shared_compile_accepts_wf (p : Prog) (s : St) (c : Nat) (rc : RChain)
    (hrc : (p.resolved srcMech FactsC01.stepSlack [])[c]? = some rc) (hb : s.built.contains c = true) :
    (step srcMech FactsC01.stepSlack p s (.compile c)).2 = .compiled rc.accepted ∧
    (rc.accepted = true ↔ rc.ok = true ∧ rc.chain.WF) := by
  refine ⟨compile_out srcMech srcMech_intact FactsC01.stepSlack p s c rc hrc hb, ?_⟩
  simp only [RChain.accepted, Bool.and_eq_true, wfB_iff]

/-- non-vacuity: one `*ChainBranch` appended twice in one chain (`route ; mid ; route`) and once
    more in a second chain that also uses the first chain as a node -/
def exShare : Prog :=
  { pool := [.branch pickF [("l", tagF "d"), ("r", tagF "e")]],
    chains := [[.shared 0, .own (.lambda (tagF "m")), .shared 0],
               [.own (.lambda (tagF "p")), .sub 0, .shared 0]] }

def exOps : List Op :=
  [.build 0, .compile 0, .run 0 (.map []), .build 1, .compile 1, .run 0 (.map []), .run 1 (.map [])]

def outKeys : Out → Option (List String)
  | .ran (.ok v) => some (cvalKeys v)
  | .ran (.error _) => some ["error"]
  | .compiled b => some [toString b]
  | .none => none

/-- both chains are accepted; chain 0 computes the same before and after chain 1 is built -/
example : (exec { builderIntact := true } 10 exShare {} exOps).map outKeys =
    [none, some ["true"], some ["d", "m", "d"], none, some ["true"], some ["d", "m", "d"],
     some ["p", "e", "m", "e", "d"]] := by decide +kernel

/-- the hypotheses of `shared_run_is_composition` are satisfiable by this program -/
example : ((exShare.resolved { builderIntact := true } 10 []).map (fun rc => rc.accepted)) = [true, true] := by decide +kernel

/-- the fact matters: were the key table kept in the `*ChainBranch` (`builderIntact = false`), the
    first `route` of chain 0 would name the node of the later append and the run would no longer
    return the composition of the stages -/
example : (exec { builderIntact := false } 10 exShare {} exOps).map outKeys =
    [none, some ["true"], some ["error"], none, some ["true"], some ["error"], some ["error"]] := by decide +kernel

end Shared

/-! ### The source itself: compose/pregel.go translated (Gen/TransC01.lean) refines the channel model

`tools/factgen/gotrans.go` re-translates `pregelChannel.{reportValues, get, reportSkip,
reportDependencies}` from /repo's working tree on every run; the theorems below say the translated
text computes what the any-predecessor channel of the engine model (`Chan.* false`) computes, so
`pregel_refines_superstep` and the theorems on top of it speak about the channel code as it is now. -/
section Translated
open EinoV.GoSem EinoV.TransPregel EinoV.Gen.TransC01
variable {V : Type} [Inhabited V]

theorem translated_source_is_current : FactsC01.pregelChannelTranslated = true := by decide

/-- `pregelChannelBuilder`'s channel is the model's initial channel -/
theorem translated_init (cp dp : List Key) : Chan.init (V := V) false cp dp = toChan { Values := [] } :=
  init_is_empty cp dp

/-- `pregelChannel.reportValues`: every value sent is stored under its sender -/
theorem translated_reportValues_refines (ext : Ext V) (ch : pregelChannel V) (ins : GoMap V) :
    toChan (pregelChannel_reportValues ext ch ins).1 = (toChan ch).reportValues false ins ∧
    (pregelChannel_reportValues ext ch ins).2 = none :=
  reportValues_refines ext ch ins

/-- `pregelChannel.get`: not ready when nothing was sent; otherwise the single value or the merge,
    and the channel is emptied (also when the merge fails) -/
theorem translated_get_refines (ops : ValOps V) (es : V) (ch : pregelChannel V) (isStream : Bool) :
    toChan (pregelChannel_get (extOf ops es) ch isStream).1 = ((toChan ch).get ops false).1 ∧
    getResult (pregelChannel_get (extOf ops es) ch isStream).2 = ((toChan ch).get ops false).2 :=
  get_refines ops es ch isStream

/-- `pregelChannel.reportSkip` / `reportDependencies` do nothing (skips are not propagated in
    any-predecessor mode) -/
theorem translated_skip_and_deps_are_noops (ext : Ext V) (ch : pregelChannel V) (keys : List String) :
    (toChan (pregelChannel_reportSkip ext ch keys).1, (pregelChannel_reportSkip ext ch keys).2)
      = (toChan ch).reportSkip false keys ∧
    toChan (pregelChannel_reportDependencies ext ch keys) = (toChan ch).reportDeps false keys :=
  ⟨reportSkip_refines ext ch keys, reportDependencies_refines ext ch keys⟩

/-- the clause "a node that was sent nothing does not run", read off the translated `get` -/
theorem translated_get_not_ready_iff_empty (ops : ValOps V) (es : V) (ch : pregelChannel V) (isStream : Bool) :
    getResult (pregelChannel_get (extOf ops es) ch isStream).2 = .notReady ↔ ch.Values = [] := by
  rw [(get_refines ops es ch isStream).2, (get_pregel ops (toChan ch)).1, collect_eq_notReady_iff,
    List.map_eq_nil_iff]
  rfl

end Translated

/-! ### The translated channel manager (compose/graph_manager.go → Gen/TransMgr.lean), any-predecessor mode

  The refinement theorems of Proofs/TransMgr.lean (stated in full in Props/C02.lean, for both kinds of
  channel) specialised to `r.dag = false`: every channel is a `pregelChannel`. -/
section TranslatedManager
open EinoV.GoSem EinoV.TransMgr EinoV.GoWorkList EinoV.Gen.TransC02 EinoV.Gen.TransC01 EinoV.Gen.TransMgr
variable {V : Type} [Inhabited V]

theorem translated_manager_source_is_current : FactsC01.channelManagerTranslated = true := by decide

/-- `channelManager.updateAndGet` in any-predecessor mode is the channel part of the model's `calcNext`:
    the values sent are stored under their (declared) senders, dependencies are ignored, and every
    channel that was sent something hands out its value(s) and is emptied -/
theorem translated_updateAndGet_refines (ops : ValOps V) (es : V) (mext : MgrExt V) (r : Runner V)
    (c : channelManager V) (values : GoMap (GoMap V)) (deps : GoMap (List String)) (hd : r.dag = false)
    (hrel : Rel r c) (hok : ChansOK false c.channels) (hE : NoHandlers mext)
    (hpv : ∀ w ∈ values, c.channels.has w.1 = true) (hmaps : ∀ w ∈ values, TransDag.KeysNodup w.2)
    (hpd : ∀ d ∈ deps, c.channels.has d.1 = true) :
    let g := getReady (TransDag.opsFor ops es c.isStream) false
      (updateDeps r (updateValues r (toChans c.channels) values) deps)
    ∃ res, channelManager_updateAndGet (TransDag.extOf ops es) mext c values deps = .ret res ∧
      (g.2.2 = false → toChans res.1.channels = g.1 ∧ res.2.1 = g.2.1 ∧ res.2.2 = none ∧
        Frame c res.1 ∧ ChansOK false res.1.channels) ∧
      (g.2.2 = true → res.2.2.isSome = true ∧ res.2.1 = []) := by
  simpa only [hd] using updateAndGet_refines ops es mext r c values deps hrel (hd ▸ hok) hE hpv hmaps hpd

/-- `channelManager.reportBranch` in any-predecessor mode: skips are not propagated — no channel changes,
    the error is nil, for every fuel; so does the model's `reportBranch` -/
theorem translated_reportBranch_is_noop (ext : Ext V) (mext : MgrExt V) (r : Runner V) (c : channelManager V)
    (fuel : Nat) (from_ : Key) (sk : List Key) (hd : r.dag = false) (hrel : Rel r c)
    (hok : ChansOK false c.channels) (hcl : SuccClosed c) (hsk : ∀ s ∈ sk, c.channels.has s = true) :
    reportBranch r (toChans c.channels) from_ sk = .ok (toChans c.channels) ∧
    ∃ c', channelManager_reportBranch ext mext fuel c from_ sk = .ret (c', none) ∧
      toChans c'.channels = toChans c.channels ∧ Frame c c' ∧ ChansOK false c'.channels := by
  simpa only [hd] using reportBranch_pregel ext mext r c fuel from_ sk hd hrel (hd ▸ hok) hcl hsk

end TranslatedManager

/-! ### The translated step function (compose/graph_run.go → Gen/TransStep.lean), any-predecessor mode

  The refinement theorems of Proofs/TransStep.lean (stated in full in Props/C02.lean) specialised to
  `r.dag = false`: no acyclicity hypothesis (a `pregelChannel` never passes a skip on, so `reportBranch`'s
  work list is empty).  `run_pregel` stands on the model's `calcNext`; this says that `calcNext` is what
  `runner.calculateNextTasks` computes, and that the translated function never returns `.panic` / `.unspecified`. -/
section TranslatedStep
open EinoV.GoSem EinoV.TransMgr EinoV.TransStep EinoV.Gen.TransMgr EinoV.Gen.TransStep
variable {V : Type} [Inhabited V]

theorem translated_step_source_is_current : FactsC01.stepFunctionTranslated = true := by decide

theorem translated_calculateNextTasks_refines (ops : ValOps V) (es : V) (mext : MgrExt V) (sext : StepExt V)
    (r : Runner V) (gr : runner V) (hd : r.dag = false)
    (hE : NoBranchHandlers sext) (hM : NoHandlers mext)
    (ts : List (task V)) (ds : List (Done V)) (hrel : ListRel (TaskRel sext r) ts ds) (cm : Chans V) :
    ∃ N, ∀ fuel, N ≤ fuel → ∀ c om, toChans c.channels = cm → c.isStream = false → MgrInv r c →
      CallsClosed r c → SubsOK gr c →
      match calcNext (TransDag.opsFor ops es false) r cm ds with
      | .ok (cm3, .result v) => ∃ c',
          runner_calculateNextTasks (TransDag.extOf ops es) mext sext fuel gr ts false c om = .ret (c', [], v, none) ∧
          toChans c'.channels = cm3 ∧ Frame c c' ∧ ChansOK r.dag c'.channels
      | .ok (cm3, .tasks ready) => ∃ c',
          runner_calculateNextTasks (TransDag.extOf ops es) mext sext fuel gr ts false c om
            = .ret (c', ready.map (mkTask gr), default, none) ∧
          toChans c'.channels = cm3 ∧ Frame c c' ∧ ChansOK r.dag c'.channels
      | .error _ => ∃ c' e,
          runner_calculateNextTasks (TransDag.extOf ops es) mext sext fuel gr ts false c om
            = .ret (c', [], default, some e) :=
  calculateNextTasks_refines ops es mext sext r gr (fun _ => 0) (fun h => by simp [hd] at h)
    hE hM ts ds hrel cm

theorem translated_step_total (ops : ValOps V) (es : V) (mext : MgrExt V) (sext : StepExt V)
    (r : Runner V) (gr : runner V) (hd : r.dag = false)
    (hE : NoBranchHandlers sext) (hM : NoHandlers mext)
    (ts : List (task V)) (ds : List (Done V)) (hrel : ListRel (TaskRel sext r) ts ds) (cm : Chans V) :
    ∃ N, ∀ fuel, N ≤ fuel → ∀ c om, toChans c.channels = cm → c.isStream = false → MgrInv r c →
      CallsClosed r c → SubsOK gr c →
      ∃ res, runner_calculateNextTasks (TransDag.extOf ops es) mext sext fuel gr ts false c om = .ret res :=
  step_total ops es mext sext r gr (fun _ => 0) (fun h => by simp [hd] at h) hE hM ts ds hrel cm

end TranslatedStep

/-! ### The translated table-building code (Gen/TransTab.lean), any-predecessor mode

  Stated in full in Props/C02.lean.  The instance for `r.dag = false`: `compile` stores a nil `chanBuilder`,
  `initChannelManager` (translated) falls back to the translated `pregelChannelBuilder`, and the manager it
  returns satisfies the hypotheses of the translated manager and step function. -/
section TranslatedTables
open EinoV.GoSem EinoV.TransMgr EinoV.TransStep EinoV.TransTab EinoV.Gen.TransMgr EinoV.Gen.TransTab
variable {V : Type} [Inhabited V]

theorem translated_tables_source_is_current : FactsC01.tablesTranslated = true := by decide

theorem translated_init_hypotheses_from_source (ext : Ext V) (mext : MgrExt V) (gr : runner V) (r : Runner V)
    (s : Bool) (hd : r.dag = false) (hb : gr.chanBuilder = .nil)
    (hkeys : akeys gr.chanSubscribeTo = r.nodes.map (·.key))
    (hsucc : gr.successors = r.nodes.map (fun n => (n.key, n.successors)))
    (hdata : gr.dataPredecessors = r.dataPreds) (hctrl : gr.controlPredecessors = r.ctrlPreds)
    (hnd : (akeys (initChans r)).Nodup)
    (hdk : (akeys r.dataPreds).Nodup) (hck : (akeys r.ctrlPreds).Nodup)
    (hc : RunnerClosed r) (hs : ∀ k ∈ r.start.successors, k ∈ akeys (initChans r)) :
    ∃ c, runner_initChannelManager ext mext gr s = .ret c ∧ c.isStream = s ∧
      MgrInv r c ∧ CallsClosed r c ∧ toChans c.channels = initChans r :=
  init_hypotheses_from_source ext mext gr r s
    ⟨hkeys, hsucc, hdata, hctrl, ⟨fun h => by simp [hd] at h, fun _ => by simp [hb]⟩⟩ hnd hdk hck hc hs

end TranslatedTables

end EinoV.C01
