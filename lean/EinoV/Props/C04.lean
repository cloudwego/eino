/-
  C04 — Invoke, Stream, Collect and Transform of a compiled graph agree.
  Property theorems.  Model: EinoV/Model/C04.lean (packer + adaptors), Engine.lean,
  EinoV/Model/C04Graph.lean (compiled graphs of packed components and their four calls),
  C04Lazy.lean (error items on streams), C04Key.lean (input keys), C04FMap.lean (field
  mappings), C04ErrItem.lean (the error value of an error item).
  Source facts: EinoV/Gen/FactsC04.lean (regenerated from /repo on every run).
-/
import EinoV.Model.C04
import EinoV.Proofs.C04
import EinoV.Proofs.EngineHom
import EinoV.Model.C04Graph
import EinoV.Proofs.C04Graph
import EinoV.Proofs.C04GraphNat
import EinoV.Model.C04Lazy
import EinoV.Proofs.C04Lazy
import EinoV.Gen.FactsC04
import EinoV.Expected.C04
import EinoV.Proofs.C04Key
import EinoV.Model.C04FMap
import EinoV.Proofs.C04FMap
import EinoV.Model.C04ErrItem
import EinoV.Proofs.C04ErrItem

namespace EinoV.C04
open EinoV.Engine EinoV.Gen

/-- Source fact tie: the preference lists read from `newRunnablePacker` are the modelled ones,
    and every derived form uses the adaptor named after its (target, source) pair. -/
theorem facts_match : Pref.ofStrings FactsC04.packerPref = Expected.C04.packerPref ∧
    FactsC04.adaptorNamesMatch = true := by decide

/-- Source fact tie for the stream-mode zero: `emptyStreamFromGeneric` builds a stream of exactly one
    chunk carrying the zero value (`Pipe(1); Send(zero); Close`), and `dagChannel.get` hands it out in
    stream mode where value mode hands out the zero value — the `zero := [z]` of `opsS`, `lazyOps`,
    `listOps`, `streamOps`. -/
theorem zero_stream_facts : FactsC04.emptyStreamIsOneZeroChunk = true ∧
    FactsC04.dagGetHandsOutEmptyStream = true ∧
    (∀ z : Nat, (opsS z).zero = [z] ∧ (lazyOps z).zero = { chunks := [z] } ∧ (listOps z).zero = [z]) := by
  refine ⟨by decide, by decide, fun z => ⟨rfl, rfl, rfl⟩⟩

/-- **packer_agree.** Whichever non-empty subset of the four paradigms a component
    natively implements (all 15 subsets), however it splits its output into chunks
    (`chunk`, any function with `concat (chunk v) = v`), the four forms produced by
    `newRunnablePacker` are all defined and agree with the component's function `f`:
    Invoke is `f`; concatenating Stream's chunks gives `f`; Collect is `f` of the concatenated
    input; concatenating Transform's chunks gives `f` of the concatenated input — errors
    included. -/
theorem packer_agree {V} (co : ChunkOps V) (f : V → Except Err V) (chunk : V → List V)
    (hchunk : ∀ v, concat co (chunk v) = .ok v)
    (hasI hasS hasC hasT : Bool) (hne : (hasI || hasS || hasC || hasT) = true) :
    let p := pack co (Pref.ofStrings FactsC04.packerPref) (nativeOf co f chunk hasI hasS hasC hasT)
    (∀ x, p.i x = f x) ∧ (∀ x, (p.s x >>= concat co) = f x) ∧
    (∀ xs, p.c xs = (concat co xs >>= f)) ∧ (∀ xs, (p.t xs >>= concat co) = (concat co xs >>= f)) := by
  rw [facts_match.1]
  exact packer_agree_expected co f chunk hchunk hasI hasS hasC hasT hne

/-- **engine_hom (graph level).** Let `h : A → B` map the values of one execution mode to
    those of another (stream mode: chunk lists ↦ their concatenation).  If `h` commutes with
    every node function and every branch condition, and with the fan-in merge, on the values
    satisfying an invariant `P` preserved by node functions and merge, then for every runner
    (any wiring, cycles, branches, fan-in, either trigger mode), every input satisfying `P`
    and corresponding completion schedules, the run in the one mode maps to the run in the
    other: same result or error, same per-step trace up to `h`.  (In all-predecessor mode a
    node may be handed the zero value, which must then satisfy `P` too.)  This is the
    all-quantified form (every node and branch of the type corresponds), a corollary of
    `engine_hom_on` below; it is the one `lazy_streams_conservative` uses. -/
theorem engine_hom {A B : Type} (h : A → B) (P : A → Prop) (tb : Branch A → Branch B) (tn : Node A → Node B)
    (htb : ∀ b, BranchOK h P b (tb b)) (htn : ∀ n, NodeOK h P tb n (tn n))
    (oA : ValOps A) (oB : ValOps B) (hops : OpsOK h P oA oB)
    (r : Runner A) (hz : r.dag = true → P oA.zero) (sA : Sched A) (sB : Sched B)
    (hs : SchedHom h sA sB) (hsub : SchedSub sA) (x : A) (hx : P x) :
    runS oB (r.mapNodes tn) sB (h x) = (runS oA r sA x).mapO h :=
  run_hom h P tb tn htb htn oA oB hops r hz sA sB hs hsub x hx

/-- collecting in submission order on both sides is a pair of corresponding schedules -/
theorem sched_id_hom {A B : Type} (h : A → B) : SchedHom h (Sched.id : Sched A) (Sched.id : Sched B) ∧
    SchedSub (Sched.id : Sched A) := ⟨fun _ _ => rfl, fun _ _ _ hx => hx⟩

/-- **packed_component_node.** A component natively implementing any non-empty subset of the
    four paradigms, put into the graph through `newRunnablePacker` (preference lists as
    regenerated from the source), satisfies the node hypothesis of `engine_hom` with
    `h` = concatenation and `P` = "the stream has at least one chunk": its Transform form run
    on a chunk list concatenates to its Invoke form run on the concatenated input (errors
    included), and it never emits an empty stream. -/
theorem packed_component_node {V} (co : ChunkOps V) (d : V)
    (hct : ∀ l, l ≠ [] → ∃ v, concat co l = .ok v)
    (f : V → Except Err V) (chunk : V → List V)
    (hchunk : ∀ v, concat co (chunk v) = .ok v) (hne : ∀ v, chunk v ≠ [])
    (hasI hasS hasC hasT : Bool) (hany : (hasI || hasS || hasC || hasT) = true) :
    let p := pack co (Pref.ofStrings FactsC04.packerPref) (nativeOf co f chunk hasI hasS hasC hasT)
    (∀ a, a ≠ [] → p.i (concatD co d a) = (p.t a).map (concatD co d)) ∧
    (∀ a a', a ≠ [] → p.t a = .ok a' → a' ≠ []) := by
  rw [facts_match.1]
  exact ⟨fun a ha => packed_component_commutes co d hct f chunk hchunk hne hasI hasS hasC hasT hany a ha,
         fun a a' _ h' => packed_t_nonempty co f chunk hne hasI hasS hasC hasT hany a a' h'⟩

/-- **collect_branch.** A plain branch condition is run in stream mode as `collectByInvoke`
    (concatenate, then the condition): it satisfies the branch hypothesis of `engine_hom`. -/
theorem collect_branch {V} (co : ChunkOps V) (d : V)
    (hct : ∀ l, l ≠ [] → ∃ v, concat co l = .ok v) (ends : List Key) (noData : Bool)
    (cond : V → Except Err (List Key)) :
    BranchOK (concatD co d) (fun a => a ≠ [])
      ({ ends := ends, noData := noData, cond := fun s => concat co s >>= cond } : Branch (List V))
      ({ ends := ends, noData := noData, cond := cond } : Branch V) :=
  branchOK_collected co d hct { ends := ends, noData := noData, cond := cond }

/-- **nested_graph_node.** A graph used as a node satisfies the node hypothesis of
    `engine_hom` as soon as its own nodes do (the theorem applied to the nested runner), and
    its results keep the invariant when the nested results do. -/
theorem nested_graph_node {A B : Type} (h : A → B) (P : A → Prop) (tb : Branch A → Branch B) (tn : Node A → Node B)
    (htb : ∀ b, BranchOK h P b (tb b)) (htn : ∀ n, NodeOK h P tb n (tn n))
    (oA : ValOps A) (oB : ValOps B) (hops : OpsOK h P oA oB)
    (sub : Runner A) (hz : sub.dag = true → P oA.zero) (a : A) (ha : P a) :
    (runS oB (sub.mapNodes tn) Sched.id (h a)).result = ((runS oA sub Sched.id a).result).map h := by
  rw [engine_hom h P tb tn htb htn oA oB hops sub hz Sched.id Sched.id (sched_id_hom h).1 (sched_id_hom h).2 a ha]
  rfl

/-! ### the graph-level statement: the four calls of a compiled graph agree
    (`Model/C04Graph.lean`) -/

/-- **engine_hom_on** — `engine_hom` with the hypotheses the engine really needs: the node and
    branch correspondences only for the nodes of the runner at hand (`r.Has n`: `n = r.start`
    or `n ∈ r.nodes`) and the branches of those nodes, the fan-in correspondence (`FanInOK`)
    only for merges of two or more values and — for the zero value — only in all-predecessor
    mode.  In addition a successful run returns a value satisfying the invariant (so that a
    graph used as a node preserves it).  This is the form that can be instantiated with
    `h` = concatenation (no translation of *all* nodes of the type along concatenation
    exists). -/
theorem engine_hom_on {A B : Type} (h : A → B) (P : A → Prop) (tb : Branch A → Branch B) (tn : Node A → Node B)
    (r : Runner A)
    (htb : ∀ n, r.Has n → ∀ b ∈ n.branches, BranchOK h P b (tb b))
    (htn : ∀ n, r.Has n → NodeOK h P tb n (tn n))
    (oA : ValOps A) (oB : ValOps B) (hops : FanInOK r.dag h P oA oB)
    (sA : Sched A) (sB : Sched B) (hs : SchedHom h sA sB) (hsub : SchedSub sA) (x : A) (hx : P x) :
    runS oB (r.mapNodes tn) sB (h x) = (runS oA r sA x).mapO h ∧
    (∀ v, (runS oA r sA x).result = .ok v → P v) :=
  run_hom_keeps_on h P tb tn r htb htn oA oB hops sA sB hs hsub x hx

/-- **calls_are_runs.** The four calls of a compiled graph are what compose builds: Invoke is
    the value-mode run of the engine over the nodes' Invoke forms, Transform the stream-mode
    run over their Transform forms (plain branch conditions through `collectByInvoke`, stream
    fan-in `opsS`, whose zero is the one-chunk stream of the value-mode zero), Stream is `streamByTransform` and Collect `collectByTransform` around it —
    at every nesting depth. -/
theorem calls_are_runs {V} (co : ChunkOps V) (pref : Pref) (opsV : ValOps V) (n : Nat) (g : Graph V n) :
    (∀ x, invoke co pref opsV g x = (run opsV (valueRunner co pref opsV g) x).result) ∧
    (∀ xs, transform co pref opsV g xs = (run (opsS opsV.zero) (streamRunner co pref opsV g) xs).result) ∧
    (∀ x, stream co pref opsV g x = transform co pref opsV g [x]) ∧
    (∀ xs, collect co pref opsV g xs = (transform co pref opsV g xs >>= concat co)) := by
  cases n <;> exact ⟨fun _ => rfl, fun _ => rfl, fun _ => rfl, fun _ => rfl⟩

/-- **graph_four_paradigms_agree.** For every graph of packed components `g` — any wiring,
    cycles, branches with value conditions, fan-out and fan-in, pass-through nodes, graphs used
    as nodes to any depth `n`, either trigger mode (any-predecessor and all-predecessor) —
    whichever non-empty subset of the four paradigms each component natively implements and
    however it splits its output into (at least one) chunks (`Graph.OK`: every component of
    every level is `Comp.Valid`), with the preference table regenerated from the source, for
    every chunk concatenation `co` that is total on non-empty streams and every value fan-in
    `opsV` obeying the merge law w.r.t. `co` (`MergeLaw`; it fails for eino's map merge when
    two sources share a key — the known finding `C04:paradigms:err-merge-vs-ok`):

      * concatenating the chunks of `Stream g x` gives `Invoke g x`,
      * `Collect g xs` is `Invoke g` of the concatenated input,
      * concatenating the chunks of `Transform g xs` is `Invoke g` of the concatenated input,

    for every input `x` and every non-empty input stream `xs` — equalities in `Except Err`:
    a failure is the same error (class and node path) in all four calls.

    All-predecessor mode is covered because the stream a ready channel without values hands
    out is the one-chunk stream of the zero value (`opsS`, `emptyStreamFromGeneric`); with a
    chunk-less zero stream the statement would be false there (`concat` fails on it). -/
theorem graph_four_paradigms_agree {V} (co : ChunkOps V)
    (hct : ∀ l, l ≠ [] → ∃ v, concat co l = .ok v)
    (opsV : ValOps V) (d : V) (hml : MergeLaw co d opsV)
    (n : Nat) (g : Graph V n) (hg : Graph.OK co n g) :
    let pref := Pref.ofStrings FactsC04.packerPref
    (∀ x, (stream co pref opsV g x >>= concat co) = invoke co pref opsV g x) ∧
    (∀ xs, xs ≠ [] → collect co pref opsV g xs = (concat co xs >>= invoke co pref opsV g)) ∧
    (∀ xs, xs ≠ [] → (transform co pref opsV g xs >>= concat co) = (concat co xs >>= invoke co pref opsV g)) := by
  rw [facts_match.1]
  have hA := graph_actOK co d hct opsV hml n g hg
  exact ⟨fun x => hA.stream_concat co d hct x,
         fun xs hxs => hA.transform_concat co d hct xs hxs,
         fun xs hxs => hA.transform_concat co d hct xs hxs⟩

/-- **graph_runs_correspond.** Under the hypotheses of `graph_four_paradigms_agree` the two
    runs correspond step by step: the value-mode run on the concatenated input is the
    stream-mode run with every stream concatenated — result or error and the whole superstep
    trace (which nodes run in which step, on which values) — for any pair of corresponding
    completion schedules. -/
theorem graph_runs_correspond {V} (co : ChunkOps V)
    (hct : ∀ l, l ≠ [] → ∃ v, concat co l = .ok v)
    (opsV : ValOps V) (d : V) (hml : MergeLaw co d opsV)
    (n : Nat) (g : Graph V n) (hg : Graph.OK co n g)
    (sS : Sched (List V)) (sV : Sched V) (hs : SchedHom (concatD co d) sS sV) (hsub : SchedSub sS)
    (xs : List V) (hxs : xs ≠ []) :
    let pref := Pref.ofStrings FactsC04.packerPref
    runS opsV (valueRunner co pref opsV g) sV (concatD co d xs)
      = (runS (opsS opsV.zero) (streamRunner co pref opsV g) sS xs).mapO (concatD co d) := by
  rw [facts_match.1]
  exact graph_run_hom co d hct opsV hml n g hg sS sV hs hsub xs hxs

/-- **lift_same_calls.** Nesting depths are cumulative: a graph of depth `n` used where depth
    `n + 1` is expected (`Graph.lift`) has the same Invoke and Transform (hence Stream and
    Collect) and satisfies the side conditions iff it did — so `Graph V n`, `n : Nat`, covers
    every finite nesting of graphs in graphs. -/
theorem lift_same_calls {V} (co : ChunkOps V) (pref : Pref) (opsV : ValOps V) (n : Nat) (g : Graph V n) :
    invoke co pref opsV (Graph.lift n g) = invoke co pref opsV g ∧
    transform co pref opsV (Graph.lift n g) = transform co pref opsV g ∧
    (Graph.OK co (n + 1) (Graph.lift n g) ↔ Graph.OK co n g) :=
  ⟨(lift_sem co pref opsV n g).1, (lift_sem co pref opsV n g).2, lift_ok co n g⟩

/-- **flat_graph_four_paradigms_agree.** The same for a graph without graph nodes, with the
    side conditions spelled out. -/
theorem flat_graph_four_paradigms_agree {V} (co : ChunkOps V)
    (hct : ∀ l, l ≠ [] → ∃ v, concat co l = .ok v)
    (opsV : ValOps V) (d : V) (hml : MergeLaw co d opsV)
    (g : GraphOf V Empty)
    (hcomp : ∀ n, (n = g.start ∨ n ∈ g.nodes) → ∀ c, n.kind = .comp c →
      (∀ v, concat co (c.chunk v) = .ok v) ∧ (∀ v, c.chunk v ≠ []) ∧
      (c.hasI || c.hasS || c.hasC || c.hasT) = true) :
    let pref := Pref.ofStrings FactsC04.packerPref
    (∀ x, (stream co pref opsV (d := 0) g x >>= concat co) = invoke co pref opsV (d := 0) g x) ∧
    (∀ xs, xs ≠ [] → collect co pref opsV (d := 0) g xs = (concat co xs >>= invoke co pref opsV (d := 0) g)) ∧
    (∀ xs, xs ≠ [] → (transform co pref opsV (d := 0) g xs >>= concat co)
        = (concat co xs >>= invoke co pref opsV (d := 0) g)) := by
  apply graph_four_paradigms_agree co hct opsV d hml 0 g
  intro n hn
  cases hk : n.kind with
  | comp c =>
    obtain ⟨h1, h2, h3⟩ := hcomp n hn c hk
    exact ⟨h1, h2, h3⟩
  | pass => trivial
  | graph s => exact s.elim

/-! ### non-vacuity: a concrete instance (`V = Nat`, concatenation = sum, merge = sum);
    the data (`natCo`, `natOps`, `compA` … `natG`, `natG1`) and the routine checks of the side
    conditions are in `Proofs/C04GraphNat.lean` -/

theorem natMergeLaw : MergeLaw natCo 0 natOps where
  merge := by
    intro ls _ _
    have hmap : ls.map (concatD natCo 0) = ls.map List.sum := List.map_congr_left (fun l _ => natConcatD l)
    rw [hmap, natConcatD]
    simp only [natOps, Option.some.injEq]
    exact sum_map_sum ls

example : Graph.OK natCo 0 natG ∧ Graph.OK natCo 1 natG1 ∧ Graph.OK natCo 0 natDag := ⟨natG_ok, natG1_ok, natDag_ok⟩
example : compA.Valid natCo ∧ compB.Valid natCo ∧ compC.Valid natCo := ⟨compA_valid, compB_valid, compC_valid⟩

/-! the hypotheses are satisfiable together, on non-trivial graphs -/
example : let pref := Pref.ofStrings FactsC04.packerPref
    (∀ x, (stream natCo pref natOps natG1 x >>= concat natCo) = invoke natCo pref natOps natG1 x) ∧
    (∀ xs, xs ≠ [] → collect natCo pref natOps natG1 xs = (concat natCo xs >>= invoke natCo pref natOps natG1)) ∧
    (∀ xs, xs ≠ [] → (transform natCo pref natOps natG1 xs >>= concat natCo)
        = (concat natCo xs >>= invoke natCo pref natOps natG1)) :=
  graph_four_paradigms_agree natCo natHct natOps 0 natMergeLaw 1 natG1 natG1_ok

/-! The longer runs below are checked by `decide +kernel`: the kernel evaluates the decision procedure
    (no axiom) without the elaborator evaluating it first, which is several times slower. -/
deriving instance DecidableEq for Except

/-! the runs are not trivial: three loop rounds through the branch, a two-chunk output whose
    chunks differ from Invoke's value, an error with its node path inside the nested graph -/
example : invoke natCo (Pref.ofStrings FactsC04.packerPref) natOps natG 5 = .ok 48 := by decide +kernel
example : stream natCo (Pref.ofStrings FactsC04.packerPref) natOps natG 5 = .ok [1, 47] := by decide +kernel
example : transform natCo (Pref.ofStrings FactsC04.packerPref) natOps natG [2, 3] = .ok [1, 47] := by decide +kernel
example : (runS (opsS 0) (streamRunner natCo (Pref.ofStrings FactsC04.packerPref) natOps natG) Sched.id [2, 3]).trace
    = [[("a", [2, 3]), ("b", [2, 3])], [("c", [1, 5, 0, 10])], [("a", [1, 25])], [("c", [1, 26])],
       [("a", [1, 36])], [("c", [1, 37])], [("p", [1, 47])]] := by decide +kernel
example : transform natCo (Pref.ofStrings FactsC04.packerPref) natOps natG1 [2, 3] = .ok [1, 47, 1, 5] := by decide +kernel
example : invoke natCo (Pref.ofStrings FactsC04.packerPref) natOps natG1 5 = .ok 54 := by decide +kernel
example : invoke natCo (Pref.ofStrings FactsC04.packerPref) natOps natG1 40
    = .error { cls := .user 7, path := ["g", "c"] } := by rfl
example : collect natCo (Pref.ofStrings FactsC04.packerPref) natOps natG1 [20, 20]
    = .error { cls := .user 7, path := ["g", "c"] } := by rfl

/-! all-predecessor mode, a node that is handed the zero value: value mode runs it on `0`,
    stream mode on the one-chunk stream `[0]` -/
example : natDag.dag = true ∧
    invoke natCo (Pref.ofStrings FactsC04.packerPref) natOps natDag 5 = .ok 1 ∧
    collect natCo (Pref.ofStrings FactsC04.packerPref) natOps natDag [2, 3] = .ok 1 ∧
    (runS (opsS 0) (streamRunner natCo (Pref.ofStrings FactsC04.packerPref) natOps natDag) Sched.id [2, 3]).trace
      = [[("a", [0])]] := ⟨rfl, by rfl, by rfl, by rfl⟩

/-! … and with a chunk-less zero stream (`zero := []`, which is not what
    `emptyStreamFromGeneric` builds) the same graph would fail in stream mode only -/
example : ((run ({ merge := fun ls => some ls.flatten, zero := [] } : ValOps (List Nat))
      (streamRunner natCo (Pref.ofStrings FactsC04.packerPref) natOps natDag) [5]).result >>= concat natCo)
    = .error { cls := .noTasks, path := ["a"] } := by rfl

/-! the merge law cannot be dropped: with a value merge that rejects the fan-in (as eino's map
    merge rejects two sources sharing a key) Invoke fails with the merge error while Collect
    succeeds — the shape of the known finding `C04:paradigms:err-merge-vs-ok` -/
def rejectOps : ValOps Nat := { merge := fun _ => none, zero := 0 }
example : invoke natCo (Pref.ofStrings FactsC04.packerPref) rejectOps natG 5 = .error { cls := .merge } ∧
    collect natCo (Pref.ofStrings FactsC04.packerPref) rejectOps natG [5] = .ok 48 := by decide +kernel

/-! ### error items: failures reported in the middle of a stream (`Model/C04Lazy.lean`) -/

/-- **error_item_reported.** "A failure is reported in every paradigm (at call time or as an
    error item on the stream)": everything that drains a stream carrying an error item fails with
    that item — a packed component (`lazyNode`), a natively streaming producer that would itself
    break later (`lazyMidFail`), a plain branch condition (`lazyCond`, `collectByInvoke`) and the
    caller concatenating the output (`lazyConcat`: Collect, or draining Stream / Transform). -/
theorem error_item_reported {V} (co : ChunkOps V) (s : LStream V) (e : Err) (he : s.err = some e)
    (t : List V → Except Err (List V)) (k : Nat) (e' : Err) (c : List V → Except Err (List Key)) :
    lazyNode t s = .error e ∧ lazyMidFail t k e' s = .error e ∧ lazyCond c s = .error e ∧
    lazyConcat co s = .error e := by
  simp [lazyNode, lazyMidFail, lazyCond, lazyConcat, LStream.force_err s e he, bind, Except.bind]

/-- **merge_keeps_error_items.** The fan-in of streams (`MergeStreamReaders`) neither drops nor
    invents error items: the merged stream carries one iff some source does, and the one it
    carries is a source's. (Chain `Parallel`, a node or END with several data predecessors.) -/
theorem merge_keeps_error_items {V} (z : V) (ls : List (LStream V)) :
    ∃ m, (lazyOps z).merge ls = some m ∧
      (∀ s ∈ ls, ∀ e, s.err = some e → ∃ e', m.err = some e') ∧
      (∀ e', m.err = some e' → ∃ s ∈ ls, s.err = some e') ∧
      ((∀ s ∈ ls, s.err = none) → m.err = none ∧ m.chunks = (ls.map (·.chunks)).flatten) := by
  refine ⟨_, rfl, ?_, ?_, ?_⟩
  · intro s hs e he
    exact Option.isSome_iff_exists.mp (List.findSome?_isSome_iff.mpr ⟨s, hs, he ▸ rfl⟩)
  · intro e' he'
    exact List.exists_of_findSome?_eq_some he'
  · intro h
    exact ⟨List.findSome?_eq_none_iff.mpr h, rfl⟩

/-- **forwarding_keeps_error_items.** Chunk-wise conversion of a stream (`WithOutputKey`,
    `WithInputKey` on a stream, edge handlers: `StreamReaderWithConvert`) forwards the error item. -/
theorem forwarding_keeps_error_items {V} (f : List V → List V) (s : LStream V) :
    (s.mapChunks f).err = s.err ∧ (s.mapChunks f).chunks = f s.chunks := ⟨rfl, rfl⟩

/-- **broken_producer_reported.** A natively streaming producer that returns its reader and
    breaks after `k` chunks, merged with any other streams at a fan-in and converted on the way,
    fails whatever drains the merged stream: the consumer node in stream mode, and the caller of
    Stream / Collect / Transform when the fan-in is END — as Invoke fails when the producer runs. -/
theorem broken_producer_reported {V} (z : V) (co : ChunkOps V) (t : List V → Except Err (List V)) (k : Nat) (e : Err)
    (x o : LStream V) (ho : lazyMidFail t k e x = .ok o) (conv : List V → List V)
    (ls : List (LStream V)) (hmem : o.mapChunks conv ∈ ls)
    (t' : List V → Except Err (List V)) :
    ∃ m e', (lazyOps z).merge ls = some m ∧ (∃ s ∈ ls, s.err = some e') ∧
      lazyNode t' m = .error e' ∧ lazyConcat co m = .error e' := by
  obtain ⟨m, hm, h1, h2, _⟩ := merge_keeps_error_items z ls
  obtain ⟨e', he'⟩ := h1 _ hmem e (lazyMidFail_err ho : o.err = some e)
  refine ⟨m, e', hm, h2 e' he', ?_, ?_⟩
  · exact (error_item_reported co m e' he' t' 0 e (fun _ => .ok [])).1
  · exact (error_item_reported co m e' he' t' 0 e (fun _ => .ok [])).2.2.2

/-- **lazy_node_ok / lazy_branch_ok.** A draining node and a draining branch condition over
    lazy streams correspond (hypotheses of `engine_hom`) to the same node and condition over
    chunk lists, for `h` = the chunks of a stream and `P` = "no error item". -/
theorem lazy_node_ok {V} (tb : Branch (LStream V) → Branch (List V)) (key : Key) (writeTo controls : List Key)
    (brs : List (Branch (LStream V))) (t : List V → Except Err (List V)) :
    NodeOK LStream.chunks (fun s : LStream V => s.err = none) tb
      { key := key, act := lazyNode t, writeTo := writeTo, controls := controls, branches := brs }
      { key := key, act := t, writeTo := writeTo, controls := controls, branches := brs.map tb } where
  key := rfl
  writeTo := rfl
  controls := rfl
  branches := rfl
  act := by
    intro a ha
    simp only [lazyNode_of_ok t a ha]
    cases t a.chunks <;> rfl
  keeps := by
    intro a a' ha h
    simp only [lazyNode_of_ok t a ha] at h
    cases ht : t a.chunks with
    | error _ => rw [ht] at h; cases h
    | ok ys => rw [ht] at h; cases h; rfl

theorem lazy_branch_ok {V} (ends : List Key) (noData : Bool) (c : List V → Except Err (List Key)) :
    BranchOK LStream.chunks (fun s : LStream V => s.err = none)
      ({ ends := ends, noData := noData, cond := lazyCond c } : Branch (LStream V))
      ({ ends := ends, noData := noData, cond := c } : Branch (List V)) := by
  refine ⟨rfl, rfl, ?_⟩
  intro a ha
  simp only [lazyCond, LStream.force_ok a ha]
  rfl

/-- **lazy_streams_conservative.** Without error items the refined stream mode is the chunk-list
    stream mode: for every runner over lazy streams whose nodes and branch conditions correspond
    to chunk-list ones (as draining nodes and conditions do: `lazy_node_ok`, `lazy_branch_ok`;
    pass-through and nested graphs likewise), every error-item-free input and the in-order
    schedule, the lazy run maps to the chunk-list run — result, error and per-step trace. So
    whatever `engine_hom` gives for chunk lists against value mode (the agreement of Stream /
    Collect / Transform with Invoke) carries over to lazy streams as long as no producer breaks. -/
theorem lazy_streams_conservative {V} (tb : Branch (LStream V) → Branch (List V)) (tn : Node (LStream V) → Node (List V))
    (htb : ∀ b, BranchOK LStream.chunks (fun s : LStream V => s.err = none) b (tb b))
    (htn : ∀ n, NodeOK LStream.chunks (fun s : LStream V => s.err = none) tb n (tn n))
    (z : V) (r : Runner (LStream V)) (x : LStream V) (hx : x.err = none) :
    runS (listOps z) (r.mapNodes tn) Sched.id x.chunks = (runS (lazyOps z) r Sched.id x).mapO LStream.chunks :=
  engine_hom LStream.chunks (fun s => s.err = none) tb tn htb htn (lazyOps z) (listOps z) (lazy_ops_ok z) r (fun _ => rfl)
    Sched.id Sched.id (sched_id_hom LStream.chunks).1 (sched_id_hom (B := List V) LStream.chunks).2 x hx

/-! non-vacuity: a chunker that really splits, on a concrete value type -/
example : concat ({ concatItems := fun l => .ok l.sum, emptyErr := { cls := .noTasks } } : ChunkOps Nat) [1, 2] = .ok 3 := rfl

/-! non-vacuity: a producer that breaks after one chunk, merged with a healthy stream, fails the
    caller's concatenation although chunks were delivered -/
example : (lazyMidFail (V := Nat) (fun xs => .ok xs) 1 { cls := .user 7 } (.ofList [1, 2])).toOption.bind
      (fun o => ((lazyOps 0).merge [LStream.ofList [5], o]).map
        (lazyConcat { concatItems := fun l => .ok l.sum, emptyErr := { cls := .noTasks } }))
    = some (.error { cls := .user 7 }) := rfl

/-! ### values under an input key (`WithInputKey`): absent, nil, wrongly typed (`Model/C04Key.lean`) -/

/-- fact tie: the conversion function of `defaultStreamMapFilter` describes a wrongly typed value
    without calling a method on `reflect.TypeOf(v)` (which is nil for an untyped nil) -/
theorem stream_filter_fact : FactsC04.streamFilterNilSafe = true := by decide

/-- **input_key_never_panics.** With the nil-safe conversion function the source has
    (`stream_filter_fact`), reading a stream filtered by an input key never panics, whatever the
    chunks carry under the key — absent, an untyped nil, a value of another type, a good value, in
    any order: every chunk is dropped, forwarded, or turned into an error item. -/
theorem input_key_never_panics {V} (l : List (KVal V)) :
    panicsAt FactsC04.streamFilterNilSafe l = false := by
  rw [stream_filter_fact]; exact panicsAt_safe l

/-- **input_key_paradigms_agree.** For the one-chunk stream (what `Stream` and every invoke-only
    producer hand over) value mode and stream mode agree on the value under the key: the same value
    when it has the node's type, a failure in both otherwise (absent, nil, wrong type). -/
theorem input_key_paradigms_agree {V} (co : ChunkOps V) (kv : KVal V) :
    (∀ v, keyValue kv = .ok v → lazyConcat co (keyStream [kv]) = .ok v) ∧
    (∀ e, keyValue kv = .error e → ∃ e', lazyConcat co (keyStream [kv]) = .error e') :=
  key_single_chunk co kv

/-- a stream of good values passes the filter unchanged -/
theorem input_key_forwards_good {V} (vs : List V) :
    keyStream (vs.map KVal.good) = { chunks := vs, err := none } := keyStream_good vs

/-- negation witness (the code before the repair): without the nil guard an untyped nil under the
    key makes `Recv` panic in the reader's goroutine, while value mode returns an ordinary error -/
theorem input_key_nil_panicked_before_repair :
    panicsAt (V := Nat) false [.good 1, .nilVal] = true ∧ keyValue (V := Nat) .nilVal = .error errKeyType := ⟨rfl, rfl⟩

/-! ### map chunks through field mappings (`Model/C04FMap.lean`): a producer that distributes the
    mapped keys over its chunks, splits string values, or carries nil / wrongly typed values -/

/-- fact tie: the combined run-time checker `validateFieldMapping` puts on an edge visits the entries
    the field map HAS (it ranges over the map, or looks a key up with comma-ok) — it does not look
    every checked target up directly, which finds nil for the keys a stream chunk does not carry -/
theorem field_checker_fact : FactsC04.fieldCheckerPresentKeysOnly = true := by decide

/-- **field_mapped_chunks_agree.** "… however producers split their output into chunks … wherever
    streams pass … field mappings", for one edge with field mappings `ms` (pairwise distinct targets;
    any mixture of mappings with and without a run-time checker, nilable or not) and EVERY way `cs` of
    splitting a `map[string]any` value into at least one chunk such that, per key, the chunks carry
    string pieces only or at most one chunk carries the key (`SplitOK`: then the chunks concatenate —
    `concatCols` succeeds), and every mapped key is carried by some chunk:
    the successor's input obtained in stream mode — field map, checker and conversion chunk by chunk
    (`fmStream`, with the checker as the source has it), then concatenation of the converted chunks —
    is the one value mode builds from the concatenated value (`fmValue`), and a refusal in value mode
    (nil or a wrongly typed value under a checked mapping) is a failure in stream mode too: never a
    success in one and a failure in the other. -/
theorem field_mapped_chunks_agree (ms : List FMapping) (cs : List FChunk) (ks : List Key)
    (hne : cs ≠ []) (hnd : (ms.map (·.dst)).Nodup)
    (hks : ∀ m ∈ ms, m.src ∈ ks)
    (hsplit : ∀ k ∈ ks, SplitOK (occ k cs))
    (hpres : ∀ m ∈ ms, occ m.src cs ≠ []) :
    ∃ whole, concatCols cs ks = .ok whole ∧
      (∀ t, fmValue ms whole = .ok t →
        fmConcat (ms.map (·.dst)) (fmStream FactsC04.fieldCheckerPresentKeysOnly ms cs) = .ok t) ∧
      (∀ e, fmValue ms whole = .error e →
        ∃ e', fmConcat (ms.map (·.dst)) (fmStream FactsC04.fieldCheckerPresentKeysOnly ms cs) = .error e') := by
  rw [field_checker_fact]
  exact fmap_agree_expected ms cs ks hne hnd hks hsplit hpres

/-- **field_mapped_fan_in_agrees.** The same for a sink (a node, or END) that takes fields from any
    number of sources — edges `es`, each with its own mappings, its source's chunks and the keys of its
    source's map; all targets pairwise distinct, every edge's chunks a well-formed split that carries
    every mapped key (`EdgeOK`): the value the sink is handed in stream mode (every edge converted
    chunk by chunk, the converted streams merged, the merged chunks concatenated key by key —
    `fmStreamAll`) is the value it is handed in value mode (every source's chunks concatenated, every
    edge's field map of the whole value checked, the union — `fmInvokeAll`), and a failure in value
    mode is a failure in stream mode. -/
theorem field_mapped_fan_in_agrees (es : List FEdge) (hes : es ≠ [])
    (hok : ∀ e ∈ es, EdgeOK e.ms e.cs e.keys) (hnd : (es.flatMap FEdge.dsts).Nodup) :
    (∀ t, fmInvokeAll es = .ok t → fmStreamAll FactsC04.fieldCheckerPresentKeysOnly es = .ok t) ∧
    (∀ err, fmInvokeAll es = .error err → ∃ err', fmStreamAll FactsC04.fieldCheckerPresentKeysOnly es = .error err') := by
  rw [field_checker_fact]
  exact fmap_fanin_agree_expected es hes hok hnd

/-- **field_mapped_chunk_refused_only_for_its_own_values.** In stream mode a chunk is turned into an
    error item only because of a value it carries: some mapped key is in the chunk and the checker of
    that mapping refuses the value found there — never because of a key the chunk lacks. -/
theorem field_mapped_chunk_refused_only_for_its_own_values (ms : List FMapping) (c : FChunk) (e : Err)
    (h : fmChunk FactsC04.fieldCheckerPresentKeysOnly ms c = .error e) :
    ∃ m ∈ ms, c.get m.src ≠ .absent ∧ ∃ e', checkVal m (c.get m.src) = .error e' := by
  rw [field_checker_fact] at h
  exact fmChunk_err ms c e h

/-- negation witness: a checker that looks every checked target up (instead of visiting the entries
    of the chunk's field map) refuses `{"a":"x"}, {"b":"y"}` in stream mode while value mode accepts the
    concatenated map -/
theorem field_checker_direct_lookup_breaks_split_chunks :
    let ms : List FMapping := [{ src := "a", dst := "A" }, { src := "b", dst := "B" }]
    let cs : List FChunk := [[("a", .good "x")], [("b", .good "y")]]
    concatCols cs ["a", "b"] = .ok [("a", .good "x"), ("b", .good "y")] ∧
    fmValue ms [("a", .good "x"), ("b", .good "y")] = .ok [("A", .good "x"), ("B", .good "y")] ∧
    fmConcat ["A", "B"] (fmStream true ms cs) = .ok [("A", .good "x"), ("B", .good "y")] ∧
    fmConcat ["A", "B"] (fmStream false ms cs) = .error errNotAssignable := by
  refine ⟨by rfl, by rfl, by rfl, by rfl⟩

/-- what fails outside `SplitOK` (the hypothesis of `field_mapped_chunks_agree` cannot be dropped; known
    finding `C04:fmap:paradigms:invoke=ok,streamed=err:nil-beside-value-under-checked-key`): a chunk that
    carries an explicit nil under a key whose value another chunk carries is not a well-formed split in
    the sense of `SplitOK`, yet the chunks concatenate to the value (`concatVals` skips nil, as
    `concatMaps` does). Value mode accepts the concatenated value; stream mode refuses the nil chunk when
    the mapping is checked and its target cannot be nil — in either order of the two chunks. With an
    unchecked or a nilable target both modes agree on the same chunks. -/
theorem field_mapped_nil_beside_value_disagrees :
    let m : FMapping := { src := "a", dst := "A" }
    let cs : List FChunk := [[("a", .nilV)], [("a", .good "x")]]
    ¬ SplitOK (occ "a" cs) ∧
    concatCols cs ["a"] = .ok [("a", .good "x")] ∧ concatCols cs.reverse ["a"] = .ok [("a", .good "x")] ∧
    fmValue [m] [("a", .good "x")] = .ok [("A", .good "x")] ∧
    fmConcat ["A"] (fmStream true [m] cs) = .error errNotAssignable ∧
    fmConcat ["A"] (fmStream true [m] cs.reverse) = .error errNotAssignable ∧
    fmConcat ["A"] (fmStream true [{ m with checked := false }] cs) = .ok [("A", .good "x")] ∧
    fmConcat ["A"] (fmStream true [{ m with nilable := true }] cs) = .ok [("A", .good "x")] := by
  refine ⟨?_, by decide, by decide, by decide, by decide, by decide, by decide, by decide⟩
  intro h
  rcases h with h | h
  · have := h .nilV (by decide)
    exact absurd this (by decide)
  · exact absurd h (by decide)

/-! non-vacuity: the hypotheses of `field_mapped_chunks_agree` hold for a three-chunk split with a
    string in two pieces, a key per chunk and an unmapped key; a refused value is refused in both modes -/
example : let cs : List FChunk := [[("a", .good "x1")], [("b", .good "y"), ("z", .wrong)], [("a", .good "x2")]]
    (∀ k ∈ ["a", "b", "z"], SplitOK (occ k cs)) ∧ occ "a" cs = [.good "x1", .good "x2"] ∧
    fmConcat ["A", "B"] (fmStream true [{ src := "a", dst := "A" }, { src := "b", dst := "B" }] cs)
      = .ok [("A", .good "x1x2"), ("B", .good "y")] := by
  refine ⟨?_, by rfl, by rfl⟩
  intro k hk
  simp only [List.mem_cons, List.not_mem_nil, or_false] at hk
  rcases hk with rfl | rfl | rfl
  · exact .inl (by decide)
  · exact .inr (by decide)
  · exact .inr (by decide)
example : fmValue [{ src := "a", dst := "A" }] [("a", .nilV)] = .error errNotAssignable ∧
    fmConcat ["A"] (fmStream true [{ src := "a", dst := "A" }] [[("z", .good "q")], [("a", .nilV)]]) = .error errNotAssignable ∧
    fmValue [{ src := "a", dst := "A", checked := false }] [("a", .nilV)] = .ok [("A", .nilV)] := ⟨by rfl, by rfl, by rfl⟩
example : let es : List FEdge := [{ ms := [{ src := "a", dst := "A" }], cs := [[("a", .good "x")], [("z", .nilV)]], keys := ["a", "z"] },
      { ms := [{ src := "b", dst := "B", checked := false }], cs := [[("b", .wrong)]], keys := ["b"] }]
    fmInvokeAll es = .ok [("A", .good "x"), ("B", .wrong)] ∧ fmStreamAll true es = .ok [("A", .good "x"), ("B", .wrong)] ∧
    fmStreamAll false es = .error errNotAssignable := ⟨by rfl, by rfl, by rfl⟩

/-! ### the error VALUE of an error item (`Model/C04ErrItem.lean`): only the bare io.EOF ends a stream -/

/-- fact tie: package compose compares with io.EOF by identity (`err == io.EOF`) — in
    `concatStreamReader`, the one Recv loop of the package, behind every derived paradigm — and
    nowhere through `errors.Is(·, io.EOF)` -/
theorem eof_comparison_fact : FactsC04.composeEOFComparedByIdentity = true := by decide

/-- **error_item_value_irrelevant.** "A failure is reported in every paradigm": an error item that is
    not io.EOF ITSELF is a failure for the framework's concatenation loop whatever the error value is —
    a leaf error, io.ErrUnexpectedEOF, a wrapped context.Canceled, or an error whose `Unwrap` chain
    reaches io.EOF (`rel = .reaches`: `*url.Error{Err: io.EOF}`, `%w` of io.EOF, `errors.Join`, an `Is`
    method) — at any chunk position `pre.length`, whatever follows: the loop (with the comparison the
    source has) sees exactly the chunks before the item and the item, and everything that drains the
    stream fails with it: the concatenation behind Invoke / Collect and every derived paradigm
    (`lazyConcat`), a packed component (`lazyNode`), a plain branch condition (`lazyCond`). -/
theorem error_item_value_irrelevant {V} (co : ChunkOps V) (pre : List V) (rel : EOFRel) (e : Err)
    (rest : List (Item V)) (h : rel ≠ .identical)
    (t : List V → Except Err (List V)) (c : List V → Except Err (List Key)) :
    let s := view FactsC04.composeEOFComparedByIdentity (pre.map Item.chunk ++ Item.fail rel e :: rest)
    s = { chunks := pre, err := some e } ∧
    lazyConcat co s = .error e ∧ lazyNode t s = .error e ∧ lazyCond c s = .error e := by
  rw [eof_comparison_fact, view_identity_fail pre rel e rest h]
  have hr := error_item_reported co ({ chunks := pre, err := some e } : LStream V) e rfl t 0 e c
  exact ⟨rfl, hr.2.2.2, hr.1, hr.2.2.1⟩

/-- **reader_loops_agree.** The framework's loop sees every stream exactly as a caller's
    `err == io.EOF` loop does (the one that drains the readers Stream / Transform hand out): the two
    kinds of paradigms cannot differ in whether an item ends or fails the stream. -/
theorem reader_loops_agree {V} (items : List (Item V)) :
    view FactsC04.composeEOFComparedByIdentity items = view true items := by
  rw [eof_comparison_fact]

/-- negation witness: a loop that ends on `errors.Is(err, io.EOF)` takes a wrapped io.EOF for the end
    of the stream — the concatenation (Invoke, Collect) returns the truncated value as a success while
    a caller draining the same stream (Stream, Transform) gets the failure -/
theorem errors_is_eof_truncates :
    let items : List (Item Nat) := [.chunk 1, .chunk 2, .fail .reaches { cls := .user 7 }, .chunk 4]
    let co : ChunkOps Nat := { concatItems := fun l => .ok l.sum, emptyErr := { cls := .noTasks } }
    lazyConcat co (view false items) = .ok 3 ∧ lazyConcat co (view true items) = .error { cls := .user 7 } ∧
    lazyConcat co (view true [.chunk 1, .chunk 2, .chunk 4]) = .ok 7 := by decide

end EinoV.C04
