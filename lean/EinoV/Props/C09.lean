/-
  C09 — A compiled runnable is safe for concurrent use; runs are isolated.
  Property theorems.  Models: EinoV/Model/C09.lean (runs over a heap of slots), and for the
  sections that refine it C09Opt.lean (call options), C09Cb.lean (callback handlers), C09Err.lean
  (run errors), C09Flight.lean (many runs in flight), all under EinoV/Model.  Source facts:
  EinoV/Gen/FactsC09.lean (regenerated from /repo on every run by tools/factgen/c09.go).

  FULL STATEMENT (properties.jsonl): for every compiled object, any number of concurrent
  callers mixing the four paradigms and every interleaving: runs do not share channels,
  state, options or callback context, each run returns what it would return alone, and no
  data race occurs in framework code.

  What is proved here (`…_partial`): the LOGIC part – over a heap model in which every step
  of a run is atomic, for every number of runs, every step function and every schedule, a
  run's view of the heap equals the run executed alone, *because* each of the objects a run
  works on is allocated per run (facts `runAllocs…`, `runBuildsOptMap`,
  `runCreatesStateViaRunCtx`) and run-time code writes nothing else that is shared (fact
  `sharedWrites = []`).  For the call options, the callback handlers (both down to Go slice
  semantics, on the slice heap of the C10 model), the run errors and many runs in flight at
  once the slot abstraction is refined in the sections below.
  What is NOT proved: atomicity of the steps, i.e. data-race freedom
  in the Go memory model – that clause is observed only (harness built with -race, child
  process, any race report is a violation).  The write-set is a syntactic
  over-approximation over a fixed package list, trusted as such.
-/
import EinoV.Model.C09
import EinoV.Model.C09Opt
import EinoV.Proofs.C09
import EinoV.Proofs.C09Opt
import EinoV.Model.C09Err
import EinoV.Proofs.C09Err
import EinoV.Model.C09Cb
import EinoV.Proofs.C09Cb
import EinoV.Model.C09Flight
import EinoV.Proofs.C09Flight
import EinoV.Gen.FactsC09
import EinoV.Expected.C09

namespace EinoV.C09
open EinoV.Gen

def repoAlloc : Alloc :=
  allocOf FactsC09.runAllocsChannelManager FactsC09.channelsBuiltPerRun
    FactsC09.channelManagerFieldsFresh FactsC09.runAllocsTaskManager FactsC09.taskManagerQueueFresh
    FactsC09.runBuildsOptMap FactsC09.runCreatesStateViaRunCtx
    FactsC09.sharedWrites FactsC09.nonFreshPerRunFields FactsC09.extractOptionCopies

/-- **no_shared_writes.** Run-time code (everything reachable from `runner.run`, and every
    closure that the compose / react / host constructors leave inside the compiled object)
    contains no assignment to a captured constructor variable, to a field reached through
    a shared receiver, or to a package-level variable. -/
theorem no_shared_writes : FactsC09.sharedWrites = [] := by decide

/-- The allow-list of tools/factgen/c09.go carries no dead entries (each reasoned exception
    still matches a write in the tree). -/
theorem allow_list_exact : FactsC09.staleAllowEntries = [] := by decide

/-- **per_run_allocation.** `runner.run` itself allocates the channel manager (fresh channel
    map, fresh channels), the task manager (fresh list, fresh done channel, fresh mutex –
    nothing taken from a pool, cache or package variable), the option map, and obtains the
    state from the generator through `runCtx`. -/
theorem per_run_allocation :
    FactsC09.runAllocsChannelManager = true ∧ FactsC09.channelsBuiltPerRun = true ∧
    FactsC09.channelManagerFieldsFresh = true ∧
    FactsC09.runAllocsTaskManager = true ∧ FactsC09.taskManagerQueueFresh = true ∧
    FactsC09.nonFreshPerRunFields = [] ∧
    FactsC09.runBuildsOptMap = true ∧ FactsC09.runCreatesStateViaRunCtx = true ∧
    FactsC09.extractOptionCopies = true := by decide

theorem facts_match : repoAlloc = Expected.C09.alloc := by decide

theorem repo_all_per_run : repoAlloc = Alloc.allPerRun := by decide

/-- **noninterference (partial: atomic steps assumed).** For the allocation table extracted
    from /repo, every number of runs, every per-run step function, every initial heap and
    EVERY schedule: what run `i` sees after the interleaved execution is exactly run `i`
    executed alone for as many steps as the schedule gave it, and the compiled object is
    unchanged.  (Every prefix of a schedule is a schedule, so this also holds at every
    intermediate point: the projection of the interleaved trace on run `i` is the trace of
    run `i` alone.) -/
theorem noninterference_partial (step : Nat → Slots → Slots) (sched : List Nat) (h : Heap) (i : Nat) :
    load repoAlloc (exec repoAlloc step sched h) i
      = alone step i (sched.count i) (load repoAlloc h i)
    ∧ (exec repoAlloc step sched h).shared = h.shared := by
  rw [repo_all_per_run, load_allPerRun, load_allPerRun]
  exact ⟨(exec_allPerRun step sched h).2 i, (exec_allPerRun step sched h).1⟩

/-- trace form: at every cut of the schedule -/
theorem noninterference_every_prefix_partial (step : Nat → Slots → Slots) (p q : List Nat) (h : Heap) (i : Nat) :
    load repoAlloc (exec repoAlloc step p h) i = alone step i (p.count i) (load repoAlloc h i)
    ∧ load repoAlloc (exec repoAlloc step (p ++ q) h) i
        = alone step i (q.count i) (load repoAlloc (exec repoAlloc step p h) i) := by
  refine ⟨(noninterference_partial step p h i).1, ?_⟩
  rw [(noninterference_partial step (p ++ q) h i).1, (noninterference_partial step p h i).1,
    List.count_append, alone_add]

/-- **each run returns what it would return alone** (layered graphs of the correspondence
    check): whatever the schedule, as soon as it gives call `i` enough steps to finish, the
    result of call `i` is the result of the same call run alone. -/
theorem result_as_alone_partial (prog : List Layer) (calls : List (String × String)) (sched : List Nat)
    (i : Nat) (hi : i < calls.length) (hfin : prog.length ≤ sched.count i) :
    (runInterleaved repoAlloc prog calls sched)[i]?
      = some (runAlone prog calls[i].1 calls[i].2) := by
  unfold runInterleaved runAlone
  simp only [List.getElem?_map, List.getElem?_range hi, Option.map_some]
  rw [(noninterference_partial (fun _ => layeredStep prog) sched (initHeap calls) i).1]
  rw [repo_all_per_run, load_allPerRun]
  have hinit : (initHeap calls).priv i = ⟨calls[i].1, 0, calls[i].2, 0, ""⟩ := by
    simp [initHeap, hi]
  rw [hinit]
  obtain ⟨k, hk⟩ : ∃ k, sched.count i = prog.length + k := ⟨sched.count i - prog.length, by omega⟩
  rw [hk, alone_add]
  have htm := alone_layered_tm prog i prog.length ⟨calls[i].1, 0, calls[i].2, 0, ""⟩ (by simp)
  rw [alone_idle prog i k _ (by rw [htm]; simp)]
  rw [alone_const (layeredStep prog) i 0]

/-! ## call options (Go slice semantics)

`runBuildsOptMap` says the option MAP of a run is a fresh object.  Its values are slices: the
theorems below are about what they are windows into. -/

section CallOptions

/-- **extract_option_copies.** Every store into the option map of `extractOption` is
    `optMap[k] = append(optMap[k], …)`: the first group of a node is copied into storage of the
    run (append to the nil slice of a fresh map), later groups are appended to that storage. -/
theorem extract_option_copies : FactsC09.extractOptionCopies = true := by decide

/-- **tools_node_read_only.** No method on the run path of a ToolsNode assigns through the
    receiver: the conversion of a `WithToolList` call option lives in locals of the call. -/
theorem tools_node_read_only : FactsC09.toolsNodeRunPathWrites = [] := by decide

theorem facts_match_options :
    FactsC09.extractOptionCopies = Expected.C09.extractOptionCopies ∧
    FactsC09.toolsNodeRunPathWrites = Expected.C09.toolsNodeRunPathWrites := by decide

/-- **A node sees exactly the options of its own call** – for the code as it is
    (`extractOptionCopies` from /repo), any number of concurrent calls with any option groups
    (shared `Option` values included: several calls may hold windows into the same caller
    array, with any spare capacity), any set of (call, node) extraction threads and EVERY
    interleaving of their steps: whatever node `p` of call `i` reads when it is executed is
    `visible h0 gs p` – the concatenation, in call order, of the groups of call `i` that reach
    `p`, as the caller handed them over.  It is a function of the call's own options only. -/
theorem node_sees_exactly_own_options (h0 : C10.Heap) (calls : List (List Opt.Group))
    (threads : List (Nat × Opt.Path)) (sched : List Nat) (wf : Opt.CallsWF h0 calls)
    (t i : Nat) (p : Opt.Path) (gs : List Opt.Group) (r : List C10.Hd)
    (ht : threads[t]? = some (i, p)) (hc : calls[i]? = some gs)
    (hs : ((Opt.exec FactsC09.extractOptionCopies (Opt.progOf calls threads) sched
              (Opt.St.init h0)).th t).seen = some r) :
    r = Opt.visible h0 gs p := by
  rw [extract_option_copies] at hs
  have inv := Opt.inv_exec (Opt.wf_progOf wf threads) sched _ (Opt.inv_init h0 _)
  have hp : (Opt.progOf calls threads)[t]? = some (Opt.reaching gs p) := by
    simp [Opt.progOf, ht, List.getD_eq_getElem?_getD, hc]
  exact inv.sn t _ r hp hs

/-- **The caller's option arrays are never written** by any run (spare capacity included). -/
theorem caller_option_arrays_untouched (h0 : C10.Heap) (calls : List (List Opt.Group))
    (threads : List (Nat × Opt.Path)) (sched : List Nat) (wf : Opt.CallsWF h0 calls)
    (a : Nat) (ha : a < h0.length) :
    (Opt.exec FactsC09.extractOptionCopies (Opt.progOf calls threads) sched (Opt.St.init h0)).heap[a]?
      = h0[a]? := by
  rw [extract_option_copies]
  exact (Opt.inv_exec (Opt.wf_progOf wf threads) sched _ (Opt.inv_init h0 _)).pre a ha

/-- **Runs do not share options**: the same call (same groups) observed in two different
    worlds – other concurrent calls, other threads, another schedule – reads the same options. -/
theorem options_independent_of_other_runs (h0 : C10.Heap)
    (calls calls' : List (List Opt.Group)) (threads threads' : List (Nat × Opt.Path))
    (sched sched' : List Nat) (wf : Opt.CallsWF h0 calls) (wf' : Opt.CallsWF h0 calls')
    (t t' i i' : Nat) (p : Opt.Path) (gs : List Opt.Group) (r r' : List C10.Hd)
    (ht : threads[t]? = some (i, p)) (ht' : threads'[t']? = some (i', p))
    (hc : calls[i]? = some gs) (hc' : calls'[i']? = some gs)
    (hs : ((Opt.exec FactsC09.extractOptionCopies (Opt.progOf calls threads) sched
              (Opt.St.init h0)).th t).seen = some r)
    (hs' : ((Opt.exec FactsC09.extractOptionCopies (Opt.progOf calls' threads') sched'
              (Opt.St.init h0)).th t').seen = some r') :
    r = r' := by
  rw [node_sees_exactly_own_options h0 calls threads sched wf t i p gs r ht hc hs,
    node_sees_exactly_own_options h0 calls' threads' sched' wf' t' i' p gs r' ht' hc' hs']

/-- non-vacuity of the two theorems above: a thread that is scheduled once per group and once
    more has read (whatever `copies` is) -/
theorem node_reads_when_scheduled (copies : Bool) (prog : List (List C10.Slice)) (t : Nat)
    (gs : List C10.Slice) (hp : prog[t]? = some gs) (sched : List Nat) :
    ∀ st : Opt.St, (st.th t).pc ≤ gs.length → gs.length + 1 ≤ (st.th t).pc + sched.count t →
      ((Opt.exec copies prog sched st).th t).seen.isSome = true := by
  intro st h1 h2
  exact reads_when_scheduled (Opt.step copies prog) (Opt.exec copies prog) (fun _ => rfl) (fun _ _ _ => rfl)
    t gs.length (fun st => (st.th t).pc) (fun st => (st.th t).seen.isSome = true)
    (fun st j e => congrArg _ (Opt.step_th_other copies prog st (Ne.symm e)))
    (fun _ => Opt.step_pc_lt copies hp) (fun _ => Opt.step_seen_ge copies hp)
    (fun st j => Opt.seen_step copies prog st j t) sched st (.inr ⟨h1, h2⟩)

/-- a shared Option value `WithLambdaOption(common...)` whose slice has spare capacity
    (3 options in an array of 5), and two calls that each add one option of their own -/
def hazardHeap : C10.Heap :=
  [[⟨1, none⟩, ⟨2, none⟩, ⟨3, none⟩, default, default], [⟨10, none⟩], [⟨20, none⟩]]
def hazardProg : List (List C10.Slice) :=
  [[⟨0, 0, 3, 5⟩, ⟨1, 0, 1, 1⟩], [⟨0, 0, 3, 5⟩, ⟨2, 0, 1, 1⟩]]

/-- the code as it is, on this input, under the overlapping schedule: every node reads
    common ++ its own option -/
example :
    Opt.seenAll FactsC09.extractOptionCopies hazardHeap hazardProg [0, 0, 1, 1, 0, 1]
      = [some [⟨1, none⟩, ⟨2, none⟩, ⟨3, none⟩, ⟨10, none⟩],
         some [⟨1, none⟩, ⟨2, none⟩, ⟨3, none⟩, ⟨20, none⟩]] := by decide

/-- **Slice-aliasing hazard (negation witness).**  If the first group of a node were taken as
    it is (`copies = false`: `optMap[k]` IS the caller's `Option.options` slice), `append` of the
    second group writes into the spare capacity of the caller's array, which both calls see:
    under the schedule  extract₀ extract₀ extract₁ extract₁ read₀ read₁  call 0 executes its node
    with call 1's option (20 instead of 10) and the caller's array has been written; run alone
    (or with the copying extraction) call 0 reads its own option. -/
theorem aliased_first_group_interferes :
    Opt.seenAll false hazardHeap hazardProg [0, 0, 1, 1, 0, 1]
      = [some [⟨1, none⟩, ⟨2, none⟩, ⟨3, none⟩, ⟨20, none⟩],
         some [⟨1, none⟩, ⟨2, none⟩, ⟨3, none⟩, ⟨20, none⟩]]
    ∧ Opt.seenAll false hazardHeap hazardProg [0, 0, 0]
      = [some [⟨1, none⟩, ⟨2, none⟩, ⟨3, none⟩, ⟨10, none⟩], none]
    ∧ Opt.seenAll true hazardHeap hazardProg [0, 0, 1, 1, 0, 1]
      = [some [⟨1, none⟩, ⟨2, none⟩, ⟨3, none⟩, ⟨10, none⟩],
         some [⟨1, none⟩, ⟨2, none⟩, ⟨3, none⟩, ⟨20, none⟩]]
    ∧ (Opt.exec false hazardProg [0, 0, 1, 1, 0, 1] (Opt.St.init hazardHeap)).heap[0]? ≠ hazardHeap[0]? := by
  decide

/-- without spare capacity (`len = cap`) the aliased slice is harmless: `append` reallocates -/
example :
    Opt.seenAll false [[⟨1, none⟩, ⟨2, none⟩, ⟨3, none⟩], [⟨10, none⟩], [⟨20, none⟩]]
      [[⟨0, 0, 3, 3⟩, ⟨1, 0, 1, 1⟩], [⟨0, 0, 3, 3⟩, ⟨2, 0, 1, 1⟩]] [0, 0, 1, 1, 0, 1]
      = [some [⟨1, none⟩, ⟨2, none⟩, ⟨3, none⟩, ⟨10, none⟩],
         some [⟨1, none⟩, ⟨2, none⟩, ⟨3, none⟩, ⟨20, none⟩]] := by decide

/-- **Each run's tool calls are executed by the tools of ITS list** – for the code as it is
    (`toolsNodeRunPathWrites = []`), any number of runs carrying any lists, every interleaving:
    the shared node is never written, a run that has not reached the node holds nothing, a run
    that has holds the conversion of its own `WithToolList` option. -/
theorem tool_list_is_own (lists : Nat → Nat) (sched : List Nat) (i : Nat) :
    let st := Tools.exec (!FactsC09.toolsNodeRunPathWrites.isEmpty) lists sched Tools.St.init
    st.node = ⟨none, none⟩
    ∧ ((st.rs i).tuple = none ∨ (st.rs i).tuple = some (lists i))
    ∧ (i ∈ sched → (st.rs i).tuple = some (lists i)) := by
  have hm : (!FactsC09.toolsNodeRunPathWrites.isEmpty) = false := by decide
  rw [hm]
  have g := Tools.good_exec (lists := lists) sched _ (Tools.good_init lists)
  refine ⟨g.1, ?_, ?_⟩
  · rcases g.2 i with h | h <;> simp [h]
  · intro hi
    rw [Tools.mem_exec sched i hi _ (Tools.good_init lists)]

/-- **Memoised conversion on the shared node ⇒ interference (negation witness).**  The last
    list and its conversion kept in two fields of the ToolsNode, written one after the other
    (the conversion – the user's `Info` calls – in between).  Runs 0 (list 7), 1 and 2 (list 9):
    run 0 starts converting, run 1 runs to completion, run 0 completes (the memo is now
    list 9 ↦ conversion of 7), run 2 finds "its" list memoised and executes list 7's tools. -/
theorem memoised_tool_list_interferes :
    let lists : Nat → Nat := fun i => if i = 0 then 7 else 9
    ((Tools.exec true lists [0, 1, 1, 1, 0, 0, 2] Tools.St.init).rs 2).tuple = some 7
    ∧ ((Tools.exec true lists [2] Tools.St.init).rs 2).tuple = none
    ∧ ((Tools.exec true lists [2, 2, 2] Tools.St.init).rs 2).tuple = some 9
    ∧ ((Tools.exec false lists [0, 1, 1, 1, 0, 0, 2] Tools.St.init).rs 2).tuple = some 9 := by
  decide

/-! ### the successor list of a branching node

`runner.calculateBranch` collects the nodes the branches of a completed node select, and
`resolveCompletedTasks` adds the direct successors (`chanCall.writeTo`, a slice of the COMPILED
runner that aliases `g.dataEdges[name]` and was built by `append`: 3 or 5–7 direct edges leave spare
capacity).  It is the same collection discipline as for the option lists, on node keys. -/

/-- **branch_successors_fresh.** The slice `calculateBranch` returns is made in the call and only
    grown by `x = append(x, …)`; neither it nor `resolveCompletedTasks` appends onto a slice read
    from a field of the compiled runner. -/
theorem branch_successors_fresh : FactsC09.branchSuccessorsFresh = true := by decide

theorem facts_match_branch : FactsC09.branchSuccessorsFresh = Expected.C09.branchSuccessorsFresh := by decide

/-- **The successors a run delivers to are the ones ITS branch conditions selected (plus the direct
    ones)** – for the code as it is (`branchSuccessorsFresh` from /repo), any tables of the compiled
    runner (`h0`; any spare capacity), any number of runs evaluating the node at the same time, each
    with any list of groups (what its conditions returned, the runner's `writeTo`), and EVERY
    interleaving of the appends: what a run reads is the concatenation of its own groups, and the
    runner's arrays are never written. -/
theorem run_delivers_to_own_branch_targets (h0 : C10.Heap) (prog : List (List C10.Slice))
    (wf : Opt.WF h0 prog) (sched : List Nat) (t : Nat) (gs : List C10.Slice) (r : List C10.Hd)
    (hp : prog[t]? = some gs)
    (hs : ((Opt.exec FactsC09.branchSuccessorsFresh prog sched (Opt.St.init h0)).th t).seen = some r) :
    r = (gs.map h0.read).flatten
    ∧ ∀ a, a < h0.length →
        (Opt.exec FactsC09.branchSuccessorsFresh prog sched (Opt.St.init h0)).heap[a]? = h0[a]? := by
  rw [branch_successors_fresh] at hs ⊢
  have inv := Opt.inv_exec wf sched _ (Opt.inv_init h0 prog)
  exact ⟨inv.sn t gs r hp hs, inv.pre⟩

/-- **Appending the selections onto the runner's `writeTo` (negation witness).**  Three direct
    successors (ids 1,2,3: len 3, cap 4) and two branches; run 0 selects 10 then 11, run 1 selects 20
    then 21.  Interleaved as run 0's branch 0, run 1's branch 0, run 0's branch 1, run 0 delivers to
    run 1's target 20 instead of its own 10; alone, or with a list made by the run, it does not. -/
theorem shared_write_to_misroutes_a_run :
    let h : C10.Heap := [[⟨1, none⟩, ⟨2, none⟩, ⟨3, none⟩, default], [⟨10, none⟩], [⟨11, none⟩], [⟨20, none⟩], [⟨21, none⟩]]
    let bad : List (List C10.Slice) :=
      [[⟨0, 0, 3, 4⟩, ⟨1, 0, 1, 1⟩, ⟨2, 0, 1, 1⟩], [⟨0, 0, 3, 4⟩, ⟨3, 0, 1, 1⟩, ⟨4, 0, 1, 1⟩]]
    Opt.seenAll false h bad [0, 0, 1, 1, 0, 0] = [some [⟨1, none⟩, ⟨2, none⟩, ⟨3, none⟩, ⟨20, none⟩, ⟨11, none⟩], none]
    ∧ Opt.seenAll false h bad [0, 0, 0, 0] = [some [⟨1, none⟩, ⟨2, none⟩, ⟨3, none⟩, ⟨10, none⟩, ⟨11, none⟩], none]
    ∧ Opt.seenAll true h bad [0, 0, 1, 1, 0, 0] = [some [⟨1, none⟩, ⟨2, none⟩, ⟨3, none⟩, ⟨10, none⟩, ⟨11, none⟩], none] := by
  decide

end CallOptions

/-! ## callback handlers (Go slice semantics)

"Runs do not share … callback context."  The handler list of a run is a slice; a
`compose.WithCallbacks(hs...)` option keeps the caller's slice `hs`, and a parent context keeps the
slice given to `callbacks.InitCallbacks`.  Concurrent runs that pass the same Option value / derive
their context from the same parent hold windows into the same arrays.  The theorems say what the
list a unit of a run reads is a window into. -/

section CallbackHandlers

def repoCbFacts : Cb.Facts :=
  ⟨FactsC09.graphHandlersCollectCopies, FactsC09.nodeHandlersCollectCopies, FactsC09.appendHandlersCopies⟩

/-- **handler_lists_built_by_copy.** In `initGraphCallbacks` and in `initNodeCallbacks` the list
    handed to `AppendHandlers` starts nil and every assignment to it is `cbs = append(cbs, …)` (its
    array is allocated by the run, it is never an option's own slice); `AppendHandlers` appends to a
    copy of the inherited list, never to the inherited slice. -/
theorem handler_lists_built_by_copy :
    FactsC09.graphHandlersCollectCopies = true ∧ FactsC09.nodeHandlersCollectCopies = true ∧
    FactsC09.appendHandlersCopies = true := by decide

theorem facts_match_callbacks : repoCbFacts = Expected.C09.cbFacts := by decide

theorem repo_cb_facts : repoCbFacts = ⟨true, true, true⟩ := by decide

/-- **Every unit of a run fires its callbacks on the handler list of its own call** – for the code
    as it is (the three facts from /repo), any caller memory `h0`, any number of concurrent calls
    (each: the handler list of its context and its `WithCallbacks` options, graph-wide or designated
    to any node path; several calls may hold windows into the same caller arrays – a shared Option
    value, a shared parent context – with any spare capacity), any set of (call, unit) threads and
    EVERY interleaving of their collect / install / read steps: whatever unit `p` of call `i` reads
    when it fires a callback is `Cb.inForce h0 inh gs p` – the context's list, then, level by level
    along the node path of the unit, the handlers of the options of call `i` collected there, in
    call order, as the caller handed them over.  It is a function of the call's own context and
    options only. -/
theorem run_handlers_are_own (h0 : C10.Heap) (calls : List Cb.Call)
    (threads : List (Nat × Opt.Path)) (sched : List Nat) (wf : Cb.CallsWF h0 calls)
    (t i : Nat) (p : Opt.Path) (c : Cb.Call) (r : List C10.Hd)
    (ht : threads[t]? = some (i, p)) (hc : calls[i]? = some c)
    (hs : ((Cb.exec repoCbFacts (Cb.progOf calls threads) sched
              (Cb.St.init h0 (Cb.progOf calls threads))).th t).seen = some r) :
    r = Cb.inForce h0 c.inh c.gs p := by
  rw [repo_cb_facts] at hs
  have wfp := Cb.wf_progOf wf threads
  have inv := Cb.inv_exec wfp sched _ (Cb.inv_init wfp)
  have hp : (Cb.progOf calls threads)[t]? = some (Cb.threadOf c p) := by
    simp [Cb.progOf, ht, List.getD_eq_getElem?_getD, hc]
  rw [Cb.inForce_eq]
  exact inv.sn t _ r hp hs

/-- **The caller's handler arrays are never written** by any run: neither the slice of a
    `WithCallbacks` option nor the slice of a parent context, spare capacity included. -/
theorem caller_handler_arrays_untouched (h0 : C10.Heap) (calls : List Cb.Call)
    (threads : List (Nat × Opt.Path)) (sched : List Nat) (wf : Cb.CallsWF h0 calls)
    (a : Nat) (ha : a < h0.length) :
    (Cb.exec repoCbFacts (Cb.progOf calls threads) sched
        (Cb.St.init h0 (Cb.progOf calls threads))).heap[a]? = h0[a]? := by
  rw [repo_cb_facts]
  have wfp := Cb.wf_progOf wf threads
  exact (Cb.inv_exec wfp sched _ (Cb.inv_init wfp)).pre a ha

/-- **Runs do not share callback context**: the same call (same context list, same options)
    observed in two different worlds – other concurrent calls, other threads, another schedule –
    fires the callbacks of unit `p` on the same handlers. -/
theorem handlers_independent_of_other_runs (h0 : C10.Heap)
    (calls calls' : List Cb.Call) (threads threads' : List (Nat × Opt.Path))
    (sched sched' : List Nat) (wf : Cb.CallsWF h0 calls) (wf' : Cb.CallsWF h0 calls')
    (t t' i i' : Nat) (p : Opt.Path) (c : Cb.Call) (r r' : List C10.Hd)
    (ht : threads[t]? = some (i, p)) (ht' : threads'[t']? = some (i', p))
    (hc : calls[i]? = some c) (hc' : calls'[i']? = some c)
    (hs : ((Cb.exec repoCbFacts (Cb.progOf calls threads) sched
              (Cb.St.init h0 (Cb.progOf calls threads))).th t).seen = some r)
    (hs' : ((Cb.exec repoCbFacts (Cb.progOf calls' threads') sched'
              (Cb.St.init h0 (Cb.progOf calls' threads'))).th t').seen = some r') :
    r = r' := by
  rw [run_handlers_are_own h0 calls threads sched wf t i p c r ht hc hs,
    run_handlers_are_own h0 calls' threads' sched' wf' t' i' p c r' ht' hc' hs']

/-- non-vacuity of the three theorems above: a thread that is scheduled once per instruction and
    once more has read (whatever the facts are) -/
theorem handlers_read_when_scheduled (F : Cb.Facts) (prog : List Cb.Thread) (t : Nat)
    (th : Cb.Thread) (hp : prog[t]? = some th) (sched : List Nat) :
    ∀ st : Cb.St, (st.th t).pc ≤ th.code.length → th.code.length + 1 ≤ (st.th t).pc + sched.count t →
      ((Cb.exec F prog sched st).th t).seen.isSome = true := by
  intro st h1 h2
  exact reads_when_scheduled (Cb.step F prog) (Cb.exec F prog) (fun _ => rfl) (fun _ _ _ => rfl)
    t th.code.length (fun st => (st.th t).pc) (fun st => (st.th t).seen.isSome = true)
    (fun st j e => congrArg _ (Cb.step_th_other F prog st (Ne.symm e)))
    (fun _ => Cb.step_pc_lt F hp) (fun _ => Cb.step_seen_ge F hp)
    (fun st j => Cb.seen_step F prog st j t) sched st (.inr ⟨h1, h2⟩)

/-- a shared `WithCallbacks(common...)` Option value whose handler slice has spare capacity (2
    handlers in an array of 4), and two calls that each add one graph-wide handler of their own;
    the context of the calls carries no callback manager -/
def cbHazardHeap : C10.Heap :=
  [[⟨1, none⟩, ⟨2, none⟩, default, default], [⟨10, none⟩], [⟨20, none⟩]]
def cbHazardCalls : List Cb.Call :=
  [⟨C10.Slice.nil, [⟨false, [], ⟨0, 0, 2, 4⟩⟩, ⟨false, [], ⟨1, 0, 1, 1⟩⟩]⟩,
   ⟨C10.Slice.nil, [⟨false, [], ⟨0, 0, 2, 4⟩⟩, ⟨false, [], ⟨2, 0, 1, 1⟩⟩]⟩]
/-- one thread per call, building the handler list of the called graph itself -/
def cbHazardProg : List Cb.Thread := Cb.progOf cbHazardCalls [(0, []), (1, [])]

/-- the threads' code: collect the shared list, collect the own list, install -/
example : cbHazardProg =
    [⟨C10.Slice.nil, [.collect true ⟨0, 0, 2, 4⟩, .collect true ⟨1, 0, 1, 1⟩, .install]⟩,
     ⟨C10.Slice.nil, [.collect true ⟨0, 0, 2, 4⟩, .collect true ⟨2, 0, 1, 1⟩, .install]⟩] := by decide

/-- the code as it is, on this input, under the overlapping schedule (run 0 builds its list, run 1
    builds its list, then both fire a callback): each run's callbacks go to common ++ its own handler -/
example :
    Cb.seenAll repoCbFacts cbHazardHeap cbHazardProg [0, 0, 0, 1, 1, 1, 0, 1]
      = [some [⟨1, none⟩, ⟨2, none⟩, ⟨10, none⟩], some [⟨1, none⟩, ⟨2, none⟩, ⟨20, none⟩]] := by decide

/-- **Handler list aliased with the first option's slice (negation witness).**  If
    `initGraphCallbacks` took the first option's handler slice as it is
    (`graphCollectCopies = false`) the second option's handlers are appended into the spare
    capacity of the caller's array, and – no manager in the context – that window IS the run's
    handler list: after run 1 has built its list, run 0's later callbacks go to run 1's own
    handler (20 instead of 10) and the caller's array has been written; alone (or with the
    copying collection) run 0's callbacks go to its own handler. -/
theorem aliased_first_handler_list_interferes :
    Cb.seenAll ⟨false, true, true⟩ cbHazardHeap cbHazardProg [0, 0, 0, 1, 1, 1, 0, 1]
      = [some [⟨1, none⟩, ⟨2, none⟩, ⟨20, none⟩], some [⟨1, none⟩, ⟨2, none⟩, ⟨20, none⟩]]
    ∧ Cb.seenAll ⟨false, true, true⟩ cbHazardHeap cbHazardProg [0, 0, 0, 0]
      = [some [⟨1, none⟩, ⟨2, none⟩, ⟨10, none⟩], none]
    ∧ Cb.seenAll ⟨true, true, true⟩ cbHazardHeap cbHazardProg [0, 0, 0, 1, 1, 1, 0, 1]
      = [some [⟨1, none⟩, ⟨2, none⟩, ⟨10, none⟩], some [⟨1, none⟩, ⟨2, none⟩, ⟨20, none⟩]]
    ∧ (Cb.exec ⟨false, true, true⟩ cbHazardProg [0, 0, 0, 1, 1, 1, 0, 1]
        (Cb.St.init cbHazardHeap cbHazardProg)).heap[0]? ≠ cbHazardHeap[0]? := by
  decide

/-- the same two calls with both options designated to node `w` of a graph called without any
    graph-wide handler: the list is collected by `initNodeCallbacks` of `w` -/
def cbNodeHazardProg : List Cb.Thread :=
  Cb.progOf
    [⟨C10.Slice.nil, [⟨true, ["w"], ⟨0, 0, 2, 4⟩⟩, ⟨true, ["w"], ⟨1, 0, 1, 1⟩⟩]⟩,
     ⟨C10.Slice.nil, [⟨true, ["w"], ⟨0, 0, 2, 4⟩⟩, ⟨true, ["w"], ⟨2, 0, 1, 1⟩⟩]⟩]
    [(0, ["w"]), (1, ["w"])]

/-- **The same hazard one level down (negation witness, `nodeCollectCopies = false`).** -/
theorem aliased_node_handler_list_interferes :
    Cb.seenAll ⟨true, false, true⟩ cbHazardHeap cbNodeHazardProg [0, 0, 0, 0, 1, 1, 1, 1, 0, 1]
      = [some [⟨1, none⟩, ⟨2, none⟩, ⟨20, none⟩], some [⟨1, none⟩, ⟨2, none⟩, ⟨20, none⟩]]
    ∧ Cb.seenAll ⟨true, true, true⟩ cbHazardHeap cbNodeHazardProg [0, 0, 0, 0, 1, 1, 1, 1, 0, 1]
      = [some [⟨1, none⟩, ⟨2, none⟩, ⟨10, none⟩], some [⟨1, none⟩, ⟨2, none⟩, ⟨20, none⟩]] := by
  decide

/-- two calls whose contexts derive from ONE parent context whose handler slice has spare capacity
    (3 handlers in an array of 4), each with one graph-wide handler of its own -/
def cbParentHeap : C10.Heap :=
  [[⟨7, none⟩, ⟨8, none⟩, ⟨9, none⟩, default], [⟨10, none⟩], [⟨20, none⟩]]
def cbParentProg : List Cb.Thread :=
  Cb.progOf
    [⟨⟨0, 0, 3, 4⟩, [⟨false, [], ⟨1, 0, 1, 1⟩⟩]⟩, ⟨⟨0, 0, 3, 4⟩, [⟨false, [], ⟨2, 0, 1, 1⟩⟩]⟩]
    [(0, []), (1, [])]

/-- **In-place append to the inherited list (negation witness, `installCopies = false`; the
    defect repaired by commit dcdede6).** -/
theorem inplace_append_to_parent_handlers_interferes :
    Cb.seenAll ⟨true, true, false⟩ cbParentHeap cbParentProg [0, 0, 1, 1, 0, 1]
      = [some [⟨7, none⟩, ⟨8, none⟩, ⟨9, none⟩, ⟨20, none⟩], some [⟨7, none⟩, ⟨8, none⟩, ⟨9, none⟩, ⟨20, none⟩]]
    ∧ Cb.seenAll ⟨true, true, true⟩ cbParentHeap cbParentProg [0, 0, 1, 1, 0, 1]
      = [some [⟨7, none⟩, ⟨8, none⟩, ⟨9, none⟩, ⟨10, none⟩], some [⟨7, none⟩, ⟨8, none⟩, ⟨9, none⟩, ⟨20, none⟩]]
    ∧ (Cb.exec ⟨true, true, false⟩ cbParentProg [0, 0, 1, 1, 0, 1]
        (Cb.St.init cbParentHeap cbParentProg)).heap[0]? ≠ cbParentHeap[0]? := by
  decide

/-- without spare capacity (`len = cap`) the aliased list is harmless: `append` reallocates -/
example :
    Cb.seenAll ⟨false, true, true⟩ [[⟨1, none⟩, ⟨2, none⟩], [⟨10, none⟩], [⟨20, none⟩]]
      [⟨C10.Slice.nil, [.collect true ⟨0, 0, 2, 2⟩, .collect true ⟨1, 0, 1, 1⟩, .install]⟩,
       ⟨C10.Slice.nil, [.collect true ⟨0, 0, 2, 2⟩, .collect true ⟨2, 0, 1, 1⟩, .install]⟩]
      [0, 0, 0, 1, 1, 1, 0, 1]
      = [some [⟨1, none⟩, ⟨2, none⟩, ⟨10, none⟩], some [⟨1, none⟩, ⟨2, none⟩, ⟨20, none⟩]] := by decide

end CallbackHandlers

/-! ## many runs in flight at once

"May be invoked from any number of goroutines at once … runs do not share channels."  What a run
needs in order to make progress must not be something the runs of the process compete for. -/

section InFlight

/-- **no_shared_sync_on_run_path.** No package-level variable of compose / flow/agent/… that is a
    channel, a lock, a condition, a wait group or a semaphore is referenced by a function of its
    package: nothing a run waits on is shared with the other runs of the process. -/
theorem no_shared_sync_on_run_path : FactsC09.runPathSharedSync = [] := by decide

theorem facts_match_inflight : FactsC09.runPathSharedSync = Expected.C09.runPathSharedSync := by decide

def repoSharedSync : Bool := !FactsC09.runPathSharedSync.isEmpty

theorem repo_shared_sync : repoSharedSync = false := by decide

/-- **No number of concurrent runs is ever stuck** – for the code as it is (`runPathSharedSync`
    from /repo), ANY array of calls (any number of runs, any number of tool calls per message,
    tools that delegate to an inner tools node with any number of calls), whatever capacity a
    resource would have, and EVERY interleaving of starts and returns, with every outer tool call
    held at a barrier until every outer call of every run is in flight: the state reached is not
    stuck – either every call has returned or some call can move. -/
theorem no_run_is_ever_stuck (cap : Nat) (cs : Array Flight.Call) (wf : Flight.WF cs) (sched : List Nat) :
    Flight.stuck repoSharedSync cap cs
      (Flight.exec repoSharedSync cap cs sched (Flight.St.init cs.size)) = false := by
  rw [repo_shared_sync]
  have inv := Flight.inv_exec wf false cap sched _ (Flight.inv_init cs)
  unfold Flight.stuck
  rcases Flight.progress wf cap inv with h | ⟨c, hc, he⟩
  · rw [h]; rfl
  · rw [List.all_eq_false.2 ⟨c, List.mem_range.2 hc, by simp [he]⟩, Bool.and_false]

/-- **Every effective step is progress and there is only so much to do**: an enabled step moves one
    call one phase forward (`work` + 1), and `work ≤ 2·n`; so every execution that keeps choosing
    calls that can move is at most `2·n` steps long (whatever is shared). -/
theorem every_effective_step_is_progress (shared : Bool) (cap : Nat) (cs : Array Flight.Call)
    (st : Flight.St) (hsz : st.ph.size = cs.size) (c : Nat)
    (he : Flight.enabled shared cap cs st c = true) :
    Flight.work cs (Flight.step shared cap cs st c) = Flight.work cs st + 1
    ∧ Flight.work cs (Flight.step shared cap cs st c) ≤ 2 * cs.size :=
  ⟨Flight.work_step shared cap hsz c he, Flight.work_le cs _⟩

/-- **All runs return, however many they are and wherever the interleaving has taken them**: from
    the state reached by ANY schedule, letting the calls that can move, move (`drain`: the first
    enabled call, `2·n` times) brings every call of every run back.  With
    `no_run_is_ever_stuck`: no reachable state is doomed. -/
theorem every_reachable_state_completes (cap : Nat) (cs : Array Flight.Call) (wf : Flight.WF cs)
    (sched : List Nat) :
    Flight.allDone cs
      (Flight.drain repoSharedSync cap cs (2 * cs.size)
        (Flight.exec repoSharedSync cap cs sched (Flight.St.init cs.size))) = true := by
  rw [repo_shared_sync]
  exact Flight.drain_completes wf cap _ _ (Flight.inv_exec wf false cap sched _ (Flight.inv_init cs)) (by omega)

/-- three runs, each a message with two plain tool calls -/
def flightPlain : Array Flight.Call := Flight.build [⟨"a", 2, 0⟩, ⟨"b", 2, 0⟩, ⟨"c", 2, 0⟩]
/-- two runs, each a message with two calls of a tool that delegates to an inner tools node with
    two leaf calls (agent-as-tool) -/
def flightNested : Array Flight.Call := Flight.build [⟨"a", 2, 2⟩, ⟨"b", 2, 2⟩]

/-- the hypotheses of the theorems above are satisfiable by the arrays the harness generates -/
example : Flight.WF flightPlain ∧ Flight.WF flightNested :=
  ⟨Flight.wf_of_wfb (by decide), Flight.wf_of_wfb (by decide)⟩

example : flightNested.size = 12 ∧ flightNested[3]? = some ⟨none, true⟩ ∧ flightNested[5]? = some ⟨some 3, true⟩ := by
  decide

-- `decide +kernel`, here and at the other large test vectors of this file: the kernel evaluates
-- the closed term directly; the elaborator's own evaluation of it is several times slower.
/-- **A process-wide pool of slots couples the liveness of unrelated runs (negation witness).**
    `shared = true`, 2 slots for the extra tool calls of the whole process.  Three runs with two
    plain calls each: the extra calls of runs `a` and `b` take both slots, the extra call of run `c`
    cannot start, so the barrier "all six calls in flight" never opens – stuck, although each run
    alone completes and, with nothing shared, the same schedule is not stuck and completes.
    Nested: two runs whose outer extra calls hold both slots while they wait for their inner
    activations, whose extra calls need a slot – a deadlock of runs that do not depend on each
    other at all. -/
theorem process_wide_slots_couple_runs :
    Flight.stuck true 2 flightPlain
      (Flight.exec true 2 flightPlain [1, 3, 5, 0, 2, 4] (Flight.St.init flightPlain.size)) = true
    ∧ Flight.stuck false 2 flightPlain
      (Flight.exec false 2 flightPlain [1, 3, 5, 0, 2, 4] (Flight.St.init flightPlain.size)) = false
    ∧ Flight.allDone (Flight.build [⟨"a", 2, 0⟩])
      (Flight.exec true 2 (Flight.build [⟨"a", 2, 0⟩]) [1, 0, 1, 0] (Flight.St.init 2)) = true
    ∧ Flight.stuck true 2 flightNested
      (Flight.exec true 2 flightNested [0, 3, 6, 9, 1, 4, 7, 10, 1, 4, 7, 10, 2, 5, 8, 11]
        (Flight.St.init flightNested.size)) = true
    ∧ Flight.allDone flightNested
      (Flight.drain false 2 flightNested 24
        (Flight.exec false 2 flightNested [0, 3, 6, 9, 1, 4, 7, 10, 1, 4, 7, 10, 2, 5, 8, 11]
          (Flight.St.init flightNested.size))) = true := by
  decide +kernel

/-- **no_sync_on_compiled_object.** No struct type that outlives a run has a channel / Mutex /
    RWMutex / Cond / WaitGroup field, and no function keeps such an object in a local that a closure
    escaping the function captures (e.g. a closure `compile()` stores in the runner): nothing a run
    locks or waits on belongs to the compiled object. -/
theorem no_sync_on_compiled_object : FactsC09.compiledObjectSync = [] := by decide

theorem facts_match_hold : FactsC09.compiledObjectSync = Expected.C09.compiledObjectSync := by decide

def repoObjectLock : Bool := !FactsC09.compiledObjectSync.isEmpty

/-- **No run waits for a run parked in its own user code** – for the code as it is
    (`compiledObjectSync` from /repo), any number `n` of runs of one compiled object, any run
    `parked` inside its state generator / state handler / node body / callback (it stays there until
    every other run has returned) and EVERY interleaving so far: scheduling each of the OTHER runs
    twice – the parked run does not move – brings every one of them back. -/
theorem no_run_waits_for_a_parked_run (n parked : Nat) (sched : List Nat) (j : Nat)
    (hj : j < n) (hne : j ≠ parked) :
    2 ≤ (Hold.exec repoObjectLock n parked (Hold.othersTwice n parked)
          (Hold.exec repoObjectLock n parked sched Hold.St.init)).pc j := by
  have hl : repoObjectLock = false := by decide
  rw [hl]
  have h := Hold.exec_advance n parked j hj hne (Hold.othersTwice n parked)
    (Hold.exec false n parked sched Hold.St.init)
  rw [Hold.count_othersTwice n parked j hj hne] at h
  have hm := Hold.exec_mono n parked sched Hold.St.init j
  omega

/-- **A lock on the compiled object couples the runs (negation witness).**  Run 0 parks inside the
    locked section; runs 1 and 2, scheduled as often as one likes, never get past their first step
    (and the parked run waits for them: a deadlock); without the lock the same schedule brings both
    back while run 0 is still parked. -/
theorem lock_on_compiled_object_couples_runs :
    let st := Hold.exec true 3 0 [0, 1, 2, 1, 2, 1, 2, 0] Hold.St.init
    (st.pc 0 = 1 ∧ st.pc 1 = 0 ∧ st.pc 2 = 0)
    ∧ (let st' := Hold.exec false 3 0 [0, 1, 2, 1, 2] Hold.St.init
       st'.pc 0 = 1 ∧ st'.pc 1 = 2 ∧ st'.pc 2 = 2) := by
  decide

end InFlight

/-! ## run errors (per-run values)

"Each run returns what it would return if it ran alone" includes a run that FAILS.  The error
of a graph run is an object (`*internalError`) that every enclosing graph writes to in place
(fact `errorPathMutators`), so the clause holds only if no two runs can reach the same object. -/

section RunErrors

/-- **run_errors_not_stored.** No value of the error type that is mutated in place is kept in a
    package-level variable, a struct field, a map/slice element or a literal field: the only
    references to a run error are on the return path of the run that failed. -/
theorem run_errors_not_stored : FactsC09.storedRunErrors = [] := by decide

theorem facts_match_errors :
    FactsC09.storedRunErrors = Expected.C09.storedRunErrors ∧
    FactsC09.errorPathMutators = Expected.C09.errorPathMutators := by decide +kernel

/-- **The error a failing run reports names the run's own nesting path** (specification level).
    The error is built the way compose/error.go builds it – made by the failing graph, the key of
    the node it came out of prepended by every enclosing graph (`Err.descend`, `Err.wrapNode`) –
    and it is what the object and the directive alone determine (`Err.progOf`): a node failure in
    level `l` is `NodeRunError` with path = the keys of the graphs the run is nested in at level
    `l`, then the node; a failure of the innermost graph run (step limit, branch, fan-in) is
    `GraphRunError` with path = the keys of all enclosing graph nodes.  A run told to succeed
    succeeds. -/
theorem error_path_is_own_nesting_path (o : Err.Obj) (tok : String) :
    (∀ l, l < o.levels.length →
      Err.runSpec o tok (.fail l)
        = .err ⟨"NodeRunError", "boom", Err.nesting o.levels l ++ ["f" ++ toString l]⟩)
    ∧ (o.site ≠ .none → o.levels ≠ [] →
      Err.runSpec o tok .site
        = .err ⟨"GraphRunError", Err.siteCause o.site, Err.nesting o.levels (o.levels.length - 1)⟩)
    ∧ (∃ v, Err.runSpec o tok .ok = .ok v) := by
  refine ⟨?_, ?_, ?_⟩
  · intro l hl
    have h := Err.descend_fail o.site o.levels 0 l (tok ++ "~" ++ ("f" ++ toString l)) hl
    simp only [Nat.zero_add] at h
    simpa [Err.runSpec, Err.nesting_eq] using h
  · intro hs hne
    have h := Err.descend_site o.site hs o.levels 0 (tok ++ "~" ++ "site") hne
    simpa [Err.runSpec, Err.nesting_eq] using h
  · exact Err.descend_ok o.site o.levels 0 _

/-- the program the error-object machine runs for a failing call is the specification's error,
    split into the object's initial path and the keys the enclosing graphs prepend -/
theorem prog_matches_spec (o : Err.Obj) (tok : String) (d : Err.Dir) (p : Err.Prog)
    (h : Err.progOf o d = some p) :
    Err.runSpec o tok d = .err ⟨p.tag, p.cause, p.ups ++ p.init⟩ := by
  obtain ⟨hf, hs, _⟩ := error_path_is_own_nesting_path o tok
  cases d with
  | ok => simp [Err.progOf] at h
  | fail l =>
    simp only [Err.progOf] at h
    split at h
    · rename_i hl
      cases h
      exact hf l hl
    · cases h
  | site =>
    simp only [Err.progOf] at h
    split at h
    · cases h
    · rename_i hn
      have hne : o.levels ≠ [] := by
        intro e; rw [e] at hn; exact hn rfl
      cases hsite : o.site <;> rw [hsite] at h <;> simp only [] at h
      · cases h
      all_goals
        cases h
        have := hs (by rw [hsite]; simp) hne
        rw [hsite] at this
        simpa [Err.siteCause] using this

/-- **A failing run's error is its own** – for the code as it is (`storedRunErrors` from /repo),
    any objects that exist before the runs (`h0`), any number of failing runs (of one compiled
    object or of several: a run is just its program), and EVERY interleaving of the steps
    "obtain the error object" / "an enclosing graph prepends its node key": once the schedule
    has let run `i` return (`ups.length + 1` steps), the error it returned reads exactly
    ⟨its class, its cause, its own node path⟩ – and since every longer schedule is a schedule,
    it keeps reading so whatever other runs do afterwards; the objects that existed before are
    never written. -/
theorem run_error_is_own (h0 : List Err.Cell) (progs : List (Option Err.Prog)) (sched : List Nat)
    (i : Nat) (p : Err.Prog) (hp : progs[i]? = some (some p))
    (hfin : p.ups.length + 1 ≤ sched.count i) :
    let st := Err.exec (Err.freshOf FactsC09.storedRunErrors) progs sched (Err.St.init h0)
    Err.read st i = some ⟨p.tag, p.cause, p.ups ++ p.init⟩
    ∧ ∀ a, a < h0.length → st.heap[a]? = h0[a]? := by
  have hf : Err.freshOf FactsC09.storedRunErrors = true := by decide
  rw [hf]
  have g := Err.good_exec (h0 := h0) (progs := progs) sched _ (Err.good_init h0 progs)
  refine ⟨?_, g.pre⟩
  have hpc : ((Err.exec true progs sched (Err.St.init h0)).rs i).pc = p.ups.length + 1 := by
    rw [Err.pc_exec_eq i p hp sched _ (Err.good_init h0 progs)]
    simp only [Err.St.init, Nat.zero_add]; omega
  obtain ⟨q, a, h1, h2, _, _, h5⟩ := g.own i (by rw [hpc]; omega)
  rw [hp] at h1
  cases h1
  rw [hpc] at h5
  simp only [Err.read, h2, Option.bind_some, h5]
  simp [Err.want]

/-- **Each failing run returns what it returns alone**: the calls of the correspondence check
    (any objects, any directives), interleaved in any way – the error a call returned is the one
    the specification gives for that call alone. -/
theorem failing_run_returns_what_it_returns_alone (h0 : List Err.Cell)
    (calls : List (Err.Obj × String × Err.Dir)) (sched : List Nat) (i : Nat)
    (o : Err.Obj) (tok : String) (d : Err.Dir) (p : Err.Prog)
    (hc : calls[i]? = some (o, tok, d)) (hp : Err.progOf o d = some p)
    (hfin : p.ups.length + 1 ≤ sched.count i) :
    ∃ e, Err.runSpec o tok d = .err e ∧
      Err.read (Err.exec (Err.freshOf FactsC09.storedRunErrors)
        (calls.map fun c => Err.progOf c.1 c.2.2) sched (Err.St.init h0)) i
        = some ⟨e.tag, e.cause, e.path⟩ := by
  refine ⟨⟨p.tag, p.cause, p.ups ++ p.init⟩, prog_matches_spec o tok d p hp, ?_⟩
  have hpi : (calls.map fun c => Err.progOf c.1 c.2.2)[i]? = some (some p) := by
    simp [hc, hp]
  exact (run_error_is_own h0 _ sched i p hpi hfin).1

/-- the runs of the negation witness: a step-limit overrun in a graph nested as node `agent`
    (twice: two runs of one compiled object), and in graphs nested as `alpha` / `beta` (two
    different compiled objects) -/
def overrun (key : String) : Option Err.Prog := some ⟨"GraphRunError", "maxsteps", true, [], [key]⟩

/-- **The "exceeds max steps" error built once ⇒ interference (negation witness).**
    (`storedRunErrors = ["compose/error.go:var:errRunExceedMaxSteps"]`, i.e. `fresh = false`:
    the seeded change C09-22.)  Two SUCCESSIVE runs of one compiled object: the second reports
    `[agent, agent]`, and the error the first run returned earlier now reads the same; alone a
    run reports `[agent]`; runs of two DIFFERENT compiled objects report each other's node; the
    package-level object has been written; with per-run allocation the same schedules give every
    run its own path. -/
theorem shared_max_steps_error_interferes :
    (Err.read (Err.exec false [overrun "agent", overrun "agent"] [0, 0, 1, 1]
        (Err.St.init Err.sharedHeap)) 1).map (·.path) = some ["agent", "agent"]
    ∧ (Err.read (Err.exec false [overrun "agent", overrun "agent"] [0, 0, 1, 1]
        (Err.St.init Err.sharedHeap)) 0).map (·.path) = some ["agent", "agent"]
    ∧ (Err.read (Err.exec false [overrun "agent", overrun "agent"] [0, 0]
        (Err.St.init Err.sharedHeap)) 0).map (·.path) = some ["agent"]
    ∧ (Err.read (Err.exec false [overrun "alpha", overrun "beta"] [0, 1, 0, 1]
        (Err.St.init Err.sharedHeap)) 0).map (·.path) = some ["beta", "alpha"]
    ∧ (Err.exec false [overrun "alpha", overrun "beta"] [0, 1, 0, 1]
        (Err.St.init Err.sharedHeap)).heap[0]? ≠ Err.sharedHeap[0]?
    ∧ (Err.read (Err.exec true [overrun "agent", overrun "agent"] [0, 0, 1, 1]
        (Err.St.init Err.sharedHeap)) 1).map (·.path) = some ["agent"]
    ∧ (Err.read (Err.exec true [overrun "alpha", overrun "beta"] [0, 1, 0, 1]
        (Err.St.init Err.sharedHeap)) 0).map (·.path) = some ["alpha"] := by
  decide

/-- non-vacuity: a node failure two graphs deep and a step-limit overrun, through the
    specification -/
example :
    Err.render (Err.runSpec ⟨[⟨"", 1, 0⟩, ⟨"agent", 0, 1⟩, ⟨"inner", 0, 0⟩], .loop⟩ "c0" (.fail 2))
      = "err|NodeRunError|boom|agent,inner,f2"
    ∧ Err.render (Err.runSpec ⟨[⟨"", 1, 0⟩, ⟨"agent", 0, 1⟩, ⟨"inner", 0, 0⟩], .loop⟩ "c0" .site)
      = "err|GraphRunError|maxsteps|agent,inner"
    ∧ Err.render (Err.runSpec ⟨[⟨"", 1, 0⟩, ⟨"agent", 0, 1⟩], .loop⟩ "c0" .ok)
      = "ok|c0~ok.p0_0.f0.f1.ping.pong.q1_0" := by decide +kernel

end RunErrors

/-- two calls of a fan-out/fan-in graph with state and a per-call option, interleaved -/
example :
    runInterleaved repoAlloc
      [⟨false, [⟨"a", true, false⟩]⟩, ⟨false, [⟨"b", false, true⟩, ⟨"c", true, false⟩]⟩]
      [("x", "o"), ("y", "p")] [0, 1, 1, 0]
    = ["{b=xabo,c=xac}#2", "{b=yabp,c=yac}#2"] := by decide

example : runAlone [⟨true, [⟨"a", false, false⟩, ⟨"b", true, false⟩]⟩] "x" "" = "xb#1" := by decide

/-! ## negation witnesses: what breaks when a fact flips -/

/-- the allocation table of a tree in which the react `directReturn` closure assigns the
    constructor's named result (`err =` for `err :=`; the write factgen then lists for react.go) -/
def allocWithCapturedWrite : Alloc :=
  allocOf true true true true true true true ["flow/agent/react/react.go:buildReturnDirectly:captured:err"] []

/-- **Captured constructor variable ⇒ interference.** Two concurrent `Generate` calls through
    the `directReturn` closure: call 0's ProcessState yields `nil`, call 1's yields `E`;
    under the schedule write₀ write₁ read₀ read₁ call 0 returns call 1's outcome, although
    alone it returns its own. -/
theorem captured_write_interferes :
    (load allocWithCapturedWrite
        (exec allocWithCapturedWrite (directReturnStep fun i => if i = 0 then "nil" else "E")
          [0, 1, 0, 1] (initHeap [("a", ""), ("b", "")])) 0).cm = "E"
    ∧ (alone (directReturnStep fun i => if i = 0 then "nil" else "E") 0 2 ⟨"a", 0, "", 0, ""⟩).cm
        = "nil" := by decide

/-- **State hoisted into the compiled object ⇒ interference.** If `runCtx` did not create
    the state per run, two runs that each increment it once would see 2. -/
theorem shared_state_interferes :
    (load (allocOf true true true true true true false [] []) 
        (exec (allocOf true true true true true true false [] []) (fun _ s => { s with st := s.st + 1 })
          [0, 1] (initHeap [("a", ""), ("b", "")])) 0).st = 2
    ∧ (alone (fun _ s => { s with st := s.st + 1 }) 0 1 ⟨"a", 0, "", 0, ""⟩).st = 1 := by decide

/-- **Channels hoisted ⇒ interference.** With a shared channel manager the value in flight of
    one call is overwritten by the other. -/
theorem shared_channels_interfere :
    runInterleaved (allocOf false true true true true true true [] []) [⟨false, [⟨"a", false, false⟩]⟩]
      [("x", ""), ("y", "")] [0, 1] ≠ ["xa#0", "ya#0"] := by decide

/-- **Completion queue recycled through the compiled object ⇒ interference.** (The
    `sync.Pool` change of seed C09-2: `taskManagerQueueFresh = false`.)  Run 0 has
    returned early; its straggling node (index 0) parks its finished task in the queue it was
    given; run 1, which was handed the same queue, takes it as its own.  With a per-run queue
    run 1 finds nothing foreign. -/
theorem recycled_queue_interferes :
    (load (allocOf true true true true false true true [] [])
        (exec (allocOf true true true true false true true [] []) (queueStep fun i => i == 0)
          [0, 1] (initHeap [("bad", ""), ("good", "")])) 1).cm = "good1"
    ∧ (load Alloc.allPerRun
        (exec Alloc.allPerRun (queueStep fun i => i == 0)
          [0, 1] (initHeap [("bad", ""), ("good", "")])) 1).cm = "good0" := by decide

end EinoV.C09
