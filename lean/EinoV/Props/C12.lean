/-
  C12 — Checkpoint serialisation round-trips every supported value or fails loudly.
  Property theorems.  Model: EinoV/Model/C12.lean, run with the facts regenerated from /repo
  (`srcFacts`, every field `true`: `srcFacts_all`).  The lines of internal/serialization those facts stand
  for are the ones of fixes/C12-container-pointernum.diff (PointerNum honoured when a map or slice is
  decoded) and fixes/C12-nil-in-pointer-chain.diff (NilElemPointerNum); the guard behind the clause of
  `Ctx.ok` that no type is registered under the empty key is the one of fixes/C12-empty-registry-key.diff.
  Source facts: EinoV/Gen/FactsC12.lean (regenerated from /repo on every run).

  Trusted base specific to C12 (`JLayer.OK`): for basic kinds, `sonic.Unmarshal` reads back
  what `json.Marshal` wrote and `json.Marshal` never writes the literal `null` for them;
  `sonic.Marshal`/`Unmarshal` of the intermediate record is the identity up to nil/empty
  (`omitempty`).  Both are exercised by the harness (edge numbers, escapes, tree comparison).

  The concrete test vectors are closed terms and are proved by evaluation.  The larger ones use
  `decide +kernel`: plain `decide` evaluates the `Decidable` instance in the elaborator first and the
  kernel then does it again, and string comparison (through UTF-8 bytes) makes that slow.  For the same
  reason they first rewrite eino's registry table to its value (`builtinReg_eino`).
-/
import EinoV.Model.C12
import EinoV.Proofs.C12
import EinoV.Proofs.C12Eino
import EinoV.Model.C12Reg
import EinoV.Proofs.C12Reg
import EinoV.Proofs.TransC12
import EinoV.Gen.FactsC12
import EinoV.Expected.C12

namespace EinoV.C12
open EinoV.Gen EinoV.Expected.C12

/-- the model's fact record as regenerated from the source on this run -/
def srcFacts : Facts := factsOf FactsC12.decodeUsesPointerNum FactsC12.nilChainRecorded

/-- The regenerated facts are the ones the model was written for: the registry tables of
    the two `init` functions, the decode dispatch order, the use of PointerNum in every
    decode branch, the NilElemPointerNum bookkeeping, and the registry discipline of
    `GenericRegister` / `RegisterSerializableType` (a key, a type registered at most once, no
    empty key) that makes every registry the code can build satisfy `Ctx.ok`; and three facts
    about the shape of the walk: the encoder is a stateless recursion over the reflect tree
    (the model's `enc` is structural; shared pointers: `marshalL`), it names a type by
    `rm[<exact type>]` only (`keyOf`), and the map decoder decodes every key text into a key of
    its own (`placeKVs`). -/
theorem facts_match :
    FactsC12.registry = registry ∧ FactsC12.composeRegistry = composeRegistry
    ∧ FactsC12.decodeDispatch = decodeDispatch
    ∧ FactsC12.decodeUsesPointerNum = decodeUsesPointerNum
    ∧ FactsC12.nilChainRecorded = nilChainRecorded
    ∧ FactsC12.registerForwards = true ∧ FactsC12.registerRejectsDuplicates = true
    ∧ FactsC12.registerRejectsEmptyKey = true
    ∧ FactsC12.encodeWalkStateless = encodeWalkStateless
    ∧ FactsC12.typeKeysByExactType = typeKeysByExactType
    ∧ FactsC12.mapKeyFreshPerEntry = mapKeyFreshPerEntry := by
  decide +kernel

/-- every decode branch applies `resolvePointerNum(v.PointerNum, …)` and nil pointers inside
    a chain are recorded: the fact record is `Fall`. -/
theorem srcFacts_all : srcFacts = Fall := by decide

/-- The registry built by eino's two `init` functions (as regenerated from the source) is
    well-formed: no empty key, no key and no type registered twice — all 32 entries.
    Regenerated are the (key, Go type name) pairs; whether a defined type among them is a struct or a
    named basic comes from the hand-written `einoKinds` (Proofs/C12Eino.lean), which is trusted. -/
theorem builtin_registry_ok :
    (Ctx.mk (builtinReg (FactsC12.registry ++ FactsC12.composeRegistry) einoKinds) []).ok = true
    ∧ (builtinReg (FactsC12.registry ++ FactsC12.composeRegistry) einoKinds).length = 32 := by
  rw [facts_match.1, facts_match.2.1]
  exact ⟨by rw [ok_eq, eino_regOK]; rfl, by rw [builtinReg_eino]; rfl⟩

/-- **roundtrip (partial).**  For every registry context accepted by `GenericRegister`, every
    JSON layer satisfying the trusted-base assumption, and every `Supported` value `v`
    (unbounded nesting, any pointer depth, nil at any level, `any` positions):
    `Marshal` succeeds, `Unmarshal` of its output succeeds, and the result is deeply equal to
    `v` modulo nil/empty containers and has the identical dynamic type.

    Full statement of the property clause (NOT provable on this tree, see
    `listed_nilptr_to_container_errors` and `listed_nested_container_errors` below):

      theorem roundtrip : ctx.ok → J.OK → InListedUniverse ctx J v →
        ∃ is v', enc ctx J srcFacts v = .ok is ∧ unmarshalTop ctx J srcFacts is = .ok v'
                 ∧ v' ≈ v ∧ v'.typeOf = v.typeOf

    What is missing: `Supported` additionally asks that the element type of every container
    and the target of every nil pointer be a registered type after stripping pointers, i.e.
    it excludes directly nested containers (`map[string][]int`) and nil pointers to
    containers (`(*[]int)(nil)`); for those the encoder answers "unknown type" — an error,
    never a different value (known findings). -/
theorem roundtrip_partial (ctx : Ctx) (J : JLayer) (hc : ctx.ok = true) (hJ : J.OK)
    (v : GoVal) (hs : Supported ctx J v = true) :
    ∃ is v', enc ctx J srcFacts v = .ok is ∧ unmarshalTop ctx J srcFacts is = .ok v'
      ∧ v' ≈ v ∧ v'.typeOf = v.typeOf := by
  rw [srcFacts_all]
  unfold Supported at hs
  simp only [Bool.and_eq_true] at hs
  obtain ⟨is, he⟩ := encP_total ctx J Fall hJ v 0 hs.2
  obtain ⟨v', h⟩ := enc_unmarshalTop hc hJ hs.1 he
  exact ⟨is, v', he, h⟩

/-- **loud.**  For EVERY well-typed value, supported or not, registered or not, with
    encodable payloads or not: whenever `Marshal` succeeds and `Unmarshal` of its output
    succeeds, the value read is the value written (≈, identical dynamic type).  So a value
    the serialiser cannot represent can only produce an error, never a different value. -/
theorem loud (ctx : Ctx) (J : JLayer) (hc : ctx.ok = true) (hJ : J.OK)
    (v : GoVal) (is : IS) (v' : GoVal) (hw : v.wt ctx = true)
    (he : enc ctx J srcFacts v = .ok is) (hd : unmarshalTop ctx J srcFacts is = .ok v') :
    v' ≈ v ∧ v'.typeOf = v.typeOf := by
  rw [srcFacts_all] at he hd
  obtain ⟨v'', hd', h⟩ := enc_unmarshalTop hc hJ hw he
  cases hd'.symm.trans hd
  exact h

/-- **no silent decode failure.**  What the encoder accepted, the decoder accepts. -/
theorem written_is_readable (ctx : Ctx) (J : JLayer) (hc : ctx.ok = true) (hJ : J.OK)
    (v : GoVal) (is : IS) (hw : v.wt ctx = true) (he : enc ctx J srcFacts v = .ok is) :
    ∃ v', unmarshalTop ctx J srcFacts is = .ok v' := by
  rw [srcFacts_all] at he ⊢
  obtain ⟨v', hd, _⟩ := enc_unmarshalTop hc hJ hw he
  exact ⟨v', hd⟩

/-- **only registered types are written.**  Whatever `Marshal` accepts, every type it had to
    name on the way — the dynamic type of every (named) basic value at any position (top
    level, field, `any` position, slice element, map value, behind pointers), every struct
    type, element / key / value types of containers, targets of nil pointers — is in the
    registry as that very type (`keyOf ctx t`, the model of `rm[t]`).  Contrapositive: a value
    that mentions an unregistered type, e.g. a defined type over a basic kind that was never
    passed to `GenericRegister`, is refused — it is never written under the key of another
    type. -/
theorem accepted_only_registered (ctx : Ctx) (J : JLayer) (v : GoVal) (is : IS)
    (he : enc ctx J srcFacts v = .ok is) : v.regd ctx = true :=
  encP_regd ctx J srcFacts v 0 is he

/-- an unregistered (named) basic type is answered with "unknown type", whatever its kind
    and whether or not the builtin type of that kind is registered -/
theorem unregistered_basic_rejected (ctx : Ctx) (J : JLayer) (F : Facts) (t : GoTy) (p : Payload) (k : Nat)
    (h : keyOf ctx t = none) : encP ctx J F k (.basic t p) = .error .unknownType := by
  simp [encP, keyOfE, h, bind, Except.bind]

/-- **"no value" only for the nil interface.**  The encoder writes a nil `*internalStruct`
    ("no value": decoded as the zero value of the slot, a nil pointer / nil interface) for the
    nil interface value and for nothing else — in particular for no non-nil pointer, wherever
    else the same pointer may occur in the value. -/
theorem no_value_only_for_nil_interface (ctx : Ctx) (J : JLayer) (v : GoVal)
    (h : enc ctx J srcFacts v = .ok .absent) : v = .inil :=
  encP_absent_inil ctx J srcFacts v 0 h

/-- **shared pointers are written like copies.**  Two values that unfold to the same tree
    are written identically, however their pointers are shared. -/
theorem shared_like_copies (ctx : Ctx) (J : JLayer) (v w : LVal) (h : v.erase = w.erase) :
    marshalL ctx J srcFacts v = marshalL ctx J srcFacts w := by
  unfold marshalL; rw [h]

/-- **round trip of a value with shared pointers.**  If the unfolding is `Supported`, the
    round trip succeeds and gives back the unfolding (≈, identical dynamic type): every
    occurrence of a shared pointer comes back as a non-nil pointer to an equal value.  (The
    sharing itself is not restored — the decoder allocates per occurrence; "deeply equal"
    does not ask for it.) -/
theorem sharing_roundtrip (ctx : Ctx) (J : JLayer) (hc : ctx.ok = true) (hJ : J.OK)
    (v : LVal) (hs : Supported ctx J v.erase = true) :
    ∃ is v', marshalL ctx J srcFacts v = .ok is ∧ unmarshalTop ctx J srcFacts is = .ok v'
      ∧ v' ≈ v.erase ∧ v'.typeOf = v.erase.typeOf :=
  roundtrip_partial ctx J hc hJ v.erase hs

/-! ## non-vacuity: a concrete context, a concrete JSON layer, deep supported values -/

/-- a JSON layer with kernel-reducible functions: payloads are their own JSON text; "!" is
    a value json.Marshal rejects (NaN); nothing encodes to `null`. -/
def Jid : JLayer where
  encode := fun _ p => if p == "!" || p == "null" then .error .json else .ok p
  decode := fun _ s => .ok s
  zero := fun _ => "0"
  valid := fun _ p => !(p == "!" || p == "null")

/-- the trusted-base assumption is satisfiable -/
theorem Jid_ok : Jid.OK where
  rt := by
    intro t p s h
    simp only [Jid] at h ⊢
    split at h
    · cases h
    · rename_i hn
      cases h
      simp only [Bool.or_eq_true, beq_iff_eq, not_or] at hn
      exact ⟨hn.2, rfl⟩
  total := by
    intro t p h
    simp only [Jid, Bool.not_eq_true'] at h ⊢
    exact ⟨p, by simp [h]⟩

def tInt : GoTy := .basic "int"
def tStr : GoTy := .basic "string"

/-- eino's registry plus three user types: a struct with pointer-to-container and deep
    pointer fields, a recursive struct with `any` positions, a named string. -/
def ctxW : Ctx where
  reg := builtinReg (registry ++ composeRegistry) einoKinds ++
    [("w_pc", .struct "PC"), ("w_node", .struct "Node"), ("w_name", .named "Name" "string")]
  structs :=
    [("PC", [("PM", .ptr (.map tStr tInt)), ("PS", .ptr (.slice tInt)), ("P3", .ptr (.ptr (.ptr tInt)))]),
     ("Node", [("V", tInt), ("Next", .ptr (.struct "Node")), ("Tag", .iface), ("Kids", .slice (.ptr (.struct "Node"))),
               ("M", .map (.named "Name" "string") .iface)])]

theorem ctxW_ok : ctxW.ok = true :=
  ok_append eino_regOK (by rw [builtinReg_eino]; decide +kernel)
example : ctxW.ok = true := ctxW_ok

/-- the contexts below add entries to `ctxW`: they need only look at what they add -/
theorem ctxW_regOK : regOK ctxW.reg = true := by
  have h := ctxW_ok
  rw [ok_eq, Bool.and_eq_true] at h
  exact h.1

def iv (n : String) : GoVal := .basic tInt n

/-- `PC{PM: &map[string]int{"a":1}, PS: &[]int{1,2}, P3: &(&(nil *int))}` -/
def wPC : GoVal :=
  .struct "PC" (.cons "PM" (.ptr (.map tStr tInt false (.cons "\"a\"" (iv "1") .nil)))
    (.cons "PS" (.ptr (.slice tInt false (.cons (iv "1") (.cons (iv "2") .nil))))
    (.cons "P3" (.ptr (.ptr (.nilptr tInt))) .nil)))

/-- the inner node of `wNode`: `Node{V:2, Next:nil, Tag: **PC, …}` -/
def wNodeLeaf : GoVal :=
  .struct "Node" (.cons "V" (iv "2") (.cons "Next" (.nilptr (.struct "Node"))
    (.cons "Tag" (.ptr (.ptr wPC)) (.cons "Kids" (.slice (.ptr (.struct "Node")) true .nil)
    (.cons "M" (.map (.named "Name" "string") .iface true .nil) .nil)))))
/-- a recursive value: `&Node{V:1, Next:&Node{…Tag: **PC…}, Tag: []any{nil, 5, &map…}, Kids: [nil, &Node{}], M: {"k": nil}}` -/
def wNode : GoVal :=
  .ptr (.struct "Node" (.cons "V" (iv "1") (.cons "Next" (.ptr wNodeLeaf)
    (.cons "Tag" (.slice .iface false (.cons .inil (.cons (iv "5")
        (.cons (.ptr (.map tStr .iface false (.cons "\"x\"" (.nilptr (.ptr tStr)) .nil))) .nil))))
    (.cons "Kids" (.slice (.ptr (.struct "Node")) false (.cons (.nilptr (.struct "Node")) (.cons (.ptr wNodeLeaf) .nil)))
    (.cons "M" (.map (.named "Name" "string") .iface false (.cons "\"k\"" .inil .nil)) .nil))))))

example : Supported ctxW Jid wPC = true := by
  rw [ctxW, builtinReg_eino]
  decide +kernel
example : Supported ctxW Jid wNode = true := by
  rw [ctxW, builtinReg_eino]
  decide +kernel
example : Supported ctxW Jid (.ptr (.ptr (.nilptr (.ptr tInt)))) = true := by decide  -- ****int, nil at level 3
/-- the theorem's conclusion computed on a value (the model is executable) -/
def rtSim (F : Facts) (v : GoVal) : Bool :=
  match enc ctxW Jid F v >>= unmarshalTop ctxW Jid F with
  | .ok v' => decide (v' ≈ v) && v'.typeOf == v.typeOf
  | .error _ => false
example : rtSim Fall wNode = true := by
  rw [rtSim, ctxW, builtinReg_eino]
  decide +kernel
example : rtSim Fall wPC = true := by
  rw [rtSim, ctxW, builtinReg_eino]
  decide +kernel
/-- nil and empty are identified, not equal: the nil map of `wNodeLeaf` is read back empty -/
example : rtSim Fall wNodeLeaf = true
    ∧ (enc ctxW Jid Fall wNodeLeaf >>= unmarshalTop ctxW Jid Fall) ≠ .ok wNodeLeaf := by
  rw [rtSim, ctxW, builtinReg_eino]
  decide +kernel
/-- a value the serialiser cannot represent fails loudly: NaN payload, unregistered struct -/
example : enc ctxW Jid Fall (.basic (.basic "float64") "!") = .error .json := by decide
example : enc ctxW Jid Fall (.ptr (.struct "Unregistered" .nil)) = .error .unknownType := by
  rw [ctxW, builtinReg_eino]
  decide

def ctxK : Ctx where
  reg := ctxW.reg ++ [("w_key", .struct "Key")]
  structs := ctxW.structs ++ [("Key", [("Tenant", tStr), ("Shard", tInt)])]

/-- `map[Key]*int{{Tenant:"a"}: &1, {Shard:1}: nil, {}: &2}` with `omitempty` keys: every key
    text omits a different set of fields -/
def wKM : GoVal :=
  .map (.struct "Key") (.ptr tInt) false
    (.cons "{\"Tenant\":\"a\"}" (.ptr (iv "1")) (.cons "{\"Shard\":1}" (.nilptr tInt) (.cons "{}" (.ptr (iv "2")) .nil)))

/-- a struct-keyed map is `Supported` and round-trips to itself: every key text is decoded on
    its own, nothing of one key reaches the next -/
theorem struct_keyed_map_roundtrips :
    ctxK.ok = true ∧ Supported ctxK Jid wKM = true
    ∧ (enc ctxK Jid srcFacts wKM >>= unmarshalTop ctxK Jid srcFacts) = .ok wKM := by
  refine ⟨?_, by rw [ctxK, ctxW, builtinReg_eino]; decide +kernel⟩
  exact ok_append ctxW_regOK (by rw [ctxW, builtinReg_eino]; decide +kernel)

/-- `type Topic string`, never registered, at the positions a checkpoint holds values in: top
    level, behind a pointer, `any` slice element, `any` map value, `any` struct field.  Each
    is refused with "unknown type" although `string` itself is registered. -/
theorem unregistered_named_refused_everywhere :
    let topic := GoVal.basic (.named "Topic" "string") "\"weather\""
    keyOf ctxW (.basic "string") = some "_eino_string"
    ∧ enc ctxW Jid srcFacts (.basic (.basic "string") "\"weather\"") = .ok (IS.basicN 0 0 "_eino_string" "\"weather\"")
    ∧ enc ctxW Jid srcFacts topic = .error .unknownType
    ∧ enc ctxW Jid srcFacts (.ptr (.ptr topic)) = .error .unknownType
    ∧ enc ctxW Jid srcFacts (.slice .iface false (.cons (iv "1") (.cons topic .nil))) = .error .unknownType
    ∧ enc ctxW Jid srcFacts (.map tStr .iface false (.cons "\"node\"" topic .nil)) = .error .unknownType
    ∧ enc ctxW Jid srcFacts (.struct "Node" (.cons "V" (iv "1") (.cons "Next" (.nilptr (.struct "Node"))
        (.cons "Tag" topic (.cons "Kids" (.slice (.ptr (.struct "Node")) true .nil)
        (.cons "M" (.map (.named "Name" "string") .iface true .nil) .nil)))))) = .error .unknownType
    ∧ enc ctxW Jid srcFacts (.slice (.named "Topic" "string") false .nil) = .error .unknownType := by
  rw [ctxW, builtinReg_eino]
  decide +kernel

/-- `p := &1; []*int{p, p}` and the pending inputs of two successors of one node
    (`map[string]any{"a": d, "b": d}` with `d *int`): one identity, two occurrences -/
def wShared : LVal :=
  .slice (.ptr tInt) false (.cons (.ptr 7 (.basic tInt "1")) (.cons (.ptr 7 (.basic tInt "1")) .nil))
def wFan : LVal :=
  .map tStr .iface false (.cons "\"a\"" (.ptr 3 (.basic tInt "5")) (.cons "\"b\"" (.ptr 3 (.basic tInt "5")) .nil))

/-- both occurrences of the shared pointer come back non-nil and equal in value -/
theorem shared_pointer_twice_roundtrips :
    wShared.coherent = true ∧ wShared.sharedCount = 1
    ∧ (marshalL ctxW Jid srcFacts wShared >>= unmarshalTop ctxW Jid srcFacts)
        = .ok (.slice (.ptr tInt) false (.cons (.ptr (iv "1")) (.cons (.ptr (iv "1")) .nil)))
    ∧ wFan.coherent = true ∧ wFan.sharedCount = 1
    ∧ (marshalL ctxW Jid srcFacts wFan >>= unmarshalTop ctxW Jid srcFacts)
        = .ok (.map tStr .iface false (.cons "\"a\"" (.ptr (iv "5")) (.cons "\"b\"" (.ptr (iv "5")) .nil))) := by
  rw [ctxW, builtinReg_eino]
  decide +kernel

/-! ## known findings: in the listed universe, not Supported, loud error -/

/-- `(*[]int)(nil)`: listed by the property, the encoder answers "unknown type: []int". -/
theorem listed_nilptr_to_container_errors :
    InListedUniverse ctxW Jid (.nilptr (.slice tInt)) = true
    ∧ Supported ctxW Jid (.nilptr (.slice tInt)) = false
    ∧ enc ctxW Jid srcFacts (.nilptr (.slice tInt)) = .error .unknownType := by
  rw [ctxW, builtinReg_eino]
  decide

/-- `map[string][]int{"a":{1}}`: the element type `[]int` is not a registered type. -/
theorem listed_nested_container_errors :
    let v := GoVal.map tStr (.slice tInt) false (.cons "\"a\"" (.slice tInt false (.cons (iv "1") .nil)) .nil)
    InListedUniverse ctxW Jid v = true ∧ Supported ctxW Jid v = false
    ∧ enc ctxW Jid srcFacts v = .error .unknownType := by
  rw [ctxW, builtinReg_eino]
  decide

/-! ## negation witnesses: the model with facts that /repo does not have -/

/-- the facts of /repo without the lines of fixes/C12-container-pointernum.diff -/
def FnoContainerPtr : Facts := ⟨true, true, false, false, true⟩
/-- the facts of /repo without the lines of fixes/C12-nil-in-pointer-chain.diff -/
def FnoNilChain : Facts := ⟨true, true, true, true, false⟩

/-- `*map[string]int` comes back as `map[string]int` when the map branch ignores PointerNum. -/
theorem ptr_to_map_loses_pointer_without_fix :
    let v := GoVal.ptr (.map tStr tInt false (.cons "\"a\"" (iv "1") .nil))
    (enc ctxW Jid FnoContainerPtr v >>= unmarshalTop ctxW Jid FnoContainerPtr)
      = .ok (.map tStr tInt false (.cons "\"a\"" (iv "1") .nil))
    ∧ (GoVal.map tStr tInt false (.cons "\"a\"" (iv "1") .nil)).typeOf ≠ v.typeOf := by
  rw [ctxW, builtinReg_eino]
  decide +kernel

/-- a struct field `*[]int` panics in `field.Set` when the slice branch ignores PointerNum. -/
theorem ptr_to_slice_field_panics_without_fix :
    (enc ctxW Jid FnoContainerPtr wPC >>= unmarshalTop ctxW Jid FnoContainerPtr) = .error .panic := by
  rw [ctxW, builtinReg_eino]
  decide +kernel

/-- `**int` whose inner pointer is nil comes back as a nil `**int`. -/
theorem inner_nil_lost_without_fix :
    let v := GoVal.ptr (.nilptr tInt)
    (enc ctxW Jid FnoNilChain v >>= unmarshalTop ctxW Jid FnoNilChain) = .ok (.nilptr (.ptr tInt))
    ∧ ¬ (GoVal.nilptr (.ptr tInt) ≈ v) := by decide

/-- `(***int)(nil)` comes back as a nil `*int`: the dynamic type changes. -/
theorem outer_nil_changes_type_without_fix :
    let v := GoVal.nilptr (.ptr (.ptr tInt))
    (enc ctxW Jid FnoNilChain v >>= unmarshalTop ctxW Jid FnoNilChain) = .ok (.nilptr tInt)
    ∧ (GoVal.nilptr tInt).typeOf ≠ v.typeOf := by decide

/-- registering a type under the empty key breaks the decode dispatch (the int 1 is read
    back as an empty []int): the hypothesis `Ctx.ok` of the theorems is needed. -/
theorem empty_key_breaks_dispatch :
    let ctx : Ctx := ⟨[("", tInt)], []⟩
    ctx.ok = false ∧ (enc ctx Jid Fall (iv "1") >>= unmarshalTop ctx Jid Fall) = .ok (.slice tInt true .nil) := by decide

/-! ## the registry as a sequence of `GenericRegister` calls (Model/C12Reg.lean)

The theorems above take a registry that satisfies `Ctx.ok` as given.  The registry of a process
is built by a sequence of calls — the `init` functions of `internal/serialization` and
`compose`, then whatever user packages and tests call, in any order, with clashing keys,
repeated pairs, pointer types, the empty key.  This section proves the clause over ALL such
sequences: a clash is an error of the call that causes it and changes nothing, so no key ever
comes to name another type and no type another key — "never a silently different dynamic type
at decode time". -/

/-- the state machine's fact record as regenerated from the source on this run -/
def srcRegFacts : RegFacts := regFactsOf FactsC12.registerGuards

/-- `GenericRegister` has the shape `regStep` mirrors: pointers stripped first, then the three
    guards in the order empty key / key taken / type taken, each refusing unconditionally, then
    one store into each map and no other store. -/
theorem register_facts_match :
    FactsC12.registerGuards = registerGuards ∧ FactsC12.registerStoresBoth = registerStoresBoth
    ∧ FactsC12.registerStripsPointers = registerStripsPointers := by
  decide

/-- all three guards are present -/
theorem srcRegFacts_all : srcRegFacts = RFall := by decide

/-- **a refused call changes nothing** (whatever guards exist): the registry after a call that
    returned an error is the registry before it. -/
theorem rejected_call_changes_nothing (r : Reg) (op : RegOp)
    (h : (regStep srcRegFacts r op).1 ≠ .accepted) : (regStep srcRegFacts r op).2 = r :=
  regStep_rejected srcRegFacts r op h

/-- **a clash is an error at registration.**  A call whose key is in use (by whatever type, the
    same one included), whose pointer-stripped type is registered (under whatever key), or whose
    key is empty is refused and leaves the registry untouched. -/
theorem clash_is_registration_error (r : Reg) (op : RegOp)
    (h : r.hasKey op.key = true ∨ r.hasTy op.ty.strip = true ∨ op.key = "") :
    (regStep srcRegFacts r op).1 ≠ .accepted ∧ (regStep srcRegFacts r op).2 = r := by
  have hne : (regStep srcRegFacts r op).1 ≠ .accepted := by
    rw [srcRegFacts_all]
    intro ha
    obtain ⟨h1, h2, h3⟩ := regStep_accepted_fresh r op ha
    rcases h with h | h | h
    · rw [h2] at h; cases h
    · rw [h3] at h; cases h
    · exact h1 h
  exact ⟨hne, regStep_rejected srcRegFacts r op hne⟩

/-- **every registry the code can build is well-formed.**  Starting from a well-formed registry
    (the empty one in particular), after ANY sequence of calls — accepted or refused, clashing
    keys, repeated pairs, pointer types, empty keys — `m` and `rm` are still inverse bijections
    without an empty key: the hypothesis `Ctx.ok` of the round-trip theorems is an invariant
    of the code, not an assumption about its callers. -/
theorem registry_wellformed_after_any_calls (ctx : Ctx) (hc : ctx.ok = true) (ops : List RegOp) :
    (ctx.after srcRegFacts ops).ok = true := by
  rw [srcRegFacts_all]; exact ok_after ctx ops hc

/-- the same from nothing: no registrations yet, any struct declarations with distinct field
    names, any calls -/
theorem registry_built_from_nothing_ok (structs : List (Name × List (Name × GoTy)))
    (hs : structs.all (fun s => (s.2.map (·.1)).Nodup) = true) (ops : List RegOp) :
    ((Ctx.mk [] structs).after srcRegFacts ops).ok = true :=
  registry_wellformed_after_any_calls ⟨[], structs⟩ (by rw [ok_eq]; simpa [regOK] using hs) ops

/-- the calls eino's two `init` functions make, as regenerated from the source -/
def initOps : List RegOp :=
  (builtinReg (FactsC12.registry ++ FactsC12.composeRegistry) einoKinds).map fun e => ⟨e.1, e.2⟩

/-- eino's own `init` sequence run through the state machine: every one of the 32 calls is
    accepted and the result is the table `builtin_registry_ok` speaks about (newest first). -/
theorem init_calls_all_accepted :
    regOutcomes srcRegFacts [] initOps = List.replicate 32 .accepted
    ∧ regAfter srcRegFacts [] initOps
        = (builtinReg (FactsC12.registry ++ FactsC12.composeRegistry) einoKinds).reverse := by
  rw [initOps, facts_match.1, facts_match.2.1, srcRegFacts_all]
  exact eino_replay

/-- **a registration in force stays in force.**  Once a key names a type (`m[k] = t`) and a type
    has its key (`rm[t] = k`), no later sequence of calls changes either: what the encoder writes
    for `t` and what the decoder reads for `k` are fixed for the rest of the process. -/
theorem registration_in_force_forever (ctx : Ctx) (ops : List RegOp) (k : Name) (t : GoTy) :
    (tyOfKey ctx k = some t → tyOfKey (ctx.after srcRegFacts ops) k = some t)
    ∧ (keyOf ctx t = some k → keyOf (ctx.after srcRegFacts ops) t = some k) := by
  rw [srcRegFacts_all]
  exact ⟨tyOfKey_ctx_after RFall rfl ctx ops k t, keyOf_ctx_after RFall rfl ctx ops t k⟩

/-- **round trip after any further registrations.**  A value that is `Supported` now is
    `Supported` after any sequence of `GenericRegister` calls, and its round trip in the
    resulting registry succeeds with a deeply equal value of the identical dynamic type. -/
theorem roundtrip_survives_registrations (ctx : Ctx) (J : JLayer) (hc : ctx.ok = true) (hJ : J.OK)
    (v : GoVal) (hs : Supported ctx J v = true) (ops : List RegOp) :
    ∃ is v', enc (ctx.after srcRegFacts ops) J srcFacts v = .ok is
      ∧ unmarshalTop (ctx.after srcRegFacts ops) J srcFacts is = .ok v'
      ∧ v' ≈ v ∧ v'.typeOf = v.typeOf := by
  rw [srcRegFacts_all]
  exact roundtrip_partial (ctx.after RFall ops) J (ok_after ctx ops hc) hJ v (supported_after ctx J ops v hs)

/-- **what was written earlier reads back the same later.**  Bytes `Marshal` produced for a
    `Supported` value at some point of the process are read back — after ANY further sequence
    of `GenericRegister` calls — as a deeply equal value of the identical dynamic type: a
    checkpoint put into a store is not re-interpreted by registrations that happen before it is
    read. -/
theorem written_earlier_reads_back (ctx : Ctx) (J : JLayer) (hc : ctx.ok = true) (hJ : J.OK)
    (v : GoVal) (hs : Supported ctx J v = true) (ops : List RegOp) :
    ∃ is v', enc ctx J srcFacts v = .ok is
      ∧ unmarshalTop (ctx.after srcRegFacts ops) J srcFacts is = .ok v'
      ∧ v' ≈ v ∧ v'.typeOf = v.typeOf := by
  obtain ⟨is, v', he, hd, hn, ht⟩ := roundtrip_partial ctx J hc hJ v hs
  refine ⟨is, v', he, ?_, hn, ht⟩
  rw [srcRegFacts_all]
  exact unmarshalTop_ext (ctxExt_after RFall rfl ctx ops) J srcFacts is v' hd

/-- **loud across registrations.**  For every well-typed value whatsoever: if it was written
    without error and is read without error after any further calls, the value read is the
    value written (≈, identical dynamic type). -/
theorem loud_across_registrations (ctx : Ctx) (J : JLayer) (hc : ctx.ok = true) (hJ : J.OK)
    (v : GoVal) (is : IS) (v' : GoVal) (ops : List RegOp) (hw : v.wt ctx = true)
    (he : enc ctx J srcFacts v = .ok is)
    (hd : unmarshalTop (ctx.after srcRegFacts ops) J srcFacts is = .ok v') :
    v' ≈ v ∧ v'.typeOf = v.typeOf := by
  obtain ⟨v'', hd''⟩ := written_is_readable ctx J hc hJ v is hw he
  rw [srcRegFacts_all, unmarshalTop_ext (ctxExt_after RFall rfl ctx ops) J srcFacts is v'' hd''] at hd
  cases hd
  exact loud ctx J hc hJ v is _ hw he hd''

def tCelsius : GoTy := .named "Celsius" "float64"
def tFahrenheit : GoTy := .named "Fahrenheit" "float64"

/-- `ctxW` plus two struct types where the second has the first one's field and one more -/
def ctxR : Ctx where
  reg := ctxW.reg
  structs := ctxW.structs ++ [("AgentState", [("Note", tStr)]), ("WorkflowState", [("Note", tStr), ("Retries", tInt)])]

/-- two packages call their state "state"; a repeated pair; a pointer type; an empty key -/
def clashOps : List RegOp :=
  [⟨"temperature", tCelsius⟩, ⟨"temperature", tFahrenheit⟩, ⟨"temperature", tCelsius⟩,
   ⟨"state", .ptr (.struct "AgentState")⟩, ⟨"state", .struct "WorkflowState"⟩, ⟨"agent", .struct "AgentState"⟩,
   ⟨"", .struct "WorkflowState"⟩, ⟨"_eino_string", tFahrenheit⟩]

/-- with the guards of the source: the first type keeps each key, every clashing call is an
    error, a value of the accepted type round-trips to itself and a value of the refused type
    is refused by the encoder (loud) -/
theorem key_clash_refused_and_loud :
    regOutcomes srcRegFacts ctxR.reg clashOps
      = [.accepted, .keyTaken, .keyTaken, .accepted, .keyTaken, .typeTaken, .emptyKey, .keyTaken]
    ∧ (ctxR.after srcRegFacts clashOps).ok = true
    ∧ (let c := ctxR.after srcRegFacts clashOps
       (enc c Jid srcFacts (.basic tCelsius "36.6") >>= unmarshalTop c Jid srcFacts) = .ok (.basic tCelsius "36.6")
       ∧ enc c Jid srcFacts (.basic tFahrenheit "36.6") = .error .unknownType
       ∧ (enc c Jid srcFacts (.ptr (.struct "AgentState" (.cons "Note" (.basic tStr "\"n\"") .nil))) >>= unmarshalTop c Jid srcFacts)
           = .ok (.ptr (.struct "AgentState" (.cons "Note" (.basic tStr "\"n\"") .nil)))
       ∧ enc c Jid srcFacts (.struct "WorkflowState" (.cons "Note" (.basic tStr "\"n\"") (.cons "Retries" (iv "1") .nil)))
           = .error .unknownType) := by
  have hR : ctxR.ok = true := by
    rw [ok_eq, show ctxR.reg = ctxW.reg from rfl, ctxW_regOK]
    decide
  -- well-formedness after the calls is the general theorem (evaluating `regOK` is quadratic in the
  -- 39 entries); the outcomes and the four round trips are evaluated
  rw [and_iff_right (registry_wellformed_after_any_calls ctxR hR clashOps), ctxR, ctxW, builtinReg_eino]
  decide +kernel

/-- facts of a `GenericRegister` without the `m[key]` guard (the key → type check dropped) -/
def RFnoKeyGuard : RegFacts := ⟨true, false, true⟩

/-- (negation witness) without the `keyTaken` guard the second type silently takes the key
    over: every call returns `nil`, the registry is no bijection any more, and a value of the
    type registered first is written without error and read back without error as a value of
    the other type — a named basic always, a struct whenever the second struct has the first
    one's fields.  The guard is needed for `registry_wellformed_after_any_calls`. -/
theorem key_takeover_without_key_guard :
    let ops : List RegOp := [⟨"temperature", tCelsius⟩, ⟨"temperature", tFahrenheit⟩,
                             ⟨"state", .struct "AgentState"⟩, ⟨"state", .struct "WorkflowState"⟩]
    let c := ctxR.after RFnoKeyGuard ops
    regOutcomes RFnoKeyGuard ctxR.reg ops = [.accepted, .accepted, .accepted, .accepted]
    ∧ c.ok = false
    ∧ (enc c Jid Fall (.basic tCelsius "36.6") >>= unmarshalTop c Jid Fall) = .ok (.basic tFahrenheit "36.6")
    ∧ (enc c Jid Fall (.ptr (.struct "AgentState" (.cons "Note" (.basic tStr "\"n\"") .nil))) >>= unmarshalTop c Jid Fall)
        = .ok (.ptr (.struct "WorkflowState" (.cons "Note" (.basic tStr "\"n\"") (.cons "Retries" (iv "0") .nil)))) := by
  rw [ctxR, ctxW, builtinReg_eino]
  decide +kernel

/-- (negation witness) the same for bytes in a store: written while the key named the first
    type, read after the second type took the key over — no error, another dynamic type.  The
    guard is needed for `written_earlier_reads_back`. -/
theorem stored_bytes_change_type_without_key_guard :
    let c1 := ctxR.after RFnoKeyGuard [⟨"state", .struct "AgentState"⟩]
    let c2 := c1.after RFnoKeyGuard [⟨"state", .struct "WorkflowState"⟩]
    let v := GoVal.ptr (.struct "AgentState" (.cons "Note" (.basic tStr "\"n\"") .nil))
    (enc c1 Jid Fall v >>= unmarshalTop c1 Jid Fall) = .ok v
    ∧ (enc c1 Jid Fall v >>= unmarshalTop c2 Jid Fall)
        = .ok (.ptr (.struct "WorkflowState" (.cons "Note" (.basic tStr "\"n\"") (.cons "Retries" (iv "0") .nil)))) := by
  rw [ctxR, ctxW, builtinReg_eino]
  decide +kernel

/-- facts of a `GenericRegister` without the `rm[t]` guard -/
def RFnoTypeGuard : RegFacts := ⟨true, true, false⟩

/-- (negation witness) without the `typeTaken` guard a second key for a type leaves the first
    key behind: `m` still resolves it but `rm` does not lead back to it (no bijection). -/
theorem stale_key_without_type_guard :
    let c := ctxR.after RFnoTypeGuard [⟨"a", tCelsius⟩, ⟨"b", tCelsius⟩]
    c.ok = false ∧ tyOfKey c "a" = some tCelsius ∧ keyOf c tCelsius = some "b" := by
  rw [ctxR, ctxW, builtinReg_eino]
  decide +kernel

/-! ### The translated `GenericRegister` (internal/serialization → Gen/TransC12.lean)

  `GenericRegister[T](key)` is re-translated from /repo on every run of this property.  The type parameter `T`
  is a parameter holding its `reflect.Type`; `reflect.Type` is the prelude's inductive `GoRType` (a base type or
  a pointer to a type), so the pointer-stripping loop is real iteration (translated with fuel: the pointer depth
  of `T` is enough); the package-level maps `m` / `rm` are explicit state (`rm` is keyed by the type: `GoMapK`).
  `RegRel` relates the two Go maps to the model's log of accepted pairs (newest first, first match): `m[key]` is
  the type of the newest entry under the key, `rm[t]` the key of the newest entry for the type.  The theorems say
  that the translated function computes `regStep` — the state machine every registry theorem above is about —
  for the regenerated guard facts, with the errors by class (the three format strings), and never panics. -/
section TranslatedRegister
open EinoV.GoSem EinoV.TransC12 EinoV.Gen.TransC12
variable {V : Type} [Inhabited V]

theorem translated_source_is_current : FactsC12.registerTranslated = true := by decide

theorem translated_GenericRegister_refines (ext : Ext V) (code : GoTy → Nat) (hc : ∀ a b, code a = code b → a = b)
    (m : GoMap GoRType) (rm : GoMapK GoRType String) (r : Reg) (h : RegRel code m rm r)
    (op : RegOp) (fuel : Nat) (hf : op.ty.depth ≤ fuel) :
    ∃ m' rm', GenericRegister ext fuel op.key (TransC12.enc code op.ty) m rm
        = .ret (m', rm', errOf (regStep srcRegFacts r op).1) ∧
      RegRel code m' rm' (regStep srcRegFacts r op).2 ∧
      ((regStep srcRegFacts r op).1 ≠ .accepted → m' = m ∧ rm' = rm) := by
  rw [srcRegFacts_all]
  exact GenericRegister_refines ext code hc m rm r h op fuel hf

theorem translated_GenericRegister_total (ext : Ext V) (code : GoTy → Nat) (hc : ∀ a b, code a = code b → a = b)
    (m : GoMap GoRType) (rm : GoMapK GoRType String) (r : Reg) (h : RegRel code m rm r)
    (op : RegOp) (fuel : Nat) (hf : op.ty.depth ≤ fuel) :
    ∃ res, GenericRegister ext fuel op.key (TransC12.enc code op.ty) m rm = .ret res :=
  GenericRegister_total ext code hc m rm r h op fuel hf

/-- the initial state: both maps are declared empty (checked by the extractor), the empty log -/
theorem translated_register_initial (code : GoTy → Nat) : RegRel code [] [] [] := regRel_nil code

/-! non-vacuity: registering `**T7` under "k" stores the stripped type in both maps; the same key again, the
    same type under another key, and the empty key are refused with the three errors; with too little fuel the
    loop stops early (the fuel hypothesis matters) -/
def exExtR : Ext Nat := { zeroValue := 0, emptyStream := 0, mergeValues := fun _ => (0, none) }

example : (match GenericRegister exExtR 2 "k" (.ptr (.ptr (.base 7))) [] [] with
    | .ret r => r | _ => ([], [], none)) = ([("k", .base 7)], [(.base 7, "k")], none) := by decide
example : (match GenericRegister exExtR 2 "k" (.base 8) [("k", .base 7)] [(.base 7, "k")] with
    | .ret r => r.2.2 | _ => none) = errOf .keyTaken := by decide
example : (match GenericRegister exExtR 2 "j" (.ptr (.base 7)) [("k", .base 7)] [(.base 7, "k")] with
    | .ret r => r.2.2 | _ => none) = errOf .typeTaken := by decide
example : (match GenericRegister exExtR 2 "" (.base 9) [] [] with
    | .ret r => r.2.2 | _ => none) = errOf .emptyKey := by decide
example : (match GenericRegister exExtR 1 "k" (.ptr (.ptr (.base 7))) [] [] with
    | .ret r => r.1 | _ => []) = [("k", .ptr (.base 7))] := by decide

end TranslatedRegister

/-! ## embedded structs and clashing field names

For the serialiser an embedded struct (`type Task struct { Audit; ID string }`) is ONE field of
the outer struct, named after its type, holding a struct value: the encoder walks the outer
struct's own fields only (fact `structEncoderOwnFieldsOnly`: one loop over `rt.NumField()`, one
store `ret.MapValues[field.Name]` per exported own field, no helper call, no `.Anonymous`), and the
decoder's `FieldByName(k)` resolves a name the struct declares itself to that own field (depth 0
wins over promoted fields).  In the model that is a struct declaration with a field
`(Audit, .struct Audit)` — or `(Audit, .ptr (.struct Audit))` for `*Audit` —; field names are
distinct within ONE declaration (Go's rule, `Ctx.ok`) and may clash freely between the outer
struct and the structs it embeds, at any depth, or between two embedded structs.
`roundtrip_partial`, `loud`, … quantify over all such declarations.  What this section adds: the
table written for a struct has exactly the struct's own field names as keys (nothing is promoted
into it), and the clashing shapes as computed witnesses. -/

def GoKVs.keys : GoKVs → List String
  | .nil => []
  | .cons k _ r => k :: r.keys
def ISKVs.keys : ISKVs → List String
  | .nil => []
  | .cons k _ r => k :: r.keys

/-- the fact the model's `encFields` relies on has the value it was written for -/
theorem struct_encoder_fact_matches :
    FactsC12.structEncoderOwnFieldsOnly = structEncoderOwnFieldsOnly := by decide

theorem encFields_keys (ctx : Ctx) (J : JLayer) (F : Facts) :
    ∀ (fs : GoKVs) (xs : ISKVs), encFields ctx J F fs = .ok xs → xs.keys = fs.keys
  | .nil, xs, h => by cases h; rfl
  | .cons f v r, xs, h => by
    obtain ⟨i, _, is, hr, rfl⟩ := encFields_cons.mp h
    simp only [ISKVs.keys, GoKVs.keys, encFields_keys ctx J F r is hr]

/-- **nothing is promoted into a struct's table.**  Whatever struct value the encoder accepts
    (any pointer depth above it, any declarations, embedded structs or not): the node it writes
    is a struct node whose table has exactly the value's own field names as keys, in declaration
    order — the fields of an embedded struct sit one level down, in the table of the field named
    after the embedded type, so equal names at different levels never meet in one table. -/
theorem struct_table_has_own_field_names_only (ctx : Ctx) (J : JLayer) (k : Nat) (n : Name) (fs : GoKVs) (is : IS)
    (h : encP ctx J srcFacts k (.struct n fs) = .ok is) :
    ∃ key xs, is = IS.structN k key xs ∧ xs.keys = fs.keys := by
  obtain ⟨key, _, xs, hx, rfl⟩ := encP_struct.mp h
  exact ⟨key, xs, rfl, encFields_keys ctx J srcFacts fs xs hx⟩

def tAudit : GoTy := .struct "Audit"

/-- `ctxW` plus: `Audit{ID string; Version int}`; `Task{Audit; ID string}` (outer field after the
    embedded struct), `Task2{ID string; Version *int; Audit}` (before it, one clash with another
    type), `Two{EmbA; EmbB}` (both declare `ID`: ambiguous selector, no outer field of that name),
    `PTask{*Audit; ID string}` (embedded by pointer), `Deep{Task; Version int; ID []string}` (two
    levels: `Deep.ID` shadows `Deep.Task.ID` and `Deep.Task.Audit.ID`) -/
def ctxE : Ctx where
  reg := ctxW.reg ++ [("e_audit", tAudit), ("e_task", .struct "Task"), ("e_task2", .struct "Task2"), ("e_a", .struct "EmbA"),
    ("e_b", .struct "EmbB"), ("e_two", .struct "Two"), ("e_ptask", .struct "PTask"), ("e_deep", .struct "Deep")]
  structs := ctxW.structs ++
    [("Audit", [("ID", tStr), ("Version", tInt)]),
     ("Task", [("Audit", tAudit), ("ID", tStr)]),
     ("Task2", [("ID", tStr), ("Version", .ptr tInt), ("Audit", tAudit)]),
     ("EmbA", [("ID", tStr)]), ("EmbB", [("ID", tInt)]),
     ("Two", [("EmbA", .struct "EmbA"), ("EmbB", .struct "EmbB")]),
     ("PTask", [("Audit", .ptr tAudit), ("ID", tStr)]),
     ("Deep", [("Task", .struct "Task"), ("Version", tInt), ("ID", .slice tStr)])]

def sv (s : String) : GoVal := .basic tStr s
def wAudit (id : String) (ver : String) : GoVal := .struct "Audit" (.cons "ID" (sv id) (.cons "Version" (iv ver) .nil))
/-- `Task{Audit:{ID:"audit-1",Version:3}, ID:"task-7"}` -/
def wTask : GoVal := .struct "Task" (.cons "Audit" (wAudit "\"audit-1\"" "3") (.cons "ID" (sv "\"task-7\"") .nil))
/-- `Task2{ID:"job-9", Version:&7, Audit:{ID:"audit-2",Version:1}}` -/
def wTask2 : GoVal :=
  .struct "Task2" (.cons "ID" (sv "\"job-9\"") (.cons "Version" (.ptr (iv "7")) (.cons "Audit" (wAudit "\"audit-2\"" "1") .nil)))
def wTwo : GoVal :=
  .struct "Two" (.cons "EmbA" (.struct "EmbA" (.cons "ID" (sv "\"a\"") .nil)) (.cons "EmbB" (.struct "EmbB" (.cons "ID" (iv "2") .nil)) .nil))
def wPTask : GoVal := .struct "PTask" (.cons "Audit" (.ptr (wAudit "\"inner\"" "0")) (.cons "ID" (sv "\"outer\"") .nil))
def wPTaskNil : GoVal := .struct "PTask" (.cons "Audit" (.nilptr tAudit) (.cons "ID" (sv "\"outer\"") .nil))
def wDeep : GoVal :=
  .ptr (.struct "Deep" (.cons "Task" wTask (.cons "Version" (iv "9") (.cons "ID" (.slice tStr false (.cons (sv "\"d\"") .nil)) .nil))))

/-- every clashing shape is `Supported` and round-trips to ITSELF: the shadowed inner value and
    the shadowing outer value both come back (outer field after / before the embedded struct, a
    clash with another type, two embedded structs with the same field name, embedded by pointer —
    nil and non-nil —, two levels deep), also inside `any` positions -/
theorem embedded_structs_with_name_clashes_roundtrip :
    ctxE.ok = true
    ∧ [wTask, wTask2, wTwo, wPTask, wPTaskNil, wDeep,
       .slice .iface false (.cons wTask (.cons (.ptr wTask2) (.cons wDeep .nil)))].all
        (fun v => Supported ctxE Jid v
          && decide ((enc ctxE Jid srcFacts v >>= unmarshalTop ctxE Jid srcFacts) = .ok v)) = true := by
  refine ⟨?_, by rw [ctxE, ctxW, builtinReg_eino]; decide +kernel⟩
  exact ok_append ctxW_regOK (by rw [ctxW, builtinReg_eino]; decide +kernel)

/-- the table written for `Task` has the keys `Audit` and `ID` — the embedded `ID` is one level
    down (computed instance of `struct_table_has_own_field_names_only`) -/
theorem task_table_keys :
    (match enc ctxE Jid srcFacts wTask with
     | .ok (.mk _ _ _ _ _ _ _ _ _ mvs _ _ _) => mvs.keys
     | _ => []) = ["Audit", "ID"] := by
  rw [ctxE, ctxW, builtinReg_eino]
  decide +kernel

/-- (why promotion cannot work) two different `Task` values — the IDs swapped between the outer
    field and the embedded struct — have the same set of (bare field name, value) pairs at the
    two levels taken together; only the per-struct tables tell them apart. -/
theorem swapped_ids_differ_only_by_level :
    let a := GoVal.struct "Task" (.cons "Audit" (wAudit "\"x\"" "1") (.cons "ID" (sv "\"y\"") .nil))
    let b := GoVal.struct "Task" (.cons "Audit" (wAudit "\"y\"" "1") (.cons "ID" (sv "\"x\"") .nil))
    a ≠ b ∧ enc ctxE Jid srcFacts a ≠ enc ctxE Jid srcFacts b
    ∧ (enc ctxE Jid srcFacts a >>= unmarshalTop ctxE Jid srcFacts) = .ok a
    ∧ (enc ctxE Jid srcFacts b >>= unmarshalTop ctxE Jid srcFacts) = .ok b := by
  rw [ctxE, ctxW, builtinReg_eino]
  decide +kernel

end EinoV.C12
