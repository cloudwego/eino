/-
  C10 — Callback handlers fire exactly once per execution, paired, for the right node.
  Property theorems.  Models: EinoV/Model/C10.lean (the unit machine), and on top of it
  C10Runs.lean (the units of a run that interrupts and is resumed), C10Share.lean (one Lambda value
  under several node keys), C10Builtin.lean (components that fire their own callbacks),
  C10Detach.lean (contexts detached inside a node), all under EinoV/Model.  Source facts:
  EinoV/Gen/FactsC10.lean (regenerated from /repo on every run).

  The unit machine is run with the facts extracted from the source (`genFacts`); every
  theorem about it holds for every program (unit tree, caller slices with any spare
  capacity, any designated handlers, any timing checkers, any global handlers) and for
  EVERY event list, i.e. every interleaving of the units' context-creation and callback
  steps (events that are not enabled are no-ops).
-/
import EinoV.Model.C10
import EinoV.Model.C10Runs
import EinoV.Proofs.C10
import EinoV.Proofs.C10Runs
import EinoV.Model.C10Share
import EinoV.Proofs.C10Share
import EinoV.Model.C10Builtin
import EinoV.Proofs.C10Builtin
import EinoV.Model.C10Detach
import EinoV.Proofs.C10Detach
import EinoV.Gen.FactsC10
import EinoV.Expected.C10

namespace EinoV.C10
open EinoV.Gen

/-- the unit machine's parameters, as extracted from internal/callbacks/inject.go -/
def genFacts : Facts :=
  ⟨FactsC10.appendHandlersCopies, FactsC10.onCopies, FactsC10.startReversed, FactsC10.initAlwaysInstalls⟩

/-- the compose level's parameters, as extracted from compose/graph_run.go, utils.go, tool_node.go -/
def genCF : CFacts :=
  ⟨FactsC10.runHasDeferredBlock, FactsC10.deferStartsIfMissing, FactsC10.wrapperOnErrorAlways,
   FactsC10.toolRunInfoUnconditional⟩

/-- the parameters of the self-firing built-in components, as extracted from
    components/prompt/chat_template.go, flow/retriever/utils, flow/retriever/router, flow/retriever/multiquery -/
def genBF : BFacts :=
  ⟨FactsC10.tplErrDeferred, FactsC10.tplStartEndUnconditional, FactsC10.taskErrReported, FactsC10.taskPanicReported,
   FactsC10.routeErrReported, FactsC10.routerFusionErrReported, FactsC10.mqFusionErrReported,
   FactsC10.routerDefaultInstalled⟩

/-- Source fact tie: every regenerated fact has the value the theorems (and the oracle) use. -/
theorem facts_match :
    genFacts = Expected.C10.facts ∧
    genCF = Expected.C10.cfacts ∧
    genBF = Expected.C10.bfacts ∧
    FactsC10.startStreamReversed = FactsC10.startReversed ∧
    FactsC10.endForward = Expected.C10.endForward ∧
    FactsC10.streamCopyExtra = Expected.C10.streamCopyExtra ∧
    FactsC10.flowGetsLastCopy = Expected.C10.flowGetsLastCopy ∧
    FactsC10.runHasDeferredBlock = Expected.C10.runHasDeferredBlock ∧
    FactsC10.deferStartsIfMissing = Expected.C10.deferStartsIfMissing ∧
    FactsC10.startSetsFlag = Expected.C10.startSetsFlag ∧
    FactsC10.wrapperStartThenEndOrError = Expected.C10.wrapperStartThenEndOrError ∧
    FactsC10.injectionGuarded = Expected.C10.injectionGuarded ∧
    FactsC10.toolCallOwnRunInfo = Expected.C10.toolCallOwnRunInfo ∧
    FactsC10.wrapperOnErrorAlways = Expected.C10.wrapperOnErrorAlways ∧
    FactsC10.toolRunInfoUnconditional = Expected.C10.toolRunInfoUnconditional ∧
    FactsC10.lambdaNodeOwnsRunnable = Expected.C10.lambdaNodeOwnsRunnable ∧
    FactsC10.nilManagerSilent = Expected.C10.nilManagerSilent := by
  decide

/-- `AppendHandlers` copies the inherited slice before appending (source fact) -/
theorem fact_append_copies : genFacts.appendCopies = true := by decide
/-- `On` does not append the global handlers to `mgr.handlers` in place (source fact) -/
theorem fact_on_copies : genFacts.onCopies = true := by decide
/-- `InitCallbacks` always installs a manager — the nil one when there is nothing to dispatch
    to — and so overwrites whatever the incoming context carried (source fact) -/
theorem fact_init_installs : genFacts.initInstalls = true := by decide

theorem inv_gen (P : Prog) (evs : List Ev) : Inv genFacts P (run genFacts P evs) :=
  inv_run fact_append_copies fact_on_copies fact_init_installs evs

/-- **handlers_exact.** At every moment of every interleaving, the handler list of a unit
    whose context was made with `AppendHandlers` is exactly the parent's list followed by
    the handlers designated to the unit — whatever the siblings did in between, whatever
    the spare capacity of any slice. -/
theorem handlers_exact (P : Prog) (evs : List Ev) (i p : Nat) (d : UnitDecl)
    (hd : P.units[i]? = some d) (hk : d.kind = .append) (hp : d.parent = some p)
    (hs : List Hd) (hcreated : handlersFor (run genFacts P evs) i = some hs) :
    ∃ inherited, handlersFor (run genFacts P evs) p = some inherited ∧ hs = inherited ++ d.desig := by
  have inv := inv_gen P evs
  obtain ⟨hlt, hpar⟩ := handlersFor_parent inv hcreated hd (by rw [hk]; intro s h; cases h) hp
  exact ⟨_, hpar, by rw [handlersFor_spec inv hcreated, spec_append_some hd hk hp hlt]⟩

/-- the root forms: no manager in the incoming context → exactly the designated handlers;
    `ReuseHandlers` (tool calls) → exactly the parent's list;
    `InitCallbacks` → exactly the caller's slice. -/
theorem handlers_exact_root (P : Prog) (evs : List Ev) (i : Nat) (d : UnitDecl)
    (hd : P.units[i]? = some d) (hk : d.kind = .append) (hp : d.parent = none)
    (hs : List Hd) (hcreated : handlersFor (run genFacts P evs) i = some hs) : hs = d.desig := by
  rw [handlersFor_spec (inv_gen P evs) hcreated, spec_append_none hd hk hp]

theorem handlers_exact_reuse (P : Prog) (evs : List Ev) (i p : Nat) (d : UnitDecl)
    (hd : P.units[i]? = some d) (hk : d.kind = .reuse) (hp : d.parent = some p)
    (hs : List Hd) (hcreated : handlersFor (run genFacts P evs) i = some hs) :
    handlersFor (run genFacts P evs) p = some hs := by
  have inv := inv_gen P evs
  obtain ⟨hlt, hpar⟩ := handlersFor_parent inv hcreated hd (by rw [hk]; intro s h; cases h) hp
  rw [hpar, handlersFor_spec inv hcreated, spec_reuse_some hd hk hp hlt]

theorem handlers_exact_init (P : Prog) (evs : List Ev) (i : Nat) (d : UnitDecl) (s : Slice)
    (hd : P.units[i]? = some d) (hk : d.kind = .init s)
    (hs : List Hd) (hcreated : handlersFor (run genFacts P evs) i = some hs) : hs = P.arrays.read s := by
  rw [handlersFor_spec (inv_gen P evs) hcreated, spec_init hd hk]

/-- **schedule independence.** The list depends on the program only (`spec` is computed
    from the unit tree without any heap). -/
theorem handlers_static (P : Prog) (evs : List Ev) (i : Nat) (hs : List Hd)
    (hcreated : handlersFor (run genFacts P evs) i = some hs) : hs = spec P i := by
  exact handlersFor_spec (inv_gen P evs) hcreated

/-- the caller's arrays are never written by the callback machinery -/
theorem caller_slices_untouched (P : Prog) (evs : List Ev) (s : Slice) (hs : s.arr < P.arrays.length) :
    (run genFacts P evs).heap.read s = P.arrays.read s := by
  obtain ⟨ext, hext⟩ := (inv_gen P evs).heapPre
  rw [hext, read_prefix _ _ _ hs]

/-- **unit_trace.** In every interleaving the events recorded for unit `i` are exactly: for
    each timing the unit has fired so far, in program order, the handlers of
    `inherited ++ designated ++ global` that need that timing (start timings last to first),
    each with the unit's own run info. -/
theorem unit_trace (P : Prog) (evs : List Ev) (i : Nat) :
    projLog (run genFacts P evs).log i =
      render genFacts.startReversed i (unitInfo P i) (spec P i ++ P.globals)
        ((unitProg P i).take ((run genFacts P evs).pc i)) :=
  (inv_gen P evs).log i

/-- **no_cross_node.** Every callback that is ever delivered goes to a handler of the
    delivering unit's own list (or a global one), with that unit's run info and a timing the
    handler asked for. -/
theorem no_cross_node (P : Prog) (evs : List Ev) (e : LogEv) (he : e ∈ (run genFacts P evs).log) :
    e.h ∈ spec P e.unit ++ P.globals ∧ e.info = unitInfo P e.unit ∧ e.h.needed e.t = true ∧
    e.t ∈ unitProg P e.unit := by
  have h1 := mem_projLog he
  rw [unit_trace] at h1
  obtain ⟨_, a2, a3, a4, a5⟩ := mem_render h1
  exact ⟨a3, a2, a4, List.mem_of_mem_take a5⟩

/-- A handler designated to node `a` only is never invoked for a sibling `b`, however the
    two nodes' steps interleave. -/
theorem no_cross_node_siblings (P : Prog) (evs : List Ev) (b g : Nat) (db : UnitDecl) (h : Hd)
    (hdb : P.units[b]? = some db) (hkb : db.kind = .append) (hpb : db.parent = some g) (hlt : g < b)
    (hnotInherited : h ∉ spec P g) (hnotB : h ∉ db.desig) (hnotGlobal : h ∉ P.globals) :
    ∀ e ∈ (run genFacts P evs).log, e.unit = b → e.h ≠ h := by
  intro e he hu hh
  have := (no_cross_node P evs e he).1
  rw [hu, spec_append_some hdb hkb hpb hlt, hh] at this
  simp only [List.mem_append] at this
  rcases this with (h1 | h1) | h1
  · exact hnotInherited h1
  · exact hnotB h1
  · exact hnotGlobal h1

/-- **fire_once_paired.** A unit whose program is `[s, e]` (one start timing, one of
    end / stream end / error) and that has run to completion delivered, to every handler `h`:
    `s` exactly as many times as `h` occurs in the unit's list (once for a handler passed
    once) if `h` needs `s`, likewise `e`, and no other timing at all. -/
theorem fire_once_paired (P : Prog) (evs : List Ev) (i : Nat) (s e : Timing)
    (hprog : unitProg P i = [s, e]) (hse : s ≠ e)
    (hfin : (run genFacts P evs).pc i = 2) (h : Hd) :
    let log := (run genFacts P evs).log
    let occ := (spec P i ++ P.globals).count h
    countEv log i h s = (if h.needed s then occ else 0) ∧
    countEv log i h e = (if h.needed e then occ else 0) ∧
    ∀ t, t ≠ s → t ≠ e → countEv log i h t = 0 := by
  intro log occ
  have key : ∀ t, countEv log i h t = [s, e].count t * (if h.needed t then occ else 0) := fun t => by
    have := (inv_gen P evs).countEv_eq i h t
    rwa [hprog, hfin] at this
  refine ⟨?_, ?_, fun t hts hte => ?_⟩ <;> rw [key]
  · simp [Ne.symm hse]
  · simp [hse]
  · simp [Ne.symm hts, Ne.symm hte]

/-- exactly one start and exactly one end for a handler that was passed once and filters nothing -/
theorem fire_once_paired_single (P : Prog) (evs : List Ev) (i : Nat) (s e : Timing)
    (hprog : unitProg P i = [s, e]) (hse : s ≠ e)
    (hfin : (run genFacts P evs).pc i = 2) (h : Hd)
    (honce : (spec P i ++ P.globals).count h = 1) (hall : h.mask = none) :
    countEv (run genFacts P evs).log i h s = 1 ∧ countEv (run genFacts P evs).log i h e = 1 := by
  obtain ⟨a, b, _⟩ := fire_once_paired P evs i s e hprog hse hfin h
  simp only [Hd.needed_of_mask_none hall, if_true, honce] at a b
  exact ⟨a, b⟩

/-- start callbacks precede the end callback of the same unit: the unit's trace is the start
    block followed by the end block. -/
theorem start_before_end (P : Prog) (evs : List Ev) (i : Nat) (s e : Timing)
    (hprog : unitProg P i = [s, e]) (hfin : (run genFacts P evs).pc i = 2) :
    projLog (run genFacts P evs).log i =
      (dispatch genFacts.startReversed s (spec P i ++ P.globals)).map (fun h => ⟨i, unitInfo P i, h, s⟩) ++
      (dispatch genFacts.startReversed e (spec P i ++ P.globals)).map (fun h => ⟨i, unitInfo P i, h, e⟩) := by
  rw [unit_trace, hprog, hfin]
  simp [render]

/-! ## where the `[start, end-kind]` programs come from -/

/-- **graph level.** On every return path of `runner.run` — including the error returns
    taken before `onGraphStart` was reached — the graph's callbacks are: start exactly once,
    then exactly one of end / stream end / error, matching the outcome. -/
theorem graph_callbacks_once (isStream : Bool) (p : RunPath) :
    runCalls FactsC10.runHasDeferredBlock FactsC10.deferStartsIfMissing isStream p =
      [startT isStream,
       match p with
       | .ok => (if isStream then Timing.endStream else Timing.end_)
       | _ => Timing.error] := by
  have h1 : FactsC10.runHasDeferredBlock = true := by decide
  have h2 : FactsC10.deferStartsIfMissing = true := by decide
  rw [h1, h2]
  cases p <;> cases isStream <;> rfl

/-- **node / tool level.** A component wrapped by `runWithCallbacks` fires start once and
    then exactly one of end / stream end / error; a component that fires its own callbacks is
    not wrapped (the framework adds nothing to what the component does). -/
theorem wrapper_callbacks_once (startStream : Bool) (k : EndKind) (own : List Timing) :
    FactsC10.wrapperStartThenEndOrError = true ∧ FactsC10.injectionGuarded = true ∧
    kindProg genCF (.wrapped startStream k) = [startT startStream, endT k] ∧
    kindProg genCF (.self own) = own :=
  ⟨by decide, by decide, wrapperCalls_always startStream k, rfl⟩

/-- every framework-issued program is one start timing followed by one distinct end timing -/
theorem framework_prog_shape (u : UKind) (hnotSelf : ∀ own, u ≠ .self own) :
    ∃ s e, kindProg genCF u = [s, e] ∧ s.isStart = true ∧ e.isStart = false := by
  cases u with
  | graph isStream p => exact paired_graph (by decide) (by decide) isStream p
  | wrapped s k => exact paired_wrapped (by decide) s k
  | self own => exact absurd rfl (hnotSelf own)

/-- `runWithCallbacks` reaches `onError` on every `err != nil` path (source fact: nothing
    returns between the wrapped call and `onError`) -/
theorem fact_wrapper_on_error_always : genCF.wrapperOnErrorAlways = true := by decide
/-- the tool call's context is made with the tool's own RunInfo unconditionally (source fact) -/
theorem fact_tool_run_info_unconditional : genCF.toolOwnInfoAlways = true := by decide

/-- **wrapper_finishes_on_every_path.** Whatever the wrapped function returns — a value, a
    stream, a failure, or an *interrupt* (`InterruptAndRerun`, an error wrapping it, a sub-graph
    interrupt) — a returned `runWithCallbacks` call fired the start callback and then exactly
    the finishing callback of that outcome; for an interrupt that is `OnError`. -/
theorem wrapper_finishes_on_every_path (startStream : Bool) (k : EndKind) :
    wrapperCalls FactsC10.wrapperOnErrorAlways startStream k = [startT startStream, endT k] ∧
    endT .intr = Timing.error :=
  ⟨wrapperCalls_always startStream k, rfl⟩

/-- **paired_unit_finished_once.** Any unit — whoever issues its callbacks — whose program is
    one start-kind timing followed by one finishing timing: once it has fired both, in every
    interleaving with the other units, every handler of its list that filters nothing received
    exactly as many start-kind callbacks as it occurs in the list and exactly as many finishing
    callbacks (end / stream end / error counted together). -/
theorem paired_unit_finished_once (P : Prog) (evs : List Ev) (i : Nat) (s e : Timing)
    (hprog : unitProg P i = [s, e]) (hs : s.isStart = true) (he : e.isStart = false)
    (hfin : (run genFacts P evs).pc i = 2) (h : Hd) (hall : h.mask = none) :
    countStart (run genFacts P evs).log i h = (spec P i ++ P.globals).count h ∧
    countFinish (run genFacts P evs).log i h = (spec P i ++ P.globals).count h := by
  have key := (inv_gen P evs).countEv_eq i h
  simp only [hprog, hfin, Hd.needed_of_mask_none hall, if_true] at key
  -- start kinds and finishing kinds counted together: `[s, e]` has one of each
  unfold countStart countFinish
  simp only [key, ← Nat.add_mul, count_start_kinds, count_finish_kinds]
  simp [hs, he]

/-- **started_implies_finished_once.** For every unit the framework issues callbacks for (the
    graph on every return path, a wrapped node execution or tool call with every outcome,
    *including the interrupt outcome*), in every interleaving with the other units: once the
    unit has returned, every handler of its list that filters nothing received exactly as many
    start-kind callbacks as it occurs in the list (one, for a handler passed once) and exactly
    as many finishing callbacks (end / stream end / error, all kinds counted together) — never
    a start without a finish, never two finishes. -/
theorem started_implies_finished_once (P : Prog) (evs : List Ev) (i : Nat) (u : UKind)
    (hnotSelf : ∀ own, u ≠ .self own) (hprog : unitProg P i = kindProg genCF u)
    (hfin : (run genFacts P evs).pc i = 2) (h : Hd) (hall : h.mask = none) :
    countStart (run genFacts P evs).log i h = (spec P i ++ P.globals).count h ∧
    countFinish (run genFacts P evs).log i h = (spec P i ++ P.globals).count h := by
  obtain ⟨s, e, hk, hs, he⟩ := framework_prog_shape u hnotSelf
  exact paired_unit_finished_once P evs i s e (hk ▸ hprog) hs he hfin h hall

/-- the interrupt outcome specifically: the finishing callback is `OnError`, exactly once -/
theorem interrupted_unit_gets_error_once (P : Prog) (evs : List Ev) (i : Nat) (startStream : Bool)
    (hprog : unitProg P i = kindProg genCF (.wrapped startStream .intr))
    (hfin : (run genFacts P evs).pc i = 2) (h : Hd) (hall : h.mask = none)
    (honce : (spec P i ++ P.globals).count h = 1) :
    countEv (run genFacts P evs).log i h (startT startStream) = 1 ∧
    countEv (run genFacts P evs).log i h .error = 1 ∧
    countEv (run genFacts P evs).log i h .end_ = 0 ∧
    countEv (run genFacts P evs).log i h .endStream = 0 := by
  rw [(wrapper_callbacks_once startStream .intr []).2.2.1] at hprog
  have hse : startT startStream ≠ endT .intr := by cases startStream <;> simp [startT, endT]
  obtain ⟨a, b, c⟩ := fire_once_paired P evs i _ _ hprog hse hfin h
  simp only [Hd.needed_of_mask_none hall, if_true, honce] at a b
  refine ⟨a, b, c _ ?_ ?_, c _ ?_ ?_⟩ <;> cases startStream <;> simp [startT, endT]

/-- **run_units_paired.** In the interrupted run *and* in the run resumed from the checkpoint,
    every execution unit — the called graph, nested graphs, node executions, ToolsNodes, tool
    calls, whether it completes, interrupts, or contains something that interrupts, whether the
    framework or the component itself fires the callbacks — has the program "one start, then
    one finishing callback"; and in the resumed run nothing ends with the interrupt outcome. -/
theorem run_units_paired (sh : Shape) (first : Bool) (u : UnitSpec) (hu : u ∈ runUnits sh first) :
    (∃ s e, kindProg genCF u.kind = [s, e] ∧ s.isStart = true ∧ e.isStart = false) ∧
    (first = false → u.kind.isInterrupt = false) := by
  refine ⟨paired_runUnits (cf := genCF) (by decide) (by decide) (by decide) sh first u hu, ?_⟩
  intro hf
  subst hf
  exact resumed_runUnits sh u hu

/-- **restore_failure_reports_start_once.** A graph execution that fails while a checkpoint is
    being restored — wherever the failing step lies relative to the place where the body calls
    `onGraphStart` — reports exactly: start once, then error.  (Source facts: the deferred block, its
    `if !haveOnStart { onGraphStart }`, and every `onGraphStart` of the body being followed at once
    by `haveOnStart = true`.) -/
theorem restore_failure_reports_start_once (isStream startedBefore : Bool) :
    restoreFailCalls FactsC10.startSetsFlag FactsC10.runHasDeferredBlock FactsC10.deferStartsIfMissing
      isStream startedBefore = [startT isStream, Timing.error] := by
  have h1 : FactsC10.startSetsFlag = true := by decide
  have h2 : FactsC10.runHasDeferredBlock = true := by decide
  have h3 : FactsC10.deferStartsIfMissing = true := by decide
  rw [h1, h2, h3]
  cases startedBefore <;> rfl

/-- **refused_resume_units_paired.** In a resumed call whose restore is refused — by the
    caller's state modifier for the called graph or for a nested graph that interrupted — every
    unit that executes (the refused graph: one start, one error; for a nested refusal also the
    called graph and the other re-run nodes, tools nodes and tool calls) has the program "one
    start, then one finishing callback"; the refused graph's is `[start, error]`. -/
theorem refused_resume_units_paired (sh : Shape) (w : ResumeFail) (u : UnitSpec) (hu : u ∈ failedResumeUnits sh w) :
    (∃ s e, kindProg genCF u.kind = [s, e] ∧ s.isStart = true ∧ e.isStart = false) ∧
    kindProg genCF (.graph sh.stream .earlyErr) = [startT sh.stream, Timing.error] :=
  ⟨paired_failedResumeUnits (cf := genCF) (by decide) (by decide) (by decide) sh w u hu,
   graph_callbacks_once sh.stream .earlyErr⟩

/-- **tool_call_run_info_own.** Every callback delivered by a unit of a compose run — in
    particular by a tool call of a ToolsNode, and in particular by a tool that implements
    `IsCallbacksEnabled` and fires `callbacks.OnStart / OnEnd / OnEndWithStreamOutput / OnError`
    itself — carries that unit's own RunInfo (for a tool: its name, type and component), never
    the ToolsNode's. -/
theorem tool_call_run_info_own (c : Case) (evs : List Ev) (k : Nat) (u : UnitSpec)
    (hu : c.units[k]? = some u) (e : LogEv)
    (he : e ∈ (run genFacts (progOf genCF c) evs).log) (hunit : e.unit = k + shiftOf c) :
    e.info = u.info := by
  rw [(no_cross_node _ evs e he).2.1, hunit]
  exact unitInfo_progOf fact_tool_run_info_unconditional c k u hu

/-- `toLambdaNode` gives every graph node a runnable of its own (source fact) -/
theorem fact_lambda_node_owns_runnable : FactsC10.lambdaNodeOwnsRunnable = true := by decide

/-- **lambda_node_run_info_own.** One `*compose.Lambda` value may be added under any number of
    node keys, to any number of graphs / chains / workflows, with or without input / output
    keys (`ns`: all declarations, `d.lam < ls.length`: each names a Lambda of the pool), and the
    graphs may be compiled in any order, any number of times, their nodes in any (map
    iteration) order (`order`: any list of node indices).  The RunInfo a compiled node's
    callbacks carry at run time is the one of the node's OWN declaration: its `WithNodeName`,
    and the type and component of the Lambda it names — "with that unit's run info". -/
theorem lambda_node_run_info_own (ls : List LamD) (ns : List NodeD) (hwf : ∀ d ∈ ns, d.lam < ls.length)
    (order : List Nat) (i : Nat) (d : NodeD) (hd : ns[i]? = some d) (hi : i ∈ order) :
    runInfo ls (compileAll FactsC10.lambdaNodeOwnsRunnable ls.length ns order) i = some (declInfo ls d) := by
  rw [fact_lambda_node_owns_runnable]
  obtain ⟨hn, hl⟩ := own_name_of_owns hwf order i d hd hi
  simp [runInfo, hn, hl, declInfo]

/-- **lambda_node_run_info_independent.** The run info of a node is a function of its own
    declaration only: it is the same in any two cases in which the node is declared alike,
    whatever other nodes share its Lambda value, whatever was compiled before or after. -/
theorem lambda_node_run_info_independent (ls : List LamD) (ns ns' : List NodeD)
    (hwf : ∀ d ∈ ns, d.lam < ls.length) (hwf' : ∀ d ∈ ns', d.lam < ls.length)
    (order order' : List Nat) (i i' : Nat) (d : NodeD)
    (hd : ns[i]? = some d) (hd' : ns'[i']? = some d) (hi : i ∈ order) (hi' : i' ∈ order') :
    runInfo ls (compileAll FactsC10.lambdaNodeOwnsRunnable ls.length ns order) i =
    runInfo ls (compileAll FactsC10.lambdaNodeOwnsRunnable ls.length ns' order') i' := by
  rw [lambda_node_run_info_own ls ns hwf order i d hd hi, lambda_node_run_info_own ls ns' hwf' order' i' d hd' hi']

/-- **lambda_node_callbacks_carry_declared_info.** In a run of a graph whose `k`-th unit is
    the execution of Lambda node `i`, every callback that unit delivers — in every
    interleaving — carries the run info of node `i`'s own declaration. -/
theorem lambda_node_callbacks_carry_declared_info (ls : List LamD) (ns : List NodeD)
    (hwf : ∀ d ∈ ns, d.lam < ls.length) (order : List Nat) (i : Nat) (d : NodeD)
    (hd : ns[i]? = some d) (hi : i ∈ order)
    (c : Case) (evs : List Ev) (k : Nat) (su : ShareUnit) (hsu : su.node = some i)
    (hu : c.units[k]? = some (shareUnit ls ns (compileAll FactsC10.lambdaNodeOwnsRunnable ls.length ns order) su))
    (e : LogEv) (he : e ∈ (run genFacts (progOf genCF c) evs).log) (hunit : e.unit = k + shiftOf c) :
    e.info = declInfo ls d := by
  rw [tool_call_run_info_own c evs k _ hu e he hunit]
  simp [shareUnit, hsu, lambda_node_run_info_own ls ns hwf order i d hd hi]

/-- every error / panic path of `DefaultChatTemplate.Format`, `ConcurrentRetrieveWithCallback`,
    the router retriever's Router and FusionFunc stages and the multi-query retriever's FusionFunc
    stage reports the unit's end, and the router retriever runs the router it computed
    (source facts) -/
theorem fact_builtin_report_every_path : genBF = BFacts.good := by decide

/-- **template_callbacks_once.** `DefaultChatTemplate.Format` with the regenerated fact: for
    EVERY list of message templates and whichever of them fail to format (a missing variable, a
    missing or ill-typed placeholder value, a template that does not parse, a failing custom
    `MessagesTemplate` — at the first, a middle or the last position), the component fires the
    start callback and then exactly one finishing callback: `OnError` iff some message template
    fails, `OnEnd` otherwise.  Nobody else reports this unit (`wrapper_callbacks_once`: the
    framework adds nothing to a component that fires its own callbacks). -/
theorem template_callbacks_once (fails : List Bool) :
    tplCalls FactsC10.tplErrDeferred fails =
      [Timing.start, if fails.any id then Timing.error else Timing.end_] ∧
    FactsC10.tplStartEndUnconditional = true := by
  have h : FactsC10.tplErrDeferred = true := by decide
  rw [h]
  exact ⟨tplCalls_good fails, by decide⟩

/-- **retrieve_task_callbacks_once.** One task of `ConcurrentRetrieveWithCallback` — the
    retriever returns documents, returns an error, or panics — fires start and then exactly one
    of end / error; likewise each stage (Router, FusionFunc) of the router and multi-query
    retrievers, whether its function fails or not. -/
theorem retrieve_task_callbacks_once (o : TaskOut) (fails : Bool) :
    taskCalls genBF o = [Timing.start, if o.failed then Timing.error else Timing.end_] ∧
    stageCalls FactsC10.routeErrReported fails = [Timing.start, if fails then Timing.error else Timing.end_] ∧
    stageCalls FactsC10.routerFusionErrReported fails = [Timing.start, if fails then Timing.error else Timing.end_] ∧
    stageCalls FactsC10.mqFusionErrReported fails = [Timing.start, if fails then Timing.error else Timing.end_] := by
  rw [fact_builtin_report_every_path]
  have h1 : FactsC10.routeErrReported = true := by decide
  have h2 : FactsC10.routerFusionErrReported = true := by decide
  have h3 : FactsC10.mqFusionErrReported = true := by decide
  rw [h1, h2, h3]
  exact ⟨taskCalls_good o, stageCalls_good fails, stageCalls_good fails, stageCalls_good fails⟩

/-- **builtin_units_paired.** For every shape of the family (chat-template nodes with any
    message templates, router retrievers with any route outcome / selected retrievers / fusion,
    multi-query retrievers with a rewriting handler or the LLM chain containing a chat template
    of its own, plain lambdas, nested graphs), with a fault at ANY point — any message template,
    the router function, any retriever failing or panicking, the fusion function, the rewriting
    chain's model or parser — every execution unit of the run (the called graph, nested graphs,
    the nodes, the stages and tasks inside a retriever, the rewriting chain and its nodes) has
    the program "one start, then one finishing callback". -/
theorem builtin_units_paired (sh : BShape) (u : UnitSpec) (hu : u ∈ bUnits genBF sh) :
    ∃ s e, kindProg genCF u.kind = [s, e] ∧ s.isStart = true ∧ e.isStart = false := by
  rw [fact_builtin_report_every_path] at hu
  exact paired_bUnits (cf := genCF) (by decide) (by decide) (by decide) sh u hu

/-- a chat-template node of the called graph is a unit of the run, reported by the component
    itself with the node's run info: start, then error iff one of its message templates fails -/
theorem template_node_unit (sh : BShape) (key : String) (fails : List Bool)
    (hn : BTop.node (.tpl key fails) ∈ sh.nodes) :
    (⟨[key], false, tplInfo (nodeName [key]),
      .self [Timing.start, if fails.any id then Timing.error else Timing.end_], true⟩ : UnitSpec) ∈ bUnits genBF sh := by
  rw [fact_builtin_report_every_path]
  simp only [bUnits, List.mem_cons, List.mem_append, List.mem_flatMap]
  refine Or.inr (Or.inl ⟨_, hn, ?_⟩)
  simp [bTopUnits, bNodeUnits, BFacts.good, tplCalls_good]

/-- **builtin_started_implies_finished_once.** In a run over any shape of the family, with
    handlers supplied in any way (`c`: global, caller context, options, designated), in every
    interleaving of the units' steps: once a unit has fired its program, every handler of its
    list that filters nothing got exactly as many start callbacks as it occurs in the list and
    exactly as many finishing callbacks — also when the unit is a self-firing component whose
    formatting / routing / retrieving / fusing failed. -/
theorem builtin_started_implies_finished_once (sh : BShape) (c : Case) (hc : c.units = bUnits genBF sh)
    (evs : List Ev) (k : Nat) (u : UnitSpec) (hu : c.units[k]? = some u)
    (hfin : (run genFacts (progOf genCF c) evs).pc (k + shiftOf c) = 2) (h : Hd) (hall : h.mask = none) :
    countStart (run genFacts (progOf genCF c) evs).log (k + shiftOf c) h =
      (spec (progOf genCF c) (k + shiftOf c) ++ (progOf genCF c).globals).count h ∧
    countFinish (run genFacts (progOf genCF c) evs).log (k + shiftOf c) h =
      (spec (progOf genCF c) (k + shiftOf c) ++ (progOf genCF c).globals).count h := by
  have hmem : u ∈ bUnits genBF sh := by rw [← hc]; exact List.mem_of_getElem? hu
  obtain ⟨s, e, hk, hs, he⟩ := builtin_units_paired sh u hmem
  have hprog := unitProg_progOf genCF c k u hu
  rw [hk] at hprog
  exact paired_unit_finished_once _ evs _ s e hprog hs he hfin h hall

/-- **detached_context_overwrites.** A context made with `callbacks.InitCallbacks(ctx, info, s...)`
    — whatever `ctx` is: a fresh context or the context of a unit of the run (`d.parent`), whatever
    handlers and run info that context carries, in every interleaving — has exactly the handlers
    `s` (none, if none were passed) and every event fired under it carries `info`. -/
theorem detached_context_overwrites (P : Prog) (evs : List Ev) (i : Nat) (d : UnitDecl) (s : Slice)
    (hd : P.units[i]? = some d) (hk : d.kind = .init s) :
    (∀ hs, handlersFor (run genFacts P evs) i = some hs → hs = P.arrays.read s) ∧
    (∀ e ∈ (run genFacts P evs).log, e.unit = i → e.info = d.info ∧ (e.h ∈ P.arrays.read s ∨ e.h ∈ P.globals)) := by
  refine ⟨fun hs hc => handlers_exact_init P evs i d s hd hk hs hc, ?_⟩
  intro e he hu
  obtain ⟨h1, h2, _, _⟩ := no_cross_node P evs e he
  rw [hu] at h1 h2
  rw [spec_init hd hk, List.mem_append] at h1
  exact ⟨by rw [h2]; exact unitInfo_of hd, h1⟩

/-- **no_leak_below_detached.** "A handler attached to one node is never invoked for [work
    detached from it]": let `i` be a context made with `InitCallbacks` (zero handlers or its own
    handlers `s`) on top of ANY context of the run, and `j` any unit below it — `i` itself, a
    `ReuseHandlers` context, an inner graph invoked under it, that graph's nodes and tool calls, to
    any depth.  A handler `h` that is not among `s`, not global, and not attached at one of the
    steps below `i` (e.g. a handler designated to the surrounding node, or passed to the outer
    call) is never invoked for `j`, in any interleaving of all units of the run. -/
theorem no_leak_below_detached (P : Prog) (evs : List Ev) (i : Nat) (d : UnitDecl) (s : Slice)
    (hd : P.units[i]? = some d) (hk : d.kind = .init s) (j : Nat) (hb : Below P i j) (h : Hd)
    (hnotOwn : h ∉ P.arrays.read s) (hnotGlobal : h ∉ P.globals)
    (hnotInside : ∀ k dk, Below P i k → P.units[k]? = some dk → dk.kind = .append → h ∉ dk.desig) :
    ∀ e ∈ (run genFacts P evs).log, e.unit = j → e.h ≠ h := by
  intro e he hu hh
  have h1 := (no_cross_node P evs e he).1
  rw [hu, hh, List.mem_append] at h1
  rcases h1 with h1 | h1
  · rcases spec_below_init hd hk hb h h1 with h2 | ⟨k, dk, hbk, _, hdk, hkk, hin⟩
    · exact hnotOwn h2
    · exact hnotInside k dk hbk hdk hkk hin
  · exact hnotGlobal h1

/-- a context made with `InitCallbacks(ctx, info)` — no handlers — in a process without global
    handlers is silent: no handler at all is invoked for what is fired under it -/
theorem detached_without_handlers_is_silent (P : Prog) (evs : List Ev) (i : Nat) (d : UnitDecl) (s : Slice)
    (hd : P.units[i]? = some d) (hk : d.kind = .init s) (hempty : P.arrays.read s = []) (hg : P.globals = []) :
    projLog (run genFacts P evs).log i = [] := by
  rw [unit_trace, spec_init hd hk, hempty, hg, List.append_nil]
  generalize (unitProg P i).take ((run genFacts P evs).pc i) = ts
  induction ts with
  | nil => rfl
  | cons t ts ih => simp [render, dispatch, ih]

/-- **run_units_once_whatever_nodes_detach.** In a run whose nodes derive contexts with
    `InitCallbacks` (without / with handlers of their own) and `ReuseHandlers` in any chain and fire
    callbacks, run self-firing components or invoke inner graphs under them (`sh`: any number of
    nodes, work items and derivations), every unit of the run itself — the called graph, each node,
    `join` — delivers to every handler of its own list that filters nothing exactly as many start
    callbacks as the handler occurs in the list (one, if passed once) and exactly as many
    finishing callbacks, in every interleaving with everything else, detached work included:
    nothing fired under a derived context is reported as the node's. -/
theorem run_units_once_whatever_nodes_detach (globals : List Hd) (userInit : Option (List Hd × Nat))
    (opts : List Opt) (sh : DShape) (evs : List Ev) (k : Nat) (u : UnitSpec) (hu : (dBaseUnits sh)[k]? = some u)
    (h : Hd) (hall : h.mask = none) :
    let P := detProg genCF globals userInit opts sh
    let i := k + (if userInit.isSome then 1 else 0)
    (run genFacts P evs).pc i = 2 →
    countStart (run genFacts P evs).log i h = (spec P i ++ P.globals).count h ∧
    countFinish (run genFacts P evs).log i h = (spec P i ++ P.globals).count h := by
  intro P i hfin
  have hprog := unitProg_detProg genCF globals userInit opts sh k u hu
  have hnotSelf : ∀ own, u.kind ≠ .self own := by
    have hm := List.mem_of_getElem? hu
    simp only [dBaseUnits, List.mem_cons, List.mem_append, List.mem_map] at hm
    rcases hm with rfl | ⟨n, _, rfl⟩ | hj
    · intro own hc; cases hc
    · intro own hc; cases hc
    · split at hj
      · simp at hj
      · simp only [List.mem_singleton] at hj
        subst hj
        intro own hc; cases hc
  obtain ⟨s, e, hk, hs, he⟩ := framework_prog_shape u.kind hnotSelf
  rw [hk] at hprog
  exact paired_unit_finished_once P evs i s e hprog hs he hfin h hall

/-- each handler gets its own copy and the flow continues with yet another one -/
theorem stream_copies_distinct (n : Nat) (hn : 0 < n) :
    let a := assignCopies FactsC10.streamCopyExtra n
    a.1 = List.range n ∧ a.2.1 = some n ∧ a.2.2 = n + 1 ∧ n ∉ a.1 := by
  have h1 : FactsC10.streamCopyExtra = 1 := by decide
  rw [h1]
  have : n ≠ 0 := by omega
  simp [assignCopies, this]

/-- **payload_independent.** Whatever the handlers do with their copies (read fully, read
    partially, close at once, in any interleaving with each other), the copy the flow keeps
    delivers exactly the original item sequence. -/
theorem payload_independent (items : List Nat) (n flow : Nat) (hflow : flow < n) (ops : List ROp)
    (hothers : ∀ op ∈ ops, op.reader ≠ flow) :
    (ops.foldl Copies.apply (Copies.mk' items n)).drain flow items.length = items :=
  drain_after_others items n flow hflow ops hothers

def h (n : Nat) : Hd := ⟨n, none⟩

/-- three graph-level handlers in three options (slice len 3 cap 4), one global handler, two
    parallel nodes with one designated handler each, a tool call below node B -/
def exCase : Case :=
  { globals := [h 9], userInit := none,
    opts := [⟨[h 1], []⟩, ⟨[h 2], []⟩, ⟨[h 3], []⟩, ⟨[h 4], [["A"]]⟩, ⟨[⟨5, some 3⟩], [["B"]]⟩],
    units := [⟨[], false, "g", .graph false .ok, true⟩, ⟨["A"], false, "A", .wrapped false .ok, false⟩,
              ⟨["B"], false, "B", .wrapped false .err, false⟩, ⟨["B", "t"], true, "t", .wrapped false .ok, false⟩] }

def exProg : Prog := progOf ⟨true, true, true, true⟩ exCase

example : (buildCbs exCase.opts).2 = ⟨2, 0, 3, 4⟩ := by decide
example : (exProg.units.map (·.parent)) = [none, some 0, some 0, some 2] := by decide
example : spec exProg 1 = [h 1, h 2, h 3, h 4] := by
  rw [spec_append_some (d := ⟨some 0, .append, [h 4], "A", [.start, .end_]⟩) (p := 0) (by rfl) rfl rfl (by decide),
      spec_init (d := ⟨none, .init ⟨2, 0, 3, 4⟩, [], "g", [.start, .end_]⟩) (s := ⟨2, 0, 3, 4⟩) (by rfl) rfl]
  decide
/-- the interleaving A.init, B.init, A.start, B.start, A.end, B.error completes both nodes -/
example : let st := run ⟨true, true, true, true⟩ exProg [.mk 0, .step 0, .mk 1, .mk 2, .step 1, .step 2, .step 1, .step 2]
    st.pc 1 = 2 ∧ st.pc 2 = 2 ∧
    handlersFor st 1 = some [h 1, h 2, h 3, h 4] ∧ handlersFor st 2 = some [h 1, h 2, h 3, ⟨5, some 3⟩] ∧
    (projLog st.log 2).map (fun e => (e.h.id, e.t)) =
      [(9, .start), (5, .start), (3, .start), (2, .start), (1, .start),
       (1, .error), (2, .error), (3, .error), (9, .error)] := by decide

/-! ## negations: what goes wrong with the other value of each fact -/

/-- **The defect of the unfixed tree** (`appendHandlersCopies = false`): with three
    graph-level handlers passed in three options (len 3, cap 4) and two parallel nodes with
    one designated handler each, in *either* order of the two nodes' init steps one node ends
    up with the other node's handler in its list … -/
theorem cross_node_with_inplace_append :
    ∀ evs ∈ [[Ev.mk 0, .mk 1, .mk 2], [Ev.mk 0, .mk 2, .mk 1]],
      handlersFor (run ⟨false, false, true, true⟩ exProg evs) 1 ≠ some [h 1, h 2, h 3, h 4] ∨
      handlersFor (run ⟨false, false, true, true⟩ exProg evs) 2 ≠ some [h 1, h 2, h 3, ⟨5, some 3⟩] := by
  decide

/-- … and the handler designated to node A only is delivered with node B's run info. -/
theorem cross_node_event_with_inplace_append :
    (⟨2, "B", h 4, .start⟩ : LogEv) ∈
      (run ⟨false, false, true, true⟩ exProg [.mk 0, .step 0, .mk 2, .mk 1, .step 1, .step 2]).log := by
  decide

/-- `On` appending the global handlers to `mgr.handlers` in place (`onCopies = false`), even
    with a copying `AppendHandlers`: two contexts the caller built over one backing array
    (`hs[:3]` and `hs[:4]`); firing a callback on the first overwrites `hs[3]` with the global
    handler, so the second unit delivers to the global handler twice and never to `hs[3]`. -/
theorem caller_slice_scribbled_with_inplace_on :
    let P : Prog := ⟨[[h 1, h 2, h 3, h 4]], [h 9],
      [⟨none, .init ⟨0, 0, 3, 4⟩, [], "u0", [.start]⟩, ⟨none, .init ⟨0, 0, 4, 4⟩, [], "u1", [.start]⟩]⟩
    let st := run ⟨true, false, true, true⟩ P [.mk 0, .mk 1, .step 0, .step 1]
    handlersFor st 1 = some [h 1, h 2, h 3, h 9] ∧
    (projLog st.log 1).map (fun e => e.h.id) = [9, 9, 3, 2, 1] := by
  decide

/-- **The early return before `onError`** (`wrapperOnErrorAlways = false`): a node execution or
    tool call that interrupts gets its start callback and nothing else … -/
theorem interrupt_unpaired_with_early_return (startStream : Bool) :
    wrapperCalls false startStream .intr = [startT startStream] := rfl

/-- a ToolsNode `T` with one tool `t` that fires its own callbacks, one graph-level handler -/
def toolCase : Case :=
  { globals := [], userInit := none, opts := [⟨[h 1], []⟩],
    units := [⟨[], false, "g", .graph false .ok, true⟩, ⟨["T"], false, "T", .wrapped false .ok, false⟩,
              ⟨["T", "t"], true, "t", .self [.start, .end_], true⟩] }

/-- … and on the unit machine: a node that interrupts delivers one start and no finishing
    callback to the graph-level handler. -/
theorem interrupt_unpaired_on_machine :
    let c : Case := { toolCase with units := [⟨[], false, "g", .graph false .lateErr, true⟩,
                                              ⟨["A"], false, "A", .wrapped false .intr, false⟩] }
    let P := progOf ⟨true, true, false, true⟩ c
    (projLog (run ⟨true, true, true, true⟩ P (seqSchedule P)).log 1).map (fun e => (e.h.id, e.t)) = [(1, .start)] := by
  decide

/-- **Tool calls made in the ToolsNode's own context** (`toolRunInfoUnconditional = false`): the
    callbacks a callback-enabled tool fires are delivered with the ToolsNode's RunInfo. -/
theorem tool_fires_under_toolsnode_info_when_conditional :
    let P := progOf ⟨true, true, true, false⟩ toolCase
    (⟨2, "T", h 1, .start⟩ : LogEv) ∈ (run ⟨true, true, true, true⟩ P (seqSchedule P)).log ∧
    ∀ e ∈ (run ⟨true, true, true, true⟩ P (seqSchedule P)).log, e.info ≠ "t" := by
  decide

/-- with the facts of the source the same tool's callbacks carry its own RunInfo -/
example : let P := progOf ⟨true, true, true, true⟩ toolCase
    (projLog (run ⟨true, true, true, true⟩ P (seqSchedule P)).log 2).map (fun e => (e.info, e.t)) =
      [("t", .start), ("t", .end_)] := by decide

/-- non-vacuity of `run_units_paired`: a lambda that interrupts next to a ToolsNode one of whose
    two tools (callback-enabled) interrupts; first run: 5 units + no join; resumed run: the same
    units run again, then `join` -/
def exShape : Shape :=
  ⟨false, [.inner (.lam "A" .i false true),
           .inner (.tools "T" [⟨"t1", true, false, true, true⟩, ⟨"t2", false, true, false, false⟩])]⟩

-- `decide +kernel`, here and at the other large test vectors of this file: the kernel evaluates
-- the closed term directly; the elaborator's own evaluation of it is several times slower.
example : (runUnits exShape true).map (fun u => (u.info, kindProg ⟨true, true, true, true⟩ u.kind)) =
    [("G||Graph", [.start, .error]), ("n:A|Li|Lambda", [.start, .error]), ("n:T||ToolsNode", [.start, .error]),
     ("t1|Tt1|Tool", [.start, .error]), ("t2|Tt2|Tool", [.start, .endStream])] := by decide +kernel
example : (runUnits exShape false).map (fun u => (u.info, kindProg ⟨true, true, true, true⟩ u.kind)) =
    [("G||Graph", [.start, .end_]), ("n:A|Li|Lambda", [.start, .end_]), ("n:T||ToolsNode", [.start, .end_]),
     ("t1|Tt1|Tool", [.start, .end_]), ("t2|Tt2|Tool", [.start, .endStream]), ("n:join|Li|Lambda", [.start, .end_])] := by decide +kernel

/-- one Lambda value, of type "T" -/
def shareLs : List LamD := [⟨.i, false, "T"⟩]
/-- two nodes, named "A" and "B", both holding Lambda 0 of `shareLs`, no input / output keys -/
def shareNs : List NodeD := [⟨0, "A", false⟩, ⟨0, "B", false⟩]

/-- **One runnable shared by all nodes of a Lambda value** (`lambdaNodeOwnsRunnable = false`,
    the code before the fix): the same Lambda under the keys `a` (name "A") and `b` (name "B"),
    no input / output keys.  Whichever node is compiled last wins: both nodes report its name. -/
theorem lambda_node_reports_foreign_name_when_shared :
    runInfo shareLs (compileAll false 1 shareNs [0, 1]) 0 = some "B|T|Lambda" ∧
    runInfo shareLs (compileAll false 1 shareNs [1, 0]) 1 = some "A|T|Lambda" ∧
    declInfo shareLs ⟨0, "A", false⟩ = "A|T|Lambda" := by
  decide

/-- with the facts of the source both orders give every node its own name; a node with an
    input / output key reports its own name even over a shared runnable (the wrapper is a copy
    taken at the node's own compile step) -/
example : (runInfo shareLs (compileAll true 1 shareNs [0, 1]) 0, runInfo shareLs (compileAll true 1 shareNs [0, 1]) 1,
           runInfo shareLs (compileAll true 1 shareNs [1, 0]) 0, runInfo shareLs (compileAll true 1 shareNs [1, 0]) 1) =
    (some "A|T|Lambda", some "B|T|Lambda", some "A|T|Lambda", some "B|T|Lambda") := by decide
example : let ns : List NodeD := [⟨0, "A", true⟩, ⟨0, "B", true⟩, ⟨0, "C", false⟩]
    (runInfo shareLs (compileAll false 1 ns [0, 1, 2]) 0, runInfo shareLs (compileAll false 1 ns [0, 1, 2]) 1,
     runInfo shareLs (compileAll false 1 ns [2, 1, 0]) 0, runInfo shareLs (compileAll false 1 ns [2, 1, 0]) 2) =
    (some "A|T|Lambda", some "B|T|Lambda", some "A|T|Lambda", some "A|T|Lambda") := by decide

/-- **The deferred error report that never sees the error** (`tplErrDeferred = false`: e.g. the
    named results of `Format` replaced by a local `err` that the loop's `msgs, err :=` shadows):
    a chat template one of whose message templates fails fires the start callback only … -/
theorem template_error_unreported_when_shadowed (fails : List Bool) (hf : fails.any id = true) :
    tplCalls false fails = [Timing.start] := by
  unfold tplCalls
  simp [tplBody_calls, hf]

/-- a chat-template node `A` whose second message template fails, a router retriever `R` one of
    whose two selected retrievers panics, one graph-level handler -/
def builtinShape : BShape :=
  ⟨false, [.node (.tpl "A" [false, true, false]),
           .node (.router "R" ⟨.ok, [("RA", .ok), ("RB", .panic)], false⟩)]⟩

/-- … and on the unit machine the graph-level handler gets `A`'s start and nothing else. -/
theorem template_error_unreported_on_machine :
    let c : Case := { globals := [], userInit := none, opts := [⟨[h 1], []⟩],
                      units := bUnits { BFacts.good with tplErrDeferred := false } builtinShape }
    let P := progOf ⟨true, true, true, true⟩ c
    (projLog (run ⟨true, true, true, true⟩ P (seqSchedule P)).log 1).map (fun e => (e.info, e.h.id, e.t)) =
      [("n:A|Default|ChatTemplate", 1, .start)] := by
  decide +kernel

/-- non-vacuity of `builtin_units_paired`: the units of `builtinShape` with the facts of the
    source — the failing template reports an error, the panicking retriever too, the fusion
    stage is not reached, `join` does not run -/
example : (bUnits BFacts.good builtinShape).map (fun u => (u.info, kindProg ⟨true, true, true, true⟩ u.kind)) =
    [("G||Graph", [.start, .error]), ("n:A|Default|ChatTemplate", [.start, .error]),
     ("n:R|Router|Retriever", [.start, .error]), ("RouterLambda|Router|Lambda", [.start, .end_]),
     ("RARetriever|RA|Retriever", [.start, .end_]), ("RBRetriever|RB|Retriever", [.start, .error])] := by decide +kernel

/-- a multi-query retriever whose rewriting chain contains a chat template that fails -/
example : (bUnits BFacts.good ⟨true, [.node (.mq "M" ⟨.llm [true] false false, "RO", [.ok], false⟩)]⟩).map
      (fun u => (u.info, kindProg ⟨true, true, true, true⟩ u.kind)) =
    [("G||Graph", [.startStream, .error]), ("n:M|MultiQuery|Retriever", [.start, .error]),
     ("QueryRewrite||Chain", [.start, .error]), ("Converter||Lambda", [.start, .end_]),
     ("|Default|ChatTemplate", [.start, .error])] := by decide +kernel

/-- **The default router that is computed and then dropped** (`routerDefaultInstalled = false`,
    `routerRetriever{router: config.Router}`): a router retriever configured without `Router`
    calls a nil function after the Router stage's `OnStart` — the stage and the node are started
    and never finished. -/
theorem router_default_lost_when_not_installed :
    (bUnits { BFacts.good with routerDefaultInstalled := false }
        ⟨false, [.node (.router "R" ⟨.dflt, [("RA", .ok)], false⟩)]⟩).map
      (fun u => (u.info, kindProg ⟨true, true, true, true⟩ u.kind)) =
    [("G||Graph", [.start, .error]), ("n:R|Router|Retriever", [.start]),
     ("RouterLambda|Router|Lambda", [.start])] := by decide +kernel

/-- with the default installed the same retriever routes to every registered retriever -/
example : (bUnits BFacts.good ⟨false, [.node (.router "R" ⟨.dflt, [("RA", .ok)], false⟩)]⟩).map
      (fun u => (u.info, kindProg ⟨true, true, true, true⟩ u.kind)) =
    [("G||Graph", [.start, .end_]), ("n:R|Router|Retriever", [.start, .end_]),
     ("RouterLambda|Router|Lambda", [.start, .end_]), ("RARetriever|RA|Retriever", [.start, .end_]),
     ("FusionFuncLambda|FusionFunc|Lambda", [.start, .end_]), ("n:join|Li|Lambda", [.start, .end_])] := by decide +kernel

/-- a node `A` that detaches a piece of work with `callbacks.InitCallbacks(ctx, info)` and fires
    start / end under the detached context, and then invokes a compiled inner graph under a second
    detached context; a handler `h 1` passed to the outer call and `h 2` designated to `A` -/
def detShape : DShape :=
  ⟨false, [⟨"A", false, [⟨[.init0], .fire false⟩, ⟨[.init0], .graph [] false⟩]⟩]⟩

def detProgDemo : Prog := detProg ⟨true, true, true, true⟩ [] none [⟨[h 1], []⟩, ⟨[h 2], [["A"]]⟩] detShape

/-- with the facts of the source: the node is reported once (start, end) to both handlers, and
    nothing of the detached work reaches them -/
example : let P := detProgDemo
    (run ⟨true, true, true, true⟩ P (seqSchedule P)).log.map (fun e => (e.info, e.h.id, e.t)) =
      [("G||Graph", 1, .start), ("G||Graph", 1, .end_),
       ("n:A|Li|Lambda", 2, .start), ("n:A|Li|Lambda", 1, .start), ("n:A|Li|Lambda", 1, .end_), ("n:A|Li|Lambda", 2, .end_),
       ("n:join|Li|Lambda", 1, .start), ("n:join|Li|Lambda", 1, .end_)] := by decide +kernel

/-- **`InitCallbacks` that returns the context untouched when there is nothing to install**
    (`initInstalls = false`): the detached work of node `A` is delivered to the run's handlers — also
    to the handler designated to `A` — under `A`'s own run info (a second start and a second end of
    the node), and the handler designated to `A` is invoked for the inner graph and its node. -/
theorem node_handlers_hear_detached_work_when_init_keeps_ctx :
    let P := detProgDemo
    let log := (run ⟨true, true, true, false⟩ P (seqSchedule P)).log
    (projLog log 3).map (fun e => (e.info, e.h.id, e.t)) =
      [("n:A|Li|Lambda", 2, .start), ("n:A|Li|Lambda", 1, .start), ("n:A|Li|Lambda", 1, .end_), ("n:A|Li|Lambda", 2, .end_)] ∧
    (⟨5, "ig:A.1||Graph", h 2, .start⟩ : LogEv) ∈ log ∧ (⟨6, "is:A.1|Li|Lambda", h 2, .start⟩ : LogEv) ∈ log := by
  decide +kernel

/-- **A start callback fired in the body before the restore, with the flag set only after it**
    (`startSetsFlag = false`): a refused restore makes the deferred block fire the start again —
    one execution reports start, start, error. -/
theorem restore_failure_starts_twice_when_flag_set_late (isStream : Bool) :
    restoreFailCalls false true true isStream true = [startT isStream, startT isStream, Timing.error] := rfl

/-- non-vacuity: a lambda and a nested graph interrupt; the resume is refused for the nested graph -/
example : (failedResumeUnits ⟨false, [.inner (.lam "A" .i false true), .sub "S" [.lam "X" .i false true]]⟩ (.sub "S")).map
      (fun u => (u.info, kindProg ⟨true, true, true, true⟩ u.kind)) =
    [("G||Graph", [.start, .error]), ("n:A|Li|Lambda", [.start, .end_]), ("n:S||Graph", [.start, .error])] := by decide

/-- without the deferred block a failing run never reports its end;
    with a deferred block that does not check `haveOnStart` an early error return has no start -/
theorem graph_end_lost_without_defer :
    runCalls false true false .lateErr = [.start] ∧ runCalls true false false .earlyErr = [.error] := by
  decide

/-- with `cpy(len(handlers))` the flow would share the last handler's copy -/
theorem flow_shares_copy_without_extra : (assignCopies 0 2).2.1 = some 1 ∧ 1 ∈ (assignCopies 0 2).1 := by
  decide

end EinoV.C10
