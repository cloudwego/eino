/-
  C11 — Graph state is per run and accessed under mutual exclusion.
  Property theorems.  Model: EinoV/Model/C11.lean.  Source facts: EinoV/Gen/FactsC11.lean
  (regenerated from /repo on every run).

  Reading guide.  A *thread* is one task pipeline (pre-handler, body with its
  `ProcessState` calls, post-handler) — `Task.prog`; `run locks guard sched sys` executes
  the micro-steps lock / load / store / unlock of the picked threads; `sched : List Nat`
  is an arbitrary interleaving and `guard` an arbitrary additional scheduling restriction
  (so the theorems cover the engine's real schedules — the run loop executing pre- and
  post-handlers sequentially, `submit` batches, the inline first task, eager and lock-step
  modes — and every other one).  `arun order` executes whole operations atomically.
-/
import EinoV.Model.C11
import EinoV.Proofs.C11
import EinoV.Model.C11Paths
import EinoV.Proofs.C11Paths
import EinoV.Model.C11Late
import EinoV.Proofs.C11Late
import EinoV.Model.C11Loop
import EinoV.Proofs.C11Loop
import EinoV.Gen.FactsC11
import EinoV.Expected.C11

namespace EinoV.C11
open EinoV.Gen

/-- the lock table as extracted from compose/state.go on this run -/
def srcLocks : LockFacts :=
  { pre := FactsC11.lockPre, post := FactsC11.lockPost, streamPre := FactsC11.lockStreamPre,
    streamPost := FactsC11.lockStreamPost, process := FactsC11.lockProcess,
    getState := FactsC11.getStateCallerLocked }

/-- Source fact tie: the regenerated facts are the ones the model is run with. -/
theorem facts_match :
    srcLocks = Expected.C11.locks ∧
    FactsC11.mutexPerState = Expected.C11.mutexPerState ∧
    FactsC11.genPerRun = Expected.C11.genPerRun ∧
    FactsC11.cpSavesState = Expected.C11.cpSavesState ∧
    FactsC11.cpRestoredBeforeTasks = Expected.C11.cpRestoredBeforeTasks ∧
    FactsC11.preBeforeSpawn = Expected.C11.preBeforeSpawn ∧
    FactsC11.postAfterDone = Expected.C11.postAfterDone ∧
    FactsC11.cpSavesOwnStateOnly = Expected.C11.cpSavesOwnStateOnly ∧
    FactsC11.nodePathFresh = Expected.C11.nodePathFresh := by decide

/-- Every one of the five wrappers of state.go holds the mutex of the state object
    (`mutexPerState`: the mutex that lives in the same `internalState`) around the user
    call. -/
theorem wrappers_lock :
    FactsC11.mutexPerState = true ∧ ∀ w, w ≠ Wrapper.getState → srcLocks.of w = true := by
  refine ⟨by decide, ?_⟩
  intro w hw
  cases w <;> first | rfl | exact absurd rfl hw

variable {S V : Type}

/-- **mutual_exclusion.** In every reachable configuration at most one pre-handler,
    post-handler or `ProcessState` callback is inside its user function, it holds the
    mutex, and what it has read of the state is still current. -/
theorem mutual_exclusion (guard : Sys S V → Nat → Bool) (sched : List Nat) (s0 : S)
    (ths : List (List (Op S V) × V)) (h : NoGetState ths) :
    let fin := run srcLocks.of guard sched (init s0 ths)
    (∀ i j, fin.phase i ≠ .idle → fin.phase j ≠ .idle → i = j) ∧
    (∀ i, fin.phase i ≠ .idle → fin.holder = some i) ∧
    (∀ i snap, fin.phase i = .loaded snap → snap = fin.core.shared) := by
  intro fin
  have hinv := (run_facts guard sched s0 ths (allLocked_of_noGetState wrappers_lock.2 h s0 [])).1
  refine ⟨?_, hinv.holds, hinv.fresh⟩
  intro i j hi hj
  have h1 := hinv.holds i hi
  have h2 := hinv.holds j hj
  rw [h1] at h2; cases h2; rfl

/-- **no_lost_update.** For every interleaving of the micro-steps of any number of
    concurrently running pipelines: the configuration reached is one the atomic machine
    reaches for some serial order of whole operations (`order`); the state is the fold of
    the committed operations in log order; every operation returned what its function
    returns at its place in that serial order; and the committed operations together with
    the ones still to run are exactly the operations of the program (none lost, none
    executed twice). -/
theorem no_lost_update (guard : Sys S V → Nat → Bool) (sched : List Nat) (s0 : S)
    (ths : List (List (Op S V) × V)) (h : NoGetState ths) :
    let fin := run srcLocks.of guard sched (init s0 ths)
    (∃ order, fin.core = arun order ⟨s0, ths, []⟩) ∧
    fin.core.shared = replay s0 fin.core.log ∧
    Returns s0 fin.core.log ∧
    (fin.core.log.map (·.op) ++ remaining fin.core).Perm (ths.map (·.1)).flatten := by
  intro fin
  obtain ⟨_, ho, hf⟩ := run_facts guard sched s0 ths (allLocked_of_noGetState wrappers_lock.2 h s0 [])
  exact ⟨ho, hf.shared_eq, hf.returns, hf.conserve⟩

/-- **no_lost_update, commutative updates: the exact value.** If the effect of every
    operation on the state is a function `g o` of the state alone and these effects
    commute pairwise (counters incremented, set insertions …), then once all pipelines
    have finished the state is exactly the fold of *all* operations in program order —
    whatever the interleaving was. -/
theorem no_lost_update_commutative (guard : Sys S V → Nat → Bool) (sched : List Nat) (s0 : S)
    (ths : List (List (Op S V) × V)) (h : NoGetState ths) (g : Op S V → S → S)
    (hg : ∀ o ∈ (ths.map (·.1)).flatten, ∀ s v,
        (match o with | .st _ f => (f s v).1 | .loc _ => s) = g o s)
    (hcomm : ∀ o₁ ∈ (ths.map (·.1)).flatten, ∀ o₂ ∈ (ths.map (·.1)).flatten, ∀ s,
        g o₂ (g o₁ s) = g o₁ (g o₂ s))
    (hdone : allDone (run srcLocks.of guard sched (init s0 ths)).core = true) :
    (run srcLocks.of guard sched (init s0 ths)).core.shared
      = ((ths.map (·.1)).flatten).foldl (fun s o => g o s) s0 := by
  obtain ⟨_, hsh, _, hperm⟩ := no_lost_update guard sched s0 ths h
  exact shared_eq_foldl_of_commute hsh hperm hdone g hg hcomm

/-- **pre_before_post.** In every trace, for every task: the operations it has committed,
    in commit order, followed by the ones it has not yet executed, are its pipeline
    `pre :: body ++ [post]` — the pre-handler is committed before any operation of the
    body, the post-handler after all of them.  (`preBeforeSpawn`/`postAfterDone`: `submit`
    runs the pre-processor and stores its result before the body is started, `waitOne`
    runs the post-processor after receiving the finished task.) -/
theorem pre_before_post (guard : Sys S V → Nat → Bool) (sched : List Nat) (s0 : S)
    (tasks : List (Task S V)) (h : NoGetState (tasks.map Task.thread)) :
    FactsC11.preBeforeSpawn = true ∧ FactsC11.postAfterDone = true ∧
    let fin := run srcLocks.of guard sched (init s0 (tasks.map Task.thread))
    ∀ t k, tasks[t]? = some k →
      (evsOf t fin.core.log).map (·.op) ++ pending fin.core t = k.prog := by
  refine ⟨by decide, by decide, ?_⟩
  intro fin t k hk
  exact thread_order guard sched s0 _ (allLocked_of_noGetState wrappers_lock.2 h s0 []) t
    k.prog k.input (by simp [hk, Task.thread])

/-- **handler_values_flow.** In every trace, for every task: its first operation (the
    pre-handler if there is one) received the task's input, every later operation received
    exactly what the previous one returned — the body what the pre-handler returned, the
    post-handler what the body returned — and the task's current value (`task.output`, what
    `resolveCompletedTasks` hands to the successors once the pipeline is finished) is what
    the last committed operation returned.  `Returns` (in `no_lost_update`) pins each
    returned value to the handler's function and the state at its place in the serial
    order. -/
theorem handler_values_flow (guard : Sys S V → Nat → Bool) (sched : List Nat) (s0 : S)
    (tasks : List (Task S V)) (h : NoGetState (tasks.map Task.thread)) :
    let fin := run srcLocks.of guard sched (init s0 (tasks.map Task.thread))
    ∀ t k, tasks[t]? = some k →
      ∃ p' v', fin.core.threads[t]? = some (p', v') ∧ Chained k.input (evsOf t fin.core.log) v' := by
  intro fin t k hk
  exact (run_facts guard sched s0 _ (allLocked_of_noGetState wrappers_lock.2 h s0 [])).2.2.flow
    t k.prog k.input (by simp [hk, Task.thread])

/-- **state_fresh_per_run (top-level runs).** Any number of runs of one compiled graph,
    whatever its nesting of stateful and stateless sub-graphs: no state object seen by a
    graph of one run is seen by a graph of another run. -/
theorem state_fresh_per_run (g : GTree) (k next : Nat) :
    (runMany FactsC11.genPerRun g k next).Pairwise
      (fun run₁ run₂ => ∀ a, some a ∈ run₁ → some a ∉ run₂) := by
  have hf : FactsC11.genPerRun = true := by decide
  rw [hf]; exact runMany_pairwise g k next

/-- **state_fresh_per_run (nested).** A nested graph that declares state gets an object
    that is not the one its parent's nodes see, nobody in its subtree sees the parent's,
    and the objects allocated by one run are pairwise distinct.  (`c < next`: the
    parent's object was allocated earlier.) -/
theorem state_fresh_nested (static : Nat) (subs : GTrees) (c next : Nat) (hc : c < next) :
    (∀ x ∈ (runTree FactsC11.genPerRun (.mk (some static) subs) (some c) next).1, x ≠ some c) ∧
    (allocated (.mk (some static) subs) next).1.Nodup := by
  have hf : FactsC11.genPerRun = true := by decide
  rw [hf]
  refine ⟨?_, allocated_nodup _ _⟩
  intro x hx
  simp only [runTree, if_true, List.mem_cons] at hx
  rcases hx with rfl | hx
  · intro h; cases h; omega
  · rcases (runTrees_spec subs (some next) (next + 1)).2 x hx with rfl | ⟨a, rfl, ha⟩
    · intro h; cases h; omega
    · have := (allocateds_bounds subs (next + 1)).2 a ha
      intro h; cases h; omega

/-- a stateless nested graph works on the state of the enclosing graph -/
theorem stateless_nested_inherits (ctx : Option Nat) (next : Nat) :
    (runTree FactsC11.genPerRun (.mk none .nil) ctx next).1 = [ctx] := by
  simp [runTree, runTrees]

/-- **state_across_resume.** The state the restored tasks work on after a resume is the
    caller's modifier applied to the state at the interrupt (the state itself when no
    modifier is given); it is the initial state of the resumed run, whose final state is
    the serial fold of the resumed operations from there (nothing of the first run's
    updates is lost, nothing else is changed).  The first run is any run of any pipelines
    under any interleaving.  (Serialisation of the checkpoint — C12 — is assumed to
    round-trip the state.) -/
theorem state_across_resume (guard₁ guard₂ : Sys S V → Nat → Bool) (sched₁ sched₂ : List Nat)
    (s0 : S) (ths₁ ths₂ : List (List (Op S V) × V)) (m : Option (S → S))
    (h₂ : NoGetState ths₂) :
    let atInt := (run srcLocks.of guard₁ sched₁ (init s0 ths₁)).core.shared
    let s' := match m with | some f => f atInt | none => atInt
    resumeCtx FactsC11.cpRestoredBeforeTasks m (interruptCP FactsC11.cpSavesState (some atInt))
      = some s' ∧
    resumeCore FactsC11.cpRestoredBeforeTasks m (interruptCP FactsC11.cpSavesState (some atInt)) ths₂
      = some ⟨s', ths₂, []⟩ ∧
    let fin := run srcLocks.of guard₂ sched₂ (init s' ths₂)
    fin.core.shared = replay s' fin.core.log ∧
    (fin.core.log.map (·.op) ++ remaining fin.core).Perm (ths₂.map (·.1)).flatten := by
  intro atInt s'
  have h1 : FactsC11.cpRestoredBeforeTasks = true := by decide
  have h2 : FactsC11.cpSavesState = true := by decide
  have hr : resumeCtx FactsC11.cpRestoredBeforeTasks m
      (interruptCP FactsC11.cpSavesState (some atInt)) = some s' := by
    rw [h1, h2]; cases m <;> rfl
  refine ⟨hr, ?_, ?_⟩
  · simp only [resumeCore, hr]
  · obtain ⟨_, hsh, _, hperm⟩ := no_lost_update guard₂ sched₂ s' ths₂ h₂
    exact ⟨hsh, hperm⟩

/-- the top-level resume branch of `runner.run` as extracted from the source -/
def srcTop : ResumeFacts :=
  { saves := FactsC11.cpSavesState, restoresFirst := FactsC11.cpRestoredBeforeTasks,
    setAlways := FactsC11.resumeTopSetAlways, oneHolder := FactsC11.resumeTopOneHolder }

/-- the sub-graph resume branch of `runner.run` as extracted from the source -/
def srcSub : ResumeFacts :=
  { saves := FactsC11.cpSavesState, restoresFirst := FactsC11.cpRestoredBeforeTasks,
    setAlways := FactsC11.resumeSubSetAlways, oneHolder := FactsC11.resumeSubOneHolder }

/-- Source fact tie for the two resume branches: the facts are the ones the oracle runs the
    model with, and the package allocates a state holder (a mutex) in exactly one place per
    way of starting a run: `runCtx` and each resume branch. -/
theorem resume_facts_match :
    srcTop = Expected.C11.topResume ∧ srcSub = Expected.C11.subResume ∧
    FactsC11.holderAllocSites = Expected.C11.holderAllocSites ∧
    FactsC11.holderAllocSites = FactsC11.resumeBranches + 1 := by decide

/-- **state_restored_every_level.** A run interrupted while any number of nested graphs
    were active (`lv`, outermost first; per level the caller's modifier as it acts there —
    `none` when the run is resumed without `WithStateModifier` — and the state in that
    level's context at the interrupt, `none` for a graph without state) is resumed with:
    every level that had a state sees exactly `modifier(that state)`, which is that state
    itself when no modifier is passed — never the enclosing graph's, never nothing; a
    level without state keeps working on what the enclosing level sees. -/
theorem state_restored_every_level (lv : List (Option (S → S) × Option S)) (ctx : Option S) :
    let vis := visible ctx (resumePath srcTop srcSub lv)
    vis.length = lv.length ∧
    (∀ (i : Nat) m s, lv[i]? = some (m, some s) → vis[i]? = some (some (applyMod m s))) ∧
    (∀ (i : Nat) s, lv[i]? = some (none, some s) → vis[i]? = some (some s)) ∧
    (∀ (i : Nat) m, lv[i + 1]? = some (m, none) → vis[i + 1]? = vis[i]?) := by
  intro vis
  have ht : srcTop = ⟨true, true, true, true⟩ := by decide
  have hs : srcSub = ⟨true, true, true, true⟩ := by decide
  have hown : ∀ (i : Nat) m s, lv[i]? = some (m, some s) → vis[i]? = some (some (applyMod m s)) := by
    intro i m s h
    apply visible_own
    rw [resumePath_get srcTop srcSub lv i m (some s) h, ht, hs, ite_self, resumeLevel_own rfl rfl rfl]
  refine ⟨(visible_length _ ctx).trans (resumePath_length srcTop srcSub lv), hown,
    fun i s h => hown i none s h, ?_⟩
  intro i m h
  apply visible_inherited
  rw [resumePath_get srcTop srcSub lv (i + 1) m none h, resumeLevel_none]

/-- **(partial) a nested graph without state keeps working on the enclosing graph's state
    after a resume.**  Full statement (what the property needs): for every resumed level
    that declares no state, whatever its context carried at the interrupt and with or
    without a modifier, nothing is installed for it (`.inherited`), so its nodes go on
    reading and writing the enclosing graph's state.  Proved under the hypothesis that the
    interrupt handlers save the state only for a graph that declares one
    (`cpSavesOwnStateOnly`, extracted from handleInterrupt /
    handleInterruptWithSubGraphAndRerunNodes).  Where that fact is `false` the statement is
    false — `stateless_level_gets_private_copy` — and the harness reports
    `C11:resume:stateless-nested-state-copy` (fix: fixes/C11-stateless-subgraph-state-copy.diff). -/
theorem stateless_level_inherits_after_resume_partial
    (h : FactsC11.cpSavesOwnStateOnly = true) (m : Option (S → S)) (ctxState : Option S) :
    resumeLevel srcSub m (saveAt FactsC11.cpSavesOwnStateOnly false ctxState) = .inherited := by
  rw [h]
  have : saveAt true false ctxState = none := by simp [saveAt]
  rw [this]; exact resumeLevel_none _ _

/-- **One lock per run and level, also after a resume.** Tasks rebuilt from the checkpoint
    (`t < restored`) and tasks the resumed run creates later find the same mutex in their
    contexts, in both resume branches. -/
theorem resume_single_lock (restored : Nat) :
    resumeLockOf srcTop.oneHolder restored = (fun _ => 0) ∧
    resumeLockOf srcSub.oneHolder restored = (fun _ => 0) := by
  have ht : srcTop.oneHolder = true := by decide
  have hs : srcSub.oneHolder = true := by decide
  rw [ht, hs]; exact ⟨resumeLockOf_one restored, resumeLockOf_one restored⟩

/-- both resume branches give every task mutex 0, so a resumed run is a run of the one-mutex
    machine -/
theorem runL_resumed (top : Bool) (restored : Nat) (guard : SysL S V → Nat → Bool) (sched : List Nat)
    (s' : S) (ths : List (List (Op S V) × V)) :
    runL (resumeLockOf (if top then srcTop else srcSub).oneHolder restored) srcLocks.of guard sched
        (initL s' ths) =
      embed 0 (run srcLocks.of (fun s t => guard (embed 0 s) t) sched (init s' ths)) := by
  have hf : resumeLockOf (if top then srcTop else srcSub).oneHolder restored = fun _ => 0 := by
    cases top
    · exact (resume_single_lock restored).2
    · exact (resume_single_lock restored).1
  rw [hf, initL_eq_embed 0, runL_const]

/-- **mutual exclusion and no lost update in a resumed run.** In the machine in which
    every task uses the mutex its own context carries (`runL`, `resumeLockOf`): for every
    number of restored tasks, every interleaving of restored and later-created tasks, every
    scheduling restriction and both resume branches, the conclusions of `mutual_exclusion` and
    `no_lost_update` hold, from the restored state `s'`. -/
theorem no_lost_update_after_resume (top : Bool) (restored : Nat)
    (guard : SysL S V → Nat → Bool) (sched : List Nat) (s' : S)
    (ths : List (List (Op S V) × V)) (h : NoGetState ths) :
    let f := if top then srcTop else srcSub
    let fin := runL (resumeLockOf f.oneHolder restored) srcLocks.of guard sched (initL s' ths)
    (∀ i j, fin.phase i ≠ .idle → fin.phase j ≠ .idle → i = j) ∧
    (∃ order, fin.core = arun order ⟨s', ths, []⟩) ∧
    fin.core.shared = replay s' fin.core.log ∧
    Returns s' fin.core.log ∧
    (fin.core.log.map (·.op) ++ remaining fin.core).Perm (ths.map (·.1)).flatten := by
  intro f fin
  rw [show fin = _ from runL_resumed top restored guard sched s' ths]
  exact ⟨(mutual_exclusion _ sched s' ths h).1, no_lost_update _ sched s' ths h⟩

/-- with commuting updates (counters): N increments give N, whatever the interleaving of
    restored and later-created tasks -/
theorem no_lost_update_after_resume_commutative (top : Bool) (restored : Nat)
    (guard : SysL S V → Nat → Bool) (sched : List Nat) (s' : S)
    (ths : List (List (Op S V) × V)) (h : NoGetState ths) (g : Op S V → S → S)
    (hg : ∀ o ∈ (ths.map (·.1)).flatten, ∀ s v,
        (match o with | .st _ f => (f s v).1 | .loc _ => s) = g o s)
    (hcomm : ∀ o₁ ∈ (ths.map (·.1)).flatten, ∀ o₂ ∈ (ths.map (·.1)).flatten, ∀ s,
        g o₂ (g o₁ s) = g o₁ (g o₂ s))
    (hdone : allDone (runL (resumeLockOf (if top then srcTop else srcSub).oneHolder restored)
        srcLocks.of guard sched (initL s' ths)).core = true) :
    (runL (resumeLockOf (if top then srcTop else srcSub).oneHolder restored)
        srcLocks.of guard sched (initL s' ths)).core.shared
      = ((ths.map (·.1)).flatten).foldl (fun s o => g o s) s' := by
  rw [runL_resumed] at hdone ⊢
  exact no_lost_update_commutative (fun s t => guard (embed 0 s) t) sched s' ths h g hg hcomm hdone

section Examples

/-- `ProcessState(func(s){ s.n += d })` -/
def incOp (w : Wrapper) (d : Nat) : Op Nat Nat := .st w (fun s v => (s + d, v))
/-- a handler that stamps the value with the state and bumps the state -/
def stampOp (w : Wrapper) : Op Nat Nat := .st w (fun s v => (s + 1, 10 * v + s))

/-- two parallel nodes incrementing through `ProcessState`, locks as in the source:
    an interleaving in which the second thread tries to enter while the first is inside -/
example :
    let fin := run srcLocks.of noGuard [0, 1, 0, 1, 0, 0, 1, 1, 1, 1]
      (init 0 [([incOp .process 1], 0), ([incOp .process 1], 0)])
    allDone fin.core = true ∧ fin.core.shared = 2 ∧ fin.holder = none := by decide

/-- two tasks: a full pipeline (pre, body with one ProcessState call and local work, post)
    next to a second one that has a body only -/
def exTasks : List (Task Nat Nat) :=
  [ { input := 1, pre := some (.pre, fun s v => (s + 1, 10 * v + s)),
      body := [.loc (· + 5), incOp .process 100], post := some (.post, fun s v => (s + 1, 10 * v + s)) },
    { input := 2, pre := none, body := [incOp .process 100, .loc (· + 7)], post := none } ]

def exBatch : Batch := { preLen := [1, 0], bodyLen := [2, 2], inline := true }

-- `exTasks` under the engine's own scheduling restriction (`submit` batch of two, first task
-- inline): the run completes — the guard does not make the theorems vacuous — and the values
-- flow pre → body → post.
example :
    let fin := run srcLocks.of (engineGuard exBatch)
      [1, 0, 0, 1, 0, 0, 1, 1, 1, 1, 0, 0, 1, 0, 0, 0, 0, 1, 0, 0, 0, 0]
      (init 0 (exTasks.map Task.thread))
    allDone fin.core = true ∧ fin.core.shared = 202 ∧
    fin.core.threads.map (·.2) = [351, 9] := by decide

/-- the engine restriction really restricts: thread 1's body cannot start before thread 0's
    pre-handler has run -/
example :
    (run srcLocks.of (engineGuard exBatch) [1, 1, 1, 1] (init 0 (exTasks.map Task.thread))).core.log.length = 0 := by
  decide

example : NoGetState (exTasks.map Task.thread) := by
  intro th hth w f hm hw
  subst hw
  simp [exTasks, Task.thread, Task.prog, incOp] at hth
  rcases hth with rfl | rfl <;> simp at hm

end Examples

/-! ## negations for the other values of the facts -/

/-- **Without the lock in `ProcessState` an update is lost**: two parallel nodes, one
    increment each, both read before either writes; everything has finished and the
    counter is 1. -/
theorem lost_update_without_lock :
    let l : LockFacts := { Expected.C11.locks with process := false }
    let fin := run l.of noGuard [0, 1, 0, 1]
      (init 0 [([incOp .process 1], 0), ([incOp .process 1], 0)])
    allDone fin.core = true ∧ fin.core.shared = 1 := by decide

/-- The same when only a handler wrapper loses its lock: an unlocked pre-handler of a
    task submitted later (eager mode) against a `ProcessState` call of a running body that
    does lock. -/
theorem lost_update_unlocked_handler :
    let l : LockFacts := { Expected.C11.locks with pre := false }
    let fin := run l.of noGuard [0, 0, 1, 0, 1, 0]
      (init 0 [([incOp .process 1], 0), ([incOp .pre 1], 0)])
    allDone fin.core = true ∧ fin.core.shared = 1 := by decide

/-- **`GetState` does not protect the caller** (the lock table extracted from the source
    says so): two nodes updating through the pointer `GetState` returned lose an update.
    This is why the property speaks of handlers and `ProcessState` only. -/
theorem getState_access_unprotected :
    let fin := run srcLocks.of noGuard [0, 1, 0, 1]
      (init 0 [([incOp .getState 1], 0), ([incOp .getState 1], 0)])
    allDone fin.core = true ∧ fin.core.shared = 1 := by decide

/-- With a state object generated once (at compile time) instead of inside `runCtx`, two
    runs of the compiled graph share it. -/
theorem state_shared_if_generated_once :
    runMany false (.mk (some 7) .nil) 2 100 = [[some 7], [some 7]] := by decide

/-- A checkpoint that does not carry the state, or a resume that builds the task contexts
    before restoring it, leaves the resumed tasks without the state. -/
theorem state_lost_without_checkpoint_field :
    resumeCtx true (none : Option (Nat → Nat)) (interruptCP false (some 5)) = none ∧
    resumeCtx false (none : Option (Nat → Nat)) (interruptCP true (some 5)) = none := by decide

/-- **Two locks around one state (a second `internalState` for the tasks created after the
    resume): an update is lost.**  Thread 0 is a task restored from the checkpoint, thread 1
    a task created later; each takes "the" mutex of its own context, both read 0, both
    write 1. -/
theorem lost_update_two_locks_after_resume :
    let fin := runL (resumeLockOf false 1) Expected.C11.locks.of (fun _ _ => true)
      [0, 1, 0, 1, 0, 1, 0, 1]
      (initL 0 [([incOp .process 1], 0), ([incOp .process 1], 0)])
    allDone fin.core = true ∧ fin.core.shared = 1 ∧
    resumeLockOf false 1 0 ≠ resumeLockOf false 1 1 := by decide

/-- the same schedule with the lock assignment of the source: the second task waits, both
    increments arrive -/
example :
    let fin := runL (resumeLockOf srcTop.oneHolder 1) srcLocks.of (fun _ _ => true)
      [0, 1, 0, 1, 0, 1, 0, 1, 1, 1, 1, 1]
      (initL 0 [([incOp .process 1], 0), ([incOp .process 1], 0)])
    allDone fin.core = true ∧ fin.core.shared = 2 := by decide

/-- **A sub-graph resume branch that installs the restored state only when a modifier is
    supplied loses the nested state.**  Resumed without a modifier: under a parent with
    state the nested graph's nodes work on the parent's state (1 instead of 2); under a
    stateless parent they find no state at all; with a modifier the same code restores it. -/
theorem nested_state_lost_without_modifier :
    let bad : ResumeFacts := { Expected.C11.subResume with setAlways := false }
    visible none (resumePath Expected.C11.topResume bad
      [((none : Option (Nat → Nat)), some 1), (none, some 2)]) = [some 1, some 1] ∧
    visible none (resumePath Expected.C11.topResume bad
      [((none : Option (Nat → Nat)), none), (none, some 2)]) = [none, none] ∧
    visible none (resumePath Expected.C11.topResume bad
      [(some (· + 10), some 1), (some (· + 10), some 2)]) = [some 11, some 12] := by decide

/-- **A nested graph without state whose interrupt handler saves whatever state its
    context carries is resumed with a state of its own** — a second object restored from its
    own checkpoint, a copy of the enclosing graph's state (5): its nodes no longer write to
    the enclosing graph's state.  With the check `runCtx ≠ nil` nothing is saved and the
    level inherits. -/
theorem stateless_level_gets_private_copy :
    resumeLevel Expected.C11.subResume (none : Option (Nat → Nat)) (saveAt false false (some 5))
      = .own 5 ∧
    resumeLevel Expected.C11.subResume (none : Option (Nat → Nat)) (saveAt true false (some 5))
      = .inherited := by decide

/-- the three situations of `nested_state_lost_without_modifier` with the facts of the source -/
example :
    visible none (resumePath srcTop srcSub
      [((none : Option (Nat → Nat)), some 1), (none, some 2)]) = [some 1, some 2] ∧
    visible none (resumePath srcTop srcSub
      [((none : Option (Nat → Nat)), none), (none, some 2)]) = [none, some 2] ∧
    visible none (resumePath srcTop srcSub
      [(some (· + 10), some 1), (some (· + 10), some 2)]) = [some 11, some 12] := by decide

/-! ## a late `ProcessState` through a captured handler context (Model/C11Late.lean)

  "all state pre-handlers, post-handlers and ProcessState callbacks operating on the same state
  are mutually exclusive … state updates made through these are never lost": also when a
  callback is run by a closure that kept the `context.Context` a handler (or another
  `ProcessState` callback) was given, after that handler has returned — the per-chunk converter of
  the stream a stream handler returns, a goroutine started inside a handler.  The lock is owned by
  a critical section (a time interval of one thread), never by whoever holds a context value. -/

/-- what the five lock sites of compose/state.go do with the context, as extracted on this run -/
def srcCtx : CtxFacts :=
  { handsPlainCtx := FactsC11.handlerCtxPlain, lockUnconditional := FactsC11.lockUnconditional }

/-- **captured_ctx_takes_lock.** (source fact tie) No context — the task's own, or one that a
    wrapper handed to a user function at any time — makes a lock site of the source skip the
    lock: the wrappers hand out their own `ctx` (nothing about the lock can be recorded in it) or
    `Lock` is reached unconditionally.  The same for the facts the oracle runs the model with. -/
theorem captured_ctx_takes_lock : AlwaysLocks srcCtx ∧ AlwaysLocks Expected.C11.ctxFacts := by
  have h : srcCtx.lockUnconditional = true ∨ srcCtx.handsPlainCtx = true := by decide
  refine ⟨?_, alwaysLocks_of_unconditional rfl⟩
  rcases h with h | h
  · exact alwaysLocks_of_unconditional h
  · exact alwaysLocks_of_plain h

/-- **late_process_state_exclusive.** For every assignment `srcs` of contexts to operations —
    any operation of any thread may be called with the context that any critical section handed
    to its user function, while that section is still running or long after it has ended —, every
    interleaving of the lock / load / store / unlock micro-steps and every scheduling restriction
    (`lateGuard srcs`: a closure runs only after the handler that gave it the context has
    returned, is one of them): the conclusions of `mutual_exclusion` and `no_lost_update` hold. -/
theorem late_process_state_exclusive (srcs : Nat → Nat → CtxSrc) (guard : Sys S V → Nat → Bool)
    (sched : List Nat) (s0 : S) (ths : List (List (Op S V) × V)) (h : NoGetState ths) :
    let fin := runK srcCtx srcs srcLocks.of guard sched (init s0 ths)
    (∀ i j, fin.phase i ≠ .idle → fin.phase j ≠ .idle → i = j) ∧
    (∀ i, fin.phase i ≠ .idle → fin.holder = some i) ∧
    (∃ order, fin.core = arun order ⟨s0, ths, []⟩) ∧
    fin.core.shared = replay s0 fin.core.log ∧
    Returns s0 fin.core.log ∧
    (fin.core.log.map (·.op) ++ remaining fin.core).Perm (ths.map (·.1)).flatten := by
  intro fin
  have hfin : fin = run srcLocks.of guard sched (init s0 ths) :=
    runK_eq_run captured_ctx_takes_lock.1 srcs srcLocks.of guard sched (init s0 ths)
  rw [hfin]
  have hme := mutual_exclusion guard sched s0 ths h
  exact ⟨hme.1, hme.2.1, no_lost_update guard sched s0 ths h⟩

/-- **late_updates_all_arrive.** With commuting updates (a closure recording chunks, counters):
    once every pipeline and every closure has finished, the state is the fold of *all* operations
    — the handlers', the bodies' and the late closures' — whatever the interleaving and whatever
    contexts the operations were called with. -/
theorem late_updates_all_arrive (srcs : Nat → Nat → CtxSrc) (guard : Sys S V → Nat → Bool)
    (sched : List Nat) (s0 : S) (ths : List (List (Op S V) × V)) (h : NoGetState ths)
    (g : Op S V → S → S)
    (hg : ∀ o ∈ (ths.map (·.1)).flatten, ∀ s v,
        (match o with | .st _ f => (f s v).1 | .loc _ => s) = g o s)
    (hcomm : ∀ o₁ ∈ (ths.map (·.1)).flatten, ∀ o₂ ∈ (ths.map (·.1)).flatten, ∀ s,
        g o₂ (g o₁ s) = g o₁ (g o₂ s))
    (hdone : allDone (runK srcCtx srcs srcLocks.of guard sched (init s0 ths)).core = true) :
    (runK srcCtx srcs srcLocks.of guard sched (init s0 ths)).core.shared
      = ((ths.map (·.1)).flatten).foldl (fun s o => g o s) s0 := by
  rw [runK_eq_run captured_ctx_takes_lock.1] at hdone ⊢
  exact no_lost_update_commutative guard sched s0 ths h g hg hcomm hdone

/-- The smallest late-closure scenario (seeded change C11-51): thread 0 = node A's stream
    post-handler; thread 1 = sibling B incrementing through `ProcessState`; thread 2 = the
    per-chunk converter of the stream A's post-handler returned, incrementing through
    `ProcessState` with the context that post-handler was given. -/
def lateThs : List (List (Op Nat Nat) × Nat) :=
  [([stampOp .streamPost], 0), ([incOp .process 1], 0), ([incOp .process 1], 0)]

def lateSrcs : Nat → Nat → CtxSrc := fun t _ => if t = 2 then .handed 0 0 else .own

def lateRun (cf : CtxFacts) (sched : List Nat) : Sys Nat Nat :=
  runK cf lateSrcs Expected.C11.locks.of (lateGuard lateSrcs) sched (init 0 lateThs)

/-- A has finished (4 steps), B is inside its callback (2 steps), the closure calls
    `ProcessState` (1 step); then everybody runs to the end -/
def lateSched : List Nat := [0, 0, 0, 0, 1, 1, 2, 1, 2, 1, 2, 2, 2, 2]

/-- **(negation witness) A lock that is skipped on the strength of a record in the context is
    bypassed by a late closure.**  Wrappers that hand out a context recording "lock held"
    (`handsPlainCtx = false`) together with a `ProcessState` that believes the record
    (`lockUnconditional = false`): the closure enters while B is inside its callback — two user
    functions on the state at once, B still the only holder of the mutex — and one of the three
    updates is lost.  Either fact alone is harmless: under the same schedule the closure waits and
    all three updates arrive.  (And no closure runs before its context exists: `lateGuard`.) -/
theorem lock_bypassed_through_captured_ctx :
    let bad : CtxFacts := { handsPlainCtx := false, lockUnconditional := false }
    let mid := lateRun bad (lateSched.take 7)
    let fin := lateRun bad lateSched
    (inside mid 1 = true ∧ inside mid 2 = true ∧ mid.holder = some 1 ∧ insideCount mid 3 = 2) ∧
    (allDone fin.core = true ∧ fin.core.shared = 2) ∧
    (∀ cf ∈ [({ handsPlainCtx := false, lockUnconditional := true } : CtxFacts),
             { handsPlainCtx := true, lockUnconditional := false }],
      insideCount (lateRun cf (lateSched.take 7)) 3 = 1 ∧
      allDone (lateRun cf lateSched).core = true ∧ (lateRun cf lateSched).core.shared = 3) ∧
    lateGuard lateSrcs (init 0 lateThs) 2 = false ∧
    lateGuard lateSrcs (lateRun bad [0, 0, 0]) 2 = true := by decide

/-- the same scenario with the facts of the source: the closure waits for B, nothing is lost -/
example :
    insideCount (lateRun srcCtx (lateSched.take 7)) 3 = 1 ∧
    (lateRun srcCtx (lateSched.take 7)).holder = some 1 ∧
    allDone (lateRun srcCtx lateSched).core = true ∧ (lateRun srcCtx lateSched).core.shared = 3 := by
  decide

/-! ## a node executed again inside a resumed run (Model/C11Loop.lean)

  "a node's pre-handler runs before it and its post-handler after it, and the values they return
  are what the node and its successors receive … carried … across interrupt and resume": a graph
  node whose nested graph interrupted is resumed *without* running its state pre-handler again
  (it ran before the interrupt); when a cycle of the resumed run leads back to the node, every
  further execution is an ordinary one — pre-handler, node, post-handler. -/

/-- **skip_mark_per_task.** (source fact tie) `submit` skips the pre-processor on the strength of
    a bool field of the submitted task, which only `restoreTasks` sets — the value the oracle
    runs the model with. -/
theorem skip_mark_per_task : FactsC11.skipPrePerTask = Expected.C11.skipPrePerTask := by decide

/-- **loop_handlers_once_per_execution.** A node of a resumed run that is executed `n + 1` times
    (execution 0 = the task rebuilt from the checkpoint, `cpSkip` = the checkpoint's
    `SkipPreHandler` entry of the node; executions 1 … n = tasks created when a cycle leads back to
    it), for every `n`, next to any other pipelines, under every interleaving and scheduling
    restriction:
    * every execution after the restored one is the full pipeline pre-handler, body, post-handler;
      the restored one lacks the pre-handler exactly when the checkpoint says it already ran;
    * what the node has committed, in commit order, followed by what it still has to do, is the
      pipeline of executions 0 … n one after the other (each pre-handler before its body, each
      post-handler after it, execution k before execution k+1);
    * once the node is through, the state log holds its pre-handler `n + 1` times (`n` times when
      the restored execution skipped it) and its post-handler `n + 1` times — one record per
      execution, none lost, none doubled;
    * all of them ran under the lock (at most one user function inside at any time). -/
theorem loop_handlers_once_per_execution (guard : Sys S V → Nat → Bool) (sched : List Nat) (s0 : S)
    (ths : List (List (Op S V) × V)) (h : NoGetState ths)
    (t : Nat) (nd : LoopNode S V) (hw : nd.WF) (cpSkip : Bool) (n : Nat) (v0 : V)
    (ht : ths[t]? = some (loopProg FactsC11.skipPrePerTask cpSkip nd n, v0)) :
    let fin := run srcLocks.of guard sched (init s0 ths)
    let done := (evsOf t fin.core.log).map (·.op)
    (∀ k, 1 ≤ k →
      execProg FactsC11.skipPrePerTask cpSkip nd k = hOp nd.pre ++ nd.body k ++ hOp nd.post) ∧
    execProg FactsC11.skipPrePerTask cpSkip nd 0
      = (if cpSkip then [] else hOp nd.pre) ++ nd.body 0 ++ hOp nd.post ∧
    done ++ pending fin.core t
      = (List.range (n + 1)).flatMap (execProg FactsC11.skipPrePerTask cpSkip nd) ∧
    (pending fin.core t = [] →
      List.countP isPreOp done = (if nd.pre.isSome then (if cpSkip then n else n + 1) else 0) ∧
      List.countP isPostOp done = (if nd.post.isSome then n + 1 else 0)) ∧
    (∀ i j, fin.phase i ≠ .idle → fin.phase j ≠ .idle → i = j) := by
  intro fin done
  have hf : FactsC11.skipPrePerTask = true := by decide
  rw [hf] at ht ⊢
  have hl := allLocked_of_noGetState wrappers_lock.2 h s0 []
  have hord : done ++ pending fin.core t = loopProg true cpSkip nd n :=
    thread_order guard sched s0 ths hl t _ v0 ht
  refine ⟨?_, ?_, hord, ?_, (mutual_exclusion guard sched s0 ths h).1⟩
  · intro k hk
    simp [execProg, skipsPre_later cpSkip hk]
  · simp only [execProg, skipsPre_restored]
  · intro hp
    rw [hp, List.append_nil] at hord
    rw [hord]
    exact ⟨countP_pre_loop hw true cpSkip n, countP_post_loop hw true cpSkip n⟩

/-- **(negation) A skip mark that is looked up by node key for the whole resumed run takes the
    pre-handler away from every execution**: for every well-formed node and every number of
    further executions the pipeline contains no pre-handler operation at all (seeded change
    C11-52), while the post-handlers are all there. -/
theorem pre_handler_never_runs_when_skip_is_per_node (nd : LoopNode S V) (hw : nd.WF) (n : Nat) :
    List.countP isPreOp (loopProg false true nd n) = 0 ∧
    List.countP isPostOp (loopProg false true nd n) = (if nd.post.isSome then n + 1 else 0) :=
  ⟨by simp [countP_pre_loop hw], countP_post_loop hw false true n⟩

/-- a graph node with a numbering pre-handler and a post-handler, its nested graph adding 100 -/
def loopEx : LoopNode Nat Nat :=
  { pre := some (.pre, fun s v => (s + 1, 10 * v + s)), body := fun _ => [incOp .process 100],
    post := some (.post, fun s v => (s + 1, 10 * v + s)) }

/-- **(negation witness)** the node resumed and executed twice more: with the mark on the
    restored task the two later pre-handlers run (state 305: 2 pre, 3 × 100, 3 post); with the
    mark per node they do not — their state updates are missing (303) and the nested graph
    receives the raw value (the final value differs). -/
theorem pre_handler_update_lost_when_skip_is_per_node :
    let fin (perTask : Bool) :=
      (run Expected.C11.locks.of noGuard (List.replicate 36 0)
        (init 0 [(loopProg perTask true loopEx 2, 1)])).core
    allDone (fin true) = true ∧ (fin true).shared = 305 ∧
    allDone (fin false) = true ∧ (fin false).shared = 303 ∧
    (fin true).threads.map (·.2) ≠ (fin false).threads.map (·.2) ∧
    List.countP isPreOp (loopProg true true loopEx 2) = 2 ∧
    List.countP isPreOp (loopProg false true loopEx 2) = 0 := by decide

/-- non-vacuity: `loopEx` is well-formed, and with the fact of the source the run above is the
    good one -/
example : loopEx.WF :=
  ⟨by intro w f h; simp [loopEx] at h; exact .inl h.1.symm,
   by intro w f h; simp [loopEx] at h; exact .inl h.1.symm,
   by intro k o ho; simp [loopEx, incOp] at ho; subst ho; exact ⟨rfl, rfl⟩⟩

example :
    (run srcLocks.of noGuard (List.replicate 36 0)
      (init 0 [(loopProg FactsC11.skipPrePerTask true loopEx 2, 1)])).core.shared = 305 := by decide

/-! ## node paths and the caller's modifier (Model/C11Paths.lean)

  "…carried unchanged (apart from caller-supplied modification) across interrupt and resume …
  for every nesting of stateful graphs": the caller's `StateModifier` is told *which* nested
  graph's state it is handed by the node path.  -/

/-- **node_paths_distinct.** In a nest of graph levels of any depth and any fan-out whose
    node keys are unique inside every graph (`LTrees.WF`, what `AddNode` enforces), the
    top-level graph has the empty path, every nested level's path is the enclosing graph's
    path extended by its node key, every path below a graph starts with that graph's path,
    and no two levels — in particular no two sibling graphs — have the same path. -/
theorem node_paths_distinct (saved : Option S) (subs : LTrees S)
    (h : LTrees.WF subs) (hk : (LTrees.keys subs).Nodup) :
    ((nestLevels saved subs).map (·.1)).Nodup ∧
    (nestLevels saved subs).head? = some ([], saved) ∧
    (∀ key sv (ss : LTrees S) (p : List String),
      LTree.levels (.mk key sv ss) p = (p ++ [key], sv) :: LTrees.levels ss (p ++ [key])) ∧
    (∀ (ss : LTrees S) (p : List String), ∀ x ∈ LTrees.levels ss p,
      ∃ k rest, k ∈ LTrees.keys ss ∧ x.1 = p ++ k :: rest) :=
  ⟨nestLevels_nodup saved subs h hk, rfl, fun _ _ _ _ => rfl,
    fun ss p x hx => LTrees.levels_shape ss p x.1 (List.mem_map_of_mem hx)⟩

/-- **modifier_called_once_per_level.** During one resume the caller's modifier is called
    exactly once for every restored level that has a state — with exactly that level's path
    and exactly the state of that level's checkpoint — and for nothing else: the calls carry
    pairwise distinct paths, `(q, s)` is a call iff the level with path `q` saved `s`, and
    there are as many calls as levels with a state. -/
theorem modifier_called_once_per_level (saved : Option S) (subs : LTrees S)
    (h : LTrees.WF subs) (hk : (LTrees.keys subs).Nodup) :
    let lv := nestLevels saved subs
    ((modCalls lv).map (·.1)).Nodup ∧
    (∀ q s, (q, s) ∈ modCalls lv ↔ (q, some s) ∈ lv) ∧
    (modCalls lv).length = (lv.filter (·.2.isSome)).length := by
  intro lv
  exact ⟨(modCalls_paths_sublist lv).nodup (nestLevels_nodup saved subs h hk),
    mem_modCalls lv, modCalls_length lv⟩

/-- **resumed_state_by_path.** With the resume facts of the source, every level of the nest
    that had a state at the interrupt works, after the resume, on exactly
    `modifier path (checkpointed state)` for its *own* path (the checkpointed state itself
    when the run is resumed without a modifier, or when the modifier leaves that path alone);
    a level without state has nothing installed. -/
theorem resumed_state_by_path (m : Option (List String → S → S)) (saved : Option S)
    (subs : LTrees S) :
    resumeNest srcTop srcSub m saved subs =
      (nestLevels saved subs).map (fun x =>
        (x.1, match x.2 with
              | some s => Seen.own (applyMod (m.map (· x.1)) s)
              | none => Seen.inherited)) ∧
    (∀ q s, (q, some s) ∈ nestLevels saved subs → (∀ f, m = some f → f q = id) →
      (q, Seen.own s) ∈ resumeNest srcTop srcSub m saved subs) := by
  have eq1 : resumeNest srcTop srcSub m saved subs =
      (nestLevels saved subs).map (fun x =>
        (x.1, match x.2 with
              | some s => Seen.own (applyMod (m.map (· x.1)) s)
              | none => Seen.inherited)) := by
    simp only [resumeNest, nestLevels, List.map_cons, resumeLevel_eq (f := srcTop) rfl rfl rfl,
      resumeLevel_eq (f := srcSub) rfl rfl rfl]
    rfl
  refine ⟨eq1, ?_⟩
  intro q s hmem hid
  rw [eq1]
  refine List.mem_map.mpr ⟨(q, some s), hmem, ?_⟩
  cases m with
  | none => rfl
  | some f => simp [applyMod, hid f rfl]

/-- **The Go-slice model of `setNodeKey` implements `childPath`** when the child's path is
    built in an array of its own (`fresh`), for every growth policy of `append`: the new
    slice reads the parent's path extended by the key, and every slice that existed before
    — the parent's, every sibling's — still reads what it read. -/
theorem fresh_path_never_overwritten (grow : Nat → Nat) (h : GoHeap) (parent : Option GoSlice)
    (key : String) :
    let r := setNodeKeyM true grow h parent key
    r.2.read r.1 = childPath (match parent with | some p => p.read h | none => []) key ∧
    ∀ s : GoSlice, s.arr < h.length → s.read r.1 = s.read h := by
  intro r
  cases parent with
  | none => exact ⟨goAlloc_read h [key] 1, fun s hs => goAlloc_keeps h [key] 1 s hs⟩
  | some p =>
    by_cases hp : p.len = 0
    · have hr : r = goAlloc h [key] 1 := by simp [r, setNodeKeyM, hp]
      rw [hr]
      refine ⟨?_, fun s hs => goAlloc_keeps h [key] 1 s hs⟩
      rw [goAlloc_read]; simp [childPath, GoSlice.read, hp]
    · have hr : r = goAlloc h (p.read h ++ [key]) (p.len + 1) := by simp [r, setNodeKeyM, hp]
      rw [hr]
      exact ⟨goAlloc_read _ _ _, fun s hs => goAlloc_keeps _ _ _ s hs⟩

/-- **(partial) `setNodeKey` of the source keeps every sibling's path.**  The statement of
    `fresh_path_never_overwritten` for `setNodeKeyM` run with the *extracted* fact, under the
    hypothesis that the extracted fact says the child's path gets an array of its own
    (`nodePathFresh`, from compose/checkpoint.go `setNodeKey`).  Where that fact is `false`
    the statement is false — `sibling_path_overwritten_when_aliased`. -/
theorem node_path_kept_partial (hf : FactsC11.nodePathFresh = true) (grow : Nat → Nat)
    (h : GoHeap) (parent : Option GoSlice) (key : String) :
    let r := setNodeKeyM FactsC11.nodePathFresh grow h parent key
    r.2.read r.1 = childPath (match parent with | some p => p.read h | none => []) key ∧
    ∀ s : GoSlice, s.arr < h.length → s.read r.1 = s.read h := by
  rw [hf]; exact fresh_path_never_overwritten grow h parent key

/-- **(negation witness) `append(path.path, key)` on the parent's own slice: the second of
    two sibling nodes overwrites the first one's path.**  Paths k1, k1/k2, k1/k2/k3 are built
    by successive appends (capacities 1, 2, 4); the two children `a`, `b` of k3 are both
    appended into the spare fourth slot of the same array, so after `b`'s context is built
    `a`'s path reads k1/k2/k3/b as well — a modifier that dispatches on the path never sees
    `a`.  One level higher (children `c`, `d` of k2: length 2 = capacity 2) every append
    copies, which is why shallow nests do not show it.  With `fresh` both keep their paths.
    The harness reports this as `C11:paths:modifier-path` (fix:
    fixes/C11-sibling-node-path-alias.diff). -/
theorem sibling_path_overwritten_when_aliased :
    let nest (fresh : Bool) :=
      let r1 := setNodeKeyM fresh goGrow [] none "k1"
      let r2 := setNodeKeyM fresh goGrow r1.1 (some r1.2) "k2"
      let c := setNodeKeyM fresh goGrow r2.1 (some r2.2) "c"
      let d := setNodeKeyM fresh goGrow c.1 (some r2.2) "d"
      let r3 := setNodeKeyM fresh goGrow d.1 (some r2.2) "k3"
      let a := setNodeKeyM fresh goGrow r3.1 (some r3.2) "a"
      let b := setNodeKeyM fresh goGrow a.1 (some r3.2) "b"
      (a.2.read a.1, a.2.read b.1, b.2.read b.1, c.2.read b.1, d.2.read b.1)
    nest false = (["k1", "k2", "k3", "a"], ["k1", "k2", "k3", "b"], ["k1", "k2", "k3", "b"],
                  ["k1", "k2", "c"], ["k1", "k2", "d"]) ∧
    nest true = (["k1", "k2", "k3", "a"], ["k1", "k2", "k3", "a"], ["k1", "k2", "k3", "b"],
                 ["k1", "k2", "c"], ["k1", "k2", "d"]) := by decide

/-- the modifier of a two-sibling nest at depth 4 is called with the two distinct paths -/
example :
    (modCalls (nestLevels (none : Option Nat)
      (.cons (.mk "k1" none (.cons (.mk "k2" none (.cons (.mk "k3" (some 3)
        (.cons (.mk "a" (some 10) .nil) (.cons (.mk "b" (some 20) .nil) .nil))) .nil)) .nil)) .nil))) =
    [(["k1", "k2", "k3"], 3), (["k1", "k2", "k3", "a"], 10), (["k1", "k2", "k3", "b"], 20)] := by
  decide

end EinoV.C11
