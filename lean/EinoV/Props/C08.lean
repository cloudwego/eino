/-
  C08 — Streams deliver every item exactly once, in order, to every reader.
  Property theorems.  Models: EinoV/Model/C08.lean (components), EinoV/Model/C08Net.lean
  (trees of components, run by the oracle).  Source facts: EinoV/Gen/FactsC08.lean
  (regenerated from /repo/schema/{stream,select}.go on every run).

  Every theorem quantifies over *all* event lists of the component's transition system
  (any interleaving of sends, receives and closes of any number of children / sources);
  an event list is a behaviour iff the run function returns `some` (an event that would
  block, or that the API contract forbids, is not enabled).

  Whole networks (section "whole networks" below; EinoV/Spec/C08Tree.lean, EinoV/Spec/C08Close.lean,
  EinoV/Proofs/C08Tree/*.lean): delivery, close propagation and (in part) progress for EVERY
  network the constructors can build and EVERY schedule.
  Not proved:
  * "told on its next send" is false through a forwarding goroutine:
    `writer_told_late_through_forwarder` (known finding); `tree_close_propagates` therefore has
    the hypothesis that the forwarders have noticed.
  * whole-tree deadlock freedom with open writers (see `tree_eof_progress_partial`).
-/
import EinoV.Model.C08
import EinoV.Model.C08Net
import EinoV.Proofs.C08
import EinoV.Gen.FactsC08
import EinoV.Expected.C08
import EinoV.Spec.C08Tree
import EinoV.Proofs.C08Tree.Delivery
import EinoV.Proofs.C08Tree.Oracle
import EinoV.Spec.C08Close
import EinoV.Proofs.C08Tree.ClosePropagate
import EinoV.Proofs.C08Tree.Progress
import EinoV.Proofs.C08Tree.Prefix
import EinoV.Model.C08Late
import EinoV.Proofs.C08Late
import EinoV.Model.C08Wide
import EinoV.Proofs.C08Wide

namespace EinoV.C08
open EinoV.Gen

/-- the `parentStreamReader` facts as extracted from the source -/
def copyFactsGen : CopyFacts :=
  { fillOnce := FactsC08.peekFillsUnderOnce, closeIncr := FactsC08.closeIncrements,
    closeAtLen := FactsC08.closeAtLen }

/-- The regenerated facts are the values the theorems are proved for and the oracle runs with. -/
theorem facts_match :
    FactsC08.receiveN = Expected.C08.receiveN ∧ FactsC08.maxSelectNum = Expected.C08.maxSelectNum ∧
    copyFactsGen = Expected.C08.copyFacts ∧ FactsC08.closeIdempotent = true ∧
    FactsC08.eofByIdentity = Expected.C08.eofByIdentity := by
  decide

/-! ## end of stream = the sentinel io.EOF, nothing else -/

/-- **eof_test_is_identity.** With the comparisons found in the source (`err == io.EOF` /
    `err != io.EOF` in `parentStreamReader.peek` and in both `toStream` loops, no `errors.Is`
    or `errors.As` on any receive path), what a source returned is taken for the end of the
    stream iff it is the sentinel: an error element is an element, whatever its error value
    wraps or claims (`wraps` arbitrary).  This is what entitles the component models
    (`CopyCore.fill`, `recvAll`) to decide by the constructor of `Res`. -/
theorem eof_test_is_identity (wraps : Nat → Bool) (r : Res) :
    endTest FactsC08.eofByIdentity wraps r = r.isEof := by
  have h : FactsC08.eofByIdentity = true := by decide
  cases r <;> simp [endTest, Res.isEof, h]

/-- **forwarder_forwards_every_element.** A forwarding goroutine passes on every element of
    its source, error elements of either kind included, and nothing after one is lost. -/
theorem forwarder_forwards_every_element (wraps : Nat → Bool) (l : List Item) :
    fwdLoop FactsC08.eofByIdentity wraps l = l := by
  induction l with
  | nil => rfl
  | cons x rest ih => simp [fwdLoop, eof_test_is_identity, Res.isEof, ih]

/-- **copy_passes_every_element.** … and so does a copy: `n` receives over a source that holds
    at least `n` elements return exactly the first `n` of them, whatever they wrap. -/
theorem copy_passes_every_element (wraps : Nat → Bool) (n : Nat) (l : List Item) (hn : n ≤ l.length) :
    peekLoop FactsC08.eofByIdentity wraps n l = (l.take n).map Res.item := by
  induction n generalizing l with
  | zero => simp [peekLoop]
  | succ k ih =>
    cases l with
    | nil => simp at hn
    | cons x rest =>
      simp only [peekLoop, eof_test_is_identity, Res.isEof]
      simp at hn
      simp [ih rest hn]

/-- **receiveN_table.** The table in select.go is indexed by `len(chosenList)`, has
    `maxSelectNum + 1` entries, entry `n` selects over exactly `ss[chosenList[0..n)]` and
    reports the index it received from; above `maxSelectNum` remaining sources
    `multiStreamReader.recv` switches to `reflect.Select`. -/
theorem receiveN_table :
    FactsC08.receiveNByLen = true ∧ FactsC08.reflectAboveMax = true ∧
    FactsC08.receiveN.length = FactsC08.maxSelectNum + 1 ∧
    ∀ n, n ≤ FactsC08.maxSelectNum →
      FactsC08.receiveN[n]? = some ((List.range n).map fun j => (j, j)) := by
  refine ⟨by decide, by decide, by decide, ?_⟩
  have h : ∀ n ∈ List.range (FactsC08.maxSelectNum + 1),
      FactsC08.receiveN[n]? = some ((List.range n).map fun j => (j, j)) := by decide
  intro n hn
  exact h n (by simp; omega)

theorem table_ok : tblOK FactsC08.receiveN FactsC08.maxSelectNum = true := by decide

/-- **pipe_fifo.** After any event list on a pipe of any capacity: the items received so
    far followed by the buffered ones are exactly the accepted items, in order (so the
    received sequence is a prefix of the sent one: nothing lost, duplicated or reordered);
    `io.EOF` is returned only after the writer closed and every accepted item was received;
    no item is ever returned after `io.EOF`. -/
theorem pipe_fifo (cap : Nat) (evs : List PEv) (p : Pipe) (h : PHist)
    (hr : Pipe.runH (Pipe.new cap, {}) evs = some (p, h)) :
    h.accepted = h.recvd ++ p.buf ∧ h.recvd <+: h.accepted ∧
    (h.eof = true → p.sendClosed = true ∧ h.recvd = h.accepted) ∧ h.itemAfterEof = false := by
  have inv := (PInv.init cap).run hr
  refine ⟨inv.fifo, ?_, fun he => ?_, inv.noItemAfterEof⟩
  · rw [inv.fifo]; exact List.prefix_append _ _
  · obtain ⟨hc, hb⟩ := inv.eofClosed he
    exact ⟨hc, by rw [inv.fifo, hb, List.append_nil]⟩

/-- **send_reports_closed.** Once the reader closed, no `Send` is accepted any more: every
    `Send` (that the contract allows) returns `closed = true` at once, whatever is buffered. -/
theorem send_reports_closed (cap : Nat) (evs : List PEv) (p : Pipe) (h : PHist)
    (hr : Pipe.runH (Pipe.new cap, {}) evs = some (p, h)) :
    h.lateAccept = false ∧
    (p.recvClosed = true → p.sendClosed = false → ∀ i, p.send i = some (p, true)) := by
  refine ⟨((PInv.init cap).run hr).noLate, ?_⟩
  intro hrc hsc i
  simp [Pipe.send, hrc, hsc]

/-- pipe part of *no deadlock*: a `Recv` is enabled as soon as something was sent or the
    writer closed; a `Send` as soon as there is room or the reader closed. -/
theorem pipe_progress (p : Pipe) :
    ((p.buf ≠ [] ∨ p.sendClosed = true) → (p.recv).isSome = true) ∧
    (p.sendClosed = false → (p.buf.length < p.cap ∨ p.recvClosed = true) → ∀ i, (p.send i).isSome = true) := by
  constructor
  · intro h
    unfold Pipe.recv
    cases hb : p.buf with
    | nil => rcases h with h | h <;> simp_all
    | cons x r => simp
  · intro hs h i
    unfold Pipe.send
    rcases h with h | h <;> simp [hs, h]
    split <;> simp

/-- **convert_itemwise.** Reading a converted stream to the end over a source that delivers
    the items `l` yields exactly `l` mapped item by item, in order, without the items the
    convert function marked `ErrNoValue`; a source error is passed on (never swallowed as
    no-value), an error returned by the convert function is delivered as that item's error. -/
theorem convert_itemwise (g : Nat → ConvOut) (l : List Item) :
    convDrain g l = l.filterMap (convItem g) ∧
    (∀ i, i.err ≠ 0 → convItem g i = some ⟨0, i.err⟩) ∧
    (∀ i, i.err = 0 → g i.chunk = .skip → convItem g i = none) ∧
    (∀ i c e, i.err = 0 → g i.chunk = .fail c e → convItem g i = some ⟨c, e⟩) ∧
    (∀ i v, i.err = 0 → g i.chunk = .val v → convItem g i = some ⟨v, 0⟩) := by
  refine ⟨convDrain_eq g l, ?_, ?_, ?_, ?_⟩ <;> intros <;> simp_all [convItem]

theorem copyFacts_good : copyFactsGen = goodCopy := by decide

/-- **copy_each_sees_all.** `n ≥ 1` copies over any source reader, any interleaving of
    `Recv`/`Close` of the children and of anything the environment does to the source:
    the items child `i` has received are a prefix of the items read from the source (each
    source item is read once, by whichever child gets there first, and shared); if child `i`
    saw `io.EOF` it has received *all* of them, and the source itself had reported `io.EOF`. -/
theorem copy_each_sees_all {σ : Type} (S : Src σ) (n : Nat) (hn : 0 < n) (s0 : σ)
    (evs : List (CEv σ)) (y : CopySys σ)
    (hr : (CopySys.init n s0).run copyFactsGen S evs = some y) (i : Nat) :
    itemsOf i y.outs <+: y.pulled.filterMap Res.item? ∧
    (eofOf i y.outs = true → itemsOf i y.outs = y.pulled.filterMap Res.item? ∧ Res.eof ∈ y.pulled) := by
  rw [copyFacts_good] at hr
  have inv := (CInv.init n hn s0).run hn S hr
  rw [inv.pulledLog]
  constructor
  · cases hc : y.core.cursors[i]? with
    | none => rw [(inv.outRange i hc).1]; exact List.nil_prefix
    | some o =>
      cases o with
      | none => exact inv.closedPre i hc
      | some k => rw [(inv.cur i k hc).2]; exact List.take_prefix _ _
  · intro he
    have := inv.eofAll i he
    exact ⟨this.2, inv.eofMem.mp this.1⟩

/-- **copy_each_sees_all, finite source.** Over a source that delivers exactly the items `l`
    and then `io.EOF` (and that nobody else touches), a child that saw `io.EOF` has received
    exactly `l` — whatever the other children did in between. -/
theorem copy_reads_whole_source (l : List Item) (n : Nat) (hn : 0 < n)
    (evs : List (CEv (List Item))) (hne : ∀ e ∈ evs, e.isEnv = false) (y : CopySys (List Item))
    (hr : (CopySys.init n l).run copyFactsGen listSrc evs = some y) (i : Nat)
    (he : eofOf i y.outs = true) : itemsOf i y.outs = l := by
  have h1 := (copy_each_sees_all listSrc n hn l evs y hr i).2 he
  have h2 := (LInv.init l n).run hne hr
  have h3 := h2.split
  rw [h2.done h1.2, List.append_nil] at h3
  rw [h1.1, h3]

/-- **copy_source_closed_once.** The source is closed at most once, and it has been closed
    exactly when every one of the `n` children is closed (closing a child twice changes
    nothing). -/
theorem copy_source_closed_once {σ : Type} (S : Src σ) (n : Nat) (hn : 0 < n) (s0 : σ)
    (evs : List (CEv σ)) (y : CopySys σ)
    (hr : (CopySys.init n s0).run copyFactsGen S evs = some y) :
    y.core.srcClosed ≤ 1 ∧
    (y.core.srcClosed = 1 ↔ ∀ i, i < n → y.core.cursors[i]? = some none) := by
  rw [copyFacts_good] at hr
  have inv := (CInv.init n hn s0).run hn S hr
  have hc := inv.srcC
  have hl := inv.len
  constructor
  · rw [hc]; split <;> omega
  · rw [hc, inv.cnt, ← hl, ← count_none_eq_length]
    by_cases hq : y.core.cursors.count none = y.core.cursors.length
    · rw [if_pos hq]; exact ⟨fun _ => hq, fun _ => rfl⟩
    · rw [if_neg hq]; exact ⟨fun h => absurd h (by decide), fun h => absurd h hq⟩

/-- copy part of *no deadlock*: an open child can always receive when its next element is
    already in the shared list, or the end was seen, or the source can deliver. -/
theorem copy_progress {σ : Type} (S : Src σ) (y : CopySys σ) (i k : Nat)
    (hc : y.core.cursors[i]? = some (some k))
    (h : k < y.core.log.length ∨ y.core.eofSeen = true ∨ (S.recv y.src).isSome = true) :
    (y.step copyFactsGen S (.recv i)).isSome = true := by
  rw [copyFacts_good, ← CopySys.recv1_is_step, Option.isSome_map]
  cases hl : y.core.log[k]? with
  | some it => rw [CopySys.recv1_listed rfl S hc hl]; rfl
  | none =>
    cases he : y.core.eofSeen with
    | true => rw [CopySys.recv1_ended rfl S hc hl he]; rfl
    | false =>
      rw [CopySys.recv1_fill rfl S hc hl he, Option.isSome_map]
      rcases h with h | h | h
      · exact absurd (List.getElem?_eq_none_iff.mp hl) (Nat.not_le.mpr h)
      · rw [he] at h; cases h
      · exact h

/-- **merge_per_source_order.** Any number of sources with any capacities, any event list
    (writers sending/closing, selects firing in any order the table allows): for every
    source `k`, what the merged reader delivered from `k`, followed by what is still
    buffered in `k`, is exactly what `k`'s writer got accepted, in order. -/
theorem merge_per_source_order (caps : List Nat) (evs : List MEv) (m : MergeSt)
    (hr : (MergeSt.init caps).run FactsC08.receiveN FactsC08.maxSelectNum evs = some m)
    (k : Nat) (p : Pipe) (hk : m.srcs[k]? = some p) :
    ofSrc k m.acc = ofSrc k m.outs ++ p.buf ∧ ofSrc k m.outs <+: ofSrc k m.acc := by
  have inv := (MInv.init caps).run table_ok hr
  have := inv.fifo k p hk
  exact ⟨this, by rw [this]; exact List.prefix_append _ _⟩

/-- **merge_eof_after_all.** If the merged reader returned `io.EOF`, every source's writer
    had closed and every accepted item of every source had been delivered. -/
theorem merge_eof_after_all (caps : List Nat) (evs : List MEv) (m : MergeSt)
    (hr : (MergeSt.init caps).run FactsC08.receiveN FactsC08.maxSelectNum evs = some m)
    (he : m.eofOut = true) (k : Nat) (p : Pipe) (hk : m.srcs[k]? = some p) :
    p.sendClosed = true ∧ ofSrc k m.outs = ofSrc k m.acc := by
  have inv := (MInv.init caps).run table_ok hr
  have hc := inv.eofEmpty he
  have hd := inv.dropped k p hk (by simp [hc])
  have hf := inv.fifo k p hk
  simp only [hd.2, List.append_nil] at hf
  exact ⟨hd.1, hf.symm⟩

/-- merge part of *no deadlock*: with the select table of the source, every source that is
    still in `chosenList` has a case of its own, so if it is ready (an item buffered, or
    closed) a step of `recv` is enabled; and with no source left `recv` returns `io.EOF`. -/
theorem merge_progress (m : MergeSt) :
    (∀ c sa p, m.chosen[c]? = some sa → m.srcs[sa]? = some p →
        (p.buf ≠ [] ∨ p.sendClosed = true) →
        (m.step FactsC08.receiveN FactsC08.maxSelectNum (.sel c)).isSome = true) ∧
    (m.chosen = [] → (m.step FactsC08.receiveN FactsC08.maxSelectNum .eof).isSome = true) := by
  constructor
  · intro c sa p hc hs hready
    have hlt : c < m.chosen.length := by
      rcases List.getElem?_eq_some_iff.mp hc with ⟨h, _⟩; exact h
    have hcase : (selCases FactsC08.receiveN FactsC08.maxSelectNum m.chosen.length)[c]? = some (c, c) := by
      rw [selCases_ok table_ok]
      simp [List.getElem?_map, List.getElem?_range hlt]
    simp only [MergeSt.step, hcase, hc, hs]
    have := (pipe_progress p).1 hready
    cases hrv : p.recv with
    | none => simp [hrv] at this
    | some pr =>
      obtain ⟨p', r⟩ := pr
      cases r <;> rfl
  · intro h
    simp [MergeSt.step, h]

/-- the facts of the network model as extracted from the source -/
def factsGen : Facts :=
  { copy := copyFactsGen, tbl := FactsC08.receiveN, maxSel := FactsC08.maxSelectNum,
    fwdCloses := FactsC08.convForwarderClosesSource && FactsC08.childForwarderClosesSource }

/-- Both forwarding goroutines (`toStream`) close their stream for sending and close their
    source reader when they exit, and leave their loop on `io.EOF` and on `closed`; together
    with `facts_match` the oracle runs the model with exactly the extracted facts. -/
theorem net_facts_match :
    FactsC08.convForwarderClosesSource = true ∧ FactsC08.childForwarderClosesSource = true ∧
    factsGen.copy = Expected.C08.facts.copy ∧ factsGen.tbl = Expected.C08.facts.tbl ∧
    factsGen.maxSel = Expected.C08.facts.maxSel ∧ factsGen.fwdCloses = Expected.C08.facts.fwdCloses := by
  decide

/-- what `Send` on pipe `p` may return after the trace `ops` (one entry per model state that
    explains the trace): 0 may block, 1 false, 2 true, 3 either -/
def sendCodesAfter (F : Facts) (ops : List Op) (p : Nat) : Option (List Nat) :=
  match runOps F 60 [{}] 0 ops with
  | .ok (nets, _) => some (nets.map fun n => sendCode F 60 n p)
  | .error _ => none

def drainBoundsAfter (F : Facts) (ops : List Op) (p : Nat) : Option (List (Option Nat)) :=
  match runOps F 60 [{}] 0 ops with
  | .ok (nets, _) => some (nets.map fun n => drainBound F 60 n p)
  | .error _ => none

/-- copy(3) of merge(convert(pipe 0), pipe 1); two copies closed: both writers still accepted -/
def treeOps : List Op :=
  [.pipe 2, .pipe 0, .conv 0 ⟨100, 2, 0, 3, 1⟩, .merge [2, 1], .copy 4 3, .close 6, .close 7]

-- The concrete runs of this file are closed by `decide +kernel`: the kernel evaluates `runOps` and
-- the component run functions several times faster than the elaborator's own reduction does.

/-- an instance of close propagation (the general theorem is `tree_close_propagates` below): in this tree closing the last copy closes
    the merged reader; pipe 1 (merged directly) reports it on the next `Send`. -/
example : sendCodesAfter factsGen treeOps 1 = some [0] ∧
    sendCodesAfter factsGen (treeOps ++ [.close 8]) 1 = some [2] := by decide +kernel

/-- **writer_told_late_through_forwarder (negation witness for "told on its next send").**
    Pipe 0 is read through a convert that was merged, i.e. through a forwarding goroutine.
    After the last reader derived from it is closed the model still allows `Send` to return
    `closed = false` (code 3): the forwarder closes the pipe only when it next tries to
    forward.  It is told after at most `cap + 6` more accepted items (`drainBound`).  The
    harness replays this tree on the real code (`mode = fwd-delay`), where the first `Send`
    after the close returns false deterministically. -/
theorem writer_told_late_through_forwarder :
    sendCodesAfter factsGen (treeOps ++ [.close 8]) 0 = some [3] ∧
    drainBoundsAfter factsGen (treeOps ++ [.close 8]) 0 = some [some 8] ∧
    (runOps factsGen 60 [{}] 0 (treeOps ++ [.close 8, .send 0 ⟨7, 7⟩ false, .send 0 ⟨8, 8⟩ true])).toOption.isSome = true := by
  decide +kernel

/-- If the forwarders did not close their source the writer would never be told. -/
theorem forwarder_must_close_source :
    drainBoundsAfter { factsGen with fwdCloses := false } (treeOps ++ [.close 8]) 0 = some [none] := by
  decide +kernel

/-- a trace through the whole tree: items of both pipes arrive through the merge in either
    order, every copy sees the same sequence, the no-value item (chunk 2) is dropped, the
    convert's own error (chunk 1 ↦ error 101) is delivered -/
example : (runOps factsGen 60 [{}] 0
    [.pipe 2, .pipe 1, .conv 0 ⟨100, 2, 0, 3, 1⟩, .merge [2, 1], .copy 4 2,
     .send 0 ⟨2, 0⟩ false, .send 0 ⟨1, 0⟩ false, .send 1 ⟨50, 0⟩ false,
     .recv 6 (.item ⟨50, 0⟩), .recv 7 (.item ⟨50, 0⟩), .recv 7 (.item ⟨101, 101⟩), .recv 6 (.item ⟨101, 101⟩),
     .closeSend 0, .closeSend 1, .recv 6 .eof, .recv 7 .eof]).toOption.isSome = true := by decide +kernel

/-- … and a reordered or duplicated delivery is not a behaviour of the model -/
example : (runOps factsGen 60 [{}] 0
    [.pipe 2, .copy 0 2, .send 0 ⟨1, 0⟩ false, .send 0 ⟨2, 0⟩ false,
     .recv 2 (.item ⟨1, 0⟩), .recv 3 (.item ⟨2, 0⟩)]).toOption.isSome = false := by decide +kernel

/-! ## whole networks: every tree of copy / merge / convert, every schedule

  The theorems of this section are about the network model the oracle runs
  (`EinoV/Model/C08Net.lean`): about EVERY network that the constructors `pipe`, `arr`, `conv`,
  `copy n`, `merge` can build (any size, depth, number of copies and sources; constructors and
  traffic interleaved in any way) and EVERY schedule of `Send` / `Close(writer)` / `Recv` /
  `Close(reader)` (`Behaves`, `EinoV/Spec/C08Tree.lean`).  The networks are DAGs whose only
  sharing is through the cells of `Copy`; every edge points to a smaller index, so the
  "structural induction on the tree" is the induction along `Edge` / over the derivations of
  `Den` and `Recv` (`EinoV/Proofs/C08Tree/*.lean`). -/

/-- the source facts are the ones the whole-network theorems are proved for (fact tie) -/
theorem factsGen_good : GoodFacts factsGen := ⟨by decide, by decide, by decide⟩

/-- ... and they are the ones the oracle runs with -/
theorem expected_facts_good : GoodFacts Expected.C08.facts := ⟨by decide, by decide, by decide⟩

/-- **tree_wellformed.** Every network reachable from the empty one by enabled operations is
    well formed: references point to earlier nodes of the right kind, every reader has AT MOST
    ONE consumer (`ShInv.lin`; the children of one `Copy` share its cell and nothing else), the
    readers the caller holds are consumed by nobody, every cursor of a copy lies within the
    shared list.  This is the tree structure the other theorems induct over. -/
theorem tree_wellformed (fuel : Nat) (ops : List Op) (net : Net)
    (h : Behaves factsGen fuel {} ops net) : Inv net :=
  h.inv factsGen_good Inv.empty

/-- **oracle_runs_are_schedules.** The correspondence check is a check of these schedules: every
    candidate state the oracle keeps after accepting a trace (`runOps`, which the harness
    compares the Go implementation with, operation by operation) is reached from the empty
    network by that trace as a schedule (`recvAll` refines the relation `Recv`, every other
    operation is `applyOp` itself). -/
theorem oracle_runs_are_schedules (fuel : Nat) (ops : List Op) (nets' : List Net) (cr : List Nat)
    (h : runOps Expected.C08.facts fuel [{}] 0 ops = .ok (nets', cr)) :
    ∀ n' ∈ nets', Behaves Expected.C08.facts fuel {} ops n' :=
  runOps_init_behaves expected_facts_good h

/-- **tree_spec.** The SPECIFIED item sequence `Den fut net r` of reader `r`, as a function of
    what the sources hold (`buf`, `rest`) and of what their writers will still get accepted
    (`fut`), by recursion over the tree: a pipe delivers its buffer and then the future items;
    an array its items; a converted reader the item-wise image of what its source delivers,
    no-value items dropped (`convItem`); a copy what is left for it of the shared list followed
    by what the source of the cell still delivers (nothing once the cell saw `io.EOF`), the same
    for every copy of the cell whatever the other copies do; a merged reader an interleaving
    (`Inter`: every item of every remaining source exactly once, each source in its own order)
    of what its remaining sources deliver; a forwarding goroutine is transparent. -/
theorem tree_spec (fut : Nat → List Item) (net : Net) (id : Nat) (l : List Item) :
    Den fut net id l ↔ DenBody fut net id l := den_unfold fut net id l

/-- a concrete network: pipe 0 (closed by its writer, items 2 and 3 buffered) under a convert that
    adds 100, copied twice; item 101 is already in the shared list; copy 3 has not read yet,
    copy 4 has read one item -/
def exNet : Net :=
  { nodes := #[.pipe ⟨2, [⟨2, 0⟩, ⟨3, 0⟩], true, false⟩, .conv 0 ⟨100, 0, 0, 0, 0⟩,
               .parent 1 ⟨[⟨101, 0⟩], false, [some 0, some 1], 0, 0⟩, .child 2 0, .child 2 1],
    readers := [3, 4], writers := [] }

/-- the specification is exact: without a merge below it, exactly ONE sequence is specified for a
    reader — here `[101, 102, 103]` for the copy that has read nothing (and nothing else, in no
    other order, with no item twice) -/
example (fut : Nat → List Item) (l : List Item) :
    Den fut exNet 3 l ↔ l = [⟨101, 0⟩, ⟨102, 0⟩, ⟨103, 0⟩] := by
  constructor
  · intro h
    obtain ⟨k, hk, ⟨_, l1, h1, rfl⟩ | ⟨he, _⟩⟩ := Den.child_inv (par := 2) (idx := 0) (src := 1)
      (core := ⟨[⟨101, 0⟩], false, [some 0, some 1], 0, 0⟩) rfl rfl h
    · obtain ⟨l2, h2, rfl⟩ := Den.conv_inv (src := 0) (g := ⟨100, 0, 0, 0, 0⟩) rfl h1
      have h3 := Den.pipe_inv (p := ⟨2, [⟨2, 0⟩, ⟨3, 0⟩], true, false⟩) rfl h2
      subst h3
      cases hk
      rfl
    · cases he
  · rintro rfl
    have h0 : Den fut exNet 0 [⟨2, 0⟩, ⟨3, 0⟩] :=
      Den.pipe (p := ⟨2, [⟨2, 0⟩, ⟨3, 0⟩], true, false⟩) rfl
    have h1 : Den fut exNet 1 [⟨102, 0⟩, ⟨103, 0⟩] := by
      have := Den.conv (g := ⟨100, 0, 0, 0, 0⟩) (id := 1) rfl h0
      exact this
    exact Den.childOpen (id := 3) (par := 2) (idx := 0) (k := 0)
      (core := ⟨[⟨101, 0⟩], false, [some 0, some 1], 0, 0⟩) rfl rfl rfl rfl h1

/-- **tree_delivery.** In every reachable network `net0`, for every reader `r` the caller holds
    there, under EVERY schedule `ops` that continues from `net0` (sends, writer closes, receives
    and closes of any reader in any order, further constructors on other readers) and in which
    `r` finally reads `io.EOF`: the items `r` was handed during the schedule, in order
    (`gotBy r ops`), are exactly one of the sequences specified for `r` in `net0` with the items
    the writers got accepted during the schedule (`accBy ops`) — every item exactly once, in
    order, through every nesting of copy / merge / convert; nothing is lost, duplicated or
    reordered by whatever happens to the other readers of the network.  Proved for all source
    facts with `GoodFacts` (`factsGen_good`, `expected_facts_good`). -/
theorem tree_delivery {F : Facts} (g : GoodFacts F) (fuel : Nat) (ops0 ops : List Op) (net0 net' : Net) (r : Nat)
    (h0 : Behaves F fuel {} ops0 net0) (hr : r ∈ net0.readers)
    (h : Behaves F fuel net0 (ops ++ [.recv r .eof]) net') :
    Den (accBy ops) net0 r (gotBy r ops) :=
  delivery_core g ops net0 net' r (h0.inv g Inv.empty) hr h

/-- **tree_delivery_prefix.** Delivery at every moment, not only at `io.EOF`: in every reachable
    network, under every schedule `ops` continuing from `net0`, for every reader `r` the caller
    holds before and after it: the items `r` has been handed so far are a PREFIX of one of the
    sequences specified for `r` in `net0` with the items accepted so far — no reader, whether it
    later reads on, closes early or is never read again, is ever handed a wrong, duplicated or
    reordered item.  (`l` = what `r` is still specified to deliver if no further item is accepted;
    it exists because every claimed reader has a specified sequence, `den_exists`.) -/
theorem tree_delivery_prefix {F : Facts} (g : GoodFacts F) (fuel : Nat) (ops0 ops : List Op) (net0 net1 : Net) (r : Nat)
    (h0 : Behaves F fuel {} ops0 net0) (hr : r ∈ net0.readers)
    (h : Behaves F fuel net0 ops net1) (hr1 : r ∈ net1.readers) :
    ∃ l, Den (accBy ops) net0 r (gotBy r ops ++ l) :=
  delivery_prefix g ops net0 net1 r (h0.inv g Inv.empty) (h0.closeInv g Inv.empty closeInv_empty) hr h hr1

/-- the building part of the non-vacuity examples: copy(2) of merge(convert(pipe 0), pipe 1);
    readers 6 and 7 are the copies, node 3 is the forwarding goroutine of the convert -/
def treeOps2 : List Op :=
  [.pipe 2, .pipe 1, .conv 0 ⟨100, 2, 0, 3, 1⟩, .merge [2, 1], .copy 4 2]

/-- non-vacuity of `tree_delivery`: on that tree, a schedule in which both pipes are written,
    both copies read in different orders, the writers close and copy 6 reads `io.EOF` -/
example : ∃ net0 net', Behaves factsGen 60 {} treeOps2 net0 ∧ 6 ∈ net0.readers ∧
    Behaves factsGen 60 net0
      ([.send 0 ⟨2, 0⟩ false, .send 0 ⟨1, 0⟩ false, .send 1 ⟨50, 0⟩ false,
        .recv 6 (.item ⟨50, 0⟩), .recv 7 (.item ⟨50, 0⟩), .recv 7 (.item ⟨101, 101⟩), .recv 6 (.item ⟨101, 101⟩),
        .closeSend 0, .closeSend 1, .recv 7 .eof] ++ [.recv 6 .eof]) net' :=
  twoPhaseOK_spec factsGen_good (by decide +kernel)

/-- non-vacuity of `tree_delivery_prefix`: the same tree, copy 7 has read two items and nobody
    has closed anything; copy 6 has read one -/
example : ∃ net0 net1, Behaves factsGen 60 {} treeOps2 net0 ∧ 7 ∈ net0.readers ∧
    Behaves factsGen 60 net0
      [.send 0 ⟨2, 0⟩ false, .send 0 ⟨1, 0⟩ false, .send 1 ⟨50, 0⟩ false,
        .recv 6 (.item ⟨50, 0⟩), .recv 7 (.item ⟨50, 0⟩), .recv 7 (.item ⟨101, 101⟩)] net1 ∧
    7 ∈ net1.readers :=
  heldOK_spec factsGen_good (by decide +kernel)

/-- ... and there the conclusion says: copy 6 was handed `[50, 101]`, which is one of the two
    interleavings of pipe 1's `[50]` with the converted `[101]` of pipe 0's `[2, 1]` (item 2 is
    dropped as no-value, item 1 becomes the convert's own error 101) -/
example : gotBy 6 [.send 0 ⟨2, 0⟩ false, .send 0 ⟨1, 0⟩ false, .send 1 ⟨50, 0⟩ false,
        .recv 6 (.item ⟨50, 0⟩), .recv 7 (.item ⟨50, 0⟩), .recv 7 (.item ⟨101, 101⟩), .recv 6 (.item ⟨101, 101⟩),
        .closeSend 0, .closeSend 1, .recv 7 .eof] = [⟨50, 0⟩, ⟨101, 101⟩] ∧
    accBy [.send 0 ⟨2, 0⟩ false, .send 0 ⟨1, 0⟩ false, .send 1 ⟨50, 0⟩ false,
        .recv 6 (.item ⟨50, 0⟩), .closeSend 0] 0 = [⟨2, 0⟩, ⟨1, 0⟩] := by decide

/-! ### close propagation through whole networks

  `Claimed net H k` (`EinoV/Spec/C08Close.lean`): following the unique consumers of node `k`
  downwards through converts and merged readers one reaches a reader the caller holds, a `Copy`
  cell with an open copy, or a forwarding goroutine that has not exited.  The invariant
  `CloseInv` says that the closed flags of the stateful nodes (`recvClosed` of a pipe, the nil
  cursor of a copy, the state of a forwarder) tell exactly that, and that every cell counts its
  closed copies. -/

/-- **tree_close_invariant.** In every reachable network: a pipe's reading side is open iff
    somebody still claims it; a copy's cursor is non-nil iff somebody claims that copy; a
    forwarder whose merged reader is claimed is running (or exited on `io.EOF`), one whose merged
    reader was closed is not running; every cell's `closedNum` is the number of its closed
    copies and it has closed its source (once) iff all of them are closed. -/
theorem tree_close_invariant {F : Facts} (g : GoodFacts F) (fuel : Nat) (ops : List Op) (net : Net)
    (h : Behaves F fuel {} ops net) : CloseInv net :=
  h.closeInv g Inv.empty closeInv_empty

/-- **tree_close_never_twice.** At every point of every schedule, `Close` of any reader the caller
    holds is enabled, through every nesting of copy / merge / convert: the model closes the
    reading side of a pipe only if it is open (`Pipe.closeRecv` is not enabled on a closed one,
    the oracle reports `mismatch:model-double-close`), so no source is ever closed a second
    time — a cell closes its source when, and only when, its last copy closes. -/
theorem tree_close_never_twice {F : Facts} (g : GoodFacts F) (fuel : Nat) (ops : List Op) (net : Net)
    (h : Behaves F fuel {} ops net) (r : Nat) (hr : r ∈ net.readers) (hf : r < fuel) :
    ∃ net', Step F fuel net (.close r) net' := by
  obtain ⟨n1, hc⟩ := close_succeeds g (h.inv g Inv.empty) (h.closeInv g Inv.empty closeInv_empty) hr hf
  refine ⟨{ n1 with readers := n1.readers.erase r }, .other (cr := []) rfl ?_⟩
  simp only [applyOp]
  simp [hr, hc]

/-- ... and a forwarding goroutine whose stream was closed can always notice it (closing its own
    source), whenever it gets to it. -/
theorem tree_forwarder_can_notice {F : Facts} (g : GoodFacts F) (fuel : Nat) (ops : List Op) (net : Net)
    (h : Behaves F fuel {} ops net) (f src : Nat) (hf : net.nodes[f]? = some (.fpipe src .pending))
    (hfu : src < fuel) : ∃ net', resolveOne F fuel net f = some net' :=
  resolve_succeeds g (h.inv g Inv.empty) (h.closeInv g Inv.empty closeInv_empty) hf hfu

/-- **tree_close_propagates.** After ANY schedule on ANY network: if every reader the caller held
    has been closed (none is held any more) and every forwarding goroutine has noticed
    (`pendings net = []`), then the reading side of EVERY pipe of the network is closed — its
    writer is told on its next `Send` (`send_reports_closed`) — every `Copy` cell has closed its
    source exactly once (`srcClosed = 1`, all cursors nil) and every forwarder has exited. -/
theorem tree_close_propagates {F : Facts} (g : GoodFacts F) (fuel : Nat) (ops : List Op) (net : Net)
    (h : Behaves F fuel {} ops net) (hr : net.readers = []) (hp : pendings net = []) :
    (∀ (k : Nat) (p : Pipe), net.nodes[k]? = some (.pipe p) → p.recvClosed = true) ∧
    (∀ (P src : Nat) (core : CopyCore), net.nodes[P]? = some (.parent src core) →
      core.srcClosed = 1 ∧ ∀ idx, idx < core.cursors.length → core.cursors[idx]? = some none) ∧
    (∀ (f src : Nat) (st : FwdSt), net.nodes[f]? = some (.fpipe src st) → st = .ended ∨ st = .stopped) :=
  all_closed (h.inv g Inv.empty) (h.closeInv g Inv.empty closeInv_empty) hr (fun _ _ => pendings_nil hp)

/-- non-vacuity of `tree_close_propagates`: on copy(2) of merge(convert(pipe 0), pipe 1), with
    traffic, both copies are closed and the forwarder of the convert notices when pipe 0's
    writer sends again (the `Send` that is told `closed`) -/
example : ∃ net, Behaves factsGen 60 {}
      (treeOps2 ++ [.send 0 ⟨1, 0⟩ false, .send 1 ⟨50, 0⟩ false, .recv 6 (.item ⟨50, 0⟩),
        .close 6, .close 7, .send 0 ⟨7, 7⟩ true]) net ∧
    net.readers = [] ∧ pendings net = [] :=
  allClosedOK_spec factsGen_good (by decide +kernel)

/-- ... while right after the two closes the forwarder has not noticed yet (`pendings = [3]`):
    the hypothesis is needed (`writer_told_late_through_forwarder`) -/
example : (match runOps factsGen 60 [{}] 0 (treeOps2 ++ [.close 6, .close 7]) with
    | .ok (n :: _, _) => (n.readers, pendings n, (getPipe n 0).map (·.recvClosed), (getPipe n 1).map (·.recvClosed))
    | _ => ([], [], none, none)) = ([], [3], some false, some true) := by decide +kernel

/-! ### no blocked writer / progress through whole networks (partial)

  FULL STATEMENT (not proved; kept visible):
    tree_progress : ∀ reachable net, (some writer still has something to send ∨ some held reader
      has not seen io.EOF) → some step of the network is enabled (a `Send`, a `Recv` of a held
      reader, or a forwarder noticing), for every tree and every schedule.
  It is FALSE in the network model as it stands, because `Recv` is one atomic step there: a
  convert that drops every buffered item blocks *without consuming* them, so the pipe stays full
  and its writer blocked (`atomic_recv_blocks_behind_dropping_convert`, a negation witness on the
  model, not on the code: the real `streamReaderWithConvert.recv` consumes the dropped items
  before it blocks).  What is proved for every tree and every schedule:
    * `tree_no_blocked_writer_after_close` — once every reader is closed and every forwarder has
      noticed, no `Send` can block: it returns `closed` at once;
    * `tree_eof_progress_partial` — once every writer has closed, every held reader can take a
      `Recv` step, in every network none of whose converts drops items (`NoSkip`), for the
      relational semantics `Recv` (of which the executable `recvAll` is a refinement).
  MISSING for the full statement: (1) a model of `Recv` that is not atomic over dropped items (then
  the `NoSkip` hypothesis and the witness go away); the loop over dropped items needs a
  termination measure = the length of the specified remaining sequence `Den`, i.e. uniqueness of
  `Den` up to permutation; (2) completeness of `recvAll` w.r.t. `Recv` (the closed-source-first
  order of the select loop) to state enabledness for the executable function; (3) the case of open
  writers (a ready source below every blocked reader), which needs the same two ingredients. -/

/-- **tree_no_blocked_writer_after_close.** After any schedule on any network, if every reader has
    been closed and every forwarder has noticed, a `Send` on any pipe whose writer is still open
    does not block and is not accepted: it returns `closed = true` at once. -/
theorem tree_no_blocked_writer_after_close {F : Facts} (g : GoodFacts F) (fuel : Nat) (ops : List Op) (net : Net)
    (h : Behaves F fuel {} ops net) (hr : net.readers = []) (hp : pendings net = [])
    (k : Nat) (p : Pipe) (hk : net.nodes[k]? = some (.pipe p)) (hs : p.sendClosed = false) (it : Item) :
    p.send it = some (p, true) := by
  have hc := (tree_close_propagates g fuel ops net h hr hp).1 k p hk
  simp [Pipe.send, hs, hc]

/-- **tree_eof_progress_partial.** In every reachable network none of whose converts drops items,
    once every writer has closed, every reader the caller holds can take a `Recv` step (an item
    or `io.EOF`): through every nesting of copy / merge / convert no reader is stuck behind a
    closed source, a drained copy, an exited or exiting forwarder (its `Close` of its source
    succeeds, `tree_close_never_twice`).  Partial: see the comment above. -/
theorem tree_eof_progress_partial {F : Facts} (g : GoodFacts F) (fuel : Nat) (ops : List Op) (net : Net)
    (h : Behaves F fuel {} ops net) (hw : AllSendClosed net) (hs : NoSkip net) (r : Nat) (hr : r ∈ net.readers) :
    ∃ obs net', Step F fuel net (.recv r obs) net' := by
  have i := h.inv g Inv.empty
  have p : PHyp net net.readers :=
    ⟨i.sh, i.st, fun r hr => i.rd.free' hr, h.closeInv g Inv.empty closeInv_empty, hw, hs⟩
  obtain ⟨res, net', tr, hrec⟩ := recv_enabled g net.readers (r + 1) r (Nat.lt_succ_self _) net p
    (.of_root (.inl hr)) (i.rd.kind r hr)
  exact ⟨res, net', .recv hr hrec⟩

/-- **atomic_recv_blocks_behind_dropping_convert (negation witness for whole-tree progress in the
    atomic model).** pipe(1) read through a convert that drops everything: after one accepted
    `Send` the pipe is full, the model's `Recv` of the convert is not enabled (`recvAll = []`: it
    would drop the item and then block, and the model does not split the call), and the next
    `Send` may block (`sendCode = 0`). -/
theorem atomic_recv_blocks_behind_dropping_convert :
    (match runOps factsGen 60 [{}] 0 [.pipe 1, .conv 0 ⟨0, 1, 0, 0, 0⟩, .send 0 ⟨5, 0⟩ false] with
     | .ok (n :: _, _) => ((recvAll factsGen 60 n 1).isEmpty, sendCode factsGen 60 n 0, n.readers)
     | _ => (false, 9, [])) = (true, 0, [1]) := by decide +kernel

/-- non-vacuity of `tree_eof_progress_partial`: copy(2) of merge(convert(pipe 0), pipe 1) with a
    convert that drops nothing, both writers closed with items still buffered, copy 6 partly read -/
example : ∃ net, Behaves factsGen 60 {}
      [.pipe 2, .pipe 1, .conv 0 ⟨100, 0, 0, 3, 1⟩, .merge [2, 1], .copy 4 2,
       .send 0 ⟨2, 0⟩ false, .send 0 ⟨1, 0⟩ false, .send 1 ⟨50, 0⟩ false, .recv 6 (.item ⟨50, 0⟩),
       .closeSend 0, .closeSend 1] net ∧
    AllSendClosed net ∧ NoSkip net ∧ 6 ∈ net.readers ∧ 7 ∈ net.readers := by
  have h : (match runOps factsGen 60 [{}] 0
      [.pipe 2, .pipe 1, .conv 0 ⟨100, 0, 0, 3, 1⟩, .merge [2, 1], .copy 4 2,
       .send 0 ⟨2, 0⟩ false, .send 0 ⟨1, 0⟩ false, .send 1 ⟨50, 0⟩ false, .recv 6 (.item ⟨50, 0⟩),
       .closeSend 0, .closeSend 1] with
      | .ok (n :: _, _) => allSendClosedB n && noSkipB n && n.readers.contains 6 && n.readers.contains 7
      | _ => false) = true := by decide +kernel
  split at h
  · rename_i n rest cr h0
    simp only [Bool.and_eq_true] at h
    exact ⟨n, runOps_init_behaves factsGen_good h0 n (by simp), allSendClosedB_spec h.1.1.1, noSkipB_spec h.1.1.2, by simpa using h.1.2, by simpa using h.2⟩
  · cases h

/-! ## a reader with history handed to a new consumer (family `late`)

  A reader may be passed to `MergeStreamReaders` / `StreamReaderWithConvert` / `Copy` at any
  moment of its life.  For the network model this is part of `tree_delivery` (the constructors of
  a schedule may come at any point, and `Den` of a copy starts at its cursor: `Den.childOpen`).
  The theorems of this section state it for the component that carries the history — the `Copy`
  cell — in terms of the source sequence, and tie it to the way `MergeStreamReaders` takes a copy
  (source facts `mergeTakes`, `mergeChildViaToStream`, `childRecvIsOwnPeek`, `mergeArrayFromIndex`). -/

/-- the hand-over facts as extracted from the source: a copy given to `MergeStreamReaders` is read
    by a forwarding goroutine (`sr.csr.toStream()`) whose loop calls `csr.recv`, which is
    `csr.parent.peek(csr.index)` -/
def lateFactsGen : LateFacts :=
  { childViaRecv := FactsC08.mergeChildViaToStream && FactsC08.childRecvIsOwnPeek &&
      FactsC08.childForwarderClosesSource,
    arrayFromIndex := FactsC08.mergeArrayFromIndex }

/-- The regenerated hand-over facts are the expected ones; in particular every clause of the
    `switch sr.typ` of `MergeStreamReaders` is the single statement expected for its reader type
    (`mergeTakes`: pipe ↦ its channel, array ↦ `arr[index:]`, merged ↦ its sources, convert and
    copy ↦ their own `toStream()`). -/
theorem late_facts_match :
    lateFactsGen = Expected.C08.lateFacts ∧ FactsC08.mergeTakes = Expected.C08.mergeTakes := by
  decide

/-- **late_handover_delivers_whole_source.** `n ≥ 1` copies of a source that delivers `l`; ANY
    interleaving `evs` of `Recv`s and `Close`s of the copies (siblings reading ahead — pulling items
    out of the source into the shared list —, lagging behind, being closed after reading or unread);
    then copy `i`, still open, is handed to `MergeStreamReaders`.  What the merged reader gets from
    it (`takeOver`: the forwarding goroutine reading the copy to the end) is exactly what copy `i`
    was still owed — the items waiting for it in the shared list followed by what the source still
    holds — so that what `i` received before the hand-over followed by what is delivered after it
    is the whole sequence `l`: nothing that a sibling had read ahead is lost, whether that sibling
    is closed by now or not, and whether `i` is the only copy left or not. -/
theorem late_handover_delivers_whole_source (wraps : Nat → Bool) (l : List Item) (n : Nat) (hn : 0 < n)
    (evs : List (CEv (List Item))) (hne : ∀ e ∈ evs, e.isEnv = false) (y : CopySys (List Item))
    (hr : (CopySys.init n l).run copyFactsGen listSrc evs = some y) (i k : Nat)
    (hc : y.core.cursors[i]? = some (some k)) :
    ∃ rest, takeOver lateFactsGen FactsC08.eofByIdentity wraps copyFactsGen y i = some rest ∧
      rest = y.core.log.drop k ++ y.src ∧ itemsOf i y.outs ++ rest = l := by
  have hv : lateFactsGen.childViaRecv = true := by decide
  have linv := (LInv.init l n).run hne hr
  rw [copyFacts_good] at hr ⊢
  have inv := (CInv.init n hn l).run hn listSrc hr
  have hk := inv.cur i k hc
  have hd := drainChild_spec goodCopy rfl (listedFor y.core i + y.src.length + 1) y i k hc hk.1
    (fun he => linv.done (inv.eofMem.mp he)) (by simp [listedFor, hc])
  refine ⟨y.core.log.drop k ++ y.src, ?_, rfl, ?_⟩
  · simp only [takeOver, hv, if_true, hd, Option.map_some, forwarder_forwards_every_element]
  · rw [hk.2, ← List.append_assoc, List.take_append_drop, ← inv.pulledLog]
    exact linv.split

/-- non-vacuity, and the situation itself: five items, copy 0 reads two of them and is closed, copy
    1 — the only one left, nothing read — is handed over: it is owed all five (two from the list) -/
example : ((CopySys.init 2 [⟨1, 0⟩, ⟨2, 0⟩, ⟨3, 0⟩, ⟨4, 0⟩, ⟨5, 0⟩]).run copyFactsGen listSrc
      [.recv 0, .recv 0, .close 0]).bind (fun y =>
        (takeOver lateFactsGen FactsC08.eofByIdentity (fun _ => true) copyFactsGen y 1).map fun r =>
          (y.core.cursors, listedFor y.core 1, y.src, r))
    = some ([none, some 0], 2, [⟨3, 0⟩, ⟨4, 0⟩, ⟨5, 0⟩], [⟨1, 0⟩, ⟨2, 0⟩, ⟨3, 0⟩, ⟨4, 0⟩, ⟨5, 0⟩]) := by decide +kernel

/-- **late_array_handover.** An array reader that has delivered `index` items and is then handed
    to `MergeStreamReaders`: delivered before ++ taken over = the array (each item once). -/
theorem late_array_handover (arr : List Item) (index : Nat) :
    arr.take index ++ arrTakeOver lateFactsGen arr index = arr := by
  have h : lateFactsGen.arrayFromIndex = true := by decide
  simp [arrTakeOver, h]

/-- the network model the oracle runs says the same on this situation: after the late merge
    (copy 3 of pipe 0 merged with pipe 4; sibling 2 had read items 1 and 2 and was closed) the
    merged reader 6 delivers item 1 first … -/
example : (runOps factsGen 60 [{}] 0
    [.pipe 5, .send 0 ⟨1, 0⟩ false, .send 0 ⟨2, 0⟩ false, .send 0 ⟨3, 0⟩ false, .copy 0 2,
     .recv 2 (.item ⟨1, 0⟩), .recv 2 (.item ⟨2, 0⟩), .close 2, .pipe 1, .merge [3, 4],
     .recv 6 (.item ⟨1, 0⟩), .recv 6 (.item ⟨2, 0⟩), .recv 6 (.item ⟨3, 0⟩)]).toOption.isSome = true := by decide +kernel

/-- … and a delivery that starts behind the items the closed sibling had read is not a behaviour -/
example : (runOps factsGen 60 [{}] 0
    [.pipe 5, .send 0 ⟨1, 0⟩ false, .send 0 ⟨2, 0⟩ false, .send 0 ⟨3, 0⟩ false, .copy 0 2,
     .recv 2 (.item ⟨1, 0⟩), .recv 2 (.item ⟨2, 0⟩), .close 2, .pipe 1, .merge [3, 4],
     .recv 6 (.item ⟨3, 0⟩)]).toOption.isSome = false := by decide +kernel

/-! ## merged readers of any width: the two descriptions of "live source" (family `wide`)

  Delivery through a merged reader of ANY number of sources is `merge_per_source_order`,
  `merge_eof_after_all`, `merge_progress` (component model, `caps` an arbitrary list, both sides of
  `maxSelectNum`) and `tree_delivery` (network model: `Inter` over all remaining sources).  Those
  models describe the `reflect.Select` path as a select over `chosenList` (`selCases` above `maxSel`).
  The code keeps a second structure there, `itemsCases`, indexed by SOURCE INDEX.  The theorems of
  this section show that with the bookkeeping found in the source the two agree after every sequence
  of ends, for every width, so that the abstraction is sound: exactly the live sources are polled. -/

/-- the bookkeeping facts as extracted from `multiStreamReader.recv` / `newMultiStreamReader` -/
def wideFactsGen : WideFacts :=
  { disableByIndex := FactsC08.reflectDisablesChosenIndex && FactsC08.chosenRemovedByValue &&
      FactsC08.itemsCasesPerSource }

theorem wide_facts_match : wideFactsGen = Expected.C08.wideFacts := by decide

/-- **wide_polls_exactly_live.** A merged reader of ANY number `n` of sources; the ends of the
    sources `ends` are noticed one after the other, in ANY order (ascending, descending, with gaps,
    below and above `maxSelectNum` live sources).  Then: the sources a `Recv` polls are exactly the
    sources in `chosenList`; those are exactly the sources that have not ended; hence an item
    waiting in ANY source that has not ended is delivered even when every other source is silent;
    and `chosenList` is empty — `Recv` returns io.EOF — iff every source has ended. -/
theorem wide_polls_exactly_live (n : Nat) (ends : List Nat) (w : WideSt)
    (hr : (WideSt.init n).run wideFactsGen FactsC08.maxSelectNum ends = some w) :
    (∀ s, s ∈ w.polled FactsC08.maxSelectNum ↔ s ∈ w.chosen) ∧
    (∀ s, s ∈ w.chosen ↔ s < n ∧ s ∉ ends) ∧
    (∀ s, s < n → s ∉ ends → w.delivers FactsC08.maxSelectNum s = true) ∧
    (w.chosen = [] ↔ ∀ s, s < n → s ∈ ends) := by
  have hf : wideFactsGen = ⟨true⟩ := by decide
  rw [hf] at hr
  obtain ⟨inv, _, _, hc⟩ := WInv.run ends (WInv.init n FactsC08.maxSelectNum) hr
  have hch : ∀ s, s ∈ w.chosen ↔ s < n ∧ s ∉ ends := by
    intro s; rw [hc s]; simp [WideSt.init]
  refine ⟨inv.polled_iff, hch, fun s hs he => ?_, ?_⟩
  · simp only [WideSt.delivers, List.contains_iff_mem]
    exact (inv.polled_iff s).mpr ((hch s).mpr ⟨hs, he⟩)
  · simp [List.eq_nil_iff_forall_not_mem, hch]

/-- … and every order is a behaviour (the statement above is not vacuous for any order): noticing
    the end of a source that has not ended is always enabled. -/
theorem wide_every_end_order_is_a_run (n : Nat) (ends : List Nat) (hnd : ends.Nodup)
    (hlt : ∀ s ∈ ends, s < n) :
    ∃ w, (WideSt.init n).run wideFactsGen FactsC08.maxSelectNum ends = some w := by
  have hf : wideFactsGen = ⟨true⟩ := by decide
  rw [hf]
  exact WInv.run_enabled ends (WInv.init n FactsC08.maxSelectNum) hnd
    (fun s hs => by simpa [WideSt.init] using hlt s hs)

/-- **wide_model_select_is_the_polled_set.** The select of the component / network model (`selCases`
    with the extracted table: one case `(c, c)` per position `c` of `chosenList`) ranges over exactly
    the sources the code polls — below and above `maxSelectNum`. -/
theorem wide_model_select_is_the_polled_set (n : Nat) (ends : List Nat) (w : WideSt)
    (hr : (WideSt.init n).run wideFactsGen FactsC08.maxSelectNum ends = some w) (s : Nat) :
    s ∈ w.polled FactsC08.maxSelectNum ↔
      ∃ c, (c, c) ∈ selCases FactsC08.receiveN FactsC08.maxSelectNum w.chosen.length ∧ w.chosen[c]? = some s := by
  rw [(wide_polls_exactly_live n ends w hr).1 s, selCases_ok table_ok]
  constructor
  · intro hs
    obtain ⟨c, hc, he⟩ := List.getElem_of_mem hs
    exact ⟨c, by simp [hc], by simp [List.getElem?_eq_getElem hc, he]⟩
  · rintro ⟨c, _, hc⟩
    exact List.mem_of_getElem? hc

/-- eight sources, 0 and then 2 have ended (six live: the reflect path): every one of the six is
    polled, 0 and 2 are not -/
example : ((WideSt.init 8).run wideFactsGen FactsC08.maxSelectNum [0, 2]).map
    (fun w => (w.chosen, w.armed, w.polled FactsC08.maxSelectNum))
    = some ([1, 3, 4, 5, 6, 7], [false, true, false, true, true, true, true, true], [1, 3, 4, 5, 6, 7]) := by decide +kernel

/-! ## non-vacuity: concrete non-trivial behaviours -/

/-- a capacity-2 pipe: two sends, a receive, the third send, writer close, drain, EOF -/
example : (Pipe.runH (Pipe.new 2, {})
    [.send ⟨1, 0⟩, .send ⟨2, 7⟩, .recv, .send ⟨3, 0⟩, .closeSend, .recv, .recv, .recv]).map
      (fun ph => (ph.2.recvd, ph.2.eof)) = some ([⟨1, 0⟩, ⟨2, 7⟩, ⟨3, 0⟩], true) := by decide

/-- a full pipe blocks the writer; a closed reader is reported -/
example : Pipe.runH (Pipe.new 1, {}) [.send ⟨1, 0⟩, .send ⟨2, 0⟩] = none := by decide
example : (Pipe.runH (Pipe.new 1, {}) [.send ⟨1, 0⟩, .closeRecv, .send ⟨2, 0⟩]).map
    (fun ph => (ph.2.accepted, ph.2.refused)) = some ([⟨1, 0⟩], 1) := by decide

/-- three copies over a list source, interleaved reads, an early close and EOF -/
example : ((CopySys.init 3 [⟨1, 0⟩, ⟨2, 0⟩]).run copyFactsGen listSrc
    [.recv 0, .recv 1, .recv 0, .close 2, .recv 0, .recv 1, .recv 1, .close 0, .close 1]).map
      (fun y => (itemsOf 0 y.outs, itemsOf 1 y.outs, [eofOf 0 y.outs, eofOf 1 y.outs, eofOf 2 y.outs],
                 [y.pulled.length, y.core.srcClosed]))
    = some ([⟨1, 0⟩, ⟨2, 0⟩], [⟨1, 0⟩, ⟨2, 0⟩], [true, true, false], [3, 1]) := by decide +kernel

/-- a merge of two sources, both orders of delivery are behaviours -/
example : ((MergeSt.init [1, 1]).run FactsC08.receiveN FactsC08.maxSelectNum
    [.send 0 ⟨1, 0⟩, .send 1 ⟨2, 0⟩, .sel 1, .sel 0, .closeSend 0, .closeSend 1, .sel 0, .sel 0, .eof]).map
      (fun m => (m.outs, m.eofOut)) = some ([(1, ⟨2, 0⟩), (0, ⟨1, 0⟩)], true) := by decide +kernel
example : ((MergeSt.init [1, 1]).run FactsC08.receiveN FactsC08.maxSelectNum
    [.send 0 ⟨1, 0⟩, .send 1 ⟨2, 0⟩, .sel 0, .sel 1]).map
      (fun m => m.outs) = some [(0, ⟨1, 0⟩), (1, ⟨2, 0⟩)] := by decide

/-- six sources: above `maxSelectNum` every remaining source can still be selected -/
example : ((MergeSt.init [1, 1, 1, 1, 1, 1]).run FactsC08.receiveN FactsC08.maxSelectNum
    [.send 5 ⟨9, 0⟩, .sel 5, .closeSend 5, .sel 5, .send 4 ⟨8, 0⟩, .sel 4]).map
      (fun m => (m.outs, m.chosen)) = some ([(5, ⟨9, 0⟩), (4, ⟨8, 0⟩)], [0, 1, 2, 3, 4]) := by decide +kernel

/-- convert: map, skip, own error, source error -/
example : convDrain (fun v => if v = 2 then .skip else if v = 3 then .fail 30 5 else .val (v + 10))
    [⟨1, 0⟩, ⟨2, 0⟩, ⟨3, 0⟩, ⟨4, 9⟩] = [⟨11, 0⟩, ⟨30, 5⟩, ⟨0, 9⟩] := by
  rw [convDrain_eq]; decide

/-! ## the other values of the facts break the property (negation witnesses) -/

/-- With `errors.Is(err, io.EOF)` in the forwarder an error element that wraps io.EOF (here:
    error 7) ends the forwarding: the element is swallowed and everything after it is lost. -/
theorem forwarder_with_errorsIs_loses_items :
    fwdLoop false (fun e => e % 3 == 1) [⟨1, 0⟩, ⟨0, 7⟩, ⟨3, 0⟩, ⟨0, 9⟩] = [⟨1, 0⟩] ∧
    fwdLoop true (fun e => e % 3 == 1) [⟨1, 0⟩, ⟨0, 7⟩, ⟨3, 0⟩, ⟨0, 9⟩] = [⟨1, 0⟩, ⟨0, 7⟩, ⟨3, 0⟩, ⟨0, 9⟩] := by
  decide +kernel

/-- With `!errors.Is(err, io.EOF)` in `peek` a copy returns such an element for ever and never
    reaches the items behind it nor the end of the stream (opaque error 9 does no harm). -/
theorem copy_with_errorsIs_repeats_element :
    peekLoop false (fun e => e % 3 == 1) 4 [⟨1, 0⟩, ⟨0, 7⟩, ⟨3, 0⟩] =
      [.item ⟨1, 0⟩, .item ⟨0, 7⟩, .item ⟨0, 7⟩, .item ⟨0, 7⟩] ∧
    peekLoop false (fun e => e % 3 == 1) 4 [⟨1, 0⟩, ⟨0, 9⟩, ⟨3, 0⟩] =
      [.item ⟨1, 0⟩, .item ⟨0, 9⟩, .item ⟨3, 0⟩, .eof] := by
  decide +kernel

/-- Without `sync.Once` around the fill every child reads the source itself: the second
    child misses the first item. -/
theorem copy_without_once_loses_items :
    ((CopySys.init 2 [⟨1, 0⟩, ⟨2, 0⟩]).run { copyFactsGen with fillOnce := false } listSrc
      [.recv 0, .recv 1]).map (fun y => itemsOf 1 y.outs) = some [⟨2, 0⟩] := by decide

/-- If `close` did not count the closed children the source would never be closed. -/
theorem copy_without_count_never_closes_source :
    ((CopySys.init 2 [⟨1, 0⟩]).run { copyFactsGen with closeIncr := false } listSrc
      [.close 0, .close 1]).map (fun y => y.core.srcClosed) = some 0 := by decide

/-- If the counter were compared with anything but the number of children the source would
    be closed while a child still reads. -/
theorem copy_wrong_comparison_closes_early :
    ((CopySys.init 2 [⟨1, 0⟩]).run { copyFactsGen with closeAtLen := false } listSrc
      [.close 0]).map (fun y => (y.core.srcClosed, y.core.cursors)) = some (1, [none, some 0]) := by decide

/-- A select case that reports another index than the one it received from drops an open
    source: the merged reader returns `io.EOF` while source 1 still holds an item. -/
theorem merge_wrong_table_loses_source :
    ((MergeSt.init [1, 1]).run [[], [(0, 0)], [(0, 1), (1, 1)]] 2
      [.send 1 ⟨7, 0⟩, .closeSend 0, .sel 0, .closeSend 1, .sel 0, .eof]).map
      (fun m => (m.eofOut, m.outs, m.srcs.map (·.buf))) = some (true, [], [[], [⟨7, 0⟩]]) := by decide +kernel

/-- If `MergeStreamReaders` took the channel behind the copies instead of reading the copy through
    its own receive path (say, because the copy is the only one still open), the items a sibling
    had read ahead — which exist only in the shared list — would be lost: here 1 and 2. -/
theorem handover_bypassing_cursor_loses_read_ahead :
    ((CopySys.init 2 [⟨1, 0⟩, ⟨2, 0⟩, ⟨3, 0⟩, ⟨4, 0⟩, ⟨5, 0⟩]).run copyFactsGen listSrc
      [.recv 0, .recv 0, .close 0]).bind (fun y =>
        (takeOver { lateFactsGen with childViaRecv := false } FactsC08.eofByIdentity (fun _ => true) copyFactsGen y 1).map
          fun r => (itemsOf 1 y.outs, r))
    = some ([], [⟨3, 0⟩, ⟨4, 0⟩, ⟨5, 0⟩]) := by decide +kernel

/-- If an array reader were merged as its whole array instead of `arr[index:]`, the items already
    delivered would be delivered again. -/
theorem array_handover_ignoring_index_repeats_items :
    [⟨1, 0⟩, ⟨2, 0⟩, ⟨3, 0⟩].take 1 ++
      arrTakeOver { lateFactsGen with arrayFromIndex := false } [⟨1, 0⟩, ⟨2, 0⟩, ⟨3, 0⟩] 1
    = [(⟨1, 0⟩ : Item), ⟨1, 0⟩, ⟨2, 0⟩, ⟨3, 0⟩] := by decide

/-- If the case were switched off at the POSITION of the ended source in `chosenList` instead of at
    its index: eight sources, 0 ends, then 2 (position 1 among the live ones) — the case of source 1,
    which is still open, is switched off and that of source 2 stays on: an item in source 1 is not
    delivered while six sources are live.  In the order 2, 0 nothing goes wrong. -/
theorem wide_disable_by_position_starves_live_source :
    ((WideSt.init 8).run { disableByIndex := false } FactsC08.maxSelectNum [0, 2]).map
      (fun w => (w.chosen, w.armed, w.delivers FactsC08.maxSelectNum 1))
      = some ([1, 3, 4, 5, 6, 7], [false, false, true, true, true, true, true, true], false) ∧
    ((WideSt.init 8).run { disableByIndex := false } FactsC08.maxSelectNum [2, 0]).map
      (fun w => (w.chosen, w.delivers FactsC08.maxSelectNum 1)) = some ([1, 3, 4, 5, 6, 7], true) := by
  decide +kernel

end EinoV.C08
