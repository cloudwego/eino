/-
  C18 — The ReAct agent alternates model and tools faithfully and stops.
  Property theorems.  Model: EinoV/Model/C18.lean (the agent's compose graph run superstep by
  superstep).  Source facts: EinoV/Gen/FactsC18.lean, regenerated from /repo on every run
  (rule table of the default stream tool-call checker, graph topology built by NewAgent,
  MaxStep → WithMaxRunSteps and compose's default, the history-appending pre-handlers).

  Every theorem that depends on the source facts is stated for *the facts read off the source*
  (`genFacts = some F`); all of them hold for all scripts (replies × chunkings), tool functions,
  return-directly sets, step limits, message modifiers and both modes.
-/
import EinoV.Model.C18
import EinoV.Proofs.C18
import EinoV.Proofs.C18Gen
import EinoV.Proofs.C18Shared
import EinoV.Gen.FactsC18
import EinoV.Expected.C18

namespace EinoV.C18
open EinoV.Gen

/-- Source fact tie: the regenerated facts are the ones the theorems are proved for, the nil
    checker is the first-chunk checker, the tools pre-handler records the return-directly
    id, the graph runs in Pregel mode and compose's step guard is `step >= maxSteps`
    (below 1 rejected). -/
theorem facts_match :
    genFacts = some Expected.C18.facts ∧
    FactsC18.defaultCheckerIsFirstChunk = true ∧
    FactsC18.toolsPreSetsReturnDirectlyId = true ∧
    FactsC18.pregelAnyPredecessor = true ∧
    FactsC18.exportedAnyPredecessor = true ∧
    FactsC18.stepGuardGE = true ∧
    FactsC18.maxStepsBelowOneRejected = true := by decide

/-- the decoded source facts are the expected record (how the theorems with `hF` use the tie) -/
theorem facts_eq {F : Facts} (hF : genFacts = some F) : F = Expected.C18.facts := by
  have := facts_match.1
  rw [hF] at this
  exact Option.some.inj this

/-- **react_history.** The k-th model call (k = 0, 1, …) sees — through the message
    modifier — the original messages followed by, for every earlier reply j < k in order,
    the assistant message j and the tool messages answering its calls (in call order), and
    nothing else (`transcript`). In particular all those tools nodes succeeded. -/
theorem react_history {F : Facts} (hF : genFacts = some F) (cfg : Config) (mode : Mode)
    (orig : List Msg) (script : List Reply) (k : Nat) (s : List Msg)
    (hk : (run F cfg mode orig script).seen[k]? = some s) :
    ∃ t, transcript cfg (script.take k) = some t ∧ s = cfg.modifier (orig ++ t) := by
  rw [facts_eq hF] at hk
  cases hl : stepLimit Expected.C18.facts cfg with
  | none => rw [run_refused hl] at hk; cases hk
  | some l => rw [run_of_limit hl] at hk; exact rounds_seen cfg _ script l orig k s hk

/-- what `transcript` is, reply by reply: assistant message, then one tool message per call
    carrying the call's id and the tool's output -/
theorem transcript_cons (cfg : Config) (r : Reply) (rest : List Reply) (res t : List Msg)
    (hres : (runTools cfg r.full).2 = .ok res) (ht : transcript cfg rest = some t) :
    transcript cfg (r :: rest) = some (r.full :: res ++ t) ∧ Answers cfg r.full.calls res := by
  refine ⟨by simp [transcript, hres, ht], runTools_spec cfg _ _ hres⟩

/-- **react_alternates.** Node executions strictly alternate chat, tools, chat, tools, …;
    the only other node, direct_return, runs at most once, last, right after a tools node. -/
theorem react_alternates {F : Facts} (hF : genFacts = some F) (cfg : Config) (mode : Mode)
    (orig : List Msg) (script : List Reply) :
    Alternates (run F cfg mode orig script).evs := by
  rw [facts_eq hF]
  cases hl : stepLimit Expected.C18.facts cfg with
  | none => rw [run_refused hl]; exact .nil
  | some l => rw [run_of_limit hl]; exact rounds_alternates cfg _ script l orig

/-- **react_result.** If the agent returns a message, there is a first reply `k` at which it
    stops — all earlier replies sent it to the tools node (branch decision `goes`), their
    tools ran, and none of their calls was to a return-directly tool — and the message is
    either that reply's assistant message (the branch went to END) or what direct_return
    picked out of the tools output for the recorded return-directly call id. -/
theorem react_result {F : Facts} (hF : genFacts = some F) (cfg : Config) (mode : Mode)
    (orig : List Msg) (script : List Reply) (m : Msg)
    (hm : (run F cfg mode orig script).result = .ok m) :
    ∃ k r, script[k]? = some r ∧
      (∀ (j : Nat) rj, j < k → script[j]? = some rj → Continues cfg (goes F cfg mode) rj) ∧
      ((goes F cfg mode r = false ∧ m = r.full) ∨
       (goes F cfg mode r = true ∧ returnDirectlyId cfg.returnDirectly r.full ≠ "" ∧
        ∃ res, (runTools cfg r.full).2 = .ok res ∧
          directResult (returnDirectlyId cfg.returnDirectly r.full) res = .ok m)) := by
  rw [facts_eq hF] at hm ⊢
  cases hl : stepLimit Expected.C18.facts cfg with
  | none => rw [run_refused hl] at hm; cases hm
  | some l => rw [run_of_limit hl] at hm; exact rounds_result cfg _ script l orig m hm

/-- **react_result, converse (the agent does answer).** If reply `k` is the first one the
    branch sends to END, every earlier reply went round (tools ran, no return-directly call)
    and the step limit `l` covers the `2k+1` node executions, the agent returns exactly that
    assistant message, after `k+1` model calls and `2k+1` node executions. -/
theorem react_result_complete {F : Facts} (hF : genFacts = some F) (cfg : Config) (mode : Mode)
    (orig : List Msg) (script : List Reply) (l k : Nat) (r : Reply)
    (hl : stepLimit F cfg = some l) (hk : script[k]? = some r)
    (hpre : ∀ (j : Nat) rj, j < k → script[j]? = some rj → Continues cfg (goes F cfg mode) rj)
    (hend : goes F cfg mode r = false) (hb : 2 * k + 1 ≤ l) :
    (run F cfg mode orig script).result = .ok r.full ∧
    (run F cfg mode orig script).evs.length = 2 * k + 1 ∧
    (run F cfg mode orig script).seen.length = k + 1 := by
  rw [facts_eq hF] at hl hpre hend ⊢
  rw [run_of_limit hl]
  exact rounds_complete_end cfg _ k script l orig r hk hpre hend hb

/-- … and if reply `k` is the first one with a call to a return-directly tool (non-empty
    recorded id), its tools succeed and the limit covers `2k+3` executions, the agent returns
    what direct_return picks for that id (by `react_result_direct`: the answer to the first
    such call). -/
theorem react_result_complete_direct {F : Facts} (hF : genFacts = some F) (cfg : Config)
    (mode : Mode) (orig : List Msg) (script : List Reply) (l k : Nat) (r : Reply) (res : List Msg)
    (hl : stepLimit F cfg = some l) (hk : script[k]? = some r)
    (hpre : ∀ (j : Nat) rj, j < k → script[j]? = some rj → Continues cfg (goes F cfg mode) rj)
    (hgo : goes F cfg mode r = true) (hres : (runTools cfg r.full).2 = .ok res)
    (hid : returnDirectlyId cfg.returnDirectly r.full ≠ "") (hb : 2 * k + 3 ≤ l) :
    (run F cfg mode orig script).result
      = directResult (returnDirectlyId cfg.returnDirectly r.full) res ∧
    (run F cfg mode orig script).evs.length = 2 * k + 3 := by
  rw [facts_eq hF] at hl hpre hgo ⊢
  rw [run_of_limit hl]
  exact rounds_complete_direct cfg _ k script l orig r res hk hpre hgo hres hid hb

/-- In `Generate` (and with the default or the whole-stream checker) the branch decision is
    "the assistant message has tool calls". -/
theorem goes_generate {F : Facts} (hF : genFacts = some F) (cfg : Config) (r : Reply)
    (hc : cfg.checker = none ∨ cfg.checker = some wholeStreamChecker) :
    goes F cfg .generate r = !r.full.calls.isEmpty := by
  rw [facts_eq hF]
  rcases hc with hc | hc
  · simp only [goes, Config.checkerSpec, hc, streamOf]
    exact firstChunk_single _
  · simp only [goes, Config.checkerSpec, hc, streamOf]
    exact whole_single _

/-- **react_result, return-directly half.** When the calls of the stopping reply carry
    pairwise distinct ids, what direct_return picks is the answer (tool output, call id) to
    the *first* call whose tool is in the return-directly set. -/
theorem react_result_direct (cfg : Config) (r : Reply) (res : List Msg) (m : Msg)
    (hres : (runTools cfg r.full).2 = .ok res)
    (hnd : (r.full.calls.map (·.id)).Nodup)
    (hid : returnDirectlyId cfg.returnDirectly r.full ≠ "")
    (hm : directResult (returnDirectlyId cfg.returnDirectly r.full) res = .ok m) :
    ∃ c, r.full.calls.find? (fun c => cfg.returnDirectly.contains c.name) = some c ∧
      AnswerOf cfg c m := by
  obtain ⟨c, hc, _, a, ha, hans⟩ := direct_first cfg r.full res hres hnd hid
  rw [ha] at hm
  exact ⟨c, hc, (Except.ok.inj hm) ▸ hans⟩

/-- what "went round" / "stopped for return-directly" means in terms of tool names, for
    messages whose call ids are non-empty -/
theorem return_directly_detected (cfg : Config) (r : Reply)
    (hids : ∀ c ∈ r.full.calls, c.id ≠ "") :
    returnDirectlyId cfg.returnDirectly r.full = "" ↔
      ∀ c ∈ r.full.calls, c.name ∉ cfg.returnDirectly :=
  returnDirectlyId_empty_iff _ _ hids

/-- **react_stops.** With step limit `l` in force (`MaxStep`, or nodes + 10 when it is 0) the
    agent executes at most `l` nodes, and the step-limit error is returned only when all `l`
    were used without reaching END. (That a run which ended otherwise is not changed by any
    larger limit — the limit only truncates — is `react_limit_only_truncates`.) The run
    function is total: there is no script for which the agent loops forever. -/
theorem react_stops {F : Facts} (hF : genFacts = some F) (cfg : Config) (mode : Mode)
    (orig : List Msg) (script : List Reply) (l : Nat) (hl : stepLimit F cfg = some l) :
    (run F cfg mode orig script).evs.length ≤ l ∧
    ((run F cfg mode orig script).result = .error .maxSteps →
      (run F cfg mode orig script).evs.length = l) := by
  rw [facts_eq hF] at hl ⊢
  rw [run_of_limit hl]
  exact ⟨rounds_evs_le cfg _ script l orig, rounds_maxSteps cfg _ script l orig⟩

theorem react_limit_only_truncates {F : Facts} (hF : genFacts = some F) (cfg : Config)
    (mode : Mode) (orig : List Msg) (script : List Reply) (n : Int)
    (hpos : 0 < cfg.maxStep) (hle : cfg.maxStep ≤ n)
    (hne : (run F cfg mode orig script).result ≠ .error .maxSteps) :
    run F { cfg with maxStep := n } mode orig script = run F cfg mode orig script := by
  rw [facts_eq hF] at hne ⊢
  have hl : ∀ (c : Config), 0 < c.maxStep →
      stepLimit Expected.C18.facts c = some c.maxStep.toNat := by
    intro c hn
    rw [stepLimit_facts, if_neg (by omega), if_neg (by omega)]
  rw [run_of_limit (hl cfg hpos)] at hne
  rw [run_of_limit (hl cfg hpos), run_of_limit (hl { cfg with maxStep := n } (by simp only; omega))]
  simp only at hne ⊢
  have hgo : goes Expected.C18.facts { cfg with maxStep := n } mode = goes Expected.C18.facts cfg mode := rfl
  rw [hgo, rounds_setMax]
  obtain ⟨d, hd⟩ : ∃ d, n.toNat = cfg.maxStep.toNat + d := ⟨n.toNat - cfg.maxStep.toNat, by omega⟩
  rw [hd, rounds_mono_add cfg _ script _ orig hne d]

/-- the limit in force: `MaxStep` when positive; 12 (2 nodes + 10) resp. 13 (3 nodes + 10)
    when it is 0; none (the run is refused) when negative -/
theorem react_step_limit {F : Facts} (hF : genFacts = some F) (cfg : Config) :
    stepLimit F cfg =
      if cfg.maxStep = 0 then some (if cfg.returnDirectly.isEmpty then 12 else 13)
      else if cfg.maxStep < 0 then none else some cfg.maxStep.toNat := by
  rw [facts_eq hF]
  exact stepLimit_facts cfg

/-- Generate and Stream agree whenever the configured checker decides on every reply's
    chunks as it decides on the whole message. -/
theorem generate_eq_stream_of_agree {F : Facts} (hF : genFacts = some F) (cfg : Config)
    (orig : List Msg) (script : List Reply)
    (h : ∀ r ∈ script, runChecker (cfg.checkerSpec F) r.chunks
                        = runChecker (cfg.checkerSpec F) [Chunk.ofMsg r.full]) :
    run F cfg .generate orig script = run F cfg .stream orig script := by
  rw [facts_eq hF] at h ⊢
  exact run_pointwise cfg _ _ orig (.diag fun r hr => ⟨rfl, (h r hr).symm⟩)

/-- **generate_eq_stream** (partial: needs the hypothesis; see the negation below).
    Full statement of the property clause: `∀ script, run F cfg .generate orig script =
    run F cfg .stream orig script` for the default configuration — FALSE for the code as it
    is (`generate_ne_stream_witness`), recorded as known finding.
    Proved: with the default checker, if in every reply the first chunk that has content or
    tool calls carries a tool call whenever the reply has any, Generate and Stream give the
    same model inputs, the same node executions and the same answer. -/
theorem generate_eq_stream_partial {F : Facts} (hF : genFacts = some F) (cfg : Config)
    (orig : List Msg) (script : List Reply) (hc : cfg.checker = none)
    (h : ∀ r ∈ script, ToolCallsInFirstNonEmptyChunk r) :
    run F cfg .generate orig script = run F cfg .stream orig script := by
  apply generate_eq_stream_of_agree hF
  intro r hr
  rw [facts_eq hF]
  simp only [Config.checkerSpec, hc]
  exact firstChunk_agree r (h r hr)

/-- Shape of every divergence under the default checker (what the harness relies on to tell
    the recorded finding from any other Generate/Stream difference): some reply of the
    script has its tool calls behind a content chunk. -/
theorem divergence_needs_late_toolcall {F : Facts} (hF : genFacts = some F) (cfg : Config)
    (orig : List Msg) (script : List Reply) (hc : cfg.checker = none)
    (hne : run F cfg .generate orig script ≠ run F cfg .stream orig script) :
    ∃ r ∈ script, ¬ ToolCallsInFirstNonEmptyChunk r := by
  apply Classical.byContradiction
  intro hno
  apply hne
  apply generate_eq_stream_partial hF cfg orig script hc
  intro r hr
  apply Classical.byContradiction
  intro hnr
  exact hno ⟨r, hr, hnr⟩

/-- With a checker that reads the stream until it finds a tool call (the remedy the doc
    comment of `StreamToolCallChecker` prescribes) the clause holds for every script. -/
theorem generate_eq_stream_whole {F : Facts} (hF : genFacts = some F) (cfg : Config)
    (orig : List Msg) (script : List Reply) (hc : cfg.checker = some wholeStreamChecker) :
    run F cfg .generate orig script = run F cfg .stream orig script := by
  apply generate_eq_stream_of_agree hF
  intro r _
  simp only [Config.checkerSpec, hc]
  rw [whole_chunks, whole_single]; rfl

/-- **Provider metadata on chunks is irrelevant.** Whatever else the streamed chunks carry
    (`Extra` entries, `ResponseMeta`, `Name`, … — `Chunk.extras`), model inputs, node executions
    and the answer are those of the script with the metadata removed; in particular a head
    chunk that has neither content nor tool calls is skipped by the default checker whether or
    not it carries metadata (clauses "returns the first assistant message without tool calls",
    "Generate and Stream give the same answer" for such scripts). -/
theorem react_ignores_chunk_metadata {F : Facts} (hF : genFacts = some F) (cfg : Config)
    (mode : Mode) (orig : List Msg) (script : List Reply) :
    run F cfg mode orig (script.map Reply.bare) = run F cfg mode orig script := by
  rw [facts_eq hF]
  exact run_pointwise cfg mode mode orig
    (.map_left Reply.bare (fun r => ⟨full_bare r, goes_bare _ cfg mode r⟩) script)

/-- two scripts that differ only in chunk metadata give the same run -/
theorem react_metadata_congr {F : Facts} (hF : genFacts = some F) (cfg : Config)
    (mode : Mode) (orig : List Msg) (s1 s2 : List Reply)
    (h : s1.map Reply.bare = s2.map Reply.bare) :
    run F cfg mode orig s1 = run F cfg mode orig s2 := by
  rw [← react_ignores_chunk_metadata hF cfg mode orig s1,
      ← react_ignores_chunk_metadata hF cfg mode orig s2, h]

/-- `ToolCallsInFirstNonEmptyChunk` does not depend on metadata: chunks in front of the first
    tool call that carry only metadata count as blank. -/
theorem toolCallsInFirstNonEmptyChunk_bare (r : Reply) :
    ToolCallsInFirstNonEmptyChunk r.bare ↔ ToolCallsInFirstNonEmptyChunk r := by
  rw [toolCallsInFirstNonEmptyChunk_iff, toolCallsInFirstNonEmptyChunk_iff, full_bare]
  show (_ ∨ runChecker _ (r.chunks.map Chunk.bare) = true) ↔ _
  rw [runChecker_bare]

/-- **The embedded agent is the same agent.** Run as the graph returned by
    `Agent.ExportGraph()` inside a parent chain / graph (added with the returned options), the
    agent gives the run `Agent.Generate`/`Agent.Stream` give — same model inputs, node
    executions, answer, and in particular the same step limit (`MaxStep`, not compose's
    default): every theorem above applies to it. -/
theorem react_exported_graph_same {F : Facts} (hF : genFacts = some F) (host : Host)
    (cfg : Config) (mode : Mode) (orig : List Msg) (script : List Reply) :
    runAt F host cfg mode orig script = run F cfg mode orig script := by
  rw [facts_eq hF]
  cases host <;> rfl

/-- the step limit in force inside a parent graph is the configured one (clause "stops with
    the step-limit error", quantified over every step limit, for the exported graph) -/
theorem react_exported_step_limit {F : Facts} (hF : genFacts = some F) (cfg : Config) :
    stepLimit F.exported cfg =
      if cfg.maxStep = 0 then some (if cfg.returnDirectly.isEmpty then 12 else 13)
      else if cfg.maxStep < 0 then none else some cfg.maxStep.toNat := by
  have h : F.exported = F := by rw [facts_eq hF]; rfl
  rw [h]
  exact react_step_limit hF cfg

/-- **toolcalls_assembled_per_index.** What the assistant message reconstructed from a streamed
    reply carries as tool calls (`r.full.calls`, the list the tools node executes in order and
    `transcript` answers call by call), for every reply = every way of cutting the tool calls
    into deltas and distributing them over chunks: the deltas without `Index` are calls of
    their own, in arrival order; for every index `i` there is exactly the one call the deltas
    filed under `i` merge into (first non-empty id and name, arguments concatenated in arrival
    order — wherever those deltas sit in the stream), none if no delta carries `i`; the
    index-less calls come first, the others follow by strictly ascending index (`Canonical`). -/
theorem toolcalls_assembled_per_index (r : Reply) :
    deltasOf none r.full.calls = deltasOf none (r.chunks.flatMap (·.calls)) ∧
    (∀ i, deltasOf (some i) r.full.calls = (groupAt (r.chunks.flatMap (·.calls)) i).toList) ∧
    Canonical r.full.calls :=
  ⟨assemble_unindexed _, assemble_indexed _, assemble_sorted _⟩

/-- **toolcalls_interleaving_invariant.** Two delta streams in which every key (every `Index`,
    and "no `Index`") has the same deltas in the same order assemble to the same tool calls:
    the assembled message does not depend on how the deltas of different calls are interleaved
    (clause "streamed in arbitrary chunks"). -/
theorem toolcalls_interleaving_invariant (ds ds' : List ToolCall)
    (h : ∀ k, deltasOf k ds = deltasOf k ds') : assemble ds = assemble ds' :=
  assemble_congr ds ds' h

/-- **toolcalls_interleave_all.** The delta lists `gs` of any number of parallel tool calls
    (pairwise no common key, e.g. one list per `Index`), interleaved in the stream in any way
    that keeps every list in order (`InterleaveAll`, an inductive relation; proof by induction
    on it), assemble to the same tool calls as the lists streamed back to back. -/
theorem toolcalls_interleave_all (gs : List (List ToolCall)) (l : List ToolCall)
    (h : InterleaveAll gs l) (hd : gs.Pairwise KeyDisjoint) : assemble l = assemble gs.flatten :=
  assemble_interleave_all h hd

/-- **toolcalls_assembled_fixpoint.** Assembling an assembled list changes nothing: the whole
    message `Generate` returns is the message `Stream` reconstructs, also after another pass
    through `ConcatMessages`. -/
theorem toolcalls_assembled_fixpoint (ds : List ToolCall) : assemble (assemble ds) = assemble ds :=
  assemble_idem ds

/-- **toolcalls_canonical_unchanged.** Tool calls that already have the canonical form
    (index-less calls first, then at most one call per index, ascending — the form of the calls
    of one well-formed chunk) are their own assembly; so a reply streamed as a single such
    chunk, which compose hands on as it is without `ConcatMessages`, is the assembled message. -/
theorem toolcalls_canonical_unchanged (c : Chunk) (h : Canonical c.calls) :
    concat [c] = { role := .assistant, content := c.content, calls := c.calls, callId := "" } := by
  simp [concat, String.join, assemble_canonical h]

/-- **react_interleaving_invariant.** Two scripts whose replies are, one by one, re-interleavings
    of each other (`Reply.Reinterleaved`: chunk by chunk the same content and the same "carries
    deltas or not", per key the same deltas in the same order) give the same run — model
    inputs, node executions with the tool calls started, result — in both modes, for every
    configuration: the agent loop sees only the assembled message. -/
theorem react_interleaving_invariant {F : Facts} (hF : genFacts = some F) (cfg : Config)
    (mode : Mode) (orig : List Msg) (s1 s2 : List Reply)
    (h : Pointwise Reply.Reinterleaved s1 s2) :
    run F cfg mode orig s1 = run F cfg mode orig s2 := by
  rw [facts_eq hF]
  exact run_pointwise cfg mode mode orig
    (h.imp fun _ _ hr => ⟨full_reinterleaved hr, goes_reinterleaved _ cfg mode hr⟩)

/-- Source fact tie: `genToolCallTasks` builds the task of an unknown call from values of that
    call (`newUnknownToolTask(toolCall.Function.Name, …)`, `toolCall` declared inside the loop body,
    the closure calling the handler with its own `name` parameter); without a handler an unknown
    name fails the node before any task runs; the agent hands its whole `ToolsConfig` (handler
    included) to `compose.NewToolNode`. -/
theorem tools_facts_match :
    FactsC18.unknownToolTaskGetsOwnName = true ∧
    FactsC18.unknownToolWithoutHandlerFails = true ∧
    FactsC18.toolsConfigReachesNode = true := by decide

/-- the tool message for a call of a registered tool is that tool's output on the call's arguments -/
theorem known_tool_answer (cfg : Config) (c : ToolCall) (m : Msg) (f : String → Except Nat String)
    (hf : cfg.tools c.name = some f) :
    AnswerOf cfg c m ↔ ∃ out, f c.args = .ok out ∧ m = toolMessage out c.id :=
  answerOf_iff (by simp [Config.toolFor, hf]) m

/-- **unknown_tool_answered_under_its_own_name.** With an unknown-tools handler `h` configured, the
    tool message that answers a call `c` to a name that is not a registered tool — wherever `c`
    stands among the calls of the assistant message, whatever the other calls are — is
    `h c.name c.args` under `c`'s id: the handler is asked about the name of THAT call. Together
    with `react_history` / `transcript_cons` (one `AnswerOf` per call, in call order) this is the
    clause "the k-th model call sees … the tool results for its calls" for hallucinated tools. -/
theorem unknown_tool_answered_under_its_own_name (cfg : Config)
    (h : String → String → Except Nat String) (c : ToolCall) (m : Msg)
    (hu : cfg.unknown = some h) (hc : cfg.tools c.name = none) :
    AnswerOf cfg c m ↔ ∃ out, h c.name c.args = .ok out ∧ m = toolMessage out c.id :=
  answerOf_iff (by simp [Config.toolFor, hc, hu]) m

/-- **unknown_tool_without_handler_fails.** Without a handler, an assistant message with a call to
    a name that is not a registered tool — at any position — fails the tools node before any tool
    body is started (so the run ends with that error and no later model call happens). -/
theorem unknown_tool_without_handler_fails (cfg : Config) (m : Msg) (c : ToolCall)
    (hu : cfg.unknown = none) (hm : c ∈ m.calls) (hc : cfg.tools c.name = none) :
    runTools cfg m = ([], .error .toolNotFound) := by
  have hr : resolveCalls cfg m.calls = none :=
    (resolveCalls_eq_none cfg m.calls).mpr ⟨c, hm, by simp [Config.toolFor, hc, hu]⟩
  have hne : m.calls.isEmpty = false := List.isEmpty_eq_false_iff_exists_mem.mpr ⟨c, hm⟩
  simp [runTools, hne, hr]

/-- **unknown_tool_handler_takes_every_call.** With a handler configured the tools node never
    fails for an unknown name: every call of the message is started (registered tools and
    handler alike), and the node's error, if any, is a failure of one of them. -/
theorem unknown_tool_handler_takes_every_call (cfg : Config)
    (h : String → String → Except Nat String) (m : Msg) (hu : cfg.unknown = some h)
    (hne : m.calls ≠ []) :
    (runTools cfg m).1 = m.calls ∧ (runTools cfg m).2 ≠ .error .toolNotFound := by
  cases hr : resolveCalls cfg m.calls with
  | none =>
    -- the handler takes every name that is not a registered tool
    obtain ⟨c, -, hc⟩ := (resolveCalls_eq_none cfg m.calls).mp hr
    unfold Config.toolFor at hc
    rw [hu] at hc
    split at hc <;> cases hc
  | some tasks =>
    rw [runTools, if_neg (by simpa using hne), hr]
    refine ⟨rfl, fun h => ?_⟩
    obtain ⟨id, hid⟩ := collectResults_error tasks _ h
    cases hid

/-- the misspelt call `tt` in front of a call of the real tool `t`: the second model call is shown
    "no tool tt(a)" for `c1` and `t`'s answer for `c2` -/
example : (run Expected.C18.facts (wCfgU [] 0) .stream wOrig [wMisspelt, wDone]).seen
    = [wOrig, wOrig ++ [⟨.assistant, "", [⟨"c1", "tt", "a", none⟩, ⟨"c2", "t", "b", none⟩], ""⟩,
                        ⟨.tool, "no tool tt(a)", [], "c1"⟩, ⟨.tool, "t(b)", [], "c2"⟩]] := by decide

/-- without a handler the same script fails in the tools node, nothing is started -/
example : run Expected.C18.facts (wCfg [] 0) .generate wOrig [wMisspelt, wDone]
    = { seen := [wOrig], evs := [.chat, .tools []], result := .error .toolNotFound } := by decide

/-- the fact matters: a closure reading a loop-shared variable (`resolveCallsSharedVar`) would
    answer the misspelt call under the name of the last call of the message -/
example : ((resolveCalls (wCfgU [] 0) wMisspelt.full.calls).map (·.map (fun t => t.2 t.1.args)))
      = some [.ok "no tool tt(a)", .ok "t(b)"] ∧
    ((resolveCallsSharedVar (wCfgU [] 0) wMisspelt.full.calls wMisspelt.full.calls).map
        (·.map (fun t => t.2 t.1.args)))
      = some [.ok "no tool t(a)", .ok "t(b)"] := by decide

/-- **lazy_tool_result_complete.** Source fact `toolCallCtxNotScoped` (no function between the
    tools node and a tool derives a context that can end on its own — `ToolsNode.Stream` only
    opens the tool streams, they are read after it has returned): a streamable tool that produces
    its chunks lazily and looks at its context before each of them delivers, in Stream mode as in
    Generate, next to sibling calls or alone, the concatenation of all its chunks — the tool's
    output `f args` that `AnswerOf` / `transcript_cons` / `react_history` put into the history,
    `react_result_direct` returns for a return-directly tool, and `generate_eq_stream_partial` /
    `generate_eq_stream_whole` equate between the modes. (The model's tools are functions
    `args ↦ output`; this theorem is what licenses reading a lazily streamed result as one.) -/
theorem lazy_tool_result_complete (siblings : Bool) (mode : LazyMode) (chunks : List String) :
    lazyRead (!FactsC18.toolCallCtxNotScoped) siblings mode chunks = .ok (String.join chunks) := by
  have h : FactsC18.toolCallCtxNotScoped = true := by decide
  simp [lazyRead, h]

/-- the fact matters: under a context the tools node ends itself, the lazily produced result of
    one of several sibling calls is cut short or fails; a single call is not affected -/
example : lazyRead true true .stop ["alpha-", "beta-", "gamma"] = .ok "alpha-" ∧
    lazyRead true true .err ["alpha-", "beta-", "gamma"] = .error (.toolFailed 0) ∧
    lazyRead true false .stop ["alpha-", "beta-", "gamma"] = .ok "alpha-beta-gamma" ∧
    lazyRead false true .stop ["alpha-", "beta-", "gamma"] = .ok "alpha-beta-gamma" := by decide

/-- Source fact tie for the memory of the history: in package react every store into
    `state.Messages` is `state.Messages = append(state.Messages, …)`, and the state generator
    makes the slice inside its per-run closure. -/
theorem mem_facts_match : genMemFacts = Expected.C18.memFacts := by decide

/-- **react_runs_isolated.** Any number of runs (each with its own agent configuration, entry
    point Generate / Stream and model script) started from ONE message slice of the caller — the
    slice's backing array holding `orig` and any spare cells `spare` behind it (`cap > len`: built
    with `append`, or a prefix of a longer slice) — and interleaved node execution by node
    execution in ANY order `sched` (then driven to completion), with Go's `append` writing in
    place whenever the capacity allows (`goAppend`, any growth policy `slack`): every run shows
    exactly the model inputs, node executions and result of that run alone (`run`), and the
    caller's backing array — its elements and its spare cells — is as the caller left it. So
    every theorem above about `run` (history of the k-th model call, alternation, result, step
    limit) holds for each of the overlapping runs. (Holds for any topology / checker facts `F`;
    what it needs are the two memory facts.) -/
theorem react_runs_isolated (F : Facts) (slack : Nat → Nat)
    (orig spare : List Msg) (specs : List RunSpec) (sched : List Nat) :
    (runShared F genMemFacts slack orig spare specs sched).out =
      { runs := specs.map (fun p => some (run F p.cfg p.mode orig p.script)),
        callerArr := orig ++ spare } := by
  rw [mem_facts_match]
  exact runShared_isolated F slack orig spare specs sched

/-- **react_history_shared.** The clause "the k-th model call sees the original messages
    followed by every earlier assistant message and the tool results for its calls, in order",
    for run `i` of any such experiment: what its k-th model call saw is its own transcript —
    nothing of the runs it overlapped with. -/
theorem react_history_shared {F : Facts} (hF : genFacts = some F) (slack : Nat → Nat)
    (orig spare : List Msg) (specs : List RunSpec) (sched : List Nat) (i : Nat) (p : RunSpec)
    (r : Run) (k : Nat) (s : List Msg) (hp : specs[i]? = some p)
    (hr : (runShared F genMemFacts slack orig spare specs sched).out.runs[i]? = some (some r))
    (hk : r.seen[k]? = some s) :
    ∃ t, transcript p.cfg (p.script.take k) = some t ∧ s = p.cfg.modifier (orig ++ t) := by
  rw [react_runs_isolated F] at hr
  simp only [List.getElem?_map, hp, Option.map_some, Option.some.injEq] at hr
  subst hr
  exact react_history hF p.cfg p.mode orig p.script k s hk

/-- non-vacuity: runs A (Generate) and B (Stream) from a slice with two spare cells, A parked
    after its first model call while B runs its first round, then A's tools, then the rest: both
    see their own transcripts and the spare cells are untouched.
    (The three long closed runs of this file are evaluated by the kernel alone, `decide +kernel`:
    evaluating them in the elaborator first is several times slower.) -/
example : (runShared Expected.C18.facts Expected.C18.memFacts (fun n => n) wOrig wSpare
            [wRunA, wRunB] [0, 1, 1, 0]).out
    = { runs := [some { seen := [wOrig, wOrig ++ [⟨.assistant, "for A", [⟨"cA", "t", "a", none⟩], ""⟩, ⟨.tool, "t(a)", [], "cA"⟩]],
                        evs := [.chat, .tools [⟨"cA", "t", "a", none⟩], .chat],
                        result := .ok ⟨.assistant, "answer A", [], ""⟩ },
                 some { seen := [wOrig, wOrig ++ [⟨.assistant, "for B", [⟨"cB", "t", "b", none⟩], ""⟩, ⟨.tool, "t(b)", [], "cB"⟩]],
                        evs := [.chat, .tools [⟨"cB", "t", "b", none⟩], .chat],
                        result := .ok ⟨.assistant, "answer B", [], ""⟩ }],
        callerArr := wOrig ++ wSpare } := by decide +kernel

/-- a changed fact changes the model: were the history to adopt the caller's slice on the first
    round (`state.Messages = input`), the same experiment would show A's second model call B's
    assistant message with A's tool result, and the caller's spare cells overwritten … -/
example : ((runShared Expected.C18.facts { Expected.C18.memFacts with historyOnlyAppended := false }
            (fun n => n) wOrig wSpare [wRunA, wRunB] [0, 1, 0, 1]).out.runs.map (Option.map (·.seen)))
    = [some [wOrig, wOrig ++ [⟨.assistant, "for B", [⟨"cB", "t", "b", none⟩], ""⟩, ⟨.tool, "t(a)", [], "cA"⟩]],
       some [wOrig, wOrig ++ [⟨.assistant, "for B", [⟨"cB", "t", "b", none⟩], ""⟩, ⟨.tool, "t(b)", [], "cB"⟩]]] := by decide +kernel

/-- … and already a single run would write into the caller's spare capacity -/
example : (runShared Expected.C18.facts { Expected.C18.memFacts with historyOnlyAppended := false }
            (fun n => n) wOrig wSpare [wRunA] []).out.callerArr
    = wOrig ++ [⟨.assistant, "for A", [⟨"cA", "t", "a", none⟩], ""⟩, ⟨.tool, "t(a)", [], "cA"⟩] := by decide

/-- a changed fact changes the model: one history array made when the agent is built (not per
    run) lets overlapping runs read each other's history -/
example : ((runShared Expected.C18.facts { Expected.C18.memFacts with stateFreshPerRun := false }
            (fun n => n) wOrig [] [{ wRunA with cfg := wCfg [] 8 }, { wRunB with cfg := wCfg [] 8 }]
            [0, 1, 0, 1]).out.runs.map (Option.map (·.seen)))
    ≠ [some (run Expected.C18.facts (wCfg [] 8) .generate wOrig wRunA.script).seen,
       some (run Expected.C18.facts (wCfg [] 8) .stream wOrig wRunB.script).seen] := by decide

/-- **Known finding (DESIGN §5, known_findings/C18.json).** Without the hypothesis the
    clause is false for the code as it is: the default first-chunk checker sends `Stream` to
    END with the assistant message that still has the tool call, while `Generate` runs the
    tool and returns "done". The harness replays exactly this script on the real agent. -/
theorem generate_ne_stream_witness :
    (run Expected.C18.facts (wCfg [] 0) .generate wOrig [wLate, wDone]).result
      = .ok ⟨.assistant, "done", [], ""⟩ ∧
    (run Expected.C18.facts (wCfg [] 0) .stream wOrig [wLate, wDone]).result
      = .ok ⟨.assistant, "thinking", [⟨"c1", "t", "x", none⟩], ""⟩ ∧
    ¬ ToolCallsInFirstNonEmptyChunk wLate := by
  refine ⟨by decide, by decide, ?_⟩
  rw [toolCallsInFirstNonEmptyChunk_iff]
  decide

/-- the hypothesis is satisfiable by replies with tool calls and several chunks, and then
    both modes run the tool and agree -/
example : ToolCallsInFirstNonEmptyChunk ⟨[⟨"", [], []⟩, ⟨"a", [⟨"c1", "t", "x", none⟩], []⟩, ⟨"b", [], []⟩]⟩ :=
  .inr ⟨[⟨"", [], []⟩], ⟨"a", [⟨"c1", "t", "x", none⟩], []⟩, [⟨"b", [], []⟩], rfl, by simp [Chunk.blank], by simp⟩

example : run Expected.C18.facts (wCfg [] 0) .stream wOrig
            [⟨[⟨"", [], []⟩, ⟨"a", [⟨"c1", "t", "x", none⟩], []⟩, ⟨"b", [], []⟩]⟩, wDone]
    = { seen := [wOrig, wOrig ++ [⟨.assistant, "ab", [⟨"c1", "t", "x", none⟩], ""⟩, ⟨.tool, "t(x)", [], "c1"⟩]],
        evs := [.chat, .tools [⟨"c1", "t", "x", none⟩], .chat],
        result := .ok ⟨.assistant, "done", [], ""⟩ } := by decide

/-- return-directly: three node executions, the tool's message is the answer -/
example : run Expected.C18.facts (wCfg ["t"] 0) .generate wOrig [⟨[⟨"", [⟨"c1", "t", "x", none⟩], []⟩]⟩, wDone]
    = { seen := [wOrig], evs := [.chat, .tools [⟨"c1", "t", "x", none⟩], .direct],
        result := .ok ⟨.tool, "t(x)", [], "c1"⟩ } := by decide

/-- the step limit bites: a model that always calls the tool, MaxStep 4 -/
example : (run Expected.C18.facts (wCfg [] 4) .generate wOrig
            [⟨[⟨"", [⟨"c1", "t", "x", none⟩], []⟩]⟩, ⟨[⟨"", [⟨"c2", "t", "y", none⟩], []⟩]⟩, ⟨[⟨"", [⟨"c3", "t", "z", none⟩], []⟩]⟩]).result
    = .error .maxSteps := by decide

/-- a changed fact changes the model: if the tools pre-handler did not append, the second
    model call would not see the assistant message -/
example : (run { Expected.C18.facts with toolsPreAppends := false } (wCfg [] 0) .generate wOrig
            [⟨[⟨"", [⟨"c1", "t", "x", none⟩], []⟩]⟩, wDone]).seen
    = [wOrig, wOrig ++ [⟨.tool, "t(x)", [], "c1"⟩]] := by decide

/-- a head chunk carrying only metadata is skipped: Stream runs the tool like Generate -/
example : ToolCallsInFirstNonEmptyChunk wMetaHead :=
  .inr ⟨[⟨"", [], ["extra:request_id"]⟩], ⟨"", [⟨"c1", "t", "x", none⟩], []⟩, [], rfl, by simp [Chunk.blank], by simp⟩

example : run Expected.C18.facts (wCfg [] 0) .stream wOrig [wMetaHead, wDone]
    = { seen := [wOrig, wOrig ++ [⟨.assistant, "", [⟨"c1", "t", "x", none⟩], ""⟩, ⟨.tool, "t(x)", [], "c1"⟩]],
        evs := [.chat, .tools [⟨"c1", "t", "x", none⟩], .chat],
        result := .ok ⟨.assistant, "done", [], ""⟩ } := by decide

/-- a changed fact changes the model: were `MaxStep` not among the exported compile options,
    the embedded agent would run under compose's default (12) instead of `MaxStep` = 4 -/
example : stepLimit ({ Expected.C18.facts with maxStepExported := false }).exported (wCfg [] 4) = some 12 ∧
    stepLimit Expected.C18.facts.exported (wCfg [] 4) = some 4 := by decide

example : (runAt { Expected.C18.facts with maxStepExported := false } .exported (wCfg [] 4) .generate wOrig
            [⟨[⟨"", [⟨"c1", "t", "x", none⟩], []⟩]⟩, ⟨[⟨"", [⟨"c2", "t", "y", none⟩], []⟩]⟩, wDone]).result
      = .ok ⟨.assistant, "done", [], ""⟩ ∧
    (runAt Expected.C18.facts .exported (wCfg [] 4) .generate wOrig
            [⟨[⟨"", [⟨"c1", "t", "x", none⟩], []⟩]⟩, ⟨[⟨"", [⟨"c2", "t", "y", none⟩], []⟩]⟩, wDone]).result
      = .error .maxSteps := by decide

/-- two parallel tool calls streamed as deltas, one delta of each call per chunk (heads with id
    and name, then two argument fragments each): `Stream` reconstructs the two calls, runs both
    tools with the model's arguments, in order, and feeds both results back — like `Generate` -/
example : run Expected.C18.facts (wCfg [] 0) .stream wOrig [wInterleaved, wDone]
    = { seen := [wOrig, wOrig ++ [⟨.assistant, "", [⟨"c0", "t", "{\"a\":1}", some 0⟩, ⟨"c1", "t", "{\"b\":2}", some 1⟩], ""⟩,
                                  ⟨.tool, "t({\"a\":1})", [], "c0"⟩, ⟨.tool, "t({\"b\":2})", [], "c1"⟩]],
        evs := [.chat, .tools [⟨"c0", "t", "{\"a\":1}", some 0⟩, ⟨"c1", "t", "{\"b\":2}", some 1⟩], .chat],
        result := .ok ⟨.assistant, "done", [], ""⟩ } ∧
    run Expected.C18.facts (wCfg [] 0) .generate wOrig [wInterleaved, wDone]
      = run Expected.C18.facts (wCfg [] 0) .stream wOrig [wInterleaved, wDone] := by decide +kernel

/-- the same deltas with each call's deltas back to back: a re-interleaving, same whole message -/
example : wInterleaved.Reinterleaved wContiguous ∧ wInterleaved.full = wContiguous.full := by
  refine ⟨⟨?_, ?_⟩, by decide⟩
  · exact .cons ⟨rfl, rfl⟩ (.cons ⟨rfl, rfl⟩ (.cons ⟨rfl, rfl⟩ .nil))
  · intro k
    by_cases h0 : k = some 0
    · subst h0; decide
    · by_cases h1 : k = some 1
      · subst h1; decide
      · have : ∀ ds : List ToolCall, (∀ d ∈ ds, d.index = some 0 ∨ d.index = some 1) → deltasOf k ds = [] := by
          intro ds hds
          rw [deltasOf_eq_nil_iff]
          intro d hd hk
          rcases hds d hd with h | h
          · exact h0 (hk.symm.trans h)
          · exact h1 (hk.symm.trans h)
        rw [this _ (by decide), this _ (by decide)]

/-- merging per contiguous run instead of per index would give six broken calls here: the
    assembled list is not the concatenation of the deltas -/
example : wInterleaved.full.calls.length = 2 ∧ (wInterleaved.chunks.flatMap (·.calls)).length = 6 := by decide

end EinoV.C18
