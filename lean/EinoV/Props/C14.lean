/-
  C14 — Chunk concatenation is total, deterministic and independent of chunk boundaries.
  Property theorems.  Model: EinoV/Model/C14.lean.  Lemmas: EinoV/Proofs/C14.lean, C14Sort.lean
  (the final sort), TransC14.lean (the translated `concatToolCalls`).
  Source facts: EinoV/Gen/FactsC14.lean (regenerated from /repo on every run).

  `srcCfg` is the model configuration built from the regenerated facts: the `concatFuncs`
  table of internal/concat.go, whether `concatMaps` guards nil interface values, whether that
  guard tests `Kind() == Interface` before `IsNil()`, whether the recursion into nested maps
  is decided by the kind of the values' type, whether `ConcatItems` handles a nil interface
  result, the presence of the conflict checks in `ConcatMessages` / `concatToolCalls`, and
  whether the final sort of `concatToolCalls` is a stable one.
  Every theorem is about the model instantiated with `srcCfg`; `EqvE a b` = "equal results,
  or both errors".  Maps carry their element type (`map[string]any`, `map[string]string`,
  `map[string]map[string]string`, … at every nesting level, as chunk type, under a key of a
  `map[string]any` chunk and in `Message.Extra`).  The fuel `n` bounds the nesting depth of
  map values (`Err.fuel` is the model's artefact for deeper nesting; `*_total` shows it is
  unreachable for `n` above the nesting depth, and the laws hold for every `n`).
-/
import EinoV.Model.C14
import EinoV.Proofs.C14
import EinoV.Proofs.C14Sort
import EinoV.Gen.FactsC14
import EinoV.Expected.C14
import EinoV.Proofs.TransC14

namespace EinoV.C14
open EinoV.Gen

def srcCfg : Cfg :=
  Expected.C14.mkCfg FactsC14.concatFuncs FactsC14.nilGuard FactsC14.guardKindFirst FactsC14.recurseByKind
    FactsC14.nilResultGuard FactsC14.roleCheck FactsC14.nameCheck
    FactsC14.tcidCheck FactsC14.tcIdCheck FactsC14.tcTypeCheck FactsC14.tcNameCheck FactsC14.tcSortStable

/-- The regenerated facts are the ones the oracle runs with: the `concatFuncs` table
    (string ↦ concatStrings, the numeric/bool/time types ↦ useLast, nothing else), the two
    functions registered by schema's `init`, the nil guard of `concatMaps`, its form
    (`val.Kind() == reflect.Interface && val.IsNil()`: `IsNil` only ever sees interface
    values), the recursion test (`….Type().Elem().Kind() == reflect.Map`: every map type
    recurses, not only `map[string]any`), all six conflict checks, and the stable final sort
    of `concatToolCalls` (`sort.SliceStable`).  (`nilResultGuard` is deliberately not here: see
    `concat_*_anys_partial`.) -/
theorem facts_match :
    FactsC14.concatFuncs = Expected.C14.concatFuncs ∧
    FactsC14.registered = Expected.C14.registered ∧
    FactsC14.nilGuard = Expected.C14.nilGuard ∧
    FactsC14.guardKindFirst = Expected.C14.guardKindFirst ∧
    FactsC14.recurseByKind = Expected.C14.recurseByKind ∧
    FactsC14.roleCheck = true ∧ FactsC14.nameCheck = true ∧ FactsC14.tcidCheck = true ∧
    FactsC14.tcIdCheck = true ∧ FactsC14.tcTypeCheck = true ∧ FactsC14.tcNameCheck = true ∧
    FactsC14.tcSortStable = Expected.C14.tcSortStable := by
  -- `+kernel` (here and for the longer test vectors below): the kernel evaluates the closed instance itself;
  -- the elaborator's own evaluation, several times slower on string comparisons, is skipped
  decide +kernel

theorem srcCfg_eq_expected : srcCfg.table = Expected.C14.cfg.table ∧ srcCfg.nilAbsent = true ∧ srcCfg.Std := by
  decide

/-- **concat_total (ConcatMessages).** For every chunk sequence (nil chunks, absent / zero
    fields, nested extras with nil values and type clashes included) `ConcatMessages` returns
    a message or an ordinary error.  Of the five modelled panic sites the three on this path
    (`reflect.SliceOf(nil)` in `toSliceValue`, `s[len(s)-1]` in `useLast`, `IsNil` on a non-nillable
    map element in the gather loop of `concatMaps`) are unreachable; the other two (`cv.Interface().(T)`
    in `ConcatItems` on `any` chunks, `mas[0]` in `concatMessageArray`) are not on the path of
    `ConcatMessages`: see `concat_total_anys_partial`, `concat_arrays_never_panic`. -/
theorem concat_total (n : Nat) (cs : List (Option Msg))
    (hn : ∀ ms, allSome cs = some ms → extrasDepth ms < n) :
    (∃ m, concatMsgPtrs srcCfg n cs = .ok m) ∨ concatMsgPtrs srcCfg n cs = .error .fail :=
  concatMsgPtrs_total srcCfg (by decide) (by decide) n cs hn

/-- no panic, for every fuel (no side condition at all) -/
theorem concat_never_panics (n : Nat) (cs : List (Option Msg)) :
    concatMsgPtrs srcCfg n cs ≠ .error .panic := by
  unfold concatMsgPtrs
  cases h : allSome cs with
  | none => simp
  | some ms => exact concatMsgs_no_panic srcCfg (by decide) (by decide) n ms

/-- **concat_total (map chunks of every element type through the stream→value conversion):**
    `map[string]any`, `map[string]string`, `map[string]int`, `map[string]S`,
    `map[string]map[string]string`, `map[string][]string`, … (`et` = the element type), with
    typed maps nested at any depth. -/
theorem concat_total_maps (n : Nat) (et : String) (ms : List KVs) (hn : depthKVs ms.flatten < n) :
    (∃ m, concatMapChunks srcCfg n et ms = .ok m) ∨ concatMapChunks srcCfg n et ms = .error .fail := by
  cases ms with
  | nil => exact Or.inr rfl
  | cons a t =>
    cases t with
    | nil => exact Or.inl ⟨a, rfl⟩
    | cons b t' => exact concatMaps_total srcCfg (by decide) (by decide) n et _ hn

/-- no panic for map chunks of any element type, for every fuel -/
theorem concat_maps_never_panic (n : Nat) (et : String) (ms : List KVs) :
    concatMaps srcCfg n et ms ≠ .error .panic :=
  concatEvs_no_panic srcCfg (by decide) (by decide) n et _

/-- **concat_total (string chunks).** -/
theorem concat_total_strs (xs : List String) :
    (∃ s, concatStrChunks srcCfg xs = .ok s) ∨ concatStrChunks srcCfg xs = .error .fail :=
  concatStream_total _ (fun xs h => strCore_total srcCfg xs h) xs

/-- **concat_rechunk (messages).** Concatenating any prefix first and then the rest gives
    the same message as concatenating everything at once, or both fail. -/
theorem concat_rechunk (n : Nat) (xs ys : List (Option Msg)) :
    EqvE (concatMsgPtrs srcCfg n xs >>= fun r => concatMsgPtrs srcCfg n (some r :: ys))
         (concatMsgPtrs srcCfg n (xs ++ ys)) :=
  concatMsgPtrs_rechunk srcCfg (by decide) n xs ys

/-- **concat_rechunk (tool calls)**, as an equality. -/
theorem concat_rechunk_toolcalls (xs ys : List TC) :
    (concatTC srcCfg xs >>= fun r => concatTC srcCfg (r ++ ys)) = concatTC srcCfg (xs ++ ys) :=
  concatTC_rechunk srcCfg xs ys

/-- **concat_rechunk (maps, `concatMaps`)**, for maps of every element type `et`: nested maps
    of any map type (all of them recurse), per-key rules from the table, nil values, type
    clashes. -/
theorem concat_rechunk_maps (n : Nat) (et : String) (xs ys : List KVs) :
    EqvE (concatMaps srcCfg n et xs >>= fun r => concatMaps srcCfg n et (r :: ys)) (concatMaps srcCfg n et (xs ++ ys)) :=
  concatMaps_rechunk srcCfg (by decide) n et xs ys

/-- **chunk boundaries inside a chunk (maps of every type).** A map chunk may be delivered as
    two consecutive chunks holding its entries `m1` and `m2`. -/
theorem concat_split_chunk (n : Nat) (et : String) (xs ys : List KVs) (m1 m2 : KVs) :
    concatMaps srcCfg n et (xs ++ [m1 ++ m2] ++ ys) = concatMaps srcCfg n et (xs ++ [m1, m2] ++ ys) := by
  simp [concatMaps]

/-- **chunk boundaries inside a nested map value.** A nested map value — of *any* map type:
    `map[string]any`, `map[string]string`, `map[string][]T`, … — stored under key `k` of a chunk
    may be delivered in two consecutive chunks instead, each holding part of its entries
    (`a`, `b`): the result is the same.  (This is the law a recursion restricted to
    `map[string]any` breaks: `typed_nested_map_rechunk_breaks_without_kind_test`.) -/
theorem concat_split_nested_map (n : Nat) (et : String) (xs ys : List KVs) (pre post : KVs) (k e : String) (a b : KVs) :
    concatMaps srcCfg n et (xs ++ [pre ++ (k, .map e (a ++ b)) :: post] ++ ys) =
    concatMaps srcCfg n et (xs ++ [pre ++ [(k, .map e a)], (k, .map e b) :: post] ++ ys) := by
  have h := concatEvs_split_nested srcCfg (by decide) n et (xs.flatten ++ pre) (post ++ ys.flatten) k e a b
  simpa [concatMaps, List.flatten_append, List.append_assoc] using h

/-- **concat_rechunk through `concatStreamReader`** (empty stream = error, one chunk = that
    chunk untouched, otherwise `ConcatItems`) for string, map and message chunks. -/
theorem concat_rechunk_stream_strs (xs ys : List String) (h : xs ≠ []) :
    EqvE (concatStrChunks srcCfg xs >>= fun r => concatStrChunks srcCfg (r :: ys)) (concatStrChunks srcCfg (xs ++ ys)) :=
  concatStrChunks_rechunk srcCfg xs ys h

theorem concat_rechunk_stream_maps (n : Nat) (et : String) (xs ys : List KVs) (h : xs ≠ []) :
    EqvE (concatMapChunks srcCfg n et xs >>= fun r => concatMapChunks srcCfg n et (r :: ys)) (concatMapChunks srcCfg n et (xs ++ ys)) :=
  concatMapChunks_rechunk srcCfg (by decide) n et xs ys h

theorem concat_rechunk_stream_msgs (n : Nat) (xs ys : List (Option Msg)) (h : xs ≠ []) :
    EqvE (concatMsgChunks srcCfg n xs >>= fun r => concatMsgChunks srcCfg n (r :: ys)) (concatMsgChunks srcCfg n (xs ++ ys)) :=
  concatMsgChunks_rechunk srcCfg (by decide) n xs ys h

theorem concat_rechunk_stream_arrays (n : Nat) (xs ys : List (List (Option Msg))) (h : xs ≠ []) :
    EqvE (concatArrChunks srcCfg n xs >>= fun r => concatArrChunks srcCfg n (r :: ys)) (concatArrChunks srcCfg n (xs ++ ys)) :=
  concatArrChunks_rechunk srcCfg (by decide) n xs ys h

/-- `[]*Message` chunks (position-wise `concatMessageArray`) never panic either: `mas[0]` is
    only evaluated on at least two arrays. -/
theorem concat_arrays_never_panic (n : Nat) (xs : List (List (Option Msg))) :
    concatArrChunks srcCfg n xs ≠ .error .panic :=
  concatArrChunks_no_panic srcCfg (by decide) (by decide) n xs

/-- **the fuel is a proof device only**: any two fuels above the nesting depth of the extras
    give the same result (so `concat_total` and `concat_rechunk` speak about one function). -/
theorem fuel_irrelevant (n m : Nat) (ms : List Msg) (hn : extrasDepth ms < n) (hm : extrasDepth ms < m) :
    concatMsgs srcCfg n ms = concatMsgs srcCfg m ms :=
  concatMsgs_fuel_irrelevant srcCfg (by decide) n m ms hn hm

/-! ## chunks of type `any` (`ConcatItems` with an interface element type)

  `concatSliceValue` on `[]any`: nothing registered, zero ⇔ nil interface: all chunks nil → the
  nil interface; one non-nil chunk → it; more → error.  On a tree whose `ConcatItems` does not
  handle the nil interface result (`FactsC14.nilResultGuard = false`) the all-nil case panics
  in `cv.Interface().(T)` (genuine defect, known_findings/C14.json, fixes/C14-nil-interface-result.diff),
  so the two clauses are stated with the explicit hypothesis that excludes it — satisfied
  outright once the fact is `true` — next to the negation witness. -/

/-- full statement: `∀ xs, (∃ v, concatAnyChunks srcCfg xs = .ok v) ∨ … = .error .fail`; proved
    for: the guard is present, or some chunk is non-nil, or there are fewer than two chunks -/
theorem concat_total_anys_partial (xs : List XVal)
    (h : FactsC14.nilResultGuard = true ∨ (∃ x ∈ xs, x.isNil = false) ∨ xs.length < 2) :
    (∃ v, concatAnyChunks srcCfg xs = .ok v) ∨ concatAnyChunks srcCfg xs = .error .fail :=
  concatAnyChunks_total srcCfg xs h

/-- full statement: the law for every non-empty `xs`; proved for: the guard is present, or
    the prefix holds a non-nil chunk -/
theorem concat_rechunk_stream_anys_partial (xs ys : List XVal) (hxs : xs ≠ [])
    (h : FactsC14.nilResultGuard = true ∨ ∃ x ∈ xs, x.isNil = false) :
    EqvE (concatAnyChunks srcCfg xs >>= fun r => concatAnyChunks srcCfg (r :: ys)) (concatAnyChunks srcCfg (xs ++ ys)) :=
  concatAnyChunks_rechunk srcCfg xs ys hxs h

/-- the excluded case is real: without the guard two nil chunks panic, and the panic depends
    on the split (`[nil, nil] ++ ["a"]` at once is `"a"`) -/
theorem any_all_nil_panics_without_guard :
    isPanic (concatAnyChunks { Expected.C14.cfg with nilResultGuard := false } [.nil, .nil]) = true ∧
    (match concatAnyChunks { Expected.C14.cfg with nilResultGuard := false } [.nil, .nil, .sc "string" "a"] with
      | .ok (.sc "string" "a") => true
      | _ => false) = true := by decide

/-- … and with it they concatenate to nil -/
theorem any_all_nil_ok_with_guard :
    (match concatAnyChunks Expected.C14.cfg [.nil, .nil] with
      | .ok .nil => true
      | _ => false) = true := by decide

/-- **args_in_order (text).** The content of the result is the contents of the chunks in
    arrival order. -/
theorem args_in_order_content (n : Nat) (ms : List Msg) (m : Msg) (h : concatMsgs srcCfg n ms = .ok m) :
    m.content = joinS (ms.map (·.content)) :=
  (concatMsgs_ok_fields srcCfg n ms m h).2.2.2.1

/-- **toolcalls_by_index + args_in_order (tool calls).** In a successful result the tool
    calls are: the nil-index fragments, untouched, in arrival order; then exactly one call
    per index that occurs, in strictly ascending index order, whose arguments are the
    arguments of the fragments with that index in arrival order. -/
theorem toolcalls_by_index (n : Nat) (ms : List Msg) (m : Msg) (h : concatMsgs srcCfg n ms = .ok m) :
    let cs := ms.flatMap (·.toolCalls)
    ∃ gs : List (Int × TC),
      m.toolCalls = cs.filter (fun c => c.index = none) ++ gs.map (·.2) ∧
      gs.Pairwise (fun p q => p.1 < q.1) ∧
      (∀ p ∈ gs, p.2.index = some p.1) ∧
      (∀ i, (∃ c ∈ cs, c.index = some i) ↔ (∃ p ∈ gs, p.1 = i)) ∧
      (∀ p ∈ gs, p.2.args = joinS ((cs.filter (fun c => c.index = some p.1)).map (·.args))) :=
  concatTC_spec srcCfg _ _ (concatMsgs_ok_fields srcCfg n ms m h).2.2.2.2.2.1

/-! ## the final sort of `concatToolCalls`: messages with many tool calls

  `toolcalls_by_index` is about the specification-level `concatTC`, which keeps the groups
  ascending while it builds them.  The Go function appends the calls without an index in
  arrival order, then one merged call per index in the iteration order of a Go map (random),
  and sorts at the end with a comparator under which all calls without an index are equal.
  `concatTCGo` is that shape (`ord` = the map's iteration order).  Nothing below bounds the
  number of calls: the harness family `heavy` (2 … 130 calls per message) runs against it. -/

/-- **deterministic function of the chunk sequence (tool calls), and the tie between the
    code-level and the specification-level function.**  Whatever order the Go map of index
    groups is iterated in (`ord`: any permutation), `concatToolCalls` as written — gather,
    merge per index, stable sort — returns what `concatTC` returns, for every number of
    calls.  Rests on the fact `tcSortStable` (discharged from `srcCfg` by `decide`). -/
theorem toolcalls_any_map_order (ord : List (Int × TC) → List (Int × TC)) (hord : ∀ l, (ord l).Perm l)
    (cs : List TC) :
    concatTCGo srcCfg ord cs = concatTC srcCfg cs :=
  concatTCGo_eq srcCfg (by decide) ord hord cs

/-- two iteration orders of the map give the same result -/
theorem toolcalls_map_order_irrelevant (ord ord' : List (Int × TC) → List (Int × TC))
    (hord : ∀ l, (ord l).Perm l) (hord' : ∀ l, (ord' l).Perm l) (cs : List TC) :
    concatTCGo srcCfg ord cs = concatTCGo srcCfg ord' cs := by
  rw [toolcalls_any_map_order ord hord, toolcalls_any_map_order ord' hord']

/-- **arrival order of the calls without an index, any number of calls.**  The sort the
    source uses (`finalSort srcCfg`, i.e. `sort.SliceStable`) returns, on every list `merged`,
    a permutation of it that is sorted by the comparator and in which the calls without an
    index stand in the order they had in `merged` (= arrival order). -/
theorem toolcalls_final_sort_stable (merged : List TC) :
    (finalSort srcCfg merged).Perm merged ∧
    (finalSort srcCfg merged).Pairwise (fun a b => tcLess b a = false) ∧
    (finalSort srcCfg merged).filter (fun c => c.index.isNone) = merged.filter (fun c => c.index.isNone) := by
  have h : finalSort srcCfg merged = sortStable merged := by
    have hs : srcCfg.tcSortStable = true := by decide
    simp [finalSort, hs]
  rw [h]
  exact ⟨sortStable_perm merged, sortStable_sorted merged, sortStable_filter_none merged⟩

/-- the re-chunking law for the code-level function (an equality), for every map order -/
theorem concat_rechunk_toolcalls_go (ord : List (Int × TC) → List (Int × TC)) (hord : ∀ l, (ord l).Perm l)
    (xs ys : List TC) :
    (concatTCGo srcCfg ord xs >>= fun r => concatTCGo srcCfg ord (r ++ ys)) = concatTCGo srcCfg ord (xs ++ ys) := by
  have h : (fun r => concatTCGo srcCfg ord (r ++ ys)) = (fun r => concatTC srcCfg (r ++ ys)) := by
    funext r; exact toolcalls_any_map_order ord hord _
  rw [h, toolcalls_any_map_order ord hord, toolcalls_any_map_order ord hord]
  exact concatTC_rechunk srcCfg xs ys

/-! ## non-vacuity -/

private def tc (i : Option Int) (id name args : String) : TC :=
  { index := i, id := id, type := "", name := name, args := args, extra := 0 }
private def msg (content : String) (tcs : List TC) (extra : KVs) : Msg :=
  { role := "assistant", name := "", toolCallID := "", content := content, multi := [], toolCalls := tcs,
    rmeta := none, extra := extra }

/-- a successful, non-trivial concatenation (fragments of two indexed calls arriving
    interleaved and out of order, a nil-index call, nested extras with a nil value) -/
example :
    (match concatMsgPtrs Expected.C14.cfg 3
        [some (msg "He" [tc (some 1) "b" "g" "{\"y\"", tc none "n" "h" "z"] [("k", .sc "string" "a"), ("m", .map "any" [("x", .nil)])]),
         some (msg "llo" [tc (some 0) "a" "f" "{\"x\":", tc (some 1) "" "" ":2}"] [("k", .sc "string" "b"), ("m", .map "any" [("x", .sc "int" "7")])]),
         some (msg "" [tc (some 0) "" "" "1}"] [])] with
      | .ok m => m.content == "Hello" &&
                 m.toolCalls.map (fun t => (t.index, t.id, t.name, t.args)) ==
                   [(none, "n", "h", "z"), (some 0, "a", "f", "{\"x\":1}"), (some 1, "b", "g", "{\"y\":2}")] &&
                 (match m.extra with
                  | [("k", .sc "string" "ab"), ("m", .map "any" [("x", .sc "int" "7")])] => true
                  | _ => false)
      | .error _ => false) = true := by decide +kernel

/-- an ordinary error: conflicting tool-call ids for one index -/
example : isFail (concatMsgPtrs Expected.C14.cfg 2
    [some (msg "" [tc (some 0) "a" "" ""] []), some (msg "" [tc (some 0) "b" "" ""] [])]) = true := by decide

/-- an ordinary error: a nil chunk -/
example : isFail (concatMsgPtrs Expected.C14.cfg 2 [some (msg "x" [] []), none]) = true := by decide

/-! ## the negation for the other value of the stable-sort fact -/

private def ids (r : Except Err (List TC)) : List String :=
  match r with
  | .ok l => l.map (·.id)
  | .error _ => ["error"]

/-- three complete calls without an index among the first fragments of ten indexed calls
    opened as 1,0,3,2,…: thirteen calls in the result -/
private def thirteen : List TC :=
  [tc none "a" "" "", tc (some 1) "g1" "" "", tc (some 0) "g0" "" "", tc none "b" "" "", tc (some 3) "g3" "" "",
   tc (some 2) "g2" "" "", tc none "c" "" "", tc (some 5) "g5" "" "", tc (some 4) "g4" "" "", tc (some 7) "g7" "" "",
   tc (some 6) "g6" "" "", tc (some 9) "g9" "" "", tc (some 8) "g8" "" ""]

/-- If the final sort were `sort.Slice` (insertion sort up to 12 elements, no stability
    above; the model's representative of an unstable sort is `sortBySwaps`): with twelve calls
    everything is as specified, with thirteen the calls without an index leave their arrival
    order (`b c a`), and re-chunking invariance is false as well (fourteen calls: the first
    thirteen first and then the rest gives `c a b …`, all at once `b c a …`) — while the stable
    sort gives `a b c …` (thirteen calls under the reversed map order, fourteen under the plain one). -/
theorem unstable_final_sort_loses_arrival_order :
    let u : Cfg := { Expected.C14.cfg with tcSortStable := false }
    let more := thirteen ++ [tc (some 10) "g10" "" ""]
    ids (concatTCGo u List.reverse (thirteen.take 12)) = ["a", "b", "c", "g0", "g1", "g2", "g3", "g4", "g5", "g6", "g7", "g9"] ∧
    ids (concatTCGo u List.reverse thirteen) = ["b", "c", "a", "g0", "g1", "g2", "g3", "g4", "g5", "g6", "g7", "g8", "g9"] ∧
    ids (concatTCGo u List.reverse thirteen >>= fun r => concatTCGo u List.reverse (r ++ [tc (some 10) "g10" "" ""])) =
      ["c", "a", "b", "g0", "g1", "g2", "g3", "g4", "g5", "g6", "g7", "g8", "g9", "g10"] ∧
    ids (concatTCGo u List.reverse more) = ["b", "c", "a", "g0", "g1", "g2", "g3", "g4", "g5", "g6", "g7", "g8", "g9", "g10"] ∧
    ids (concatTCGo Expected.C14.cfg List.reverse thirteen) = ["a", "b", "c", "g0", "g1", "g2", "g3", "g4", "g5", "g6", "g7", "g8", "g9"] ∧
    ids (concatTCGo Expected.C14.cfg id more) = ["a", "b", "c", "g0", "g1", "g2", "g3", "g4", "g5", "g6", "g7", "g8", "g9", "g10"] := by
  decide +kernel

/-- what `sort.Slice` promises — a permutation that is sorted by the comparator — does not
    determine the result as soon as two calls have no index: both lists below are sorted
    permutations of the same `merged`. -/
theorem sorted_permutation_is_not_unique :
    let merged := [tc none "a" "" "", tc none "b" "" "", tc (some 0) "g" "" ""]
    let other := [tc none "b" "" "", tc none "a" "" "", tc (some 0) "g" "" ""]
    other.Perm merged ∧ other.Pairwise (fun x y => tcLess y x = false) ∧
    merged.Pairwise (fun x y => tcLess y x = false) ∧ other ≠ merged ∧ sortStable merged = merged := by
  decide

/-! ## the negation for the other value of the nil-guard fact (the defect of the unfixed tree) -/

/-- Without the nil guard in `concatMaps` totality is false: one chunk whose `Extra` maps a
    key to nil makes `ConcatMessages` panic (`reflect.SliceOf(reflect.TypeOf(nil))`). -/
theorem nil_extra_panics_without_guard :
    isPanic (concatMsgPtrs { Expected.C14.cfg with nilAbsent := false } 2
      [some (msg "" [] [("k", .nil)])]) = true := by decide

/-- … and with the guard the same input concatenates (the key keeps its nil value). -/
theorem nil_extra_ok_with_guard :
    (match concatMsgPtrs Expected.C14.cfg 2 [some (msg "" [] [("k", .nil)]), some (msg "" [] [("k", .sc "int" "1")])] with
      | .ok m => (match m.extra with | [("k", .sc "int" "1")] => true | _ => false)
      | .error _ => false) = true := by decide

/-! ## typed maps: non-vacuity and the negations for the other values of the two facts -/

/-- typed maps concatenate: `map[string]string` chunks join their values, a
    `map[string]string` nested in `Extra` under one key in three chunks recurses, a
    `map[string]map[string]string` recurses twice, `map[string]S` keeps the single non-zero
    struct, `map[string]int` keeps the last value -/
example :
    (match concatMapChunks Expected.C14.cfg 3 "string" [[("k", .sc "string" "a")], [("k", .sc "string" "b"), ("j", .sc "string" "")], []] with
      | .ok [("k", .sc "string" "ab"), ("j", .sc "string" "")] => true
      | _ => false) = true ∧
    (match concatMsgPtrs Expected.C14.cfg 3
        [some (msg "" [] [("l", .map "string" [("x", .sc "string" "a")]), ("n", .nil)]),
         some (msg "" [] [("l", .map "string" [("x", .sc "string" "b")])]),
         some (msg "" [] [("l", .map "string" [("y", .sc "string" "c")])])] with
      | .ok m => (match m.extra with
                  | [("l", .map "string" [("x", .sc "string" "ab"), ("y", .sc "string" "c")]), ("n", .nil)] => true
                  | _ => false)
      | .error _ => false) = true ∧
    (match concatMapChunks Expected.C14.cfg 4 "map[string]string"
        [[("k", .map "string" [("x", .sc "string" "a")])], [("k", .map "string" [])], [("k", .map "string" [("x", .sc "string" "b")])]] with
      | .ok [("k", .map "string" [("x", .sc "string" "ab")])] => true
      | _ => false) = true ∧
    (match concatMapChunks Expected.C14.cfg 3 "c14S" [[("k", .sc "c14S" "")], [("k", .sc "c14S" "p")]] with
      | .ok [("k", .sc "c14S" "p")] => true
      | _ => false) = true ∧
    isFail (concatMapChunks Expected.C14.cfg 3 "c14S" [[("k", .sc "c14S" "q")], [("k", .sc "c14S" "p")]]) = true ∧
    (match concatMapChunks Expected.C14.cfg 3 "int" [[("k", .sc "int" "1")], [("k", .sc "int" "2")]] with
      | .ok [("k", .sc "int" "2")] => true
      | _ => false) = true := by decide +kernel

/-- a `map[string]string` and a `map[string]any` under one key: ordinary error (type clash) -/
example : isFail (concatMapChunks Expected.C14.cfg 3 "any"
    [[("k", .map "string" [("x", .sc "string" "a")])], [("k", .map "any" [("x", .sc "string" "a")])]]) = true := by decide

/-- If the nil guard of `concatMaps` called `val.IsNil()` without testing
    `val.Kind() == reflect.Interface` first, totality would be false: two `map[string]string`
    chunks panic (`reflect: call of reflect.Value.IsNil on string Value`), as does a
    `map[string]string` nested in `Extra` under a key present in two chunks. -/
theorem typed_map_panics_with_unconditional_isnil :
    isPanic (concatMapChunks { Expected.C14.cfg with guardKindFirst := false } 3 "string"
      [[("k", .sc "string" "a")], [("k", .sc "string" "b")]]) = true ∧
    isPanic (concatMapChunks { Expected.C14.cfg with guardKindFirst := false } 3 "c14S"
      [[("k", .sc "c14S" "")], [("k", .sc "c14S" "p")]]) = true ∧
    isPanic (concatMsgPtrs { Expected.C14.cfg with guardKindFirst := false } 3
      [some (msg "" [] [("l", .map "string" [("x", .sc "string" "a")])]),
       some (msg "" [] [("l", .map "string" [("x", .sc "string" "b")])])]) = true := by decide

/-- If `concatMaps` recursed only into `map[string]any` values (instead of testing the kind
    of the values' type), re-chunking invariance would be false: a `map[string]string` under
    one key in two chunks is an error, while the same data in one chunk (plus an empty one)
    concatenates. -/
theorem typed_nested_map_rechunk_breaks_without_kind_test :
    isFail (concatMapChunks { Expected.C14.cfg with recurseByKind := false } 3 "any"
      [[("k", .map "string" [("x", .sc "string" "a")])], [("k", .map "string" [("y", .sc "string" "b")])]]) = true ∧
    (match concatMapChunks { Expected.C14.cfg with recurseByKind := false } 3 "any"
      [[("k", .map "string" [("x", .sc "string" "a"), ("y", .sc "string" "b")])], []] with
      | .ok [("k", .map "string" [("x", .sc "string" "a"), ("y", .sc "string" "b")])] => true
      | _ => false) = true ∧
    (match concatMapChunks Expected.C14.cfg 3 "any"
      [[("k", .map "string" [("x", .sc "string" "a")])], [("k", .map "string" [("y", .sc "string" "b")])]] with
      | .ok [("k", .map "string" [("x", .sc "string" "a"), ("y", .sc "string" "b")])] => true
      | _ => false) = true := by decide

/-! ### The translated `concatToolCalls` (schema/message.go → Gen/TransC14.lean)

  `concatToolCalls` (with the comparator closure of its final sort) is re-translated from /repo on every run of
  this property.  `*int` is `Option Int`, the map `m` (index ↦ positions) is a `GoMapK` keyed by `Int`,
  `strings.Builder` is a String accumulator and `sort.SliceStable` is the prelude's stable sort on the comparator
  translated from the closure (Model/GoSemTC.lean — trusted statements of library behaviour).  The map is
  built by the function itself, so the order in which `for k, v := range m` visits it is the external
  `tcext.rangeOrder` — an arbitrary function; the theorems assume only that it returns a permutation of its
  argument, and hold for every such function.  They say: the translated function returns exactly the model's
  code-level `concatTCGo srcCfg ord cs` for a reordering `ord` of the groups that is a permutation, hence
  (`toolcalls_any_map_order`) the specification `concatTC srcCfg cs`; when the model fails it returns one of the
  three "cannot concat ToolCalls" errors; it never panics (no index out of range, no nil dereference in the
  comparator). -/
section TranslatedToolCalls
open EinoV.GoSem EinoV.TransC14 EinoV.Gen.TransC14
variable {V : Type} [Inhabited V]

theorem translated_source_is_current : FactsC14.concatToolCallsTranslated = true := by decide

/-- the three conflict checks and the stable sort are source facts of this run -/
theorem translated_checks_present : Checks srcCfg ∧ srcCfg.tcSortStable = true :=
  ⟨⟨by decide, by decide, by decide⟩, by decide⟩

/-- the comparator closure of the final sort is the model's `tcLess` (never a nil dereference) -/
theorem translated_less_refines (ext : Ext V) (tcext : TCExt) (ex : Nat → GoMap V) (a b : TC) :
    concatToolCalls__less ext tcext (TransC14.enc ex a) (TransC14.enc ex b) = .ret (tcLess a b) :=
  less_spec ext tcext ex a b

theorem translated_concatToolCalls_refines (ext : Ext V) (tcext : TCExt) (ex : Nat → GoMap V)
    (hperm : ∀ m, (tcext.rangeOrder m).Perm m) (cs : List TC) :
    ∃ ord : List (Int × TC) → List (Int × TC), (∀ l, (ord l).Perm l) ∧
      match concatTCGo srcCfg ord cs with
      | .ok out => concatToolCalls ext tcext (cs.map (TransC14.enc ex)) = .ret (out.map (TransC14.enc ex), none)
      | .error _ => ∃ E, IsConflict E ∧ concatToolCalls ext tcext (cs.map (TransC14.enc ex)) = E :=
  concatToolCalls_refines ext tcext ex srcCfg translated_checks_present.1 translated_checks_present.2 hperm cs

/-- … hence the specification: whatever order Go visits the map in, the code returns `concatTC` -/
theorem translated_concatToolCalls_is_spec (ext : Ext V) (tcext : TCExt) (ex : Nat → GoMap V)
    (hperm : ∀ m, (tcext.rangeOrder m).Perm m) (cs : List TC) :
    match concatTC srcCfg cs with
    | .ok out => concatToolCalls ext tcext (cs.map (TransC14.enc ex)) = .ret (out.map (TransC14.enc ex), none)
    | .error _ => ∃ E, IsConflict E ∧ concatToolCalls ext tcext (cs.map (TransC14.enc ex)) = E :=
  concatToolCalls_is_spec ext tcext ex srcCfg translated_checks_present.1 hperm cs

theorem translated_concatToolCalls_total (ext : Ext V) (tcext : TCExt) (ex : Nat → GoMap V)
    (hperm : ∀ m, (tcext.rangeOrder m).Perm m) (cs : List TC) :
    ∃ res, concatToolCalls ext tcext (cs.map (TransC14.enc ex)) = .ret res :=
  concatToolCalls_total ext tcext ex srcCfg translated_checks_present.1 hperm cs

/-! non-vacuity: fragments of two indexed calls interleaved with a call without an index, the map visited in
    reverse order — the result is sorted, the arguments are joined per index -/
def exExtT : Ext Nat := { zeroValue := 0, emptyStream := 0, mergeValues := fun _ => (0, none) }
def exRev : TCExt := { rangeOrder := fun m => m.reverse }
def exTC (i : Option Int) (id args : String) : ToolCall Nat :=
  { Index := i, ID := id, Type_ := "", Function := { Name := "", Arguments := args }, Extra := [] }

example : ∀ m, (exRev.rangeOrder m).Perm m := fun m => List.reverse_perm m

example : (match concatToolCalls exExtT exRev
      [exTC (some 1) "b" "x", exTC none "n" "q", exTC (some 0) "a" "1", exTC (some 1) "" "y", exTC (some 0) "" "2"] with
    | .ret r => r.1.map (fun t => (t.Index, t.ID, t.Function.Arguments))
    | _ => []) = [(none, "n", "q"), (some 0, "a", "12"), (some 1, "b", "xy")] := by decide

/-- two fragments of one index with different ids: the conflict error -/
example : (match concatToolCalls exExtT exRev [exTC (some 0) "a" "1", exTC (some 0) "b" "2"] with
    | .ret r => r.2
    | _ => none) = some (GoErr.mk "cannot concat ToolCalls with different tool id: '%s' '%s'") := by decide +kernel

end TranslatedToolCalls

end EinoV.C14
