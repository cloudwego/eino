/-
  C17 — ToolsNode answers every tool call, in call order, whatever the completion order.
  Property theorems.  Model: EinoV/Model/C17.lean.  Helper lemmas: EinoV/Proofs/C17.lean
  (the families `late`, `utils`, `readers` below: Model/ and Proofs/ C17Late, C17Utils, C17Readers).
  Source facts: EinoV/Gen/FactsC17.lean (regenerated from /repo on every run).

  Reading guide.  `invoke F tools handler assistant calls seen σ` is `ToolsNode.Invoke` when
  the runners complete in the order σ (a permutation of the call positions); `stream …` is
  `ToolsNode.Stream` (on success: the n source streams handed to `MergeStreamReaders`);
  `Interleaving srcs m` says `m` is something a reader of the merged stream can receive;
  `collect` is `concatStreamReader` with `concatMessageArray`.  `answerI/answerS … c` is what
  the tool named by call `c` (or the unknown-tool handler) gives on `c`'s arguments in the
  invokable / streamable form.  Tools and the handler are arbitrary functions.
  `assistant` says the input message has role Assistant (`genToolCallTasks` fails otherwise).
  `seen i` is the task index the goroutine started for position `i` would find in the loop variable at
  the moment it reads it (any function: the scheduler's choice).  The model asks it only in `target`, and
  only when the fact `taskPassedAsArg` is `false` (loop variable captured, go 1.18 semantics); with
  `genFacts` the goroutine gets its task as an argument, so the theorems hold for every `seen`; the
  only statement whose result depends on it is the witness `captured_loop_variable_breaks`.
-/
import EinoV.Model.C17
import EinoV.Model.C17Late
import EinoV.Proofs.C17
import EinoV.Proofs.C17Late
import EinoV.Model.C17Utils
import EinoV.Proofs.C17Utils
import EinoV.Model.C17Readers
import EinoV.Proofs.C17Readers
import EinoV.Gen.FactsC17
import EinoV.Expected.C17

namespace EinoV.C17
open EinoV.Gen

/-- the facts regenerated from /repo, as the model's parameter -/
def genFacts : Facts :=
  { storeByIndex := FactsC17.storeByIndex, goroutineRecovers := FactsC17.goroutineRecovers,
    taskPassedAsArg := FactsC17.taskPassedAsArg, handlerConsulted := FactsC17.handlerConsulted,
    executorRecovers := FactsC17.executorRecovers }

/-- Source fact tie: the regenerated facts are the ones the oracle runs the model with, and
    the two shape facts the model has built in (call 0 runs inline on the caller's goroutine,
    the loop starts the goroutines for 1..n-1; task i is made from call i) hold. -/
theorem facts_match : genFacts = Expected.C17.facts ∧ FactsC17.firstTaskInline = true
    ∧ FactsC17.taskFromSameCall = true := by decide

theorem genFacts_good : genFacts.Good := ⟨by decide, by decide, by decide⟩
theorem genFacts_handler : genFacts.handlerConsulted = true := by decide
theorem genFacts_executor : genFacts.executorRecovers = true := by decide

variable (tools : List (String × Tool)) (handler : Option Handler)

/-- **completion_order_irrelevant.** For every input (any role, any call list, unknown
    names, failing and panicking tools) the results of Invoke and of Stream do not depend on
    the order in which the runners complete. -/
theorem completion_order_irrelevant (assistant : Bool) (calls : List Call) (seen seen' : Nat → Nat)
    (σ σ' : List Nat) (hσ : σ.Perm (List.range calls.length)) (hσ' : σ'.Perm (List.range calls.length)) :
    invoke genFacts tools handler assistant calls seen σ
      = invoke genFacts tools handler assistant calls seen' σ'
    ∧ stream genFacts tools handler assistant calls seen σ
      = stream genFacts tools handler assistant calls seen' σ' := by
  unfold invoke stream
  cases h : genTasks genFacts tools handler assistant calls with
  | error e => exact ⟨rfl, rfl⟩
  | ok tasks =>
    simp only [conclude_tasks genFacts_good _ _ h _ _ hσ, conclude_tasks genFacts_good _ _ h _ _ hσ', and_self]

/-- **tools_by_index.** If every call's tool (or the handler) answers `v c` on the call's
    arguments, then for every completion order Invoke returns exactly one message per call,
    in call order, the i-th with the i-th call's id and that answer.  (The literal `true` after
    `handler`, here and in the theorems below, is the parameter `assistant`.) -/
theorem tools_by_index (calls : List Call) (hne : calls ≠ []) (v : Call → String)
    (hall : ∀ c ∈ calls, answerI tools handler c = some (.ok (v c)))
    (seen : Nat → Nat) (σ : List Nat) (hσ : σ.Perm (List.range calls.length)) :
    invoke genFacts tools handler true calls seen σ = .ok (calls.map fun c => ⟨c.id, v c⟩) := by
  have hres : ∀ c ∈ calls, resolve tools handler c = some (pick tools handler c) :=
    fun c hc => resolve_pick (answerI_pick (hall c hc)).1
  rw [invoke_eq_spec genFacts_good genFacts_handler hne _ hres seen σ hσ]
  apply specRun_all_ok
  intro i hi
  refine ⟨v calls[i], ?_, ?_⟩
  · rw [execWith_taskFor _ _ _ _ hi]; exact (answerI_pick (hall _ (List.getElem_mem hi))).2
  · simp [idAt_taskFor _ _ _ hi]

/-- **tools_stream_agrees.** If every call's tool streams the chunks `cs c` (at least one)
    and each tool's invokable form is the concatenation of its streamable form (automatic
    for invokable-only / streamable-only tools and the handler: `coherent_of_no_str`,
    `coherent_of_no_inv`), then for all completion orders σ, σ' of the two runs: Stream
    succeeds, Invoke returns the messages `msgs` (i-th id, concatenated chunks), and EVERY
    interleaving of the n sparse chunk streams concatenates to exactly `msgs`. -/
theorem tools_stream_agrees (calls : List Call) (hne : calls ≠ []) (cs : Call → List String)
    (hall : ∀ c ∈ calls, answerS tools handler c = some (.ok (cs c)) ∧ cs c ≠ [])
    (hcoh : ∀ c ∈ calls, Coherent (pick tools handler c))
    (seen seen' : Nat → Nat) (σ σ' : List Nat)
    (hσ : σ.Perm (List.range calls.length)) (hσ' : σ'.Perm (List.range calls.length)) :
    ∃ srcs, stream genFacts tools handler true calls seen' σ' = .ok srcs ∧
      invoke genFacts tools handler true calls seen σ
        = .ok (calls.map fun c => ⟨c.id, joinS (cs c)⟩) ∧
      ∀ m, Interleaving srcs m →
        collect m = .ok ((calls.map fun c => (⟨c.id, joinS (cs c)⟩ : Msg)).map some) := by
  have hI : ∀ c ∈ calls, answerI tools handler c = some (.ok (joinS (cs c))) := by
    intro c hc
    obtain ⟨hs, hne'⟩ := hall c hc
    obtain ⟨hr, hp⟩ := answerS_pick hs
    unfold answerI
    rw [resolve_pick hr]
    simp only [Option.map_some]
    rw [hcoh c hc, hp]
    simp [Out.bind, concatChunks_ne hne']
  have hres : ∀ c ∈ calls, resolve tools handler c = some (pick tools handler c) :=
    fun c hc => resolve_pick (answerS_pick (hall c hc).1).1
  have hn : 0 < calls.length := List.length_pos_iff.2 hne
  let ids : Nat → String := fun i => idAt (calls.map (taskFor (pick tools handler))) i
  let chunks : Nat → List String := fun i =>
    match calls[i]? with
    | some c => cs c
    | none => []
  have hchunks : ∀ i (h : i < calls.length), chunks i = cs calls[i] := by
    intro i h; simp [chunks, List.getElem?_eq_getElem h]
  refine ⟨(List.range calls.length).map fun i => (chunks i).map fun s => sparse calls.length i ⟨ids i, s⟩, ?_,
    tools_by_index tools handler calls hne _ hI seen σ hσ, ?_⟩
  · rw [stream_eq_spec genFacts_good genFacts_handler hne _ hres seen' σ' hσ']
    apply specRun_all_ok'
    intro i hi
    refine ⟨cs calls[i], ?_, ?_⟩
    · rw [execWith_taskFor _ _ _ _ hi]; exact (answerS_pick (hall _ (List.getElem_mem hi)).1).2
    · simp [hchunks i hi, ids]
  · intro m hm
    rw [collect_interleaving calls.length hn ids chunks
      (fun i hi => by rw [hchunks i hi]; exact (hall _ (List.getElem_mem hi)).2) m hm]
    congr 1
    apply List.ext_getElem
    · simp
    · intro i h1 h2
      have hi : i < calls.length := by simpa using h1
      simp [hchunks i hi, ids, idAt_taskFor _ _ _ hi]

/-- **tool_failure_fails_all.** Split the calls at the first one (by position) whose tool
    does not answer: `pre` all answer, `c` fails, `post` arbitrary (but every name
    resolvable, else nothing runs at all: `unknown_tool_iff_handler`).  Then for EVERY
    completion order — also when later calls fail too and complete earlier —
    * an error `e` of `c`'s tool: the call fails with exactly that error, tagged with `c`'s
      position;
    * a panic of `c`'s tool, `c` not the first call: it ran in a goroutine with a deferred
      recover, the call fails with the panic as `c`'s error;
    * a panic of the first call (it runs inline on the caller's goroutine): the panic leaves
      `Invoke`; inside a graph the executor's recover makes it the error of the run.
    So with several failing tools the reported error is the one of least call position,
    never "the first to complete". -/
theorem tool_failure_fails_all (pre : List Call) (c : Call) (post : List Call)
    (hpre : ∀ c' ∈ pre, ∃ s, answerI tools handler c' = some (.ok s))
    (hres : ∀ c' ∈ pre ++ c :: post, (resolve tools handler c').isSome)
    (seen : Nat → Nat) (σ : List Nat) (hσ : σ.Perm (List.range (pre ++ c :: post).length)) :
    (∀ e, answerI tools handler c = some (.err e) →
      invoke genFacts tools handler true (pre ++ c :: post) seen σ = .err (.tool pre.length e)) ∧
    (∀ p, answerI tools handler c = some (.panic p) → pre ≠ [] →
      invoke genFacts tools handler true (pre ++ c :: post) seen σ
        = .err (.tool pre.length (.panicked p))) ∧
    (∀ p, answerI tools handler c = some (.panic p) → pre = [] →
      invoke genFacts tools handler true (pre ++ c :: post) seen σ = .panicEscapes p ∧
      inGraph genFacts (invoke genFacts tools handler true (pre ++ c :: post) seen σ)
        = .err (.nodePanic p)) := by
  have hne : pre ++ c :: post ≠ [] := by simp
  have hres' : ∀ c' ∈ pre ++ c :: post, resolve tools handler c' = some (pick tools handler c') :=
    fun c' hc' => resolve_pick (hres c' hc')
  rw [invoke_eq_spec genFacts_good genFacts_handler hne _ hres' seen σ hσ]
  obtain ⟨h1, h2, h3⟩ := spec_first_failure packInvoke
    (fun i s => (⟨idAt ((pre ++ c :: post).map (taskFor (pick tools handler))) i, s⟩ : Msg))
    (pick tools handler) pre c post (fun c' hc' => by
      obtain ⟨s, hs⟩ := hpre c' hc'
      exact ⟨s, (answerI_pick hs).2⟩)
  refine ⟨fun e he => h1 e (answerI_pick he).2, fun p hp hn => h2 p (answerI_pick hp).2 hn,
    fun p hp hn => ?_⟩
  have := h3 p (answerI_pick hp).2 hn
  exact ⟨this, by rw [this]; simp [inGraph, genFacts_executor]⟩

/-- **tool_failure_fails_stream.** The same for `Stream` (failures at call time: the
    streamable function returns an error / panics, or the invokable one does for an
    invokable-only tool). -/
theorem tool_failure_fails_stream (pre : List Call) (c : Call) (post : List Call)
    (hpre : ∀ c' ∈ pre, ∃ s, answerS tools handler c' = some (.ok s))
    (hres : ∀ c' ∈ pre ++ c :: post, (resolve tools handler c').isSome)
    (seen : Nat → Nat) (σ : List Nat) (hσ : σ.Perm (List.range (pre ++ c :: post).length)) :
    (∀ e, answerS tools handler c = some (.err e) →
      stream genFacts tools handler true (pre ++ c :: post) seen σ = .err (.tool pre.length e)) ∧
    (∀ p, answerS tools handler c = some (.panic p) → pre ≠ [] →
      stream genFacts tools handler true (pre ++ c :: post) seen σ
        = .err (.tool pre.length (.panicked p))) ∧
    (∀ p, answerS tools handler c = some (.panic p) → pre = [] →
      stream genFacts tools handler true (pre ++ c :: post) seen σ = .panicEscapes p ∧
      inGraph genFacts (stream genFacts tools handler true (pre ++ c :: post) seen σ)
        = .err (.nodePanic p)) := by
  have hne : pre ++ c :: post ≠ [] := by simp
  have hres' : ∀ c' ∈ pre ++ c :: post, resolve tools handler c' = some (pick tools handler c') :=
    fun c' hc' => resolve_pick (hres c' hc')
  rw [stream_eq_spec genFacts_good genFacts_handler hne _ hres' seen σ hσ]
  obtain ⟨h1, h2, h3⟩ := spec_first_failure packStream
    (fun i (cs : List String) => cs.map fun s => sparse (pre ++ c :: post).length i
      ⟨idAt ((pre ++ c :: post).map (taskFor (pick tools handler))) i, s⟩)
    (pick tools handler) pre c post (fun c' hc' => by
      obtain ⟨s, hs⟩ := hpre c' hc'
      exact ⟨s, (answerS_pick hs).2⟩)
  refine ⟨fun e he => h1 e (answerS_pick he).2, fun p hp hn => h2 p (answerS_pick hp).2 hn,
    fun p hp hn => ?_⟩
  have := h3 p (answerS_pick hp).2 hn
  exact ⟨this, by rw [this]; simp [inGraph, genFacts_executor]⟩

/-- **unknown_tool_iff_handler.** Let `c` be the first call whose name is not configured.
    Without a handler the call fails with "unknown tool `c.name`" (before any tool runs, for
    every σ); with a handler it never fails that way. -/
theorem unknown_tool_iff_handler (pre : List Call) (c : Call) (post : List Call)
    (hpre : ∀ c' ∈ pre, (lookup tools c'.name).isSome) (hc : lookup tools c.name = none)
    (seen : Nat → Nat) (σ : List Nat) (hσ : σ.Perm (List.range (pre ++ c :: post).length)) :
    (invoke genFacts tools handler true (pre ++ c :: post) seen σ = .err (.unknownTool c.name)
      ∧ stream genFacts tools handler true (pre ++ c :: post) seen σ = .err (.unknownTool c.name))
    ↔ handler = none := by
  constructor
  · intro ⟨hi, _⟩
    cases hh : handler with
    | none => rfl
    | some h =>
      exfalso
      subst hh
      have hres : ∀ c' ∈ pre ++ c :: post, resolve tools (some h) c' = some (pick tools (some h) c') :=
        fun c' _ => resolve_pick (resolve_isSome_of_handler tools h c')
      rw [invoke_eq_spec genFacts_good genFacts_handler (by simp) _ hres seen σ hσ] at hi
      obtain ⟨i, te, hte⟩ := specRun_err_is_tool _ _ _ _ hi
      cases hte
  · intro hh
    subst hh
    have hg := genTasks_unknown (F := genFacts) genFacts_handler (tools := tools) (handler := none)
      pre c post (fun c' hc' => by
        obtain ⟨t, ht⟩ := Option.isSome_iff_exists.1 (hpre c' hc')
        exact Option.isSome_iff_exists.2 ⟨t, resolve_eq_some_iff.2 (.inl ht)⟩) (resolve_none_iff.2 ⟨hc, rfl⟩)
    constructor
    · unfold invoke; rw [hg]
    · unfold stream; rw [hg]

/-- **unknown_tool_answered_by_handler.** With a handler `h`, a call with an unknown name
    is answered by `h name args`, and that answer is placed at that call's position with
    that call's id (it is an instance of `tools_by_index`). -/
theorem unknown_tool_answered_by_handler (h : Handler) (calls : List Call) (hne : calls ≠ [])
    (v : Call → String) (hall : ∀ c ∈ calls, answerI tools (some h) c = some (.ok (v c)))
    (seen : Nat → Nat) (σ : List Nat) (hσ : σ.Perm (List.range calls.length)) :
    invoke genFacts tools (some h) true calls seen σ = .ok (calls.map fun c => ⟨c.id, v c⟩) ∧
    ∀ c ∈ calls, lookup tools c.name = none → h c.name c.args = .ok (v c) := by
  refine ⟨tools_by_index tools (some h) calls hne v hall seen σ hσ, fun c hc hl => ?_⟩
  have := hall c hc
  simpa [answerI, resolve, hl, handlerTool, packInvoke] using this

/-- **panic_contained.** For every input and every completion order: no panic of a tool
    kills the process (every goroutine recovers), and inside a graph run the node's result
    is a value or an error — never a panic (the executor recovers what leaves the inline
    call). -/
theorem panic_contained (assistant : Bool) (calls : List Call) (seen : Nat → Nat) (σ : List Nat)
    (hσ : σ.Perm (List.range calls.length)) :
    invoke genFacts tools handler assistant calls seen σ ≠ .crash ∧
    stream genFacts tools handler assistant calls seen σ ≠ .crash ∧
    ((∃ l, inGraph genFacts (invoke genFacts tools handler assistant calls seen σ) = .ok l) ∨
      ∃ e, inGraph genFacts (invoke genFacts tools handler assistant calls seen σ) = .err e) ∧
    ((∃ l, inGraph genFacts (stream genFacts tools handler assistant calls seen σ) = .ok l) ∨
      ∃ e, inGraph genFacts (stream genFacts tools handler assistant calls seen σ) = .err e) := by
  have key : ∀ {α : Type} (r : Res α), r ≠ .crash →
      (∃ l, inGraph genFacts r = .ok l) ∨ ∃ e, inGraph genFacts r = .err e := by
    intro α r hr
    cases r with
    | ok a => exact .inl ⟨a, rfl⟩
    | err e => exact .inr ⟨e, rfl⟩
    | panicEscapes p => exact .inr ⟨.nodePanic p, by simp [inGraph, genFacts_executor]⟩
    | crash => exact absurd rfl hr
  have hi : invoke genFacts tools handler assistant calls seen σ ≠ .crash := by
    rcases invoke_cases genFacts_good tools handler assistant calls seen σ hσ with ⟨e, _, h2⟩ | ⟨t, _, h2⟩
    · rw [h2]; simp
    · rw [h2]; exact specRun_no_crash _ _ _
  have hs : stream genFacts tools handler assistant calls seen σ ≠ .crash := by
    rcases stream_cases genFacts_good tools handler assistant calls seen σ hσ with ⟨e, _, h2⟩ | ⟨t, _, h2⟩
    · rw [h2]; simp
    · rw [h2]; exact specRun_no_crash _ _ _
  exact ⟨hi, hs, key _ hi, key _ hs⟩

/-- **merge_is_interleaving.** The executable merge the oracle uses yields an interleaving
    for every schedule (so `tools_stream_agrees` applies to what the oracle computes, and
    its hypothesis `Interleaving srcs m` is satisfiable for all `srcs`). -/
theorem merge_is_interleaving {β : Type} (sched : List Nat) (srcs : List (List β)) :
    Interleaving srcs (mergeBy sched srcs) := mergeBy_interleaving sched srcs

section Examples

def exEcho (tag : String) : Tool := ⟨some fun a => .ok (tag ++ a), none⟩
def exStr : Tool := ⟨none, some fun a => .ok ["<", a, ">"]⟩
def exFail (k : Nat) : Tool := ⟨some fun _ => .err (.user k), none⟩
def exBoom (k : Nat) : Tool := ⟨some fun _ => .panic k, none⟩
def exTools : List (String × Tool) :=
  [("a", exEcho "A"), ("s", exStr), ("f", exFail 7), ("g", exFail 8), ("p", exBoom 9)]
def exCalls : List Call := [⟨"c0", "a", "x"⟩, ⟨"c1", "s", "y"⟩, ⟨"c2", "a", "z"⟩]
def exFacts : Facts := Expected.C17.facts

end Examples

/-- three calls completing in the order 2,0,1: answers in call order, ids by position -/
example : invoke exFacts exTools none true exCalls id [2, 0, 1]
    = .ok [⟨"c0", "Ax"⟩, ⟨"c1", "<y>"⟩, ⟨"c2", "Az"⟩] := by decide

/-- the streamed form, merged by an arbitrary schedule, concatenates to the same list -/
example : (match stream exFacts exTools none true exCalls id [1, 2, 0] with
    | .ok srcs => (collect (mergeBy [1, 0, 1, 2] srcs)).toOption
    | _ => none)
    = some [some ⟨"c0", "Ax"⟩, some ⟨"c1", "<y>"⟩, some ⟨"c2", "Az"⟩] := by decide

/-- two failing calls, the later one completing first: the error is the earlier call's -/
example : invoke exFacts exTools none true [⟨"c0", "a", "x"⟩, ⟨"c1", "f", ""⟩, ⟨"c2", "g", ""⟩] id [2, 1, 0]
    = .err (.tool 1 (.user 7)) := by decide

/-- a panicking goroutine call is an error; a panicking inline call leaves the node -/
example : invoke exFacts exTools none true [⟨"c0", "a", "x"⟩, ⟨"c1", "p", ""⟩] id [1, 0]
    = .err (.tool 1 (.panicked 9)) := by decide
example : inGraph exFacts (invoke exFacts exTools none true [⟨"c0", "p", ""⟩, ⟨"c1", "a", ""⟩] id [1, 0])
    = .err (.nodePanic 9) := by decide

/-- unknown name: error without handler, the handler's answer at that position with one -/
example : invoke exFacts exTools none true [⟨"c0", "a", "x"⟩, ⟨"c1", "nope", "q"⟩] id [0, 1]
    = .err (.unknownTool "nope") := by decide
example : invoke exFacts exTools (some fun n a => .ok (n ++ "?" ++ a)) true
      [⟨"c0", "nope", "q"⟩, ⟨"c1", "a", "x"⟩] id [1, 0]
    = .ok [⟨"c0", "nope?q"⟩, ⟨"c1", "Ax"⟩] := by decide

/-! ## negation witnesses: each source fact matters -/

/-- results appended in completion order (instead of stored by index): a wrong answer -/
theorem append_order_breaks :
    invoke { exFacts with storeByIndex := false } exTools none true
        [⟨"c0", "a", "x"⟩, ⟨"c1", "a", "y"⟩] id [1, 0]
      = .ok [⟨"c0", "Ay"⟩, ⟨"c1", "Ax"⟩] := by decide

/-- no recover in the goroutine: a panicking tool kills the process -/
theorem no_recover_crashes :
    invoke { exFacts with goroutineRecovers := false } exTools none true
        [⟨"c0", "a", "x"⟩, ⟨"c1", "p", ""⟩] id [0, 1] = .crash := by decide

/-- loop variable captured (go 1.18 semantics) and read late: call 1 is never answered -/
theorem captured_loop_variable_breaks :
    invoke { exFacts with taskPassedAsArg := false } exTools none true
        [⟨"c0", "a", "x"⟩, ⟨"c1", "a", "y"⟩, ⟨"c2", "a", "z"⟩] (fun _ => 2) [0, 1, 2]
      = .err (.stale 1) := by decide

/-- handler not consulted: an unknown name fails although a handler is configured -/
theorem handler_ignored_breaks :
    invoke { exFacts with handlerConsulted := false } exTools (some fun n a => .ok (n ++ a)) true
        [⟨"c0", "nope", "q"⟩] id [0] = .err (.unknownTool "nope") := by decide

/-- no recover in the graph executor: a panic of the inline call would kill the run -/
theorem no_executor_recover_crashes :
    inGraph { exFacts with executorRecovers := false }
      (invoke exFacts exTools none true [⟨"c0", "p", ""⟩] id [0]) = .crash := by decide

/-- A streamable-only tool whose stream has NO chunk is outside `tools_stream_agrees`
    (`cs c ≠ []`): Invoke fails (`emptyStreamConcatErr`) while the streamed form
    concatenates to a list with a hole at that position. -/
theorem empty_stream_disagrees :
    let ts : List (String × Tool) := [("a", exEcho "A"), ("e", ⟨none, some fun _ => .ok []⟩)]
    let calls : List Call := [⟨"c0", "a", "x"⟩, ⟨"c1", "e", ""⟩]
    invoke exFacts ts none true calls id [0, 1] = .err (.tool 1 .emptyStream) ∧
    (match stream exFacts ts none true calls id [0, 1] with
      | .ok srcs => (collect (mergeBy [] srcs)).toOption
      | _ => none) = some [some ⟨"c0", "Ax"⟩, none] := by decide

/-! ## family `late`: tools still producing after the handover, looking at their context

  `streamL … paces prod cancel` is `ToolsNode.Stream` when the streamable tool of call `i`
  sends only its first `(paces i).hold` chunks before `StreamableRun` returns and the others
  afterwards, one per step, looking at the context it was given before each (finding it
  done it fails the stream with the context's error / ends it / goes on, `onDone`); `prod`
  orders the late steps of all producers; `cancel = some c`: the caller cancels its context
  after `c` steps.  Model: EinoV/Model/C17Late.lean. -/

/-- the context facts regenerated from /repo -/
def genCtxFacts : CtxFacts :=
  { notScoped := FactsC17.toolCtxNotScoped, fromCaller := FactsC17.toolCtxFromCaller }

/-- Source fact tie: the tools run under the caller's context (only value-derivations on the
    way), and nothing on the way derives a context that the node itself ends. -/
theorem ctx_facts_match : genCtxFacts = Expected.C17.ctxFacts := by decide

theorem genCtxFacts_good : genCtxFacts.Good := ⟨by decide, by decide⟩

/-- **late_production_invisible.** For EVERY input (any role, calls, tools, handler,
    completion order), every pacing of every call, every production order: as long as the
    caller does not cancel, the streams a tools node hands out deliver exactly the chunks of
    the eager form — a tool that is still producing when `Stream` returns, and that honours
    its context, is never cut short by anything the node does. -/
theorem late_production_invisible (assistant : Bool) (calls : List Call) (seen : Nat → Nat)
    (σ : List Nat) (paces : Nat → Option Pace) (prod : List Nat) :
    streamL genFacts genCtxFacts tools handler assistant calls seen σ paces prod none
      = (stream genFacts tools handler assistant calls seen σ).map
          (fun srcs => srcs.map (·.map .chunk)) := by
  unfold streamL
  congr 1
  funext srcs
  exact deliver_alive _ _ _ _ (fun t => by rw [ctxDone_good genCtxFacts_good, cancelledAt_none]) srcs

/-- **late_stream_agrees.** `tools_stream_agrees` for late producers: under its hypotheses,
    for every pacing, every production order and all completion orders, Stream succeeds,
    every source delivers all its chunks and no error item, and every interleaving of them
    concatenates to exactly the list Invoke returns. -/
theorem late_stream_agrees (calls : List Call) (hne : calls ≠ []) (cs : Call → List String)
    (hall : ∀ c ∈ calls, answerS tools handler c = some (.ok (cs c)) ∧ cs c ≠ [])
    (hcoh : ∀ c ∈ calls, Coherent (pick tools handler c))
    (seen seen' : Nat → Nat) (σ σ' : List Nat)
    (hσ : σ.Perm (List.range calls.length)) (hσ' : σ'.Perm (List.range calls.length))
    (paces : Nat → Option Pace) (prod : List Nat) :
    ∃ srcs, streamL genFacts genCtxFacts tools handler true calls seen' σ' paces prod none
        = .ok (srcs.map (·.map .chunk)) ∧
      invoke genFacts tools handler true calls seen σ
        = .ok (calls.map fun c => ⟨c.id, joinS (cs c)⟩) ∧
      ∀ m, Interleaving srcs m →
        collect m = .ok ((calls.map fun c => (⟨c.id, joinS (cs c)⟩ : Msg)).map some) := by
  obtain ⟨srcs, hs, hi, hm⟩ := tools_stream_agrees tools handler calls hne cs hall hcoh seen seen' σ σ' hσ hσ'
  refine ⟨srcs, ?_, hi, hm⟩
  rw [late_production_invisible, hs]
  rfl

/-- **cancelled_stream_is_prefix.** For every input and every cancellation point: each
    source still delivers a prefix of its tool's chunks containing at least the eager ones;
    a source of a tool without streamable form, or whose producer ignores its context,
    delivers everything; and a source carries the context's error only if its producer
    fails on a done context AND the caller has cancelled — the node never makes one up. -/
theorem cancelled_stream_is_prefix (assistant : Bool) (calls : List Call) (seen : Nat → Nat)
    (σ : List Nat) (paces : Nat → Option Pace) (prod : List Nat) (cancel : Option Nat)
    (srcs : List (List (List (Option Msg))))
    (hs : stream genFacts tools handler assistant calls seen σ = .ok srcs) :
    ∃ dl, streamL genFacts genCtxFacts tools handler assistant calls seen σ paces prod cancel = .ok dl ∧
      ∃ hl : dl.length = srcs.length, ∀ i (hi : i < srcs.length),
        chunksOfItems (dl[i]'(hl ▸ hi)) <+: srcs[i] ∧
        (paceOf tools handler calls paces i = none → dl[i]'(hl ▸ hi) = srcs[i].map .chunk) ∧
        ∀ p, paceOf tools handler calls paces i = some p →
          srcs[i].take p.hold <+: chunksOfItems (dl[i]'(hl ▸ hi)) ∧
          (p.onDone = .ignore → dl[i]'(hl ▸ hi) = srcs[i].map .chunk) ∧
          (Item.ctxErr ∈ dl[i]'(hl ▸ hi) → p.onDone = .fail ∧ cancel ≠ none) := by
  refine ⟨_, by unfold streamL; rw [hs]; rfl, length_deliver _ _ _ _ _, fun i hi => ?_⟩
  rw [getElem_deliver _ _ _ _ _ i hi]
  cases hp : paceOf tools handler calls paces i with
  | none =>
    refine ⟨by simp [chunks_map_chunk], fun _ => rfl, fun p h => (by cases h)⟩
  | some p =>
    simp only []
    refine ⟨(chunks_produce p _ _).1, fun h => (by cases h), fun q hq => ?_⟩
    cases hq
    refine ⟨(chunks_produce p _ _).2, fun hi' => produce_all p _ (fun _ _ => hi') _, fun hm => ?_⟩
    obtain ⟨hf, j, hj⟩ := ctxErr_mem_produce _ _ _ hm
    refine ⟨hf, fun hc => ?_⟩
    rw [ctxDone_good genCtxFacts_good, hc, cancelledAt_none] at hj
    cases hj

/-- **cancel_before_late_steps.** The caller's cancellation does reach the tools: if the
    caller cancels right after `Stream` returned (before any late step), every producer
    finds its context done at its first late step — the source delivers the eager chunks
    and then, if anything was left, what `onDone` says. -/
theorem cancel_before_late_steps (assistant : Bool) (calls : List Call) (seen : Nat → Nat)
    (σ : List Nat) (paces : Nat → Option Pace) (prod : List Nat) :
    streamL genFacts genCtxFacts tools handler assistant calls seen σ paces prod (some 0)
      = (stream genFacts tools handler assistant calls seen σ).map fun srcs =>
          srcs.zipIdx.map fun (src, i) =>
            match paceOf tools handler calls paces i with
            | none => src.map .chunk
            | some p =>
              (src.take p.hold).map .chunk ++
                match src.drop p.hold with
                | [] => []
                | x :: xs =>
                  match p.onDone with
                  | .fail => [.ctxErr]
                  | .stop => []
                  | .ignore => (x :: xs).map .chunk := by
  unfold streamL
  congr 1
  funext srcs
  unfold deliver
  apply List.map_congr_left
  intro ⟨src, i⟩ _
  dsimp only
  cases paceOf tools handler calls paces i with
  | none => rfl
  | some p =>
    simp only [produce]
    congr 1
    cases hd : src.drop p.hold with
    | nil => rfl
    | cons x xs =>
      exact lateSteps_done _ _ 0 (by rw [ctxDone_good genCtxFacts_good, cancelledAt_zero]) x xs

/-- non-vacuity: call 1's tool streams "<", "y", ">" — the first chunk eagerly, the others
    late; the caller cancels after one late step: "<", "y", then the context's error;
    call 0 (invokable-only) is not affected -/
example : streamL exFacts Expected.C17.ctxFacts exTools none true
      [⟨"c0", "a", "x"⟩, ⟨"c1", "s", "y"⟩] id [1, 0] (fun _ => some ⟨1, .fail⟩) [1, 0, 1] (some 1)
    = .ok [[.chunk [some ⟨"c0", "Ax"⟩, none]],
           [.chunk [none, some ⟨"c1", "<"⟩], .chunk [none, some ⟨"c1", "y"⟩], .ctxErr]] := by decide

/-- the same without cancellation: everything is delivered, whatever the script -/
example : streamL exFacts Expected.C17.ctxFacts exTools none true
      [⟨"c0", "a", "x"⟩, ⟨"c1", "s", "y"⟩] id [1, 0] (fun _ => some ⟨0, .stop⟩) [7, 1] none
    = .ok [[.chunk [some ⟨"c0", "Ax"⟩, none]],
           [.chunk [none, some ⟨"c1", "<"⟩], .chunk [none, some ⟨"c1", "y"⟩],
            .chunk [none, some ⟨"c1", ">"⟩]]] := by decide

/-- (negation witness) a context scoped to the fan-out — cancelled when the calls have
    returned — cuts a tool that is still producing: the streamed form ends in the context's
    error after the eager chunk although nobody cancelled, while Invoke returns the full
    answer. -/
theorem scoped_context_breaks :
    let CF : CtxFacts := { Expected.C17.ctxFacts with notScoped := false }
    let calls : List Call := [⟨"c0", "a", "x"⟩, ⟨"c1", "s", "y"⟩]
    streamL exFacts CF exTools none true calls id [0, 1] (fun _ => some ⟨1, .fail⟩) [1, 1] none
      = .ok [[.chunk [some ⟨"c0", "Ax"⟩, none]], [.chunk [none, some ⟨"c1", "<"⟩], .ctxErr]] ∧
    invoke exFacts exTools none true calls id [0, 1] = .ok [⟨"c0", "Ax"⟩, ⟨"c1", "<y>"⟩] := by decide

/-- (negation witness) a context detached from the caller's: the caller cancels before any
    late step and the producer, which would fail on a done context, never notices. -/
theorem detached_context_breaks :
    let CF : CtxFacts := { Expected.C17.ctxFacts with fromCaller := false }
    streamL exFacts CF exTools none true [⟨"c0", "s", "y"⟩] id [0] (fun _ => some ⟨0, .fail⟩) [] (some 0)
      = .ok [[.chunk [some ⟨"c0", "<"⟩], .chunk [some ⟨"c0", "y"⟩], .chunk [some ⟨"c0", ">"⟩]]] := by decide

/-! ## family `utils`: tools built by components/tool/utils decode each call's own arguments

  `mixed` is the configured tool list, each entry hand-written (`.inl`, a `Tool`) or built by
  `InferTool` / `NewTool` / `InferStreamTool` / `NewStreamTool` (`.inr`, a `UTool`: the user's
  function over the decoded request, request type struct / pointer / map).
  `mixedTools UF parse prior calls δ mixed` is the list as the node runs it when the calls
  `prior` of earlier messages went through the same tools and the calls of this message
  decode in the order `δ`; `parse` (arbitrary) gives the fields an argument string carries.
  Model: EinoV/Model/C17Utils.lean. -/

def genUFacts : UFacts := { freshPerCall := FactsC17.utilsFreshRequestPerCall }

/-- Source fact tie: the utils wrappers decode into an object made inside the call. -/
theorem utils_facts_match : genUFacts = Expected.C17.ufacts := by decide

theorem genUFacts_good : genUFacts.Good := by unfold UFacts.Good; decide

/-- **utils_tools_stateless.** For every tool list, every history of earlier messages, every
    call list and every order in which the overlapping calls decode: a utils-built tool is
    the pure function "the user's function on the request decoded from THIS argument string,
    absent fields zero" — nothing decoded for another call is visible. -/
theorem utils_tools_stateless (parse : String → Args) (prior calls : List Call) (δ : List Nat)
    (mixed : List (String × MixedTool)) :
    mixedTools genUFacts parse prior calls δ mixed = pureTools parse mixed :=
  mixedTools_fresh genUFacts_good parse prior calls δ mixed

/-- **utils_history_irrelevant.** Hence, for every input, Invoke and Stream return the same
    whatever went through the tools before and however the calls of the message overlap. -/
theorem utils_history_irrelevant (parse : String → Args) (mixed : List (String × MixedTool))
    (assistant : Bool) (calls prior prior' : List Call) (δ δ' : List Nat) (seen : Nat → Nat) (σ : List Nat) :
    invoke genFacts (mixedTools genUFacts parse prior calls δ mixed) handler assistant calls seen σ
      = invoke genFacts (mixedTools genUFacts parse prior' calls δ' mixed) handler assistant calls seen σ ∧
    stream genFacts (mixedTools genUFacts parse prior calls δ mixed) handler assistant calls seen σ
      = stream genFacts (mixedTools genUFacts parse prior' calls δ' mixed) handler assistant calls seen σ := by
  rw [utils_tools_stateless, utils_tools_stateless]
  exact ⟨rfl, rfl⟩

/-- **utils_by_index.** Calls naming utils-built invokable tools (the same tool any number
    of times, with any arguments): if the user's function answers `v c` on the request
    decoded from call `c`'s own arguments, then for every history, decode order and
    completion order Invoke returns one message per call, the i-th with the i-th call's id
    and `v` of the i-th call. -/
theorem utils_by_index (parse : String → Args) (mixed : List (String × MixedTool))
    (calls : List Call) (hne : calls ≠ []) (v : Call → String)
    (hall : ∀ c ∈ calls, ∃ t f, lookupM mixed c.name = some (.inr t) ∧ t.inv = some f ∧
      f (decodeFresh (parse c.args)) = .ok (v c))
    (prior : List Call) (δ : List Nat) (seen : Nat → Nat) (σ : List Nat)
    (hσ : σ.Perm (List.range calls.length)) :
    invoke genFacts (mixedTools genUFacts parse prior calls δ mixed) handler true calls seen σ
      = .ok (calls.map fun c => ⟨c.id, v c⟩) := by
  rw [utils_tools_stateless]
  apply tools_by_index _ handler calls hne v _ seen σ hσ
  intro c hc
  obtain ⟨t, f, hl, hf, hv⟩ := hall c hc
  rw [answerI_utils_inv hl hf, hv]

/-- **utils_stream_agrees.** The same for utils-built streamable tools: the streamed form
    concatenates, under every interleaving, to the list Invoke returns — the i-th message
    made of the chunks the user's function streams on call i's own decoded arguments. -/
theorem utils_stream_agrees (parse : String → Args) (mixed : List (String × MixedTool))
    (calls : List Call) (hne : calls ≠ []) (cs : Call → List String)
    (hall : ∀ c ∈ calls, ∃ t g, lookupM mixed c.name = some (.inr t) ∧ t.inv = none ∧ t.str = some g ∧
      g (decodeFresh (parse c.args)) = .ok (cs c) ∧ cs c ≠ [])
    (prior : List Call) (δ : List Nat) (seen seen' : Nat → Nat) (σ σ' : List Nat)
    (hσ : σ.Perm (List.range calls.length)) (hσ' : σ'.Perm (List.range calls.length)) :
    ∃ srcs, stream genFacts (mixedTools genUFacts parse prior calls δ mixed) handler true calls seen' σ'
        = .ok srcs ∧
      invoke genFacts (mixedTools genUFacts parse prior calls δ mixed) handler true calls seen σ
        = .ok (calls.map fun c => ⟨c.id, joinS (cs c)⟩) ∧
      ∀ m, Interleaving srcs m →
        collect m = .ok ((calls.map fun c => (⟨c.id, joinS (cs c)⟩ : Msg)).map some) := by
  rw [utils_tools_stateless]
  apply tools_stream_agrees _ handler calls hne cs _ _ seen seen' σ σ' hσ hσ'
  · intro c hc
    obtain ⟨t, g, hl, _, hg, hv, hn⟩ := hall c hc
    exact ⟨by rw [answerS_utils_str hl hg, hv], hn⟩
  · intro c hc
    obtain ⟨t, g, hl, hi, _, _, _⟩ := hall c hc
    rw [pick, resolve_utils hl]
    exact coherent_of_no_inv _ (by simp [UTool.pure, hi])

section UtilsExamples

/-- a parser for the examples: "n1" carries n = 1, "n2u" carries n = 2 and u = "F", … -/
def exParse (s : String) : Args :=
  if s == "n1" then ⟨none, some 1, none⟩
  else if s == "n2" then ⟨none, some 2, none⟩
  else if s == "n3" then ⟨none, some 3, none⟩
  else if s == "n2u" then ⟨none, some 2, some "F"⟩
  else if s == "a" then ⟨some "oslo", none, none⟩
  else ⟨none, none, none⟩

def exShow (r : Req) : String := r.a ++ "/" ++ toString r.n ++ "/" ++ r.u

/-- `scale`: a pointer-typed request, answers with what it finds in it -/
def exScale : UTool := ⟨.ptr, some fun r => .ok (exShow r), none⟩
def exScaleS : UTool := ⟨.map, none, some fun r => .ok [r.a, "/", toString r.n]⟩
def exMixed : List (String × MixedTool) := [("a", .inl (exEcho "A")), ("scale", .inr exScale), ("ss", .inr exScaleS)]

end UtilsExamples

/-- non-vacuity: the same tool three times in one message, whatever the decode order, after
    an earlier message that set `u`: each answer from its own arguments, absent fields zero -/
example : invoke exFacts (mixedTools Expected.C17.ufacts exParse [⟨"p0", "scale", "n2u"⟩]
      [⟨"c0", "scale", "n1"⟩, ⟨"c1", "a", "x"⟩, ⟨"c2", "scale", "n3"⟩, ⟨"c3", "scale", "a"⟩] [3, 2, 0, 1] exMixed)
    none true [⟨"c0", "scale", "n1"⟩, ⟨"c1", "a", "x"⟩, ⟨"c2", "scale", "n3"⟩, ⟨"c3", "scale", "a"⟩] id [2, 0, 3, 1]
    = .ok [⟨"c0", "/1/"⟩, ⟨"c1", "Ax"⟩, ⟨"c2", "/3/"⟩, ⟨"c3", "oslo/0/"⟩] := by decide

/-- (negation witness) one request object per tool instead of per call, pointer-typed
    request, the calls of a message overlapping: every call of the tool answers from the
    arguments of whichever call decoded last. -/
theorem shared_request_breaks :
    let calls : List Call := [⟨"c0", "scale", "n1"⟩, ⟨"c1", "scale", "n2"⟩, ⟨"c2", "scale", "n3"⟩]
    invoke exFacts (mixedTools { freshPerCall := false } exParse [] calls [0, 2, 1] exMixed)
      none true calls id [0, 1, 2]
      = .ok [⟨"c0", "/2/"⟩, ⟨"c1", "/2/"⟩, ⟨"c2", "/2/"⟩] := by decide

/-- (negation witness) … and without any overlap: a call that leaves a field out finds the
    value an earlier message put there. -/
theorem stale_field_breaks :
    let calls : List Call := [⟨"c0", "scale", "a"⟩]
    invoke exFacts (mixedTools { freshPerCall := false } exParse [⟨"p0", "scale", "n2u"⟩] calls [0] exMixed)
      none true calls id [0]
      = .ok [⟨"c0", "oslo/2/F"⟩] := by decide

/-! ## family `readers`: several consumers of the node's stream, each concatenating

  The chunks of a stream are shared by all its copies.  `readK CF k cells` = `k` readers, one
  after the other, each receiving every chunk of the store `cells` (in the stream's order)
  and concatenating (`collect`); a concatenation that does not allocate its result writes
  it back into the store.  Model: EinoV/Model/C17Readers.lean. -/

def genConcatFacts : ConcatFacts :=
  { arrayAllocates := FactsC17.concatArrayAllocates, msgsAllocates := FactsC17.concatMessagesAllocates }

/-- Source fact tie: `concatMessageArray` and `ConcatMessages` build their results in memory
    of their own and assign nothing through their arguments. -/
theorem concat_facts_match : genConcatFacts = Expected.C17.concatFacts := by decide

theorem genConcatFacts_good : genConcatFacts.Good := ⟨by decide, by decide⟩

/-- **readers_leave_chunks_alone.** For every chunk sequence and every number of readers:
    each reader's concatenation is the concatenation of the chunks as they were sent, and
    the chunks are afterwards what they were. -/
theorem readers_leave_chunks_alone (k : Nat) (cells : Cells) :
    readK genConcatFacts k cells = (List.replicate k (collect cells), cells) :=
  readK_good genConcatFacts_good k cells

/-- **every_reader_agrees.** `tools_stream_agrees` for any number of readers: under its
    hypotheses, whatever interleaving `m` of the n source streams the (shared) stream
    delivers, each of the `k` readers concatenates it to exactly the list Invoke returns. -/
theorem every_reader_agrees (calls : List Call) (hne : calls ≠ []) (cs : Call → List String)
    (hall : ∀ c ∈ calls, answerS tools handler c = some (.ok (cs c)) ∧ cs c ≠ [])
    (hcoh : ∀ c ∈ calls, Coherent (pick tools handler c))
    (seen seen' : Nat → Nat) (σ σ' : List Nat)
    (hσ : σ.Perm (List.range calls.length)) (hσ' : σ'.Perm (List.range calls.length)) (k : Nat) :
    ∃ srcs, stream genFacts tools handler true calls seen' σ' = .ok srcs ∧
      invoke genFacts tools handler true calls seen σ
        = .ok (calls.map fun c => ⟨c.id, joinS (cs c)⟩) ∧
      ∀ m, Interleaving srcs m →
        readK genConcatFacts k m
          = (List.replicate k (.ok ((calls.map fun c => (⟨c.id, joinS (cs c)⟩ : Msg)).map some)), m) := by
  obtain ⟨srcs, hs, hi, hm⟩ := tools_stream_agrees tools handler calls hne cs hall hcoh seen seen' σ σ' hσ hσ'
  refine ⟨srcs, hs, hi, fun m him => ?_⟩
  rw [readers_leave_chunks_alone, hm m him]

/-- non-vacuity: three readers of the merged stream of `exCalls` -/
example : (match stream exFacts exTools none true exCalls id [1, 2, 0] with
    | .ok srcs => (readK Expected.C17.concatFacts 3 (mergeBy [1, 0, 1, 2] srcs)).1.map (·.toOption)
    | _ => [])
    = List.replicate 3 (some [some ⟨"c0", "Ax"⟩, some ⟨"c1", "<y>"⟩, some ⟨"c2", "Az"⟩]) := by decide

/-- (negation witness) `concatMessageArray` building its result in the first chunk's list:
    the first reader is right, the second finds the complete answers in chunk 0 and the
    chunks again after it — doubled outputs. -/
theorem inplace_array_breaks :
    (readK { Expected.C17.concatFacts with arrayAllocates := false } 2
      [[some ⟨"c0", "A"⟩, none], [none, some ⟨"c1", "x"⟩], [none, some ⟨"c1", "y"⟩]]).1.map (·.toOption)
      = [some [some ⟨"c0", "A"⟩, some ⟨"c1", "xy"⟩], some [some ⟨"c0", "A"⟩, some ⟨"c1", "xyxy"⟩]] := by decide

/-- (negation witness) `ConcatMessages` building its result in the first message: the first
    message of a multi-chunk answer is rewritten in its chunk, the second reader gets it
    followed by the other chunks again. -/
theorem inplace_message_breaks :
    (readK { Expected.C17.concatFacts with msgsAllocates := false } 2
      [[some ⟨"c0", "A"⟩, none], [none, some ⟨"c1", "x"⟩], [none, some ⟨"c1", "y"⟩]]).1.map (·.toOption)
      = [some [some ⟨"c0", "A"⟩, some ⟨"c1", "xy"⟩], some [some ⟨"c0", "A"⟩, some ⟨"c1", "xyy"⟩]] := by decide

/-- **answers_by_position_any_ids.** `tools_by_index` read position by position, with NO
    assumption on the ids of the message (two calls may share an id, ids may be empty): for
    every completion order Invoke returns exactly `calls.length` messages, and the i-th one
    carries the i-th call's id — whatever it is — and the i-th call's answer. -/
theorem answers_by_position_any_ids (calls : List Call) (hne : calls ≠ []) (v : Call → String)
    (hall : ∀ c ∈ calls, answerI tools handler c = some (.ok (v c)))
    (seen : Nat → Nat) (σ : List Nat) (hσ : σ.Perm (List.range calls.length)) :
    ∃ msgs, invoke genFacts tools handler true calls seen σ = .ok msgs ∧
      msgs.length = calls.length ∧
      ∀ i (h : i < calls.length), msgs[i]? = some ⟨calls[i].id, v calls[i]⟩ := by
  refine ⟨_, tools_by_index tools handler calls hne v hall seen σ hσ, by simp, fun i h => by simp [h]⟩

/-- non-vacuity: four calls, ids `["x", "y", "x", ""]` and all equal: four answers, by position -/
example : invoke exFacts exTools none true
      [⟨"x", "a", "p"⟩, ⟨"y", "s", "q"⟩, ⟨"x", "a", "r"⟩, ⟨"", "s", "t"⟩] id [3, 1, 2, 0]
    = .ok [⟨"x", "Ap"⟩, ⟨"y", "<q>"⟩, ⟨"x", "Ar"⟩, ⟨"", "<t>"⟩] := by decide
example : invoke exFacts exTools none true
      [⟨"same", "a", "p"⟩, ⟨"same", "s", "q"⟩, ⟨"same", "a", "p"⟩] id [2, 0, 1]
    = .ok [⟨"same", "Ap"⟩, ⟨"same", "<q>"⟩, ⟨"same", "Ap"⟩] := by decide

end EinoV.C17
