/-
  C16 — Call options reach exactly the nodes they address.
  Property theorems.  Model: EinoV/Model/C16.lean (`extract` = compose/utils.go
  `extractOption`, `run` = its recursive use through nested graphs plus
  `initGraphCallbacks` / `initNodeCallbacks`).  Source facts: EinoV/Gen/FactsC16.lean
  (regenerated from /repo on every run).

  Vocabulary (EinoV/Spec/C16.lean): `nodeAt g p` = the node the path `p` names (walking down
  through graph nodes only); `pathErr F g o p` = the verdict on one designated path `p` of
  option `o` (none = accepted); an entry of a successful run = what one component / graph
  node saw: the option values its body was called with, the callback handlers active for it.
-/
import EinoV.Model.C16
import EinoV.Model.C16Keys
import EinoV.Proofs.C16
import EinoV.Proofs.C16Keys
import EinoV.Model.C16Slices
import EinoV.Proofs.C16Slices
import EinoV.Model.C16Resume
import EinoV.Proofs.C16Resume
import EinoV.Proofs.C16Plain
import EinoV.Gen.FactsC16
import EinoV.Expected.C16
import EinoV.Proofs.TransC16

namespace EinoV.C16
open EinoV.Gen

/-- The facts regenerated from the source, as the model's parameter. -/
def gen : Facts :=
  { typeCmpIdentity := FactsC16.typeCmpIdentity, typeCmpImplements := FactsC16.typeCmpImplements,
    strip := FactsC16.strip,
    passSubPathIsError := FactsC16.passSubPathIsError, nestedCopies := FactsC16.nestedCopies,
    designateCopies := FactsC16.designateCopies }

/-- The regenerated facts about the key wrappers (`WithInputKey` / `WithOutputKey`). -/
def genK : KeyFacts :=
  { inKeyFwdInvoke := FactsC16.inKeyFwdInvoke, inKeyFwdTransform := FactsC16.inKeyFwdTransform,
    outKeyFwdInvoke := FactsC16.outKeyFwdInvoke, outKeyFwdTransform := FactsC16.outKeyFwdTransform }

/-- The regenerated fact about how `extractOption` grows the lists of `optMap`. -/
def genV : SliceFacts := { valsGrowFromMapSlot := FactsC16.valsGrowFromMapSlot }

/-- The regenerated fact about tasks restored from a checkpoint. -/
def genR : ResumeFacts := { restoredTaskGetsNodeCallbacks := FactsC16.restoredTaskGetsNodeCallbacks }

/-- Source fact tie: the regenerated facts are the ones the oracle runs with. -/
theorem facts_match : gen = Expected.C16.facts := by decide

/-- Source fact tie: both closures (invoke path, transform path) of both key wrappers pass the
    option list on to the closure they wrap; these are the values the oracle runs with. -/
theorem key_facts_match : genK = Expected.C16.keyFacts := by decide

theorem genK_all : genK.allForward := by
  unfold KeyFacts.allForward; decide

/-- Source fact tie: every code shape the model has built in was found in the source
    (`optionType == nil` decides "transmit the whole Option", guards of the undesignated block,
    the unknown-node / empty-path tests, `nOpt.paths = []*NodePath{}`, the handler selectors of
    `initGraphCallbacks` / `initNodeCallbacks`, `optionType` nil for graphs and passthroughs,
    `optMap` fresh per call and indexed by node key). -/
theorem shape_ok : ∀ s ∈ FactsC16.shape, s.2 = true := by decide

theorem gen_T : gen.typeCmpIdentity = true := by decide
theorem gen_I : gen.typeCmpImplements = false := by decide
theorem gen_S : gen.strip = 1 := by decide
theorem gen_C : gen.nestedCopies = true := by decide

theorem run_entries {g : Nodes} (hwf : g.wf = true) {opts : List Opt} {out : List Entry}
    (hrun : run gen g opts = .ok out) (e : Entry) (he : e ∈ out) :
    (e.path = [] ∧ e.isGraph = true ∧ e.vals = [] ∧ e.handlers = graphHandlers opts) ∨
    EntrySpec g [] (graphHandlers opts) opts e := by
  obtain ⟨log, es, hlog, hes, rfl⟩ := run_ok hrun
  rcases List.mem_cons.mp he with rfl | he
  · exact Or.inl ⟨rfl, rfl, rfl, rfl⟩
  · exact Or.inr (runNodes_sound gen_T gen_I gen_S g g [] _ opts log es hwf hlog (fun _ h => h)
      (fun _ h => h) hes e he)

/-- **option_reaches_iff.** In a run that is accepted, the component node at path `p` (any
    nesting depth) has exactly one kind of entry, and the option values its body is called with
    are exactly the values of the Options of this call that have the node's option type and
    are undesignated, or designated to `p` itself, or designated to a graph node above `p`
    (`q` a prefix of `p`; a proper prefix of a node path always names a graph node).
    So an undesignated option reaches every node of its type at every depth and no node of
    another type; a designated option reaches only the designated node, or the nodes of its
    type inside the designated sub-graph. -/
theorem option_reaches_iff (g : Nodes) (hwf : g.wf = true) (opts : List Opt) (out : List Entry)
    (hrun : run gen g opts = .ok out) (p : Path) (k : Key) (ty : Nat)
    (hnode : nodeAt g p = some (.comp k ty)) :
    (∃ e ∈ out, e.path = p) ∧
    ∀ e ∈ out, e.path = p → ∀ v, v ∈ e.vals ↔
      ∃ o ∈ opts, v ∈ o.vals ∧ ty = o.ty ∧
        (o.paths = [] ∨ ∃ q ∈ o.paths, q ≠ [] ∧ q <+: p) := by
  constructor
  · obtain ⟨log, es, -, hes, rfl⟩ := run_ok hrun
    obtain ⟨e, he, hp⟩ := runNodes_complete g [] _ opts log es hes p _ hnode rfl
    exact ⟨e, List.mem_cons_of_mem _ he, by simpa using hp⟩
  · exact fun e he hp v => vals_of_entry (run_entries hwf hrun e he) hp hnode v

/-- Consequence: a node never receives a value of an option of another type, at any depth. -/
theorem no_other_type (g : Nodes) (hwf : g.wf = true) (opts : List Opt) (out : List Entry)
    (hrun : run gen g opts = .ok out) (p : Path) (k : Key) (ty : Nat)
    (hnode : nodeAt g p = some (.comp k ty)) (e : Entry) (he : e ∈ out) (hp : e.path = p)
    (v : Nat) (hv : v ∈ e.vals) : ∃ o ∈ opts, v ∈ o.vals ∧ o.ty = ty := by
  obtain ⟨o, ho, h1, h2, _⟩ := ((option_reaches_iff g hwf opts out hrun p k ty hnode).2 e he hp v).mp hv
  exact ⟨o, ho, h1, h2.symm⟩

/-- **designation_errors_iff.** A call is rejected iff one of its designated paths is bad:
    `pathErr` says why — the path is empty, names a key that is not a node of the graph it has
    reached, continues below a component or passthrough node, or ends at a component whose
    option type differs from the option's (see `bad_paths` below). -/
theorem designation_errors_iff (g : Nodes) (hwf : g.wf = true) (opts : List Opt) :
    (∃ e, run gen g opts = .error e) ↔
      ∃ o ∈ opts, ∃ p ∈ o.paths, (pathErr gen g o p).isSome = true :=
  run_err gen_S hwf opts

/-- What `pathErr` is, clause by clause, with the regenerated facts. -/
theorem bad_paths (g : Nodes) (o : Opt) :
    pathErr gen g o [] = some .emptyPath ∧
    (∀ k r, g.find k = none → pathErr gen g o (k :: r) = some .unknownNode) ∧
    (∀ q k' ch k r, nodeAt g q = some (.graph k' ch) → ch.find k = none →
      pathErr gen g o (q ++ k :: r) = some .unknownNode) ∧
    (∀ q k' ty r, nodeAt g q = some (.comp k' ty) → r ≠ [] →
      pathErr gen g o (q ++ r) = some .subPathOfComponent) ∧
    (∀ q k' r, nodeAt g q = some (.pass k') → r ≠ [] →
      pathErr gen g o (q ++ r) = some .subPathOfComponent) ∧
    (∀ q k' ty, nodeAt g q = some (.comp k' ty) → o.vals ≠ [] → ty ≠ o.ty →
      pathErr gen g o q = some .wrongType) ∧
    (∀ q k' ty, nodeAt g q = some (.comp k' ty) → (o.vals = [] ∨ ty = o.ty) →
      pathErr gen g o q = none) ∧
    (∀ q n, nodeAt g q = some n → (∀ k' ty, n ≠ .comp k' ty) → pathErr gen g o q = none) := by
  have hP : gen.passSubPathIsError = true := by decide
  refine ⟨rfl, fun k r h => pathErr_unknown o g k r h, ?_, ?_, ?_, ?_, ?_, ?_⟩
  · intro q k' ch k r hq hk
    rw [pathErr_below o (k :: r) (by simp) q g _ hq]
    exact pathErr_unknown o ch k r hk
  · intro q k' ty r hq hr
    rw [pathErr_below o r hr q g _ hq]
  · intro q k' r hq hr
    rw [pathErr_below o r hr q g _ hq]
    simp [hP]
  · intro q k' ty hq hv hty
    rw [pathErr_at o q g _ hq]
    simp [hv, hty, gen_T, tyMatch_id gen_I]
  · intro q k' ty hq h
    rw [pathErr_at o q g _ hq]
    rcases h with h | h <;> simp [h, tyMatch_id gen_I]
  · intro q n hq hn
    rw [pathErr_at o q g _ hq]
    cases n with
    | comp k' ty => exact absurd rfl (hn k' ty)
    | pass k' => rfl
    | graph k' ch => rfl

/-- **interface_typed_node_gets_nothing.**  The type of an Option is the dynamic type of its
    values – never an interface type.  A lambda whose declared option type is an interface
    (`opts ...any`, `opts ...fmt.Stringer`) is matched by *identity* of the types like every
    other node, so no option of a concrete type reaches it, undesignated or designated, at any
    depth: its body is always called without options. -/
theorem interface_typed_node_gets_nothing (g : Nodes) (hwf : g.wf = true) (opts : List Opt)
    (out : List Entry) (hrun : run gen g opts = .ok out) (p : Path) (k : Key) (ty : Nat)
    (hnode : nodeAt g p = some (.comp k ty)) (hi : isIfaceTy ty = true)
    (hconc : ∀ o ∈ opts, isIfaceTy o.ty = false) (e : Entry) (he : e ∈ out) (hp : e.path = p) :
    e.vals = [] := by
  cases hv : e.vals with
  | nil => rfl
  | cons v vs =>
    exfalso
    obtain ⟨o, ho, _, hty⟩ := no_other_type g hwf opts out hrun p k ty hnode e he hp v (by simp [hv])
    have := hconc o ho
    rw [hty, hi] at this
    cases this

/-- **designating_interface_typed_node_is_error.**  An option that carries values, designated
    to a node whose option type is an interface type, is an option of the wrong type: the call
    is rejected (for every concrete option type, implementing the interface or not). -/
theorem designating_interface_typed_node_is_error (g : Nodes) (hwf : g.wf = true) (opts : List Opt)
    (o : Opt) (ho : o ∈ opts) (hv : o.vals ≠ []) (hc : isIfaceTy o.ty = false)
    (q : Path) (hq : q ∈ o.paths) (k : Key) (ty : Nat) (hnode : nodeAt g q = some (.comp k ty))
    (hi : isIfaceTy ty = true) : ∃ e, run gen g opts = .error e := by
  refine (designation_errors_iff g hwf opts).mpr ⟨o, ho, q, hq, ?_⟩
  have hne : ty ≠ o.ty := by
    intro h; rw [h, hc] at hi; cases hi
  rw [(bad_paths g o).2.2.2.2.2.1 q k ty hnode hv hne]
  rfl

/-- **callbacks_reach_iff.** In a run that is accepted, a callback handler is active for a
    node (component or graph node at any depth, or the outermost graph, `path = []`) iff it
    belongs to an Option of this call that is undesignated or has a designated path that is the
    node's path or a prefix of it (the node lies inside the designated graph node). -/
theorem callbacks_reach_iff (g : Nodes) (hwf : g.wf = true) (opts : List Opt) (out : List Entry)
    (hrun : run gen g opts = .ok out) (e : Entry) (he : e ∈ out) (h : Nat) :
    h ∈ e.handlers ↔
      ∃ o ∈ opts, h ∈ o.handlers ∧ (o.paths = [] ∨ ∃ q ∈ o.paths, q ≠ [] ∧ q <+: e.path) :=
  handlers_of_entry (run_entries hwf hrun e he) h

/-- **callbacks_designated_only.** A handler that is only carried by designated Options is
    active only at the designated nodes and inside designated graph nodes: never for the
    outermost graph, never for a node that no designated path leads to. -/
theorem callbacks_designated_only (g : Nodes) (hwf : g.wf = true) (opts : List Opt)
    (out : List Entry) (hrun : run gen g opts = .ok out) (h : Nat)
    (hdes : ∀ o ∈ opts, h ∈ o.handlers → o.paths ≠ []) (e : Entry) (he : e ∈ out)
    (hact : h ∈ e.handlers) :
    e.path ≠ [] ∧ ∃ o ∈ opts, h ∈ o.handlers ∧ ∃ q ∈ o.paths, q ≠ [] ∧ q <+: e.path := by
  obtain ⟨o, ho, hm, hc⟩ := (callbacks_reach_iff g hwf opts out hrun e he h).mp hact
  rcases hc with hp | ⟨q, hq, hne, hpre⟩
  · exact absurd hp (hdes o ho hm)
  · refine ⟨?_, o, ho, hm, q, hq, hne, hpre⟩
    intro h0; rw [h0] at hpre; exact hne (List.prefix_nil.mp hpre)

/-- **no_leak.** Over any sequence of calls that share Option values (the caller's store),
    every call's outcome is the function `run` of that call's own graph and options, and the
    caller's Option values are the same after the calls as before. -/
theorem no_leak (store : List Opt) (cs : List Call) :
    runCalls gen store cs = (cs.map (fun c => run gen c.g (pick store c.ixs)), store) :=
  runCalls_copies gen_C cs store

/-- **designate_paths_exact.** Whatever sequence of `DesignateNode` / `DesignateNodeWithPath`
    calls derives Options from shared bases (any sources, any order, any number of siblings
    derived from the same base, any capacity-growth rule of `append`), every constructed Option
    designates — when looked at after the whole construction — exactly its base's paths
    followed by the paths added to it. Together with `option_reaches_iff` (whose `opts` are
    these values): an Option reaches only the nodes it was designated to, no matter what else
    was derived from the same base. -/
theorem designate_paths_exact (grow : Nat → Nat → Nat) (ops : List BuildOp) :
    builtPaths gen.designateCopies grow ops = specPaths ops := by
  have h : gen.designateCopies = true := by decide
  rw [h]; exact builtPaths_copies grow ops

/-! ## paradigms and key wrappers (Model/C16Keys.lean)

  `extractOption` decides what a node's *task* holds; `runW` adds the way from the task to the
  node body: the paradigm of the call (`Invoke` = every node's `i` closure; `Stream`, `Collect`,
  `Transform` = every node's `t` closure) and the wrappers of `WithInputKey` / `WithOutputKey`
  around the node.  With the regenerated facts that way changes nothing. -/

/-- **keys_and_paradigm_irrelevant.** For every tree whose nodes (components, lambdas,
    passthroughs, nested graphs at any depth) carry any input / output keys, every paradigm and
    every list of Options, the run is the run of the tree without keys (`run`, the subject of
    all theorems above): every node receives the same option values and has the same handlers,
    and the call is rejected for the same reason at the same graph. -/
theorem keys_and_paradigm_irrelevant (par : Paradigm) (g : WNodes) (opts : List Opt) :
    runW gen genK par g opts = run gen g.erase opts :=
  runW_eq genK_all par g opts

/-- Two calls whose trees differ only in keys, in any two paradigms, have the same outcome. -/
theorem same_outcome_in_every_paradigm (par par' : Paradigm) (g g' : WNodes)
    (h : g.erase = g'.erase) (opts : List Opt) :
    runW gen genK par g opts = runW gen genK par' g' opts := by
  rw [keys_and_paradigm_irrelevant, keys_and_paradigm_irrelevant, h]

/-- `option_reaches_iff` for a call in any paradigm on a tree with keys: the node with or without
    input / output key, inside any number of keyed sub-graphs. -/
theorem keyed_option_reaches_iff (par : Paradigm) (g : WNodes) (hwf : g.erase.wf = true)
    (opts : List Opt) (out : List Entry) (hrun : runW gen genK par g opts = .ok out)
    (p : Path) (k : Key) (ty : Nat) (hnode : nodeAt g.erase p = some (.comp k ty)) :
    (∃ e ∈ out, e.path = p) ∧
    ∀ e ∈ out, e.path = p → ∀ v, v ∈ e.vals ↔
      ∃ o ∈ opts, v ∈ o.vals ∧ ty = o.ty ∧
        (o.paths = [] ∨ ∃ q ∈ o.paths, q ≠ [] ∧ q <+: p) := by
  rw [keys_and_paradigm_irrelevant] at hrun
  exact option_reaches_iff g.erase hwf opts out hrun p k ty hnode

/-- `designation_errors_iff` for a call in any paradigm on a tree with keys: a bad designated
    path is an error also when it leads through or to keyed nodes. -/
theorem keyed_designation_errors_iff (par : Paradigm) (g : WNodes) (hwf : g.erase.wf = true)
    (opts : List Opt) :
    (∃ e, runW gen genK par g opts = .error e) ↔
      ∃ o ∈ opts, ∃ p ∈ o.paths, (pathErr gen g.erase o p).isSome = true := by
  rw [keys_and_paradigm_irrelevant]
  exact designation_errors_iff g.erase hwf opts

/-- `callbacks_reach_iff` for a call in any paradigm on a tree with keys. -/
theorem keyed_callbacks_reach_iff (par : Paradigm) (g : WNodes) (hwf : g.erase.wf = true)
    (opts : List Opt) (out : List Entry) (hrun : runW gen genK par g opts = .ok out)
    (e : Entry) (he : e ∈ out) (h : Nat) :
    h ∈ e.handlers ↔
      ∃ o ∈ opts, h ∈ o.handlers ∧ (o.paths = [] ∨ ∃ q ∈ o.paths, q ≠ [] ∧ q <+: e.path) := by
  rw [keys_and_paradigm_irrelevant] at hrun
  exact callbacks_reach_iff g.erase hwf opts out hrun e he h

/-- `no_leak` for sequences of calls in any paradigms on trees with keys. -/
theorem keyed_no_leak (store : List Opt) (cs : List CallW) :
    runCallsW gen genK store cs
      = (cs.map (fun c => run gen c.g.erase (pick store c.ixs)), store) := by
  rw [runCallsW_eq genK_all, no_leak, List.map_map]
  rfl

/-! ## interrupted and resuming calls (Model/C16Resume.lean)

  A node body that returns `InterruptAndRerun` ends the call with a checkpoint; a later call with
  the checkpoint id resumes: it extracts ITS OWN options, the nodes that had completed do not
  execute again, the interrupted node – and the nested-graph nodes around it, as restored tasks –
  and everything after it do.  `runWP … part` is `runW` restricted to the nodes that execute
  (`Part.stopAt p`: the call the node at `p` interrupts; `Part.resumeAt p`: the call that resumes
  there; `Part.full`: a call from START to END).  With the regenerated fact (every task the
  executor runs, restored or new, gets its node callbacks) the clauses of the property hold for
  each of these calls exactly as for a fresh one, for the nodes that execute in it. -/

/-- Source fact tie: the regenerated fact is the one the oracle runs with. -/
theorem resume_facts_match : genR = Expected.C16.resumeFacts := by decide

theorem gen_R : genR.restoredTaskGetsNodeCallbacks = true := by decide

/-- a call from START to END is the `run` all theorems above are about -/
theorem fresh_call_is_run (par : Paradigm) (g : WNodes) (opts : List Opt) :
    runWP gen genK genR par .full g opts = run gen g.erase opts := by
  rw [runWP_full, keys_and_paradigm_irrelevant]

/-- **resumed_option_reaches_iff.**  In a call that is accepted – fresh, interrupted at any node,
    or resuming at any node; any paradigm, any keys – a component node at `p` that executes in it
    (has an entry) receives exactly the values of the Options OF THIS CALL that have its type and
    are undesignated or designated to a prefix of `p`: for the resuming call exactly as for a
    fresh call, whatever the interrupted call was given. -/
theorem resumed_option_reaches_iff (par : Paradigm) (part : Part) (g : WNodes)
    (hwf : g.erase.wf = true) (opts : List Opt) (out : List Entry)
    (hrun : runWP gen genK genR par part g opts = .ok out)
    (p : Path) (k : Key) (ty : Nat) (hnode : nodeAt g.erase p = some (.comp k ty)) :
    ∀ e ∈ out, e.path = p → ∀ v, v ∈ e.vals ↔
      ∃ o ∈ opts, v ∈ o.vals ∧ ty = o.ty ∧
        (o.paths = [] ∨ ∃ q ∈ o.paths, q ≠ [] ∧ q <+: p) := by
  exact fun e he hp v => vals_of_entry
    (runWP_entries gen_T gen_I gen_S genK_all gen_R par part g hwf opts out hrun e he) hp hnode v

/-- **resumed_callbacks_reach_iff.**  In an accepted call – fresh, interrupted or resuming – a
    handler is active for a node that executes in it (component, graph node – also a nested graph
    restored from the checkpoint –, or the outermost graph) iff it belongs to an Option of this
    call that is undesignated or has a designated path that is a prefix of the node's path. -/
theorem resumed_callbacks_reach_iff (par : Paradigm) (part : Part) (g : WNodes)
    (hwf : g.erase.wf = true) (opts : List Opt) (out : List Entry)
    (hrun : runWP gen genK genR par part g opts = .ok out) (e : Entry) (he : e ∈ out) (h : Nat) :
    h ∈ e.handlers ↔
      ∃ o ∈ opts, h ∈ o.handlers ∧ (o.paths = [] ∨ ∃ q ∈ o.paths, q ≠ [] ∧ q <+: e.path) :=
  handlers_of_entry (runWP_entries gen_T gen_I gen_S genK_all gen_R par part g hwf opts out hrun e he) h

/-- **resumed_call_delivers_as_fresh_call.**  If the call made fresh with the same options is
    accepted, then the call in which only part of the nodes execute (interrupted / resuming at any
    node) is accepted too, and what it delivers – node by node, values in order, handlers – are
    entries of the fresh call, in the fresh call's order: nothing is added, nothing is changed. -/
theorem resumed_call_delivers_as_fresh_call (par : Paradigm) (part : Part) (g : WNodes)
    (opts : List Opt) (out : List Entry) (hrun : run gen g.erase opts = .ok out) :
    ∃ outP, runWP gen genK genR par part g opts = .ok outP ∧ outP.Sublist out := by
  rw [← keys_and_paradigm_irrelevant par] at hrun
  exact runWP_sublist gen_R par part g opts out hrun

/-- **interrupt_point_executes.**  The node that interrupts executes in the interrupted call (its
    body received its options before it interrupted) and again in the resuming call: both have an
    entry at its path. -/
theorem interrupt_point_executes (par : Paradigm) (g : WNodes) (opts : List Opt) (ip : Path) (n : Node)
    (hnode : nodeAt g.erase ip = some n) (hnp : n.isPass = false) (part : Part)
    (hpart : part = .stopAt ip ∨ part = .resumeAt ip) (out : List Entry)
    (hrun : runWP gen genK genR par part g opts = .ok out) : ∃ e ∈ out, e.path = ip := by
  obtain ⟨log, es, -, hes, rfl⟩ := runWP_ok.mp hrun
  obtain ⟨e, he, hp⟩ := runNodesWP_point par g part [] _ opts log es hes ip n hpart hnode hnp
  exact ⟨e, List.mem_cons_of_mem _ he, by simpa using hp⟩

/-- **resume_no_leak.**  Over any sequence of calls – ordinary, interrupted, resuming – that share
    Option values and the checkpoint store: each call's outcome is `runWP` of ITS OWN graph and
    options, on the part the sequence determines (`callsSpec`: a resuming call resumes where the
    last accepted interrupted call stopped, else runs from START); nothing else of an earlier
    call – its options, its callbacks – enters, and the caller's Option values are unchanged. -/
theorem resume_no_leak (saved : Option Path) (store : List Opt) (cs : List CallP) :
    runCallsWP gen genK genR saved store cs = (callsSpec gen genK genR store saved cs, store) :=
  runCallsWP_copies gen_C cs saved store

/-! ## option value lists as Go slices (Model/C16Slices.lean)

  `WithLambdaOption(vals...)` keeps the caller's slice: the value list of an Option can have
  spare capacity, and Options derived from one base (`DesignateNode` on the value receiver)
  share one backing array.  `runSW` tells the run with Go's slice semantics on one heap: the
  lists of `optMap` are slice headers, `append` writes in place within capacity, a node body
  reads the cells when it runs, nested graphs extract when their node runs.  With the
  regenerated fact (every list of `optMap` grows by `append` from the map's own slot) none of
  that is observable. -/

/-- Source fact tie: the regenerated fact is the one the oracle runs with. -/
theorem slice_facts_match : genV = Expected.C16.sliceFacts := by decide

theorem gen_V : genV.valsGrowFromMapSlot = true := by decide

/-- **capacity_and_sharing_irrelevant.**  For every heap of backing arrays and every list of
    Options whose value slices point into it – any lengths, any spare capacity, any number of
    Options sharing an array –, every growth rule of `append`, every paradigm, every tree (any
    keys) and every kind of call (fresh, interrupted, resuming): the call run with slice
    semantics has the outcome of the pure `runWP` on the Options as they read when the call
    starts – for a call from START to END that is `run`, the subject of `option_reaches_iff`,
    `designation_errors_iff`, `callbacks_reach_iff` –, and every array that existed before the
    call has all its cells unchanged afterwards. -/
theorem capacity_and_sharing_irrelevant (grow : Nat → Nat → Nat) (par : Paradigm) (part : Part)
    (g : WNodes) (opts : List SOpt) (h : VHeap) (hb : ∀ o ∈ opts, o.vh.arr < h.next) :
    (runSW gen genK genR genV grow par part g opts h).2
      = runWP gen genK genR par part g (opts.map (SOpt.abs h)) ∧
    (part = .full → (runSW gen genK genR genV grow par part g opts h).2
      = run gen g.erase (opts.map (SOpt.abs h))) ∧
    Frame h (runSW gen genK genR genV grow par part g opts h).1 := by
  have := runSW_refines (F := gen) (K := genK) (R := genR) gen_V grow par part g opts h hb
  refine ⟨this.2, ?_, this.1⟩
  intro hp
  rw [this.2, hp, fresh_call_is_run]

/-- **caller_arrays_never_written.**  After the call the caller finds in the backing array of
    each of its Options – the elements and the spare cells behind them, `[0, cap)` – what was
    there before. -/
theorem caller_arrays_never_written (grow : Nat → Nat → Nat) (par : Paradigm) (part : Part) (g : WNodes)
    (opts : List SOpt) (h : VHeap) (hb : ∀ o ∈ opts, o.vh.arr < h.next) (o : SOpt) (ho : o ∈ opts) :
    (runSW gen genK genR genV grow par part g opts h).1.cells o.vh = h.cells o.vh := by
  have hf := (capacity_and_sharing_irrelevant grow par part g opts h hb).2.2
  unfold VHeap.cells
  exact List.map_congr_left (fun i _ => hf.2 _ i (hb o ho))

/-- `option_reaches_iff` for the run with slice semantics: the component at `p` receives `v`
    iff `v` is an element (`[0, len)`) of an Option of the call that has the node's type and is
    undesignated or designated to a prefix of `p` – whatever else shares that Option's array,
    whatever capacity it has, whichever other Options address the same node. -/
theorem sliced_option_reaches_iff (grow : Nat → Nat → Nat) (par : Paradigm) (g : WNodes)
    (hwf : g.erase.wf = true) (opts : List SOpt) (h : VHeap) (hb : ∀ o ∈ opts, o.vh.arr < h.next)
    (out : List Entry) (hrun : (runSW gen genK genR genV grow par .full g opts h).2 = .ok out)
    (p : Path) (k : Key) (ty : Nat) (hnode : nodeAt g.erase p = some (.comp k ty)) :
    (∃ e ∈ out, e.path = p) ∧
    ∀ e ∈ out, e.path = p → ∀ v, v ∈ e.vals ↔
      ∃ o ∈ opts, v ∈ h.read o.vh ∧ ty = o.ty ∧
        (o.paths = [] ∨ ∃ q ∈ o.paths, q ≠ [] ∧ q <+: p) := by
  rw [(capacity_and_sharing_irrelevant grow par .full g opts h hb).2.1 rfl] at hrun
  have := option_reaches_iff g.erase hwf _ out hrun p k ty hnode
  refine ⟨this.1, fun e he hp v => ?_⟩
  rw [this.2 e he hp v]
  constructor
  · rintro ⟨o', ho', hv, hty, hc⟩
    obtain ⟨o, ho, rfl⟩ := List.mem_map.mp ho'
    exact ⟨o, ho, hv, hty, hc⟩
  · rintro ⟨o, ho, hv, hty, hc⟩
    exact ⟨o.abs h, List.mem_map_of_mem ho, hv, hty, hc⟩

/-- **sliced_no_leak.**  For every construction of the caller's store (fresh Options over value
    lists with any spare capacity, Options derived from earlier ones and sharing their arrays)
    and every sequence of calls over it (any graphs, keys, paradigms, index sets; ordinary,
    interrupted and resuming calls): each call's outcome is the pure one (`callsSpec`: `runWP` of
    its own graph and of the Option values the construction *means* – `specStore`: no capacities
    in it –; for a sequence of ordinary calls: `run`), the caller's Option values are the same
    afterwards, and so is every cell – spare ones included – of every array the construction made. -/
theorem sliced_no_leak (grow : Nat → Nat → Nat) (ops : List StoreOp) (hwf : storeOpsWf ops 0 = true)
    (cs : List CallP) :
    let b := buildStore ops (VHeap.empty, [])
    let r := runCallsSW gen genK genR genV grow none b.1 b.2 cs
    r.1 = callsSpec gen genK genR (specStore ops) none cs ∧
    ((∀ c ∈ cs, c.ask = .plain) →
      r.1 = cs.map (fun c => run gen c.g.erase (pick (specStore ops) c.ixs))) ∧
    r.2.1 = b.2 ∧ (∀ o ∈ b.2, r.2.2.cells o.vh = b.1.cells o.vh) := by
  intro b r
  obtain ⟨hb, hspec⟩ := buildStore_empty ops hwf
  have := runCallsSW_refines (F := gen) (K := genK) (R := genR) gen_C gen_V grow cs none b.1 b.2 hb
  have h1 : r.1 = callsSpec gen genK genR (specStore ops) none cs := by
    show (runCallsSW gen genK genR genV grow none b.1 b.2 cs).1 = _
    rw [this.1, hspec]
  refine ⟨h1, ?_, this.2.1, ?_⟩
  · intro hplain
    rw [h1, callsSpec_plain genR _ cs none hplain]
    exact List.map_congr_left (fun c _ => keys_and_paradigm_irrelevant c.par c.g _)
  · intro o ho
    unfold VHeap.cells
    exact List.map_congr_left (fun i _ => this.2.2.2 _ i (hb o ho))

/-! ## non-vacuity

  The longer test vectors from here on use `decide +kernel`: the kernel evaluates the decision procedure
  (no axiom) without the elaborator evaluating it first, which is several times slower. -/

example : specPaths [.base, .designate 0 [["a"]], .designate 1 [["b"]], .designate 2 [["c"]],
      .designate 3 [["d"]], .designate 3 [["sub", "e"], ["f"]]]
    = [[], [["a"]], [["a"], ["b"]], [["a"], ["b"], ["c"]], [["a"], ["b"], ["c"], ["d"]],
       [["a"], ["b"], ["c"], ["sub", "e"], ["f"]]] := by decide


deriving instance DecidableEq for Except

/-- a ⟶ b ⟶ p(passthrough) ⟶ sub[ a ⟶ in[ a ⟶ m ] ]; keys reused across levels -/
def exG : Nodes :=
  .cons (.comp "a" 1) <| .cons (.comp "b" 2) <| .cons (.pass "p") <|
  .cons (.graph "sub" (.cons (.comp "a" 1) <| .cons (.graph "in" (.cons (.comp "a" 1) <| .cons (.comp "m" 0) .nil)) .nil)) .nil

def exOpts : List Opt :=
  [ { ty := 1, vals := [10, 11], handlers := [], paths := [] },
    { ty := 1, vals := [20], handlers := [], paths := [["sub", "in"]] },
    { ty := 2, vals := [30], handlers := [], paths := [["b"]] },
    { ty := 0, vals := [], handlers := [7], paths := [["sub"]] },
    { ty := 0, vals := [], handlers := [8], paths := [] } ]

example : exG.wf = true := by decide
example : nodeAt exG ["sub", "in", "a"] = some (.comp "a" 1) := by decide
example : run Expected.C16.facts exG exOpts = .ok
    [ ⟨[], true, [], [8]⟩, ⟨["a"], false, [10, 11], [8]⟩, ⟨["b"], false, [30], [8]⟩,
      ⟨["sub"], true, [], [8, 7]⟩, ⟨["sub", "a"], false, [10, 11], [8, 7]⟩,
      ⟨["sub", "in"], true, [], [8, 7]⟩, ⟨["sub", "in", "a"], false, [10, 11, 20], [8, 7]⟩,
      ⟨["sub", "in", "m"], false, [], [8, 7]⟩ ] := by decide +kernel
example : run Expected.C16.facts exG [{ ty := 1, vals := [1], handlers := [], paths := [["sub", "in", "zz"]] }]
    = .error (["sub", "in"], .unknownNode) := by decide
example : run Expected.C16.facts exG [{ ty := 1, vals := [1], handlers := [], paths := [["sub", "in", "m"]] }]
    = .error (["sub", "in"], .wrongType) := by decide
example : run Expected.C16.facts exG [{ ty := 1, vals := [1], handlers := [], paths := [["p", "x"]] }]
    = .error ([], .subPathOfComponent) := by decide

/-! ## the other values of the facts -/

/-- With the guard `optionType != nil` alone (no `|| isPassthrough`), a path below a
    passthrough node is **not** rejected: the call runs and the option is dropped. -/
theorem below_passthrough_accepted_without_guard :
    (run { Expected.C16.facts with passSubPathIsError := false } exG
      [{ ty := 1, vals := [1], handlers := [], paths := [["p", "x"]] }]).isOk = true := by decide

/-- If the Option handed to a sub-graph aliased the caller's value instead of being a deep
    copy, a second call with the same Option value would see the rewritten path and fail. -/
theorem leak_without_copy :
    (runCalls { Expected.C16.facts with nestedCopies := false }
      [{ ty := 1, vals := [1], handlers := [], paths := [["sub", "in"]] }]
      [⟨exG, [0]⟩, ⟨exG, [0]⟩]).1.map (fun r => match r with | .ok _ => true | .error _ => false)
      = [true, false] := by decide

/-- With `o.paths = append(o.paths, path...)` on the value receiver (no copy), two Options
    derived from one base whose `paths` has spare capacity share a cell: deriving the second
    rewrites the first (base = a,b,c with cap 4; `o1 = base+d`, `o2 = base+e` ⇒ o1 = a,b,c,e). -/
theorem designate_in_place_aliases :
    builtPaths false goGrow [.base, .designate 0 [["a"]], .designate 1 [["b"]],
        .designate 2 [["c"]], .designate 3 [["d"]], .designate 3 [["e"]]]
      = [[], [["a"]], [["a"], ["b"]], [["a"], ["b"], ["c"]], [["a"], ["b"], ["c"], ["e"]],
         [["a"], ["b"], ["c"], ["e"]]] := by decide

/-- Without the type test an option reaches nodes of another type. -/
theorem wrong_type_reaches_without_test :
    run { Expected.C16.facts with typeCmpIdentity := false } (.cons (.comp "b" 2) .nil)
      [{ ty := 1, vals := [1], handlers := [], paths := [] }]
      = .ok [⟨[], true, [], []⟩, ⟨["b"], false, [1], []⟩] := by decide

/-- a (`opts ...any`) ⟶ m (chat model: option type 5) ⟶ sub[ i (`opts ...tyIface`) ⟶ t (option type 9) ] -/
def exIface : Nodes :=
  .cons (.comp "a" tyAny) <| .cons (.comp "m" 5) <|
  .cons (.graph "sub" (.cons (.comp "i" tyIface) <| .cons (.comp "t" tyImpl) .nil)) .nil

/-- identity of types: the interface-typed lambdas are called without options, whatever is
    sent; designating one of them is an error -/
example : run Expected.C16.facts exIface
      [{ ty := 5, vals := [1, 2], handlers := [], paths := [] },
       { ty := tyImpl, vals := [3], handlers := [], paths := [] }]
    = .ok [⟨[], true, [], []⟩, ⟨["a"], false, [], []⟩, ⟨["m"], false, [1, 2], []⟩,
           ⟨["sub"], true, [], []⟩, ⟨["sub", "i"], false, [], []⟩, ⟨["sub", "t"], false, [3], []⟩] ∧
    run Expected.C16.facts exIface [{ ty := 5, vals := [1], handlers := [], paths := [["a"]] }]
      = .error ([], .wrongType) ∧
    run Expected.C16.facts exIface [{ ty := tyImpl, vals := [1], handlers := [], paths := [["sub", "i"]] }]
      = .error (["sub"], .wrongType) := by decide

/-- With the test relaxed to "identical, or the node's option type is an interface the value
    implements", a chat-model option also reaches the `any`-typed lambda, an option of the
    implementing type also reaches the interface-typed lambda in the nested graph, and the
    wrong-type designation is accepted: `interface_typed_node_gets_nothing` and
    `designating_interface_typed_node_is_error` are false for that value of the fact. -/
theorem options_leak_into_interface_typed_nodes_when_test_relaxed :
    let F := { Expected.C16.facts with typeCmpImplements := true }
    run F exIface
      [{ ty := 5, vals := [1, 2], handlers := [], paths := [] },
       { ty := tyImpl, vals := [3], handlers := [], paths := [] }]
    = .ok [⟨[], true, [], []⟩, ⟨["a"], false, [1, 2, 3], []⟩, ⟨["m"], false, [1, 2], []⟩,
           ⟨["sub"], true, [], []⟩, ⟨["sub", "i"], false, [3], []⟩, ⟨["sub", "t"], false, [3], []⟩] ∧
    run F exIface [{ ty := 5, vals := [1], handlers := [], paths := [["a"]] }]
      = .ok [⟨[], true, [], []⟩, ⟨["a"], false, [1], []⟩, ⟨["m"], false, [], []⟩,
             ⟨["sub"], true, [], []⟩, ⟨["sub", "i"], false, [], []⟩, ⟨["sub", "t"], false, [], []⟩] := by
  decide

/-- a ⟶ k (input key "in") ⟶ sub (input key "in")[ a ⟶ in[ a ] ] ⟶ o (output key "out") -/
def exKeyed : WNodes :=
  .cons (.comp "a" 1 Wrap.plain) <| .cons (.comp "k" 1 ⟨some "in", none⟩) <|
  .cons (.graph "sub" (.cons (.comp "a" 1 Wrap.plain) <|
      .cons (.graph "in" (.cons (.comp "a" 1 Wrap.plain) .nil) Wrap.plain) .nil) ⟨some "in", none⟩) <|
  .cons (.comp "o" 1 ⟨none, some "out"⟩) .nil

def exKeyedOpts : List Opt :=
  [ { ty := 1, vals := [10], handlers := [], paths := [] },
    { ty := 1, vals := [20], handlers := [], paths := [["k"], ["sub", "in", "a"]] },
    { ty := 0, vals := [], handlers := [7], paths := [["sub", "in"]] } ]

example : exKeyed.erase.wf = true := by decide
example : ∀ par ∈ [Paradigm.invoke, .stream, .collect, .transform],
    runW Expected.C16.facts Expected.C16.keyFacts par exKeyed exKeyedOpts = .ok
      [ ⟨[], true, [], []⟩, ⟨["a"], false, [10], []⟩, ⟨["k"], false, [10, 20], []⟩,
        ⟨["sub"], true, [], []⟩, ⟨["sub", "a"], false, [10], []⟩, ⟨["sub", "in"], true, [], [7]⟩,
        ⟨["sub", "in", "a"], false, [10, 20], [7]⟩, ⟨["o"], false, [10], []⟩ ] := by decide +kernel
example : runW Expected.C16.facts Expected.C16.keyFacts .stream exKeyed
      [{ ty := 1, vals := [1], handlers := [], paths := [["sub", "zz"]] }]
    = .error (["sub"], .unknownNode) := by decide

/-- If the transform closure of the input-key wrapper did not pass the option list on (the
    invoke closure does), then on the stream path – `Stream`, `Collect`, `Transform`; `Invoke`
    is as before – an input-keyed lambda is called without its undesignated and designated
    options, no option, no designated callback reaches the nodes of an input-keyed sub-graph,
    and an unknown node designated below it is no longer an error:
    `keys_and_paradigm_irrelevant` is false for that value of the fact. -/
theorem input_key_drops_options_on_stream_path_when_not_forwarded :
    let K := { Expected.C16.keyFacts with inKeyFwdTransform := false }
    (∀ par ∈ [Paradigm.stream, .collect, .transform],
      runW Expected.C16.facts K par exKeyed exKeyedOpts = .ok
        [ ⟨[], true, [], []⟩, ⟨["a"], false, [10], []⟩, ⟨["k"], false, [], []⟩,
          ⟨["sub"], true, [], []⟩, ⟨["sub", "a"], false, [], []⟩, ⟨["sub", "in"], true, [], []⟩,
          ⟨["sub", "in", "a"], false, [], []⟩, ⟨["o"], false, [10], []⟩ ] ∧
      (runW Expected.C16.facts K par exKeyed
        [{ ty := 1, vals := [1], handlers := [], paths := [["sub", "zz"]] }]).isOk = true) ∧
    runW Expected.C16.facts K .invoke exKeyed exKeyedOpts
      = run Expected.C16.facts exKeyed.erase exKeyedOpts := by
  decide +kernel

def valsAt : Except RunErr (List Entry) → List (Path × List Nat)
  | .ok es => (es.filter (fun e => !e.isGraph)).map (fun e => (e.path, e.vals))
  | .error _ => []

/-- the caller's arrays (cells `[0, cap)`) after one `Invoke` of `g` with the whole store -/
def afterOneCall (V : SliceFacts) (g : WNodes) (ops : List StoreOp) :
    List (Path × List Nat) × List (List Nat) :=
  let b := buildStore ops (VHeap.empty, [])
  let r := runSW Expected.C16.facts Expected.C16.keyFacts Expected.C16.resumeFacts V goGrowAny .invoke .full g b.2 b.1
  (valsAt r.2, b.2.map (fun o => r.1.cells o.vh))

/-- a ⟶ b, two lambdas of option type 1 -/
def exTwo : WNodes := .cons (.comp "a" 1 Wrap.plain) <| .cons (.comp "b" 1 Wrap.plain) .nil
/-- sub[ a ] ⟶ t -/
def exNested : WNodes :=
  .cons (.graph "sub" (.cons (.comp "a" 1 Wrap.plain) .nil) Wrap.plain) <| .cons (.comp "t" 1 Wrap.plain) .nil

/-- an undesignated Option over a value list with one spare cell, then one Option per node -/
def exCommon : List StoreOp :=
  [.fresh 1 [1] 1 [] [], .fresh 1 [2] 0 [] [["a"]], .fresh 1 [3] 0 [] [["b"]]]
/-- one base (two spare cells) designated to `a` and to `b` (two derived Options sharing its
    array; the base itself is not passed), then one more Option per node -/
def exSiblings : List StoreOp :=
  [.fresh 1 [1] 2 [] [["zz"]], .derived 0 [["a"]], .derived 0 [["b"]],
   .fresh 1 [2] 0 [] [["a"]], .fresh 1 [3] 0 [] [["b"]]]

example : storeOpsWf exCommon 0 = true ∧ storeOpsWf exSiblings 0 = true := by decide
example : specStore exCommon = [⟨1, [1], [], []⟩, ⟨1, [2], [], [["a"]]⟩, ⟨1, [3], [], [["b"]]⟩] := by decide
example : afterOneCall Expected.C16.sliceFacts exTwo exCommon
    = ([(["a"], [1, 2]), (["b"], [1, 3])], [[1, 0], [2], [3]]) := by decide
example : afterOneCall Expected.C16.sliceFacts exNested
      [.fresh 1 [1] 1 [] [], .fresh 1 [2] 0 [] [["sub", "a"]], .fresh 1 [3] 0 [] [["t"]]]
    = ([(["sub", "a"], [1, 2]), (["t"], [1, 3])], [[1, 0], [2], [3]]) := by decide

/-- If a node's first list were the Option's own slice (`optMap[k] = opt.options`, `append` only
    from the second Option on), lists of different nodes would share the caller's array and
    write each other's cells: an Option designated to `b` is delivered to `a` instead of the one
    designated to `a` (shared undesignated Option; two Options derived from one base), a node
    later in the chain receives what was designated into a nested graph, and the call writes
    into the spare cells of the caller's array: `capacity_and_sharing_irrelevant`,
    `caller_arrays_never_written` and `sliced_option_reaches_iff` are false for that value of
    the fact.  Without spare capacity nothing of it shows. -/
theorem first_list_aliasing_misdelivers :
    let V : SliceFacts := { valsGrowFromMapSlot := false }
    afterOneCall V exTwo exCommon = ([(["a"], [1, 3]), (["b"], [1, 3])], [[1, 3], [2], [3]]) ∧
    (let st := (buildStore exSiblings (VHeap.empty, []))
     valsAt (runSW Expected.C16.facts Expected.C16.keyFacts Expected.C16.resumeFacts V goGrowAny .invoke .full exTwo (pickS st.2 [1, 2, 3, 4]) st.1).2)
      = [(["a"], [1, 3]), (["b"], [1, 3])] ∧
    afterOneCall V exNested
        [.fresh 1 [1] 1 [] [], .fresh 1 [2] 0 [] [["sub", "a"]], .fresh 1 [3] 0 [] [["t"]]]
      = ([(["sub", "a"], [1, 2]), (["t"], [1, 2])], [[1, 2], [2], [3]]) ∧
    afterOneCall V exTwo [.fresh 1 [1] 0 [] [], .fresh 1 [2] 0 [] [["a"]], .fresh 1 [3] 0 [] [["b"]]]
      = ([(["a"], [1, 2]), (["b"], [1, 3])], [[1], [2], [3]]) := by
  decide +kernel

/-- a ⟶ sub[ b ⟶ in[ w ⟶ y ] ⟶ c ] ⟶ d; `sub/in/w` is the node that interrupts -/
def exResume : WNodes :=
  .cons (.comp "a" 1 Wrap.plain) <|
  .cons (.graph "sub" (.cons (.comp "b" 1 Wrap.plain) <|
      .cons (.graph "in" (.cons (.comp "w" 1 Wrap.plain) <| .cons (.comp "y" 1 Wrap.plain) .nil) Wrap.plain) <|
      .cons (.comp "c" 1 Wrap.plain) .nil) Wrap.plain) <|
  .cons (.comp "d" 1 Wrap.plain) .nil

/-- the options of the resuming call -/
def exResumeOpts : List Opt :=
  [ { ty := 1, vals := [7], handlers := [], paths := [["sub", "in", "w"]] },
    { ty := 1, vals := [8], handlers := [], paths := [] },
    { ty := 0, vals := [], handlers := [3], paths := [["sub"]] },
    { ty := 0, vals := [], handlers := [4], paths := [["sub", "in"]] },
    { ty := 0, vals := [], handlers := [5], paths := [["a"]] },
    { ty := 0, vals := [], handlers := [6], paths := [] } ]

example : exResume.erase.wf = true := by decide
/-- the interrupted call (its own options: one undesignated value, one callback on `sub`) runs
    `a`, `sub`, `sub/b`, `sub/in`, `sub/in/w`; the resuming call – other options – runs `sub`,
    `sub/in`, `sub/in/w`, `sub/in/y`, `sub/c`, `d`, each with what a fresh call would give it; an
    unknown node designated inside `sub` is an error in the resuming call, one designated to `a`
    (which does not execute) only where the fresh call checks it too: at the top -/
example :
    runWP Expected.C16.facts Expected.C16.keyFacts Expected.C16.resumeFacts .invoke
        (.stopAt ["sub", "in", "w"]) exResume
        [⟨1, [1], [], []⟩, ⟨0, [], [2], [["sub"]]⟩]
      = .ok [⟨[], true, [], []⟩, ⟨["a"], false, [1], []⟩, ⟨["sub"], true, [], [2]⟩,
             ⟨["sub", "b"], false, [1], [2]⟩, ⟨["sub", "in"], true, [], [2]⟩,
             ⟨["sub", "in", "w"], false, [1], [2]⟩] ∧
    runWP Expected.C16.facts Expected.C16.keyFacts Expected.C16.resumeFacts .stream
        (.resumeAt ["sub", "in", "w"]) exResume exResumeOpts
      = .ok [⟨[], true, [], [6]⟩, ⟨["sub"], true, [], [6, 3]⟩, ⟨["sub", "in"], true, [], [6, 3, 4]⟩,
             ⟨["sub", "in", "w"], false, [7, 8], [6, 3, 4]⟩, ⟨["sub", "in", "y"], false, [8], [6, 3, 4]⟩,
             ⟨["sub", "c"], false, [8], [6, 3]⟩, ⟨["d"], false, [8], [6]⟩] ∧
    runWP Expected.C16.facts Expected.C16.keyFacts Expected.C16.resumeFacts .invoke
        (.resumeAt ["sub", "in", "w"]) exResume [⟨1, [1], [], [["sub", "zz"]]⟩]
      = .error (["sub"], .unknownNode) := by decide +kernel

/-- a sequence: a rejected interrupted call saves nothing, so the call that would resume runs
    from START; an accepted one is resumed -/
example :
    (callsSpec Expected.C16.facts Expected.C16.keyFacts Expected.C16.resumeFacts
        [⟨1, [1], [], [["zz"]]⟩, ⟨1, [2], [], []⟩] none
        [⟨exResume, [0], .invoke, .interruptAt ["sub", "in", "w"]⟩, ⟨exResume, [1], .invoke, .resume⟩,
         ⟨exResume, [1], .invoke, .interruptAt ["sub", "b"]⟩, ⟨exResume, [1], .collect, .resume⟩]).map valsAt
      = [[], [(["a"], [2]), (["sub", "b"], [2]), (["sub", "in", "w"], [2]), (["sub", "in", "y"], [2]),
              (["sub", "c"], [2]), (["d"], [2])],
         [(["a"], [2]), (["sub", "b"], [2])],
         [(["sub", "b"], [2]), (["sub", "in", "w"], [2]), (["sub", "in", "y"], [2]), (["sub", "c"], [2]),
          (["d"], [2])]] := by decide +kernel

/-- If the node callbacks were set up where tasks restored with `skipPreHandler` do not pass, then
    in the resuming call a handler designated to the restored nested-graph node (`["sub"]`, or
    one level down `["sub","in"]`) would be active neither for that graph nor for the nodes inside
    it, while designations to nodes that are new tasks of this call (`sub/in/w` – rerun –, and
    everything after the interrupt point) and undesignated handlers still work:
    `resumed_callbacks_reach_iff` is false for that value of the fact.  The interrupted call and
    fresh calls are unaffected. -/
theorem restored_graph_loses_designated_callbacks_when_init_is_skipped :
    let R : ResumeFacts := { restoredTaskGetsNodeCallbacks := false }
    runWP Expected.C16.facts Expected.C16.keyFacts R .invoke (.resumeAt ["sub", "in", "w"]) exResume
        (exResumeOpts ++ [{ ty := 0, vals := [], handlers := [9], paths := [["sub", "in", "w"], ["d"]] }])
      = .ok [⟨[], true, [], [6]⟩, ⟨["sub"], true, [], [6]⟩, ⟨["sub", "in"], true, [], [6]⟩,
             ⟨["sub", "in", "w"], false, [7, 8], [6, 9]⟩, ⟨["sub", "in", "y"], false, [8], [6]⟩,
             ⟨["sub", "c"], false, [8], [6]⟩, ⟨["d"], false, [8], [6, 9]⟩] ∧
    (∀ part ∈ [Part.full, .stopAt ["sub", "in", "w"]],
      runWP Expected.C16.facts Expected.C16.keyFacts R .invoke part exResume exResumeOpts
        = runWP Expected.C16.facts Expected.C16.keyFacts Expected.C16.resumeFacts .invoke part exResume exResumeOpts) := by
  decide +kernel

/-- Stripping two keys instead of one sends the option to the wrong level. -/
theorem strip_two_breaks :
    run { Expected.C16.facts with strip := 2 } exG
      [{ ty := 1, vals := [1], handlers := [], paths := [["sub", "in", "a"]] }]
      = .ok [ ⟨[], true, [], []⟩, ⟨["a"], false, [], []⟩, ⟨["b"], false, [], []⟩,
              ⟨["sub"], true, [], []⟩, ⟨["sub", "a"], false, [1], []⟩, ⟨["sub", "in"], true, [], []⟩,
              ⟨["sub", "in", "a"], false, [], []⟩, ⟨["sub", "in", "m"], false, [], []⟩ ] := by decide

/-! ### The translated `extractOption` (compose/utils.go → Gen/TransC16.lean)

  `extractOption`, `Option.deepCopy` and `NewNodePath` are re-translated from /repo on every run of this
  property; the theorems below say that the translated function computes the model's `extract` (the function
  every routing theorem of this file is about) for the regenerated fact values (`facts_match`), and never
  returns `.panic` / `.unspecified`.

  Design.  `Option` is a struct used by value (`GoOption`); `reflect.Type` is the opaque nil-able type `GoType`
  with `==` as type identity and `reflect.TypeOf` the external `cext.typeOf`; an element of a `[]any` is a
  value of the abstract type `V`, an `Option` appended to a `[]any` is wrapped by the external
  `cext.anyOfOption`; `opt.deepCopy()` is translated and proved to return an equal Option (`deepCopy_spec`).
  Relations: `NodesRel` — the Go map `nodes` *in its stored order* is the model's node list (this is where
  map order shows: the undesignated loop ranges over `nodes`, and the model's theorems hold for every node
  list); `OptRel` — values, handlers, paths, and the Option's type is `TypeOf` of its first value;
  `MapRel` — for every key, `optMap[key]` is, item by item, the model's sub-sequence of the log under that key
  (`ItemRel`: a component option value, or a wrapped Option related by `OptRel`).  Errors by class: the four
  `fmt.Errorf` format strings are `errFmt` of the model's `Err`. -/
section TranslatedExtract
open EinoV.GoSem EinoV.TransC16 EinoV.Gen.TransC16
variable {V : Type} [Inhabited V]

theorem translated_source_is_current : FactsC16.extractOptionTranslated = true := by decide

/-- `opt.deepCopy()`: a fresh Option with equal contents (never a panic) -/
theorem translated_deepCopy_refines (ext : Ext V) (cext : C16Ext V) (o : GoOption V) :
    Option_deepCopy ext cext o = .ret o :=
  deepCopy_spec ext cext o

/-- **`extractOption` refines `extract`**, for the fact values regenerated from the source -/
theorem translated_extractOption_refines (ext : Ext V) (cext : C16Ext V) (vOf hOf : Nat → V)
    (gn : GoMap (chanCall V)) (ns : Nodes) (hn : NodesRel gn ns)
    (gopts : List (GoOption V)) (opts : List Opt) (hrel : ListRel (OptRel cext vOf hOf) gopts opts) :
    match extract gen ns opts with
    | .ok log => ∃ m, extractOption ext cext gn gopts = .ret (m, none) ∧ MapRel cext vOf hOf m log
    | .error e => extractOption ext cext gn gopts = .ret ([], some (GoErr.mk (errFmt e))) := by
  rw [facts_match]
  exact extractOption_refines ext cext vOf hOf gn ns hn gopts opts hrel

/-- the translated function never leaves the translated semantics (no index out of range, no nil map) -/
theorem translated_extractOption_total (ext : Ext V) (cext : C16Ext V) (vOf hOf : Nat → V)
    (gn : GoMap (chanCall V)) (ns : Nodes) (hn : NodesRel gn ns)
    (gopts : List (GoOption V)) (opts : List Opt) (hrel : ListRel (OptRel cext vOf hOf) gopts opts) :
    ∃ res, extractOption ext cext gn gopts = .ret res :=
  extractOption_total ext cext vOf hOf gn ns hn gopts opts hrel

/-! non-vacuity: values are numbers, the type of a value is its last digit, a wrapped Option is 1000 + the
    number of its values + 100 × the number of its paths -/

def exExt : Ext Nat := { zeroValue := 0, emptyStream := 0, mergeValues := fun _ => (0, none) }
def exCext : C16Ext Nat :=
  { typeOf := fun v => some (v % 10), anyOfOption := fun g => 1000 + g.options.length + 100 * g.paths.length }
def exNodes : GoMap (chanCall Nat) :=
  [("a", { action := { optionType := some 3, isPassthrough := false } }),
   ("b", { action := { optionType := some 4, isPassthrough := false } }),
   ("sub", { action := { optionType := none, isPassthrough := false } }),
   ("p", { action := { optionType := none, isPassthrough := true } })]

example : NodesRel exNodes (.cons (.comp "a" 3) (.cons (.comp "b" 4) (.cons (.graph "sub" .nil) (.cons (.pass "p") .nil)))) := rfl

/-- an undesignated option of type 3 reaches `a` (by type) and, whole, the sub-graph and the passthrough;
    an option designated to `sub/x` is forwarded to `sub` with the stripped path -/
example : (match extractOption exExt exCext exNodes
      [{ options := [13, 23], handler := [], paths := [], maxRunSteps := 0 },
       { options := [14], handler := [], paths := [{ path := ["sub", "x"] }], maxRunSteps := 0 }] with
    | .ret r => r
    | _ => ([], none)) =
    ([("a", [13, 23]), ("sub", [1002, 1101]), ("p", [1002])], none) := by decide +kernel

/-- the four error classes -/
example : (match extractOption exExt exCext exNodes [{ options := [14], handler := [], paths := [{ path := [] }], maxRunSteps := 0 }] with
    | .ret r => r.2 | _ => none) = some (GoErr.mk (errFmt .emptyPath)) := by decide
example : (match extractOption exExt exCext exNodes [{ options := [14], handler := [], paths := [{ path := ["zz"] }], maxRunSteps := 0 }] with
    | .ret r => r.2 | _ => none) = some (GoErr.mk (errFmt .unknownNode)) := by decide
example : (match extractOption exExt exCext exNodes [{ options := [14], handler := [], paths := [{ path := ["a"] }], maxRunSteps := 0 }] with
    | .ret r => r.2 | _ => none) = some (GoErr.mk (errFmt .wrongType)) := by decide
example : (match extractOption exExt exCext exNodes [{ options := [14], handler := [], paths := [{ path := ["p", "x"] }], maxRunSteps := 0 }] with
    | .ret r => r.2 | _ => none) = some (GoErr.mk (errFmt .subPathOfComponent)) := by decide

end TranslatedExtract

end EinoV.C16
