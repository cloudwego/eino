/-
  C07 — A graph that compiles cannot hit a type mismatch between concretely typed nodes.
  Property theorems.  Models: EinoV/Model/C20Builder.lean (builder, shared with C20),
  EinoV/Model/C07.lean (run), EinoV/Model/C20Wf.lean + EinoV/Model/C07Wf.lean (Workflow
  declarations, their replay at Compile, DAG runs).  Source facts: EinoV/Gen/FactsC07.lean.
-/
import EinoV.Model.C20Builder
import EinoV.Model.C07
import EinoV.Model.C07Types
import EinoV.Model.C07Wf
import EinoV.Proofs.C07
import EinoV.Proofs.C07Wf
import EinoV.Proofs.C20Ends
import EinoV.Gen.FactsC07
import EinoV.Expected.C07

namespace EinoV.C07
open EinoV.Gen EinoV.Build

/-- model configuration read off the source (the guards and the compile facts belong to C20
    and are taken at their expected value here) -/
def srcFacts : Facts :=
  { Expected.C20.facts with
    branchGuarded := FactsC07.branchPassthroughGuarded,
    branchPropagates := FactsC07.branchPropagates }

/-- Source fact tie: addBranch types a pass-through start node only while its type is
    unknown and then runs the work list; checkAssignable is the decision list the model
    transcribes; updateToValidateMap infers only into unknown types; both `may` sites install
    the run-time converter; addBranch checks the condition type before it looks at `skipData`
    (the model's `addBranchBody` does: a Workflow branch is checked like any other). -/
theorem facts_match :
    srcFacts = Expected.C20.facts ∧
    FactsC07.checkAssignableShape = Expected.C07.checkAssignableShape ∧
    FactsC07.updateInferConds = Expected.C07.updateInferConds ∧
    FactsC07.branchMayInstallsConverter = true ∧ FactsC07.edgeMayInstallsConverter = true ∧
    FactsC07.branchCheckedWithoutData = true :=
  ⟨rfl, rfl, rfl, rfl, rfl, rfl⟩

/-- **assignable_table.** The three answers of `checkAssignable` agree with Go assignability
    of values: `must` ⇒ every value of the upstream type fits downstream; `may` is only
    answered for an interface upstream; between two concrete types the answer is `must` iff
    the types are equal, `mustNot` otherwise, and then no value fits. -/
theorem assignable_table (im : Impl) (ht : ImplTrans im) (A B : Ty) :
    (checkAssignable im (some A) (some B) = .must → ∀ d, dynOk im d A = true → dynOk im d B = true) ∧
    (checkAssignable im (some A) (some B) = .may → A.isIface = true) ∧
    (∀ a b, A = .conc a → B = .conc b →
      checkAssignable im (some A) (some B) = (if a = b then .must else .mustNot) ∧
      ∀ d, dynOk im d A = true → (dynOk im d B = true ↔ a = b)) := by
  refine ⟨fun h d hd => must_sound im ht A B h d hd, may_upstream_iface im A B, ?_⟩
  intro a b ha hb; subst ha; subst hb
  exact concrete_table im a b

/-- **eino_rule_within_go.** Whatever eino's rule declares assignable for sure is assignable
    in Go, for every description of the concrete types: the rule only ever asks for less
    than `reflect.Type.AssignableTo`. -/
theorem eino_rule_within_go (u : Univ) (im : Impl) (A B : Ty)
    (h : checkAssignable im (some A) (some B) = .must) : goAssignable u im A B = true := by
  rcases checkAssignable_must h with rfl | ⟨hi, hm⟩
  · cases B <;> simp [goAssignable, goAssignableConc]
  · cases A <;> cases B <;> simp_all [goAssignable, Ty.isIface]

/-- **relaxed_rule_unsound_exactly.** The converse fails, and exactly there the rule must not
    be relaxed: if the check answered "assignable for sure" whenever Go's `AssignableTo` holds
    (`relaxedCheck`), then between two concrete types it would accept a connection on which
    the receiving type assertion `v.(B)` fails – for *every* value of the upstream type – iff
    the types are distinct and Go-assignable: a defined type against the unnamed literal with
    the identical underlying type (either direction), or a bidirectional channel against a
    directional one.  (With eino's own rule, `assignable_table`: `must` ⇒ the assertion
    succeeds.) -/
theorem relaxed_rule_unsound_exactly (u : Univ) (im : Impl) (a b : Nat) :
    (relaxedCheck u im (some (.conc a)) (some (.conc b)) = .must ∧ dynOk im a (.conc b) = false) ↔
    (a ≠ b ∧ goAssignableConc u a b = true) := by
  have ht := (concrete_table im a b).1
  simp only [relaxedCheck, goAssignable, dynOk, ht]
  by_cases hab : a = b
  · subst hab; simp
  · have : (b == a) = false := by simp; exact fun h => hab h.symm
    simp [hab, this]

/-- **compiled_edges_sound.** For every sequence of public Graph-API calls (nodes with any
    types and handlers, AddEdge, AddBranch with any number of end nodes, Compile – in any
    order, failing calls included), every `implements` relation and every Go map iteration
    order: each runnable that a Compile hands out has all its data edges, all its branch
    conditions and all its branch → end-node connections validated – assignable for sure, or
    possibly assignable *with* the run-time converter installed. -/
theorem compiled_edges_sound (im : Impl) (ord : Ord) (hv : ord.Valid)
    (cmp : Cmp) (inT outT : Ty) (st : Option Nat) (ops : List Op)
    (hops : ∀ op ∈ ops, op.isGraphApi = true) :
    ∀ r ∈ (run srcFacts im ord (Builder.new cmp inT outT st) ops).2.2, SoundRunner im r :=
  run_runners_sound srcFacts (by decide) (by decide) im ord hv ops _ hops (Inv.new im cmp inT outT st)

/-- …in particular: a data edge of a compiled graph whose two declared types are both
    concrete connects equal types. -/
theorem compiled_concrete_edges_equal (im : Impl) (ord : Ord) (hv : ord.Valid)
    (cmp : Cmp) (inT outT : Ty) (st : Option Nat) (ops : List Op)
    (hops : ∀ op ∈ ops, op.isGraphApi = true)
    (r : Runner) (hr : r ∈ (run srcFacts im ord (Builder.new cmp inT outT st) ops).2.2)
    (s e : Key) (he : (s, e) ∈ r.dataEdges) (a b : Nat)
    (ha : r.outOf s = some (.conc a)) (hb : r.inOf e = some (.conc b)) : a = b :=
  ((compiled_edges_sound im ord hv cmp inT outT st ops hops r hr).edges (s, e) he).conc_eq ha hb

/-- **inference_order_free.**  Which calls are accepted – hence which graphs compile at all –
    does not depend on Go's map iteration orders (work list, branch end nodes, Kahn's
    counters): two runs of the same Graph-API call sequence under any two orders agree on the
    outcome class of every call.  (Proved once for C20 and C07: Proofs/C20Order, C20Ends.) -/
theorem inference_order_free (im : Impl) (ord ord' : Ord) (hv : ord.Valid) (hv' : ord'.Valid)
    (cmp : Cmp) (inT outT : Ty) (st : Option Nat) (ops : List Op)
    (hops : ∀ op ∈ ops, op.isGraphApi = true) :
    (run srcFacts im ord (Builder.new cmp inT outT st) ops).2.1.map Outcome.cls =
    (run srcFacts im ord' (Builder.new cmp inT outT st) ops).2.1.map Outcome.cls :=
  run_order_free srcFacts ⟨rfl, rfl, rfl⟩ (by decide) (by decide) (by decide) im ord ord' hv hv' ops _ _ hops
    (Or.inl ⟨Sim.refl _ rfl, Inv_new im cmp inT outT st, Inv_new im cmp inT outT st, KeysOK_new cmp inT outT st⟩)

/-- **run_no_type_panic.** No run of such a runnable – whatever the node bodies return
    (within their declared output types), whatever the branch conditions choose, whatever the
    dynamic type of the input – reaches a failing `input.(T)` assertion of a node, a state
    handler, a branch condition or the final output conversion. -/
theorem run_no_type_panic (im : Impl) (ht : ImplTrans im) (ord : Ord) (hv : ord.Valid)
    (cmp : Cmp) (inT outT : Ty) (st : Option Nat) (ops : List Op)
    (hops : ∀ op ∈ ops, op.isGraphApi = true)
    (r : Runner) (hr : r ∈ (run srcFacts im ord (Builder.new cmp inT outT st) ops).2.2)
    (c : Code) (hc : CodeOk im r c) (fuel : Nat) (d0 : Dyn) (hd : dynOk im d0 r.inT = true) :
    runGraph im r c fuel d0 ≠ .panic :=
  runGraph_no_panic ht (compiled_edges_sound im ord hv cmp inT outT st ops hops r hr) hc fuel d0 hd

/-- **may_edge_errors_iff.** On a data edge of such a runnable, a value that fits the
    upstream type makes the framework report an ordinary error exactly when the upstream type
    is an interface and the value's dynamic type is not assignable to the downstream type. -/
theorem may_edge_errors_iff (im : Impl) (ht : ImplTrans im) (ord : Ord) (hv : ord.Valid)
    (cmp : Cmp) (inT outT : Ty) (st : Option Nat) (ops : List Op)
    (hops : ∀ op ∈ ops, op.isGraphApi = true)
    (r : Runner) (hr : r ∈ (run srcFacts im ord (Builder.new cmp inT outT st) ops).2.2)
    (s e : Key) (he : (s, e) ∈ r.dataEdges) (A B : Ty) (ho : r.outOf s = some A) (hi : r.inOf e = some B)
    (d : Dyn) (hd : dynOk im d A = true) :
    convert im r s e d = .typeErr ↔ (A.isIface = true ∧ dynOk im d B = false) :=
  convert_typeErr_iff ht ((compiled_edges_sound im ord hv cmp inT outT st ops hops r hr).edges (s, e) he) ho hi hd

/-- the relation of the harness menu: c3 implements i0 and i1, c4 implements i0, i1 ⊇ i0 -/
def menuImpl : Impl := [(.conc 3, 0), (.conc 3, 1), (.conc 4, 0), (.iface 1, 0)]

theorem menuImpl_trans : ImplTrans menuImpl := by
  intro t u v hu h1 h2
  cases v with
  | any => rfl
  | conc c => simp [implements] at h2
  | iface j =>
    cases u with
    | conc c => simp [Ty.isIface] at hu
    | any =>
      simp [implements, menuImpl] at h2
    | iface i =>
      simp only [implements, menuImpl, Bool.or_eq_true, beq_iff_eq, List.contains_eq_mem,
        List.mem_cons, Prod.mk.injEq, List.mem_nil_iff, or_false, decide_eq_true_eq] at h1 h2 ⊢
      rcases h2 with h2 | h2
      · cases h2; exact h1
      · rcases h2 with ⟨h2, rfl⟩ | ⟨h2, rfl⟩ | ⟨h2, rfl⟩ | ⟨h2, rfl⟩
        all_goals first | (simp at h2; done) | skip
        -- u = iface 1, v = iface 0
        cases h2
        rcases h1 with h1 | h1
        · subst h1; simp
        · rcases h1 with ⟨rfl, h⟩ | ⟨rfl, h⟩ | ⟨rfl, h⟩ | ⟨rfl, h⟩ <;> simp_all

def lam (k : Key) (i o : Ty) : Op :=
  .node { key := k, passthrough := false, inTy := i, outTy := o, pre := none, post := none, nodeKeyOpt := false }
def pt (k : Key) : Op :=
  .node { key := k, passthrough := true, inTy := .any, outTy := .any, pre := none, post := none, nodeKeyOpt := false }
def edge (s e : Key) : Op := .edge s e false false none
def copts : COpts := { trigger := .unset, maxSteps := 0, getState := false }

/-- a(any→any) → p (pass-through, inferred any) → b(i0→c0): the edge p→b is a `may` edge;
    the graph compiles; a value implementing i0 runs through, another one is an ordinary error -/
def exOps : List Op :=
  [lam "a" .any .any, pt "p", lam "b" (.iface 0) (.conc 0),
   edge START "a", edge "a" "p", edge "p" "b", edge "b" END, .compile copts]

def exCode (ret : Dyn) : Code := { body := fun k _ => if k = "a" then ret else 0, pick := fun _ _ _ => END }

example : (run srcFacts menuImpl Ord.id (Builder.new .graph .any (.conc 0) none) exOps).2.1
    = [.ok, .ok, .ok, .ok, .ok, .ok, .ok, .ok] := by decide

example : (run srcFacts menuImpl Ord.id (Builder.new .graph .any (.conc 0) none) exOps).2.2.map
      (fun r => (runGraph menuImpl r (exCode 3) 20 1, runGraph menuImpl r (exCode 1) 20 1))
    = [(.ok, .typeErr)] := by decide

example : ∀ op ∈ exOps, op.isGraphApi = true := by decide

-- The longest runs below are decided with `+kernel`: the kernel evaluates the `Decidable` instance
-- directly; plain `decide` first evaluates it in the elaborator as well, which is slow for them.
/-- the defect of the unfixed source: with the unguarded assignment in addBranch,
    a(c0→c0) → p, then a branch on p with an int (c1) condition: the graph compiles and the
    run panics in the branch's type assertion -/
theorem unguarded_branch_panics :
    let f := { Expected.C20.facts with branchGuarded := false }
    let ops := [lam "a" (.conc 0) (.conc 0), lam "b" (.conc 1) (.conc 0), lam "c" (.conc 1) (.conc 0), pt "p",
      edge START "a", edge "a" "p", .branch "p" (.conc 1) ["b", "c"] false, edge "b" END, edge "c" END,
      .compile copts]
    let st := run f menuImpl Ord.id (Builder.new .graph (.conc 0) (.conc 0) none) ops
    st.2.1 = [.ok, .ok, .ok, .ok, .ok, .ok, .ok, .ok, .ok, .ok] ∧
    st.2.2.map (fun r => runGraph menuImpl r { body := fun _ _ => 0, pick := fun _ _ _ => "b" } 20 0) = [.panic] := by
  decide +kernel

/-- with the guard the same AddBranch call is refused -/
theorem guarded_branch_rejected :
    (run Expected.C20.facts menuImpl Ord.id (Builder.new .graph (.conc 0) (.conc 0) none)
      [lam "a" (.conc 0) (.conc 0), pt "p", edge START "a", edge "a" "p",
       .branch "p" (.conc 1) ["b", "c"] false]).2.1
    = [.ok, .ok, .ok, .ok, .fresh .branchMismatch] := by decide

def revOrd : Ord := { Ord.id with keys := fun _ l => l.reverse }

/-- second defect: when addBranch does not run the work list after typing a pass-through
    start node (zero end nodes), the result of the same call sequence depends on Go's map
    iteration order: one order installs the converter (ordinary error), the other leaves the
    edge unchecked and the run panics -/
theorem unpropagated_branch_order_dependent :
    let f := { Expected.C20.facts with branchPropagates := false }
    let ops := [pt "p", pt "e1", pt "e2", edge "p" "e1", edge "p" "e2",
      .branch "e1" (.conc 0) [] false, .branch "e2" .any [] false,
      edge START "p", edge "e2" END, .compile copts]
    let go (o : Ord) := (run f menuImpl o (Builder.new .graph .any .any none) ops).2.2.map
      (fun r => runGraph menuImpl r { body := fun _ d => d, pick := fun _ _ _ => "" } 20 1)
    go Ord.id = [.panic] ∧ go revOrd = [.typeErr] := by
  decide +kernel

/-- what a Workflow is evaluated with: the facts read off the source, either placement of the
    entry / exit bookkeeping, any `implements` relation, any map iteration order -/
def wfEnv (inCtl : Bool) (im : Impl) (ord : Ord) : Env := { f := srcFacts, inCtl, im, ord }

/-- **workflow_branch_mismatch_rejected.** The compile-time clause for branch conditions does
    not depend on whether the branch carries data: when `checkAssignable` says that the
    condition's input type can never take what the start node produces (in particular: two
    different concrete types), `addBranch` refuses the branch – for a Graph / Chain branch
    (`skipData = false`) and for the branch of a Workflow (`skipData = true`, replayed by
    `Workflow.compile`) alike, and with the same error. -/
theorem workflow_branch_mismatch_rejected (im : Impl) (ord : Ord) (b : Builder) (s : Key) (t : Ty)
    (ends : List Key)
    (hmis : checkAssignable im ((branchStartTyped srcFacts b s t).nodeOut s) (some t) = .mustNot) :
    (∀ skip, (addBranch srcFacts im ord b s t ends skip).2 ≠ .ok) ∧
    (b.buildError = none → b.compiled = false → s ≠ END → (b.hasNode s = true ∨ s = START) →
      ends.length ≠ 1 → ∀ skip, (addBranch srcFacts im ord b s t ends skip).2 = .fresh .branchMismatch) := by
  constructor
  · intro skip hok
    obtain ⟨b', hb⟩ := guarded_ok hok
    exact (addBranchBody_ok hb).2.2.2.1 hmis
  · intro hbe hcomp h1 hn h3 skip
    have h2 : ¬ (!b.hasNode s && s != START) = true := by
      rcases hn with hn | hn <;> simp [hn]
    exact addBranch_refused hbe hcomp
      ((addBranchBody_mismatch_iff srcFacts im ord b s t ends skip).mpr ⟨h1, h2, h3, hmis⟩)

/-- between two concrete types the check of the previous theorem is the identity test: a
    Workflow branch whose condition is declared on `conc c` while its start node is declared
    to produce `conc a ≠ conc c` is refused. -/
theorem workflow_concrete_branch_rejected (im : Impl) (ord : Ord) (b : Builder) (s : Key) (a c : Nat)
    (ends : List Key) (hne : a ≠ c) (hout : (branchStartTyped srcFacts b s (.conc c)).nodeOut s = some (.conc a)) :
    (addBranch srcFacts im ord b s (.conc c) ends true).2 ≠ .ok := by
  apply (workflow_branch_mismatch_rejected im ord b s (.conc c) ends ?_).1 true
  rw [hout, (concrete_table im a c).1]
  simp [hne]

/-- **workflow_compiled_sound.** For every Workflow – nodes with any types, AddInput,
    AddDependency, data-only inputs, branches with any end nodes, inputs of END, in any order;
    no field mappings, no sub-graph nodes looked into – every `implements` relation and every Go
    map iteration order: the runnable its Compile hands out has all data connections and all
    branch conditions validated – assignable for sure, or possibly assignable *with* the
    run-time check installed. -/
theorem workflow_compiled_sound (inCtl ec : Bool) (im : Impl) (ord : Ord) (hv : ord.Valid)
    (d : WfDecl) (hu : d.unmapped = true) (co : COpts) (w : WRunner)
    (h : (wfCompile (wfEnv inCtl im ord) ec d co).2 = some w) : SoundRunner im w.r :=
  wfCompile_sound (wfEnv inCtl im ord) (show srcFacts.branchGuarded = true by decide)
    (show srcFacts.branchPropagates = true by decide) hv ec d hu co w h

/-- …and what `wfCompile` answers is what the declaration layer of C20 answers for the first
    Compile of the lowered Workflow (`WfDecl.lower`: branches replayed with `skipData`, then the
    recorded inputs). -/
theorem workflow_compile_is_lowering (E : Env) (ec : Bool) (d : WfDecl) (co : COpts) (hp : d.plain = true) :
    (wfCompile E ec d co).1 = Decl.first E (d.lower ec) co := by
  unfold WfDecl.plain at hp
  unfold WfDecl.lower Decl.first wfCompile attempt
  simp only [build_plain E d.nodes _ hp, compileN_nil]
  rcases hbe : (runK E (Builder.new Cmp.workflow d.inT d.outT d.stateTy) (plainOps d.nodes)).buildError with _ | k
  · rcases hgd : WfDecl.guard ec d with _ | oc
    · simp only
    · simp only
  · simp only

/-- a branch condition of a compiled Workflow whose type and whose start node's output type
    are both concrete is declared on that very type. -/
theorem workflow_concrete_branch_equal (inCtl ec : Bool) (im : Impl) (ord : Ord) (hv : ord.Valid)
    (d : WfDecl) (hu : d.unmapped = true) (co : COpts) (w : WRunner)
    (h : (wfCompile (wfEnv inCtl im ord) ec d co).2 = some w)
    (p : Nat × BranchRec × Bool) (hp : p ∈ w.r.branchTable) (a c : Nat)
    (ha : w.r.outOf p.2.1.src = some (.conc a)) (hc : p.2.1.inTy = .conc c) : a = c :=
  ((workflow_compiled_sound inCtl ec im ord hv d hu co w h).br _ (mem_branchTable hp)).1.conc_eq ha hc

/-- **workflow_run_no_type_panic.** No Invoke and no Stream run of such a runnable – whatever
    the node bodies return within their declared output types, whatever the conditions choose,
    whichever nodes get skipped, whatever the dynamic type of the input – reaches a failing
    type assertion of a node, a branch condition or the final output. -/
theorem workflow_run_no_type_panic (inCtl ec : Bool) (im : Impl) (ht : ImplTrans im) (ord : Ord) (hv : ord.Valid)
    (d : WfDecl) (hu : d.unmapped = true) (co : COpts) (w : WRunner)
    (h : (wfCompile (wfEnv inCtl im ord) ec d co).2 = some w)
    (mode : Mode) (c : Code) (hc : CodeOk im w.r c) (fuel : Nat) (d0 : Dyn) (hd : dynOk im d0 w.r.inT = true) :
    (wfRun mode im w c fuel d0).1 ≠ .panic :=
  wfRun_no_panic ht (workflow_compiled_sound inCtl ec im ord hv d hu co w h) hc fuel d0 hd

/-- **workflow_checks_error_iff.** In a compiled Workflow a value that fits the upstream type
    makes a run-time check report its ordinary error exactly when the upstream type is an
    interface and the value's dynamic type is not assignable downstream – on a data connection
    (`convert`) and in front of a branch condition (`arriveBranch`), where the condition's own
    assertion is never the one to fail. -/
theorem workflow_checks_error_iff (inCtl ec : Bool) (im : Impl) (ht : ImplTrans im) (ord : Ord) (hv : ord.Valid)
    (d : WfDecl) (hu : d.unmapped = true) (co : COpts) (w : WRunner)
    (h : (wfCompile (wfEnv inCtl im ord) ec d co).2 = some w) :
    (∀ s e, (s, e) ∈ w.r.dataEdges → ∀ A B, w.r.outOf s = some A → w.r.inOf e = some B →
      ∀ dv, dynOk im dv A = true →
        (convert im w.r s e dv = .typeErr ↔ (A.isIface = true ∧ dynOk im dv B = false))) ∧
    (∀ p ∈ w.r.branchTable, ∀ A, w.r.outOf p.2.1.src = some A → ∀ dv, dynOk im dv A = true →
      (arriveBranch im p.2.1.inTy p.2.2 dv = .typeErr ↔ (A.isIface = true ∧ dynOk im dv p.2.1.inTy = false)) ∧
      arriveBranch im p.2.1.inTy p.2.2 dv ≠ .panic) := by
  have hr := workflow_compiled_sound inCtl ec im ord hv d hu co w h
  exact ⟨fun s e he A B ho hi dv hdv => convert_typeErr_iff ht (hr.edges (s, e) he) ho hi hdv,
    fun p hp A ho dv hdv => arriveBranch_typeErr_iff ht (hr.br _ (mem_branchTable hp)).1 ho hdv⟩

/-! ### the Workflows of the seeded change C07-12, in the model -/

def wlam (k : Key) (i o : Ty) (ins : List WfIn) : WfNode := { key := k, body := .plain false i o, ins }

/-- a(string → `aOut`) ← START;  b(`aOut` → string) ← data of a, no control;  a branch on a with a
    condition on string and end nodes {b, END};  END ← b -/
def demoWf (aOut : Ty) : WfDecl :=
  { inT := .conc 0, outT := .conc 0, stateTy := none,
    nodes := [wlam "a" (.conc 0) aOut [{ src := START, kind := .input, mapped := none }],
              wlam "b" aOut (.conc 0) [{ src := "a", kind := .indirect, mapped := none }]],
    endIns := [{ src := "b", kind := .input, mapped := none }],
    branches := [{ src := "a", ty := .conc 0, ends := ["b", END] }] }

def demoCode (ret : Dyn) : Code := { body := fun k _ => if k = "a" then ret else 0, pick := fun _ _ _ => "b" }

def demoEnv : Env := wfEnv true menuImpl Ord.id

/-- a produces int, the condition wants string: Compile refuses (the error of the replayed
    `addBranch` is the stored one) -/
theorem workflow_demo_concrete_rejected :
    (wfCompile demoEnv true (demoWf (.conc 1)) copts).1 = .stored .branchMismatch := by decide

/-- a produces `any`: the Workflow compiles with the run-time check installed; a string runs
    through, an int is an ordinary error – in Invoke and in Stream -/
theorem workflow_demo_interface_checked :
    (wfCompile demoEnv true (demoWf .any) copts).1 = .ok ∧
    ((wfCompile demoEnv true (demoWf .any) copts).2.map fun w =>
      [wfRun .invoke menuImpl w (demoCode 0) 8 0, wfRun .stream menuImpl w (demoCode 0) 8 0,
       wfRun .invoke menuImpl w (demoCode 1) 8 0, wfRun .stream menuImpl w (demoCode 1) 8 0])
      = some [(.ok, false, false), (.ok, false, false), (.typeErr, false, false), (.typeErr, false, false)] := by decide +kernel

/-- (negation witness) what the check buys: the same runnable with the run-time check of its
    branch taken away – what a Compile that does not look at branches without data flow would
    hand out – panics in the condition's assertion when a returns an int -/
theorem workflow_unchecked_branch_panics :
    ((wfCompile demoEnv true (demoWf .any) copts).2.map fun w =>
      let w' : WRunner := { w with r := { w.r with preBranch := w.r.preBranch.map fun p => (p.1, false) } }
      [wfRun .invoke menuImpl w' (demoCode 1) 8 0, wfRun .stream menuImpl w' (demoCode 1) 8 0])
      = some [(.panic, false, false), (.panic, false, false)] := by decide

/-- Invoke reports a failed check when the producer completes, Stream when the stream is read:
    a(any → any, returns an int) feeds b(string) over a checked edge, and a branch on a picks c
    instead of b.  Invoke fails; in Stream b is skipped, nobody reads the stream, the run
    succeeds. -/
theorem workflow_stream_check_is_lazy :
    let d : WfDecl :=
      { inT := .any, outT := .conc 0, stateTy := none,
        nodes := [wlam "a" .any .any [{ src := START, kind := .input, mapped := none }],
                  wlam "b" (.conc 0) (.conc 0) [{ src := "a", kind := .indirect, mapped := none }],
                  wlam "c" .any (.conc 0) [{ src := "b", kind := .dep, mapped := none },
                                           { src := START, kind := .indirect, mapped := none }]],
        endIns := [{ src := "c", kind := .input, mapped := none }],
        branches := [{ src := "a", ty := .any, ends := ["b", "c"] }] }
    let code : Code := { body := fun k _ => if k = "a" then 1 else 0, pick := fun _ _ _ => "c" }
    (wfCompile demoEnv true d copts).2.map (fun w =>
      [wfRun .invoke menuImpl w code 8 0, wfRun .stream menuImpl w code 8 0])
      = some [(.typeErr, false, false), (.ok, false, false)] := by decide +kernel

/-- **state_handler_types_identical.** No run-time check stands between a state handler and its
    node, so the connection is validated by identity, not by assignability: `addNode` accepts
    a node with a pre (post) handler only if the handler is declared on the node's input
    (output) type itself – on `any` for a pass-through node.  (A handler on an interface for a
    node on a concrete type, or the reverse, is refused although `checkAssignable` would say
    must / may.) -/
theorem state_handler_types_identical (b : Builder) (n : NodeSpec)
    (h : (addNode srcFacts b n).2 = .ok) :
    (∀ hp, n.pre = some hp → hp.ty = (if n.passthrough then .any else n.inTy)) ∧
    (∀ hp, n.post = some hp → hp.ty = (if n.passthrough then .any else n.outTy)) :=
  (addNodeCheck_none (addNode_ok h)).2.2.2

/-- the declared type of a node that carries `WithInputKey` is `map[string]any` (c5), whatever
    the lambda or graph inside takes: a string producer in front of it is refused, a map producer
    accepted, an `any` producer accepted with the run-time check – which then lets a map through
    and reports an ordinary error for a string. -/
theorem keyed_node_is_map_typed :
    let keyed : Op := lam "s" (.conc 5) (.conc 0)   -- how the oracle reads {in: string, inKey: true}
    (run srcFacts menuImpl Ord.id (Builder.new .graph (.conc 0) (.conc 0) none) [keyed, edge START "s"]).2.1
      = [.ok, .fresh .edgeMismatch] ∧
    (run srcFacts menuImpl Ord.id (Builder.new .graph (.conc 5) (.conc 0) none)
      [keyed, edge START "s", edge "s" END, .compile copts]).2.1 = [.ok, .ok, .ok, .ok] ∧
    (run srcFacts menuImpl Ord.id (Builder.new .graph .any (.conc 0) none)
      [keyed, edge START "s", edge "s" END, .compile copts]).2.2.map
        (fun r => (runGraph menuImpl r { body := fun _ _ => 0, pick := fun _ _ _ => END } 20 5,
                   runGraph menuImpl r { body := fun _ _ => 0, pick := fun _ _ _ => END } 20 0))
      = [(.ok, .typeErr)] := by decide

/-- the connections of the harness menu (14 concrete types) that Go's rule accepts beyond
    identity: map[string]any ↔ MyMap, []int ↔ Ints, func(int) int ↔ Fn, chan int → <-chan int
    (and not string ↔ MyStr: both named).  The harness checks the same table against
    reflect (oracle query "universe"). -/
theorem menu_go_only_pairs :
    ((List.range menuConcrete).flatMap fun a =>
      ((List.range menuConcrete).filter fun b => a != b && goAssignableConc menuUniv a b).map fun b => (a, b))
    = [(5, 6), (6, 5), (7, 8), (8, 7), (10, 11), (11, 10), (12, 13)] := by decide

/-- eino's rule refuses such a connection wherever it is attempted: a data edge in either
    direction, through a pass-through node typed from upstream or from downstream, as a branch
    condition, START → END between channel directions -/
theorem named_unnamed_rejected :
    (run srcFacts menuImpl Ord.id (Builder.new .graph (.conc 6) (.conc 5) none)
      [lam "b" (.conc 5) (.conc 5), edge START "b"]).2.1 = [.ok, .fresh .edgeMismatch] ∧
    (run srcFacts menuImpl Ord.id (Builder.new .graph (.conc 5) (.conc 6) none)
      [lam "b" (.conc 6) (.conc 6), edge START "b"]).2.1 = [.ok, .fresh .edgeMismatch] ∧
    (run srcFacts menuImpl Ord.id (Builder.new .graph (.conc 6) (.conc 5) none)
      [pt "p", lam "b" (.conc 5) (.conc 5), edge START "p", edge "p" "b"]).2.1
      = [.ok, .ok, .ok, .fresh .edgeMismatch] ∧
    (run srcFacts menuImpl Ord.id (Builder.new .graph (.conc 6) (.conc 5) none)
      [pt "p", lam "b" (.conc 5) (.conc 5), edge "p" "b", edge START "p"]).2.1
      = [.ok, .ok, .ok, .fresh .edgeMismatch] ∧
    (run srcFacts menuImpl Ord.id (Builder.new .graph (.conc 6) (.conc 6) none)
      [lam "x" (.conc 6) (.conc 6), lam "y" (.conc 6) (.conc 6), .branch START (.conc 5) ["x", "y"] false]).2.1
      = [.ok, .ok, .fresh .branchMismatch] ∧
    (run srcFacts menuImpl Ord.id (Builder.new .graph (.conc 12) (.conc 13) none)
      [edge START END]).2.1 = [.fresh .edgeMismatch] := by decide

/-- what the relaxed rule would let through: `relaxedCheck` answers `must` for
    MyMap → map[string]any; the graph a(MyMap→MyMap) → b(map→map) with that edge accepted
    (no converter: the answer was "for sure") panics in b's `input.(map[string]any)` -/
theorem relaxed_rule_graph_panics :
    relaxedCheck menuUniv menuImpl (some (.conc 6)) (some (.conc 5)) = .must ∧
    (run srcFacts menuImpl Ord.id (Builder.new .graph (.conc 6) (.conc 5) none)
      [lam "a" (.conc 6) (.conc 6), lam "b" (.conc 5) (.conc 5), edge START "a", edge "b" END, .compile copts]).2.2.map
      (fun r => runGraph menuImpl { r with dataEdges := r.dataEdges ++ [("a", "b")] }
        { body := fun k _ => if k = "a" then 6 else 5, pick := fun _ _ _ => END } 20 6) = [.panic] := by
  decide

end EinoV.C07
