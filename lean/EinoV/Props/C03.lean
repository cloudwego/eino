/-
  C03 — Run result is independent of node completion order; no completion lost.
  Property theorems for the task-manager hand-off protocol (Model/C03.lean; with failing
  pre-processors and the interrupt path, C03Loop.lean; a failing step, C03Fail.lean; a done
  context, C03Cancel.lean), for the order-independence of completion resolution, and for schedule
  independence of whole runs of the engine model (Model/Engine.lean, C02Workflow.lean).
  Source facts: EinoV/Gen/FactsC03.lean (regenerated from /repo on every run).

  "For every interleaving" = for every event list `evs` (`Reachable` is ∃ evs, run … = some s):
  the proofs are by induction over the schedule, never by enumeration.
-/
import EinoV.Model.C03
import EinoV.Proofs.C03
import EinoV.Gen.FactsC03
import EinoV.Expected.C03
import EinoV.Proofs.C03Engine
import EinoV.Proofs.C02Confluence
import EinoV.Proofs.C02CompileWF
import EinoV.Proofs.C02CompileWWF
import EinoV.Proofs.C02LockStep
import EinoV.Proofs.C02Success
import EinoV.Proofs.C02EagerConfluence
import EinoV.Model.C03Loop
import EinoV.Proofs.C03Loop
import EinoV.Model.C03Fail
import EinoV.Proofs.C03Fail
import EinoV.Model.C03Cancel
import EinoV.Proofs.C03Cancel

namespace EinoV.C03
open EinoV.Gen

/-- the task-manager facts as regenerated from compose/graph_manager.go -/
def genFacts : Facts :=
  { waitOneRefills := FactsC03.waitOneRefills
    refillOnErrorPath := FactsC03.refillOnErrorPath
    doneCap := FactsC03.doneCap
    pushUnderLock := FactsC03.pushUnderLock
    firstTaskInline := FactsC03.firstTaskInline
    inlineRemovesFirst := FactsC03.inlineRemovesFirst }

/-- The regenerated facts (including `refillOnErrorPath`: the re-fill of `waitOne` precedes
    the early return of a task with an error) are the ones the oracle runs the model with.  The remaining shape
    facts justify the step granularity of the model: `needAll` is `!r.eager`; `wait` is
    `waitAll` / one `waitOne`, `waitAll` loops `waitOne` until it reports false; `waitOne` guards on `num == 0` and decrements once before the
    receive; `submit` increments `num` next to every started execution; `updateChan` is the
    FIFO non-blocking top-up; the executor converts a panic into the task's error (so every
    started execution reaches its `finish` step). -/
theorem facts_match :
    genFacts = Expected.C03.facts ∧ FactsC03.needAllIsNotEager = true ∧
    FactsC03.waitDispatch = true ∧ FactsC03.waitAllLoops = true ∧ FactsC03.waitOneCounts = true ∧
    FactsC03.submitCountsEach = true ∧ FactsC03.updateChanFifoNonBlocking = true ∧
    FactsC03.executorRecovers = true := by decide

theorem facts_good : genFacts.Good := by decide

-- `decide +kernel` on the concrete schedules and runs of this file: the kernel evaluates them once;
-- plain `decide` evaluates them in the elaborator first and the kernel again.

/-- **tm_inv_reachable.** In every reachable state, whatever the interleaving of executor
    goroutines and the run loop: `num` counts exactly the executions that are running,
    queued in the list or sitting in the channel; and whenever the collector is outside its
    receive/re-fill window a non-empty list implies a full channel (nothing waits in the
    list while the channel is empty). Also: nothing is duplicated or dropped on the way. -/
theorem tm_inv_reachable (needAll : Bool) (s : St) (h : Reachable genFacts needAll s) :
    s.num = s.running.length + s.l.length + s.ch.length ∧
    (s.coll ≠ .window → s.l ≠ [] → s.ch ≠ []) ∧
    (s.got ++ (s.ch ++ s.l) ++ s.running).Perm s.submitted := by
  have hI := reachable_inv facts_good h
  exact ⟨hI.count, inv_handoff_ne_nil hI facts_good.2.2.2.1, hI.conserve⟩

/-- **tm_no_lost_wakeup.** Whenever something is outstanding (`num ≠ 0`) and no node body
    is still running, the collector is not stuck: the blocking receive of `waitOne` is
    enabled now, or it is enabled right after the re-fill the collector is about to do.
    (The run loop never blocks forever on `<-t.done`.) -/
theorem tm_no_lost_wakeup (needAll : Bool) (s : St) (h : Reachable genFacts needAll s)
    (hn : s.num ≠ 0) (hr : s.running = []) :
    (s.coll = .idle ∧ (step genFacts needAll s .recv).isSome = true) ∨
    (s.coll = .window ∧ ∃ s1, step genFacts needAll s .refill = some s1 ∧ s1.coll = .idle ∧
        (step genFacts needAll s1 .recv).isSome = true) :=
  inv_progress facts_good needAll (reachable_inv facts_good h) hn hr

/-- **tm_exactly_once.** When the counter is back to zero, what `waitOne` handed out is a
    permutation of what was submitted: every started execution has been collected exactly
    once (multiset equality: no loss, no duplicate), for every schedule. -/
theorem tm_exactly_once (needAll : Bool) (s : St) (h : Reachable genFacts needAll s)
    (hn : s.num = 0) : s.got.Perm s.submitted :=
  (inv_of_num_zero (reachable_inv facts_good h) hn).2.2.2

/-- **tm_waitAll_terminates.** From any reachable state, any schedule without a further
    `submit` (the collector loops in `waitAll`, node goroutines finish) has at most
    `measure s = 2·num + [in window] + |running|` steps, and when no step is possible any
    more the counter is zero and everything submitted has been collected exactly once.
    (With `tm_no_lost_wakeup`: `waitAll` returns, with all tasks, as soon as the node
    bodies have returned.) -/
theorem tm_waitAll_terminates (needAll : Bool) (s s' : St) (evs : List Ev)
    (h : Reachable genFacts needAll s) (hns : ∀ e ∈ evs, e.isSubmit = false)
    (hr : run genFacts needAll s evs = some s') :
    evs.length + measure s' ≤ measure s ∧
    ((∀ e, e.isSubmit = false → step genFacts needAll s' e = none) →
      s'.num = 0 ∧ s'.got.Perm s'.submitted) := by
  have hreach' := reachable_run h hr
  refine ⟨run_measure needAll evs hns hr, fun hstuck => ?_⟩
  have hnum := (stuck_idle_zero facts_good needAll (reachable_inv facts_good hreach') hstuck).1
  exact ⟨hnum, tm_exactly_once needAll s' hreach' hnum⟩

/-! ## collecting an execution that ended with an error, and `waitAll` after an interrupt

  `InterruptAndRerun` and the interrupt of a nested graph are errors after which the run loop
  goes on collecting (`tm.waitAll()`, compose/graph_run.go:303-311).  In the event language
  such an execution is `finish t true` (it enters `errs`) and its collection an ordinary
  `recv`; the theorems above quantify over all event lists, these included. -/

/-- **tm_err_collect_refills.** In every reachable state, a receive — whether the execution
    handed out ended with an error (`t ∈ errs`: node error, `InterruptAndRerun`, sub-graph
    interrupt) or not — leaves the collector inside its re-fill window; the re-fill is then
    enabled, and after it nothing waits in the list while the channel is empty. -/
theorem tm_err_collect_refills (needAll : Bool) (s s1 : St) (h : Reachable genFacts needAll s)
    (hrecv : step genFacts needAll s .recv = some s1) :
    s1.coll = .window ∧
    ∃ s2, step genFacts needAll s1 .refill = some s2 ∧ s2.coll = .idle ∧ (s2.l ≠ [] → s2.ch ≠ []) := by
  have hw := (recv_opens_window facts_good needAll hrecv).1
  have hI1 := reachable_inv facts_good (reachable_run h (run_one hrecv))
  exact ⟨hw, refill_after_recv facts_good needAll hI1 hw⟩

/-- **tm_waitAll_after_interrupt.** After the collector has received an execution `t` that ended
    with an error (`t ∈ s.errs`; the run loop continues with `waitAll`), every continuation without
    a further `submit` has at most `measure s1` steps, has no lost wake-up, and once no step is
    possible everything submitted — `t` included, exactly as often as it was submitted — has been
    collected.  The conclusion holds after every receive and for every task `t`: the proof does not use
    `_hlast` and `_herr`, which only record the situation the theorem is stated for. -/
theorem tm_waitAll_after_interrupt (needAll : Bool) (s s1 s' : St) (t : Task) (evs : List Ev)
    (h : Reachable genFacts needAll s)
    (hrecv : step genFacts needAll s .recv = some s1)
    (_hlast : s1.got = s.got ++ [t]) (_herr : t ∈ s.errs)
    (hns : ∀ e ∈ evs, e.isSubmit = false) (hr : run genFacts needAll s1 evs = some s') :
    evs.length + measure s' ≤ measure s1 ∧
    (s'.num ≠ 0 → s'.running = [] →
      (s'.coll = .idle ∧ (step genFacts needAll s' .recv).isSome = true) ∨
      (s'.coll = .window ∧ ∃ s2, step genFacts needAll s' .refill = some s2 ∧ s2.coll = .idle ∧
          (step genFacts needAll s2 .recv).isSome = true)) ∧
    ((∀ e, e.isSubmit = false → step genFacts needAll s' e = none) →
      s'.num = 0 ∧ s'.got.Perm s'.submitted ∧ s'.got.count t = s'.submitted.count t) := by
  have h1 : Reachable genFacts needAll s1 := reachable_run h (run_one hrecv)
  have hT := tm_waitAll_terminates needAll s1 s' evs h1 hns hr
  refine ⟨hT.1, fun hn hrun => tm_no_lost_wakeup needAll s' (reachable_run h1 hr) hn hrun, ?_⟩
  intro hstuck
  have := hT.2 hstuck
  exact ⟨this.1, this.2, this.2.count_eq t⟩

/-- non-vacuity of `tm_waitAll_after_interrupt` (batch mode, first task inline and last to
    finish, the rerun execution 2 received while 3 and 1 wait in the list): the hypotheses are
    satisfiable and the continuation `refill, recv, refill, recv, refill` collects everything -/
example :
    ∃ s s1, Reachable genFacts true s ∧ step genFacts true s .recv = some s1 ∧
      s1.got = s.got ++ [2] ∧ 2 ∈ s.errs ∧ s1.l = [3, 1] ∧ s1.ch = [] ∧
      ∃ s', run genFacts true s1 [.refill, .recv, .refill, .recv, .refill] = some s' ∧
        s'.num = 0 ∧ s'.got = [2, 3, 1] :=
  ⟨⟨[], [3, 1], [2], 3, .idle, [], [1, 2, 3], [2]⟩, ⟨[], [3, 1], [], 2, .window, [2], [1, 2, 3], [2]⟩,
   ⟨[.submit [1, 2, 3], .finish 2 true, .finish 3 false, .finish 1 false], by decide +kernel⟩,
   by decide +kernel, rfl, by decide +kernel, rfl, rfl,
   ⟨[], [], [], 0, .idle, [2, 3, 1], [1, 2, 3], [2]⟩, by decide +kernel, rfl, rfl⟩

/-- **resolve_perm.** For a batch of completed tasks of distinct nodes, permuting the batch
    (= any completion order inside a `waitAll` batch) leaves every cell
    `writeChannelValues[to][from]` unchanged (including absence), and changes each
    dependency list `newDependencies[k]` only up to permutation. -/
theorem resolve_perm {V : Type} (b b' : List (CTask V)) (hp : b.Perm b')
    (hnd : (b.map (·.key)).Nodup) :
    (∀ to frm, cellOf b to frm = cellOf b' to frm) ∧ (∀ k, (depsOf b k).Perm (depsOf b' k)) :=
  ⟨fun to frm => cellOf_perm hp hnd to frm, fun k => depsOf_perm hp k⟩

/-- **batch_order_independent.** Anything computed from the resolved batch by a consumer
    that reads the value cells as a map and the dependency lists as sets/multisets (as
    `channelManager.updateAndGet` does: `dagChannel.reportDependencies` marks map entries,
    `pregelChannel` ignores them) is a function of the *multiset* of completions. -/
theorem batch_order_independent {V R : Type} (b b' : List (CTask V)) (hp : b.Perm b')
    (hnd : (b.map (·.key)).Nodup)
    (consume : (Key → Key → Option V) → (Key → List Key) → R)
    (hcons : ∀ w d d', (∀ k, (d k).Perm (d' k)) → consume w d = consume w d') :
    consume (cellOf b) (depsOf b) = consume (cellOf b') (depsOf b') := by
  have ⟨hc, hd⟩ := resolve_perm b b' hp hnd
  have : cellOf b = cellOf b' := by funext to frm; exact hc to frm
  rw [this]
  exact hcons _ _ _ hd

/-- The DAG channel's use of a dependency list is such a consumer. -/
theorem dag_ready_order_independent {V : Type} (b b' : List (CTask V)) (hp : b.Perm b')
    (ctrlPreds : List Key) (k : Key) :
    dagReady ctrlPreds (depsOf b k) = dagReady ctrlPreds (depsOf b' k) :=
  dagReady_perm (depsOf_perm hp k)

/-! ## eager execution (Workflow): what is collected when the run returns

  Reference engine `eRun` (Model part 4): one completion at a time in an arbitrary
  completion priority `order`, successors submitted at once, the run returns when END is ready.

  Full clause of the property ("every node execution that was started is collected"):
      ∀ g order, eEndReady g (eRun g order) = true → eUncollected (eRun g order) = []
  It does NOT hold for the engine as implemented (`eager_uncollected_witness`, replayed on the
  real code by the harness: known finding).  Proved instead: per node, under the hypothesis
  that the node has a path to END. -/

/-- **eager_no_early_return.** For every completion order: when the eager run returns (END is
    ready), every started node that has a path to END has been collected — the run does not
    return before the nodes feeding END have finished and been handed back. -/
theorem eager_no_early_return (g : GCase) (hk : (g.nodes.map (·.key)).Nodup)
    (hs : ∀ n ∈ g.nodes, n.key ≠ startKey) (order : List Key)
    (hready : eEndReady g (eRun g order) = true) :
    ∀ k ∈ (eRun g order).started, Reaches g k → k ∈ (eRun g order).done := by
  intro k _ hr
  apply Classical.byContradiction
  intro hnd
  have := not_ready_of_reaches (einv_run hk hs order) hr hnd
  rw [this] at hready; cases hready

/-- **eager_collects_all_partial.** If every node has a path to END, then for every completion
    order nothing started is left uncollected when the eager run returns. -/
theorem eager_collects_all_partial (g : GCase) (hk : (g.nodes.map (·.key)).Nodup)
    (hs : ∀ n ∈ g.nodes, n.key ≠ startKey) (hall : ∀ n ∈ g.nodes, Reaches g n.key)
    (order : List Key) (hready : eEndReady g (eRun g order) = true) :
    eUncollected (eRun g order) = [] := by
  have hI := einv_run hk hs order
  simp only [eUncollected, List.filter_eq_nil_iff]
  intro k hkst
  have hd : k ∈ (eRun g order).done := by
    rcases hI.startedNode k hkst with rfl | ⟨n, hn, rfl⟩
    · exact hI.startDone
    · exact eager_no_early_return g hk hs order hready n.key hkst (hall n hn)
  simp [hd]

/-- the known finding at model level: START→a1→END, START→s1 (no path to END) -/
def deadEndCase : GCase :=
  { nodes := [⟨"a1", ["start"]⟩, ⟨"s1", ["start"]⟩], endPreds := ["a1"], input := "x" }

/-- **eager_uncollected_witness** (negation of the full clause). A well-formed graph and a
    completion order in which the eager run returns while a started node has not been
    collected; with the other order the same node is collected. -/
theorem eager_uncollected_witness :
    (deadEndCase.nodes.map (·.key)).Nodup ∧ (∀ n ∈ deadEndCase.nodes, n.key ≠ startKey) ∧
    eEndReady deadEndCase (eRun deadEndCase ["a1", "s1"]) = true ∧
    eUncollected (eRun deadEndCase ["a1", "s1"]) = ["s1"] ∧
    eUncollected (eRun deadEndCase ["s1", "a1"]) = [] := by decide +kernel

/-- non-vacuity of `eager_collects_all_partial`: a graph where every node reaches END -/
example : let g : GCase := { nodes := [⟨"a1", ["start"]⟩, ⟨"a2", ["start"]⟩, ⟨"b1", ["a1", "a2"]⟩],
                             endPreds := ["b1"], input := "x" }
    (∀ n ∈ g.nodes, Reaches g n.key) ∧ eEndReady g (eRun g ["a2", "a1", "b1"]) = true ∧
    (eRun g ["a2", "a1", "b1"]).done = ["start", "a2", "a1", "b1"] := by
  intro g
  have hb : Reaches g "b1" := .direct (by decide +kernel)
  refine ⟨?_, by decide +kernel, by decide +kernel⟩
  intro n hn
  simp only [g, List.mem_cons, List.not_mem_nil, or_false] at hn
  rcases hn with rfl | rfl | rfl
  · exact .via (n := ⟨"b1", ["a1", "a2"]⟩) (by simp [g]) (by simp) hb
  · exact .via (n := ⟨"b1", ["a1", "a2"]⟩) (by simp [g]) (by simp) hb
  · exact hb

/-- non-trivial reachable states (batch mode: first task inline, two goroutines): one completion
    parked in the list behind a full channel; below, the collector inside its window -/
example : run genFacts true St.init
      [.submit [1, 2, 3], .finish 2 false, .finish 3 false, .finish 1 false, .recv, .refill]
    = some ⟨[], [1], [3], 2, .idle, [2], [1, 2, 3], []⟩ := by decide +kernel

example : Reachable genFacts true ⟨[], [3, 1], [], 2, .window, [2], [1, 2, 3], []⟩ :=
  ⟨[.submit [1, 2, 3], .finish 2 false, .finish 3 false, .finish 1 false, .recv], by decide +kernel⟩

/-- the hypotheses of `tm_no_lost_wakeup` / `tm_exactly_once` are satisfiable -/
example : ∃ s, Reachable genFacts false s ∧ s.num ≠ 0 ∧ s.running = [] ∧ s.l ≠ [] :=
  ⟨⟨[], [2], [1], 2, .idle, [], [1, 2], []⟩, ⟨[.submit [1, 2], .finish 1 false, .finish 2 false], by decide +kernel⟩,
   by decide +kernel, rfl, by decide +kernel⟩

example : ∃ s, Reachable genFacts true s ∧ s.num = 0 ∧ s.got = [2, 1] ∧ s.submitted = [1, 2] :=
  ⟨⟨[], [], [], 0, .idle, [2, 1], [1, 2], []⟩,
   ⟨[.submit [1, 2], .finish 2 false, .finish 1 false, .recv, .refill, .recv, .refill], by decide +kernel⟩,
   rfl, rfl, rfl⟩

/-- `resolve_perm` on a concrete batch with a branch and a shared successor -/
example :
    let a : CTask Nat := ⟨"a", ["c"], ["c"], ["d"], 1⟩
    let b : CTask Nat := ⟨"b", ["c"], ["c"], [], 2⟩
    cellOf [a, b] "c" "a" = some 1 ∧ cellOf [b, a] "c" "a" = some 1 ∧
    depsOf [a, b] "c" = ["a", "b"] ∧ depsOf [b, a] "c" = ["b", "a"] := by decide +kernel

/-! ## negations: what goes wrong with the other value of a fact -/

/-- No re-fill after the receive (`waitOneRefills = false`): two completions, the second one
    parked in the list; after the first receive the channel stays empty although the list is
    not — the collector blocks forever with `num = 1` and nothing running (lost wake-up). -/
theorem lost_wakeup_without_refill :
    ∃ s, run { Expected.C03.facts with waitOneRefills := false } false St.init
          [.submit [1, 2], .finish 1 false, .finish 2 false, .recv] = some s ∧
      s.num = 1 ∧ s.running = [] ∧ s.l = [2] ∧ s.ch = [] ∧
      (∀ e, e.isSubmit = false →
        step { Expected.C03.facts with waitOneRefills := false } false s e = none) := by
  refine ⟨⟨[], [2], [], 1, .idle, [1], [1, 2], []⟩, by decide +kernel, rfl, rfl, rfl, rfl,
    stuck_of_idle_empty rfl rfl rfl⟩

/-- The early return `if ta.err != nil { return ta, true }` *before* the re-fill
    (`refillOnErrorPath = false`), batch mode: three executions, the first one inlined and the
    last to finish; execution 2 answers `InterruptAndRerun`.  When the run loop starts
    collecting, 2 sits in the channel and 3, 1 in the list; 2 is received, the re-fill is
    skipped, and `waitAll` blocks forever on the empty channel with `num = 2` and nothing
    running.  With the facts of the unchanged tree the same schedule goes on (example above). -/
theorem lost_wakeup_after_interrupt_batch :
    ∃ s, run { Expected.C03.facts with refillOnErrorPath := false } true St.init
          [.submit [1, 2, 3], .finish 2 true, .finish 3 false, .finish 1 false, .recv] = some s ∧
      s.got = [2] ∧ s.num = 2 ∧ s.running = [] ∧ s.l = [3, 1] ∧ s.ch = [] ∧
      (∀ e, e.isSubmit = false →
        step { Expected.C03.facts with refillOnErrorPath := false } true s e = none) := by
  refine ⟨⟨[], [3, 1], [], 2, .idle, [2], [1, 2, 3], [2]⟩, by decide +kernel, rfl, rfl, rfl, rfl, rfl,
    stuck_of_idle_empty rfl rfl rfl⟩

/-- The same fact, eager mode (Workflow): execution 1 is received first and its state
    post-handler keeps the run loop inside `waitOne` (the window) while 2 (`InterruptAndRerun`)
    and then 3 finish; the late re-fill finds the channel full; 2 is received without re-fill;
    `waitAll` blocks forever with 3 in the list. -/
theorem lost_wakeup_after_interrupt_eager :
    ∃ s, run { Expected.C03.facts with refillOnErrorPath := false } false St.init
          [.submit [1, 2, 3], .finish 1 false, .recv, .finish 2 true, .finish 3 false, .refill, .recv]
          = some s ∧
      s.got = [1, 2] ∧ s.num = 1 ∧ s.running = [] ∧ s.l = [3] ∧ s.ch = [] ∧
      (∀ e, e.isSubmit = false →
        step { Expected.C03.facts with refillOnErrorPath := false } false s e = none) := by
  refine ⟨⟨[], [3], [], 1, .idle, [1, 2], [1, 2, 3], [2]⟩, by decide +kernel, rfl, rfl, rfl, rfl, rfl,
    stuck_of_idle_empty rfl rfl rfl⟩

/-- `updateChan` not after the push inside the executor's critical section
    (`pushUnderLock = false`): a single completion never reaches the channel. -/
theorem lost_wakeup_without_ordered_push :
    ∃ s, run { Expected.C03.facts with pushUnderLock := false } false St.init
          [.submit [1, 2], .finish 1 false] = some s ∧
      s.l = [1] ∧ s.ch = [] ∧
      step { Expected.C03.facts with pushUnderLock := false } false s .recv = none := by
  exact ⟨⟨[2], [1], [], 2, .idle, [], [1, 2], []⟩, by decide +kernel, rfl, rfl, by decide +kernel⟩

/-- The inlined task also spawned (`inlineRemovesFirst = false`): one submitted execution is
    collected twice. -/
theorem duplicate_when_inline_not_removed :
    ∃ s, run { Expected.C03.facts with inlineRemovesFirst := false } true St.init
          [.submit [1], .finish 1 false, .finish 1 false, .recv, .refill, .recv, .refill] = some s ∧
      s.num = 0 ∧ s.got = [1, 1] ∧ s.submitted = [1] := by
  exact ⟨⟨[], [], [], 0, .idle, [1, 1], [1], []⟩, by decide +kernel, rfl, rfl, rfl⟩

/-- An unbuffered `done` with the non-blocking send of `updateChan` (`doneCap = 0`):
    nothing is ever handed off. -/
theorem deadlock_with_unbuffered_done :
    ∃ s, run { Expected.C03.facts with doneCap := 0 } false St.init
          [.submit [1, 2], .finish 1 false, .finish 2 false] = some s ∧
      s.num = 2 ∧ s.running = [] ∧ s.ch = [] ∧
      step { Expected.C03.facts with doneCap := 0 } false s .recv = none := by
  exact ⟨⟨[], [1, 2], [], 2, .idle, [], [1, 2], []⟩, by decide +kernel, rfl, rfl, rfl, by decide +kernel⟩

/-- Without distinct node keys in a batch the cell value would depend on the order (the
    hypothesis of `resolve_perm` is needed; a superstep never runs a node twice). -/
theorem resolve_needs_distinct_keys :
    let a : CTask Nat := ⟨"a", [], ["c"], [], 1⟩
    let a' : CTask Nat := ⟨"a", [], ["c"], [], 2⟩
    cellOf [a, a'] "c" "a" ≠ cellOf [a', a] "c" "a" := by decide +kernel

/-! ## `submit` with failing pre-processors, and the interrupt path of the run loop

  Model: `Model/C03Loop.lean`.  Two more source facts: `submitPreprocessesFirst` (`submit`
  runs the pre-processors of ALL tasks before anything is started) and
  `interruptPathWaitsAll` (the run loop collects with `tm.waitAll()` before it stops for an
  interrupt-before / interrupt-after point). -/

/-- the loop facts as regenerated from compose/graph_manager.go and compose/graph_run.go -/
def genLoopFacts : LoopFacts :=
  { submitPreprocessesFirst := FactsC03.submitPreprocessesFirst
    interruptPathWaitsAll := FactsC03.interruptPathWaitsAll }

/-- The regenerated loop facts are the ones the theorems below are proved for and the oracle
    runs the model with. -/
theorem loop_facts_match : genLoopFacts = Expected.C03.loopFacts := by decide

/-- **submit_fail_starts_nothing.** For every reachable state of the task manager, every
    list of tasks and every set of tasks whose pre-processor (state pre-handler) fails: if
    `submit` returns the error, it has not changed the task manager — no execution of that step
    has been started, `num` is what it was.  In particular, when everything of the earlier
    steps had been collected (`num = 0`, always the case in batch mode), the run returns with
    `num = 0`, nothing running, nothing queued, and every execution that was ever started
    collected exactly once. -/
theorem submit_fail_starts_nothing (needAll : Bool) (s s' : St) (ts bad : List Task)
    (h : Reachable genFacts needAll s)
    (hsub : submitP genFacts genLoopFacts needAll s ts bad = some (s', true)) :
    s' = s ∧ (s.num = 0 → s'.num = 0 ∧ s'.running = [] ∧ s'.l = [] ∧ s'.ch = [] ∧
      s'.got.Perm s'.submitted) := by
  have hs : s' = s := submitP_first_fail (L := genLoopFacts) (by decide) hsub
  subst hs
  exact ⟨rfl, fun hn => ⟨hn, inv_of_num_zero (reachable_inv facts_good h) hn⟩⟩

/-- **submit_ok_is_submit.** When no pre-processor fails, `submit` is the `submit` step of the
    transition system (so every protocol theorem above applies to what follows). -/
theorem submit_ok_is_submit (needAll : Bool) (s s' : St) (ts bad : List Task)
    (hsub : submitP genFacts genLoopFacts needAll s ts bad = some (s', false)) :
    step genFacts needAll s (.submit ts) = some s' ∧ ts.any bad.contains = false :=
  submitP_first_ok (L := genLoopFacts) (by decide) hsub

/-- non-vacuity: a second step `[3, 4, 5]` whose second pre-processor fails, after a first
    step that has been collected (batch mode) -/
example :
    ∃ s, Reachable genFacts true s ∧ s.num = 0 ∧ s.got = [2, 1] ∧
      submitP genFacts genLoopFacts true s [3, 4, 5] [4] = some (s, true) :=
  ⟨⟨[], [], [], 0, .idle, [2, 1], [1, 2], []⟩,
   ⟨[.submit [1, 2], .finish 2 false, .finish 1 false, .recv, .refill, .recv, .refill], by decide +kernel⟩,
   rfl, rfl, by decide +kernel⟩

/-- Each task started right after its own pre-processor (`submitPreprocessesFirst = false`).
    Batch mode, tasks `[1, 2, 3]`, the pre-processor of 3 fails: the goroutine tasks are
    handled first, 2 has been started when `submit` returns the error; the run loop returns
    with `num = 1`, execution 2 running and never collected.  Eager mode, the pre-processor
    of 2 fails: execution 1 is abandoned.  With the facts of the unchanged tree both calls
    leave the task manager untouched. -/
theorem submit_fail_leaks_when_interleaved :
    (∃ s, submitP Expected.C03.facts { Expected.C03.loopFacts with submitPreprocessesFirst := false }
            true St.init [1, 2, 3] [3] = some (s, true) ∧
        s.running = [2] ∧ s.num = 1 ∧ s.submitted = [2] ∧ s.got = []) ∧
    (∃ s, submitP Expected.C03.facts { Expected.C03.loopFacts with submitPreprocessesFirst := false }
            false St.init [1, 2, 3] [2] = some (s, true) ∧
        s.running = [1] ∧ s.num = 1 ∧ s.submitted = [1] ∧ s.got = []) ∧
    submitP Expected.C03.facts Expected.C03.loopFacts true St.init [1, 2, 3] [3] = some (St.init, true) ∧
    submitP Expected.C03.facts Expected.C03.loopFacts false St.init [1, 2, 3] [2] = some (St.init, true) := by
  refine ⟨⟨⟨[2], [], [], 1, .idle, [], [2], []⟩, by decide +kernel, rfl, rfl, rfl, rfl⟩,
          ⟨⟨[1], [], [], 1, .idle, [], [1], []⟩, by decide +kernel, rfl, rfl, rfl, rfl⟩, by decide +kernel, by decide +kernel⟩

/-- **interrupt_path_collects_all.** For every reachable state (any schedule so far, batch or
    eager) and every schedule of executor and collector steps that follows: when the
    collecting call of the interrupt path returns, nothing is outstanding — `num = 0`, no
    execution running, none queued in the list or the channel — and everything ever submitted
    has been received exactly once.  (The run loop then writes the checkpoint and returns the
    interrupt.) -/
theorem interrupt_path_collects_all (needAll : Bool) (k : Nat) (s s' : St) (evs : List Ev)
    (h : Reachable genFacts needAll s)
    (hp : interruptPath genFacts genLoopFacts needAll k s evs = some s') :
    s'.num = 0 ∧ s'.running = [] ∧ s'.l = [] ∧ s'.ch = [] ∧ s'.got.Perm s'.submitted ∧
    Reachable genFacts needAll s' := by
  obtain ⟨pre, suf, k', _, _, hr, hret⟩ := interruptPath_spec evs hp
  have hreach := reachable_run h hr
  have hw : genLoopFacts.interruptPathWaitsAll = true := by decide
  have hn : s'.num = 0 := by
    simp only [pathReturns, hw, Bool.true_or, Bool.not_true, Bool.false_and, Bool.or_false,
      Bool.and_eq_true, beq_iff_eq] at hret
    exact hret.2
  obtain ⟨hr', hl, hch, hperm⟩ := inv_of_num_zero (reachable_inv facts_good hreach) hn
  exact ⟨hn, hr', hl, hch, hperm, hreach⟩

/-- **interrupt_path_returns.** The interrupt path does return: along every schedule without
    a further `submit` that runs until no executor and no collector step is possible any more
    (node bodies terminate), the collecting call has returned. -/
theorem interrupt_path_returns (needAll : Bool) (k : Nat) (s s'' : St) (evs : List Ev)
    (h : Reachable genFacts needAll s) (hns : ∀ e ∈ evs, e.isSubmit = false)
    (hr : run genFacts needAll s evs = some s'')
    (hstuck : ∀ e, e.isSubmit = false → step genFacts needAll s'' e = none) :
    ∃ s', interruptPath genFacts genLoopFacts needAll k s evs = some s' := by
  have := interruptPath_returns facts_good (L := genLoopFacts) (k := k) evs
    (reachable_inv facts_good h) hns hr hstuck
  exact Option.isSome_iff_exists.1 this

/-- non-vacuity: eager mode, execution 1 (the interrupt-after node) has been received while 2
    and 3 are still running; the interrupt path returns only after both have been received -/
example :
    ∃ s, Reachable genFacts false s ∧ s.running = [2, 3] ∧ s.got = [1] ∧
      interruptPath genFacts genLoopFacts false 0 s [.finish 2 false, .recv, .refill] = none ∧
      ∃ s', interruptPath genFacts genLoopFacts false 0 s
              [.finish 2 false, .recv, .refill, .finish 3 false, .recv, .refill] = some s' ∧
        s'.num = 0 ∧ s'.got = [1, 2, 3] :=
  ⟨⟨[2, 3], [], [], 2, .idle, [1], [1, 2, 3], []⟩,
   ⟨[.submit [1, 2, 3], .finish 1 false, .recv, .refill], by decide +kernel⟩, rfl, rfl, by decide +kernel,
   ⟨[], [], [], 0, .idle, [1, 2, 3], [1, 2, 3], []⟩, by decide +kernel, rfl, rfl⟩

/-- `tm.wait()` instead of `tm.waitAll()` on the interrupt path (`interruptPathWaitsAll =
    false`), eager mode: three executions, 1 (the interrupt node) received first; the path
    receives ONE more completion (2) and returns with `num = 1` while execution 3 is still
    running: 3 is never collected.  In batch mode the same fact changes nothing (`wait` is
    `waitAll`). -/
theorem interrupt_path_abandons_with_wait :
    (∃ s', interruptPath Expected.C03.facts { Expected.C03.loopFacts with interruptPathWaitsAll := false }
            false 0 ⟨[2, 3], [], [], 2, .idle, [1], [1, 2, 3], []⟩
            [.finish 2 false, .recv, .refill, .finish 3 false, .recv, .refill] = some s' ∧
        s'.num = 1 ∧ s'.running = [3] ∧ s'.got = [1, 2] ∧ s'.submitted = [1, 2, 3]) ∧
    run Expected.C03.facts false St.init [.submit [1, 2, 3], .finish 1 false, .recv, .refill]
      = some ⟨[2, 3], [], [], 2, .idle, [1], [1, 2, 3], []⟩ ∧
    (∃ s', interruptPath Expected.C03.facts { Expected.C03.loopFacts with interruptPathWaitsAll := false }
            true 0 ⟨[2, 3], [], [], 2, .idle, [1], [1, 2, 3], []⟩
            [.finish 2 false, .recv, .refill, .finish 3 false, .recv, .refill] = some s' ∧ s'.num = 0) := by
  refine ⟨⟨⟨[3], [], [], 1, .idle, [1, 2], [1, 2, 3], []⟩, by decide +kernel, rfl, rfl, rfl, rfl⟩, by decide +kernel,
          ⟨⟨[], [], [], 0, .idle, [1, 2, 3], [1, 2, 3], []⟩, by decide +kernel, rfl⟩⟩

/-- **interrupted_invoke_collects_all.** For every acyclic graph, every interrupt-before /
    interrupt-after node set, every completion priority, batch or eager: every Invoke of the
    run-and-resume sequence that ends in an interrupt has collected every execution it (or an
    earlier Invoke) started. -/
theorem interrupted_invoke_collects_all (c : ICfg) :
    ∀ w ∈ iAll c genLoopFacts, ∀ b a p, w.out = .interrupt b a p → iUncollected w.st = [] := by
  intro w hw b a p hout
  have hL : (genLoopFacts.interruptPathWaitsAll || !c.eager) = true := by
    have : genLoopFacts.interruptPathWaitsAll = true := by decide
    simp [this]
  exact iUncollected_nil_of_covered
    (iRuns_interrupt_covered c hL _ _ (fun b a p h => iFirst_interrupt_covered c hL b a p h) w hw b a p hout)

/-- the shape of seeded regression C03-11: START → {r, x, y} → j → END, interrupt after r -/
def intrCase (order : List Key) : ICfg :=
  { g := { nodes := [⟨"r", ["start"]⟩, ⟨"x", ["start"]⟩, ⟨"y", ["start"]⟩, ⟨"j", ["r", "x", "y"]⟩],
           endPreds := ["j"], input := "in" },
    eager := true, before := [], after := ["r"], order := order }

/-- **interrupted_invoke_abandons_with_wait** (negation at engine level).  With `wait` on the
    interrupt path the first Invoke reports the interrupt after `r` and returns with `y`
    started but never collected when `r` is collected first; when `r` is collected last nothing
    is lost — the outcome depends on the completion order.  With the facts of the unchanged
    tree both orders collect everything, and the resumed run executes `j`. -/
theorem interrupted_invoke_abandons_with_wait :
    let bad : LoopFacts := { Expected.C03.loopFacts with interruptPathWaitsAll := false }
    ((iFirst (intrCase ["r", "x", "y", "j"]) bad).out = .interrupt [] ["r"] [] ∧
      iUncollected (iFirst (intrCase ["r", "x", "y", "j"]) bad).st = ["y"]) ∧
    ((iFirst (intrCase ["x", "y", "r", "j"]) bad).out = .interrupt [] ["r"] ["j"] ∧
      iUncollected (iFirst (intrCase ["x", "y", "r", "j"]) bad).st = []) ∧
    ((iFirst (intrCase ["r", "x", "y", "j"]) Expected.C03.loopFacts).out = .interrupt [] ["r"] ["j"] ∧
      iUncollected (iFirst (intrCase ["r", "x", "y", "j"]) Expected.C03.loopFacts).st = [] ∧
      (iAll (intrCase ["r", "x", "y", "j"]) Expected.C03.loopFacts).map (·.out)
        = [.interrupt [] ["r"] ["j"], .ok]) := by decide +kernel

/-! ## a batch step in which a node fails while its siblings are still running

  Model: `Model/C03Fail.lean`.  The source fact is `waitAllLoops` (already part of
  `facts_match`): the loop of `taskManager.waitAll` has no exit but `waitOne` reporting
  `num == 0`, so the error of a collected execution does not cut the collection short. -/

/-- **failing_step_collects_all.** For every reachable state of the task manager (any schedule
    so far, batch or eager), every schedule of executor and collector steps that follows and
    however many of the executions end with an error (`finish t true`): when `waitAll` returns —
    the run loop then resolves the collected tasks and `Invoke` returns the first node error —
    nothing is outstanding: `num = 0`, no execution still running, none queued in the list or
    the channel, and everything ever submitted has been received exactly once.  Covers "every
    node execution that was started is collected exactly once … the run does not return while
    started nodes are running" for batch runs that FAIL. -/
theorem failing_step_collects_all (needAll : Bool) (k : Nat) (s s' : St) (evs : List Ev)
    (h : Reachable genFacts needAll s)
    (hp : waitAllPath genFacts FactsC03.waitAllLoops needAll k s evs = some s') :
    s'.num = 0 ∧ s'.running = [] ∧ s'.l = [] ∧ s'.ch = [] ∧ s'.got.Perm s'.submitted ∧
    Reachable genFacts needAll s' := by
  -- both facts are `true` in the source, so the right-hand side of `waitAllPath_loops` is `genLoopFacts`
  have e : waitAllPath genFacts FactsC03.waitAllLoops needAll k s evs
      = interruptPath genFacts genLoopFacts needAll k s evs :=
    waitAllPath_loops genFacts FactsC03.submitPreprocessesFirst needAll evs k s
  exact interrupt_path_collects_all needAll k s s' evs h (e ▸ hp)

/-- **failing_step_returns.** `waitAll` of a step with failing nodes does return: along every
    schedule without a further `submit` that runs until no executor and no collector step is
    possible any more (node bodies terminate, with or without an error). -/
theorem failing_step_returns (needAll : Bool) (k : Nat) (s s'' : St) (evs : List Ev)
    (h : Reachable genFacts needAll s) (hns : ∀ e ∈ evs, e.isSubmit = false)
    (hr : run genFacts needAll s evs = some s'')
    (hstuck : ∀ e, e.isSubmit = false → step genFacts needAll s'' e = none) :
    ∃ s', waitAllPath genFacts FactsC03.waitAllLoops needAll k s evs = some s' := by
  have e : waitAllPath genFacts FactsC03.waitAllLoops needAll k s evs
      = interruptPath genFacts genLoopFacts needAll k s evs :=
    waitAllPath_loops genFacts FactsC03.submitPreprocessesFirst needAll evs k s
  exact e ▸ interrupt_path_returns needAll k s s'' evs h hns hr hstuck

/-- non-vacuity: batch mode, a step `[1, 2, 3]` whose inlined execution 1 fails first; `waitAll`
    has not returned after having received the failing execution, it returns after 2 and 3 -/
example :
    ∃ s, Reachable genFacts true s ∧ s.running = [2, 3] ∧ s.errs = [1] ∧
      waitAllPath genFacts FactsC03.waitAllLoops true 0 s [.recv, .refill] = none ∧
      ∃ s', waitAllPath genFacts FactsC03.waitAllLoops true 0 s
              [.recv, .refill, .finish 2 false, .finish 3 false, .recv, .refill, .recv, .refill] = some s' ∧
        s'.num = 0 ∧ s'.got = [1, 2, 3] :=
  ⟨⟨[2, 3], [], [1], 3, .idle, [], [1, 2, 3], [1]⟩,
   ⟨[.submit [1, 2, 3], .finish 1 true], by decide +kernel⟩, rfl, rfl, by decide +kernel,
   ⟨[], [], [], 0, .idle, [1, 2, 3], [1, 2, 3], [1]⟩, by decide +kernel, rfl, rfl⟩

/-- **failing_step_abandons_with_fail_fast** (negation: the fact is needed).  A `waitAll` that
    also returns right after having received an erroring execution (`waitAllLoops = false`, the
    shape of seeded regression C03-22): batch step `[1, 2, 3]`, the inlined execution 1 fails
    while 2 and 3 are still running — `waitAll` returns with `num = 2`, executions 2 and 3
    running and never received.  When 1 fails last (2 and 3 finished before it) the same fact
    loses nothing: whether executions are abandoned depends on the completion order. -/
theorem failing_step_abandons_with_fail_fast :
    run Expected.C03.facts true St.init [.submit [1, 2, 3], .finish 1 true]
      = some ⟨[2, 3], [], [1], 3, .idle, [], [1, 2, 3], [1]⟩ ∧
    (∃ s', waitAllPath Expected.C03.facts false true 0 ⟨[2, 3], [], [1], 3, .idle, [], [1, 2, 3], [1]⟩
            [.recv, .refill, .finish 2 false, .finish 3 false, .recv, .refill, .recv, .refill] = some s' ∧
        s'.num = 2 ∧ s'.running = [2, 3] ∧ s'.got = [1] ∧ s'.submitted = [1, 2, 3]) ∧
    (∃ s', waitAllPath Expected.C03.facts false true 0 St.init [] = some s' ∧ s'.num = 0) ∧
    (∃ s s', run Expected.C03.facts true St.init
              [.submit [1, 2, 3], .finish 2 false, .finish 3 false, .finish 1 true] = some s ∧
        waitAllPath Expected.C03.facts false true 0 s [.recv, .refill, .recv, .refill, .recv, .refill] = some s' ∧
        s'.num = 0 ∧ s'.got = [2, 3, 1]) := by
  refine ⟨by decide +kernel, ⟨⟨[2, 3], [], [], 2, .idle, [1], [1, 2, 3], [1]⟩, by decide +kernel, rfl, rfl, rfl, rfl⟩,
    ⟨St.init, by decide +kernel, rfl⟩,
    ⟨⟨[], [3, 1], [2], 3, .idle, [], [1, 2, 3], [1]⟩, ⟨[], [], [], 0, .idle, [2, 3, 1], [1, 2, 3], [1]⟩,
      by decide +kernel, by decide +kernel, rfl, rfl⟩⟩

/-- **failing_batch_run_collects_all.** For every acyclic graph, every set of failing nodes and
    every completion priority: when the batch run returns (a value, or the error of the first
    failing node of the failing step), every execution it started has been received. -/
theorem failing_batch_run_collects_all (c : FCfg) :
    fUncollected (fRun c FactsC03.waitAllLoops) = [] := by
  have hl : FactsC03.waitAllLoops = true := by decide
  rw [hl]
  exact fRun_uncollected_nil c

/-- the shape of seeded regression C03-22: START → {f, x, y} → END, `f` fails -/
def failCase (order : List Key) : FCfg :=
  { g := { nodes := [⟨"f", ["start"]⟩, ⟨"x", ["start"]⟩, ⟨"y", ["start"]⟩],
           endPreds := ["f", "x", "y"], input := "in" },
    bad := ["f"], order := order }

/-- **failing_batch_run_abandons_with_fail_fast** (negation at engine level).  With the
    fail-fast `waitAll` the run returns the error of `f` with `x` and `y` started and never
    received when `f` finishes first, with `y` lost when `f` finishes second, with nothing lost
    when `f` finishes last — what is collected depends on the completion order.  With the fact
    of the unchanged tree every order collects everything and reports `f`. -/
theorem failing_batch_run_abandons_with_fail_fast :
    (fUncollected (fRun (failCase ["f", "x", "y"]) false) = ["x", "y"] ∧
     fUncollected (fRun (failCase ["x", "f", "y"]) false) = ["y"] ∧
     fUncollected (fRun (failCase ["x", "y", "f"]) false) = []) ∧
    ((fRun (failCase ["f", "x", "y"]) true).reported = some "f" ∧
     (fRun (failCase ["f", "x", "y"]) true).failed = true ∧
     (fRun (failCase ["f", "x", "y"]) true).collected = ["f", "x", "y"] ∧
     (fRun (failCase ["x", "f", "y"]) true).collected = ["x", "f", "y"]) := by decide +kernel

/-- **pregel_run_schedule_independent** (engine level). For every any-predecessor runner of the
    engine model (`Model/Engine.lean`) with distinct keys and an order-insensitive merge: a run
    that succeeds under one fair completion schedule is *the same run* — same result, same
    per-step trace with the same inputs — under every other fair schedule.  (Which of several
    failures is reported may depend on the schedule; that is why the statement is about
    successful runs.)  Proof: `run_pregel` (the engine is the superstep specification) and
    permutation invariance of one superstep. -/
theorem pregel_run_schedule_independent {V : Type} (ops : EinoV.Engine.ValOps V) (hm : EinoV.Engine.MergePerm ops)
    (r : EinoV.Engine.Runner V) (h : r.dag = false) (hk : (EinoV.Spec.keys r).Nodup)
    (sched sched' : EinoV.Engine.Sched V) (hf : sched.Fair) (hf' : sched'.Fair) (x v : V)
    (hok : (EinoV.Engine.runS ops r sched x).result = .ok v) :
    EinoV.Engine.runS ops r sched' x = EinoV.Engine.runS ops r sched x :=
  EinoV.Engine.pregel_run_sched_independent ops hm r h hk sched sched' hf hf' x v hok

open EinoV.Engine EinoV.Engine.DagRun in
/-- **dag_result_schedule_independent** (engine level, all-predecessor mode, batch loop).  For every
    well-formed acyclic runner (`DagWF`, `DagWF2`, `DagWF3`: a channel with data predecessors has a
    control predecessor, START has no predecessors, the predecessor tables are acyclic), every
    order-insensitive merge and every input: if the runs under two fair completion schedules both
    return a value, it is the same value.  Proof: the history of a run is *grounded* (every
    completion is the output of a node started on facts drawn from the history: a control
    predecessor completed and routed, every data predecessor completed or is skipped, the input is
    the merge of exactly the routed values), and two grounded histories of one runner agree, by
    induction along the predecessor order (`Proofs/C02Confluence.lean`). -/
theorem dag_result_schedule_independent {V : Type} (ops : ValOps V) (hm : MergePerm ops) (r : Runner V)
    (wf : DagWF r) (wf2 : DagWF2 r) (wf3 : DagWF3 r) (sA sB : Sched V) (hfA : sA.Fair) (hfB : sB.Fair)
    (x vA vB : V) (hA : (runS ops r sA x).result = .ok vA) (hB : (runS ops r sB x).result = .ok vB) : vA = vB :=
  run_result_sched_independent ops hm r wf wf2 wf3 sA sB hfA hfB x vA vB hA hB

open EinoV.Engine EinoV.Engine.DagRun in
/-- **dag_outputs_schedule_independent.** … and the node executions that feed the results agree: a
    node that completed in both runs completed with the same output (hence ran on the same input). -/
theorem dag_outputs_schedule_independent {V : Type} (ops : ValOps V) (hm : MergePerm ops) (r : Runner V)
    (wf : DagWF r) (wf2 : DagWF2 r) (wf3 : DagWF3 r) (sA sB : Sched V) (hfA : sA.Fair) (hfB : sB.Fair) (x : V)
    (n : Key) (o o' : V)
    (hA : (n, o) ∈ histOf r x (runS ops r sA x).trace.reverse)
    (hB : (n, o') ∈ histOf r x (runS ops r sB x).trace.reverse) : o = o' :=
  run_outputs_sched_independent ops hm r wf wf2 wf3 sA sB hfA hfB x n o o' hA hB

open EinoV.Engine EinoV.Engine.DagRun in
/-- **compiled_graph_result_schedule_independent.** `dag_result_schedule_independent` with its
    hypotheses discharged (`Proofs/C02CompileWF.lean`): for *every* well-formed acyclic graph
    definition, a permutation-invariant merge, every input and any two fair completion schedules,
    two runs of the compiled graph that both return a value return the same value. -/
theorem compiled_graph_result_schedule_independent {V : Type} (ops : ValOps V) (hm : MergePerm ops)
    (slack : Nat) (g : GraphDef V) (w : GraphDefWF g) (sA sB : Sched V) (hfA : sA.Fair) (hfB : sB.Fair)
    (x vA vB : V) (hA : (runS ops (compile slack g) sA x).result = .ok vA)
    (hB : (runS ops (compile slack g) sB x).result = .ok vB) : vA = vB :=
  have h := compile_wf slack g w
  run_result_sched_independent ops hm _ h.1 h.2.1 h.2.2 sA sB hfA hfB x vA vB hA hB

open EinoV.Engine EinoV.Engine.DagRun in
/-- **compiled_workflow_result_completion_order_independent.** The hypotheses of
    `workflow_result_completion_order_independent` discharged (`Proofs/C02CompileWWF.lean`): for
    *every* well-formed acyclic Workflow definition, a permutation-invariant merge and every input,
    two eager runs under two arbitrary completion orders that both return a value return the same
    value — and it is the value of a batch run under any fair schedule. -/
theorem compiled_workflow_result_completion_order_independent {V : Type} (ops : ValOps V) (hm : MergePerm ops)
    (w : WorkflowDef V) (h : WorkflowDefWF w) (pA pB : Pick V) (sched : Sched V) (hf : sched.Fair) (x vA vB vS : V)
    (hA : (runEager ops (compileW ops w) pA x).result = .ok vA)
    (hB : (runEager ops (compileW ops w) pB x).result = .ok vB)
    (hS : (runS ops (compileW ops w) sched x).result = .ok vS) : vA = vB ∧ vA = vS :=
  have c := compileW_wf ops w h
  ⟨runEager_result_pick_independent ops hm _ c.1 c.2.1 c.2.2 pA pB x vA vB hA hB,
   runEager_agrees_with_batch ops hm _ c.1 c.2.1 c.2.2 pA sched hf x vA vS hA hS⟩

open EinoV.Engine EinoV.Engine.DagRun in
/-- **dag_steps_schedule_independent** (lock step).  Not only the result: *which nodes run in which
    step on which input* does not depend on the completion order.  For a well-formed acyclic
    all-predecessor runner, a permutation-invariant merge, every input and any two fair schedules,
    the `j`-th steps of the two runs — whenever both runs get that far — consist of the same
    tasks (node key and input).  (From justification + completeness + at-most-once + exact inputs of
    each run, by induction on `j`; no simulation of one run by the other.) -/
theorem dag_steps_schedule_independent {V : Type} (ops : ValOps V) (hm : MergePerm ops) (r : Runner V)
    (wf : DagWF r) (wf2 : DagWF2 r) (wf3 : DagWF3 r) (sA sB : Sched V) (hfA : sA.Fair) (hfB : sB.Fair) (x : V)
    (j : Nat) (stA stB : List (Key × V)) (hA : (runS ops r sA x).trace[j]? = some stA)
    (hB : (runS ops r sB x).trace[j]? = some stB) : ∀ t, t ∈ stA ↔ t ∈ stB :=
  run_steps_sched_independent ops hm r wf wf2 wf3 sA sB hfA hfB x j stA stB hA hB

open EinoV.Engine EinoV.Engine.DagRun in
/-- **dag_returning_run_is_not_outlasted.** If a run returns a value, no run under another fair
    schedule executes more steps: it has executed the same tasks by then, so END is enabled, and a
    run never goes on once END is enabled (`C02.dag_returns_as_soon_as_end_is_enabled`).
    (That the other run returns the value too is `dag_success_schedule_independent`.) -/
theorem dag_returning_run_is_not_outlasted {V : Type} (ops : ValOps V) (hm : MergePerm ops) (r : Runner V)
    (wf : DagWF r) (wf2 : DagWF2 r) (wf3 : DagWF3 r) (sA sB : Sched V) (hfA : sA.Fair) (hfB : sB.Fair) (x v : V)
    (hA : (runS ops r sA x).result = .ok v) :
    (runS ops r sB x).trace.length ≤ (runS ops r sA x).trace.length :=
  run_ok_not_outlasted ops hm r wf wf2 wf3 sA sB hfA hfB x v hA

open EinoV.Engine EinoV.Engine.DagRun in
/-- **dag_success_excludes_node_failures.** If a run returns a value, then under every other fair
    schedule every task that is executed succeeds: the other run executes, step by step, tasks the
    returning run executed too (`dag_steps_schedule_independent`, `dag_returning_run_is_not_outlasted`),
    and a run that returns a value has no failed task.  So a schedule-dependent node failure is
    impossible (and neither is a schedule-dependent failure of a scheduling round:
    `dag_success_schedule_independent`). -/
theorem dag_success_excludes_node_failures {V : Type} (ops : ValOps V) (hm : MergePerm ops) (r : Runner V)
    (wf : DagWF r) (wf2 : DagWF2 r) (wf3 : DagWF3 r) (sA sB : Sched V) (hfA : sA.Fair) (hfB : sB.Fair) (x v : V)
    (hA : (runS ops r sA x).result = .ok v) :
    ∀ t, t ∈ (runS ops r sB x).trace.flatten → (outOf r t).isSome = true :=
  run_ok_other_no_node_failure ops hm r wf wf2 wf3 sA sB hfA hfB x v hA

open EinoV.Engine EinoV.Engine.DagRun in
/-- **dag_success_schedule_independent** (the clause at full strength for the batch loop).  For a
    well-formed acyclic all-predecessor runner, a permutation-invariant merge, every input and any
    two fair completion schedules: *if one run returns a value, so does the other, and it is the
    same value.*  Whether a run succeeds does not depend on the completion order either.
    Proof (`Proofs/C02Success.lean`): the two loops are followed in lock step from states whose
    traces agree; a round of the second run cannot fail, because a failing round fails for a reason
    that can be read off the completions (`round_err`: a branch condition of a task that just
    completed fails; END is skipped; an enabled, not yet started node has exactly-routed inputs that
    do not merge) and none of them holds for the first run, whose round did not fail (`round_ok`)
    and which later returns a value (`loop_end_skipped_fails`). -/
theorem dag_success_schedule_independent {V : Type} (ops : ValOps V) (hm : MergePerm ops) (r : Runner V)
    (wf : DagWF r) (wf2 : DagWF2 r) (wf3 : DagWF3 r) (sA sB : Sched V) (hfA : sA.Fair) (hfB : sB.Fair) (x v : V)
    (hA : (runS ops r sA x).result = .ok v) : (runS ops r sB x).result = .ok v :=
  run_success_sched_independent ops hm r wf wf2 wf3 sA sB hfA hfB x v hA

open EinoV.Engine EinoV.Engine.DagRun in
/-- **compiled_graph_success_schedule_independent.** … for every well-formed acyclic graph definition. -/
theorem compiled_graph_success_schedule_independent {V : Type} (ops : ValOps V) (hm : MergePerm ops)
    (slack : Nat) (g : GraphDef V) (w : GraphDefWF g) (sA sB : Sched V) (hfA : sA.Fair) (hfB : sB.Fair) (x v : V)
    (hA : (runS ops (compile slack g) sA x).result = .ok v) : (runS ops (compile slack g) sB x).result = .ok v :=
  have h := compile_wf slack g w
  run_success_sched_independent ops hm _ h.1 h.2.1 h.2.2 sA sB hfA hfB x v hA

open EinoV.Engine EinoV.Engine.DagRun in
/-- **dag_wf3_check_sound.** The executable check of `DagWF3` (evaluated by the C02 oracle on every
    generated all-predecessor case) implies it. -/
theorem dag_wf3_check_sound {V : Type} (r : Runner V) (h : dagWF3b r = true) : DagWF3 r := dagWF3b_sound r h

open EinoV.Engine EinoV.Engine.DagRun in
/-- **workflow_result_completion_order_independent** (engine level, eager loop of Workflows).  Under
    the same hypotheses: two eager runs, one completion at a time under two arbitrary completion
    orders `pA`, `pB`, that both return a value return the same value. -/
theorem workflow_result_completion_order_independent {V : Type} (ops : ValOps V) (hm : MergePerm ops) (r : Runner V)
    (wf : DagWF r) (wf2 : DagWF2 r) (wf3 : DagWF3 r) (pA pB : Pick V) (x vA vB : V)
    (hA : (runEager ops r pA x).result = .ok vA) (hB : (runEager ops r pB x).result = .ok vB) : vA = vB :=
  runEager_result_pick_independent ops hm r wf wf2 wf3 pA pB x vA vB hA hB

open EinoV.Engine EinoV.Engine.DagRun in
/-- **eager_run_agrees_with_batch_run.** … and it is the value the batch loop (wait for all nodes of a
    step) returns under any fair schedule. -/
theorem eager_run_agrees_with_batch_run {V : Type} (ops : ValOps V) (hm : MergePerm ops) (r : Runner V)
    (wf : DagWF r) (wf2 : DagWF2 r) (wf3 : DagWF3 r) (pick : Pick V) (sched : Sched V) (hf : sched.Fair) (x vE vB : V)
    (hE : (runEager ops r pick x).result = .ok vE) (hB : (runS ops r sched x).result = .ok vB) : vE = vB :=
  runEager_agrees_with_batch ops hm r wf wf2 wf3 pick sched hf x vE vB hE hB

/-! ## the run's context becomes done (cancel / deadline) at an arbitrary point

  Model: `Model/C03Cancel.lean`.  The schedules of the task manager are extended by two events:
  `cancel` (the context becomes done; once, at ANY position of the schedule — before the
  submit, between the loop-top check and the start of the executors, while bodies run, inside
  the collector's window …) and `enter t` (the executor of a counted execution reaches its
  first statement).  Three more source facts: `executorDefersFirst` (the hand-off `defer` is
  the first statement of `executor`), `tmIgnoresCtx` (no method of the task manager reads a
  context) and `cancelCheckAtLoopTop` (the run loop looks at the context only in the `select`
  at the top of an iteration). -/

/-- the cancel facts as regenerated from compose/graph_manager.go -/
def genCancelFacts : CancelFacts :=
  { executorDefersFirst := FactsC03.executorDefersFirst }

/-- The regenerated facts are the ones the theorems below are proved for; the two shape facts
    justify the event language: a done context neither enables nor disables a step of the task
    manager (`tmIgnoresCtx`), and the run loop notices it between two iterations only
    (`cancelCheckAtLoopTop`; engine level: `cEager` / `cBatch`). -/
theorem cancel_facts_match :
    genCancelFacts = Expected.C03.cancelFacts ∧ FactsC03.tmIgnoresCtx = true ∧
    FactsC03.cancelCheckAtLoopTop = true := by decide

theorem cancel_facts_good : genCancelFacts.executorDefersFirst = true := by decide

/-- **cancel_keeps_protocol.** Wherever the context becomes done in a schedule, the state of
    the task manager is one the cancel-free protocol reaches too (the `cancel` and `enter`
    steps erased), no execution is dropped, `num` still counts exactly what is running, listed
    or in the channel, and nothing is lost or duplicated in transit: all the theorems about
    `Reachable` states above apply unchanged. -/
theorem cancel_keeps_protocol (needAll : Bool) (c : CSt)
    (h : CReachable genFacts genCancelFacts needAll c) :
    Reachable genFacts needAll c.s ∧ c.dropped = [] ∧
    c.s.num = c.s.running.length + c.s.l.length + c.s.ch.length ∧
    (c.s.got ++ (c.s.ch ++ c.s.l) ++ c.s.running).Perm c.s.submitted := by
  have hb := creachable_base cancel_facts_good h
  have hI := tm_inv_reachable needAll c.s hb.1
  exact ⟨hb.1, hb.2, hI.1, hI.2.2⟩

/-- **cancel_exactly_once.** Every execution that `submit` counted is collected exactly once
    when the counter is back to zero, for every schedule and every position of the cancel. -/
theorem cancel_exactly_once (needAll : Bool) (c : CSt)
    (h : CReachable genFacts genCancelFacts needAll c) (hn : c.s.num = 0) :
    c.s.got.Perm c.s.submitted ∧ c.dropped = [] := by
  have hb := creachable_base cancel_facts_good h
  exact ⟨tm_exactly_once needAll c.s hb.1 hn, hb.2⟩

/-- **cancel_never_hangs.** From any state reachable with a cancel anywhere, every schedule
    without a further `submit` (it may contain the cancel) has at most `cmeasure c` steps;
    while something is outstanding a step of an executor or of the collector is enabled
    (a counted execution can begin, a begun one can finish, the collector can receive or
    re-fill); and when no such step is possible any more the counter is zero, everything
    submitted has been collected exactly once and nothing was dropped.  (The collecting calls
    of the run loop return, whatever the position of the cancel, as soon as the node bodies
    have returned.) -/
theorem cancel_never_hangs (needAll : Bool) (c c' : CSt) (evs : List CEv)
    (h : CReachable genFacts genCancelFacts needAll c) (hns : ∀ e ∈ evs, e.isSubmit = false)
    (hr : crun genFacts genCancelFacts needAll c evs = some c') :
    evs.length + cmeasure c' ≤ cmeasure c ∧
    (c'.s.num ≠ 0 → ∃ e : CEv, e.isSubmit = false ∧ e ≠ .cancel ∧
        (cstep genFacts genCancelFacts needAll c' e).isSome = true) ∧
    ((∀ e : CEv, e.isSubmit = false → e ≠ .cancel →
        cstep genFacts genCancelFacts needAll c' e = none) →
      c'.s.num = 0 ∧ c'.s.got.Perm c'.s.submitted ∧ c'.dropped = []) := by
  have hreach' := creachable_run h hr
  have hI := reachable_inv facts_good (creachable_base cancel_facts_good hreach').1
  refine ⟨crun_measure needAll evs hns hr, cprogress facts_good genCancelFacts needAll hI, fun hstuck => ?_⟩
  have hnum : c'.s.num = 0 := Decidable.byContradiction fun hn => by
    obtain ⟨e, he1, he2, he3⟩ := cprogress facts_good genCancelFacts needAll hI hn
    rw [hstuck e he1 he2] at he3
    cases he3
  exact ⟨hnum, cancel_exactly_once needAll c' hreach' hnum⟩

/-- non-vacuity: batch mode, the cancel lands between the loop-top check and the start of
    the executors (after `submit` has counted two tasks, before either executor begins); the
    run goes on and collects both -/
example :
    ∃ c, crun genFacts genCancelFacts true CSt.init
        [.tm (.submit [1, 2]), .cancel, .enter 2, .enter 1, .tm (.finish 2 false),
         .tm (.finish 1 false), .tm .recv, .tm .refill, .tm .recv, .tm .refill] = some c ∧
      c.ctxDone = true ∧ c.s.num = 0 ∧ c.s.got = [2, 1] ∧ c.dropped = [] :=
  ⟨⟨⟨[], [], [], 0, .idle, [2, 1], [1, 2], []⟩, true, [], []⟩, by decide +kernel, rfl, rfl, rfl, rfl⟩

/-- non-vacuity: a reachable state with the context done, an execution not begun, one inside
    its body and the collector in its window -/
example : CReachable genFacts genCancelFacts false
    ⟨⟨[2, 3], [], [], 2, .window, [1], [1, 2, 3], []⟩, true, [3], []⟩ :=
  ⟨[.tm (.submit [1, 2, 3]), .enter 1, .tm (.finish 1 false), .enter 2, .tm .recv, .cancel], by decide +kernel⟩

/-- **cancel_window_hang_batch.** (negation witness, the shape of seed C03-51)
    `executorDefersFirst := false` — the executor looks at the context above the `defer` and
    returns when it is done: batch mode, two tasks of one step, the context becomes done after
    the loop-top check and before the executors begin.  Both executions are dropped, `waitAll`
    blocks forever with `num = 2`, nothing running and an empty channel. -/
theorem cancel_window_hang_batch :
    ∃ c, crun Expected.C03.facts ⟨false⟩ true CSt.init
          [.tm (.submit [1, 2]), .cancel, .enter 2, .enter 1] = some c ∧
      c.s.num = 2 ∧ c.s.running = [] ∧ c.s.l = [] ∧ c.s.ch = [] ∧ c.s.coll = .idle ∧
      c.dropped = [1, 2] ∧
      (∀ e : CEv, e.isSubmit = false → e ≠ .cancel →
        cstep Expected.C03.facts ⟨false⟩ true c e = none) := by
  refine ⟨⟨⟨[], [], [], 2, .idle, [], [1, 2], []⟩, true, [], [1, 2]⟩, by decide +kernel, rfl, rfl, rfl, rfl,
    rfl, rfl, cstuck_of_idle_empty rfl rfl rfl rfl⟩

/-- **cancel_window_hang_eager.** The same fact, eager mode (Workflow): `waitOne` blocks
    forever with `num = 2`. -/
theorem cancel_window_hang_eager :
    ∃ c, crun Expected.C03.facts ⟨false⟩ false CSt.init
          [.tm (.submit [1, 2]), .cancel, .enter 1, .enter 2] = some c ∧
      c.s.num = 2 ∧ c.s.running = [] ∧ c.s.ch = [] ∧ c.s.coll = .idle ∧ c.dropped = [2, 1] ∧
      (∀ e : CEv, e.isSubmit = false → e ≠ .cancel →
        cstep Expected.C03.facts ⟨false⟩ false c e = none) := by
  refine ⟨⟨⟨[], [], [], 2, .idle, [], [1, 2], []⟩, true, [], [2, 1]⟩, by decide +kernel, rfl, rfl, rfl, rfl,
    rfl, cstuck_of_idle_empty rfl rfl rfl rfl⟩

/-- **cancel_window_hang_single.** The same fact, a single task run synchronously on the
    run-loop goroutine: the inlined call returns to `submit` without a push, the collector is
    idle with `num = 1` and an empty channel.  With the fact of the unchanged tree the three
    schedules go on (example above). -/
theorem cancel_window_hang_single :
    ∃ c, crun Expected.C03.facts ⟨false⟩ true CSt.init
          [.tm (.submit [1]), .cancel, .enter 1] = some c ∧
      c.s.num = 1 ∧ c.s.running = [] ∧ c.s.ch = [] ∧ c.s.coll = .idle ∧ c.dropped = [1] ∧
      (∀ e : CEv, e.isSubmit = false → e ≠ .cancel →
        cstep Expected.C03.facts ⟨false⟩ true c e = none) := by
  refine ⟨⟨⟨[], [], [], 1, .idle, [], [1], []⟩, true, [], [1]⟩, by decide +kernel, rfl, rfl, rfl, rfl, rfl,
    cstuck_of_idle_empty rfl rfl rfl rfl⟩

/-- **cancelled_batch_run_collects_all.** Engine level (reference of the harness family
    `cancel`): a batch run whose context becomes done — before the run, inside a state
    pre-handler, while a body runs, inside a state post-handler, for every graph and
    completion priority — has received every execution it started when it returns (a value or
    the cancellation error). -/
theorem cancelled_batch_run_collects_all (c : CCfg) (hb : c.eager = false) :
    iUncollected (cRun c).st = [] := by
  apply iUncollected_nil_of_covered
  unfold cRun
  simp only [hb, Bool.false_eq_true, if_false]
  exact cBatch_covered c _ _ _ _ _ _ (covered_iInit c.g)

/-- **cancelled_eager_run_one_completion_per_iteration.** An eager run that returns has
    received exactly one completion per iteration of the run loop it entered, wherever the
    context became done: the iteration in which it became done is completed. -/
theorem cancelled_eager_run_one_completion_per_iteration (c : CCfg) (he : c.eager = true)
    (hs : (cRun c).out ≠ .stuck) : (cRun c).steps.length = (cRun c).iters := by
  unfold cRun at hs ⊢
  simp only [he, if_true] at hs ⊢
  exact cEager_steps_len c _ _ _ _ _ 0 [] rfl hs

/-- START → {a, b} → END -/
def cancelCase (eager : Bool) (order : List Key) (a : CancelAt) : CCfg :=
  { g := { nodes := [⟨"a", ["start"]⟩, ⟨"b", ["start"]⟩], endPreds := ["a", "b"], input := "x" }
    eager := eager, order := order, at_ := a }

/-- **cancelled_run_witness.** On START → {a, b} → END with the context becoming done inside
    the state pre-handler of `a` (the window of seed C03-51): the batch run starts and
    collects both nodes and returns the value (END is ready before the next loop-top check);
    the eager run collects one completion and returns the cancellation error with the other
    execution still in flight (the class of the recorded finding: an eager run that returns
    early abandons what is in flight); a context that is done before the run starts nothing. -/
theorem cancelled_run_witness :
    (cRun (cancelCase false ["a", "b"] (.pre "a"))).out = .ok ∧
    (cRun (cancelCase false ["a", "b"] (.pre "a"))).st.done = ["start", "a", "b"] ∧
    (cRun (cancelCase true ["a", "b"] (.pre "a"))).out = .cancelled ∧
    iUncollected (cRun (cancelCase true ["a", "b"] (.pre "a"))).st = ["b"] ∧
    (cRun (cancelCase true ["b", "a"] (.body "b"))).out = .cancelled ∧
    iUncollected (cRun (cancelCase true ["b", "a"] (.body "b"))).st = ["a"] ∧
    (cRun (cancelCase true ["a", "b"] .never)).out = .ok ∧
    (cRun (cancelCase false ["a", "b"] .before)).out = .cancelled ∧
    (cRun (cancelCase false ["a", "b"] .before)).st.started = ["start"] := by decide +kernel

end EinoV.C03
