/-
  Refinement: the code translated from compose/graph_manager.go (Gen/TransMgr.lean, regenerated from
  /repo on every run: the interface `channel` as a sum of `dagChannel | pregelChannel` with generated
  dispatch functions, and `channelManager.{updateValues, updateDependencies, getFromReadyChannels,
  updateAndGet, reportBranch}`) computes what the channel manager of `Model/Engine.lean` computes
  (`updateValues`, `updateDeps`, `getReady`, `reportBranch`).
-/
import EinoV.Gen.TransMgr
import EinoV.Proofs.TransDag
import EinoV.Proofs.TransPregel
import EinoV.Proofs.GoLoop
import EinoV.Proofs.Assoc
import EinoV.Proofs.GoWorkList
namespace EinoV.TransMgr
open EinoV.GoSem EinoV.Engine EinoV.Gen.TransC02 EinoV.Gen.TransC01 EinoV.Gen.TransMgr EinoV.GoWorkList

variable {V : Type} [Inhabited V]
set_option linter.unusedSectionVars false

def chanOf : channel V → Chan V
  | .of_dagChannel x => TransDag.toChan x
  | .of_pregelChannel x => TransPregel.toChan x

/-- the dynamic type: all-predecessor (`dagChannel`) or any-predecessor (`pregelChannel`) -/
def isDag : channel V → Bool
  | .of_dagChannel _ => true
  | .of_pregelChannel _ => false

/-- one entry per predecessor (what `dagChannelBuilder` builds; nothing to say about a pregelChannel) -/
def ChWF : channel V → Prop
  | .of_dagChannel x => TransDag.WF x
  | .of_pregelChannel _ => True

theorem ch_reportValues (ext : Ext V) (ch : channel V) (ins : GoMap V) :
    chanOf (channel_reportValues ext ch ins).1 = (chanOf ch).reportValues (isDag ch) ins ∧
    (channel_reportValues ext ch ins).2 = none ∧
    isDag (channel_reportValues ext ch ins).1 = isDag ch := by
  cases ch with
  | of_dagChannel x =>
    obtain ⟨h1, h2⟩ := TransDag.reportValues_refines ext x ins
    exact ⟨h1, h2, rfl⟩
  | of_pregelChannel x =>
    obtain ⟨h1, h2⟩ := TransPregel.reportValues_refines ext x ins
    exact ⟨h1, h2, rfl⟩

theorem ch_reportDependencies (ext : Ext V) (ch : channel V) (deps : List String) :
    chanOf (channel_reportDependencies ext ch deps) = (chanOf ch).reportDeps (isDag ch) deps ∧
    isDag (channel_reportDependencies ext ch deps) = isDag ch := by
  cases ch with
  | of_dagChannel x => exact ⟨TransDag.reportDependencies_refines ext x deps, rfl⟩
  | of_pregelChannel x => exact ⟨TransPregel.reportDependencies_refines ext x deps, rfl⟩

theorem ch_reportSkip (ext : Ext V) (ch : channel V) (keys : List String) :
    (chanOf (channel_reportSkip ext ch keys).1, (channel_reportSkip ext ch keys).2)
      = (chanOf ch).reportSkip (isDag ch) keys ∧
    isDag (channel_reportSkip ext ch keys).1 = isDag ch := by
  cases ch with
  | of_dagChannel x => exact ⟨TransDag.reportSkip_refines ext x keys, rfl⟩
  | of_pregelChannel x => exact ⟨TransPregel.reportSkip_refines ext x keys, rfl⟩

theorem ch_get (ops : ValOps V) (es : V) (ch : channel V) (isStream : Bool) (h : ChWF ch) :
    chanOf (channel_get (TransDag.extOf ops es) ch isStream).1
      = ((chanOf ch).get (TransDag.opsFor ops es isStream) (isDag ch)).1 ∧
    TransDag.getResult (channel_get (TransDag.extOf ops es) ch isStream).2
      = ((chanOf ch).get (TransDag.opsFor ops es isStream) (isDag ch)).2 ∧
    isDag (channel_get (TransDag.extOf ops es) ch isStream).1 = isDag ch := by
  cases ch with
  | of_dagChannel x =>
    obtain ⟨h1, h2⟩ := TransDag.get_refines ops es x isStream h
    exact ⟨h1, h2, rfl⟩
  | of_pregelChannel x =>
    obtain ⟨h1, h2⟩ := TransPregel.get_refines ops es x isStream
    rw [← get_false_zero ops (TransDag.opsFor ops es isStream).zero] at h1 h2
    exact ⟨h1, h2, rfl⟩

theorem ch_ops_keep_wf (ext : Ext V) (ch : channel V) (h : ChWF ch) :
    (∀ ins, ChWF (channel_reportValues ext ch ins).1) ∧
    (∀ deps, ChWF (channel_reportDependencies ext ch deps)) ∧
    (∀ keys, ChWF (channel_reportSkip ext ch keys).1) := by
  cases ch with
  | of_dagChannel x =>
    exact ⟨fun ins => TransDag.reportValues_wf ext x ins h, fun d => TransDag.reportDependencies_wf ext x d h,
      fun k => TransDag.reportSkip_wf ext x k h⟩
  | of_pregelChannel x => exact ⟨fun _ => trivial, fun _ => trivial, fun _ => trivial⟩

def toChans (m : GoMap (channel V)) : Chans V := m.map (fun p => (p.1, chanOf p.2))

open TransDag (KeysNodup)

theorem akeys_toChans (m : GoMap (channel V)) : akeys (toChans m) = m.map (·.1) :=
  akeys_map_mk Prod.fst (fun p => chanOf p.2) m

theorem alookup_toChans (m : GoMap (channel V)) (k : Key) :
    alookup k (toChans m) = (alookup k m).map chanOf :=
  alookup_map chanOf k m

theorem toChans_set (m : GoMap (channel V)) (k : Key) (v v' : channel V) (f : Chan V → Chan V)
    (hnd : KeysNodup m) (hl : alookup k m = some v) (hf : chanOf v' = f (chanOf v)) :
    toChans (m.set k v') = modChan (toChans m) k f := by
  have hl' : alookup k (toChans m) = some (chanOf v) := by rw [alookup_toChans, hl]; rfl
  rw [modChan_eq_aset _ k _ f (by rw [akeys_toChans]; exact hnd) hl', ← hf]
  exact (aset_map chanOf k v' m).symm

theorem keys_set (m : GoMap (channel V)) (k : Key) (v v' : channel V) (hl : alookup k m = some v) :
    (m.set k v').map (·.1) = m.map (·.1) :=
  TransDag.aset_keys_of_has m k v' (TransDag.mem_keys_has m (k, v) (mem_of_alookup k v m hl))

/-- the static tables of the translated manager say what the model's runner says:
    `dataPredecessors` / `controlPredecessors` (sets) are the runner's predecessor lists, `successors` is
    `getSuccessors` of every node, and every channel is of the runner's kind (`chanBuilder`) -/
structure Rel (r : Runner V) (c : channelManager V) : Prop where
  data : ∀ t f, (c.dataPredecessors.getD' t []).has f = (lookupList t r.dataPreds).contains f
  ctrl : ∀ t f, (c.controlPredecessors.getD' t []).has f = (lookupList t r.ctrlPreds).contains f
  succ : ∀ k, alookup k c.successors = (r.node? k).map Node.successors
  mode : ∀ p ∈ c.channels, isDag p.2 = r.dag

/-- What a method leaves of the manager `c` it was called on: the static tables and the set of keys that have a
    channel; only the channels' contents differ in `c'`.  It carries `Rel r c` over to `c'` (`Rel.frame`) and lets a
    loop look up in `c'` a key known to be in `c` (`Frame.entry`). -/
structure Frame (c c' : channelManager V) : Prop where
  isStream : c'.isStream = c.isStream
  successors : c'.successors = c.successors
  dataP : c'.dataPredecessors = c.dataPredecessors
  ctrlP : c'.controlPredecessors = c.controlPredecessors
  keys : c'.channels.map (·.1) = c.channels.map (·.1)

theorem Frame.refl (c : channelManager V) : Frame c c := ⟨rfl, rfl, rfl, rfl, rfl⟩

theorem Frame.trans {a b c : channelManager V} (h1 : Frame a b) (h2 : Frame b c) : Frame a c :=
  ⟨h2.isStream.trans h1.isStream, h2.successors.trans h1.successors, h2.dataP.trans h1.dataP,
   h2.ctrlP.trans h1.ctrlP, h2.keys.trans h1.keys⟩

theorem Frame.has {c c' : channelManager V} (f : Frame c c') (k : Key) : c'.channels.has k = c.channels.has k :=
  has_of_keys c.channels c'.channels f.keys k

/-- The Go map of channels as the refinement needs it: `nd` distinct keys, without which `m[k] = v'` is not the
    model's `modChan` (`toChans_set`); `mode` every channel of the runner's kind, so that the dispatch on the dynamic
    type takes the model's branch for `dag`; `wf` the hypothesis of `ch_get` (`ChWF`). -/
structure ChansOK (dag : Bool) (m : GoMap (channel V)) : Prop where
  nd : KeysNodup m
  mode : ∀ p ∈ m, isDag p.2 = dag
  wf : ∀ p ∈ m, ChWF p.2

/-- one step of the channel loops: a method call through the reference `c.channels[k]` -/
theorem ChansOK.set {dag : Bool} {m : GoMap (channel V)} (h : ChansOK dag m) (k : Key) (v v' : channel V)
    (hl : alookup k m = some v) (hm : isDag v' = isDag v) (hw : ChWF v → ChWF v') : ChansOK dag (m.set k v') := by
  have hv : (k, v) ∈ m := mem_of_alookup k v m hl
  refine ⟨?_, ?_, ?_⟩
  · exact TransDag.set_keysNodup m k v' (TransDag.mem_keys_has m (k, v) hv) h.nd
  · intro q hq
    rcases mem_aset k v' m q hq with h1 | h1
    · rw [h1]; show isDag v' = dag; rw [hm]; exact h.mode _ hv
    · exact h.mode q h1
  · intro q hq
    rcases mem_aset k v' m q hq with h1 | h1
    · rw [h1]; exact hw (h.wf _ hv)
    · exact h.wf q h1

/-- `c.channels[k] = v'` for a key that has a channel: the other tables and the keys stay -/
theorem Frame.setCh {c c1 : channelManager V} (hfr : Frame c c1) (k : Key) (v v' : channel V)
    (hl : alookup k c1.channels = some v) : Frame c { c1 with channels := c1.channels.set k v' } :=
  ⟨hfr.isStream, hfr.successors, hfr.dataP, hfr.ctrlP, (keys_set _ _ v _ hl).trans hfr.keys⟩

/-- the same step inside a translated method: the manager stays in the frame of the one the method started
    with, and the model sees `modChan` -/
theorem Frame.set {dag : Bool} {c c1 : channelManager V} (hfr : Frame c c1) (hok : ChansOK dag c1.channels)
    (k : Key) (v v' : channel V) (f : Chan V → Chan V) (hl : alookup k c1.channels = some v)
    (hm : isDag v' = isDag v) (hw : ChWF v → ChWF v') (hf : chanOf v' = f (chanOf v)) :
    Frame c { c1 with channels := c1.channels.set k v' } ∧ ChansOK dag (c1.channels.set k v') ∧
    toChans (c1.channels.set k v') = modChan (toChans c1.channels) k f :=
  ⟨hfr.setCh k v v' hl, hok.set k v v' hl hm hw, toChans_set _ k v v' f hok.nd hl hf⟩

theorem Frame.entry {dag : Bool} {c c1 : channelManager V} (hfr : Frame c c1) (hok : ChansOK dag c1.channels)
    {k : Key} (hk : c.channels.has k = true) :
    c1.channels.has k = true ∧ ∃ v, alookup k c1.channels = some v ∧ isDag v = dag := by
  have hk1 := (hfr.has k).trans hk
  obtain ⟨v, hv⟩ := Option.isSome_iff_exists.mp hk1
  exact ⟨hk1, v, hv, hok.mode _ (mem_of_alookup _ _ _ hv)⟩

/-- `ps, ok := m[t]; if !ok { ps = map[string]struct{}{} }`: the empty set stands for a missing entry -/
theorem has_default (m : GoMap (GoMap Unit)) (t : Key) (p : Key → Bool) (h : (m.getD' t []).has = p)
    (hn : (!m.has t) = true) : GoMap.has ([] : GoMap Unit) = p := by
  rw [← h, getD'_of_not_has m t [] (by simpa using hn)]

theorem updateDependencies_refines (ext : Ext V) (mext : MgrExt V) (r : Runner V) (c : channelManager V)
    (deps : GoMap (List String)) (hrel : Rel r c) (hok : ChansOK r.dag c.channels)
    (hpres : ∀ d ∈ deps, c.channels.has d.1 = true) :
    ∃ c', channelManager_updateDependencies ext mext c deps = .ret (c', none) ∧
      toChans c'.channels = updateDeps r (toChans c.channels) deps ∧
      Frame c c' ∧ ChansOK r.dag c'.channels := by
  unfold channelManager_updateDependencies updateDeps
  simp only [forIn_id, Id.run, bind, pure]
  generalize hbody : (fun (x : String × List String) (__s : Option (MayPanic (channelManager V × Option GoErr)) × channelManager V) => _) = body
  have key := goLoop_noret_inv (fun c1 => Frame c c1 ∧ ChansOK r.dag c1.channels)
    (fun d => c.channels.has d.1 = true) (fun c1 => toChans c1.channels) body
    (fun cm (d : Key × List Key) =>
      modChan cm d.1 (fun ch => ch.reportDeps r.dag (d.2.filter (lookupList d.1 r.ctrlPreds).contains)))
    ?_ deps hpres c ⟨Frame.refl c, hok⟩
  · obtain ⟨c', h1, ⟨h2, h3⟩, h4⟩ := key
    exact ⟨c', by rw [h1], h4, h2, h3⟩
  · rintro ⟨t, ds⟩ c1 hq ⟨hfr, hok1⟩
    obtain ⟨hhas, v, hv, hmode⟩ := hfr.entry hok1 hq
    have hcp : (c1.controlPredecessors.getD' t []).has = (lookupList t r.ctrlPreds).contains := by
      rw [hfr.ctrlP]; exact funext (hrel.ctrl t)
    obtain ⟨e1, e2⟩ := ch_reportDependencies ext v (ds.filter (lookupList t r.ctrlPreds).contains)
    obtain ⟨a1, a2, a3⟩ := hfr.set hok1 t v _ (fun ch => ch.reportDeps r.dag (ds.filter (lookupList t r.ctrlPreds).contains))
      hv e2 (fun hw => (ch_ops_keep_wf ext v hw).2.1 _) (by rw [e1, hmode])
    rw [← hbody]
    simp only [hhas, Bool.not_true, Bool.false_eq_true, if_false, GoMap.get?, hv, goLoop_filter_snd, List.nil_append]
    -- `cps, ok := c.controlPredecessors[t]; if !ok { cps = {} }`: either way the filter is the model's
    simp +contextual only [hcp, has_default _ t _ hcp, ite_self]
    exact ⟨_, rfl, ⟨a1, a2⟩, a3⟩

/-- the handler managers of a graph without handlers: the value unchanged, no error -/
def NoHandlers (mext : MgrExt V) : Prop :=
  (∀ f t v s, mext.edgeHandle f t v s = (v, none)) ∧ (∀ t v s, mext.preNodeHandle t v s = (v, none))

theorem updateValues_refines (ext : Ext V) (mext : MgrExt V) (r : Runner V) (c : channelManager V)
    (values : GoMap (GoMap V)) (hrel : Rel r c) (hok : ChansOK r.dag c.channels) (hE : NoHandlers mext)
    (hpres : ∀ w ∈ values, c.channels.has w.1 = true) (hmaps : ∀ w ∈ values, KeysNodup w.2) :
    ∃ c', channelManager_updateValues ext mext c values = .ret (c', none) ∧
      toChans c'.channels = updateValues r (toChans c.channels) values ∧
      Frame c c' ∧ ChansOK r.dag c'.channels := by
  unfold channelManager_updateValues updateValues
  simp only [forIn_id, Id.run, bind, pure]
  generalize hbody : (fun (x : String × GoMap V) (__s : Option (MayPanic (channelManager V × Option GoErr)) × channelManager V) => _) = body
  have key := goLoop_noret_inv (fun c1 => Frame c c1 ∧ ChansOK r.dag c1.channels)
    (fun w => c.channels.has w.1 = true ∧ KeysNodup w.2) (fun c1 => toChans c1.channels) body
    (fun cm (w : Key × List (Key × V)) =>
      modChan cm w.1 (fun ch => ch.reportValues r.dag
        (w.2.filter (fun kv => (lookupList w.1 r.dataPreds).contains kv.1))))
    ?_ values (fun w hw => ⟨hpres w hw, hmaps w hw⟩) c ⟨Frame.refl c, hok⟩
  · obtain ⟨c', h1, ⟨h2, h3⟩, h4⟩ := key
    exact ⟨c', by rw [h1], h4, h2, h3⟩
  · rintro ⟨t, fm⟩ c1 ⟨hq, hfm⟩ ⟨hfr, hok1⟩
    obtain ⟨hhas, v, hv, hmode⟩ := hfr.entry hok1 hq
    have hdp : (c1.dataPredecessors.getD' t []).has = (lookupList t r.dataPreds).contains := by
      rw [hfr.dataP]; exact funext (hrel.data t)
    obtain ⟨e1, _, e2⟩ := ch_reportValues ext v (fm.filter (fun kv => (lookupList t r.dataPreds).contains kv.1))
    obtain ⟨a1, a2, a3⟩ := hfr.set hok1 t v _
      (fun ch => ch.reportValues r.dag (fm.filter (fun kv => (lookupList t r.dataPreds).contains kv.1))) hv e2
      (fun hw => (ch_ops_keep_wf ext v hw).1 _) (by rw [e1, hmode])
    rw [← hbody]
    simp only [hhas, Bool.not_true, Bool.false_eq_true, if_false, GoMap.get?, hv, hE.1, Option.isSome_none,
      goLoop_set_filter _ _ fm _ [] hfm, List.nil_append, fun ins => (ch_reportValues ext v ins).2.1]
    -- `dps, ok := c.dataPredecessors[t]; if !ok { dps = {} }`: either way the filter is the model's
    simp +contextual only [hdp, has_default _ t _ hdp, ite_self]
    exact ⟨_, rfl, ⟨a1, a2⟩, a3⟩

/-- what the Go loop of `getFromReadyChannels` computes when no `get` fails -/
def goOuts (ext : Ext V) (s : Bool) (l : GoMap (channel V)) : GoMap V :=
  l.filterMap (fun p => if (channel_get ext p.2 s).2.2.1 then some (p.1, (channel_get ext p.2 s).2.1) else none)

theorem goOuts_keys (ext : Ext V) (s : Bool) (l : GoMap (channel V)) (k : Key)
    (h : k ∈ (goOuts ext s l).map (·.1)) : k ∈ l.map (·.1) := by
  obtain ⟨q, hq, rfl⟩ := List.mem_map.mp h
  obtain ⟨p, hp, hpq⟩ := List.mem_filterMap.mp hq
  split at hpq
  · cases hpq; exact List.mem_map_of_mem hp
  · cases hpq

theorem ch_get_eq (ops : ValOps V) (es : V) (ch : channel V) (s : Bool) (h : ChWF ch) :
    (chanOf ch).get (TransDag.opsFor ops es s) (isDag ch)
      = (chanOf (channel_get (TransDag.extOf ops es) ch s).1, TransDag.getResult (channel_get (TransDag.extOf ops es) ch s).2) := by
  obtain ⟨h1, h2, _⟩ := ch_get ops es ch s h
  exact Prod.ext h1.symm h2.symm

theorem toChans_cons (k : Key) (ch : channel V) (m : GoMap (channel V)) :
    toChans ((k, ch) :: m) = (k, chanOf ch) :: toChans m := rfl

theorem toChans_snoc (pre : GoMap (channel V)) (k : Key) (ch : channel V) (X : Chans V) :
    toChans (pre ++ [(k, ch)]) ++ X = toChans pre ++ (k, chanOf ch) :: X := by
  simp [toChans]

theorem chWF_get (ops : ValOps V) (es : V) (ch : channel V) (s : Bool) (h : ChWF ch) :
    ChWF (channel_get (TransDag.extOf ops es) ch s).1 := by
  cases ch with
  | of_pregelChannel x => trivial
  | of_dagChannel x => exact TransDag.get_wf ops es x s h

/-- `getFromReadyChannels` against the model's `getReady` (for a manager without pre-node handlers):
    no `get` fails exactly when the model reports no merge error, and then the channels and the map of
    ready values are the model's; a failing `get` makes the function return an error and a nil map
    (the Go loop stops there, the model resets the remaining channels too: the run is over) -/
theorem getFromReadyChannels_refines (ops : ValOps V) (es : V) (mext : MgrExt V) (dag : Bool)
    (c : channelManager V) (hok : ChansOK dag c.channels) (hE : NoHandlers mext) :
    let g := getReady (TransDag.opsFor ops es c.isStream) dag (toChans c.channels)
    let res := channelManager_getFromReadyChannels (TransDag.extOf ops es) mext c
    (g.2.2 = false → toChans res.1.channels = g.1 ∧ res.2.1 = g.2.1 ∧ res.2.2 = none ∧
        Frame c res.1 ∧ ChansOK dag res.1.channels) ∧
    (g.2.2 = true → res.2.2.isSome = true ∧ res.2.1 = []) := by
  intro g res
  have hres : res = channelManager_getFromReadyChannels (TransDag.extOf ops es) mext c := rfl
  unfold channelManager_getFromReadyChannels at hres
  simp only [forIn_id, Id.run, bind, pure, hE.2, Option.isSome_none, Bool.false_eq_true, if_false] at hres
  generalize hbody : (fun (x : String × channel V) st => _) = body at hres
  -- the model's answer is what has been done so far, followed by the model's answer on what is to come
  refine goLoop_visit (f := body) (Q := fun s => ∀ res, res = onReturn s.1 id (s.2.1, s.2.2, none) →
      (g.2.2 = false → toChans res.1.channels = g.1 ∧ res.2.1 = g.2.1 ∧ res.2.2 = none ∧
        Frame c res.1 ∧ ChansOK dag res.1.channels) ∧
      (g.2.2 = true → res.2.2.isSome = true ∧ res.2.1 = [])) (fun s => s.2.1.channels)
    (fun pre rest s => s.1 = none ∧ Frame c s.2.1 ∧ ChansOK dag s.2.1.channels ∧
      (∀ k ∈ akeys s.2.2, k ∈ akeys pre) ∧
      g = (toChans pre ++ (getReady (TransDag.opsFor ops es c.isStream) dag (toChans rest)).1,
           s.2.2 ++ (getReady (TransDag.opsFor ops es c.isStream) dag (toChans rest)).2.1,
           (getReady (TransDag.opsFor ops es c.isStream) dag (toChans rest)).2.2))
    ?_ ?_ c.channels [] (none, c, []) rfl hok.nd
    ⟨rfl, Frame.refl c, hok, fun _ h => (by cases h), rfl⟩ res hres
  · rintro pre k ch rest ⟨o, c1, res⟩ hm ⟨ho, hfr, hok1, hres, hg⟩ hk hset
    simp only at hm ho hfr hok1 hres hg hset; subst ho
    have hl : alookup k c1.channels = some ch := alookup_of_mem_nodup _ hok1.nd k ch (by rw [hm]; simp)
    have hwf : ChWF ch := hok1.wf _ (mem_of_alookup _ _ _ hl)
    have hget := ch_get_eq ops es ch c.isStream hwf
    rw [hok1.mode _ (mem_of_alookup _ _ _ hl)] at hget
    have hok' := hok1.set k ch _ hl (ch_get ops es ch c.isStream hwf).2.2 (fun _ => chWF_get ops es ch c.isStream hwf)
    rw [toChans_cons, getReady_cons, hget] at hg
    simp only [TransDag.getResult] at hg
    have hfr' : Frame c { c1 with isStream := c.isStream, channels := c1.channels.set k (channel_get (TransDag.extOf ops es) ch c.isStream).1 } :=
      hfr.isStream ▸ hfr.setCh k ch _ hl
    have hfresh : k ∉ akeys res := fun h => hk (hres k h)
    rw [← hbody]
    simp only [hfr.isStream, stepTo_ite_Id, stepTo_done, stepTo_yield]
    refine ⟨fun herr => ?_, fun herr => ⟨fun hr => ⟨_, hset _, trivial, hfr', hok', ?_, ?_⟩,
      fun hr => ⟨_, hset _, trivial, hfr', hok', ?_, ?_⟩⟩⟩
    · simp only [herr, if_true] at hg
      rintro _ rfl
      exact ⟨fun h => (by rw [hg] at h; cases h), fun _ => ⟨rfl, rfl⟩⟩
    · intro k' hk'
      simp only [GoMap.set, aset_append_new _ _ _ hfresh, akeys, List.map_append, List.map_cons, List.map_nil,
        List.mem_append, List.mem_singleton] at hk' ⊢
      exact hk'.imp (hres k') id
    · simp only [herr, hr, if_true, Bool.false_eq_true, if_false] at hg
      simp only [hg, GoMap.set, aset_append_new _ _ _ hfresh, toChans_snoc, List.append_assoc, List.singleton_append]
    · exact fun k' hk' => by simp only [akeys, List.map_append, List.mem_append]; exact Or.inl (hres k' hk')
    · simp only [herr, hr, Bool.false_eq_true, if_false] at hg
      simp only [hg, toChans_snoc]
  · rintro ⟨o, c1, res⟩ ⟨ho, hfr, hok1, _, hg⟩ _ rfl
    simp only [toChans, List.map_nil, getReady, List.append_nil] at ho hfr hok1 hg
    subst ho
    exact ⟨fun _ => ⟨by rw [hg]; rfl, by rw [hg]; rfl, rfl, hfr, hok1⟩, fun h => (by rw [hg] at h; cases h)⟩

theorem Rel.frame {r : Runner V} {c c' : channelManager V} (h : Rel r c) (f : Frame c c')
    (hm : ∀ p ∈ c'.channels, isDag p.2 = r.dag) : Rel r c' :=
  ⟨by rw [f.dataP]; exact h.data, by rw [f.ctrlP]; exact h.ctrl, by rw [f.successors]; exact h.succ, hm⟩

/-- `updateAndGet` is the model's `updateValues`, then `updateDeps`, then `getReady` (the channel part of
    `calcNext`), for a manager without handlers, when every addressed channel exists -/
theorem updateAndGet_refines (ops : ValOps V) (es : V) (mext : MgrExt V) (r : Runner V) (c : channelManager V)
    (values : GoMap (GoMap V)) (deps : GoMap (List String))
    (hrel : Rel r c) (hok : ChansOK r.dag c.channels) (hE : NoHandlers mext)
    (hpv : ∀ w ∈ values, c.channels.has w.1 = true) (hmaps : ∀ w ∈ values, KeysNodup w.2)
    (hpd : ∀ d ∈ deps, c.channels.has d.1 = true) :
    let g := getReady (TransDag.opsFor ops es c.isStream) r.dag
      (updateDeps r (updateValues r (toChans c.channels) values) deps)
    ∃ res, channelManager_updateAndGet (TransDag.extOf ops es) mext c values deps = .ret res ∧
      (g.2.2 = false → toChans res.1.channels = g.1 ∧ res.2.1 = g.2.1 ∧ res.2.2 = none ∧
        Frame c res.1 ∧ ChansOK r.dag res.1.channels) ∧
      (g.2.2 = true → res.2.2.isSome = true ∧ res.2.1 = []) := by
  intro g
  obtain ⟨c1, e1, t1, f1, ok1⟩ := updateValues_refines (TransDag.extOf ops es) mext r c values hrel hok hE hpv hmaps
  have hrel1 : Rel r c1 := hrel.frame f1 ok1.mode
  obtain ⟨c2, e2, t2, f2, ok2⟩ := updateDependencies_refines (TransDag.extOf ops es) mext r c1 deps hrel1 ok1
    (fun d hd => by rw [f1.has]; exact hpd d hd)
  have hg := getFromReadyChannels_refines ops es mext r.dag c2 ok2 hE
  have hs : c2.isStream = c.isStream := by rw [f2.isStream, f1.isStream]
  simp only [hs, t2, t1] at hg
  unfold channelManager_updateAndGet
  simp only [Id.run, pure, e1, e2, Option.isSome_none, Bool.false_eq_true, if_false]
  refine ⟨_, rfl, fun hb => ?_, fun hb => ?_⟩
  · obtain ⟨a1, a2, a3, a4, a5⟩ := hg.1 hb
    exact ⟨a1, a2, a3, (f1.trans f2).trans a4, a5⟩
  · exact hg.2 hb

abbrev RB (V : Type) := MayPanic (channelManager V × Option GoErr)

theorem skipOne_fst (dag : Bool) {cm : Chans V} (hnd : (akeys cm).Nodup) (s from_ : Key) :
    (skipOne dag cm s from_).1 = modChan cm s (fun c => (c.reportSkip dag [from_]).1) := by
  cases dag with
  | false => exact (modChan_id cm s).symm
  | true =>
    refine skipOne_elim (motive := fun cm' _ => cm' = _) hnd s from_ (fun h => ?_) (fun _ _ => rfl)
    exact (modChan_not_mem cm s _ fun hk => (exists_of_mem_akeys s cm hk).elim h).symm

theorem skip_step (ext : Ext V) (dag : Bool) (m : GoMap (channel V)) (s k : Key) (e : channel V)
    (hok : ChansOK dag m) (he : alookup s m = some e) :
    toChans (m.set s (channel_reportSkip ext e [k]).1) = (goSkipOne dag (toChans m) s k).1 ∧
    (channel_reportSkip ext e [k]).2 = (goSkipOne dag (toChans m) s k).2 ∧
    ChansOK dag (m.set s (channel_reportSkip ext e [k]).1) := by
  obtain ⟨h1, h2⟩ := ch_reportSkip ext e [k]
  have hmode : isDag e = dag := hok.mode _ (mem_of_alookup _ _ _ he)
  rw [hmode] at h1
  have hl : alookup s (toChans m) = some (chanOf e) := by rw [alookup_toChans, he]; rfl
  have e1 : chanOf (channel_reportSkip ext e [k]).1 = ((chanOf e).reportSkip dag [k]).1 := by rw [← h1]
  have e2 : (channel_reportSkip ext e [k]).2 = ((chanOf e).reportSkip dag [k]).2 := by rw [← h1]
  refine ⟨?_, ?_, hok.set s e _ he h2 (fun hw => (ch_ops_keep_wf ext e hw).2.2 [k])⟩
  · rw [goSkipOne, skipOne_fst dag (by rw [akeys_toChans]; exact hok.nd)]
    exact toChans_set m s e _ _ hok.nd he e1
  · simp only [goSkipOne, hl, e2]

/-- both `reportSkip` loops of the translated `reportBranch` -/
theorem skipLoop_spec (ext : Ext V) (dag : Bool) (k : Key)
    (body : String → Option (RB V) × channelManager V × List String →
      ForInStep (Option (RB V) × channelManager V × List String))
    (hb : ∀ s st e, st.2.1.channels.get? s = some e → body s st =
      if (channel_reportSkip ext e [k]).2 = true then
        ForInStep.yield (none, { st.2.1 with channels := st.2.1.channels.set s (channel_reportSkip ext e [k]).1 }, st.2.2 ++ [s])
      else
        ForInStep.yield (none, { st.2.1 with channels := st.2.1.channels.set s (channel_reportSkip ext e [k]).1 }, st.2.2))
    (l : List Key) (c1 : channelManager V) (q : List Key) (hok : ChansOK dag c1.channels)
    (hpres : ∀ s ∈ l, c1.channels.has s = true) :
    ∃ c2, goLoop body l (none, c1, q) = (none, c2, (l.foldl (goSkipStep dag k) (toChans c1.channels, q)).2) ∧
      toChans c2.channels = (l.foldl (goSkipStep dag k) (toChans c1.channels, q)).1 ∧
      Frame c1 c2 ∧ ChansOK dag c2.channels := by
  have key := goLoop_noret_inv
    (fun (s : channelManager V × List String) => Frame c1 s.1 ∧ ChansOK dag s.1.channels)
    (fun s => c1.channels.has s = true) (fun s => (toChans s.1.channels, s.2)) body (goSkipStep dag k) ?_ l hpres (c1, q)
    ⟨Frame.refl c1, hok⟩
  · obtain ⟨⟨c2, q2⟩, h1, ⟨h2, h3⟩, h4⟩ := key
    exact ⟨c2, by rw [h1, ← h4], by rw [← h4], h2, h3⟩
  · rintro s ⟨c, q⟩ hs ⟨hfr, hok'⟩
    obtain ⟨_, e, he, _⟩ := hfr.entry hok' hs
    obtain ⟨s1, s2, s3⟩ := skip_step ext dag c.channels s k e hok' he
    have hfr' := hfr.setCh s e (channel_reportSkip ext e [k]).1 he
    rw [hb s (none, c, q) e he]
    simp only [goSkipStep, ← s1, ← s2]
    by_cases hr : (channel_reportSkip ext e [k]).2 = true
    · exact ⟨_, if_pos hr, ⟨hfr', s3⟩, by simp only [hr, if_true]⟩
    · exact ⟨_, if_neg hr, ⟨hfr', s3⟩, by simp only [hr, Bool.false_eq_true, if_false]⟩

/-- every key the work list can address has a channel (no nil dereference) -/
def SuccClosed (c : channelManager V) : Prop :=
  ∀ k succs, alookup k c.successors = some succs → ∀ s ∈ succs, c.channels.has s = true

/-- the translated `reportBranch` computes Go's work list on the model's channels, exactly, for every fuel
    with which that work list is exhausted (or hits the "unknown node" error); no nil dereference when every
    addressed key has a channel -/
theorem reportBranch_go (ext : Ext V) (mext : MgrExt V) (r : Runner V) (c : channelManager V) (fuel : Nat)
    (from_ : Key) (sk : List Key) (hrel : Rel r c) (hok : ChansOK r.dag c.channels) (hcl : SuccClosed c)
    (hsk : ∀ s ∈ sk, c.channels.has s = true) (res : Except Err (Chans V))
    (hgo : goWL r fuel (sk.foldl (goSkipStep r.dag from_) (toChans c.channels, [])).1
      (sk.foldl (goSkipStep r.dag from_) (toChans c.channels, [])).2 0 = some res) :
    ∃ c' e, channelManager_reportBranch ext mext fuel c from_ sk = .ret (c', e) ∧
      match (generalizing := false) res with
      | .ok cm' => e = none ∧ toChans c'.channels = cm' ∧ Frame c c' ∧ ChansOK r.dag c'.channels
      | .error _ => e = some (GoErr.mk "unknown node: %s") := by
  unfold channelManager_reportBranch
  simp only [forIn_id, Id.run, bind, pure]
  generalize hb1 : (fun (node : String) (__s : Option (RB V) × channelManager V × List String) => _) = body1
  generalize hwb : (fun (_ : Nat) (__s : Option (RB V) × channelManager V × List String × Nat) => _) = wbody
  obtain ⟨c1, g1, g2, g3, g4⟩ := skipLoop_spec ext r.dag from_ body1
    (by intro s st e he; rw [← hb1]; simp only [he]) sk c [] hok hsk
  rw [g1]
  simp only
  rw [← g2, ← List.length_range (n := fuel)] at hgo
  -- the Go work list on the model's channels, with as much fuel as there are rounds to come
  refine goLoop_rule (f := wbody)
    (fun rest st => st.1 = none ∧ Frame c st.2.1 ∧ ChansOK r.dag st.2.1.channels ∧
      goWL r rest.length (toChans st.2.1.channels) st.2.2.1 st.2.2.2 = some res)
    (Q := fun st => ∃ c' e, onReturn st.1 id (.ret (st.2.1, none)) = MayPanic.ret (c', e) ∧
      match (generalizing := false) res with
      | .ok cm' => e = none ∧ toChans c'.channels = cm' ∧ Frame c c' ∧ ChansOK r.dag c'.channels
      | .error _ => e = some (GoErr.mk "unknown node: %s"))
    ?_ ?_ (List.range fuel) (none, c1, _, 0) ⟨rfl, g3, g4, hgo⟩
  · rintro _ rest ⟨o, c1, nKeys, i⟩ ⟨ho, hfr, hok1, h⟩
    simp only at ho hfr hok1 h; subst ho
    simp only [List.length_cons, goWL] at h
    have hsucc : alookup (nKeys.getD i "") c1.successors = (r.node? (nKeys.getD i "")).map Node.successors := by
      rw [hfr.successors]; exact hrel.succ _
    rw [← hwb]
    -- the `if`s of the body are the three cases; its look-ups in `successors` are the runner's `node?`
    simp only [stepTo_ite_Id, stepTo_done, GoMap.has, GoMap.getD', hsucc, Bool.not_eq_true', decide_eq_false_iff_not,
      Bool.not_eq_false, Decidable.not_not]
    refine ⟨fun hi => ?_, fun hi => ?_⟩
    · rw [if_neg hi] at h
      cases h
      exact ⟨_, _, rfl, rfl, rfl, hfr, hok1⟩
    · rw [if_pos hi] at h
      cases hn : r.node? (nKeys.getD i "") with
      | none =>
        rw [hn] at h
        cases h
        exact ⟨fun _ => ⟨_, _, rfl, rfl⟩, fun hh => nomatch hh⟩
      | some n =>
        rw [hn] at h
        refine ⟨fun hh => (nomatch hh), fun _ => ?_⟩
        simp only [Option.map_some, Option.getD_some]
        generalize hL : (fun (successor : String) (st' : Option (RB V) × channelManager V × List String) => _) = L
        obtain ⟨c2, e1, e2, e3, e4⟩ := skipLoop_spec ext r.dag (nKeys.getD i "") L
          (by intro s st' e he; rw [← hL]; simp only [he]) n.successors c1 nKeys hok1 (fun s hs => by
            rw [hfr.has]
            exact hcl _ n.successors (by rw [← hfr.successors, hsucc, hn]; rfl) s hs)
        rw [e1]
        exact ⟨rfl, hfr.trans e3, e4, by rw [e2]; exact h⟩
  · rintro ⟨o, c1, nKeys, i⟩ ⟨ho, hfr, hok1, h⟩
    simp only [List.length_nil, goWL] at ho hfr hok1 h
    subst ho
    split at h
    · cases h
    · simp only [Option.some.injEq] at h; subst h
      exact ⟨_, _, rfl, rfl, rfl, hfr, hok1⟩

/-- **`reportBranch` refines the model's `reportBranch`** (`skipOne` / `skipStep` / `propagateSkips`).
    For every fuel with which Go's work list runs to completion (`goReportBranch … = some _`: the Go loop
    itself has no fuel), the translated function does not panic and returns what the model returns: the
    model's channels with a nil error, or the error "unknown node" exactly when the model reports
    `endSkipped`.  Hypotheses: the static tables agree (`Rel`); one channel per key, all of the runner's kind
    (`ChansOK`); every successor and every skipped node has a channel (`SuccClosed`, `hsk`: no nil
    dereference); a skipped channel has all control predecessors skipped (`AllSkImp`) and has passed its
    skip on (`SkipClosed`) — both hold initially and are kept by `reportBranch`. -/
theorem reportBranch_refines (ext : Ext V) (mext : MgrExt V) (r : Runner V) (c : channelManager V) (fuel : Nat)
    (from_ : Key) (sk : List Key) (hrel : Rel r c) (hok : ChansOK r.dag c.channels) (hcl : SuccClosed c)
    (hsk : ∀ s ∈ sk, c.channels.has s = true)
    (hsi : AllSkImp (toChans c.channels)) (hsc : SkipClosed r (toChans c.channels))
    (hlen : c.channels.length ≤ (r.nodes.length + 2) * (r.nodes.length + 2))
    (R : Except Err (Chans V)) (hgo : goReportBranch r fuel (toChans c.channels) from_ sk = some R) :
    reportBranch r (toChans c.channels) from_ sk = R ∧
    ∃ c' e, channelManager_reportBranch ext mext fuel c from_ sk = .ret (c', e) ∧
      match (generalizing := false) R with
      | .ok cm' => e = none ∧ toChans c'.channels = cm' ∧ Frame c c' ∧ ChansOK r.dag c'.channels ∧
          (r.dag = true → AllSkImp cm' ∧ SkipClosed r cm')
      | .error _ => e = some (GoErr.mk "unknown node: %s") := by
  have hnd : (akeys (toChans c.channels)).Nodup := by rw [akeys_toChans]; exact hok.nd
  obtain ⟨m1, m2⟩ := goReportBranch_eq r fuel (toChans c.channels) from_ sk R hnd hsi hsc
    (by simpa [toChans] using hlen) hgo
  refine ⟨m1, ?_⟩
  obtain ⟨c', e, t1, t2⟩ := reportBranch_go ext mext r c fuel from_ sk hrel hok hcl hsk R hgo
  refine ⟨c', e, t1, ?_⟩
  cases R with
  | ok cm' =>
    obtain ⟨a1, a2, a3, a4⟩ := t2
    exact ⟨a1, a2, a3, a4, fun hd => (m2 cm' rfl hd).2⟩
  | error er => exact t2

/-- **`reportBranch` refines the model's `reportBranch`, unconditionally for acyclic graphs**: the Go loop
    terminates (there is a fuel `N` from which on the translated loop exhausts its work list), and for every
    such fuel the translated function does not panic and returns the model's channels with a nil error, or
    the error "unknown node" exactly when the model reports `endSkipped`. -/
theorem reportBranch_total (ext : Ext V) (mext : MgrExt V) (r : Runner V) (c : channelManager V)
    (from_ : Key) (sk : List Key) (hrel : Rel r c) (hok : ChansOK r.dag c.channels) (hcl : SuccClosed c)
    (hsk : ∀ s ∈ sk, c.channels.has s = true)
    (hsi : AllSkImp (toChans c.channels)) (hsc : SkipClosed r (toChans c.channels))
    (hlen : c.channels.length ≤ (r.nodes.length + 2) * (r.nodes.length + 2))
    (rank : Key → Nat) (hacyc : r.dag = true → ∀ n ∈ r.nodes, ∀ s ∈ n.successors, rank n.key < rank s) :
    ∃ N, ∀ fuel, N ≤ fuel →
      ∃ c' e, channelManager_reportBranch ext mext fuel c from_ sk = .ret (c', e) ∧
        match reportBranch r (toChans c.channels) from_ sk with
        | .ok cm' => e = none ∧ toChans c'.channels = cm' ∧ Frame c c' ∧ ChansOK r.dag c'.channels ∧
            (r.dag = true → AllSkImp cm' ∧ SkipClosed r cm')
        | .error _ => e = some (GoErr.mk "unknown node: %s") := by
  obtain ⟨N, hN⟩ := goReportBranch_terminates r rank hacyc (toChans c.channels) from_ sk
  refine ⟨N, fun fuel hf => ?_⟩
  obtain ⟨R, hR⟩ := hN fuel hf
  obtain ⟨h1, c', e, h2, h3⟩ := reportBranch_refines ext mext r c fuel from_ sk hrel hok hcl hsk hsi hsc hlen R hR
  rw [h1]
  exact ⟨c', e, h2, h3⟩

/-- any-predecessor mode: `reportBranch` changes no channel and returns nil, for every fuel (`reportSkip` of
    a pregelChannel returns false: nothing is ever appended to the work list) -/
theorem reportBranch_pregel (ext : Ext V) (mext : MgrExt V) (r : Runner V) (c : channelManager V) (fuel : Nat)
    (from_ : Key) (sk : List Key) (hd : r.dag = false) (hrel : Rel r c) (hok : ChansOK r.dag c.channels)
    (hcl : SuccClosed c) (hsk : ∀ s ∈ sk, c.channels.has s = true) :
    reportBranch r (toChans c.channels) from_ sk = .ok (toChans c.channels) ∧
    ∃ c', channelManager_reportBranch ext mext fuel c from_ sk = .ret (c', none) ∧
      toChans c'.channels = toChans c.channels ∧ Frame c c' ∧ ChansOK r.dag c'.channels := by
  constructor
  · exact Engine.reportBranch_pregel r hd _ from_ sk
  · obtain ⟨c', e, t1, t2⟩ := reportBranch_go ext mext r c fuel from_ sk hrel hok hcl hsk _
      (goReportBranch_pregel r hd fuel (toChans c.channels) from_ sk)
    obtain ⟨rfl, a2, a3, a4⟩ := t2
    exact ⟨c', t1, a2, a3, a4⟩

end EinoV.TransMgr
