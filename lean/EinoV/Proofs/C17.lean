/-
  C17 — the tools node (Model/C17.lean): the lemmas behind Props/C17.lean.  They hold for any `F : Facts`
  with `F.Good` (plus `F.handlerConsulted = true` where tasks are generated); Props/C17.lean applies them
  to `genFacts`, the record it builds from Gen/FactsC17.lean, i.e. what the fact generator finds in
  /repo's compose/tool_node.go.  In file order:
  * from `mapM_congr'`: `mapM` into `Except` over a list and over `List.range n`.
  * from `Facts.Good`: the invariant `Inv` over the completed runners, kept by `finish`; for every
    completion order the run concludes as the by-index specification `specRun` (`conclude_runAll`).
  * from `taskFor`: task generation; `invoke` / `stream` on an assistant message whose names all
    resolve are `specRun` over `calls.map (taskFor g)` (`invoke_eq_spec`, `stream_eq_spec`).
  * from `specRun_of_no_inline_panic`: the clauses of `specRun`.
  * from `joinS_singleton`: every interleaving of the sparse chunk streams concatenates position by
    position to the per-tool concatenations (`collect_interleaving`), and the oracle's executable merge
    yields such an interleaving (`mergeBy_interleaving`).
  * from `Coherent`: the hypotheses of the theorems of Props/C17.lean (`Coherent`, `answerI` / `answerS`)
    turned into what the lemmas above take; from `genTasks_length`: `invoke` / `stream` as `specRun` for
    any role flag and any names (`stream_cases`), and the failure clauses on `specRun`.
-/
import EinoV.Model.C17
import EinoV.Proofs.Monadic

namespace EinoV.C17

theorem mapM_congr' {ε α β : Type} {f g : α → Except ε β} :
    ∀ (l : List α), (∀ x ∈ l, f x = g x) → l.mapM f = l.mapM g
  | [], _ => rfl
  | x :: xs, h => by
    simp only [List.mapM_cons]
    rw [h x (by simp), mapM_congr' xs (fun y hy => h y (by simp [hy]))]

/-- `mapM` of an `f` that is `.ok (g x)` on every element is `map g`.  Not the lemma of the same short name
    in Proofs/Monadic.lean (`EinoV.mapM_ok_map`: a successful `mapM` whose `f` preserves keys preserves the
    list of keys); inside this namespace the bare name is this one. -/
theorem mapM_ok_map {ε α β : Type} {f : α → Except ε β} {g : α → β} :
    ∀ (l : List α), (∀ x ∈ l, f x = .ok (g x)) → l.mapM f = .ok (l.map g) :=
  fun l h => (mapM_congr' l h).trans List.mapM_pure

theorem mapM_first_error {ε α β : Type} {f : α → Except ε β} {e : ε} :
    ∀ (pre : List α) (x : α) (post : List α), (∀ y ∈ pre, ∃ b, f y = .ok b) → f x = .error e →
      (pre ++ x :: post).mapM f = .error e := by
  intro pre x post hpre hx
  obtain ⟨bs, hbs⟩ := mapM_ok_of_forall f pre hpre
  rw [mapM_append_ok, hbs, mapM_cons_error.mpr (.inl hx)]
  rfl

/-- `EinoV.mapM_error_mem` of Proofs/Monadic.lean under the same short name, with `f` and `e` implicit
    (the form `specRun_err_is_tool` applies). -/
theorem mapM_error_mem {ε α β : Type} {f : α → Except ε β} {e : ε} :
    ∀ (l : List α), l.mapM f = .error e → ∃ x ∈ l, f x = .error e :=
  fun l => EinoV.mapM_error_mem f l e

theorem mapM_range_ok {ε β : Type} {f : Nat → Except ε β} {g : Nat → β} (n : Nat)
    (h : ∀ i, i < n → f i = .ok (g i)) : (List.range n).mapM f = .ok ((List.range n).map g) :=
  mapM_ok_map _ (fun x hx => h x (by simpa using hx))

theorem mapM_range_error {ε β : Type} {f : Nat → Except ε β} {e : ε} {j n : Nat}
    (hj : j < n) (h : ∀ i, i < j → ∃ b, f i = .ok b) (he : f j = .error e) :
    (List.range n).mapM f = .error e := by
  obtain ⟨k, rfl⟩ : ∃ k, n = j + (k + 1) := ⟨n - j - 1, by omega⟩
  rw [List.range_add, List.range_succ_eq_map, List.map_cons]
  exact mapM_first_error _ _ _ (fun y hy => h y (by simpa using hy)) he

theorem mapM_range_list_ok {ε γ β : Type} {f : Nat → Except ε β} {w : γ → β} (l : List γ)
    (h : ∀ i (h : i < l.length), f i = .ok (w l[i])) :
    (List.range l.length).mapM f = .ok (l.map w) := by
  obtain ⟨ys, hys⟩ := mapM_ok_of_forall f (List.range l.length) fun i hi => ⟨_, h i (List.mem_range.1 hi)⟩
  obtain ⟨hlen, hget⟩ := mapM_ok_get f _ ys hys
  rw [hys]
  congr 1
  apply List.ext_getElem
  · simp [hlen]
  · intro i h1 h2
    have hi : i < l.length := by simpa using h2
    have := hget i (by simpa using hi) h1
    rw [List.getElem_range, h i hi] at this
    simpa using (Except.ok.inj this).symm

/-- The values of the three facts the run reads (`RunState.init` / `store`, `finish`, `target`) under which
    its outcome does not depend on the completion order (`conclude_runAll`).  Props/C17.lean proves it of
    the generated facts (`genFacts_good`) and has one witness per clause of what goes wrong without it:
    `append_order_breaks`, `no_recover_crashes`, `captured_loop_variable_breaks`. -/
def Facts.Good (F : Facts) : Prop :=
  F.storeByIndex = true ∧ F.goroutineRecovers = true ∧ F.taskPassedAsArg = true

/-- what runner `i` leaves in its slot (under `Facts.Good`).  Runner 0 is the call `run(ctx, &tasks[0], …)`
    that `parallelRunToolCall` makes on the caller's own goroutine, after the `go` statements for
    1..n-1, with no recover around it: its panic writes no slot (`finish` keeps it in `escaped`).  A
    goroutine's deferred recover stores the panic as the task's error. -/
def settle {α : Type} (i : Nat) : Out α → Option (Except ToolErr α)
  | .ok a => some (.ok a)
  | .err e => some (.error e)
  | .panic p => if i == 0 then none else some (.error (.panicked p))

/-- invariant of the run: `S` = the runners that have completed so far -/
structure Inv {α : Type} (exec : Nat → Out α) (n : Nat) (st : RunState α) (S : List Nat) : Prop where
  len : st.slots.length = n
  crashed : st.crashed = false
  slot : ∀ i, i < n → st.slots[i]? = some (if i ∈ S then settle i (exec i) else none)
  esc : st.escaped = if 0 ∈ S then panicOf (exec 0) else none

theorem inv_init {α : Type} (F : Facts) (hF : F.Good) (exec : Nat → Out α) (n : Nat) :
    Inv exec n (RunState.init F α n) [] := by
  obtain ⟨h1, _, _⟩ := hF
  refine ⟨by simp [RunState.init, h1], rfl, ?_, by simp [RunState.init]⟩
  intro i hi
  simp [RunState.init, h1, hi]

theorem inv_store {α : Type} {F : Facts} (hF : F.Good) {exec : Nat → Out α} {n : Nat}
    {st : RunState α} {S : List Nat} (h : Inv exec n st S) {x : Nat} (hx : x < n)
    (r : Except ToolErr α) (hr : settle x (exec x) = some r)
    (hesc : x = 0 → panicOf (exec 0) = none) :
    Inv exec n (store F x r st) (x :: S) := by
  obtain ⟨h1, _, _⟩ := hF
  refine ⟨by simp [store, h1, h.len], by simp [store, h.crashed], ?_, ?_⟩
  · intro i hi
    simp only [store, h1, if_true, List.getElem?_set, List.mem_cons]
    by_cases hxi : x = i
    · subst hxi; simp [h.len, hx, hr]
    · have : ¬ i = x := fun e => hxi e.symm
      simp [hxi, this, h.slot i hi]
  · simp only [store, h.esc, List.mem_cons]
    by_cases h0 : x = 0
    · subst h0; simp [hesc rfl]
    · have : ¬ 0 = x := fun e => h0 e.symm
      simp [this]

theorem inv_finish {α : Type} {F : Facts} (hF : F.Good) {exec : Nat → Out α} {seen : Nat → Nat}
    {n : Nat} {st : RunState α} {S : List Nat} (h : Inv exec n st S) {x : Nat} (hx : x < n) :
    Inv exec n (finish F exec seen st x) (x :: S) := by
  have ht : target F seen x = x := by simp [target, hF.2.2]
  unfold finish
  simp only [ht]
  cases hex : exec x with
  | ok a | err a =>
    exact inv_store hF h hx _ (by simp [settle, hex]) (by intro h0; subst h0; simp [panicOf, hex])
  | panic p =>
    by_cases h0 : x = 0
    · subst h0
      simp only [BEq.rfl, if_true]
      refine ⟨h.len, h.crashed, ?_, ?_⟩
      · intro i hi
        simp only [List.mem_cons]
        by_cases hi0 : i = 0
        · subst hi0; simp [settle, hex, h.slot 0 hi]
        · simp [hi0, h.slot i hi]
      · simp only [h.esc, List.mem_cons, true_or, if_true, panicOf, hex]
        split <;> simp
    · have hb : (x == 0) = false := by simp [h0]
      simp only [hb, hF.2.1, if_true, Bool.false_eq_true, if_false]
      exact inv_store hF h hx _ (by simp [settle, hex, h0]) (by intro e; exact absurd e h0)

theorem inv_foldl {α : Type} {F : Facts} (hF : F.Good) {exec : Nat → Out α} {seen : Nat → Nat}
    {n : Nat} : ∀ (σ : List Nat) (st : RunState α) (S : List Nat), Inv exec n st S →
      (∀ x ∈ σ, x < n) → Inv exec n (σ.foldl (finish F exec seen) st) (σ.reverse ++ S)
  | [], st, S, h, _ => by simpa using h
  | x :: σ, st, S, h, hσ => by
    have := inv_foldl (seen := seen) hF σ (finish F exec seen st x) (x :: S)
      (inv_finish hF h (hσ x (by simp))) (fun y hy => hσ y (by simp [hy]))
    simpa using this


theorem conclude_runAll {α β : Type} {F : Facts} (hF : F.Good) (mk : Nat → α → β)
    (exec : Nat → Out α) (seen : Nat → Nat) (n : Nat) (σ : List Nat)
    (hσ : σ.Perm (List.range n)) :
    conclude mk (runAll F exec seen n σ) = specRun mk exec n := by
  have hmem : ∀ x, x ∈ σ ↔ x < n := fun x => by rw [hσ.mem_iff]; simp
  have inv := inv_foldl (seen := seen) hF σ _ [] (inv_init F hF exec n) (fun x hx => (hmem x).1 hx)
  have hS : ∀ i, i ∈ σ.reverse ++ [] ↔ i < n := fun i => by simp [hmem]
  unfold conclude specRun runAll
  rw [inv.crashed, inv.esc]
  simp only [Bool.false_eq_true, if_false, hS]
  have hc : (if 0 < n then panicOf (exec 0) else none) = (if n = 0 then none else panicOf (exec 0)) := by
    cases n <;> simp
  rw [hc]
  cases hp : (if n = 0 then none else panicOf (exec 0)) with
  | some p => rfl
  | none =>
    simp only
    have : assemble mk (List.foldl (finish F exec seen) (RunState.init F α n) σ).slots
        = (List.range n).mapM (specStep mk exec) := by
      unfold assemble
      rw [inv.len]
      apply mapM_congr'
      intro i hi
      have hi' : i < n := by simpa using hi
      rw [inv.slot i hi']
      simp only [(hS i).2 hi', if_true]
      unfold specStep
      cases hex : exec i with
      | ok a | err a => simp [settle]
      | panic p =>
        by_cases h0 : i = 0
        · subst h0
          have : n ≠ 0 := by omega
          simp [this, panicOf, hex] at hp
        · simp [settle, h0]
    rw [this]


/-- The task `genTask` makes from call `c` when `g c` is the tool answering it (`genTask_ok`; Props/C17.lean
    takes `g := pick tools handler`).  With it the task list of a run whose names all resolve is
    `calls.map (taskFor g)`, which `execWith_taskFor` / `idAt_taskFor` read by position. -/
def taskFor (g : Call → Tool) (c : Call) : Task := ⟨c.id, c.args, g c⟩

theorem resolve_isSome_of_handler (tools : List (String × Tool)) (h : Handler) (c : Call) :
    (resolve tools (some h) c).isSome := by
  unfold resolve; cases lookup tools c.name <;> simp

theorem resolve_none_iff {tools : List (String × Tool)} {handler : Option Handler} {c : Call} :
    resolve tools handler c = none ↔ lookup tools c.name = none ∧ handler = none := by
  unfold resolve; cases lookup tools c.name <;> cases handler <;> simp

theorem resolve_eq_some_iff {tools : List (String × Tool)} {handler : Option Handler} {c : Call} {t : Tool} :
    resolve tools handler c = some t ↔ lookup tools c.name = some t ∨
      lookup tools c.name = none ∧ ∃ h, handler = some h ∧ handlerTool h c.name = t := by
  unfold resolve; cases lookup tools c.name <;> cases handler <;> simp

theorem genTask_ok {F : Facts} (hH : F.handlerConsulted = true) {tools : List (String × Tool)}
    {handler : Option Handler} {c : Call} {t : Tool} (h : resolve tools handler c = some t) :
    genTask F tools handler c = .ok ⟨c.id, c.args, t⟩ := by
  unfold genTask
  rcases resolve_eq_some_iff.1 h with hl | ⟨hl, hd, rfl, rfl⟩
  · simp [hl]
  · simp [hl, hH]

theorem genTask_unknown {F : Facts} {tools : List (String × Tool)} {handler : Option Handler}
    {c : Call} (h : resolve tools handler c = none) :
    genTask F tools handler c = .error (.unknownTool c.name) := by
  obtain ⟨hl, rfl⟩ := resolve_none_iff.1 h
  simp [genTask, hl]

-- The literal `true` before `calls`, here and below, is the parameter `assistant` of `genTasks` / `invoke` /
-- `stream`: the input message has role Assistant (`genToolCallTasks` returns an error otherwise).
theorem genTasks_of_ne {F : Facts} {tools : List (String × Tool)} {handler : Option Handler} {calls : List Call}
    (hne : calls ≠ []) : genTasks F tools handler true calls = calls.mapM (genTask F tools handler) := by
  simp [genTasks, hne]

theorem genTasks_ok {F : Facts} (hH : F.handlerConsulted = true) {tools : List (String × Tool)}
    {handler : Option Handler} {calls : List Call} (hne : calls ≠ []) (g : Call → Tool)
    (hres : ∀ c ∈ calls, resolve tools handler c = some (g c)) :
    genTasks F tools handler true calls = .ok (calls.map (taskFor g)) := by
  rw [genTasks_of_ne hne]
  exact mapM_ok_map calls (fun c hc => by rw [genTask_ok hH (hres c hc)]; rfl)

theorem genTasks_unknown {F : Facts} (hH : F.handlerConsulted = true) {tools : List (String × Tool)}
    {handler : Option Handler} (pre : List Call) (c : Call) (post : List Call)
    (hpre : ∀ c' ∈ pre, (resolve tools handler c').isSome) (hc : resolve tools handler c = none) :
    genTasks F tools handler true (pre ++ c :: post) = .error (.unknownTool c.name) := by
  rw [genTasks_of_ne (by simp)]
  refine mapM_first_error pre c post (fun y hy => ?_) (genTask_unknown hc)
  obtain ⟨t, ht⟩ := Option.isSome_iff_exists.1 (hpre y hy)
  exact ⟨_, genTask_ok hH ht⟩

theorem execWith_taskFor {α : Type} (run : Tool → String → Out α) (g : Call → Tool)
    (calls : List Call) (i : Nat) (h : i < calls.length) :
    execWith run (calls.map (taskFor g)) i = run (g calls[i]) calls[i].args := by
  simp [execWith, List.getElem?_map, List.getElem?_eq_getElem h, taskFor]

theorem idAt_taskFor (g : Call → Tool) (calls : List Call) (i : Nat) (h : i < calls.length) :
    idAt (calls.map (taskFor g)) i = calls[i].id := by
  simp [idAt, List.getElem?_map, List.getElem?_eq_getElem h, taskFor]

theorem invoke_eq_spec {F : Facts} (hF : F.Good) (hH : F.handlerConsulted = true)
    {tools : List (String × Tool)} {handler : Option Handler} {calls : List Call}
    (hne : calls ≠ []) (g : Call → Tool) (hres : ∀ c ∈ calls, resolve tools handler c = some (g c))
    (seen : Nat → Nat) (σ : List Nat) (hσ : σ.Perm (List.range calls.length)) :
    invoke F tools handler true calls seen σ
      = specRun (fun i s => (⟨idAt (calls.map (taskFor g)) i, s⟩ : Msg))
          (execWith packInvoke (calls.map (taskFor g))) calls.length := by
  unfold invoke
  rw [genTasks_ok hH hne g hres]
  simp only [List.length_map]
  exact conclude_runAll hF _ _ seen _ σ hσ

theorem stream_eq_spec {F : Facts} (hF : F.Good) (hH : F.handlerConsulted = true)
    {tools : List (String × Tool)} {handler : Option Handler} {calls : List Call}
    (hne : calls ≠ []) (g : Call → Tool) (hres : ∀ c ∈ calls, resolve tools handler c = some (g c))
    (seen : Nat → Nat) (σ : List Nat) (hσ : σ.Perm (List.range calls.length)) :
    stream F tools handler true calls seen σ
      = specRun (fun i (cs : List String) =>
            cs.map fun s => sparse calls.length i ⟨idAt (calls.map (taskFor g)) i, s⟩)
          (execWith packStream (calls.map (taskFor g))) calls.length := by
  unfold stream
  rw [genTasks_ok hH hne g hres]
  simp only [List.length_map]
  exact conclude_runAll hF _ _ seen _ σ hσ

theorem specRun_of_no_inline_panic {α β : Type} (mk : Nat → α → β) (exec : Nat → Out α) (n : Nat)
    (h : n ≠ 0 → panicOf (exec 0) = none) :
    specRun mk exec n =
      match (List.range n).mapM (specStep mk exec) with
      | .ok l => .ok l
      | .error e => .err e := by
  unfold specRun
  split
  · next p hp => split at hp <;> simp_all
  · rfl

theorem specRun_all_ok {α β γ : Type} (mk : Nat → α → β) (exec : Nat → Out α) (l : List γ)
    (w : γ → β) (h : ∀ i (h : i < l.length), ∃ a, exec i = .ok a ∧ mk i a = w l[i]) :
    specRun mk exec l.length = .ok (l.map w) := by
  rw [specRun_of_no_inline_panic mk exec _ fun hl => by
      obtain ⟨a, ha, _⟩ := h 0 (by omega)
      rw [ha]; rfl,
    mapM_range_list_ok (w := w) l fun i hi => by
      obtain ⟨a, ha, hm⟩ := h i hi
      simp [specStep, ha, hm]]

theorem specRun_first_err {α β : Type} (mk : Nat → α → β) (exec : Nat → Out α) (n j : Nat)
    (hj : j < n) (hpre : ∀ i, i < j → ∃ a, exec i = .ok a) (e : ToolErr)
    (he : exec j = .err e ∨ (j ≠ 0 ∧ ∃ p, exec j = .panic p ∧ e = .panicked p)) :
    specRun mk exec n = .err (.tool j e) := by
  rw [specRun_of_no_inline_panic mk exec n fun _ => by
      rcases Nat.eq_zero_or_pos j with rfl | hj0
      · rcases he with he | ⟨h, _⟩
        · rw [he]; rfl
        · exact absurd rfl h
      · obtain ⟨a, ha⟩ := hpre 0 hj0
        rw [ha]; rfl,
    mapM_range_error hj (e := .tool j e) (fun i hi => by
      obtain ⟨a, ha⟩ := hpre i hi
      exact ⟨mk i a, by simp [specStep, ha]⟩) (by
      rcases he with he | ⟨_, p, hp, rfl⟩
      · simp [specStep, he]
      · simp [specStep, hp])]

theorem specRun_inline_panic {α β : Type} (mk : Nat → α → β) (exec : Nat → Out α) (n p : Nat)
    (hn : 0 < n) (h : exec 0 = .panic p) : specRun mk exec n = .panicEscapes p := by
  unfold specRun
  have : n ≠ 0 := by omega
  simp [this, h, panicOf]

theorem specRun_no_crash {α β : Type} (mk : Nat → α → β) (exec : Nat → Out α) (n : Nat) :
    specRun mk exec n ≠ .crash := by
  unfold specRun
  split
  · simp
  · split <;> simp

theorem specRun_err_is_tool {α β : Type} (mk : Nat → α → β) (exec : Nat → Out α) (n : Nat) (e : Err)
    (h : specRun mk exec n = .err e) : ∃ i te, e = .tool i te := by
  unfold specRun at h
  split at h
  · simp at h
  · split at h
    · simp at h
    · rename_i e' he
      obtain ⟨i, _, hi⟩ := mapM_error_mem _ he
      have : e' = e := by simpa using h
      subst this
      unfold specStep at hi
      split at hi
      · simp at hi
      · exact ⟨_, _, by simpa using hi.symm⟩
      · exact ⟨_, _, by simpa using hi.symm⟩


theorem specRun_all_ok' {α β : Type} (mk : Nat → α → β) (exec : Nat → Out α) (n : Nat)
    (W : Nat → β) (h : ∀ i, i < n → ∃ a, exec i = .ok a ∧ mk i a = W i) :
    specRun mk exec n = .ok ((List.range n).map W) := by
  simpa using specRun_all_ok mk exec (List.range n) W (by simpa using h)

theorem joinS_singleton (c : String) : joinS [c] = c := by
  simp [joinS, String.append_empty]

theorem concatChunks_ne {cs : List String} (h : cs ≠ []) : concatChunks cs = .ok (joinS cs) := by
  match cs, h with
  | [c], _ => simp [concatChunks, joinS_singleton]
  | _ :: _ :: _, _ => rfl

theorem getElem?_set_tail {β : Type} {srcs : List (List β)} {i : Nat} {x : β} {rest : List β}
    (hi : srcs[i]? = some (x :: rest)) {i' : Nat} {s' : List β}
    (hs' : (srcs.set i rest)[i']? = some s') : ∃ s, srcs[i']? = some s ∧ ∀ y ∈ s', y ∈ s := by
  by_cases h : i = i'
  · subst h
    rw [List.getElem?_set_self (List.getElem?_eq_some_iff.mp hi).1] at hs'
    cases hs'
    exact ⟨_, hi, fun y hy => List.mem_cons_of_mem _ hy⟩
  · rw [List.getElem?_set_ne h] at hs'
    exact ⟨s', hs', fun _ hy => hy⟩

theorem Interleaving.filterMap_eq {β γ : Type} (g : β → Option γ) (j : Nat) :
    ∀ {srcs : List (List β)} {m : List β}, Interleaving srcs m →
      (∀ i s, i ≠ j → srcs[i]? = some s → ∀ x ∈ s, g x = none) →
      ∀ s, srcs[j]? = some s → m.filterMap g = s.filterMap g := by
  intro srcs m h
  induction h with
  | done hall =>
    intro _ s hs
    rw [hall s (List.mem_of_getElem? hs)]
  | @step srcs m i x rest hi _ ih =>
    intro hoth s hs
    have hoth' : ∀ i' s', i' ≠ j → (srcs.set i rest)[i']? = some s' → ∀ y ∈ s', g y = none :=
      fun i' s' hne hs' y hy => by
        obtain ⟨s0, hs0, hsub⟩ := getElem?_set_tail hi hs'
        exact hoth i' s0 hne hs0 y (hsub y hy)
    by_cases hij : i = j
    · subst hij
      obtain rfl : x :: rest = s := Option.some.inj (hi.symm.trans hs)
      rw [List.filterMap_cons, List.filterMap_cons,
        ih hoth' rest (List.getElem?_set_self (List.getElem?_eq_some_iff.mp hi).1)]
    · rw [List.filterMap_cons, hoth i _ hij hi x (by simp),
        ih hoth' s (by rw [List.getElem?_set_ne hij]; exact hs)]

theorem Interleaving.mem_src {β : Type} :
    ∀ {srcs : List (List β)} {m : List β}, Interleaving srcs m →
      ∀ y ∈ m, ∃ (i : Nat) (s : List β), srcs[i]? = some s ∧ y ∈ s := by
  intro srcs m h
  induction h with
  | done _ => intro y hy; cases hy
  | @step srcs m i x rest hi _ ih =>
    intro y hy
    rcases List.mem_cons.1 hy with rfl | hy
    · exact ⟨i, _, hi, by simp⟩
    · obtain ⟨i', s', hs', hy'⟩ := ih y hy
      obtain ⟨s, hs, hsub⟩ := getElem?_set_tail hi hs'
      exact ⟨i', s, hs, hsub y hy'⟩

theorem Interleaving.nil_iff {β : Type} {srcs : List (List β)} (h : Interleaving srcs []) :
    ∀ s ∈ srcs, s = [] := by
  cases h with
  | done hall => exact hall


theorem length_sparse (n i : Nat) (m : Msg) : (sparse n i m).length = n := by simp [sparse]

/-- the message a chunk carries at position `j` -/
def at_ (j : Nat) (ma : List (Option Msg)) : Option Msg := (ma[j]?).join

theorem at_sparse_self {n i : Nat} (h : i < n) (m : Msg) : at_ i (sparse n i m) = some m := by
  simp [at_, sparse, h]

theorem at_sparse_ne {n i j : Nat} (h : i ≠ j) (m : Msg) : at_ j (sparse n i m) = none := by
  simp only [at_, sparse, List.getElem?_set_ne h, List.getElem?_replicate]
  split <;> simp

theorem column_eq (mas : List (List (Option Msg))) (j : Nat) : column mas j = mas.filterMap (at_ j) := rfl

theorem mergeId_self (id : String) : mergeId id id = .ok id := by
  unfold mergeId; split <;> simp_all

theorem mergeId_empty (id : String) : mergeId "" id = .ok id := by
  unfold mergeId; split <;> simp_all

theorem foldlM_mergeId_const (id : String) :
    ∀ (cs : List String), ((cs.map fun s => (⟨id, s⟩ : Msg)).map (·.id)).foldlM mergeId id = .ok id
  | [] => rfl
  | c :: cs => by
    simp only [List.map_cons, List.foldlM_cons, mergeId_self]
    exact foldlM_mergeId_const id cs

theorem concatSlot_chunks (id : String) {cs : List String} (h : cs ≠ []) :
    concatSlot (cs.map fun s => (⟨id, s⟩ : Msg)) = .ok (some ⟨id, joinS cs⟩) := by
  match cs, h with
  | [c], _ => simp [concatSlot, joinS_singleton]
  | c1 :: c2 :: rest, _ =>
    have hid : (((c1 :: c2 :: rest).map fun s => (⟨id, s⟩ : Msg)).map (·.id)).foldlM mergeId "" = .ok id := by
      rw [List.map_cons, List.map_cons, List.foldlM_cons, mergeId_empty]
      exact foldlM_mergeId_const id (c2 :: rest)
    have hc : ((c1 :: c2 :: rest).map fun s => (⟨id, s⟩ : Msg)).map (·.content) = c1 :: c2 :: rest := by
      simp [List.map_map, Function.comp_def]
    simp only [List.map_cons, concatSlot, concatMsgs]
    simp only [List.map_cons] at hid hc
    rw [hid, hc]
    rfl

theorem concatArray_of_length {n : Nat} {m : List (List (Option Msg))} (hne : m ≠ [])
    (hlen : ∀ ma ∈ m, ma.length = n) : concatArray m = (List.range n).mapM fun j => concatSlot (column m j) := by
  match m, hne with
  | ma0 :: rest, _ =>
    have hall : ((ma0 :: rest).all fun ma => ma.length == n) = true :=
      List.all_eq_true.mpr fun ma hma => by simp [hlen ma hma]
    simp only [concatArray, hlen ma0 (by simp), hall, if_true]

theorem concatArray_singleton (c : List (Option Msg)) : concatArray [c] = .ok c := by
  rw [concatArray_of_length (n := c.length) (by simp) (by simp)]
  simpa using mapM_range_list_ok (ε := CErr) (f := fun j => concatSlot (column [c] j)) (w := fun (x : Option Msg) => x) c
    (fun i hi => by
      simp only [column, List.filterMap_cons, List.filterMap_nil, List.getElem?_eq_getElem hi, Option.join_some]
      cases c[i] <;> simp [concatSlot])

theorem collect_eq_concatArray {m : List (List (Option Msg))} (h : m ≠ []) :
    collect m = concatArray m := by
  match m, h with
  | [c], _ => simp [collect, concatArray_singleton]
  | _ :: _ :: _, _ => rfl

theorem collect_interleaving (n : Nat) (hn : 0 < n) (ids : Nat → String) (chunks : Nat → List String)
    (hne : ∀ i, i < n → chunks i ≠ []) (m : List (List (Option Msg)))
    (hm : Interleaving ((List.range n).map fun i => (chunks i).map fun s => sparse n i ⟨ids i, s⟩) m) :
    collect m = .ok ((List.range n).map fun i => some ⟨ids i, joinS (chunks i)⟩) := by
  have hsrc : ∀ i s, ((List.range n).map fun i => (chunks i).map fun s => sparse n i ⟨ids i, s⟩)[i]? = some s ↔
      i < n ∧ s = (chunks i).map fun s => sparse n i ⟨ids i, s⟩ := by
    intro i s
    by_cases hi : i < n <;> simp [hi, eq_comm]
  have hmne : m ≠ [] := by
    rintro rfl
    have := hm.nil_iff _ (List.mem_of_getElem? ((hsrc 0 _).mpr ⟨hn, rfl⟩))
    exact hne 0 hn (by simpa using this)
  have hlen : ∀ ma ∈ m, ma.length = n := by
    intro ma hma
    obtain ⟨i, s, hs, hmem⟩ := hm.mem_src ma hma
    obtain ⟨_, rfl⟩ := (hsrc i s).mp hs
    obtain ⟨c, _, rfl⟩ := List.mem_map.1 hmem
    exact length_sparse _ _ _
  rw [collect_eq_concatArray hmne, concatArray_of_length hmne hlen]
  apply mapM_range_ok
  intro j hj
  -- column `j` sees only source `j` ...
  rw [column_eq, hm.filterMap_eq (at_ j) j (fun i s hij hs x hx => by
      obtain ⟨_, rfl⟩ := (hsrc i s).mp hs
      obtain ⟨c, _, rfl⟩ := List.mem_map.1 hx
      exact at_sparse_ne hij _) _ ((hsrc j _).mpr ⟨hj, rfl⟩)]
  -- ... and there the messages themselves
  have hat : (at_ j ∘ fun s => sparse n j ⟨ids j, s⟩) = some ∘ fun s => (⟨ids j, s⟩ : Msg) :=
    funext fun s => at_sparse_self hj _
  rw [List.filterMap_map, hat, List.filterMap_eq_map, concatSlot_chunks _ (hne j hj)]


/-! ### the executable merge of the oracle produces interleavings (and they exist) -/

theorem Interleaving.cons_nil {β : Type} {srcs : List (List β)} {m : List β}
    (h : Interleaving srcs m) : Interleaving ([] :: srcs) m := by
  induction h with
  | done hall => exact .done (by intro s hs; rcases List.mem_cons.1 hs with rfl | hs; rfl; exact hall s hs)
  | @step srcs m i x rest hi _ ih =>
    exact .step (i + 1) x rest (by simpa using hi) (by simpa using ih)

theorem interleaving_flatten {β : Type} : ∀ (srcs : List (List β)), Interleaving srcs srcs.flatten
  | [] => .done (by simp)
  | s :: srcs => by
    induction s with
    | nil => simpa using (interleaving_flatten srcs).cons_nil
    | cons x s ih => exact .step 0 x s (by simp) (by simpa using ih)

theorem mergeBy_interleaving {β : Type} :
    ∀ (sched : List Nat) (srcs : List (List β)), Interleaving srcs (mergeBy sched srcs)
  | [], srcs => interleaving_flatten srcs
  | i :: sched, srcs => by
    unfold mergeBy
    split
    · rename_i x rest h
      exact .step i x rest h (mergeBy_interleaving sched _)
    · exact mergeBy_interleaving sched srcs

/-- the invokable form is the concatenation of the streamable form.  True by construction
    for a tool with only one form (the packer derives the other); a hypothesis about the
    user's code for a tool implementing both. -/
def Coherent (t : Tool) : Prop := ∀ a, packInvoke t a = (packStream t a).bind concatChunks

theorem coherent_of_no_str (t : Tool) (h : t.str = none) : Coherent t := by
  intro a
  unfold packInvoke packStream
  rw [h]
  cases hi : t.inv with
  | none => rfl
  | some f => cases hf : f a <;> simp [Out.bind, hf, concatChunks]

theorem coherent_of_no_inv (t : Tool) (h : t.inv = none) : Coherent t := by
  intro a
  unfold packInvoke packStream
  rw [h]
  cases hs : t.str with
  | none => rfl
  | some g => rfl

theorem coherent_handlerTool (h : Handler) (name : String) : Coherent (handlerTool h name) :=
  coherent_of_no_str _ rfl

/-- the tool answering a call (total; meaningful when `resolve` is `some`) -/
def pick (tools : List (String × Tool)) (handler : Option Handler) (c : Call) : Tool :=
  (resolve tools handler c).getD ⟨none, none⟩

theorem resolve_pick {tools : List (String × Tool)} {handler : Option Handler} {c : Call}
    (h : (resolve tools handler c).isSome) : resolve tools handler c = some (pick tools handler c) := by
  obtain ⟨t, ht⟩ := Option.isSome_iff_exists.1 h
  simp [pick, ht]

theorem map_resolve_pick {γ : Type} {tools : List (String × Tool)} {handler : Option Handler} {c : Call}
    (f : Tool → γ) {o : γ} (h : (resolve tools handler c).map f = some o) :
    (resolve tools handler c).isSome ∧ f (pick tools handler c) = o := by
  obtain ⟨t, ht, rfl⟩ := Option.map_eq_some_iff.1 h
  simp [pick, ht]

theorem answerI_pick {tools : List (String × Tool)} {handler : Option Handler} {c : Call}
    {o : Out String} (h : answerI tools handler c = some o) :
    (resolve tools handler c).isSome ∧ packInvoke (pick tools handler c) c.args = o :=
  map_resolve_pick _ h

theorem answerS_pick {tools : List (String × Tool)} {handler : Option Handler} {c : Call}
    {o : Out (List String)} (h : answerS tools handler c = some o) :
    (resolve tools handler c).isSome ∧ packStream (pick tools handler c) c.args = o :=
  map_resolve_pick _ h

theorem genTasks_length {F : Facts} {tools : List (String × Tool)} {handler : Option Handler}
    {assistant : Bool} {calls : List Call} {tasks : List Task}
    (h : genTasks F tools handler assistant calls = .ok tasks) : tasks.length = calls.length := by
  unfold genTasks at h
  split at h
  · simp at h
  · split at h
    · simp at h
    · exact mapM_ok_length _ _ h

theorem conclude_tasks {α β : Type} {F : Facts} (hF : F.Good) (mk : Nat → α → β)
    (run : Tool → String → Out α) {tools : List (String × Tool)} {handler : Option Handler}
    {assistant : Bool} {calls : List Call} {tasks : List Task}
    (h : genTasks F tools handler assistant calls = .ok tasks) (seen : Nat → Nat) (σ : List Nat)
    (hσ : σ.Perm (List.range calls.length)) :
    conclude mk (runAll F (execWith run tasks) seen tasks.length σ)
      = specRun mk (execWith run tasks) tasks.length :=
  conclude_runAll hF _ _ seen _ σ (by rw [genTasks_length h]; exact hσ)

theorem invoke_cases {F : Facts} (hF : F.Good) (tools : List (String × Tool)) (handler : Option Handler)
    (assistant : Bool) (calls : List Call) (seen : Nat → Nat) (σ : List Nat)
    (hσ : σ.Perm (List.range calls.length)) :
    (∃ e, genTasks F tools handler assistant calls = .error e ∧
        invoke F tools handler assistant calls seen σ = .err e) ∨
    (∃ tasks, genTasks F tools handler assistant calls = .ok tasks ∧
        invoke F tools handler assistant calls seen σ
          = specRun (fun i s => (⟨idAt tasks i, s⟩ : Msg)) (execWith packInvoke tasks) tasks.length) := by
  unfold invoke
  cases h : genTasks F tools handler assistant calls with
  | error e => exact .inl ⟨e, rfl, rfl⟩
  | ok tasks => exact .inr ⟨tasks, rfl, conclude_tasks hF _ _ h seen σ hσ⟩

theorem stream_cases {F : Facts} (hF : F.Good) (tools : List (String × Tool)) (handler : Option Handler)
    (assistant : Bool) (calls : List Call) (seen : Nat → Nat) (σ : List Nat)
    (hσ : σ.Perm (List.range calls.length)) :
    (∃ e, genTasks F tools handler assistant calls = .error e ∧
        stream F tools handler assistant calls seen σ = .err e) ∨
    (∃ tasks, genTasks F tools handler assistant calls = .ok tasks ∧
        stream F tools handler assistant calls seen σ
          = specRun (fun i (cs : List String) => cs.map fun s => sparse tasks.length i ⟨idAt tasks i, s⟩)
              (execWith packStream tasks) tasks.length) := by
  unfold stream
  cases h : genTasks F tools handler assistant calls with
  | error e => exact .inl ⟨e, rfl, rfl⟩
  | ok tasks => exact .inr ⟨tasks, rfl, conclude_tasks hF _ _ h seen σ hσ⟩

theorem spec_first_failure {α β : Type} (run : Tool → String → Out α) (mk : Nat → α → β)
    (g : Call → Tool) (pre : List Call) (c : Call) (post : List Call)
    (hpre : ∀ c' ∈ pre, ∃ a, run (g c') c'.args = .ok a) :
    (∀ e, run (g c) c.args = .err e →
      specRun mk (execWith run ((pre ++ c :: post).map (taskFor g))) (pre ++ c :: post).length
        = .err (.tool pre.length e)) ∧
    (∀ p, run (g c) c.args = .panic p → pre ≠ [] →
      specRun mk (execWith run ((pre ++ c :: post).map (taskFor g))) (pre ++ c :: post).length
        = .err (.tool pre.length (.panicked p))) ∧
    (∀ p, run (g c) c.args = .panic p → pre = [] →
      specRun mk (execWith run ((pre ++ c :: post).map (taskFor g))) (pre ++ c :: post).length
        = .panicEscapes p) := by
  have hlt : pre.length < (pre ++ c :: post).length := by simp
  have hexj : execWith run ((pre ++ c :: post).map (taskFor g)) pre.length = run (g c) c.args := by
    rw [execWith_taskFor run g _ _ hlt, List.getElem_append_right (Nat.le_refl _)]
    simp
  have hexpre : ∀ i, i < pre.length →
      ∃ a, execWith run ((pre ++ c :: post).map (taskFor g)) i = .ok a := by
    intro i hi
    rw [execWith_taskFor run g _ _ (Nat.lt_trans hi hlt), List.getElem_append_left hi]
    exact hpre _ (List.getElem_mem hi)
  refine ⟨fun e he => ?_, fun p hp hne => ?_, fun p hp hnil => ?_⟩
  · exact specRun_first_err mk _ _ _ hlt hexpre e (.inl (by rw [hexj, he]))
  · have : pre.length ≠ 0 := mt List.eq_nil_of_length_eq_zero hne
    exact specRun_first_err mk _ _ _ hlt hexpre _ (.inr ⟨this, p, by rw [hexj, hp], rfl⟩)
  · subst hnil
    exact specRun_inline_panic mk _ _ p (by simp) (by simpa using hexj.trans hp)

end EinoV.C17
