/-
  gotrans phase 4 — the step function.  The functions of compose/graph_run.go translated on every run into
  Gen/TransStep.lean (copyItem, runner.calculateBranch, resolveCompletedTasks, createTasks,
  calculateNextTasks; value mode) compute the model's `calcBranch`, `resolve`, `calcNext` (Model/Engine.lean)
  and never leave the translated semantics (no `GoOutcome.panic` / `.unspecified`) — for `isStream = false`,
  for all runners / channel-manager states / completed-task lists related as stated below.
-/
import EinoV.Gen.TransStep
import EinoV.Proofs.GoLoop
import EinoV.Proofs.Monadic
import EinoV.Proofs.EngineOps
import EinoV.Proofs.TransMgr
import EinoV.Proofs.TransMgrInit
namespace EinoV.TransStep
open EinoV.GoSem EinoV.Engine EinoV.Gen.TransMgr EinoV.Gen.TransStep EinoV.TransMgr EinoV.GoWorkList
variable {V : Type} [Inhabited V]
set_option linter.unusedSectionVars false

theorem copyItem_spec (ext : Ext V) (mext : MgrExt V) (sext : StepExt V) (item : V) (n : Int) :
    copyItem ext mext sext item n = .ret (if n < 2 then [item] else List.replicate n.toNat item) := by
  unfold copyItem
  simp only [forIn_id, Id.run, bind, pure]
  by_cases h : n < 2
  · simp [h]
  · have h0 : ¬ n < 0 := by omega
    simp only [h, h0, decide_false, Bool.false_eq_true, if_false]
    -- `for i := range ret { ret[i] = item }`
    rw [goIndices, ← goLoop_map Prod.fst, goLoop_setIdx GoOutcome.panic (fun _ => item) _ _ rfl]
    simp [goMake]

def insKeys (m : GoMap Unit) (l : List Key) : GoMap Unit := l.foldl (fun m k => m.set k ()) m

theorem akeys_insKeys (l : List Key) (m : GoMap Unit) (h : (akeys m).Nodup) :
    akeys (insKeys m l) = (akeys m ++ l).eraseDups := by
  rw [show insKeys m l = l.foldl (fun m k => aset k () m) m from rfl,
    foldl_aset_const () l m h (fun _ _ => rfl), akeys, List.map_map]
  exact List.map_id' _

/-- what one branch of the model selects on an output (one iteration of `selectOf`) -/
def brSel (b : Branch V) (out : V) : Except Err (List Key) := do
  let ws ← b.cond out
  if ws.all b.ends.contains then pure ws else throw { cls := .badBranchEnd }

theorem selectOf_eq (n : Node V) (out : V) :
    selectOf n out = (n.branches.mapM (fun b => brSel b out)).map List.flatten := by
  unfold selectOf brSel
  cases h : List.mapM (fun (b : Branch V) => (do
      let ws ← b.cond out
      if ws.all b.ends.contains then pure ws else throw { cls := .badBranchEnd } : Except Err (List Key))) n.branches <;> rfl

/-- a translated `GraphBranch` and the model's `Branch`: the end nodes (in the map's stored order) and the
    external `invoke` — the branch condition followed by the end-node check of `GraphBranch.invoke`'s wrapper -/
structure BranchRel (sext : StepExt V) (gb : GraphBranch V) (b : Branch V) : Prop where
  ends : b.ends = akeys gb.endNodes
  ok : ∀ out ws, brSel b out = .ok ws → sext.branchInvoke gb out = (ws, none)
  err : ∀ out e, brSel b out = .error e → (sext.branchInvoke gb out).2.isSome = true

inductive ListRel {α β : Type} (R : α → β → Prop) : List α → List β → Prop
  | nil : ListRel R [] []
  | cons {a b as bs} : R a b → ListRel R as bs → ListRel R (a :: as) (b :: bs)

theorem ListRel.eq_nil {α β : Type} {R : α → β → Prop} : ∀ {l : List β}, ListRel R ([] : List α) l → l = []
  | _, .nil => rfl

structure CallRel (sext : StepExt V) (cc : chanCall V) (n : Node V) : Prop where
  writeTo : cc.writeTo = n.writeTo
  controls : cc.controls = n.controls
  branches : ListRel (BranchRel sext) cc.writeToBranches n.branches

def NoBranchHandlers (sext : StepExt V) : Prop := ∀ k i v s, sext.preBranchHandle k i v s = (v, none)

/-- the branch loop of `calculateBranch` on a list of translated branches (value mode): the selected keys
    appended to `ret`, the deselected end nodes inserted into the set `sk`; `none` = some `invoke` failed -/
def goBranches (sext : StepExt V) (out : V) : List (GraphBranch V) → List String → GoMap Unit → Option (List String × GoMap Unit)
  | [], ret, sk => some (ret, sk)
  | b :: bs, ret, sk =>
    if (sext.branchInvoke b out).2.isSome then none else
    goBranches sext out bs (ret ++ (sext.branchInvoke b out).1)
      (insKeys sk ((akeys b.endNodes).filter (fun e => !(sext.branchInvoke b out).1.contains e)))

theorem ends_loop (ws : List String) (l : GoMap Bool) (sk : GoMap Unit) :
    goLoop (fun (x : String × Bool) (s : GoMap Unit) =>
      if goLoop (fun w (s' : Bool) => if (x.fst == w) = true then ForInStep.done false else ForInStep.yield s') ws true = true
      then ForInStep.yield (s.set x.fst ()) else ForInStep.yield s) l sk
    = insKeys sk ((akeys l).filter (fun e => !ws.contains e)) := by
  -- the inner loop looks for the key among the selected ones; the outer one is then a fold with a test
  simp only [goLoop_search, List.any_beq, ← apply_ite ForInStep.yield, goLoop_yield, insKeys, akeys,
    List.foldl_filter, List.foldl_map]
  congr 1; funext s a; cases ws.contains a.1 <;> rfl

abbrev CB (V : Type) := GoOutcome (List V × channelManager V × List String × Option GoErr)

/-- the list `calculateBranch` hands to `reportBranch`: the set `sk` without the selected keys and without
    the node's plain control successors, in the map's stored order -/
def goSkipped (controls ret : List String) (sk : GoMap Unit) : List String :=
  akeys (controls.foldl (fun (m : GoMap Unit) k => m.erase k) (ret.foldl (fun (m : GoMap Unit) k => m.erase k) sk))

theorem erase_loop1 (l : List String) (sk : GoMap Unit) :
    goLoop (fun selected (s : GoMap Unit) =>
      if s.has selected = true then ForInStep.yield (s.erase selected) else ForInStep.yield s) l sk
    = l.foldl (fun (m : GoMap Unit) k => m.erase k) sk := by
  -- deleting an absent key does nothing
  simp only [← apply_ite ForInStep.yield, goLoop_yield]
  congr 1; funext s k
  cases h : s.has k
  · exact (erase_of_not_has s k h).symm
  · rfl

theorem keys_loop (sk : GoMap Unit) :
    goLoop (fun (x : String × Unit) (s : List String) => ForInStep.yield (s ++ [x.fst])) sk [] = akeys sk := by
  have := goLoop_collect (fun (x : String × Unit) => x.1) sk []
  simpa [akeys] using this

theorem calculateBranch_go (ext : Ext V) (mext : MgrExt V) (sext : StepExt V) (fuel : Nat) (gr : runner V)
    (key : String) (cc : chanCall V) (out : V) (m : Nat) (c : channelManager V)
    (hE : NoBranchHandlers sext) (hm : cc.writeToBranches.length ≤ m) :
    runner_calculateBranch ext mext sext fuel gr key cc (List.replicate m out) false c =
      match goBranches sext out cc.writeToBranches [] [] with
      | none => .ret (List.replicate m out, c, [], some (GoErr.mk "branch invoke run error: %w"))
      | some (ret, sk) =>
        match channelManager_reportBranch ext mext fuel c key (goSkipped cc.controls ret sk) with
        | .panic => .panic
        | .ret t => if t.2.isSome = true then .ret (List.replicate m out, t.1, [], t.2)
                    else .ret (List.replicate m out, t.1, ret, none) := by
  have hlt : ¬ ((List.replicate m out).length : Int) < (cc.writeToBranches.length : Int) := by simp; omega
  unfold runner_calculateBranch
  simp only [forIn_id, Id.run, bind, pure, hlt, decide_false, Bool.false_eq_true, if_false]
  generalize hb : (fun (x : Int × GraphBranch V) (__s : Option (CB V) × List V × List String × GoMap Unit) => _) = body
  have hspec := goLoop_enum (f := body)
    (fun k rest st => 0 ≤ k ∧ k + rest.length ≤ m ∧ st.1 = none ∧ st.2.1 = List.replicate m out ∧
      goBranches sext out rest st.2.2.1 st.2.2.2 = goBranches sext out cc.writeToBranches [] [])
    (Q := fun st => match goBranches sext out cc.writeToBranches [] [] with
      | some r => st = (none, List.replicate m out, r.1, r.2)
      | none => st.1 = some (.ret (List.replicate m out, c, [], some (GoErr.mk "branch invoke run error: %w"))))
    ?_ ?_ cc.writeToBranches 0 (none, List.replicate m out, [], []) ⟨Int.le_refl 0, by simpa using hm, rfl, rfl, rfl⟩
  · unfold goEnum
    cases hg : goBranches sext out cc.writeToBranches [] [] with
    | none => rw [hg] at hspec; simp only at hspec; rw [hspec]
    | some r =>
      obtain ⟨ret, sk⟩ := r
      rw [hg] at hspec; simp only at hspec
      rw [hspec]
      simp only [erase_loop1, keys_loop]
      rw [goLoop_yield]
      unfold goSkipped
      cases channelManager_reportBranch ext mext fuel c key
        (akeys (List.foldl (fun (m : GoMap Unit) k => m.erase k) (List.foldl (fun (m : GoMap Unit) k => m.erase k) sk ret) cc.controls)) <;> rfl
  · rintro k b rest ⟨o, inp, ret, sk⟩ ⟨h0, h1, ho, hi, hg⟩
    simp only at ho hi hg; subst ho; subst hi
    have hk : k < m := by simp at h1; omega
    rw [← hb]
    simp only [goIdx_replicate m out k h0 hk, goInRange_replicate m out k h0 hk, hE key k out false,
      goSetIdx_replicate, Bool.not_true, Bool.false_eq_true, if_false, Option.isSome_none, ends_loop,
      stepTo_ite_Id, stepTo_done, stepTo_yield]
    simp only [goBranches] at hg
    refine ⟨fun he => ?_, fun he => ?_⟩
    · rw [if_pos he] at hg
      rw [← hg]; trivial
    · rw [if_neg he] at hg
      exact ⟨by omega, by simp at h1 ⊢; omega, trivial, trivial, hg⟩
  · rintro k ⟨o, inp, ret, sk⟩ ⟨_, _, ho, hi, hg⟩
    simp only [goBranches] at ho hi hg; subst ho; subst hi
    rw [← hg]

def skL : List (Branch V) → List (List Key) → List Key
  | b :: bs, ws :: wss => b.ends.filter (fun e => !ws.contains e) ++ skL bs wss
  | _, _ => []

theorem insKeys_append (m : GoMap Unit) (l1 l2 : List Key) : insKeys (insKeys m l1) l2 = insKeys m (l1 ++ l2) := by
  simp [insKeys, List.foldl_append]

theorem goBranches_link (sext : StepExt V) (out : V) (gbs : List (GraphBranch V)) (bs : List (Branch V))
    (h : ListRel (BranchRel sext) gbs bs) : ∀ ret sk,
    (∀ wss, bs.mapM (fun b => brSel b out) = .ok wss →
      goBranches sext out gbs ret sk = some (ret ++ wss.flatten, insKeys sk (skL bs wss))) ∧
    (∀ e, bs.mapM (fun b => brSel b out) = .error e → goBranches sext out gbs ret sk = none) := by
  induction h with
  | nil => intro ret sk; simp [goBranches, skL, insKeys, pure, Except.pure]
  | @cons gb b gbs bs hr _ ih =>
    intro ret sk
    refine ⟨fun wss hw => ?_, fun e he => ?_⟩
    · obtain ⟨ws, wss0, hb, hm, rfl⟩ := mapM_cons_ok.mp hw
      simp only [goBranches, hr.ok out ws hb, Option.isSome_none, Bool.false_eq_true, if_false]
      rw [(ih _ _).1 wss0 hm, insKeys_append]
      simp [skL, List.append_assoc, hr.ends]
    · rcases mapM_cons_error.mp he with hb | ⟨⟨ws, hb⟩, hm⟩
      · simp only [goBranches, hr.err out e hb, if_true]
      · simp only [goBranches, hr.ok out ws hb, Option.isSome_none, Bool.false_eq_true, if_false]
        exact (ih _ _).2 e hm

theorem skL_filter (P : Key → Bool) : ∀ (bs : List (Branch V)) (wss : List (List Key)), wss.length = bs.length →
    (∀ ws ∈ wss, ∀ e ∈ ws, P e = false) → (skL bs wss).filter P = (bs.flatMap (·.ends)).filter P := by
  intro bs
  induction bs with
  | nil => intro wss _ _; cases wss <;> simp [skL]
  | cons b bs ih =>
    intro wss hl hp
    cases wss with
    | nil => simp at hl
    | cons ws wss =>
      simp only [skL, List.flatMap_cons, List.filter_append, List.filter_filter]
      rw [ih wss (by simpa using hl) (fun w hw => hp w (List.mem_cons_of_mem _ hw))]
      congr 1
      apply List.filter_congr
      intro e _
      by_cases hc : ws.contains e = true
      · have : P e = false := hp ws (List.mem_cons_self) e (by simpa using hc)
        simp [this]
      · have hc' : e ∉ ws := by simpa using hc
        simp [hc']

theorem goSkipped_eq (n : Node V) (wss : List (List Key)) (hl : wss.length = n.branches.length) :
    goSkipped n.controls wss.flatten (insKeys [] (skL n.branches wss)) = skippedOf n wss.flatten := by
  unfold goSkipped skippedOf
  rw [akeys_eraseAll, akeys_eraseAll, akeys_insKeys _ [] (by simp [akeys])]
  simp only [akeys, List.map_nil, List.nil_append]
  rw [filter_eraseDups, skL_filter _ n.branches wss hl, ← filter_eraseDups, List.filter_filter]
  · apply List.filter_congr; intro e _; exact Bool.and_comm _ _
  · intro ws hws e he
    have : e ∈ wss.flatten := List.mem_flatten.mpr ⟨ws, hws, he⟩
    simp [this]

/-- what the step function needs of the channel manager, and keeps: the hypotheses of `Proofs/TransMgr.lean`
    (static tables agree with the runner, one well-formed channel of the runner's kind per key, every
    successor has a channel, the skip invariants of `reportBranch`, the fuel bound of the model's work list) -/
structure MgrInv (r : Runner V) (c : channelManager V) : Prop where
  rel : Rel r c
  ok : ChansOK r.dag c.channels
  cl : SuccClosed c
  si : AllSkImp (toChans c.channels)
  sc : SkipClosed r (toChans c.channels)
  len : c.channels.length ≤ (r.nodes.length + 2) * (r.nodes.length + 2)

theorem MgrInv.step {r : Runner V} {c c' : channelManager V} (inv : MgrInv r c) (f : Frame c c')
    (ok' : ChansOK r.dag c'.channels)
    (hs : AllSkImp (toChans c'.channels) ∧ SkipClosed r (toChans c'.channels)) : MgrInv r c' :=
  ⟨inv.rel.frame f ok'.mode, ok', SuccClosed.frame inv.cl f, hs.1, hs.2, by
    have := congrArg List.length f.keys; simp at this; rw [this]; exact inv.len⟩

theorem calculateBranch_refines (ext : Ext V) (mext : MgrExt V) (sext : StepExt V) (r : Runner V) (gr : runner V)
    (cm : Chans V) (n : Node V) (out : V)
    (rank : Key → Nat) (hacyc : r.dag = true → ∀ n ∈ r.nodes, ∀ s ∈ n.successors, rank n.key < rank s)
    (hE : NoBranchHandlers sext) :
    ∃ N, ∀ (c : channelManager V) (cc : chanCall V) (fuel : Nat), N ≤ fuel → toChans c.channels = cm →
      MgrInv r c → CallRel sext cc n →
      (∀ b ∈ n.branches, ∀ e ∈ b.ends, c.channels.has e = true) →
      match calcBranch r cm n out with
      | .ok (cm', sel) => ∃ c',
          (∀ m, cc.writeToBranches.length ≤ m →
            runner_calculateBranch ext mext sext fuel gr n.key cc (List.replicate m out) false c
              = .ret (List.replicate m out, c', sel, none)) ∧
          toChans c'.channels = cm' ∧ Frame c c' ∧ MgrInv r c' ∧ (n.branches = [] → sel = [])
      | .error _ => ∃ c' e, ∀ m, cc.writeToBranches.length ≤ m →
          runner_calculateBranch ext mext sext fuel gr n.key cc (List.replicate m out) false c
            = .ret (List.replicate m out, c', [], some e) := by
  unfold calcBranch
  rw [selectOf_eq]
  cases hmm : n.branches.mapM (fun b => brSel b out) with
  | error e =>
    refine ⟨0, fun c cc fuel _ _ _ hcall _ => ?_⟩
    obtain ⟨l1, l2⟩ := goBranches_link sext out cc.writeToBranches n.branches hcall.branches [] []
    simp only [Except.map, bind, Except.bind]
    refine ⟨c, GoErr.mk "branch invoke run error: %w", fun m hm => ?_⟩
    rw [calculateBranch_go ext mext sext fuel gr n.key cc out m c hE hm, l2 e hmm]
  | ok wss =>
    have hl := mapM_ok_length n.branches wss hmm
    obtain ⟨N, hN⟩ := goReportBranch_terminates r rank hacyc cm n.key (skippedOf n wss.flatten)
    refine ⟨N, fun c cc fuel hf hcm inv hcall hends => ?_⟩
    subst hcm
    obtain ⟨l1, l2⟩ := goBranches_link sext out cc.writeToBranches n.branches hcall.branches [] []
    have hsk : ∀ s ∈ skippedOf n wss.flatten, c.channels.has s = true := by
      intro s hs
      obtain ⟨b, hb, he⟩ := List.mem_flatMap.mp ((mem_skippedOf_iff n _ s).mp hs).1
      exact hends b hb s he
    obtain ⟨R, hR⟩ := hN fuel hf
    obtain ⟨hrb, c', e, h1, h2⟩ := reportBranch_refines ext mext r c fuel n.key (skippedOf n wss.flatten)
      inv.rel inv.ok inv.cl hsk inv.si inv.sc inv.len R hR
    have hgo : ∀ m, cc.writeToBranches.length ≤ m →
        runner_calculateBranch ext mext sext fuel gr n.key cc (List.replicate m out) false c =
          if e.isSome = true then .ret (List.replicate m out, c', [], e)
          else .ret (List.replicate m out, c', wss.flatten, none) := by
      intro m hm
      rw [calculateBranch_go ext mext sext fuel gr n.key cc out m c hE hm, l1 wss hmm]
      simp only [List.nil_append, hcall.controls, goSkipped_eq n wss hl, h1]
    simp only [Except.map, bind, Except.bind, pure, Except.pure, hrb]
    cases R with
    | error er =>
      refine ⟨c', GoErr.mk "unknown node: %s", fun m hm => ?_⟩
      rw [hgo m hm, h2]; rfl
    | ok cm' =>
      obtain ⟨a1, a2, a3, a4, a5⟩ := h2
      subst a1
      refine ⟨c', fun m hm => by rw [hgo m hm]; rfl, a2, a3, inv.step a3 a4 ?_, ?_⟩
      · by_cases hd : r.dag = true
        · rw [a2]; exact a5 hd
        · have hd' : r.dag = false := by simpa using hd
          have hp := (reportBranch_pregel ext mext r c fuel n.key (skippedOf n wss.flatten) hd' inv.rel inv.ok inv.cl hsk).1
          rw [hrb] at hp
          have : cm' = toChans c.channels := by simpa using hp
          rw [a2, this]; exact ⟨inv.si, inv.sc⟩
      · intro hnb
        rw [hnb] at hmm
        simp [pure, Except.pure] at hmm
        subst hmm; rfl

/-- the number of copies `copyItem` makes -/
def cpLen (n : Int) : Nat := if n < 2 then 1 else n.toNat

theorem copyItem_rep (ext : Ext V) (mext : MgrExt V) (sext : StepExt V) (item : V) (n : Int) :
    copyItem ext mext sext item n = .ret (List.replicate (cpLen n) item) := by
  rw [copyItem_spec]; unfold cpLen; split <;> simp

/-- the value written for one successor (`writeChannelValues[next][from] = v`, creating the inner map) -/
theorem write_one (wcv : GoMap (GoMap V)) (next from_ : String) (v : V) :
    (if wcv.has next then wcv.set next ((wcv.getD' next []).set from_ v)
     else (wcv.set next []).set next (((wcv.set next []).getD' next []).set from_ v)) = addWrite wcv next from_ v := by
  unfold addWrite GoMap.set GoMap.getD' GoMap.has
  cases h : alookup next wcv with
  | some m => simp
  | none => simp [aset_aset, alookup_aset_same]

abbrev RS (V : Type) := GoOutcome (channelManager V × GoMap (GoMap V) × GoMap (List String) × Option GoErr)

theorem cpLen_ge (n : Int) : n ≤ cpLen n ∧ (1 : Int) ≤ cpLen n := by
  unfold cpLen; split <;> omega

structure TaskRel (sext : StepExt V) (r : Runner V) (t : task V) (d : Done V) : Prop where
  key : t.nodeKey = d.1
  out : t.output = d.2
  call : ∃ n, r.call? d.1 = some n ∧ n.key = d.1 ∧ CallRel sext t.call n

/-- every end node of a branch of a node that can complete has a channel (no nil dereference in `reportBranch`) -/
def EndsClosed (r : Runner V) (c : channelManager V) : Prop :=
  ∀ k n, r.call? k = some n → ∀ b ∈ n.branches, ∀ e ∈ b.ends, c.channels.has e = true

theorem EndsClosed.frame {r : Runner V} {c c' : channelManager V} (h : EndsClosed r c) (f : Frame c c') : EndsClosed r c' := by
  intro k n hk b hb e he
  rw [f.has]
  exact h k n hk b hb e he

abbrev RSt (V : Type) := Option (RS V) × channelManager V × GoMap (GoMap V) × GoMap (List String)

/-- `newDependencies[key] = append(newDependencies[key], from)` -/
def depStep (from_ : String) (key : String) (s : GoMap (List String)) : ForInStep (GoMap (List String)) :=
  .yield (s.set key (s.getD' key [] ++ [from_]))

/-- body of `for i, next := range nextNodeKeys`; `store` is the join point behind `if !ok { … }` -/
def writeStep (vs : List V) (from_ : String) (x : Int × String) (s : Option (RS V) × GoMap (GoMap V)) :
    ForInStep (Option (RS V) × GoMap (GoMap V)) :=
  let store := fun (w : GoMap (GoMap V)) =>
    match goIdx? vs x.1 with
    | some v =>
      if (!w.has x.2) = true then ForInStep.done (some GoOutcome.panic, w)
      else .yield (none, w.set x.2 ((w.getD' x.2 []).set from_ v))
    | _ => .done (some .panic, w)
  if (!s.2.has x.2) = true then store (s.2.set x.2 []) else store s.2

/-- the end of the body: the slices `unused` is taken from (closing the unused copies does nothing in value mode);
    `b` is the number of branches -/
def resolveRest (b : Nat) (cm : channelManager V) (nd : GoMap (List String)) (keys : List String)
    (wcv : GoMap (GoMap V)) (vs : List V) : ForInStep (RSt V) :=
  match goSlice? vs (keys.length : Int) (vs.length : Int) with
  | some _ =>
    if ((keys.length : Int) == 0) = true then
      match goSlice? vs 0 ((vs.length : Int) - (b : Int)) with
      | some _ => .yield (none, cm, wcv, nd)
      | _ => .done (some .panic, cm, wcv, nd)
    else .yield (none, cm, wcv, nd)
  | _ => .done (some .panic, cm, wcv, nd)

/-- the body after `calculateBranch` has returned and the dependencies are entered: `vs` is copied out to
    `keys` (the selected keys followed by `writeTo`); `a`, `b` are the numbers of plain successors and of branches -/
def resolveWrite (ext : Ext V) (mext : MgrExt V) (sext : StepExt V) (from_ : String) (a b : Nat) (vs : List V)
    (cm : channelManager V) (keys : List String) (wcv : GoMap (GoMap V)) (nd : GoMap (List String)) :
    ForInStep (RSt V) :=
  let lo : Int := (a : Int) + (b : Int)
  if decide ((keys.length : Int) > 0) = true then
    match goIdx? vs (lo - 1) with
    | some x3 =>
      match copyItem ext mext sext x3 ((keys.length : Int) - (a : Int) - (b : Int) + 1) with
      | .ret nVs =>
        match goSlice? vs 0 (lo - 1) with
        | some s4 =>
          let w := goLoop (writeStep (s4 ++ nVs) from_) (goEnum keys) (none, wcv)
          onReturn w.1 (fun e => ForInStep.done (some e, cm, w.2, nd)) (resolveRest b cm nd keys w.2 (s4 ++ nVs))
        | _ => .done (some .panic, cm, wcv, nd)
      | _ => .done (some (copyItem ext mext sext x3 ((keys.length : Int) - (a : Int) - (b : Int) + 1)).failAs,
          cm, wcv, nd)
    | _ => .done (some .panic, cm, wcv, nd)
  else resolveRest b cm nd keys wcv vs

/-- body of `for _, t := range completedTasks` -/
def resolveBody (ext : Ext V) (mext : MgrExt V) (sext : StepExt V) (fuel : Nat) (gr : runner V) (isStream : Bool)
    (t : task V) (s : RSt V) : ForInStep (RSt V) :=
  let nd := goLoop (depStep t.nodeKey) t.call.controls s.2.2.2
  let lo : Int := (t.call.writeTo.length : Int) + (t.call.writeToBranches.length : Int)
  match copyItem ext mext sext t.output ((t.call.writeTo.length : Int) + (t.call.writeToBranches.length : Int) * 2) with
  | .ret vs0 =>
    match goSlice? vs0 lo (vs0.length : Int) with
    | some s2 =>
      match runner_calculateBranch ext mext sext fuel gr t.nodeKey t.call s2 isStream s.2.1 with
      | .ret r =>
        if r.2.2.2.isSome = true then
          .done (some (.ret (r.2.1, [], [], some (GoErr.mk "calculate next step fail, node: %s, error: %w"))),
            r.2.1, s.2.2.1, nd)
        else resolveWrite ext mext sext t.nodeKey t.call.writeTo.length t.call.writeToBranches.length
          (goSliceBack vs0 lo r.1) r.2.1 (r.2.2.1 ++ t.call.writeTo) s.2.2.1 (goLoop (depStep t.nodeKey) r.2.2.1 nd)
      | _ => .done (some (runner_calculateBranch ext mext sext fuel gr t.nodeKey t.call s2 isStream s.2.1).failAs,
          s.2.1, s.2.2.1, nd)
    | _ => .done (some .panic, s.2.1, s.2.2.1, nd)
  | _ => .done (some (copyItem ext mext sext t.output
      ((t.call.writeTo.length : Int) + (t.call.writeToBranches.length : Int) * 2)).failAs, s.2.1, s.2.2.1, nd)

def resolveShape (ext : Ext V) (mext : MgrExt V) (sext : StepExt V) (fuel : Nat) (gr : runner V)
    (ts : List (task V)) (isStream : Bool) (c : channelManager V) : RS V :=
  let r := goLoop (resolveBody ext mext sext fuel gr isStream) ts (none, c, [], [])
  onReturn r.1 id (.ret (r.2.1, r.2.2.1, r.2.2.2, none))

/-- The translated text is `resolveShape` up to unfolding.  `simp` must keep the join points of the `do` block
    (`-zeta`: inlined, the write loop is copied into every continuation of every `if`), and one pass is enough to
    turn every `forIn` into `goLoop`. -/
theorem resolveCompletedTasks_shape (ext : Ext V) (mext : MgrExt V) (sext : StepExt V) (fuel : Nat) (gr : runner V)
    (ts : List (task V)) (isStream : Bool) (c : channelManager V) :
    runner_resolveCompletedTasks ext mext sext fuel gr ts isStream c
      = resolveShape ext mext sext fuel gr ts isStream c := by
  unfold runner_resolveCompletedTasks
  simp -zeta +singlePass only [forIn_id]
  rfl

theorem deps_loop (from_ : String) (l : List String) (nd : GoMap (List String)) :
    goLoop (depStep from_) l nd = l.foldl (fun ds k => addDep ds k from_) nd :=
  goLoop_fold (fun (s : GoMap (List String)) => s) _ (fun ds k => addDep ds k from_) (fun a b => ⟨_, rfl, rfl⟩) l nd

theorem writeStep_replicate (M : Nat) (out : V) (from_ : String) (i : Int) (next : String) (w : GoMap (GoMap V))
    (h0 : 0 ≤ i) (h1 : i < M) :
    writeStep (List.replicate M out) from_ (i, next) (none, w) = .yield (none, addWrite w next from_ out) := by
  unfold writeStep
  rw [← write_one w next from_ out]
  -- either way the body reaches its `store`, on a map that has `next`
  cases hh : w.has next <;>
    simp only [goIdx_replicate M out i h0 h1, hh, has_set_same, Bool.not_true, Bool.not_false, Bool.false_eq_true,
      if_true, if_false]

theorem writes_loop (from_ : String) (out : V) (M : Nat) :
    ∀ (keys : List String) (k : Int) wcv, 0 ≤ k → k + keys.length ≤ M →
      goLoop (writeStep (List.replicate M out) from_) (goEnumFrom k keys) (none, wcv)
        = (none, keys.foldl (fun ws x => addWrite ws x from_ out) wcv) := by
  intro keys
  induction keys with
  | nil => intro k wcv _ _; rfl
  | cons x keys ih =>
    intro k wcv h0 h1
    simp only [goEnumFrom, goLoop, writeStep_replicate M out from_ k x wcv h0 (by simp at h1; omega), List.foldl_cons]
    exact ih (k + 1) _ (by omega) (by simp at h1 ⊢; omega)

/-- `resolveRest` only takes slices: it looks at the length of `vs` -/
theorem resolveRest_eq (b : Nat) (cm : channelManager V) (nd : GoMap (List String)) (keys : List String)
    (wcv : GoMap (GoMap V)) (vs : List V) (h1 : keys.length ≤ vs.length) (h2 : keys = [] → b ≤ vs.length) :
    resolveRest b cm nd keys wcv vs = .yield (none, cm, wcv, nd) := by
  unfold resolveRest
  rw [goSlice?_drop vs _ h1]
  cases keys with
  | nil => rw [← Int.natCast_sub (h2 rfl), goSlice?_take vs _ (Nat.sub_le _ _)]; rfl
  | cons k ks => exact if_neg (by simp [Int.natCast_add]; omega)

/-- with `M ≥ a + b` copies of the output at hand every key is written the output: when there are keys,
    `a + b = L + 1`, the copy at `L` exists and is copied again `cpLen (|keys| - a - b + 1)` times behind the
    first `L`, which is enough for all keys -/
theorem resolveWrite_replicate (ext : Ext V) (mext : MgrExt V) (sext : StepExt V) (from_ : String) (a b M : Nat)
    (out : V) (cm : channelManager V) (keys : List String) (wcv : GoMap (GoMap V)) (nd : GoMap (List String))
    (hM : a + b ≤ M) (hab : a + b = 0 → keys = []) :
    resolveWrite ext mext sext from_ a b (List.replicate M out) cm keys wcv nd = .yield (none, cm,
      keys.foldl (fun ws k => addWrite ws k from_ out) wcv, nd) := by
  unfold resolveWrite
  cases keys with
  | nil => exact resolveRest_eq b cm nd [] wcv _ (Nat.zero_le _) (fun _ => by rw [List.length_replicate]; omega)
  | cons k ks =>
    obtain ⟨L, hL⟩ := Nat.exists_eq_succ_of_ne_zero (fun h => List.cons_ne_nil k ks (hab h))
    have e1 : (a : Int) + (b : Int) - 1 = (L : Nat) := by omega
    have hLM : L < M := by omega
    have hc := cpLen_ge ((((k :: ks).length : Nat) : Int) - (a : Int) - (b : Int) + 1)
    generalize hM1 : cpLen ((((k :: ks).length : Nat) : Int) - (a : Int) - (b : Int) + 1) = M1 at hc
    have hk : (0 : Int) + (k :: ks).length ≤ (L + M1 : Nat) := by omega
    rw [if_pos (by simp), e1]
    simp only [goIdx_replicate M out L (Int.natCast_nonneg L) (Int.ofNat_lt.mpr hLM), copyItem_rep, hM1,
      goSlice?_take (List.replicate M out) L (List.length_replicate ▸ Nat.le_of_lt hLM), List.take_replicate,
      Nat.min_eq_left (Nat.le_of_lt hLM), List.replicate_append_replicate, goEnum,
      writes_loop from_ out (L + M1) (k :: ks) 0 wcv (Int.le_refl 0) hk, onReturn]
    exact resolveRest_eq b cm nd _ _ _ (by rw [List.length_replicate]; omega) (fun h => by cases h)

theorem resolveBody_spec (ext : Ext V) (mext : MgrExt V) (sext : StepExt V) (fuel : Nat) (gr : runner V)
    (t : task V) (c c' : channelManager V) (sel : List String) (e : Option GoErr) (wcv : GoMap (GoMap V))
    (nd : GoMap (List String)) :
    (t.call.writeToBranches = [] → sel = []) →
    (∀ m, t.call.writeToBranches.length ≤ m →
      runner_calculateBranch ext mext sext fuel gr t.nodeKey t.call (List.replicate m t.output) false c
        = .ret (List.replicate m t.output, c', sel, e)) →
    match e with
    | none => resolveBody ext mext sext fuel gr false t (none, c, wcv, nd) = ForInStep.yield (none, c',
        (sel ++ t.call.writeTo).foldl (fun ws k => addWrite ws k t.nodeKey t.output) wcv,
        sel.foldl (fun ds k => addDep ds k t.nodeKey) (t.call.controls.foldl (fun ds k => addDep ds k t.nodeKey) nd))
    | some _ => ∃ st, resolveBody ext mext sext fuel gr false t (none, c, wcv, nd) = ForInStep.done
        (some (.ret (c', [], [], some (GoErr.mk "calculate next step fail, node: %s, error: %w"))), st) := by
  intro hb0 hcb
  -- of the `M0 ≥ a + 2 b` copies, the `M0 - (a + b) ≥ b` behind the first `a + b` go to `calculateBranch` and come back
  have hc0 := cpLen_ge ((t.call.writeTo.length : Int) + (t.call.writeToBranches.length : Int) * 2)
  obtain ⟨M0, hM0⟩ : ∃ M0, cpLen ((t.call.writeTo.length : Int) + (t.call.writeToBranches.length : Int) * 2) = M0 :=
    ⟨_, rfl⟩
  rw [hM0] at hc0
  have hM : t.call.writeTo.length + t.call.writeToBranches.length ≤ M0 := by omega
  have hcb' := hcb (M0 - (t.call.writeTo.length + t.call.writeToBranches.length)) (by omega)
  rw [← List.drop_replicate] at hcb'
  unfold resolveBody
  simp only [copyItem_rep, hM0, deps_loop, ← Int.natCast_add, hcb', goSliceBack_drop,
    goSlice?_drop (List.replicate M0 t.output) _ (by rw [List.length_replicate]; exact hM)]
  cases e with
  | some e => exact ⟨_, rfl⟩
  | none =>
    simp only [Option.isSome_none, Bool.false_eq_true, if_false]
    exact resolveWrite_replicate ext mext sext t.nodeKey _ _ M0 t.output c' _ wcv _ hM (fun h => by
      rw [hb0 (List.eq_nil_of_length_eq_zero (Nat.eq_zero_of_add_eq_zero_left h)),
        List.eq_nil_of_length_eq_zero (Nat.eq_zero_of_add_eq_zero_right h)]; rfl)

theorem resolve_loop (ext : Ext V) (mext : MgrExt V) (sext : StepExt V) (r : Runner V) (gr : runner V)
    (rank : Key → Nat) (hacyc : r.dag = true → ∀ n ∈ r.nodes, ∀ s ∈ n.successors, rank n.key < rank s)
    (hE : NoBranchHandlers sext) (ts : List (task V)) (ds : List (Done V)) (hrel : ListRel (TaskRel sext r) ts ds) :
    ∀ (acc : Resolved V), ∃ N, ∀ fuel, N ≤ fuel →
      ∀ c0 c, Frame c0 c → toChans c.channels = acc.cm → MgrInv r c → EndsClosed r c →
      match ds.foldlM (resolveStep r) acc with
      | .ok res => ∃ c', goLoop (resolveBody ext mext sext fuel gr false) ts (none, c, acc.writes, acc.deps)
            = (none, c', res.writes, res.deps) ∧
          toChans c'.channels = res.cm ∧ Frame c0 c' ∧ MgrInv r c'
      | .error _ => ∃ c' st, goLoop (resolveBody ext mext sext fuel gr false) ts (none, c, acc.writes, acc.deps) =
          (some (.ret (c', [], [], some (GoErr.mk "calculate next step fail, node: %s, error: %w"))), st) := by
  induction hrel with
  | nil =>
    intro acc
    refine ⟨0, fun fuel _ c0 c hfr hc inv _ => ?_⟩
    simp only [List.foldlM_nil, pure, Except.pure, goLoop]
    exact ⟨c, rfl, hc, hfr, inv⟩
  | @cons t d ts ds htd _ ih =>
    intro acc
    obtain ⟨n, hn, hkey, hcall⟩ := htd.call
    obtain ⟨N1, hN1⟩ := calculateBranch_refines ext mext sext r gr acc.cm n d.2 rank hacyc hE
    simp only [List.foldlM_cons, resolveStep, hn]
    cases hcb : calcBranch r acc.cm n d.2 with
    | error e =>
      refine ⟨N1, fun fuel hf c0 c _ hc inv hec => ?_⟩
      have h1 := hN1 c t.call fuel hf hc inv hcall (hec d.1 n hn)
      rw [hcb] at h1
      obtain ⟨c', e', h1⟩ := h1
      simp only [bind, Except.bind]
      rw [hkey, ← htd.key, ← htd.out] at h1
      obtain ⟨st, hst⟩ := resolveBody_spec ext mext sext fuel gr t c c' [] (some e') acc.writes acc.deps
        (fun _ => rfl) h1
      exact ⟨c', st, by simp only [goLoop, hst]⟩
    | ok res1 =>
      obtain ⟨cm', sel⟩ := res1
      simp only [bind, Except.bind, pure, Except.pure]
      obtain ⟨N2, hN2⟩ := ih (Resolved.mk cm'
        ((sel ++ n.writeTo).foldl (fun ws k => addWrite ws k d.1 d.2) acc.writes)
        (sel.foldl (fun ds k => addDep ds k d.1) (n.controls.foldl (fun ds k => addDep ds k d.1) acc.deps)))
      refine ⟨max N1 N2, fun fuel hf c0 c hfr hc inv hec => ?_⟩
      have h1 := hN1 c t.call fuel (Nat.le_trans (Nat.le_max_left _ _) hf) hc inv hcall (hec d.1 n hn)
      rw [hcb] at h1
      obtain ⟨c1, g1, g2, g3, g4, g5⟩ := h1
      rw [hkey, ← htd.key, ← htd.out] at g1
      have hb0 : t.call.writeToBranches = [] → sel = [] := fun h0 => g5 (ListRel.eq_nil (h0 ▸ hcall.branches))
      have hs := resolveBody_spec ext mext sext fuel gr t c c1 sel none acc.writes acc.deps hb0 g1
      rw [hcall.writeTo, hcall.controls, htd.key, htd.out] at hs
      simp only [goLoop, hs]
      exact hN2 fuel (Nat.le_trans (Nat.le_max_right _ _) hf) c0 c1 (hfr.trans g3) g2 g4 (hec.frame g3)

/-- **`resolveCompletedTasks` refines `resolve`** (value mode).  There is a fuel from which on, for every
    manager `c` that represents the model's channels `cm` and satisfies the invariants, the translated
    function does not leave the translated semantics and returns the model's write map, dependency map and
    channels — or an error exactly when the model's `resolve` fails. -/
theorem resolveCompletedTasks_refines (ext : Ext V) (mext : MgrExt V) (sext : StepExt V) (r : Runner V) (gr : runner V)
    (rank : Key → Nat) (hacyc : r.dag = true → ∀ n ∈ r.nodes, ∀ s ∈ n.successors, rank n.key < rank s)
    (hE : NoBranchHandlers sext) (ts : List (task V)) (ds : List (Done V)) (hrel : ListRel (TaskRel sext r) ts ds)
    (cm : Chans V) :
    ∃ N, ∀ fuel, N ≤ fuel → ∀ c, toChans c.channels = cm → MgrInv r c → EndsClosed r c →
      match resolve r cm ds with
      | .ok res => ∃ c', runner_resolveCompletedTasks ext mext sext fuel gr ts false c
            = .ret (c', res.writes, res.deps, none) ∧
          toChans c'.channels = res.cm ∧ Frame c c' ∧ MgrInv r c'
      | .error _ => ∃ c' e, runner_resolveCompletedTasks ext mext sext fuel gr ts false c
            = .ret (c', [], [], some e) := by
  obtain ⟨N, hN⟩ := resolve_loop ext mext sext r gr rank hacyc hE ts ds hrel { cm := cm, writes := [], deps := [] }
  refine ⟨N, fun fuel hf c0 hc inv hec => ?_⟩
  rw [resolveCompletedTasks_shape]
  unfold resolveShape resolve
  have h := hN fuel hf c0 c0 (Frame.refl c0) hc inv hec
  revert h
  cases List.foldlM (resolveStep r) { cm := cm, writes := [], deps := [] } ds with
  | error e =>
    intro h
    obtain ⟨c', st, h⟩ := h
    simp only [h, onReturn, id]
    exact ⟨c', _, rfl⟩
  | ok res =>
    intro h
    obtain ⟨c', h1, h2, h3, h4⟩ := h
    simp only [h1, onReturn]
    exact ⟨c', rfl, h2, h3, h4⟩

open TransDag (KeysNodup)

/-- the task `createTasks` builds for a ready node -/
def mkTask (gr : runner V) (p : String × V) : task V :=
  { nodeKey := p.1, call := gr.chanSubscribeTo.getD' p.1 default, input := p.2, output := default }

theorem createTasks_spec (ext : Ext V) (mext : MgrExt V) (sext : StepExt V) (gr : runner V) (nm : GoMap V)
    (om : GoMap (List V)) (h : ∀ p ∈ nm, gr.chanSubscribeTo.has p.1 = true) :
    runner_createTasks ext mext sext gr nm om = (nm.map (mkTask gr), none) := by
  unfold runner_createTasks
  simp only [forIn_id, Id.run, bind, pure]
  generalize hb : (fun (x : String × V) __s => _) = body
  have key := goLoop_rule (f := body) (Q := fun s => s = (none, nm.map (mkTask gr)))
    (fun rest s => (∀ p ∈ rest, gr.chanSubscribeTo.has p.1 = true) ∧ s.1 = none ∧
      s.2 ++ rest.map (mkTask gr) = nm.map (mkTask gr)) ?_ ?_ nm (none, []) ⟨h, rfl, rfl⟩
  · rw [key]
  · rintro p rest ⟨o, acc⟩ ⟨hl, ho, he⟩
    rw [← hb]
    simp only [hl p List.mem_cons_self, Bool.not_true, Bool.false_eq_true, if_false, stepTo_yield]
    exact ⟨fun q hq => hl q (List.mem_cons_of_mem _ hq), trivial, by simpa [mkTask] using he⟩
  · rintro ⟨o, acc⟩ ⟨_, ho, he⟩
    simp only [List.map_nil, List.append_nil] at ho he
    rw [ho, he]

theorem mem_successors {n : Node V} {k : Key} :
    k ∈ n.successors ↔ k ∈ n.writeTo ∨ k ∈ n.controls ∨ ∃ b ∈ n.branches, k ∈ b.ends := by
  simp only [Node.successors, List.mem_append, List.mem_flatMap, or_assoc]

def CallsClosed (r : Runner V) (c : channelManager V) : Prop :=
  ∀ k n, r.call? k = some n → ∀ s ∈ n.successors, c.channels.has s = true

theorem CallsClosed.ends {r : Runner V} {c : channelManager V} (h : CallsClosed r c) : EndsClosed r c := by
  intro k n hk b hb e he
  exact h k n hk e (mem_successors.mpr (.inr (.inr ⟨b, hb, he⟩)))

def SubsOK (gr : runner V) (c : channelManager V) : Prop :=
  ∀ k, c.channels.has k = true → k ≠ END → gr.chanSubscribeTo.has k = true

theorem selectOf_subset (n : Node V) (out : V) (sel : List Key) (h : selectOf n out = .ok sel) :
    ∀ s ∈ sel, ∃ b ∈ n.branches, s ∈ b.ends := by
  rw [selectOf_eq] at h
  cases hm : n.branches.mapM (fun b => brSel b out) with
  | error e => simp [hm, Except.map] at h
  | ok wss =>
    simp only [hm, Except.map, Except.ok.injEq] at h
    subst h
    intro s hs
    obtain ⟨ws, hws, hs⟩ := List.mem_flatten.mp hs
    obtain ⟨b, hb, hbs⟩ := mapM_mem_ok _ _ _ hm ws hws
    refine ⟨b, hb, ?_⟩
    -- a branch's selection passed the check that all of it are ends of the branch
    obtain ⟨ws', _, h2⟩ := bind_eq_ok.mp hbs
    split at h2
    · rename_i hall
      cases h2
      simpa using List.all_eq_true.mp hall s hs
    · cases h2

/-- what `updateAndGet` needs of the maps `resolve` builds: every target has a channel (`T`), and the
    write map of a target has one entry per sender -/
def AccOK (T : Key → Prop) (acc : Resolved V) : Prop :=
  (∀ w ∈ acc.writes, T w.1 ∧ KeysNodup w.2) ∧ (∀ d ∈ acc.deps, T d.1)

theorem addWrite_ok (T : Key → Prop) (ws : List (Key × List (Key × V))) (to from_ : Key) (v : V)
    (h : ∀ w ∈ ws, T w.1 ∧ KeysNodup w.2) (ht : T to) : ∀ w ∈ addWrite ws to from_ v, T w.1 ∧ KeysNodup w.2 := by
  intro w hw
  unfold addWrite at hw
  rcases mem_aset _ _ _ _ hw with hw | hw
  · subst hw
    refine ⟨ht, ?_⟩
    apply nodup_akeys_aset
    cases hl : alookup to ws with
    | none => simp [akeys]
    | some old => exact (h _ (mem_of_alookup to old ws hl)).2
  · exact h w hw

theorem addDep_ok (T : Key → Prop) (ds : List (Key × List Key)) (to from_ : Key)
    (h : ∀ d ∈ ds, T d.1) (ht : T to) : ∀ d ∈ addDep ds to from_, T d.1 := by
  intro d hd
  unfold addDep at hd
  rcases mem_aset _ _ _ _ hd with hd | hd
  · subst hd; exact ht
  · exact h d hd

theorem addWrites_ok (T : Key → Prop) (from_ : Key) (v : V) (keys : List Key) (hk : ∀ k ∈ keys, T k) :
    ∀ (ws : List (Key × List (Key × V))), (∀ w ∈ ws, T w.1 ∧ KeysNodup w.2) →
    ∀ w ∈ keys.foldl (fun ws k => addWrite ws k from_ v) ws, T w.1 ∧ KeysNodup w.2 := fun ws h =>
  foldl_inv (fun ws => ∀ w ∈ ws, T w.1 ∧ KeysNodup w.2) _ keys
    (fun ws h k hk' => addWrite_ok T ws k from_ v h (hk k hk')) ws h

theorem addDeps_ok (T : Key → Prop) (from_ : Key) (keys : List Key) (hk : ∀ k ∈ keys, T k) :
    ∀ (ds : List (Key × List Key)), (∀ d ∈ ds, T d.1) →
    ∀ d ∈ keys.foldl (fun ds k => addDep ds k from_) ds, T d.1 := fun ds h =>
  foldl_inv (fun ds => ∀ d ∈ ds, T d.1) _ keys (fun ds h k hk' => addDep_ok T ds k from_ h (hk k hk')) ds h

theorem resolveStep_ok (T : Key → Prop) (r : Runner V) (acc acc' : Resolved V) (d : Done V)
    (hT : ∀ n, r.call? d.1 = some n → ∀ s ∈ n.successors, T s)
    (h : resolveStep r acc d = .ok acc') (ha : AccOK T acc) : AccOK T acc' := by
  rcases Engine.resolveStep_ok h with ⟨_, rfl⟩ | ⟨n, sel, cm', hn, hs, _, rfl⟩
  · exact ha
  · have hsel : ∀ k ∈ sel, T k := fun k hk =>
      hT n hn k (mem_successors.mpr (.inr (.inr (selectOf_subset n d.2 sel hs k hk))))
    have hwt : ∀ k ∈ n.writeTo, T k := fun k hk => hT n hn k (mem_successors.mpr (.inl hk))
    have hct : ∀ k ∈ n.controls, T k := fun k hk => hT n hn k (mem_successors.mpr (.inr (.inl hk)))
    constructor
    · exact addWrites_ok T d.1 d.2 (sel ++ n.writeTo)
        (fun k hk => (List.mem_append.mp hk).elim (hsel k) (hwt k)) _ ha.1
    · exact addDeps_ok T d.1 sel hsel _ (addDeps_ok T d.1 n.controls hct _ ha.2)

theorem resolve_ok (T : Key → Prop) (r : Runner V) (ds : List (Done V))
    (hT : ∀ d ∈ ds, ∀ n, r.call? d.1 = some n → ∀ s ∈ n.successors, T s) :
    ∀ (acc res : Resolved V), ds.foldlM (resolveStep r) acc = .ok res → AccOK T acc → AccOK T res :=
  fun acc res h ha => foldlM_inv_mem (resolveStep r) (AccOK T) ds
    (fun a d hd a' ha hs => resolveStep_ok T r a a' d (hT d hd) hs ha) acc res ha h

theorem getReady_keys (ops : ValOps V) (dag : Bool) : ∀ (cm : Chans V),
    akeys (getReady ops dag cm).1 = akeys cm ∧ ∀ p ∈ (getReady ops dag cm).2.1, p.1 ∈ akeys cm := fun cm =>
  ⟨akeys_getReady ops dag cm,
   fun p hp => (getReady_keys_sublist ops dag cm).subset (List.mem_map_of_mem (f := (·.1)) hp)⟩

/-- **`calculateNextTasks` refines `calcNext`** (value mode): there is a fuel from which on, for every manager
    `c` that represents the model's channels `cm` and satisfies the invariants, the translated function does
    not leave the translated semantics (no panic, nothing unspecified) and returns what the model returns:
    END's value, or one task per ready node in the model's order (node key, input, the runner's `chanCall`
    for the key), or an error exactly when the model fails. -/
theorem calculateNextTasks_refines (ops : ValOps V) (es : V) (mext : MgrExt V) (sext : StepExt V) (r : Runner V)
    (gr : runner V) (rank : Key → Nat)
    (hacyc : r.dag = true → ∀ n ∈ r.nodes, ∀ s ∈ n.successors, rank n.key < rank s)
    (hE : NoBranchHandlers sext) (hM : NoHandlers mext)
    (ts : List (task V)) (ds : List (Done V)) (hrel : ListRel (TaskRel sext r) ts ds) (cm : Chans V) :
    ∃ N, ∀ fuel, N ≤ fuel → ∀ c om, toChans c.channels = cm → c.isStream = false → MgrInv r c →
      CallsClosed r c → SubsOK gr c →
      match calcNext (TransDag.opsFor ops es false) r cm ds with
      | .ok (cm3, .result v) => ∃ c',
          runner_calculateNextTasks (TransDag.extOf ops es) mext sext fuel gr ts false c om = .ret (c', [], v, none) ∧
          toChans c'.channels = cm3 ∧ Frame c c' ∧ ChansOK r.dag c'.channels
      | .ok (cm3, .tasks ready) => ∃ c',
          runner_calculateNextTasks (TransDag.extOf ops es) mext sext fuel gr ts false c om
            = .ret (c', ready.map (mkTask gr), default, none) ∧
          toChans c'.channels = cm3 ∧ Frame c c' ∧ ChansOK r.dag c'.channels
      | .error _ => ∃ c' e,
          runner_calculateNextTasks (TransDag.extOf ops es) mext sext fuel gr ts false c om
            = .ret (c', [], default, some e) := by
  obtain ⟨N, hN⟩ := resolveCompletedTasks_refines (TransDag.extOf ops es) mext sext r gr rank hacyc hE ts ds hrel cm
  refine ⟨N, fun fuel hf c om hc hs inv hcc hsub => ?_⟩
  have h := hN fuel hf c hc inv hcc.ends
  unfold runner_calculateNextTasks calcNext
  simp only [Id.run, bind, pure]
  cases hres : resolve r cm ds with
  | error e =>
    rw [hres] at h
    obtain ⟨c', e', h⟩ := h
    simp only [h, Except.bind, Option.isSome_some, if_true]
    exact ⟨c', e', rfl⟩
  | ok res =>
    rw [hres] at h
    obtain ⟨c1, h1, h2, h3, h4⟩ := h
    have hT : AccOK (fun k => c.channels.has k = true) res := by
      unfold resolve at hres
      exact resolve_ok _ r ds (fun d _ n hn => hcc d.1 n hn) _ res hres ⟨by simp, by simp⟩
    have hs1 : c1.isStream = false := by rw [h3.isStream]; exact hs
    obtain ⟨res2, u1, u2, u3⟩ := updateAndGet_refines ops es mext r c1 res.writes res.deps h4.rel h4.ok hM
      (fun w hw => by rw [h3.has]; exact (hT.1 w hw).1) (fun w hw => (hT.1 w hw).2)
      (fun d hd => by rw [h3.has]; exact hT.2 d hd)
    rw [hs1, h2] at u2 u3
    simp only [h1, Option.isSome_none, Bool.false_eq_true, if_false, u1, Except.bind]
    generalize hg : getReady (TransDag.opsFor ops es false) r.dag (updateDeps r (updateValues r res.cm res.writes) res.deps) = g at u2 u3
    obtain ⟨cm3, ready, bad⟩ := g
    cases bad with
    | true =>
      obtain ⟨v1, v2⟩ := u3 rfl
      simp only [v1, if_true, throw, throwThe, MonadExceptOf.throw]
      exact ⟨res2.1, _, rfl⟩
    | false =>
      obtain ⟨v1, v2, v3, v4, v5⟩ := u2 rfl
      simp only at v1 v2
      have hfr : Frame c res2.1 := h3.trans v4
      simp only [v3, Option.isSome_none, Bool.false_eq_true, if_false, v2]
      have hEND : const_END = END := rfl
      cases ready with
      | nil => exact ⟨res2.1, by simp, v1, hfr, v5⟩
      | cons p ps =>
        have hpos : (((p :: ps).length : Nat) : Int) > 0 := by simp
        cases hl : alookup END (p :: ps) with
        | some v =>
          have hh : GoMap.has (p :: ps) const_END = true := by simp [GoMap.has, hEND, hl]
          have hv : GoMap.getD' (p :: ps) const_END default = v := by simp [GoMap.getD', hEND, hl]
          simp only [hpos, decide_true, if_true, hh, hv, Except.pure]
          exact ⟨res2.1, rfl, v1, hfr, v5⟩
        | none =>
          have hh : GoMap.has (p :: ps) const_END = false := by simp [GoMap.has, hEND, hl]
          -- a ready node has a channel, and is not END: it is subscribed
          have hkeys := getReady_keys (TransDag.opsFor ops es false) r.dag
            (updateDeps r (updateValues r res.cm res.writes) res.deps)
          rw [hg] at hkeys
          have hall : ∀ q ∈ p :: ps, gr.chanSubscribeTo.has q.1 = true := fun q hq =>
            hsub q.1 (has_of_mem_keys _ _ (by rw [← hfr.keys, ← akeys_toChans, v1, hkeys.1]; exact hkeys.2 q hq))
              (ne_of_alookup_none END _ hl q hq)
          simp only [hpos, decide_true, if_true, hh, Bool.false_eq_true, if_false, Except.pure,
            createTasks_spec (TransDag.extOf ops es) mext sext gr _ om hall, Option.isSome_none]
          exact ⟨res2.1, rfl, v1, hfr, v5⟩

theorem step_total (ops : ValOps V) (es : V) (mext : MgrExt V) (sext : StepExt V) (r : Runner V)
    (gr : runner V) (rank : Key → Nat)
    (hacyc : r.dag = true → ∀ n ∈ r.nodes, ∀ s ∈ n.successors, rank n.key < rank s)
    (hE : NoBranchHandlers sext) (hM : NoHandlers mext)
    (ts : List (task V)) (ds : List (Done V)) (hrel : ListRel (TaskRel sext r) ts ds) (cm : Chans V) :
    ∃ N, ∀ fuel, N ≤ fuel → ∀ c om, toChans c.channels = cm → c.isStream = false → MgrInv r c →
      CallsClosed r c → SubsOK gr c →
      ∃ res, runner_calculateNextTasks (TransDag.extOf ops es) mext sext fuel gr ts false c om = .ret res := by
  obtain ⟨N, hN⟩ := calculateNextTasks_refines ops es mext sext r gr rank hacyc hE hM ts ds hrel cm
  refine ⟨N, fun fuel hf c om hc hs inv hcc hsub => ?_⟩
  have h := hN fuel hf c om hc hs inv hcc hsub
  revert h
  cases calcNext (TransDag.opsFor ops es false) r cm ds with
  | error e => intro h; obtain ⟨c', e', h⟩ := h; exact ⟨_, h⟩
  | ok p =>
    obtain ⟨cm3, nx⟩ := p
    cases nx with
    | result v => intro h; obtain ⟨c', h, _⟩ := h; exact ⟨_, h⟩
    | tasks ready => intro h; obtain ⟨c', h, _⟩ := h; exact ⟨_, h⟩

/-- the hypotheses hold for the manager `initChannelManager` builds (`initMgr`), for every runner whose
    successors (of the nodes and of START) are nodes or END -/
theorem step_hypotheses_hold (r : Runner V) (s : Bool) (hnd : (akeys (initChans r)).Nodup)
    (hc : RunnerClosed r) (hs : ∀ k ∈ r.start.successors, k ∈ akeys (initChans r)) :
    MgrInv r (initMgr r s) ∧ CallsClosed r (initMgr r s) ∧
    toChans (initMgr r s).channels = initChans r := by
  refine ⟨⟨initMgr_rel r s, initMgr_ok r s hnd, initMgr_closed r s hc, ?_, ?_,
    initMgr_len r s⟩, ?_, initMgr_chans r s⟩
  · rw [initMgr_chans]; exact (init_skipClosed r).2
  · rw [initMgr_chans]; exact (init_skipClosed r).1
  · intro k n hk t ht
    apply has_of_mem_keys
    rw [initMgr_keys]
    rcases call?_mem r k n hk with hm | rfl
    · exact hc n hm t ht
    · exact hs t ht

end EinoV.TransStep
