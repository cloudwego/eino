/-
  C20 — lemmas about Model/C20Static.lean: a runnable whose static-value handlers are private
  copies answers the same in every builder state; with `copies = true` every runnable a call
  sequence produces is of that kind; with `guarded = true` a compiled Workflow's static values
  never change again; a static value on a path an input already maps makes Compile fail.
-/
import EinoV.Model.C20Static

namespace EinoV.Build.SV

def Pre.closed (p : Pre) : Bool := p.all (fun e => e.2.all SRef.isCopy)

def SRunner.closed (r : SRunner) : Bool := Pre.closed r.pre

/-- every handler list of the builder and of the runnables made so far holds copies only -/
def St.Closed (st : St) : Prop := Pre.closed st.1.pre = true ∧ ∀ r ∈ st.2, r.closed = true

theorem SRef.now_copy (w w' : SW) (x : SRef) (h : x.isCopy = true) : x.now w = x.now w' := by
  cases x with
  | copy kvs => rfl
  | alias k => simp [SRef.isCopy] at h

theorem resolve_closed (r : SRunner) (h : r.closed = true) (w w' : SW) : r.resolve w = r.resolve w' := by
  unfold SRunner.resolve
  apply List.map_congr_left
  intro p hp
  have hall : p.2.all SRef.isCopy = true := List.all_eq_true.mp h p hp
  congr 1
  apply List.map_congr_left
  intro x hx
  exact SRef.now_copy w w' x (List.all_eq_true.mp hall x hx)

theorem run_closed (r : SRunner) (h : r.closed = true) (w w' : SW) (inp : KVs) :
    r.run w inp = r.run w' inp := by
  unfold SRunner.run
  rw [resolve_closed r h w w']

theorem prePrepend_closed (k : String) (x : SRef) (hx : x.isCopy = true) (p : Pre)
    (hp : Pre.closed p = true) : Pre.closed (prePrepend k x p) = true := by
  induction p with
  | nil => simp [prePrepend, Pre.closed, hx]
  | cons e t ih =>
    obtain ⟨k', xs⟩ := e
    simp only [Pre.closed, List.all_cons, Bool.and_eq_true] at hp
    unfold prePrepend
    split <;> simp only [Pre.closed, List.all_cons, Bool.and_eq_true]
    · exact ⟨⟨hx, hp.1⟩, hp.2⟩
    · exact ⟨hp.1, ih hp.2⟩

theorem staticStep_closed (F : SFacts) (hc : F.copies = true) (ns : List SNode) (p : Pre)
    (hp : Pre.closed p = true) : Pre.closed (staticStep F ns p).2.1 = true := by
  induction ns generalizing p with
  | nil => simpa [staticStep] using hp
  | cons n t ih =>
    unfold staticStep
    split
    · exact ih p hp
    · dsimp only
      split
      · exact hp
      · refine ih _ (prePrepend_closed n.key _ ?_ p hp)
        rfl

theorem compile_cases (F : SFacts) (w : SW) :
    let r1 := replayAll w.compiled w.nodes
    let r2 := staticStep F r1.1 w.pre
    compile F w = ({ w with nodes := r1.1 }, none) ∨
    compile F w = ({ w with nodes := r2.1, pre := r2.2.1 }, none) ∨
    compile F w = ({ nodes := r2.1, pre := r2.2.1, compiled := true },
      some { nodes := r2.1.map (fun n => (n.key, n.done)), pre := r2.2.1 }) := by
  unfold compile
  dsimp only
  split
  · exact Or.inl rfl
  · split
    · exact Or.inr (Or.inl rfl)
    · exact Or.inr (Or.inr rfl)

theorem compile_closed (F : SFacts) (hc : F.copies = true) (w : SW) (hp : Pre.closed w.pre = true) :
    Pre.closed (compile F w).1.pre = true ∧ ∀ r, (compile F w).2 = some r → r.closed = true := by
  have hs := staticStep_closed F hc (replayAll w.compiled w.nodes).1 w.pre hp
  rcases compile_cases F w with e | e | e <;> rw [e]
  · exact ⟨hp, nofun⟩
  · exact ⟨hs, nofun⟩
  · exact ⟨hs, fun r hr => Option.some.inj hr ▸ hs⟩

theorem runOps_ind {P : St → Prop} (F : SFacts) (inp : KVs) (hstep : ∀ st op, P st → P (step F inp st op).1) :
    ∀ (ops : List SOp) (st : St), P st → P (runOps F inp st ops).1
  | [], _, h => h
  | op :: ops, st, h => runOps_ind F inp hstep ops _ (hstep st op h)

theorem step_closed (F : SFacts) (hc : F.copies = true) (inp : KVs) (st : St) (h : St.Closed st)
    (op : SOp) : St.Closed (step F inp st op).1 := by
  cases op with
  | set k p v =>
    refine ⟨?_, h.2⟩
    simp only [step, setStatic]
    split <;> exact h.1
  | input k i => exact ⟨h.1, h.2⟩
  | compile =>
    have hcc := compile_closed F hc st.1 h.1
    simp only [step]
    split
    · rename_i r hr
      refine ⟨hcc.1, ?_⟩
      intro r' hr'
      rcases List.mem_append.mp hr' with hm | hm
      · exact h.2 r' hm
      · simp only [List.mem_singleton] at hm
        rw [hm]; exact hcc.2 r hr
    · exact ⟨hcc.1, h.2⟩
  | run i =>
    simp only [step]
    split <;> exact h

theorem runOps_closed (F : SFacts) (hc : F.copies = true) (inp : KVs) (st : St) (h : St.Closed st)
    (ops : List SOp) : St.Closed (runOps F inp st ops).1 :=
  runOps_ind F inp (fun st op h => step_closed F hc inp st h op) ops st h

theorem new_closed (decl : List (String × List SIn)) : St.Closed (SW.new decl, []) :=
  ⟨rfl, by simp⟩

theorem step_runners (F : SFacts) (inp : KVs) (st : St) (op : SOp) : st.2 <+: (step F inp st op).1.2 := by
  cases op with
  | set k p v => exact List.prefix_refl _
  | input k i => exact List.prefix_refl _
  | compile =>
    simp only [step]
    split
    · exact List.prefix_append _ _
    · exact List.prefix_refl _
  | run i =>
    simp only [step]
    split <;> exact List.prefix_refl _

theorem runOps_runners (F : SFacts) (inp : KVs) (st : St) (ops : List SOp) :
    st.2 <+: (runOps F inp st ops).1.2 :=
  runOps_ind (P := fun x => st.2 <+: x.2) F inp (fun x op h => h.trans (step_runners F inp x op)) ops st
    (List.prefix_refl _)

theorem replayAll_statics (c : Bool) (ns : List SNode) :
    (replayAll c ns).1.map (fun n => (n.key, n.static)) = ns.map (fun n => (n.key, n.static)) := by
  induction ns with
  | nil => rfl
  | cons n t ih =>
    unfold replayAll
    dsimp only
    split
    · simp [ih]
    · simp

theorem staticStep_statics (F : SFacts) (ns : List SNode) (p : Pre) :
    (staticStep F ns p).1.map (fun n => (n.key, n.static)) = ns.map (fun n => (n.key, n.static)) := by
  induction ns generalizing p with
  | nil => rfl
  | cons n t ih =>
    unfold staticStep
    split
    · simp [ih]
    · dsimp only
      split
      · simp
      · simp [ih]

theorem compile_statics (F : SFacts) (w : SW) : (compile F w).1.statics = w.statics := by
  have hs := staticStep_statics F (replayAll w.compiled w.nodes).1 w.pre
  rw [replayAll_statics] at hs
  rcases compile_cases F w with e | e | e <;> rw [e]
  · exact replayAll_statics _ _
  · exact hs
  · exact hs

theorem compile_compiled (F : SFacts) (w : SW) (h : w.compiled = true) : (compile F w).1.compiled = true := by
  rcases compile_cases F w with e | e | e <;> rw [e]
  · exact h
  · exact h

theorem compile_some_compiled (F : SFacts) (w : SW) (r : SRunner) (h : (compile F w).2 = some r) :
    (compile F w).1.compiled = true := by
  rcases compile_cases F w with e | e | e <;> rw [e] at h ⊢
  · cases h
  · cases h

theorem updNode_pend_statics (k : String) (i : SIn) (ns : List SNode) :
    (updNode k (fun n => { n with pend := n.pend ++ [i] }) ns).map (fun n => (n.key, n.static))
      = ns.map (fun n => (n.key, n.static)) := by
  induction ns with
  | nil => rfl
  | cons n t ih =>
    unfold updNode
    split
    · simp
    · simp [ih]

theorem step_guarded (F : SFacts) (hg : F.guarded = true) (inp : KVs) (st : St)
    (hc : st.1.compiled = true) (op : SOp) :
    (step F inp st op).1.1.statics = st.1.statics ∧ (step F inp st op).1.1.compiled = true := by
  cases op with
  | set k p v => simp [step, setStatic, hg, hc]
  | input k i =>
    simp only [step, addInput, SW.statics]
    exact ⟨updNode_pend_statics k i _, hc⟩
  | compile =>
    simp only [step]
    split
    · exact ⟨compile_statics F st.1, compile_compiled F st.1 hc⟩
    · exact ⟨compile_statics F st.1, compile_compiled F st.1 hc⟩
  | run i =>
    simp only [step]
    split <;> exact ⟨rfl, hc⟩

theorem runOps_guarded (F : SFacts) (hg : F.guarded = true) (inp : KVs) (st : St)
    (hc : st.1.compiled = true) (ops : List SOp) :
    (runOps F inp st ops).1.1.statics = st.1.statics ∧ (runOps F inp st ops).1.1.compiled = true :=
  runOps_ind (P := fun x => x.1.statics = st.1.statics ∧ x.1.compiled = true) F inp
    (fun x op h => ⟨(step_guarded F hg inp x h.2 op).1.trans h.1, (step_guarded F hg inp x h.2 op).2⟩)
    ops st ⟨rfl, hc⟩

theorem insAll_mem (fs ps : List String) (p : String) (hp : p ∈ ps) (hf : p ∈ fs) :
    (insAll fs ps).2 = false := by
  induction ps generalizing fs with
  | nil => simp at hp
  | cons q qs ih =>
    unfold insAll
    split
    · rfl
    · rename_i hq
      rcases List.mem_cons.mp hp with h | h
      · subst h; simp_all
      · exact ih (fs ++ [q]) h (List.mem_append_left _ hf)

theorem replayIns_nil (c : Bool) (t : MP) (d : List SIn) : replayIns c t d [] = (t, d, true) := rfl

theorem replayAll_nopend (c : Bool) (ns : List SNode) (h : ∀ m ∈ ns, m.pend = []) :
    replayAll c ns = (ns, true) := by
  induction ns with
  | nil => rfl
  | cons n t ih =>
    have hn : n.pend = [] := h n (by simp)
    have ht := ih (fun m hm => h m (by simp [hm]))
    unfold replayAll
    rw [hn, replayIns_nil]
    dsimp only
    rw [ht]
    simp only [if_true]
    cases n
    simp_all

theorem add_taken (t : MP) (ps : List String)
    (h : t = .whole ∨ ∃ fs p, t = .fields fs ∧ p ∈ fs ∧ p ∈ ps) : (t.add ps).2 = false := by
  rcases h with h | ⟨fs, p, h, hf, hp⟩
  · subst h; rfl
  · subst h
    cases ps with
    | nil => simp at hp
    | cons q qs => exact insAll_mem fs (q :: qs) p hp hf

theorem staticStep_fails (F : SFacts) (ns : List SNode) (pre : Pre) (n : SNode) (hn : n ∈ ns)
    (hne : n.static.isEmpty = false) (hf : (n.trie.add n.static.keys).2 = false) :
    (staticStep F ns pre).2.2 = false := by
  induction ns generalizing pre with
  | nil => simp at hn
  | cons m t ih =>
    unfold staticStep
    split
    · rename_i hm
      rcases List.mem_cons.mp hn with h | h
      · subst h; simp [hne] at hm
      · exact ih pre h
    · dsimp only
      split
      · rfl
      · rename_i hm hadd
        rcases List.mem_cons.mp hn with h | h
        · subst h; simp [hf] at hadd
        · exact ih _ h

/-- `ht`: the path is already taken – the node's whole input is mapped, or an input maps that very field -/
theorem compile_static_taken (F : SFacts) (w : SW) (hp : ∀ m ∈ w.nodes, m.pend = [])
    (n : SNode) (hn : n ∈ w.nodes) (hne : n.static.isEmpty = false)
    (ht : n.trie = .whole ∨ ∃ fs p, n.trie = .fields fs ∧ p ∈ fs ∧ p ∈ n.static.keys) :
    (compile F w).2 = none := by
  have h1 := replayAll_nopend w.compiled w.nodes hp
  have h2 := staticStep_fails F w.nodes w.pre n hn hne (add_taken _ _ ht)
  unfold compile
  dsimp only
  rw [h1]
  simp [h2]

end EinoV.Build.SV
