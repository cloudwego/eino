/-
  C08 — helper lemmas for the hand-over of a reader with history (Model/C08Late.lean).
-/
import EinoV.Model.C08Late


namespace EinoV.C08

theorem CopySys.recv1_listed {σ : Type} {f : CopyFacts} (hfo : f.fillOnce = true) (S : Src σ)
    {y : CopySys σ} {i k : Nat} {it : Item} (hc : y.core.cursors[i]? = some (some k))
    (hl : y.core.log[k]? = some it) :
    y.recv1 f S i = some (.item it,
      { y with core := { y.core with cursors := y.core.cursors.set i (some (k + 1)) },
               outs := y.outs ++ [(i, .item it)] }) := by
  simp only [CopySys.recv1, CopyCore.peekLocal, hc, hfo, hl, Bool.not_true, Bool.false_eq_true,
    if_false]

theorem CopySys.recv1_ended {σ : Type} {f : CopyFacts} (hfo : f.fillOnce = true) (S : Src σ)
    {y : CopySys σ} {i k : Nat} (hc : y.core.cursors[i]? = some (some k))
    (hl : y.core.log[k]? = none) (he : y.core.eofSeen = true) :
    y.recv1 f S i = some (.eof, { y with outs := y.outs ++ [(i, .eof)] }) := by
  simp only [CopySys.recv1, CopyCore.peekLocal, hc, hfo, hl, he, Bool.not_true, Bool.false_eq_true,
    if_false, if_true]

theorem CopySys.recv1_fill {σ : Type} {f : CopyFacts} (hfo : f.fillOnce = true) (S : Src σ)
    {y : CopySys σ} {i k : Nat} (hc : y.core.cursors[i]? = some (some k))
    (hl : y.core.log[k]? = none) (he : y.core.eofSeen = false) :
    y.recv1 f S i = (S.recv y.src).map fun rs =>
      (rs.1, { core := y.core.fill i k rs.1, src := rs.2, pulled := y.pulled ++ [rs.1],
               outs := y.outs ++ [(i, rs.1)] }) := by
  simp only [CopySys.recv1, CopyCore.peekLocal, hc, hfo, hl, he, Bool.not_true, Bool.false_eq_true,
    if_false]
  cases S.recv y.src <;> rfl

theorem drainChild_spec (f : CopyFacts) (hfo : f.fillOnce = true) : ∀ (fuel : Nat) (y : CopySys (List Item)) (i k : Nat),
    y.core.cursors[i]? = some (some k) → k ≤ y.core.log.length →
    (y.core.eofSeen = true → y.src = []) →
    y.core.log.length - k + y.src.length < fuel →
    drainChild f fuel y i = some (y.core.log.drop k ++ y.src) := by
  intro fuel
  induction fuel with
  | zero => intro y i k _ _ _ hf; omega
  | succ n ih =>
    intro y i k hc hk he hf
    have hi : i < y.core.cursors.length := (List.getElem?_eq_some_iff.mp hc).1
    cases hl : y.core.log[k]? with
    | some it =>
      obtain ⟨hlt, hget⟩ := List.getElem?_eq_some_iff.mp hl
      rw [drainChild, CopySys.recv1_listed hfo _ hc hl]
      have hrest := ih { y with core := { y.core with cursors := y.core.cursors.set i (some (k + 1)) },
                                outs := y.outs ++ [(i, .item it)] } i (k + 1)
        (List.getElem?_set_self hi) hlt he
        (by show y.core.log.length - (k + 1) + y.src.length < n; omega)
      show (drainChild f n _ i).map _ = _
      rw [hrest, List.drop_eq_getElem_cons hlt, hget]
      rfl
    | none =>
      have hkeq : k = y.core.log.length := Nat.le_antisymm hk (List.getElem?_eq_none_iff.mp hl)
      have hd : y.core.log.drop k = [] := by rw [hkeq, List.drop_length]
      rw [hd, List.nil_append]
      cases hes : y.core.eofSeen with
      | true => rw [drainChild, CopySys.recv1_ended hfo _ hc hl hes, he hes]
      | false =>
        rw [drainChild, CopySys.recv1_fill hfo _ hc hl hes]
        cases hsrc : y.src with
        | nil => rfl
        | cons x rest =>
          have hlen : (y.core.log.take k ++ [x]).length = k + 1 := by
            rw [List.length_append, List.length_take, Nat.min_eq_left hk]; rfl
          have hrest := ih { core := y.core.fill i k (.item x), src := rest,
                             pulled := y.pulled ++ [.item x], outs := y.outs ++ [(i, .item x)] }
            i (k + 1) (List.getElem?_set_self hi) (Nat.le_of_eq hlen.symm)
            (fun h => absurd (hes.symm.trans h) Bool.false_ne_true)
            (by show (y.core.log.take k ++ [x]).length - (k + 1) + rest.length < n
                rw [hsrc] at hf; rw [hlen]; simp only [List.length_cons] at hf; omega)
          show (drainChild f n _ i).map _ = _
          rw [hrest]
          show some (x :: ((y.core.log.take k ++ [x]).drop (k + 1) ++ rest)) = _
          rw [List.drop_of_length_le (Nat.le_of_eq hlen)]; rfl

end EinoV.C08
