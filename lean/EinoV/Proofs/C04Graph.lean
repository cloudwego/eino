/-
  C04 — the four calls of a compiled graph of packed components agree (`Model/C04Graph.lean`).  The
  value-mode runner is the stream-mode runner translated along concatenation (`tnC`, `tbC`: run the
  stream form on the one-chunk stream and concatenate), so the relativised engine homomorphism
  (`run_hom_keeps_on`, Proofs/EngineHom.lean) applies with `h` = concatenation, `P` = "the stream has a
  chunk" and, for the fan-in, the hypothesis `MergeLaw`.  A graph used as a node satisfies the same node
  equation (`ActOK`), which closes the induction on the nesting depth.
-/
import EinoV.Model.C04Graph
import EinoV.Proofs.C04
import EinoV.Proofs.EngineHom

namespace EinoV.C04
open EinoV.Engine

variable {V : Type}

/-- The value merge agrees with stream fan-in: merging the concatenations of two or more
    non-empty streams gives the concatenation of the merged stream (`concatD` is `concat`
    with a default, equal to `concat` on non-empty streams when concatenation is total).

    Holds for merges that are "concatenation across sources", e.g. `Nat` with sum as both
    concatenation and merge (`natMergeLaw`), maps whose sources carry disjoint key sets,
    commutative-monoid-like custom merge functions.  It FAILS for eino's default map merge
    when two sources share a key: `mergeValues` rejects the duplicate key (Invoke fails with
    a merge error) while the merged stream simply carries both chunks and concatenates —
    that is the recorded known finding `C04:paradigms:err-merge-vs-ok`. -/
structure MergeLaw (co : ChunkOps V) (d : V) (opsV : ValOps V) : Prop where
  merge : ∀ ls : List (List V), 2 ≤ ls.length → (∀ l ∈ ls, l ≠ []) →
    opsV.merge (ls.map (concatD co d)) = some (concatD co d ls.flatten)

/-- The node equation between an Invoke form `i` and a Transform form `t` of one action, on non-empty
    streams: `i` of the concatenated input is `t`'s output concatenated, and `t` never answers `[]`.
    These are the fields `act` and `keeps` of `NodeOK` (Proofs/EngineHom.lean) at `h` = concatenation;
    a packed component has it (`actOK_comp`), and so has a graph whose nodes have it (`graphOf_actOK`). -/
def ActOK (co : ChunkOps V) (d : V) (i : V → Except Err V) (t : List V → Except Err (List V)) : Prop :=
  (∀ a, a ≠ [] → i (concatD co d a) = (t a).map (concatD co d)) ∧
  (∀ a a', a ≠ [] → t a = .ok a' → a' ≠ [])

theorem concatD_single (co : ChunkOps V) (d v : V) : concatD co d [v] = v := rfl

section
variable (co : ChunkOps V) (d : V) (hct : ∀ l, l ≠ [] → ∃ v, concat co l = .ok v)
include hct

theorem ActOK.transform_concat {i : V → Except Err V} {t : List V → Except Err (List V)}
    (hA : ActOK co d i t) (xs : List V) (hxs : xs ≠ []) :
    (t xs >>= concat co) = (concat co xs >>= i) := by
  rw [← map_eq_bind_concat co d hct (t xs) (fun a' h' => hA.2 xs a' hxs h'), ← hA.1 xs hxs,
    concat_eq_concatD co d hct xs hxs]
  rfl

theorem ActOK.stream_concat {i : V → Except Err V} {t : List V → Except Err (List V)}
    (hA : ActOK co d i t) (x : V) : (t [x] >>= concat co) = i x := by
  rw [hA.transform_concat co d hct [x] (by simp)]
  rfl

end

/-- a stream-mode branch read in value mode: the condition sees the one-chunk stream.  The branch
    translation of `run_hom_keeps_on`, and the branch part of `tnC`; it undoes `collected`
    (`tbC_collected`). -/
def tbC (b : Branch (List V)) : Branch V :=
  { ends := b.ends, noData := b.noData, cond := fun v => b.cond [v] }

/-- a stream-mode node read in value mode: run the stream action on the one-chunk stream and
    concatenate.  Under `ActOK` this is the graph's own value node (`tnC_streamNode`). -/
def tnC (co : ChunkOps V) (n : Node (List V)) : Node V :=
  { key := n.key, act := fun v => n.act [v] >>= concat co, writeTo := n.writeTo, controls := n.controls,
    branches := n.branches.map tbC }

theorem tbC_collected (co : ChunkOps V) (b : Branch V) : tbC (collected co b) = b := by
  cases b; rfl

theorem map_tbC_collected (co : ChunkOps V) (l : List (Branch V)) : (l.map (collected co)).map tbC = l := by
  induction l with
  | nil => rfl
  | cons b t ih => simp only [List.map_cons, tbC_collected, ih]

section
variable (co : ChunkOps V) (d : V) (hct : ∀ l, l ≠ [] → ∃ v, concat co l = .ok v)
include hct

theorem branchOK_collected (b : Branch V) :
    BranchOK (concatD co d) (fun a : List V => a ≠ []) (collected co b) (tbC (collected co b)) := by
  rw [tbC_collected]
  refine ⟨rfl, rfl, ?_⟩
  intro a ha
  simp only [collected, concat_eq_concatD co d hct a ha]
  rfl

variable {S : Type} (pref : Pref) (sem : SubSem V S)

theorem tnC_streamNode (n : GNode V S)
    (hA : ActOK co d (n.kind.actI co pref sem) (n.kind.actT co pref sem)) :
    tnC co (n.streamNode co pref sem) = n.valueNode co pref sem := by
  unfold tnC GNode.streamNode GNode.valueNode
  simp only [map_tbC_collected]
  congr 1
  funext v
  exact hA.stream_concat co d hct v

theorem nodeOK_streamNode (n : GNode V S)
    (hA : ActOK co d (n.kind.actI co pref sem) (n.kind.actT co pref sem)) :
    NodeOK (concatD co d) (fun a : List V => a ≠ []) tbC (n.streamNode co pref sem)
      (tnC co (n.streamNode co pref sem)) := by
  rw [tnC_streamNode co d hct pref sem n hA]
  exact {
    key := rfl
    writeTo := rfl
    controls := rfl
    branches := (map_tbC_collected co n.branches).symm
    act := hA.1
    keeps := fun a a' ha h' => hA.2 a a' ha h' }

theorem mapNodes_streamRunner (g : GraphOf V S)
    (hk : ∀ n, (n = g.start ∨ n ∈ g.nodes) → ActOK co d (n.kind.actI co pref sem) (n.kind.actT co pref sem)) :
    (g.streamRunner co pref sem).mapNodes (tnC co) = g.valueRunner co pref sem := by
  unfold Runner.mapNodes GraphOf.streamRunner GraphOf.valueRunner
  simp only [List.map_map]
  congr 1
  · apply List.map_congr_left
    intro n hn
    exact tnC_streamNode co d hct pref sem n (hk n (Or.inr hn))
  · exact tnC_streamNode co d hct pref sem g.start (hk g.start (Or.inl rfl))

end

theorem fanInOK_of_mergeLaw (co : ChunkOps V) (d : V) (opsV : ValOps V) (hml : MergeLaw co d opsV) (dag : Bool) :
    FanInOK dag (concatD co d) (fun a : List V => a ≠ []) (opsS opsV.zero) opsV where
  merge := by
    intro l h2 hl
    rw [hml.merge l h2 hl]
    rfl
  mergeKeeps := by
    intro l m h2 hl hm
    simp only [opsS, Option.some.injEq] at hm
    subst hm
    obtain ⟨a, ha⟩ := List.exists_mem_of_length_pos (Nat.lt_of_lt_of_le Nat.zero_lt_two h2)
    exact fun hf => hl a ha (List.flatten_eq_nil_iff.mp hf a ha)
  zero := fun _ => ⟨by simp [opsS], rfl⟩

section
variable (co : ChunkOps V) (d : V) (hct : ∀ l, l ≠ [] → ∃ v, concat co l = .ok v)
variable (opsV : ValOps V) (hml : MergeLaw co d opsV)
variable {S : Type} (pref : Pref) (sem : SubSem V S)
include hct hml

theorem graphOf_run_hom (g : GraphOf V S)
    (hk : ∀ n, (n = g.start ∨ n ∈ g.nodes) → ActOK co d (n.kind.actI co pref sem) (n.kind.actT co pref sem))
    (sS : Sched (List V)) (sV : Sched V) (hs : SchedHom (concatD co d) sS sV) (hsub : SchedSub sS)
    (xs : List V) (hxs : xs ≠ []) :
    runS opsV (g.valueRunner co pref sem) sV (concatD co d xs)
      = (runS (opsS opsV.zero) (g.streamRunner co pref sem) sS xs).mapO (concatD co d) ∧
    (∀ v, (runS (opsS opsV.zero) (g.streamRunner co pref sem) sS xs).result = .ok v → v ≠ []) := by
  rw [← mapNodes_streamRunner co d hct pref sem g hk]
  have hmem : ∀ m, (g.streamRunner co pref sem).Has m →
      ∃ n, (n = g.start ∨ n ∈ g.nodes) ∧ m = n.streamNode co pref sem := by
    intro m hm
    rcases hm with rfl | hm
    · exact ⟨g.start, Or.inl rfl, rfl⟩
    · simp only [GraphOf.streamRunner, List.mem_map] at hm
      obtain ⟨n, hn, rfl⟩ := hm
      exact ⟨n, Or.inr hn, rfl⟩
  have hfan := fanInOK_of_mergeLaw co d opsV hml (g.streamRunner co pref sem).dag
  apply run_hom_keeps_on (concatD co d) (fun a : List V => a ≠ []) tbC (tnC co)
    (g.streamRunner co pref sem) ?_ ?_ (opsS opsV.zero) opsV hfan sS sV hs hsub xs hxs
  · intro m hm b hb
    obtain ⟨n, _, rfl⟩ := hmem m hm
    simp only [GNode.streamNode, List.mem_map] at hb
    obtain ⟨b0, _, rfl⟩ := hb
    exact branchOK_collected co d hct b0
  · intro m hm
    obtain ⟨n, hn, rfl⟩ := hmem m hm
    exact nodeOK_streamNode co d hct pref sem n (hk n hn)

theorem graphOf_actOK (g : GraphOf V S)
    (hk : ∀ n, (n = g.start ∨ n ∈ g.nodes) → ActOK co d (n.kind.actI co pref sem) (n.kind.actT co pref sem)) :
    ActOK co d (g.invoke co pref opsV sem) (g.transform co pref opsV sem) := by
  have H := fun a ha => graphOf_run_hom co d hct opsV hml pref sem g hk Sched.id Sched.id (fun _ _ => rfl)
    (fun _ _ _ hx => hx) a ha
  exact ⟨fun a ha => congrArg Outcome.result (H a ha).1, fun a a' ha h' => (H a ha).2 a' h'⟩

end

theorem actOK_pass (co : ChunkOps V) (d : V) : ActOK co d (.ok) (.ok) := by
  refine ⟨fun _ _ => rfl, ?_⟩
  intro a a' ha h'
  injection h' with h'
  subst h'
  exact ha

theorem actOK_comp (co : ChunkOps V) (d : V) (hct : ∀ l, l ≠ [] → ∃ v, concat co l = .ok v)
    (c : Comp V) (hc : c.Valid co) :
    ActOK co d (c.packed co Expected.C04.packerPref).i (c.packed co Expected.C04.packerPref).t :=
  ⟨fun a ha => packed_component_commutes co d hct c.f c.chunk hc.chunkConcat hc.chunkNonempty
      c.hasI c.hasS c.hasC c.hasT hc.native a ha,
   fun a a' _ h' => packed_t_nonempty co c.f c.chunk hc.chunkNonempty c.hasI c.hasS c.hasC c.hasT hc.native a a' h'⟩

theorem actOK_kind (co : ChunkOps V) (d : V) (hct : ∀ l, l ≠ [] → ∃ v, concat co l = .ok v)
    {S : Type} (sem : SubSem V S) (subOK : S → Prop)
    (hsub : ∀ s, subOK s → ActOK co d (sem.i s) (sem.t s)) (k : Kind V S) (hk : k.OK co subOK) :
    ActOK co d (k.actI co Expected.C04.packerPref sem) (k.actT co Expected.C04.packerPref sem) := by
  cases k with
  | comp c => exact actOK_comp co d hct c hk
  | pass => exact actOK_pass co d
  | graph s => exact hsub s hk

theorem graph_actOK (co : ChunkOps V) (d : V) (hct : ∀ l, l ≠ [] → ∃ v, concat co l = .ok v)
    (opsV : ValOps V) (hml : MergeLaw co d opsV) :
    ∀ (n : Nat) (g : Graph V n), Graph.OK co n g →
      ActOK co d (invoke co Expected.C04.packerPref opsV g) (transform co Expected.C04.packerPref opsV g) := by
  intro n
  induction n with
  | zero =>
    intro g hg
    exact graphOf_actOK co d hct opsV hml Expected.C04.packerPref emptySem g
      (fun m hm => actOK_kind co d hct emptySem (fun _ => True) (fun s _ => s.elim) m.kind (hg m hm))
  | succ n ih =>
    intro g hg
    exact graphOf_actOK co d hct opsV hml Expected.C04.packerPref (graphSem co Expected.C04.packerPref opsV n) g
      (fun m hm => actOK_kind co d hct (graphSem co Expected.C04.packerPref opsV n) (Graph.OK co n)
        (fun s hs => ih s hs) m.kind (hg m hm))

theorem graph_run_hom (co : ChunkOps V) (d : V) (hct : ∀ l, l ≠ [] → ∃ v, concat co l = .ok v)
    (opsV : ValOps V) (hml : MergeLaw co d opsV) (n : Nat) (g : Graph V n) (hg : Graph.OK co n g)
    (sS : Sched (List V)) (sV : Sched V) (hs : SchedHom (concatD co d) sS sV) (hsub : SchedSub sS)
    (xs : List V) (hxs : xs ≠ []) :
    runS opsV (valueRunner co Expected.C04.packerPref opsV g) sV (concatD co d xs)
      = (runS (opsS opsV.zero) (streamRunner co Expected.C04.packerPref opsV g) sS xs).mapO (concatD co d) := by
  cases n with
  | zero =>
    exact (graphOf_run_hom co d hct opsV hml Expected.C04.packerPref emptySem g
      (fun m hm => actOK_kind co d hct emptySem (fun _ => True) (fun s _ => s.elim) m.kind (hg m hm))
      sS sV hs hsub xs hxs).1
  | succ n =>
    exact (graphOf_run_hom co d hct opsV hml Expected.C04.packerPref (graphSem co Expected.C04.packerPref opsV n) g
      (fun m hm => actOK_kind co d hct (graphSem co Expected.C04.packerPref opsV n) (Graph.OK co n)
        (fun s hs => graph_actOK co d hct opsV hml n s hs) m.kind (hg m hm))
      sS sV hs hsub xs hxs).1

section
variable (co : ChunkOps V) (pref : Pref) {S S' : Type} (f : S → S') (sem : SubSem V S) (sem' : SubSem V S')

theorem actI_mapSub (hi : ∀ s, sem'.i (f s) = sem.i s) (k : Kind V S) :
    (k.mapSub f).actI co pref sem' = k.actI co pref sem := by
  cases k with
  | comp c => rfl
  | pass => rfl
  | graph s => exact hi s

theorem actT_mapSub (ht : ∀ s, sem'.t (f s) = sem.t s) (k : Kind V S) :
    (k.mapSub f).actT co pref sem' = k.actT co pref sem := by
  cases k with
  | comp c => rfl
  | pass => rfl
  | graph s => exact ht s

theorem valueRunner_mapSub (hi : ∀ s, sem'.i (f s) = sem.i s) (g : GraphOf V S) :
    (g.mapSub f).valueRunner co pref sem' = g.valueRunner co pref sem := by
  have hn : ∀ n : GNode V S, (n.mapSub f).valueNode co pref sem' = n.valueNode co pref sem := by
    intro n
    simp only [GNode.valueNode, GNode.mapSub, actI_mapSub co pref f sem sem' hi]
  simp only [GraphOf.valueRunner, GraphOf.mapSub, List.map_map, hn]
  congr 1
  exact List.map_congr_left (fun n _ => hn n)

theorem streamRunner_mapSub (ht : ∀ s, sem'.t (f s) = sem.t s) (g : GraphOf V S) :
    (g.mapSub f).streamRunner co pref sem' = g.streamRunner co pref sem := by
  have hn : ∀ n : GNode V S, (n.mapSub f).streamNode co pref sem' = n.streamNode co pref sem := by
    intro n
    simp only [GNode.streamNode, GNode.mapSub, actT_mapSub co pref f sem sem' ht]
  simp only [GraphOf.streamRunner, GraphOf.mapSub, List.map_map, hn]
  congr 1
  exact List.map_congr_left (fun n _ => hn n)

theorem invoke_mapSub (opsV : ValOps V) (hi : ∀ s, sem'.i (f s) = sem.i s) (g : GraphOf V S) :
    (g.mapSub f).invoke co pref opsV sem' = g.invoke co pref opsV sem := by
  funext x
  rw [GraphOf.invoke, valueRunner_mapSub co pref f sem sem' hi g]
  rfl

theorem transform_mapSub (opsV : ValOps V) (ht : ∀ s, sem'.t (f s) = sem.t s) (g : GraphOf V S) :
    (g.mapSub f).transform co pref opsV sem' = g.transform co pref opsV sem := by
  funext xs
  rw [GraphOf.transform, streamRunner_mapSub co pref f sem sem' ht g]
  rfl

theorem ok_mapSub (subOK : S → Prop) (subOK' : S' → Prop) (hok : ∀ s, subOK' (f s) ↔ subOK s) (g : GraphOf V S) :
    (g.mapSub f).OK co subOK' ↔ g.OK co subOK := by
  have hk : ∀ k : Kind V S, (k.mapSub f).OK co subOK' ↔ k.OK co subOK := by
    intro k
    cases k with
    | comp c => exact Iff.rfl
    | pass => exact Iff.rfl
    | graph s => exact hok s
  unfold GraphOf.OK
  constructor
  · intro h2 n hn
    exact (hk n.kind).mp (h2 (n.mapSub f) (hn.imp (congrArg (GNode.mapSub f)) (fun h => List.mem_map.mpr ⟨n, h, rfl⟩)))
  · rintro h2 m (rfl | hm)
    · exact (hk g.start.kind).mpr (h2 g.start (Or.inl rfl))
    · obtain ⟨n, hn, rfl⟩ := List.mem_map.mp hm
      exact (hk n.kind).mpr (h2 n (Or.inr hn))

end

theorem lift_sem (co : ChunkOps V) (pref : Pref) (opsV : ValOps V) :
    ∀ (n : Nat) (g : Graph V n),
      (graphSem co pref opsV (n + 1)).i (Graph.lift n g) = (graphSem co pref opsV n).i g ∧
      (graphSem co pref opsV (n + 1)).t (Graph.lift n g) = (graphSem co pref opsV n).t g := by
  intro n
  induction n with
  | zero =>
    intro g
    exact ⟨invoke_mapSub co pref _ emptySem (graphSem co pref opsV 0) opsV (fun s => s.elim) g,
      transform_mapSub co pref _ emptySem (graphSem co pref opsV 0) opsV (fun s => s.elim) g⟩
  | succ n ih =>
    intro g
    exact ⟨invoke_mapSub co pref (Graph.lift n) (graphSem co pref opsV n) (graphSem co pref opsV (n + 1)) opsV
        (fun s => (ih s).1) g,
      transform_mapSub co pref (Graph.lift n) (graphSem co pref opsV n) (graphSem co pref opsV (n + 1)) opsV
        (fun s => (ih s).2) g⟩

theorem lift_ok (co : ChunkOps V) : ∀ (n : Nat) (g : Graph V n), Graph.OK co (n + 1) (Graph.lift n g) ↔ Graph.OK co n g := by
  intro n
  induction n with
  | zero =>
    intro g
    exact ok_mapSub co (fun e : Empty => e.elim) (fun _ => True) (Graph.OK co 0) (fun s => s.elim) g
  | succ n ih =>
    intro g
    exact ok_mapSub co (Graph.lift n) (Graph.OK co n) (Graph.OK co (n + 1)) (fun s => ih s) g

end EinoV.C04
