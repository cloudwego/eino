/-
  Refinement, the tables: the translated fragments of `graph.compile` (Gen/TransTab.lean) fill the predecessor
  and successor tables as the model's `compile` does, and the translated `initChannelManager` returns, without
  panic, the manager `initMgr r s` the refinement theorems are stated for (`initChannelManager_is_initMgr`).
-/
import EinoV.Gen.TransTab
import EinoV.Proofs.GoLoop
import EinoV.Proofs.TransDag
import EinoV.Proofs.Assoc
import EinoV.Model.GraphBuild
import EinoV.Proofs.TransStep
import EinoV.Proofs.TransMgrInit
namespace EinoV.TransTab
open EinoV.GoSem EinoV.Engine EinoV.Gen.TransMgr EinoV.Gen.TransTab EinoV.TransMgr
open EinoV.TransStep (ListRel)
variable {V : Type} [Inhabited V]
set_option linter.unusedSectionVars false

theorem ite_yield {β : Type} (c : Prop) [Decidable c] (a b : β) :
    (if c then ForInStep.yield a else ForInStep.yield b) = ForInStep.yield (if c then a else b) := by
  split <;> rfl

theorem ite_yield_id {β : Type} (c : Prop) [Decidable c] (a b : β) :
    (if c then (ForInStep.yield a : Id (ForInStep β)) else (ForInStep.yield b : Id (ForInStep β))) = (ForInStep.yield (if c then a else b) : Id (ForInStep β)) := by
  split <;> rfl

/-- the form in which a generated loop body has it: the `if` is typed in `Id`, which the two statements above
    lose when they are elaborated -/
theorem ite_yield_Id {β : Type} (c : Prop) [Decidable c] (a b : β) :
    @ite (Id (ForInStep β)) c _ (ForInStep.yield a) (ForInStep.yield b) = ForInStep.yield (if c then a else b) :=
  ite_yield c a b

theorem ite_pair {α β : Type} (c : Prop) [Decidable c] (a1 a2 : α) (b1 b2 : β) :
    (if c then (a1, b1) else (a2, b2)) = (if c then a1 else a2, if c then b1 else b2) := by
  split <;> rfl

/-- `if _, ok := m[e]; !ok { m[e] = []string{s} } else { m[e] = append(m[e], s) }` is the model's `addPred` -/
theorem pred_step (m : GoMap (List String)) (e s : String) :
    (if (!m.has e) = true then m.set e [s] else m.set e (m.getD' e [] ++ [s])) = addPred m e s := by
  unfold addPred GoMap.set GoMap.getD' GoMap.has
  cases h : alookup e m <;> simp

theorem foldl_pair {α β γ : Type} (f : α → γ → α) (g : β → γ → β) (l : List γ) (a : α) (b : β) :
    l.foldl (fun (s : α × β) x => (f s.1 x, g s.2 x)) (a, b) = (l.foldl f a, l.foldl g b) := by
  induction l generalizing a b with
  | nil => rfl
  | cons x l ih => simp [ih]

/-- the body of the end-node loop of the branch part, as it is generated -/
def endsBody (start : String) (nd : Bool) (x : String × Bool) (__s : GoMap (List String) × GoMap (List String)) :
    ForInStep (GoMap (List String) × GoMap (List String)) :=
  if (!__s.snd.has x.fst) = true then
    if (!nd) = true then
      if (!__s.fst.has x.fst) = true then
        ForInStep.yield (__s.fst.set x.fst [start], __s.snd.set x.fst [start])
      else
        ForInStep.yield (__s.fst.set x.fst (__s.fst.getD' x.fst [] ++ [start]), __s.snd.set x.fst [start])
    else ForInStep.yield (__s.fst, __s.snd.set x.fst [start])
  else
    if (!nd) = true then
      if (!__s.fst.has x.fst) = true then
        ForInStep.yield (__s.fst.set x.fst [start], __s.snd.set x.fst (__s.snd.getD' x.fst [] ++ [start]))
      else
        ForInStep.yield (__s.fst.set x.fst (__s.fst.getD' x.fst [] ++ [start]),
          __s.snd.set x.fst (__s.snd.getD' x.fst [] ++ [start]))
    else ForInStep.yield (__s.fst, __s.snd.set x.fst (__s.snd.getD' x.fst [] ++ [start]))

theorem endsBody_eq (start : String) (nd : Bool) (x : String × Bool) (d c : GoMap (List String)) :
    endsBody start nd x (d, c) = ForInStep.yield (if nd then d else addPred d x.1 start, addPred c x.1 start) := by
  unfold endsBody
  simp only [ite_yield, ite_pair, ite_self, pred_step]
  cases nd <;> rfl

theorem ends_loop (start : String) (nd : Bool) (ends : GoMap Bool) : ∀ (d c : GoMap (List String)),
    goLoop (endsBody start nd) ends (d, c)
    = (if nd then d else (akeys ends).foldl (fun m e => addPred m e start) d,
       (akeys ends).foldl (fun m e => addPred m e start) c) := by
  induction ends with
  | nil => intro d c; cases nd <;> rfl
  | cons p ends ih =>
    intro d c
    simp only [goLoop, endsBody_eq, ih, akeys, List.map_cons, List.foldl_cons]
    cases nd <;> rfl

theorem endsBody_fold (start : String) (nd : Bool) :
    (fun (x : String × Bool) (__s : GoMap (List String) × GoMap (List String)) =>
        if (!__s.snd.has x.fst) = true then
          if (!nd) = true then
            if (!__s.fst.has x.fst) = true then
              ForInStep.yield (__s.fst.set x.fst [start], __s.snd.set x.fst [start])
            else
              ForInStep.yield (__s.fst.set x.fst (__s.fst.getD' x.fst [] ++ [start]), __s.snd.set x.fst [start])
          else ForInStep.yield (__s.fst, __s.snd.set x.fst [start])
        else
          if (!nd) = true then
            if (!__s.fst.has x.fst) = true then
              ForInStep.yield (__s.fst.set x.fst [start], __s.snd.set x.fst (__s.snd.getD' x.fst [] ++ [start]))
            else
              ForInStep.yield (__s.fst.set x.fst (__s.fst.getD' x.fst [] ++ [start]),
                __s.snd.set x.fst (__s.snd.getD' x.fst [] ++ [start]))
          else ForInStep.yield (__s.fst, __s.snd.set x.fst (__s.snd.getD' x.fst [] ++ [start])))
      = endsBody start nd := rfl


def flatEdges (m : GoMap (List String)) : List (Key × Key) := m.flatMap (fun p => p.2.map (fun e => (p.1, e)))

def flatBranches (m : GoMap (List (GraphBranch V))) : List (Key × GraphBranch V) :=
  m.flatMap (fun p => p.2.map (fun b => (p.1, b)))

/-- the list on the right is `flatEdges m` for the edge maps and `flatBranches m` for the branch map -/
theorem foldl_flat {σ β : Type} (f : σ → Key → β → σ) (m : GoMap (List β)) (t : σ) :
    m.foldl (fun s a => a.2.foldl (fun s b => f s a.1 b) s) t
      = (m.flatMap (fun p => p.2.map (fun b => (p.1, b)))).foldl (fun s b => f s b.1 b.2) t := by
  induction m generalizing t with
  | nil => rfl
  | cons p m ih => simp only [List.foldl_cons, List.flatMap_cons, List.foldl_append, List.foldl_map, ih]

/-- **the predecessor fragment of `graph.compile`** computes, from the Go maps in their stored order, the
    folds of the model's `compile` over the flattened edge / branch lists -/
theorem compile_predecessors_spec (ext : Ext V) (mext : MgrExt V) (g : graph V) :
    graph_compile_predecessors ext mext g =
      ((flatBranches g.branches).foldl (fun m b =>
          if b.2.noDataFlow then m else (akeys b.2.endNodes).foldl (fun m e => addPred m e b.1) m)
        ((flatEdges g.dataEdges).foldl (fun m e => addPred m e.2 e.1) []),
       (flatBranches g.branches).foldl (fun m b => (akeys b.2.endNodes).foldl (fun m e => addPred m e b.1) m)
        ((flatEdges g.controlEdges).foldl (fun m e => addPred m e.2 e.1) [])) := by
  unfold graph_compile_predecessors
  simp only [forIn_id, Id.run, bind, pure, endsBody_fold, ends_loop]
  simp only [ite_yield_Id, pred_step, goLoop_yield]
  unfold flatEdges flatBranches
  rw [foldl_flat (fun m k e => addPred m e k), foldl_flat (fun m k e => addPred m e k)]
  generalize (g.dataEdges.flatMap _).foldl _ [] = d0
  generalize (g.controlEdges.flatMap _).foldl _ [] = c0
  have := foldl_flat (fun (s : GoMap (List String) × GoMap (List String)) k (b : GraphBranch V) =>
      ((if b.noDataFlow = true then s.1 else (akeys b.endNodes).foldl (fun m e => addPred m e k) s.1),
       (akeys b.endNodes).foldl (fun m e => addPred m e k) s.2)) g.branches (d0, c0)
  rw [← foldl_pair, ← this]
/-- a translated `(start, *GraphBranch)` and the model's `(from, Branch)`: same source, the end nodes in the
    map's stored order, the data-flow flag -/
def BrTabRel (p : Key × GraphBranch V) (q : Key × Branch V) : Prop :=
  p.1 = q.1 ∧ q.2.ends = akeys p.2.endNodes ∧ q.2.noData = p.2.noDataFlow

theorem foldl_listRel {α β σ : Type} (R : α → β → Prop) (f : σ → α → σ) (g : σ → β → σ)
    (h : ∀ s a b, R a b → f s a = g s b) (l : List α) (l' : List β) (hr : ListRel R l l') (s : σ) :
    l.foldl f s = l'.foldl g s := by
  induction hr generalizing s with
  | nil => rfl
  | cons hab _ ih => simp only [List.foldl_cons, h _ _ _ hab, ih]

/-- **the fragment computes the model's predecessor tables**: for a graph definition whose edge list is the
    flattened control-edge map and the flattened data-edge map (AddEdge records both) and whose branch list
    is the flattened branch map — each in the stored order of the Go maps — the translated statements of
    `graph.compile` return exactly `dataPreds` and `ctrlPreds` of the model's `compile` -/
theorem compile_predecessors_model (ext : Ext V) (mext : MgrExt V) (slack : Nat) (gd : GraphDef V) (g : graph V)
    (hce : flatEdges g.controlEdges = gd.edges) (hde : flatEdges g.dataEdges = gd.edges)
    (hbr : ListRel BrTabRel (flatBranches g.branches) gd.branches) :
    graph_compile_predecessors ext mext g = ((compile slack gd).dataPreds, (compile slack gd).ctrlPreds) := by
  rw [compile_predecessors_spec, hce, hde]
  unfold compile
  simp only
  congr 1
  · exact foldl_listRel BrTabRel _ _ (by
      intro s a b hab
      obtain ⟨h1, h2, h3⟩ := hab
      simp only [h1, h2, h3]) _ _ hbr _
  · exact foldl_listRel BrTabRel _ _ (by
      intro s a b hab
      obtain ⟨h1, h2, h3⟩ := hab
      simp only [h1, h2]) _ _ hbr _

theorem getSuccessors_spec (ext : Ext V) (mext : MgrExt V) (c : chanCall V) :
    getSuccessors ext mext c = .ret (c.writeTo ++ c.controls ++ c.writeToBranches.flatMap (fun b => akeys b.endNodes)) := by
  unfold getSuccessors
  have hlt : ¬ ((c.writeTo.length : Int) < 0) := by omega
  -- the inner loop collects the keys of `branch.endNodes`; only then is the outer one read as a fold
  simp only [forIn_id, Id.run, bind, pure, hlt, decide_false, Bool.false_eq_true, if_false, goCopy_make, goLoop_collect]
  simp only [goLoop_yield]
  congr 1
  generalize c.writeTo ++ c.controls = acc
  induction c.writeToBranches generalizing acc with
  | nil => simp
  | cons b bs ih => simp only [List.foldl_cons, List.flatMap_cons, ih, List.append_assoc]; rfl

/-- `getSuccessors` as a function (it never panics) -/
def succOf (c : chanCall V) : List String :=
  c.writeTo ++ c.controls ++ c.writeToBranches.flatMap (fun b => akeys b.endNodes)

theorem succOf_eq_successors (c : chanCall V) (n : Node V)
    (hw : c.writeTo = n.writeTo) (hc : c.controls = n.controls)
    (hb : c.writeToBranches.map (fun b => akeys b.endNodes) = n.branches.map (·.ends)) :
    succOf c = n.successors := by
  rw [succOf, hw, hc, List.flatMap_def, hb, ← List.flatMap_def]
  rfl

theorem getSuccessors_is_successors (ext : Ext V) (mext : MgrExt V) (c : chanCall V) (n : Node V)
    (hw : c.writeTo = n.writeTo) (hc : c.controls = n.controls)
    (hb : c.writeToBranches.map (fun b => akeys b.endNodes) = n.branches.map (·.ends)) :
    getSuccessors ext mext c = .ret n.successors := by
  rw [getSuccessors_spec]
  exact congrArg _ (succOf_eq_successors c n hw hc hb)

theorem dagChannelBuilder_spec (ext : Ext V) (mext : MgrExt V) (cp dp : List String) :
    dagChannelBuilder ext mext cp dp = ofChanR true (Chan.init true cp dp) := by
  unfold dagChannelBuilder ofChanR Chan.init TransDag.ofChan
  simp only [forIn_id, Id.run, bind, pure, goLoop_yield, if_true, GoMap.set, foldl_aset_const_nil]

theorem pregelChannelBuilder_spec (ext : Ext V) (mext : MgrExt V) (cp dp : List String) :
    pregelChannelBuilder ext mext cp dp = ofChanR false (Chan.init false cp dp) := by
  unfold pregelChannelBuilder ofChanR Chan.init
  simp [Id.run, pure]

/-- the builder compile stores for a runner of kind `dag` (nil stands for the pregel builder) -/
def builderOK (dag : Bool) (b : chanBuilder) : Prop :=
  (dag = true → b = .of_dagChannelBuilder) ∧ (dag = false → b ≠ .of_dagChannelBuilder)

theorem builder_call (ext : Ext V) (mext : MgrExt V) (dag : Bool) (b : chanBuilder) (h : builderOK dag b)
    (cp dp : List String) :
    chanBuilder_call ext mext (if (b == chanBuilder.nil) = true then chanBuilder.of_pregelChannelBuilder else b) cp dp
      = some (ofChanR dag (Chan.init dag cp dp)) := by
  cases dag with
  | true => rw [h.1 rfl]; simp [chanBuilder_call, dagChannelBuilder_spec]
  | false =>
    have := h.2 rfl
    cases b with
    | nil => simp [chanBuilder_call, pregelChannelBuilder_spec]
    | of_dagChannelBuilder => exact absurd rfl this
    | of_pregelChannelBuilder => simp [chanBuilder_call, pregelChannelBuilder_spec]

abbrev IO (V : Type) := Option (GoOutcome (channelManager V))

theorem set_inner_loop (k : String) (vs : List String) : ∀ (s0 : GoMap Unit) (acc : GoMap (GoMap Unit)),
    goLoop (fun (v : String) (__s : IO V × GoMap (GoMap Unit)) =>
        if (!__s.snd.has k) = true then ForInStep.done (some GoOutcome.panic, __s.snd)
        else ForInStep.yield (none, __s.snd.set k ((__s.snd.getD' k []).set v ())))
      vs (none, acc.set k s0) = (none, acc.set k (vs.foldl (fun m v => m.set v ()) s0)) := by
  induction vs with
  | nil => intro s0 acc; rfl
  | cons v vs ih =>
    intro s0 acc
    simp only [goLoop, has_set_same, Bool.not_true, Bool.false_eq_true, if_false, getD'_set_same, set_set,
      List.foldl_cons]
    exact ih _ _

/-- the translated runner's tables are the model runner's (what `graph.compile` stores; the stored order of
    the Go maps is the model's list order) -/
structure TabRel (gr : runner V) (r : Runner V) : Prop where
  keys : akeys gr.chanSubscribeTo = r.nodes.map (·.key)
  succ : gr.successors = r.nodes.map (fun n => (n.key, n.successors))
  data : gr.dataPredecessors = r.dataPreds
  ctrl : gr.controlPredecessors = r.ctrlPreds
  builder : builderOK r.dag gr.chanBuilder

/-- **`initChannelManager` builds the manager `initMgr r s`**: for a translated runner whose tables are the
    model runner's (`TabRel`), with distinct node keys different from END and one entry per key in the
    predecessor tables (they are Go maps), the translated function does not panic and returns exactly the
    manager the theorems of Proofs/TransMgr.lean and Proofs/TransStep.lean are stated for — the channels are
    built by the translated `dagChannelBuilder` / `pregelChannelBuilder`, not by a model -/
theorem initChannelManager_is_initMgr (ext : Ext V) (mext : MgrExt V) (gr : runner V) (r : Runner V) (s : Bool)
    (h : TabRel gr r) (hnd : (akeys (initChans r)).Nodup)
    (hdk : (akeys r.dataPreds).Nodup) (hck : (akeys r.ctrlPreds).Nodup) :
    runner_initChannelManager ext mext gr s = .ret (initMgr r s) := by
  rw [DagRun.akeys_initChans] at hnd
  have hnk : (r.nodes.map (·.key)).Nodup := (List.nodup_append.mp hnd).1
  have hend : END ∉ r.nodes.map (·.key) := by
    intro hin
    exact (List.nodup_append.mp hnd).2.2 END hin END (by simp) rfl
  unfold runner_initChannelManager
  -- `if builder == nil { builder = pregelChannelBuilder }`: with `-zeta` the rest of the function stays one
  -- join point `jp`, which is run once, for the builder `b` that `builder_call` speaks of
  simp -zeta only [forIn_id, Id.run, bind, pure]
  extract_lets -underBinder isStream builder jp pregel
  rw [← apply_ite (jp ())]
  have hcall := builder_call ext mext r.dag gr.chanBuilder h.builder
  generalize (if (builder == chanBuilder.nil) = true then pregel else builder) = b at hcall ⊢
  simp only [jp, hcall]
  generalize hb1 : (fun (x : String × chanCall V) (__s : IO V × GoMap (channel V)) => _) = body1
  have l1 : goLoop body1 gr.chanSubscribeTo (none, []) = (none, (r.nodes.map (·.key)).foldl (fun (m : GoMap (channel V)) k => m.set k
      (ofChanR r.dag (Chan.init r.dag (gr.controlPredecessors.getD' k []) (gr.dataPredecessors.getD' k [])))) []) := by
    rw [← h.keys, akeys, List.foldl_map]
    exact goLoop_noret body1 _ _ (by intro x _ acc; rw [← hb1]) []
  rw [l1]
  simp only
  generalize hb2 : (fun (x : String × List String) (__s : IO V × GoMap (GoMap Unit)) => _) = body2
  have l2 := fun l => goLoop_noret body2 (fun m p => m.set p.1 (mkSet p.2)) l
    (by intro x _ acc; rw [← hb2]; simp only [set_inner_loop]; rfl)
  rw [l2 gr.dataPredecessors [], l2 gr.controlPredecessors []]
  simp only
  congr 1
  unfold initMgr
  -- every table is built from the empty map, one `set` per key; END's channel comes behind the nodes' channels
  rw [foldl_set_nil (fun k => k) _ _ (by rwa [List.map_id']), h.data, h.ctrl, h.succ,
    foldl_set_nil Prod.fst (fun p => mkSet p.2) r.dataPreds hdk, foldl_set_nil Prod.fst (fun p => mkSet p.2) r.ctrlPreds hck,
    show const_END = END from rfl, GoMap.set, aset_append_new _ _ _ (by rwa [akeys_map_mk, List.map_id'])]
  simp [isStream, initChans, List.map_map, Function.comp_def, lookupList, GoMap.getD']

/-- the hypotheses of Proofs/TransMgr.lean and Proofs/TransStep.lean hold for the manager the SOURCE builds:
    `initChannelManager` (translated) returns a manager satisfying `MgrInv` and `CallsClosed` whose channels are
    the model's `initChans` -/
theorem init_hypotheses_from_source (ext : Ext V) (mext : MgrExt V) (gr : runner V) (r : Runner V) (s : Bool)
    (h : TabRel gr r) (hnd : (akeys (initChans r)).Nodup)
    (hdk : (akeys r.dataPreds).Nodup) (hck : (akeys r.ctrlPreds).Nodup)
    (hc : RunnerClosed r) (hs : ∀ k ∈ r.start.successors, k ∈ akeys (initChans r)) :
    ∃ c, runner_initChannelManager ext mext gr s = .ret c ∧ c.isStream = s ∧
      TransStep.MgrInv r c ∧ TransStep.CallsClosed r c ∧ toChans c.channels = initChans r := by
  refine ⟨initMgr r s, initChannelManager_is_initMgr ext mext gr r s h hnd hdk hck, rfl, ?_⟩
  exact TransStep.step_hypotheses_hold r s hnd hc hs

theorem addPred_nodup (m : List (Key × List Key)) (t f : Key) (h : (akeys m).Nodup) : (akeys (addPred m t f)).Nodup :=
  nodup_akeys_aset _ _ _ h

/-- the tables the model's `compile` builds have one entry per key (they can be stored in Go maps) -/
theorem compile_tables_nodup (slack : Nat) (g : GraphDef V) :
    (akeys (compile slack g).dataPreds).Nodup ∧ (akeys (compile slack g).ctrlPreds).Nodup := by
  let I (m : List (Key × List Key)) := (akeys m).Nodup
  have ends : ∀ (l : List Key) (k : Key) m, I m → I (l.foldl (fun m e => addPred m e k) m) :=
    fun l k => foldl_inv I _ l (fun m h e _ => addPred_nodup m e k h)
  have edges : I (g.edges.foldl (fun m e => addPred m e.2 e.1) []) :=
    foldl_inv I _ _ (fun m h e _ => addPred_nodup m e.2 e.1 h) [] List.nodup_nil
  unfold compile
  refine ⟨foldl_inv I _ _ (fun m h b _ => ?_) _ edges, foldl_inv I _ _ (fun m h b _ => ends _ _ m h) _ edges⟩
  split
  · exact h
  · exact ends _ _ m h

theorem dagChannelBuilder_wf (ext : Ext V) (mext : MgrExt V) (cp dp : List String) :
    ChWF (dagChannelBuilder ext mext cp dp) := by
  rw [dagChannelBuilder_spec]
  exact TransDag.init_wf cp dp

/-- **the successors fragment of `graph.compile`**: one entry per registered node, in the stored order of
    `chanSubscribeTo`, holding `getSuccessors` of its `chanCall` -/
theorem compile_successors_spec (ext : Ext V) (mext : MgrExt V) (g : graph V) (r : runner V)
    (hn : (akeys r.chanSubscribeTo).Nodup) :
    graph_compile_successors ext mext g r = .ret (r.chanSubscribeTo.map (fun p => (p.1, succOf p.2))) := by
  unfold graph_compile_successors
  simp only [forIn_id, Id.run, bind, pure]
  generalize hb : (fun (x : String × chanCall V) (__s : Option (GoOutcome (GoMap (List String))) × GoMap (List String)) => _) = body
  rw [goLoop_noret body (fun m p => m.set p.1 (succOf p.2)) r.chanSubscribeTo (by
    intro x hx acc
    rw [← hb]
    simp only [getD'_of_mem r.chanSubscribeTo hn x hx, getSuccessors_spec]
    rfl)]
  simp only [foldl_set_nil Prod.fst (fun p => succOf p.2) r.chanSubscribeTo hn]

/-- with every `chanCall` related to the model's node of the same key, the successors table is the one
    `TabRel` asks for -/
theorem compile_successors_model (ext : Ext V) (mext : MgrExt V) (g : graph V) (r : runner V) (nodes : List (Node V))
    (hn : (akeys r.chanSubscribeTo).Nodup)
    (hrel : ListRel (fun (p : Key × chanCall V) (n : Node V) => p.1 = n.key ∧ p.2.writeTo = n.writeTo ∧
      p.2.controls = n.controls ∧ p.2.writeToBranches.map (fun b => akeys b.endNodes) = n.branches.map (·.ends))
      r.chanSubscribeTo nodes) :
    graph_compile_successors ext mext g r = .ret (nodes.map (fun n => (n.key, n.successors))) := by
  rw [compile_successors_spec ext mext g r hn]
  congr 1
  clear hn
  generalize r.chanSubscribeTo = tab at hrel
  induction hrel with
  | nil => rfl
  | @cons p n ps ns h _ ih =>
    obtain ⟨h1, h2, h3, h4⟩ := h
    rw [List.map_cons, List.map_cons, ih, h1, succOf_eq_successors p.2 n h2 h3 h4]

end EinoV.TransTab
