/-
  C08 — helper lemmas for the merged reader above `maxSelectNum` live sources (Model/C08Wide.lean).
-/
import EinoV.Model.C08Wide

set_option linter.unusedSimpArgs false

namespace EinoV.C08

/-- the two descriptions of "live" agree -/
structure WInv (n maxSel : Nat) (w : WideSt) : Prop where
  len : w.armed.length = n
  nodup : w.chosen.Nodup
  lt : ∀ s ∈ w.chosen, s < n
  liveArmed : ∀ s ∈ w.chosen, w.armed[s]? = some true
  armedLive : w.chosen.length > maxSel → ∀ s, w.armed[s]? = some true → s ∈ w.chosen

theorem WInv.init (n maxSel : Nat) : WInv n maxSel (WideSt.init n) where
  len := by simp [WideSt.init]
  nodup := by simp [WideSt.init, List.nodup_range]
  lt := by intro s hs; simpa [WideSt.init] using hs
  liveArmed := by
    intro s hs
    have : s < n := by simpa [WideSt.init] using hs
    simp [WideSt.init, List.getElem?_replicate, this]
  armedLive := by
    intro _ s hs
    simp [WideSt.init, List.getElem?_replicate] at hs
    simpa [WideSt.init] using hs

theorem WInv.polled_iff {n maxSel : Nat} {w : WideSt} (h : WInv n maxSel w) (s : Nat) :
    s ∈ w.polled maxSel ↔ s ∈ w.chosen := by
  unfold WideSt.polled
  by_cases hl : w.chosen.length > maxSel
  · simp only [hl, if_true, List.mem_filter, List.mem_range, beq_iff_eq]
    constructor
    · intro hs; exact h.armedLive hl s hs.2
    · intro hs
      refine ⟨?_, h.liveArmed s hs⟩
      rw [h.len]; exact h.lt s hs
  · simp [hl]

/-- noticing the end of `s` with the case switched off by index: enabled iff `s` is polled -/
theorem WideSt.noticeEnd_eq_some {maxSel : Nat} {w w' : WideSt} {s : Nat} :
    w.noticeEnd ⟨true⟩ maxSel s = some w' ↔ s ∈ w.polled maxSel ∧
      w' = ⟨if w.chosen.length > maxSel then w.armed.set s false else w.armed, w.chosen.erase s⟩ := by
  unfold WideSt.noticeEnd
  by_cases hp : s ∈ w.polled maxSel
  · simp only [List.contains_iff_mem.mpr hp, Bool.not_true, Bool.false_eq_true, if_false, if_true, hp, true_and]
    split <;> exact ⟨fun h => (Option.some.inj h).symm, fun h => h ▸ rfl⟩
  · simp [hp]

theorem WInv.step {n maxSel : Nat} {w w' : WideSt} {s : Nat} (h : WInv n maxSel w)
    (hs : w.noticeEnd ⟨true⟩ maxSel s = some w') :
    WInv n maxSel w' ∧ s ∈ w.chosen ∧ ∀ t, t ∈ w'.chosen ↔ t ≠ s ∧ t ∈ w.chosen := by
  obtain ⟨hp, rfl⟩ := WideSt.noticeEnd_eq_some.mp hs
  have hch : ∀ t, t ∈ w.chosen.erase s ↔ t ≠ s ∧ t ∈ w.chosen := fun t => h.nodup.mem_erase_iff
  refine ⟨⟨?_, h.nodup.erase s, fun t ht => h.lt t ((hch t).mp ht).2, ?_, ?_⟩, (h.polled_iff s).mp hp, hch⟩
  · show (if _ then _ else _ : List Bool).length = n
    split
    · rw [List.length_set]; exact h.len
    · exact h.len
  · -- a live source other than `s` keeps its case
    intro t ht
    have := (hch t).mp ht
    show (if _ then _ else _ : List Bool)[t]? = some true
    split
    · rw [List.getElem?_set_ne (Ne.symm this.1)]; exact h.liveArmed t this.2
    · exact h.liveArmed t this.2
  · intro hgt t ht
    have hl : w.chosen.length > maxSel := Nat.lt_of_lt_of_le hgt List.length_erase_le
    simp only [hl, if_true] at ht
    have hne : t ≠ s := by
      rintro rfl
      rw [List.getElem?_set, if_pos rfl] at ht
      split at ht <;> cases ht
    rw [List.getElem?_set_ne (Ne.symm hne)] at ht
    exact (hch t).mpr ⟨hne, h.armedLive hl t ht⟩

theorem WInv.run {n maxSel : Nat} : ∀ (ends : List Nat) {w w' : WideSt}, WInv n maxSel w →
    w.run ⟨true⟩ maxSel ends = some w' →
    WInv n maxSel w' ∧ ends.Nodup ∧ (∀ s ∈ ends, s ∈ w.chosen) ∧ ∀ t, t ∈ w'.chosen ↔ t ∈ w.chosen ∧ t ∉ ends := by
  intro ends
  induction ends with
  | nil =>
    intro w w' h hr
    cases hr; exact ⟨h, List.nodup_nil, by simp, by simp⟩
  | cons s rest ih =>
    intro w w' h hr
    rw [WideSt.run] at hr
    split at hr
    next w1 hs =>
      obtain ⟨h1, hm, hc⟩ := h.step hs
      obtain ⟨h2, hnd, hsub, hc2⟩ := ih h1 hr
      refine ⟨h2, ?_, ?_, ?_⟩
      · refine List.nodup_cons.mpr ⟨?_, hnd⟩
        intro hin
        exact ((hc s).mp (hsub s hin)).1 rfl
      · intro t ht
        rcases List.mem_cons.mp ht with e | e
        · subst e; exact hm
        · exact ((hc t).mp (hsub t e)).2
      · intro t
        rw [hc2 t, hc t, List.mem_cons, not_or, and_assoc, and_left_comm]
    next => cases hr

theorem WInv.run_enabled {n maxSel : Nat} : ∀ (ends : List Nat) {w : WideSt}, WInv n maxSel w →
    ends.Nodup → (∀ s ∈ ends, s ∈ w.chosen) → ∃ w', w.run ⟨true⟩ maxSel ends = some w' := by
  intro ends
  induction ends with
  | nil => intro w _ _ _; exact ⟨w, rfl⟩
  | cons s rest ih =>
    intro w h hnd hsub
    have hm : s ∈ w.chosen := hsub s List.mem_cons_self
    have hs := WideSt.noticeEnd_eq_some.mpr ⟨(h.polled_iff s).mpr hm, rfl⟩
    obtain ⟨h1, _, hc⟩ := h.step hs
    have hnd' := List.nodup_cons.mp hnd
    obtain ⟨w', hr⟩ := ih h1 hnd'.2 (fun t ht =>
      (hc t).mpr ⟨fun e => hnd'.1 (e ▸ ht), hsub t (List.mem_cons_of_mem _ ht)⟩)
    exact ⟨w', by simp only [WideSt.run, hs, hr]⟩

end EinoV.C08
