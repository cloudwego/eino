/-
  C16 — lemmas about the slice-level run (Model/C16Slices.lean): when every list of `optMap`
  grows from the map's own slot, the run on the heap is the pure run `runWP`, and no array that
  existed before the call is written.  The stretches of the file, in order, each by its first declaration:
  `read_length`: the heap operations (`read`, `alloc`, `write`, `sAppend`) and `Frame`; a slice or an Option that
  points below `next` reads the same on an extended heap (`read_frame`, `abs_frame`).
  `absItems`: the slice-level log as the pure log; which appends are performed is `extract` of Model/C16.lean
  (`sExtract_abs`), and each reads from the value slice of an Option of the call (`sExtract_srcs`).
  `vals_snoc`: what one more append adds to a key's values and Options in the pure log.
  `RInv`: the invariant of performing the appends on the heap, one step per kind of append, `RInv_fold`.
  `Rel`: what a finished level leaves, related to the pure log; `extractS_refines` is one `extractOption`.
  `level_then`: sequencing with the heap threaded through; the induction `runSW_refines_levels`, then
  `runSW_refines` (`capacity_and_sharing_irrelevant` of Props/C16.lean).
  `pickS_abs`: sequences of calls (`runCallsSW_refines`); `buildStore_spec`: the caller's construction of the
  store; the two together give `sliced_no_leak`.
-/
import EinoV.Spec.C16Slices
import EinoV.Proofs.C16
import EinoV.Proofs.C16Keys
import EinoV.Proofs.C16Resume
import EinoV.Proofs.ListFacts

namespace EinoV.C16

theorem read_length (h : VHeap) (s : Hdr) : (h.read s).length = s.len := by
  simp [VHeap.read]

theorem read_eq_nil (h : VHeap) (s : Hdr) : h.read s = [] ↔ s.len = 0 := by
  rw [← List.length_eq_zero_iff, read_length]

theorem Frame.refl (h : VHeap) : Frame h h := ⟨Nat.le_refl _, fun _ _ _ => rfl⟩

theorem Frame.trans {h1 h2 h3 : VHeap} (a : Frame h1 h2) (b : Frame h2 h3) : Frame h1 h3 :=
  ⟨Nat.le_trans a.1 b.1, fun x i hx => by rw [b.2 x i (Nat.lt_of_lt_of_le hx a.1), a.2 x i hx]⟩

theorem read_congr {h h' : VHeap} {s : Hdr} (hc : ∀ i, i < s.len → h'.cell s.arr i = h.cell s.arr i) :
    h'.read s = h.read s := by
  unfold VHeap.read
  apply List.map_congr_left
  intro i hi
  exact hc i (List.mem_range.mp hi)

theorem read_frame {h h' : VHeap} (hf : Frame h h') {s : Hdr} (hs : s.arr < h.next) :
    h'.read s = h.read s :=
  read_congr (fun i _ => hf.2 s.arr i hs)

theorem abs_congr {h h' : VHeap} {o : SOpt} (hr : h'.read o.vh = h.read o.vh) : o.abs h' = o.abs h := by
  simp only [SOpt.abs, hr]

theorem abs_frame {h h' : VHeap} (hf : Frame h h') {o : SOpt} (hs : o.vh.arr < h.next) :
    o.abs h' = o.abs h :=
  abs_congr (read_frame hf hs)

theorem map_abs_frame {h h' : VHeap} (hf : Frame h h') {opts : List SOpt}
    (hb : ∀ o ∈ opts, o.vh.arr < h.next) : opts.map (SOpt.abs h') = opts.map (SOpt.abs h) :=
  List.map_congr_left (fun o ho => abs_frame hf (hb o ho))

theorem alloc_frame (h : VHeap) (xs : List Nat) : Frame h (h.alloc xs).1 := by
  refine ⟨Nat.le_succ _, fun a i ha => ?_⟩
  simp [VHeap.alloc, Nat.ne_of_lt ha]

theorem alloc_next (h : VHeap) (xs : List Nat) : (h.alloc xs).1.next = h.next + 1 := rfl
theorem alloc_id (h : VHeap) (xs : List Nat) : (h.alloc xs).2 = h.next := rfl

theorem read_alloc (h : VHeap) (xs : List Nat) (c : Nat) :
    (h.alloc xs).1.read ⟨h.next, xs.length, c⟩ = xs := by
  simp [VHeap.read, VHeap.alloc, map_range_getD]

theorem write_next (h : VHeap) (a pos : Nat) (xs : List Nat) : (h.write a pos xs).next = h.next := rfl

theorem write_other (h : VHeap) (a pos : Nat) (xs : List Nat) (a' i : Nat) (hne : a' ≠ a ∨ i < pos) :
    (h.write a pos xs).cell a' i = h.cell a' i := by
  simp only [VHeap.write]
  rw [if_neg]
  rintro ⟨h1, h2, _⟩
  rcases hne with hne | hne
  · exact hne h1
  · omega

theorem read_write_same (h : VHeap) (a pos c c' : Nat) (xs : List Nat) :
    (h.write a pos xs).read ⟨a, pos + xs.length, c⟩ = h.read ⟨a, pos, c'⟩ ++ xs := by
  simp only [VHeap.read, List.range_add, List.map_append, List.map_map]
  congr 1
  · apply List.map_congr_left
    intro i hi
    exact write_other h a pos xs a i (Or.inr (List.mem_range.mp hi))
  · conv => rhs; rw [← map_range_getD xs 0]
    apply List.map_congr_left
    intro i hi
    have hi' := List.mem_range.mp hi
    simp [VHeap.write, hi']

theorem read_sAppend (grow : Nat → Nat → Nat) (h : VHeap) (cur : Hdr) (xs : List Nat) :
    (sAppend grow h cur xs).1.read (sAppend grow h cur xs).2 = h.read cur ++ xs := by
  unfold sAppend
  by_cases hc : cur.len + xs.length ≤ cur.cap
  · simp only [hc, if_true]
    exact read_write_same h cur.arr cur.len _ cur.cap xs
  · simp only [hc, if_false]
    have := read_alloc h (h.read cur ++ xs) (max (cur.len + xs.length) (grow cur.cap (cur.len + xs.length)))
    simpa [read_length, alloc_id] using this

theorem sAppend_cases (grow : Nat → Nat → Nat) (h : VHeap) (cur : Hdr) (xs : List Nat) :
    ((sAppend grow h cur xs).2.arr = cur.arr ∧ (sAppend grow h cur xs).1 = h.write cur.arr cur.len xs ∧
      cur.len + xs.length ≤ cur.cap) ∨
    ((sAppend grow h cur xs).2.arr = h.next ∧ (sAppend grow h cur xs).1 = (h.alloc (h.read cur ++ xs)).1 ∧
      ¬ cur.len + xs.length ≤ cur.cap) := by
  unfold sAppend
  by_cases hc : cur.len + xs.length ≤ cur.cap
  · left; simp [hc]
  · right; simp [hc, alloc_id]

/-- the appends of Model/C16.lean's log that one slice-level append stands for -/
def absItems (h : VHeap) : Key × SItem → Log
  | (k, .vals src) => (h.read src).map (fun v => (k, Item.val v))
  | (k, .fwd o _) => [(k, .opt (o.abs h))]

/-- The pure log (Model/C16.lean) a slice-level log stands for, its slices read on `h`: `sExtract` goes to
    `extract` under it (`sExtract_abs`).  `RInv` takes it at the heap on which `extractOption` starts: the values
    an append delivers are those its source slice held then. -/
def absLog (h : VHeap) (sl : SLog) : Log := sl.flatMap (absItems h)

/-- The slice an append reads its values from: the appended slice itself, or the `options` of the forwarded Option.
    It is always the value slice of an Option of the call (`sExtract_srcs`), so its array exists when
    `extractOption` starts: the hypothesis under which `RInv_fold` performs the appends. -/
def evHdr : Key × SItem → Hdr
  | (_, .vals src) => src
  | (_, .fwd o _) => o.vh

/-- `append(optMap[k], opt.options...)` is only reached with `len(opt.options) != 0` -/
def evNonEmpty : Key × SItem → Prop
  | (_, .vals src) => src.len ≠ 0
  | (_, .fwd _ _) => True

theorem absLog_append (h : VHeap) (a b : SLog) : absLog h (a ++ b) = absLog h a ++ absLog h b := by
  simp [absLog]

theorem absLog_flatten (h : VHeap) (ls : List SLog) :
    absLog h ls.flatten = (ls.map (absLog h)).flatten := by
  induction ls with
  | nil => rfl
  | cons a as ih => simp [absLog_append, ih]

theorem absLog_singleton (h : VHeap) (ev : Key × SItem) : absLog h [ev] = absItems h ev :=
  List.flatMap_singleton ..

theorem sUndesignatedFor_abs (F : Facts) (h : VHeap) (o : SOpt) (n : Node) :
    absLog h (sUndesignatedFor F o n) = undesignatedFor F (o.abs h) n := by
  cases n with
  | comp k ty =>
    show absLog h (if _ then _ else _) = if (!F.typeCmpIdentity || tyMatch F ty o.ty) = true then _ else _
    split
    · exact absLog_singleton ..
    · rfl
  | pass k => exact absLog_singleton ..
  | graph k ch => exact absLog_singleton ..

theorem sUndesignatedEntries_abs (F : Facts) (h : VHeap) (nodes : Nodes) (o : SOpt) :
    absLog h (sUndesignatedEntries F nodes o) = undesignatedEntries F nodes (o.abs h) := by
  unfold sUndesignatedEntries undesignatedEntries
  have hc : (o.paths = [] ∧ o.vh.len ≠ 0) ↔ ((o.abs h).paths = [] ∧ (o.abs h).vals ≠ []) := by
    simp [SOpt.abs, read_eq_nil]
  by_cases hcond : o.paths = [] ∧ o.vh.len ≠ 0
  · rw [if_pos hcond, if_pos (hc.mp hcond)]
    generalize nodes.toList = l
    induction l with
    | nil => rfl
    | cons n ns ih => simp only [List.flatMap_cons, absLog_append, ih, sUndesignatedFor_abs]
  · rw [if_neg hcond, if_neg (fun x => hcond (hc.mpr x))]
    rfl

theorem sPathEntry_sim (F : Facts) (h : VHeap) (nodes : Nodes) (o : SOpt) (p : Path) :
    Except.map (absLog h) (sPathEntry F nodes o p) = pathEntry F nodes (o.abs h) p ∧
    ∀ l, sPathEntry F nodes o p = .ok l → ∀ ev ∈ l, evHdr ev = o.vh ∧ evNonEmpty ev := by
  have hv : ((o.abs h).vals = []) ↔ o.vh.len = 0 := by simp [SOpt.abs, read_eq_nil]
  -- the two things that are ever appended
  have hvals : ∀ k, o.vh.len ≠ 0 → ∀ ev ∈ [((k, .vals o.vh) : Key × SItem)], evHdr ev = o.vh ∧ evNonEmpty ev :=
    fun k hl ev hev => by cases List.mem_singleton.mp hev; exact ⟨rfl, hl⟩
  have hfwd : ∀ k ps, ∀ ev ∈ [((k, .fwd { o with paths := ps } true) : Key × SItem)],
      evHdr ev = o.vh ∧ evNonEmpty ev :=
    fun k ps ev hev => by cases List.mem_singleton.mp hev; exact ⟨rfl, trivial⟩
  have habs : ∀ k ps, absLog h [((k, .fwd { o with paths := ps } true) : Key × SItem)]
      = [(k, .opt { o.abs h with paths := ps })] := fun _ _ => rfl
  cases p with
  | nil => exact ⟨rfl, nofun⟩
  | cons k rest =>
    simp only [sPathEntry, pathEntry]
    cases nodes.find k with
    | none => exact ⟨rfl, nofun⟩
    | some n =>
      by_cases hr : rest = []
      · by_cases hl : o.vh.len = 0
        · simp only [if_pos hr, if_pos hl, if_pos (hv.mpr hl)]
          exact ⟨rfl, fun l e => by cases e; exact nofun⟩
        · simp only [if_pos hr, if_neg hl, if_neg (fun x => hl (hv.mp x))]
          cases n with
          | comp k' ty =>
            show _ = (if (F.typeCmpIdentity && !tyMatch F ty o.ty) = true then _ else _) ∧ _
            by_cases hc : (F.typeCmpIdentity && !tyMatch F ty o.ty) = true
            · simp only [if_pos hc]; exact ⟨rfl, nofun⟩
            · simp only [if_neg hc]
              exact ⟨congrArg Except.ok (absLog_singleton h _), fun l e => by cases e; exact hvals k hl⟩
          | pass k' => exact ⟨congrArg Except.ok (habs k []), fun l e => by cases e; exact hfwd k []⟩
          | graph k' ch => exact ⟨congrArg Except.ok (habs k []), fun l e => by cases e; exact hfwd k []⟩
      · simp only [if_neg hr]
        cases n with
        | comp k' ty => exact ⟨rfl, nofun⟩
        | pass k' =>
          dsimp only
          split
          · exact ⟨rfl, nofun⟩
          · exact ⟨congrArg Except.ok (habs k _), fun l e => by cases e; exact hfwd k _⟩
        | graph k' ch => exact ⟨congrArg Except.ok (habs k _), fun l e => by cases e; exact hfwd k _⟩

theorem mapE_nat {α β β' ε : Type} (f : α → Except ε β) (f' : α → Except ε β') (φ : β' → β)
    (hf : ∀ a, Except.map φ (f' a) = f a) (l : List α) :
    Except.map (List.map φ) (mapE f' l) = mapE f l := by
  induction l with
  | nil => rfl
  | cons a as ih =>
    simp only [mapE]
    rw [← hf a, ← ih]
    cases f' a with
    | error e => rfl
    | ok b =>
      cases mapE f' as with
      | error e => rfl
      | ok bs => rfl

theorem sOptEntries_abs (F : Facts) (h : VHeap) (nodes : Nodes) (o : SOpt) :
    Except.map (absLog h) (sOptEntries F nodes o) = optEntries F nodes (o.abs h) := by
  unfold sOptEntries optEntries
  have := mapE_nat (pathEntry F nodes (o.abs h)) (sPathEntry F nodes o) (absLog h)
    (fun p => (sPathEntry_sim F h nodes o p).1) o.paths
  have hp : (o.abs h).paths = o.paths := rfl
  rw [hp, ← this]
  cases mapE (sPathEntry F nodes o) o.paths with
  | error e => rfl
  | ok ds =>
    simp [Except.map, absLog_append, absLog_flatten, sUndesignatedEntries_abs]

theorem mapE_map {α α' β ε : Type} (f : α → Except ε β) (ψ : α' → α) (l : List α') :
    mapE f (l.map ψ) = mapE (fun a => f (ψ a)) l := by
  induction l with
  | nil => rfl
  | cons a as ih => simp only [List.map_cons, mapE, ih]

theorem sExtract_abs (F : Facts) (h : VHeap) (nodes : Nodes) (opts : List SOpt) :
    Except.map (absLog h) (sExtract F nodes opts) = extract F nodes (opts.map (SOpt.abs h)) := by
  unfold sExtract extract
  rw [mapE_map]
  have := mapE_nat (fun o => optEntries F nodes (SOpt.abs h o)) (sOptEntries F nodes) (absLog h)
    (sOptEntries_abs F h nodes) opts
  rw [← this]
  cases mapE (sOptEntries F nodes) opts with
  | error e => rfl
  | ok ls => simp [Except.map, absLog_flatten]

theorem sUndesignatedFor_src {F : Facts} {o : SOpt} {n : Node} {ev : Key × SItem}
    (h : ev ∈ sUndesignatedFor F o n) : evHdr ev = o.vh := by
  cases n with
  | comp k ty =>
    simp only [sUndesignatedFor] at h
    split at h
    · cases List.mem_singleton.mp h; rfl
    · cases h
  | pass k => cases List.mem_singleton.mp h; rfl
  | graph k ch => cases List.mem_singleton.mp h; rfl

theorem sUndesignatedEntries_src {F : Facts} {nodes : Nodes} {o : SOpt} {ev : Key × SItem}
    (h : ev ∈ sUndesignatedEntries F nodes o) : evHdr ev = o.vh ∧ evNonEmpty ev := by
  unfold sUndesignatedEntries at h
  split at h
  · rename_i hc
    obtain ⟨n, _, hn⟩ := List.mem_flatMap.mp h
    have hh := sUndesignatedFor_src hn
    refine ⟨hh, ?_⟩
    rcases ev with ⟨k, it⟩
    cases it with
    | vals src => simp only [evHdr] at hh; subst hh; exact hc.2
    | fwd o' c => trivial
  · simp at h

theorem sPathEntry_src {F : Facts} {nodes : Nodes} {o : SOpt} {p : Path} {l : SLog}
    (h : sPathEntry F nodes o p = .ok l) {ev : Key × SItem} (hev : ev ∈ l) :
    evHdr ev = o.vh ∧ evNonEmpty ev :=
  -- this half does not look at the heap
  (sPathEntry_sim F VHeap.empty nodes o p).2 l h ev hev

theorem sExtract_srcs {F : Facts} {nodes : Nodes} {opts : List SOpt} {sl : SLog}
    (h : sExtract F nodes opts = .ok sl) {ev : Key × SItem} (hev : ev ∈ sl) :
    evNonEmpty ev ∧ ∃ o ∈ opts, evHdr ev = o.vh := by
  unfold sExtract at h
  split at h
  · cases h
  · rename_i ls hls
    cases h
    obtain ⟨o, ho, l, hol, hevl⟩ := (mapE_flatten_mem hls ev).mp hev
    unfold sOptEntries at hol
    split at hol
    · cases hol
    · rename_i ds hds
      cases hol
      rcases List.mem_append.mp hevl with hu | hd
      · have := sUndesignatedEntries_src hu
        exact ⟨this.2, o, ho, this.1⟩
      · obtain ⟨p, _, d, hp, hd2⟩ := (mapE_flatten_mem hds ev).mp hd
        have := sPathEntry_src hp hd2
        exact ⟨this.2, o, ho, this.1⟩

theorem vals_snoc (h : VHeap) (pre : SLog) (ev : Key × SItem) (k : Key) :
    valsOf (itemsFor (absLog h (pre ++ [ev])) k)
      = valsOf (itemsFor (absLog h pre) k) ++ valsOf (itemsFor (absItems h ev) k) := by
  simp [absLog, itemsFor, valsOf]

theorem opts_snoc (h : VHeap) (pre : SLog) (ev : Key × SItem) (k : Key) :
    optsOf (itemsFor (absLog h (pre ++ [ev])) k)
      = optsOf (itemsFor (absLog h pre) k) ++ optsOf (itemsFor (absItems h ev) k) := by
  simp [absLog, itemsFor, optsOf]

theorem vals_absItems_vals (h : VHeap) (k0 k : Key) (src : Hdr) :
    valsOf (itemsFor (absItems h (k0, .vals src)) k) = if k0 = k then h.read src else [] := by
  simp only [absItems, itemsFor, valsOf, List.filterMap_map, List.filterMap_filterMap]
  by_cases hk : k0 = k
  · subst hk
    simp
  · simp [hk]

theorem opts_absItems_vals (h : VHeap) (k0 k : Key) (src : Hdr) :
    optsOf (itemsFor (absItems h (k0, .vals src)) k) = [] := by
  simp only [absItems, itemsFor, optsOf, List.filterMap_map, List.filterMap_filterMap]
  by_cases hk : k0 = k <;> simp [hk]

theorem vals_absItems_fwd (h : VHeap) (k0 k : Key) (o : SOpt) (c : Bool) :
    valsOf (itemsFor (absItems h (k0, .fwd o c)) k) = [] := by
  by_cases hk : k0 = k <;> simp [absItems, itemsFor, valsOf, hk]

theorem opts_absItems_fwd (h : VHeap) (k0 k : Key) (o : SOpt) (c : Bool) :
    optsOf (itemsFor (absItems h (k0, .fwd o c)) k) = if k0 = k then [o.abs h] else [] := by
  by_cases hk : k0 = k <;> simp [absItems, itemsFor, optsOf, hk]

theorem mem_glFor {gl : List (Key × SOpt)} {k : Key} {o : SOpt} : o ∈ glFor gl k ↔ (k, o) ∈ gl :=
  mem_filterMap_key

theorem glFor_snoc (gl : List (Key × SOpt)) (k0 k : Key) (o : SOpt) :
    glFor (gl ++ [(k0, o)]) k = glFor gl k ++ (if k0 = k then [o] else []) := by
  by_cases hk : k0 = k <;> simp [glFor, List.filterMap_append, hk]

/-- `h0` = the heap when `extractOption` starts, `pre` = the appends performed so far.  Every
    slice stored in `optMap` lives in an array allocated since (`own`), no two keys share an
    array (`inj`), the Options in the lists of graph keys point to arrays no slice of the map
    points to (`glb`), and the lists read as the pure log says (`vals`, `opts`). -/
structure RInv (h0 : VHeap) (pre : SLog) (st : RState) : Prop where
  frame : Frame h0 st.h
  own : ∀ k hd, st.vm k = some hd → h0.next ≤ hd.arr ∧ hd.arr < st.h.next
  inj : ∀ k1 k2 hd1 hd2, st.vm k1 = some hd1 → st.vm k2 = some hd2 → hd1.arr = hd2.arr → k1 = k2
  glb : ∀ k o, (k, o) ∈ st.gl → o.vh.arr < st.h.next ∧ ∀ k' hd, st.vm k' = some hd → hd.arr ≠ o.vh.arr
  vals : ∀ k, st.h.read (vmGet st.vm k) = valsOf (itemsFor (absLog h0 pre) k)
  opts : ∀ k, (glFor st.gl k).map (SOpt.abs st.h) = optsOf (itemsFor (absLog h0 pre) k)

theorem read_nilHdr (h : VHeap) : h.read nilHdr = [] := rfl

theorem read_vmGet_stable {h h' : VHeap} {vm : Key → Option Hdr} {k : Key}
    (hc : ∀ hd, vm k = some hd → ∀ i, i < hd.len → h'.cell hd.arr i = h.cell hd.arr i) :
    h'.read (vmGet vm k) = h.read (vmGet vm k) := by
  unfold vmGet
  cases hv : vm k with
  | none => rfl
  | some hd => exact read_congr (hc hd hv)

theorem vmGet_set_same (vm : Key → Option Hdr) (k : Key) (hd : Hdr) : vmGet (vmSet vm k hd) k = hd := by
  simp [vmGet, vmSet]

theorem vmGet_set_other (vm : Key → Option Hdr) {k k' : Key} (hd : Hdr) (hne : k' ≠ k) :
    vmGet (vmSet vm k hd) k' = vmGet vm k' := by
  simp [vmGet, vmSet, hne]

theorem replayStep_vals_fresh (copies : Bool) {V : SliceFacts} (hV : V.valsGrowFromMapSlot = true)
    (grow : Nat → Nat → Nat) (st : RState) (k0 : Key) (src : Hdr) :
    replayStep copies V grow st (k0, .vals src) =
      { st with h := (sAppend grow st.h (vmGet st.vm k0) (st.h.read src)).1,
                vm := vmSet st.vm k0 (sAppend grow st.h (vmGet st.vm k0) (st.h.read src)).2 } := by
  simp only [replayStep, vmGet]
  cases st.vm k0 <;> simp [hV]

theorem vmSet_some {vm : Key → Option Hdr} {k k' : Key} {hd hd' : Hdr} :
    vmSet vm k hd k' = some hd' ↔ (k' = k ∧ hd = hd') ∨ (k' ≠ k ∧ vm k' = some hd') := by
  unfold vmSet
  by_cases hk : k' = k
  · rw [if_pos hk]; simp [hk]
  · rw [if_neg hk]; simp [hk]

theorem sAppend_frame (grow : Nat → Nat → Nat) (h : VHeap) (cur : Hdr) (xs : List Nat) :
    h.next ≤ (sAppend grow h cur xs).1.next ∧
    (∀ a i, a < h.next → a ≠ (sAppend grow h cur xs).2.arr →
      (sAppend grow h cur xs).1.cell a i = h.cell a i) ∧
    (((sAppend grow h cur xs).2.arr = cur.arr ∧ cur.len + xs.length ≤ cur.cap) ∨
     ((sAppend grow h cur xs).2.arr = h.next ∧ h.next < (sAppend grow h cur xs).1.next)) := by
  rcases sAppend_cases grow h cur xs with ⟨ha, hh, hc⟩ | ⟨ha, hh, _⟩ <;> rw [hh, ha]
  · exact ⟨Nat.le_refl _, fun a i _ hne => write_other _ _ _ _ _ _ (.inl hne), .inl ⟨rfl, hc⟩⟩
  · exact ⟨Nat.le_succ _, fun a i ha _ => (alloc_frame h _).2 a i ha, .inr ⟨rfl, Nat.lt_succ_self _⟩⟩

theorem RInv_vals_step {h0 : VHeap} {pre : SLog} {st : RState} (inv : RInv h0 pre st)
    (copies : Bool) {V : SliceFacts} (hV : V.valsGrowFromMapSlot = true) (grow : Nat → Nat → Nat)
    (k0 : Key) (src : Hdr) (hsrc : src.arr < h0.next) (hne : src.len ≠ 0) :
    RInv h0 (pre ++ [(k0, .vals src)]) (replayStep copies V grow st (k0, .vals src)) := by
  rw [replayStep_vals_fresh copies hV]
  have hx : st.h.read src = h0.read src := read_frame inv.frame hsrc
  have hxl : (st.h.read src).length ≠ 0 := by rw [read_length]; exact hne
  obtain ⟨hN, hC, hcase⟩ := sAppend_frame grow st.h (vmGet st.vm k0) (st.h.read src)
  have hread := read_sAppend grow st.h (vmGet st.vm k0) (st.h.read src)
  generalize sAppend grow st.h (vmGet st.vm k0) (st.h.read src) = r at hN hC hcase hread ⊢
  -- the array the list of `k0` now lives in was allocated during this call, and no other list
  -- and no forwarded Option points into it
  obtain ⟨hA1, hA2, hA3, hA4⟩ : h0.next ≤ r.2.arr ∧ r.2.arr < r.1.next ∧
      (∀ k hd, st.vm k = some hd → hd.arr = r.2.arr → k = k0) ∧
      (∀ k o, (k, o) ∈ st.gl → o.vh.arr ≠ r.2.arr) := by
    rcases hcase with ⟨harr, hcap⟩ | ⟨harr, hlt⟩ <;> rw [harr]
    · -- in place: there was room, so `k0` already owns an array
      have hcur : st.vm k0 = some (vmGet st.vm k0) := by
        cases hv : st.vm k0 with
        | none => simp only [vmGet, hv, Option.getD_none, nilHdr] at hcap; omega
        | some hd => simp [vmGet, hv]
      have hown := inv.own k0 _ hcur
      exact ⟨hown.1, Nat.lt_of_lt_of_le hown.2 hN, fun k hd hk he => inv.inj _ _ _ _ hk hcur he,
        fun k o hm he => (inv.glb k o hm).2 k0 _ hcur he.symm⟩
    · exact ⟨inv.frame.1, hlt, fun k hd hk he => absurd he (Nat.ne_of_lt (inv.own k hd hk).2),
        fun k o hm => Nat.ne_of_lt (inv.glb k o hm).1⟩
  constructor <;> dsimp only
  · refine ⟨Nat.le_trans inv.frame.1 hN, fun a i ha => ?_⟩
    rw [hC a i (Nat.lt_of_lt_of_le ha inv.frame.1) (Nat.ne_of_lt (Nat.lt_of_lt_of_le ha hA1)),
      inv.frame.2 a i ha]
  · intro k hd hk
    rcases vmSet_some.mp hk with ⟨_, rfl⟩ | ⟨_, hk⟩
    · exact ⟨hA1, hA2⟩
    · exact ⟨(inv.own k hd hk).1, Nat.lt_of_lt_of_le (inv.own k hd hk).2 hN⟩
  · intro k1 k2 hd1 hd2 h1 h2 he
    rcases vmSet_some.mp h1 with ⟨rfl, rfl⟩ | ⟨_, v1⟩ <;> rcases vmSet_some.mp h2 with ⟨rfl, rfl⟩ | ⟨_, v2⟩
    · rfl
    · exact (hA3 _ _ v2 he.symm).symm
    · exact hA3 _ _ v1 he
    · exact inv.inj _ _ _ _ v1 v2 he
  · intro k o hm
    refine ⟨Nat.lt_of_lt_of_le (inv.glb k o hm).1 hN, fun k' hd hk => ?_⟩
    rcases vmSet_some.mp hk with ⟨_, rfl⟩ | ⟨_, hk⟩
    · exact fun he => hA4 k o hm he.symm
    · exact (inv.glb k o hm).2 k' hd hk
  · intro k
    rw [vals_snoc, vals_absItems_vals]
    by_cases hk : k0 = k
    · subst hk
      rw [vmGet_set_same, hread, inv.vals, if_pos rfl, hx]
    · rw [vmGet_set_other _ _ (fun x => hk x.symm), if_neg hk, List.append_nil, ← inv.vals]
      exact read_vmGet_stable fun hd hv i _ =>
        hC _ i (inv.own _ _ hv).2 (fun he => hk (hA3 _ _ hv he).symm)
  · intro k
    rw [opts_snoc, opts_absItems_vals, List.append_nil, ← inv.opts]
    refine List.map_congr_left fun o ho => ?_
    have hm := mem_glFor.mp ho
    exact abs_congr (read_congr fun i _ => hC _ i (inv.glb k o hm).1 (hA4 k o hm))

/-- an Option is appended to the list of `k0`: the heap may have grown meanwhile, and the value `o1`
    that is stored reads as `o` did when the call began and lives in no array of the map -/
theorem RInv_fwd {h0 : VHeap} {pre : SLog} {st : RState} (inv : RInv h0 pre st) {h' : VHeap}
    (hfr : Frame st.h h') (k0 : Key) (o : SOpt) (c : Bool) {o1 : SOpt} (hlt : o1.vh.arr < h'.next)
    (hout : o1.vh.arr < h0.next ∨ st.h.next ≤ o1.vh.arr) (ho1 : o1.abs h' = o.abs h0) :
    RInv h0 (pre ++ [(k0, .fwd o c)]) { h := h', vm := st.vm, gl := st.gl ++ [(k0, o1)] } := by
  refine ⟨inv.frame.trans hfr, fun k hd hk => ?_, inv.inj, fun k o2 hm => ?_, fun k => ?_, fun k => ?_⟩
  · exact ⟨(inv.own k hd hk).1, Nat.lt_of_lt_of_le (inv.own k hd hk).2 hfr.1⟩
  · rcases List.mem_append.mp hm with hm | hm
    · exact ⟨Nat.lt_of_lt_of_le (inv.glb k o2 hm).1 hfr.1, (inv.glb k o2 hm).2⟩
    · cases List.mem_singleton.mp hm
      refine ⟨hlt, fun k' hd hk => ?_⟩
      have := inv.own k' hd hk
      omega
  · show h'.read (vmGet st.vm k) = _
    rw [vals_snoc, vals_absItems_fwd, List.append_nil, ← inv.vals]
    exact read_vmGet_stable fun hd hv i _ => hfr.2 _ _ (inv.own _ _ hv).2
  · show (glFor (st.gl ++ [(k0, o1)]) k).map (SOpt.abs h') = _
    rw [opts_snoc, opts_absItems_fwd, glFor_snoc, List.map_append, ← inv.opts]
    congr 1
    · exact map_abs_frame hfr fun o2 ho2 => (inv.glb k o2 (mem_glFor.mp ho2)).1
    · by_cases hk : k0 = k <;> simp [hk, ho1]

theorem RInv_fwd_step {h0 : VHeap} {pre : SLog} {st : RState} (inv : RInv h0 pre st)
    (copies : Bool) (V : SliceFacts) (grow : Nat → Nat → Nat)
    (k0 : Key) (o : SOpt) (c : Bool) (ho : o.vh.arr < h0.next) :
    RInv h0 (pre ++ [(k0, .fwd o c)]) (replayStep copies V grow st (k0, .fwd o c)) := by
  simp only [replayStep]
  by_cases hc : (c && copies) = true
  · -- deepCopy: a new exact-capacity array
    rw [if_pos hc]
    refine RInv_fwd inv (alloc_frame _ _) k0 o c (Nat.lt_succ_self _) (.inr (Nat.le_refl _)) ?_
    have := read_alloc st.h (st.h.read o.vh) o.vh.len
    rw [read_length] at this
    simp only [SOpt.abs, alloc_id]
    rw [this, read_frame inv.frame ho]
  · -- the Option itself: its slice still points into the array it came with
    rw [if_neg hc]
    exact RInv_fwd inv (Frame.refl _) k0 o c (Nat.lt_of_lt_of_le ho inv.frame.1) (.inl ho)
      (abs_frame inv.frame ho)

theorem RInv_fold (copies : Bool) {V : SliceFacts} (hV : V.valsGrowFromMapSlot = true)
    (grow : Nat → Nat → Nat) {h0 : VHeap} :
    ∀ (sl pre : SLog) (st : RState), RInv h0 pre st →
      (∀ ev ∈ sl, evNonEmpty ev ∧ (evHdr ev).arr < h0.next) →
      RInv h0 (pre ++ sl) (sl.foldl (replayStep copies V grow) st)
  | [], pre, st, inv, _ => by simpa using inv
  | ev :: sl, pre, st, inv, hsl => by
    have hev := hsl ev (by simp)
    have step : RInv h0 (pre ++ [ev]) (replayStep copies V grow st ev) := by
      rcases ev with ⟨k0, it⟩
      cases it with
      | vals src => exact RInv_vals_step inv copies hV grow k0 src hev.2 hev.1
      | fwd o c => exact RInv_fwd_step inv copies V grow k0 o c hev.2
    have := RInv_fold copies hV grow sl (pre ++ [ev]) _ step (fun e he => hsl e (by simp [he]))
    simpa using this

theorem RInv_init (h0 : VHeap) : RInv h0 [] { h := h0, vm := fun _ => none, gl := [] } where
  frame := Frame.refl _
  own := fun k hd hk => by cases hk
  inj := fun _ _ _ _ hk => by cases hk
  glb := fun _ _ hm => by cases hm
  vals := fun k => rfl
  opts := fun k => rfl

/-- What `extractS` leaves, read on the heap `h`, is the pure log: under every key the slice of the map reads as
    the key's values, and the forwarded Options read as the key's Options.  `extractS_refines` establishes it;
    the nodes of the level use it through `Rel_vals` / `Rel_opts` when they run, on a heap that has grown since. -/
def Rel (h : VHeap) (lv : LevelS) (log : Log) : Prop :=
  ∀ k, h.read (vmGet lv.vm k) = valsOf (itemsFor log k) ∧
       (glFor lv.gl k).map (SOpt.abs h) = optsOf (itemsFor log k)

/-- Every slice the level holds (a slot of the map, the values of a forwarded Option) points to an array that
    exists in `h`.  `Frame` speaks of existing arrays only: this is what carries `Rel` over to the heap a node
    leaves (`Rel_frame`), and what `extractS_refines` asks of the Options a nested graph extracts from. -/
def Bounded (h : VHeap) (lv : LevelS) : Prop :=
  (∀ k hd, lv.vm k = some hd → hd.arr < h.next) ∧ (∀ k o, (k, o) ∈ lv.gl → o.vh.arr < h.next)

theorem Rel_frame {h h' : VHeap} (hf : Frame h h') {lv : LevelS} {log : Log} (hb : Bounded h lv)
    (hr : Rel h lv log) : Rel h' lv log := by
  intro k
  refine ⟨?_, ?_⟩
  · rw [← (hr k).1]
    apply read_vmGet_stable
    intro hd hv i _
    exact hf.2 _ _ (hb.1 k hd hv)
  · rw [← (hr k).2]
    exact map_abs_frame hf fun o ho => hb.2 k o (mem_glFor.mp ho)

theorem Bounded_frame {h h' : VHeap} (hf : Frame h h') {lv : LevelS} (hb : Bounded h lv) : Bounded h' lv :=
  ⟨fun k hd hk => Nat.lt_of_lt_of_le (hb.1 k hd hk) hf.1, fun k o hm => Nat.lt_of_lt_of_le (hb.2 k o hm) hf.1⟩

theorem Rel_vals {h : VHeap} {lv : LevelS} {log : Log} (hr : Rel h lv log) (K : KeyFacts) (par : Paradigm)
    (w : Wrap) (k : Key) :
    (if w.forwards K par = true then h.read (vmGet lv.vm k) else []) = valsOf (deliver K par w (itemsFor log k)) := by
  rw [deliver, apply_ite valsOf, (hr k).1]; rfl

theorem Rel_opts {h : VHeap} {lv : LevelS} {log : Log} (hr : Rel h lv log) (K : KeyFacts) (par : Paradigm)
    (w : Wrap) (k : Key) :
    (if w.forwards K par = true then glFor lv.gl k else []).map (SOpt.abs h)
      = optsOf (deliver K par w (itemsFor log k)) := by
  rw [deliver, apply_ite optsOf, apply_ite (List.map _), (hr k).2]; rfl

theorem extractS_refines {F : Facts} {V : SliceFacts} (hV : V.valsGrowFromMapSlot = true)
    (grow : Nat → Nat → Nat) (nodes : Nodes) (opts : List SOpt) (h : VHeap)
    (hb : ∀ o ∈ opts, o.vh.arr < h.next) :
    Frame h (extractS F V grow nodes opts h).1 ∧
    match (extractS F V grow nodes opts h).2 with
    | .error e => extract F nodes (opts.map (SOpt.abs h)) = .error e
    | .ok lv => ∃ log, extract F nodes (opts.map (SOpt.abs h)) = .ok log ∧
        Rel (extractS F V grow nodes opts h).1 lv log ∧ Bounded (extractS F V grow nodes opts h).1 lv := by
  have habs := sExtract_abs F h nodes opts
  unfold extractS
  cases hs : sExtract F nodes opts with
  | error e =>
    rw [hs] at habs
    exact ⟨Frame.refl _, habs.symm⟩
  | ok sl =>
    rw [hs] at habs
    have hsrc : ∀ ev ∈ sl, evNonEmpty ev ∧ (evHdr ev).arr < h.next := by
      intro ev hev
      obtain ⟨h1, o, ho, h2⟩ := sExtract_srcs hs hev
      exact ⟨h1, by rw [h2]; exact hb o ho⟩
    have inv := RInv_fold F.nestedCopies hV grow sl [] _ (RInv_init h) hsrc
    simp only [List.nil_append] at inv
    refine ⟨inv.frame, absLog h sl, habs.symm, fun k => ⟨inv.vals k, inv.opts k⟩, ?_, ?_⟩
    · intro k hd hk; exact (inv.own k hd hk).2
    · intro k o hm; exact (inv.glb k o hm).1

theorem nodeHandlers_shell (h : VHeap) (opts : List SOpt) (k : Key) :
    nodeHandlers (opts.map SOpt.shell) k = nodeHandlers (opts.map (SOpt.abs h)) k := by
  -- the selector looks at `paths` and `handlers` only
  rw [nodeHandlers, nodeHandlers, List.flatMap_map, List.flatMap_map]; rfl

theorem graphHandlers_shell (h : VHeap) (opts : List SOpt) :
    graphHandlers (opts.map SOpt.shell) = graphHandlers (opts.map (SOpt.abs h)) := by
  rw [graphHandlers, graphHandlers, List.flatMap_map, List.flatMap_map]; rfl

/-! The run on the heap follows the pure run step by step: a step only extends the heap and fails or succeeds as
    the pure step does, and the rest of the run starts from the heap it leaves.  `level_then` says this for
    `extractOption` (whose result is related to the pure log by `Rel`) followed by the rest, `run_then` for a
    node or chain followed by the rest, in the shape of the `match`es of `runNodeSW`, `runNodesSW`, `runSW`.
    They are stated for these result types and not for any: a `match` of another declaration unifies with the
    model's only if its auxiliary matcher takes the same arguments. -/

theorem level_then {β : Type} {h : VHeap} {x : VHeap × Except Err LevelS} {y : Except Err Log} {p : Path}
    {f : VHeap → LevelS → VHeap × Except RunErr β} {g : Log → Except RunErr β}
    (hx : Frame h x.1 ∧
      match x.2 with
      | .error e => y = .error e
      | .ok lv => ∃ log, y = .ok log ∧ Rel x.1 lv log ∧ Bounded x.1 lv)
    (hf : ∀ lv log, Rel x.1 lv log → Bounded x.1 lv → Frame x.1 (f x.1 lv).1 ∧ (f x.1 lv).2 = g log) :
    Frame h (match x with | (h1, .error e) => (h1, Except.error (p, e)) | (h1, .ok lv) => f h1 lv).1 ∧
    (match x with | (h1, .error e) => (h1, Except.error (p, e)) | (h1, .ok lv) => f h1 lv).2
      = match (generalizing := false) y with | .error e => .error (p, e) | .ok log => g log := by
  obtain ⟨h1, r⟩ := x
  obtain ⟨hfr, hr⟩ := hx
  cases r with
  | error e => cases hr; exact ⟨hfr, rfl⟩
  | ok lv =>
    obtain ⟨log, rfl, hrel, hbd⟩ := hr
    exact ⟨hfr.trans (hf lv log hrel hbd).1, (hf lv log hrel hbd).2⟩

theorem run_then {β : Type} {h : VHeap} {x : VHeap × Except RunErr (List Entry)} {y : Except RunErr (List Entry)}
    {f : VHeap → List Entry → VHeap × Except RunErr β} {g : List Entry → Except RunErr β}
    (hx : Frame h x.1 ∧ x.2 = y) (hf : ∀ es, Frame x.1 (f x.1 es).1 ∧ (f x.1 es).2 = g es) :
    Frame h (match x with | (h1, .error e) => (h1, Except.error e) | (h1, .ok es) => f h1 es).1 ∧
    (match x with | (h1, .error e) => (h1, Except.error e) | (h1, .ok es) => f h1 es).2
      = match (generalizing := false) y with | .error e => .error e | .ok es => g es := by
  obtain ⟨h1, r⟩ := x
  obtain ⟨hfr, rfl⟩ := hx
  cases r with
  | error e => exact ⟨hfr, rfl⟩
  | ok es => exact ⟨hfr.trans (hf es).1, (hf es).2⟩

theorem runSW_refines_levels {F : Facts} {K : KeyFacts} {R : ResumeFacts} {V : SliceFacts}
    (hV : V.valsGrowFromMapSlot = true) (grow : Nat → Nat → Nat) (par : Paradigm) :
    (∀ (n : WNode) (part : Part) (pre : Path) (gH : List Nat) (opts : List SOpt) (lv : LevelS) (h : VHeap)
      (log : Log),
      (∀ o ∈ opts, o.vh.arr < h.next) → Rel h lv log → Bounded h lv →
      Frame h (runNodeSW F K R V grow par pre gH opts lv part h n).1 ∧
      (runNodeSW F K R V grow par pre gH opts lv part h n).2
        = runNodeWP F K R par pre gH (opts.map (SOpt.abs h)) log part n) ∧
    (∀ (ns : WNodes) (part : Part) (pre : Path) (gH : List Nat) (opts : List SOpt) (lv : LevelS) (h : VHeap)
      (log : Log),
      (∀ o ∈ opts, o.vh.arr < h.next) → Rel h lv log → Bounded h lv →
      Frame h (runNodesSW F K R V grow par pre gH opts lv part h ns).1 ∧
      (runNodesSW F K R V grow par pre gH opts lv part h ns).2
        = runNodesWP F K R par pre gH (opts.map (SOpt.abs h)) log part ns) := by
  refine WNode.induct ?_ ?_ ?_ ?_ ?_
  · intro k ty w part pre gH opts lv h log _ hr _
    simp only [runNodeSW, runNodeWP, nodeHandlers_shell h, Rel_vals hr]
    split <;> exact ⟨Frame.refl _, rfl⟩
  · intro k w part pre gH opts lv h log _ _ _
    exact ⟨Frame.refl _, rfl⟩
  · intro k ch w ih part pre gH opts lv h log hob hr hb
    by_cases hs : part.skips = true
    · simp only [runNodeSW, runNodeWP, hs, if_true]; exact ⟨Frame.refl _, trivial⟩
    simp only [runNodeSW, runNodeWP, hs, nodeHandlers_shell h, graphHandlers_shell h, ← Rel_opts hr]
    -- the Options the nested graph is called with
    have hsb : ∀ o ∈ (if w.forwards K par = true then glFor lv.gl k else []), o.vh.arr < h.next := by
      intro o ho
      split at ho
      · exact hb.2 k o (mem_glFor.mp ho)
      · cases ho
    generalize (if w.forwards K par = true then glFor lv.gl k else []) = sub at hsb ⊢
    have hlevel := extractS_refines (F := F) hV grow ch.erase sub h hsb
    refine level_then hlevel fun lv' log' hrel' hbd' => run_then ?_ fun es => ⟨Frame.refl _, rfl⟩
    rw [← map_abs_frame hlevel.1 hsb]
    exact ih _ _ _ _ _ _ _ (fun o ho => Nat.lt_of_lt_of_le (hsb o ho) hlevel.1.1) hrel' hbd'
  · intro part pre gH opts lv h log _ _ _
    exact ⟨Frame.refl _, rfl⟩
  · intro n ns ih1 ih2 part pre gH opts lv h log hob hr hb
    simp only [runNodesSW, runNodesWP]
    have ih1 := ih1 (part.node n.key) pre gH opts lv h log hob hr hb
    refine run_then ih1 fun a => run_then ?_ fun b => ⟨Frame.refl _, rfl⟩
    rw [← map_abs_frame ih1.1 hob]
    exact ih2 _ _ _ _ _ _ _ (fun o ho => Nat.lt_of_lt_of_le (hob o ho) ih1.1.1)
      (Rel_frame ih1.1 hb hr) (Bounded_frame ih1.1 hb)

theorem runNodeSW_refines {F : Facts} {K : KeyFacts} {R : ResumeFacts} {V : SliceFacts}
    (hV : V.valsGrowFromMapSlot = true) (grow : Nat → Nat → Nat) (par : Paradigm) :
    ∀ (n : WNode) (part : Part) (pre : Path) (gH : List Nat) (opts : List SOpt) (lv : LevelS) (h : VHeap)
      (log : Log),
      (∀ o ∈ opts, o.vh.arr < h.next) → Rel h lv log → Bounded h lv →
      Frame h (runNodeSW F K R V grow par pre gH opts lv part h n).1 ∧
      (runNodeSW F K R V grow par pre gH opts lv part h n).2
        = runNodeWP F K R par pre gH (opts.map (SOpt.abs h)) log part n :=
  (runSW_refines_levels hV grow par).1

theorem runNodesSW_refines {F : Facts} {K : KeyFacts} {R : ResumeFacts} {V : SliceFacts}
    (hV : V.valsGrowFromMapSlot = true) (grow : Nat → Nat → Nat) (par : Paradigm) :
    ∀ (ns : WNodes) (part : Part) (pre : Path) (gH : List Nat) (opts : List SOpt) (lv : LevelS) (h : VHeap)
      (log : Log),
      (∀ o ∈ opts, o.vh.arr < h.next) → Rel h lv log → Bounded h lv →
      Frame h (runNodesSW F K R V grow par pre gH opts lv part h ns).1 ∧
      (runNodesSW F K R V grow par pre gH opts lv part h ns).2
        = runNodesWP F K R par pre gH (opts.map (SOpt.abs h)) log part ns :=
  (runSW_refines_levels hV grow par).2

theorem runSW_refines {F : Facts} {K : KeyFacts} {R : ResumeFacts} {V : SliceFacts}
    (hV : V.valsGrowFromMapSlot = true)
    (grow : Nat → Nat → Nat) (par : Paradigm) (part : Part) (g : WNodes) (opts : List SOpt) (h : VHeap)
    (hb : ∀ o ∈ opts, o.vh.arr < h.next) :
    Frame h (runSW F K R V grow par part g opts h).1 ∧
    (runSW F K R V grow par part g opts h).2 = runWP F K R par part g (opts.map (SOpt.abs h)) := by
  have hlevel := extractS_refines (F := F) hV grow g.erase opts h hb
  simp only [runSW, runWP, graphHandlers_shell h]
  refine level_then hlevel fun lv log hrel hbd => run_then ?_ fun es => ⟨Frame.refl _, rfl⟩
  rw [← map_abs_frame hlevel.1 hb]
  exact runNodesSW_refines hV grow par g part [] _ opts lv _ log
    (fun o ho => Nat.lt_of_lt_of_le (hb o ho) hlevel.1.1) hrel hbd

theorem pickS_abs (h : VHeap) (store : List SOpt) (ixs : List Nat) :
    (pickS store ixs).map (SOpt.abs h) = pick (store.map (SOpt.abs h)) ixs := by
  induction ixs with
  | nil => rfl
  | cons i is ih =>
    simp only [pickS, pick, List.filterMap_cons, List.getElem?_map] at ih ⊢
    cases store[i]? with
    | none => simpa using ih
    | some o => simpa using ih

theorem mem_pickS {store : List SOpt} {ixs : List Nat} {o : SOpt} (h : o ∈ pickS store ixs) : o ∈ store := by
  simp only [pickS, List.mem_filterMap] at h
  obtain ⟨i, _, hi⟩ := h
  exact List.mem_of_getElem? hi

theorem storeAfterS_copies {F : Facts} (hC : F.nestedCopies = true) (h : VHeap) (store : List SOpt)
    (c : Call) : storeAfterS F h store c = store := by
  unfold storeAfterS storeAfter
  rw [storeAfterAux_copies hC]
  induction store with
  | nil => rfl
  | cons o os ih => simp only [List.map_cons, List.zip_cons_cons, ih]; rfl

theorem runCallsSW_refines {F : Facts} {K : KeyFacts} {R : ResumeFacts} {V : SliceFacts}
    (hC : F.nestedCopies = true)
    (hV : V.valsGrowFromMapSlot = true) (grow : Nat → Nat → Nat) :
    ∀ (cs : List CallP) (saved : Option Path) (h : VHeap) (store : List SOpt),
      (∀ o ∈ store, o.vh.arr < h.next) →
      (runCallsSW F K R V grow saved h store cs).1
          = callsSpec F K R (store.map (SOpt.abs h)) saved cs ∧
      (runCallsSW F K R V grow saved h store cs).2.1 = store ∧
      Frame h (runCallsSW F K R V grow saved h store cs).2.2
  | [], saved, h, store, _ => ⟨rfl, rfl, Frame.refl _⟩
  | c :: cs, saved, h, store, hb => by
    have hp : ∀ o ∈ pickS store c.ixs, o.vh.arr < h.next := fun o ho => hb o (mem_pickS ho)
    have h1 := runSW_refines (F := F) (K := K) (R := R) hV grow c.par (c.ask.part saved) c.g (pickS store c.ixs) h hp
    have hb1 : ∀ o ∈ store, o.vh.arr < (runSW F K R V grow c.par (c.ask.part saved) c.g (pickS store c.ixs) h).1.next :=
      fun o ho => Nat.lt_of_lt_of_le (hb o ho) h1.1.1
    have ih := runCallsSW_refines (K := K) (R := R) hC hV grow cs
      (c.ask.savedAfter saved (runSW F K R V grow c.par (c.ask.part saved) c.g (pickS store c.ixs) h).2) _ store hb1
    simp only [runCallsSW, storeAfterS_copies hC, callsSpec]
    refine ⟨?_, ih.2.1, h1.1.trans ih.2.2⟩
    rw [ih.1, h1.2, pickS_abs, map_abs_frame h1.1 hb]

theorem buildStore_spec : ∀ (ops : List StoreOp) (h : VHeap) (st : List SOpt),
    storeOpsWf ops st.length = true → (∀ o ∈ st, o.vh.arr < h.next) →
    Frame h (buildStore ops (h, st)).1 ∧
    (∀ o ∈ (buildStore ops (h, st)).2, o.vh.arr < (buildStore ops (h, st)).1.next) ∧
    (buildStore ops (h, st)).2.map (SOpt.abs (buildStore ops (h, st)).1)
      = ops.foldl specStoreStep (st.map (SOpt.abs h))
  | [], h, st, _, hb => ⟨Frame.refl _, hb, rfl⟩
  | .fresh ty vals spare hs ps :: ops, h, st, hwf, hb => by
    simp only [storeOpsWf] at hwf
    simp only [buildStore, List.foldl_cons, specStoreStep]
    have hfr := alloc_frame h vals
    have hb' : ∀ o ∈ st ++ [(⟨ty, ⟨(h.alloc vals).2, vals.length, vals.length + spare⟩, hs, ps⟩ : SOpt)],
        o.vh.arr < (h.alloc vals).1.next :=
      List.forall_mem_append.mpr
        ⟨fun o ho => Nat.lt_succ_of_lt (hb o ho), List.forall_mem_singleton.mpr (Nat.lt_succ_self _)⟩
    have ih := buildStore_spec ops (h.alloc vals).1 _ (by simpa using hwf) hb'
    refine ⟨hfr.trans ih.1, ih.2.1, ?_⟩
    rw [ih.2.2, List.map_append, map_abs_frame hfr hb]
    simp [SOpt.abs, alloc_id, read_alloc]
  | .derived src ps :: ops, h, st, hwf, hb => by
    simp only [storeOpsWf, Bool.and_eq_true, decide_eq_true_eq] at hwf
    simp only [buildStore, List.foldl_cons, specStoreStep]
    obtain ⟨o0, ho0⟩ : ∃ o0, st[src]? = some o0 := ⟨st[src]'hwf.1, List.getElem?_eq_getElem hwf.1⟩
    have hb' : ∀ o ∈ st ++ [{ (st[src]?).getD default with paths := ps }], o.vh.arr < h.next :=
      List.forall_mem_append.mpr
        ⟨hb, List.forall_mem_singleton.mpr (by rw [ho0]; exact hb o0 (List.mem_of_getElem? ho0))⟩
    have ih := buildStore_spec ops h _ (by simpa using hwf.2) hb'
    refine ⟨ih.1, ih.2.1, ?_⟩
    rw [ih.2.2, List.map_append]
    simp [ho0, SOpt.abs]

theorem buildStore_empty (ops : List StoreOp) (hwf : storeOpsWf ops 0 = true) :
    (∀ o ∈ (buildStore ops (VHeap.empty, [])).2, o.vh.arr < (buildStore ops (VHeap.empty, [])).1.next) ∧
    (buildStore ops (VHeap.empty, [])).2.map (SOpt.abs (buildStore ops (VHeap.empty, [])).1) = specStore ops := by
  have := buildStore_spec ops VHeap.empty [] hwf (by intro o ho; cases ho)
  exact ⟨this.2.1, this.2.2⟩

end EinoV.C16
