/-
  C05 — resume = continue: the predicates the resume theorems of Props/C05.lean are stated with
  (`LoopSt.toCP`, `QuietUnder`, `NoSR`, `finishesIn`, `ObsEq`, `StepsFresh`) and the lemmas behind them.
-/
import EinoV.Model.C05
import EinoV.Proofs.C05
import EinoV.Proofs.C05Engine
import EinoV.Proofs.Assoc

namespace EinoV.Interrupt
open EinoV.Engine

variable {V S X : Type}

/-- a loop state as `createTasks` produces it on a run whose ctx carries no checkpoint -/
def LoopSt.Fresh (ls : LoopSt V S X) : Prop :=
  ls.stale = [] ∧ ∀ t ∈ ls.tasks, t.skipPre = false ∧ t.sub = none

def LoopSt.KeysOK (r : IRunner V S X) (ls : LoopSt V S X) : Prop :=
  akeys ls.cm = akeys (initChans r.base)

/-- what `handleInterrupt` saves for a loop state: channels, the inputs of the pending tasks
    (before their pre-handlers), state -/
def LoopSt.toCP (ls : LoopSt V S X) : Checkpoint V S X :=
  simpleCP ls.cm (ls.tasks.map (fun t => (t.key, t.input))) ls.st

theorem restoreTasks_plain : ∀ (ts : List (Task V X)), (∀ t ∈ ts, t.skipPre = false ∧ t.sub = none) →
    restoreTasks (ts.map (fun t => (t.key, t.input))) [] ([] : List (Key × X)) = ts := by
  intro ts
  induction ts with
  | nil => intro _; rfl
  | cons t rest ih =>
    intro h
    have ht := h t (by simp)
    have hr := ih (fun t' h' => h t' (by simp [h']))
    simp only [restoreTasks, List.map_cons, List.map_map] at hr ⊢
    congr 1
    obtain ⟨k, i, sp, sb⟩ := t
    simp only at ht
    simp [alookup, ht.1, ht.2]

theorem restore_toCP (cfg : Cfg) (r : IRunner V S X) (ls : LoopSt V S X)
    (hcfg : cfg.fwdStale = false) (hf : ls.Fresh) (hk : ls.KeysOK r) (hnd : (akeys (initChans r.base)).Nodup) :
    restore cfg r ls.toCP = ls := by
  obtain ⟨cm, tasks, st, stale⟩ := ls
  simp only [LoopSt.Fresh] at hf
  simp only [LoopSt.KeysOK] at hk
  simp only [restore, LoopSt.toCP, simpleCP, hcfg, Bool.false_eq_true, ite_false]
  congr 1
  · exact loadChans_same _ _ hk hnd
  · exact restoreTasks_plain tasks hf.2
  · exact hf.1.symm

/-- same topology, same initial state, same pre- and post-handlers (the bodies may differ) -/
structure SameShell (r r₀ : IRunner V S X) : Prop where
  base : r₀.base = r.base
  init : r₀.initState = r.initState
  pre : ∀ k, (r₀.inode? k).bind (·.pre) = (r.inode? k).bind (·.pre)
  post : ∀ k, (r₀.inode? k).bind (·.post) = (r.inode? k).bind (·.post)

theorem preOne_eq_bind (r : IRunner V S X) (t : Task V X) (st : S) :
    preOne r t st = (match (r.inode? t.key).bind (·.pre) with
      | none => (t, st)
      | some h => if t.skipPre then (t, st) else ({ t with input := (h t.input st).1 }, (h t.input st).2)) := by
  unfold preOne
  cases r.inode? t.key with
  | none => rfl
  | some n =>
    simp only [Option.bind_some]
    cases n.pre <;> rfl

theorem preOne_shell {r r₀ : IRunner V S X} (h : SameShell r r₀) (t : Task V X) (st : S) :
    preOne r₀ t st = preOne r t st := by
  rw [preOne_eq_bind, preOne_eq_bind, h.pre]

theorem runPres_shell {r r₀ : IRunner V S X} (h : SameShell r r₀) : ∀ (ts : List (Task V X)) (st : S),
    runPres r₀ ts st = runPres r ts st := by
  intro ts
  induction ts with
  | nil => intro st; rfl
  | cons t rest ih => intro st; simp only [runPres, preOne_shell h, ih]

theorem runPosts_shell {r r₀ : IRunner V S X} (h : SameShell r r₀) : ∀ (l : List (Key × BodyRes V S X)) (st : S),
    runPosts r₀ l st = runPosts r l st := by
  intro l
  induction l with
  | nil => intro st; rfl
  | cons x rest ih =>
    intro st
    have hp : postOne r₀ x.1 x.2 st = postOne r x.1 x.2 st := by
      unfold postOne
      cases x.2 <;> simp only [h.post]
    simp only [runPosts, hp, ih]

theorem coreOut_shell {r r₀ : IRunner V S X} (h : SameShell r r₀) (ops : ValOps V) (sched : ISched V S X) (cm : Chans V)
    (L : List (Key × BodyRes V S X)) (st : S) : coreOut ops r₀ sched cm L st = coreOut ops r sched cm L st := by
  simp only [coreOut, runPosts_shell h, h.base]

theorem preOne_plain (r : IRunner V S X) (t : Task V X) (st : S) : preOne r.plain t st = preOne r t st := rfl
theorem bodyOne_plain (r : IRunner V S X) (t : Task V X) (st : S) : bodyOne r.plain t st = bodyOne r t st := rfl
theorem postOne_plain (r : IRunner V S X) (k : Key) (res : BodyRes V S X) (st : S) :
    postOne r.plain k res st = postOne r k res st := rfl

theorem sameShell_plain (r : IRunner V S X) : SameShell r r.plain := ⟨rfl, rfl, fun _ => rfl, fun _ => rfl⟩

theorem runPres_plain (r : IRunner V S X) (ts : List (Task V X)) (st : S) : runPres r.plain ts st = runPres r ts st :=
  runPres_shell (sameShell_plain r) ts st

theorem runBodies_plain (r : IRunner V S X) : ∀ (ts : List (Task V X)) (st : S), runBodies r.plain ts st = runBodies r ts st := by
  intro ts
  induction ts with
  | nil => intro st; rfl
  | cons t rest ih => intro st; simp only [runBodies, bodyOne_plain, ih]

theorem coreOut_plain (ops : ValOps V) (r : IRunner V S X) (sched : ISched V S X) (cm : Chans V)
    (bres : List (Key × BodyRes V S X)) (st : S) :
    coreOut ops r.plain sched cm bres st = coreOut ops r sched cm bres st :=
  coreOut_shell (sameShell_plain r) ops sched cm bres st

theorem stepCore_plain (ops : ValOps V) (r : IRunner V S X) (sched : ISched V S X) (ls : LoopSt V S X) :
    stepCore ops r.plain sched ls = stepCore ops r sched ls := by
  simp only [stepCore, stepTasks, runPres_plain, runBodies_plain, coreOut_plain]

theorem finishStep_noInt_next (ops : ValOps V) (r : IRunner V S X) (hb : r.intBefore = []) (ha : r.intAfter = [])
    (stale : List (Key × X)) (cm : Chans V) (ts : List (Key × V)) (dones : List (Done V)) (st : S) :
    finishStep ops r stale (.next cm ts dones st) =
      .next { cm := cm, tasks := mkTasks stale ts, st := st, stale := stale } := by
  simp [finishStep, hb, ha, hitKeys_nil_keys, afterHits_nil_keys]

theorem finishStep_plain_next (ops : ValOps V) (r : IRunner V S X) (stale : List (Key × X))
    (cm : Chans V) (ts : List (Key × V)) (dones : List (Done V)) (st : S) :
    finishStep ops r.plain stale (.next cm ts dones st) =
      .next { cm := cm, tasks := mkTasks stale ts, st := st, stale := stale } :=
  finishStep_noInt_next ops r.plain rfl rfl stale cm ts dones st

/-- on channel maps satisfying `Inv` (an invariant of the run): calling `calculateNextTasks` again
    with no completed task changes nothing and yields no task -/
def QuietUnder (ops : ValOps V) (base : Runner V) (Inv : Chans V → Prop) : Prop :=
  ∀ cm done cm' ts, Inv cm → calcNext ops base cm done = .ok (cm', .tasks ts) →
    Inv cm' ∧ calcNext ops base cm' [] = .ok (cm', .tasks [])

/-- the same without side condition on the channels -/
def SecondGetQuiet (ops : ValOps V) (base : Runner V) : Prop := QuietUnder ops base (fun _ => True)

theorem finishStep_simple_intr (ops : ValOps V) (r : IRunner V S X) (stale : List (Key × X))
    (cm : Chans V) (ts : List (Key × V)) (dones : List (Done V)) (st : S)
    (hq : calcNext ops r.base cm [] = .ok (cm, .tasks []))
    (cp : Checkpoint V S X) (info : Info S X)
    (h : finishStep ops r stale (.next cm ts dones st) = .intr cp info) :
    cp = simpleCP cm ts st := by
  rcases finishStep_intr ops r stale _ cp info h with ⟨_, _, _, _, _, _, hc, _⟩ | ⟨_, _, _, _, cm2, ts2, hc, _, hcn, rfl, _⟩
  · cases hc
  · cases hc
    rw [hq] at hcn
    cases hcn
    rw [List.append_nil]

theorem finishStep_next_cases (ops : ValOps V) (r : IRunner V S X) (stale : List (Key × X))
    (cm : Chans V) (ts : List (Key × V)) (dones : List (Done V)) (st : S)
    (hq : calcNext ops r.base cm [] = .ok (cm, .tasks [])) :
    finishStep ops r stale (.next cm ts dones st) = .next { cm := cm, tasks := mkTasks stale ts, st := st, stale := stale } ∨
    ∃ info, finishStep ops r stale (.next cm ts dones st) = .intr (simpleCP cm ts st) info := by
  simp only [finishStep]
  split
  · left; rfl
  · right; rw [hq]; simp

/-- no node body of this level returns `InterruptAndRerun` or a nested interrupt -/
def NoSR (r : IRunner V S X) : Prop :=
  ∀ n ∈ r.inodes, ∀ v s x, (∀ s', (n.body v s x).res ≠ .rerun s') ∧ (∀ y s', (n.body v s x).res ≠ .subInt y s')

def BodyRes.isSR : BodyRes V S X → Bool
  | .rerun _ => true | .subInt .. => true | _ => false

/-- the completion order invents no task -/
def SchedSub (sched : ISched V S X) : Prop := ∀ l x, x ∈ sched l → x ∈ l

theorem bodyOne_isSR (r : IRunner V S X) (t : Task V X) (st : S) (h : (bodyOne r t st).res.isSR = true) :
    ∃ n, r.inode? t.key = some n ∧ (bodyOne r t st).res = (n.body t.input st t.sub).res := by
  unfold bodyOne at h ⊢
  cases hn : r.inode? t.key with
  | none => simp [hn, BodyRes.isSR] at h
  | some n => exact ⟨n, rfl, rfl⟩

theorem bodyOne_noSR (r : IRunner V S X) (h : NoSR r) (t : Task V X) (st : S) : (bodyOne r t st).res.isSR = false := by
  unfold bodyOne
  split
  · rfl
  · rename_i n hn
    have hmem : n ∈ r.inodes := List.mem_of_find?_eq_some hn
    have := h n hmem t.input st t.sub
    cases hres : (n.body t.input st t.sub).res with
    | done o s => rfl
    | fail e s => rfl
    | rerun s' => exact absurd hres (this.1 s')
    | subInt y s' => exact absurd hres (this.2 y s')

theorem runBodies_noSR (r : IRunner V S X) (h : NoSR r) (ts : List (Task V X)) (st : S) :
    ∀ x ∈ (runBodies r ts st).1, x.2.isSR = false := fun x hx => by
  obtain ⟨t, _, st', _, h2⟩ := mem_runBodies r ts st x hx
  rw [h2]
  exact bodyOne_noSR r h t st'

theorem runPosts_noSR (r : IRunner V S X) (l : List (Key × BodyRes V S X)) (st : S)
    (h : ∀ x ∈ l, x.2.isSR = false) : subIntOf (runPosts r l st).1 = [] ∧ rerunOf (runPosts r l st).1 = [] := by
  refine ⟨List.eq_nil_iff_forall_not_mem.2 fun kp hkp => ?_, List.eq_nil_iff_forall_not_mem.2 fun k hk => ?_⟩
  · obtain ⟨s, hm⟩ := (mem_subIntOf_runPosts r kp.1 kp.2 l st).1 hkp
    cases h _ hm
  · obtain ⟨s, hm⟩ := (mem_rerunOf_runPosts r k l st).1 hk
    cases h _ hm

theorem coreOut_noSR (ops : ValOps V) (r : IRunner V S X) (sched : ISched V S X) (cm : Chans V)
    (bres : List (Key × BodyRes V S X)) (st2 : S) (h : ∀ x ∈ sched bres, x.2.isSR = false) :
    ∀ cm' restore subs reruns dones st, coreOut ops r sched cm bres st2 ≠ .sr cm' restore subs reruns dones st := by
  intro cm' restore subs reruns dones st heq
  obtain ⟨rfl, rfl, _, _, hne⟩ := coreOut_sr_parts ops r sched cm bres st2 cm' restore subs reruns dones st heq
  have hno := runPosts_noSR r (sched bres) st2 h
  rcases hne with hne | hne
  · exact hne hno.1
  · exact hne hno.2

theorem coreOut_next_keys (ops : ValOps V) (r : IRunner V S X) (sched : ISched V S X) (cm : Chans V)
    (bres : List (Key × BodyRes V S X)) (st2 : S) (cm' : Chans V) (ts : List (Key × V)) (dones : List (Done V)) (st : S)
    (h : coreOut ops r sched cm bres st2 = .next cm' ts dones st) :
    akeys cm' = akeys cm ∧ ∃ done, calcNext ops r.base cm done = .ok (cm', .tasks ts) := by
  have hcn := (coreOut_next_parts ops r sched cm bres st2 cm' ts dones st h).2.2.2.2
  exact ⟨calcNext_keys ops r.base cm _ _ _ hcn, _, hcn⟩

theorem mkTasks_inputs (stale : List (Key × X)) (ts : List (Key × V)) :
    (mkTasks stale ts).map (fun t => (t.key, t.input)) = ts := by
  simp only [mkTasks, List.map_map]
  conv => rhs; rw [← List.map_id ts]
  apply List.map_congr_left
  intro p _
  rfl

theorem toCP_mkTasks (cm : Chans V) (stale : List (Key × X)) (ts : List (Key × V)) (st : S) :
    ({ cm := cm, tasks := mkTasks stale ts, st := st, stale := stale } : LoopSt V S X).toCP = simpleCP cm ts st := by
  simp only [LoopSt.toCP, mkTasks_inputs]

theorem mkTasks_fresh (ts : List (Key × V)) : ∀ t ∈ mkTasks ([] : List (Key × X)) ts, t.skipPre = false ∧ t.sub = none := by
  intro t ht
  simp only [mkTasks, List.mem_map] at ht
  obtain ⟨p, _, rfl⟩ := ht
  simp [alookup]

theorem stepI_sim (ops : ValOps V) (r : IRunner V S X) (sched : ISched V S X) (Inv : Chans V → Prop)
    (hq : QuietUnder ops r.base Inv) (hnsr : NoSR r) (hsub : SchedSub sched)
    (ls : LoopSt V S X) (hf : ls.Fresh) (hk : ls.KeysOK r) (hinv : Inv ls.cm) :
    (stepI ops r sched ls).1 = (stepI ops r.plain sched ls).1 ∧
    (match (stepI ops r.plain sched ls).2 with
     | .done v => (stepI ops r sched ls).2 = .done v
     | .fail e => (stepI ops r sched ls).2 = .fail e
     | .intr _ _ => False
     | .next ls' => ls'.Fresh ∧ ls'.KeysOK r ∧ Inv ls'.cm ∧
        ((stepI ops r sched ls).2 = .next ls' ∨ ∃ info, (stepI ops r sched ls).2 = .intr ls'.toCP info)) := by
  refine ⟨by simp only [stepI, stepCore_plain], ?_⟩
  simp only [stepI, stepCore_plain]
  have hcore : (stepCore ops r sched ls).2 =
      coreOut ops r sched ls.cm (runBodies r (runPres r ls.tasks ls.st).1 (runPres r ls.tasks ls.st).2).1
        (runBodies r (runPres r ls.tasks ls.st).1 (runPres r ls.tasks ls.st).2).2.1 := rfl
  cases hc : (stepCore ops r sched ls).2 with
  | done v => simp [finishStep]
  | fail e => simp [finishStep]
  | sr cm restore subs reruns dones st =>
    exfalso
    rw [hcore] at hc
    refine coreOut_noSR ops r sched _ _ _ ?_ cm restore subs reruns dones st hc
    intro x hx
    exact runBodies_noSR r hnsr _ _ x (hsub _ x hx)
  | next cm ts dones st =>
    rw [hcore] at hc
    obtain ⟨hkeys, done, hcn⟩ := coreOut_next_keys ops r sched _ _ _ cm ts dones st hc
    obtain ⟨hinv', hq'⟩ := hq _ _ _ _ hinv hcn
    rw [finishStep_plain_next]
    simp only
    have hstale : ls.stale = [] := hf.1
    refine ⟨⟨hstale, ?_⟩, ?_, hinv', ?_⟩
    · show ∀ t ∈ mkTasks ls.stale ts, t.skipPre = false ∧ t.sub = none
      rw [hstale]; exact mkTasks_fresh ts
    · simp only [LoopSt.KeysOK]; rw [hkeys]; exact hk
    · rcases finishStep_next_cases ops r ls.stale cm ts dones st hq' with h | ⟨info, h⟩
      · left; exact h
      · right
        exact ⟨info, by rw [h, toCP_mkTasks]⟩

def Res.final? : Res V S X → Option (Except Err V)
  | .done v => some (.ok v)
  | .failed e => some (.error e)
  | .interrupted .. => none

/-- for a concrete run: the value it returned, read off by evaluating `final?` (which is decidable where
    equality of `Res` is not) -/
theorem Res.eq_done_of_final? {res : Res V S X} {v : V} (h : res.final?.bind Except.toOption = some v) :
    res = .done v := by
  cases res with
  | done w => cases h; rfl
  | failed e => cases h
  | interrupted cp i => cases h

/-- the reference loop (interrupts off) returns within `n` supersteps from `ls` -/
def finishesIn (ops : ValOps V) (r : IRunner V S X) (sched : ISched V S X) : Nat → LoopSt V S X → Prop
  | 0, _ => False
  | n + 1, ls =>
    match (stepI ops r.plain sched ls).2 with
    | .next ls' => finishesIn ops r sched n ls'
    | _ => True

/-- the history that starts with the call outcome `o` and is resumed (same id) up to `calls` more times -/
def histFrom (ops : ValOps V) (cfg : Cfg) (r : IRunner V S X) (sched : ISched V S X) (calls : Nat)
    (o : Out V S X) : List (Out V S X) :=
  o :: (match o.res with
        | .interrupted cp _ => resumeLoop ops cfg r sched calls (.inr cp)
        | _ => [])

theorem resumeLoop_succ (ops : ValOps V) (cfg : Cfg) (r : IRunner V S X) (sched : ISched V S X) (c : Nat)
    (inp : V ⊕ Checkpoint V S X) :
    resumeLoop ops cfg r sched (c + 1) inp = histFrom ops cfg r sched c (runI ops cfg r sched false true inp) := by
  simp only [resumeLoop, histFrom]
  split <;> simp_all

def allEvs (h : List (Out V S X)) : List (Ev V S X) := h.flatMap (·.evs)

theorem obsEvs_append (a b : List (Ev V S X)) : obsEvs (a ++ b) = obsEvs a ++ obsEvs b := by
  simp [obsEvs]

theorem obsEvs_intrEvs (isSub hasID : Bool) (info : Info S X) : obsEvs (intrEvs (V := V) isSub hasID info) = [] := by
  unfold intrEvs obsEvs; split <;> simp [Ev.isObs]

theorem allEvs_cons (o : Out V S X) (rest : List (Out V S X)) : allEvs (o :: rest) = o.evs ++ allEvs rest := by
  simp [allEvs]

/-- the history `h` shows what the single call `o₀` shows: the same final result, which is not an
    interrupt, and the same observable events -/
def ObsEq (h : List (Out V S X)) (o₀ : Out V S X) : Prop :=
  (Out.finalOf h).bind Res.final? = o₀.res.final? ∧ o₀.res.final? ≠ none ∧ obsEvs (allEvs h) = obsEvs o₀.evs

section hist
variable {ops : ValOps V} {cfg : Cfg} {r : IRunner V S X} {sched : ISched V S X}

theorem obsEq_final (calls : Nat) (o : Out V S X) (h : o.res.final? ≠ none) :
    ObsEq (histFrom ops cfg r sched calls o) o := by
  cases hr : o.res with
  | interrupted cp i => rw [hr] at h; exact absurd rfl h
  | done v => simp [ObsEq, histFrom, hr, Out.finalOf, allEvs, Res.final?]
  | failed e => simp [ObsEq, histFrom, hr, Out.finalOf, allEvs, Res.final?]

theorem obsEq_prepend {calls : Nat} {o o₀ : Out V S X} (h : ObsEq (histFrom ops cfg r sched calls o) o₀)
    (evs : List (Ev V S X)) :
    ObsEq (histFrom ops cfg r sched calls { res := o.res, evs := evs ++ o.evs })
      { res := o₀.res, evs := evs ++ o₀.evs } := by
  obtain ⟨h1, h2, h3⟩ := h
  simp only [ObsEq, histFrom, allEvs_cons, List.append_assoc, obsEvs_append] at h1 h3 ⊢
  refine ⟨?_, h2, by rw [h3]⟩
  rw [← h1]
  cases (match o.res with
        | .interrupted cp _ => resumeLoop ops cfg r sched calls (.inr cp)
        | _ => []) <;> rfl

theorem obsEq_resumed {c : Nat} {cp : Checkpoint V S X} {o₀ : Out V S X}
    (h : ObsEq (histFrom ops cfg r sched c (runI ops cfg r sched false true (.inr cp))) o₀)
    (info : Info S X) (evs : List (Ev V S X)) :
    ObsEq (histFrom ops cfg r sched (c + 1) { res := .interrupted cp info, evs := evs ++ intrEvs false true info })
      { res := o₀.res, evs := evs ++ o₀.evs } := by
  obtain ⟨h1, h2, h3⟩ := h
  simp only [ObsEq, histFrom, resumeLoop_succ, allEvs_cons, List.append_assoc, obsEvs_append, obsEvs_intrEvs,
    List.nil_append] at h1 h3 ⊢
  exact ⟨h1, h2, by rw [h3]⟩

end hist

theorem sim (ops : ValOps V) (cfg : Cfg) (r : IRunner V S X) (sched : ISched V S X) (Inv : Chans V → Prop)
    (hcfg : cfg.fwdStale = false) (hnd : (akeys (initChans r.base)).Nodup)
    (hq : QuietUnder ops r.base Inv) (hnsr : NoSR r) (hsub : SchedSub sched) :
    ∀ (n k k₀ calls : Nat) (ls : LoopSt V S X),
      finishesIn ops r sched n ls → n ≤ k → n ≤ k₀ → k ≤ r.base.fuel → n ≤ calls + 1 → ls.Fresh → ls.KeysOK r →
      Inv ls.cm →
      ObsEq (histFrom ops cfg r sched calls (loopI ops r sched false true k ls))
        (loopI ops r.plain sched false false k₀ ls) := by
  intro n
  induction n with
  | zero => intro k k₀ calls ls hfin; exact hfin.elim
  | succ m ih =>
    intro k k₀ calls ls hfin hk hk₀ hF hcalls hfresh hkeys hinv
    cases k with
    | zero => exact absurd hk (Nat.not_succ_le_zero m)
    | succ k' =>
    cases k₀ with
    | zero => exact absurd hk₀ (Nat.not_succ_le_zero m)
    | succ k₀' =>
    obtain ⟨hevs, hstep⟩ := stepI_sim ops r sched Inv hq hnsr hsub ls hfresh hkeys hinv
    simp only [finishesIn] at hfin
    cases hp : (stepI ops r.plain sched ls).2 with
    | done v =>
      rw [hp] at hstep
      rw [loopI_succ_done hstep, loopI_succ_done hp, hevs]
      exact obsEq_final calls _ nofun
    | fail e =>
      rw [hp] at hstep
      rw [loopI_succ_fail hstep, loopI_succ_fail hp, hevs]
      exact obsEq_final calls _ nofun
    | intr cp info => rw [hp] at hstep; exact hstep.elim
    | next ls' =>
      rw [hp] at hstep hfin
      obtain ⟨hf', hk', hinv', hcases⟩ := hstep
      rw [loopI_succ_next hp, ← hevs]
      rcases hcases with hnext | ⟨info, hintr⟩
      · -- the interrupted run goes on as well
        rw [loopI_succ_next hnext]
        exact obsEq_prepend (ih k' k₀' calls ls' hfin (Nat.le_of_succ_le_succ hk) (Nat.le_of_succ_le_succ hk₀)
          (Nat.le_of_succ_le hF) (Nat.le_of_succ_le hcalls) hf' hk' hinv') _
      · -- the interrupted run pauses here and is resumed from the checkpoint, which restores `ls'`
        cases calls with
        | zero =>
          -- `m = 0` is impossible: the reference goes on after this superstep
          cases m with
          | zero => exact hfin.elim
          | succ m' => exact absurd (Nat.le_of_succ_le_succ hcalls) (Nat.not_succ_le_zero m')
        | succ c =>
        rw [loopI_succ_intr hintr]
        refine obsEq_resumed ?_ info _
        simp only [runI, restore_toCP cfg r ls' hcfg hf' hk' hnd]
        exact ih r.base.fuel k₀' c ls' hfin (Nat.le_trans (Nat.le_of_succ_le hk) hF)
          (Nat.le_of_succ_le_succ hk₀) (Nat.le_refl _) (Nat.le_of_succ_le_succ hcalls) hf' hk' hinv'

/-- the reference run (interrupt sets empty) returns within `n` supersteps on input `x` -/
def run₀FinishesIn (ops : ValOps V) (r : IRunner V S X) (sched : ISched V S X) (n : Nat) (x : V) : Prop :=
  match calcNext ops r.base (initChans r.base) [(START, x)] with
  | .ok (cm, .tasks ts) => finishesIn ops r sched n { cm := cm, tasks := mkTasks [] ts, st := r.initState, stale := [] }
  | _ => True

theorem resume_equiv_top (ops : ValOps V) (cfg : Cfg) (r : IRunner V S X) (sched : ISched V S X) (Inv : Chans V → Prop)
    (hcfg : cfg.fwdStale = false) (hnd : (akeys (initChans r.base)).Nodup)
    (hq : QuietUnder ops r.base Inv) (hinit : Inv (initChans r.base)) (hnsr : NoSR r) (hsub : SchedSub sched)
    (n calls : Nat) (x : V) (hfin : run₀FinishesIn ops r sched n x) (hn : n ≤ r.base.fuel) (hc : n + 1 ≤ calls) :
    (Out.finalOf (resumeUntilDone ops cfg r sched calls x)).bind Res.final? = (run₀ ops cfg r sched x).res.final? ∧
    (run₀ ops cfg r sched x).res.final? ≠ none ∧
    obsEvs (allEvs (resumeUntilDone ops cfg r sched calls x)) = obsEvs (run₀ ops cfg r sched x).evs := by
  cases calls with
  | zero => exact absurd hc (Nat.not_succ_le_zero n)
  | succ c =>
  simp only [resumeUntilDone, resumeLoop_succ, run₀, runI]
  simp only [run₀FinishesIn] at hfin
  have hplainbase : r.plain.base = r.base := rfl
  have hplaininit : r.plain.initState = r.initState := rfl
  simp only [hplainbase, hplaininit]
  cases hcn : calcNext ops r.base (initChans r.base) [(START, x)] with
  | error e => exact obsEq_final c _ nofun
  | ok p =>
    obtain ⟨cm, nx⟩ := p
    cases nx with
    | result v => exact obsEq_final c _ nofun
    | tasks ts =>
      rw [hcn] at hfin
      simp only at hfin ⊢
      have hplainhit : hitKeys ts r.plain.intBefore = [] := hitKeys_nil_keys ts
      simp only [hplainhit, List.isEmpty_nil, Bool.not_true, Bool.and_false, Bool.false_eq_true, ite_false]
      have hf0 : (LoopSt.Fresh ({ cm := cm, tasks := mkTasks [] ts, st := r.initState, stale := [] } : LoopSt V S X)) :=
        ⟨rfl, mkTasks_fresh ts⟩
      have hk0 : (LoopSt.KeysOK r ({ cm := cm, tasks := mkTasks [] ts, st := r.initState, stale := [] } : LoopSt V S X)) :=
        calcNext_keys ops r.base _ _ _ _ hcn
      have hi0 : Inv cm := (hq _ _ _ _ hinit hcn).1
      split
      · -- the tasks computed from START hit the interrupt-before list: the first call is only an interrupt
        cases c with
        | zero =>
          cases n with
          | zero => exact hfin.elim
          | succ n' => exact absurd (Nat.le_of_succ_le_succ hc) (Nat.not_succ_le_zero n')
        | succ c' =>
        refine obsEq_resumed (cp := simpleCP cm ts r.initState) ?_ _ []
        simp only [runI, ← toCP_mkTasks cm [] ts r.initState, restore_toCP cfg r _ hcfg hf0 hk0 hnd]
        exact sim ops cfg r sched Inv hcfg hnd hq hnsr hsub n r.base.fuel r.base.fuel c' _ hfin hn hn
          (Nat.le_refl _) (Nat.le_of_succ_le_succ hc) hf0 hk0 hi0
      · exact sim ops cfg r sched Inv hcfg hnd hq hnsr hsub n r.base.fuel r.base.fuel c _ hfin hn hn
          (Nat.le_refl _) (Nat.le_of_succ_le hc) hf0 hk0 hi0

/-- no task of these supersteps was handed a nested checkpoint -/
def StepsFresh (steps : List (List (Key × Bool))) : Prop := ∀ ts ∈ steps, ∀ p ∈ ts, p.2 = false

theorem loopI_steps_fresh (ops : ValOps V) (r : IRunner V S X) (sched : ISched V S X) (isSub hasID : Bool) :
    ∀ (fuel : Nat) (ls : LoopSt V S X), ls.stale = [] →
      topSteps (loopI ops r sched isSub hasID fuel ls).evs = [] ∨
      ∃ rest, topSteps (loopI ops r sched isSub hasID fuel ls).evs = stepTasks r ls :: rest ∧ StepsFresh rest :=
  loopI_later_steps ops r sched isSub hasID (fun p => p.2 = false) (fun ls => ls.stale = [])
    fun ls ls' hst hnext => by
      obtain ⟨cm, ts, dones, st, _, rfl, _, _⟩ := finishStep_next ops r ls.stale _ ls' hnext
      refine ⟨hst, fun p hp => ?_⟩
      rw [stepTasks_eq, hst] at hp
      simp only [mkTasks, List.map_map, List.mem_map] at hp
      obtain ⟨q, _, rfl⟩ := hp
      rfl

theorem runI_steps_fresh (ops : ValOps V) (cfg : Cfg) (r : IRunner V S X) (sched : ISched V S X) (isSub hasID : Bool)
    (hcfg : cfg.fwdStale = false) :
    (∀ x, StepsFresh (topSteps (runI ops cfg r sched isSub hasID (.inl x)).evs)) ∧
    (∀ cp, StepsFresh (topSteps (runI ops cfg r sched isSub hasID (.inr cp)).evs).tail) := by
  constructor
  · intro x
    refine runI_fresh_cases ops cfg r sched isSub hasID x (P := fun o => StepsFresh (topSteps o.evs))
      (fun _ _ h => nomatch h) (fun _ _ h => nomatch h)
      (fun _ _ _ _ _ => by rw [topSteps_intrEvs]; exact fun _ h => nomatch h) ?_
    intro cm ts _ _
    refine (forall_mem_of_head_rest (loopI_steps_fresh ops r sched isSub hasID r.base.fuel
      { cm := cm, tasks := mkTasks [] ts, st := r.initState, stale := [] } rfl)).2 fun p hp => ?_
    rw [stepTasks_eq] at hp
    simp only [mkTasks, List.map_map, List.mem_map] at hp
    obtain ⟨q, _, rfl⟩ := hp
    rfl
  · exact fun cp => (forall_mem_of_head_rest (loopI_steps_fresh ops r sched isSub hasID r.base.fuel (restore cfg r cp)
      (by simp [restore, hcfg]))).1

theorem stepI_sr_shape (ops : ValOps V) (r : IRunner V S X) (sched : ISched V S X) (ls : LoopSt V S X)
    (cp : Checkpoint V S X) (info : Info S X) (h : (stepI ops r sched ls).2 = .intr cp info)
    (hsr : info.subs ≠ [] ∨ info.rerun ≠ []) :
    cp.subs = info.subs ∧ cp.skipPre = info.subs.map (·.1) ∧ cp.state = info.state ∧
    (∀ p ∈ cp.inputs, p.2 = ops.zero) ∧
    (∀ k ∈ cp.inputs.map (·.1), k ∈ info.rerun ∨ k ∈ info.subs.map (·.1)) := by
  rcases finishStep_intr ops r ls.stale _ cp info h with
    ⟨cm, restore, subs, reruns, dones, st, hc, rfl, rfl⟩ | ⟨_, _, _, _, _, _, _, _, _, _, rfl⟩
  · refine ⟨rfl, rfl, rfl, fun p hp => ?_, fun k hk => ?_⟩
    · obtain ⟨k, _, rfl⟩ := List.mem_map.1 hp; rfl
    · have : k ∈ restore := by simpa using hk
      exact coreOut_sr_listed ops r sched _ _ _ cm restore subs reruns dones st hc k this
  · simp at hsr

theorem restoreTasks_sr (zero : V) (inputs : List (Key × V)) (subs : List (Key × X))
    (hz : ∀ p ∈ inputs, p.2 = zero) :
    ∀ t ∈ restoreTasks inputs (subs.map (·.1)) subs,
      t.input = zero ∧ (t.skipPre = true ↔ t.key ∈ subs.map (·.1)) ∧ (t.sub.isSome ↔ t.key ∈ subs.map (·.1)) := by
  intro t ht
  simp only [restoreTasks, List.mem_map] at ht
  obtain ⟨p, hp, rfl⟩ := ht
  refine ⟨hz p hp, ?_, ?_⟩
  · simp
  · exact alookup_isSome_iff _ _

/-! ### executable versions of the "returns within n supersteps" hypotheses (for concrete examples) -/

def finishesInB (ops : ValOps V) (r : IRunner V S X) (sched : ISched V S X) : Nat → LoopSt V S X → Bool
  | 0, _ => false
  | n + 1, ls =>
    match (stepI ops r.plain sched ls).2 with
    | .next ls' => finishesInB ops r sched n ls'
    | _ => true

theorem finishesIn_of_B (ops : ValOps V) (r : IRunner V S X) (sched : ISched V S X) :
    ∀ (n : Nat) (ls : LoopSt V S X), finishesInB ops r sched n ls = true → finishesIn ops r sched n ls := by
  intro n
  induction n with
  | zero => intro ls h; simp [finishesInB] at h
  | succ m ih =>
    intro ls h
    simp only [finishesInB] at h
    simp only [finishesIn]
    split <;> simp_all

def run₀FinishesInB (ops : ValOps V) (r : IRunner V S X) (sched : ISched V S X) (n : Nat) (x : V) : Bool :=
  match calcNext ops r.base (initChans r.base) [(START, x)] with
  | .ok (cm, .tasks ts) => finishesInB ops r sched n { cm := cm, tasks := mkTasks [] ts, st := r.initState, stale := [] }
  | _ => true

theorem run₀FinishesIn_of_B (ops : ValOps V) (r : IRunner V S X) (sched : ISched V S X) (n : Nat) (x : V)
    (h : run₀FinishesInB ops r sched n x = true) : run₀FinishesIn ops r sched n x := by
  simp only [run₀FinishesInB] at h
  simp only [run₀FinishesIn]
  split
  · rename_i cm ts heq
    rw [heq] at h
    exact finishesIn_of_B ops r sched n _ h
  · trivial

end EinoV.Interrupt
