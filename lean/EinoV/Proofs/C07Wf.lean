/- Helper lemmas for the Workflow part of C07: the calls `Workflow.compile` replays (edges with
   noControl / noData, branches without data flow) are calls without field mappings, which keep the
   builder invariant (`runK_inv` of Proofs/C20Infer.lean), so what it hands out is a sound runner;
   and a DAG run of a sound runner never reaches a failing type assertion. -/
import EinoV.Model.C07Wf
import EinoV.Proofs.C07
import EinoV.Proofs.C20Infer
import EinoV.Proofs.C20Wf

namespace EinoV.Build

theorem branchEnds_errkind (im : Impl) (ord : Ord) (s : Key) : ∀ (es : List Key) (b : Builder) (k : ErrKind),
    branchEnds im ord s es b = .error k → k = .edgeMismatch ∨ k = .branchUnknownEnd := by
  intro es
  induction es with
  | nil => intro b k h; simp [branchEnds] at h
  | cons e es ih =>
    intro b k h
    simp only [branchEnds] at h
    split at h
    · simp only [Except.error.injEq] at h; exact Or.inr h.symm
    · split at h
      · rename_i k' hu
        simp only [Except.error.injEq] at h
        subst h
        exact Or.inl (update_errkind im ord _ _ hu)
      · exact ih _ k h

theorem branchTail_errkind {f : Facts} {im : Impl} {ord : Ord} {b1 : Builder} {s : Key} {t : Ty} {ends : List Key}
    {skip flag : Bool} {k : ErrKind} (h : branchTail f im ord b1 s t ends skip flag = .error k) :
    k = .edgeMismatch ∨ k = .branchUnknownEnd := by
  unfold branchTail at h
  simp only at h
  split at h
  · rename_i k' hk
    cases h
    split at hk
    · exact Or.inl (update_errkind im ord _ _ hk)
    · cases hk
  · split at h
    · rename_i k' hk
      cases h
      split at hk
      · cases hk
      · exact branchEnds_errkind im ord s _ _ _ hk
    · cases h

/-- `addBranch` answers "condition input type and start node output type are mismatched"
    exactly when its three earlier checks pass and `checkAssignable` says must-not – for a
    branch that hands its input on (Graph, Chain) and for one that does not (Workflow) alike -/
theorem addBranchBody_mismatch_iff (f : Facts) (im : Impl) (ord : Ord) (b : Builder) (s : Key) (t : Ty)
    (ends : List Key) (skip : Bool) :
    addBranchBody f im ord b s t ends skip = .error .branchMismatch ↔
      (s ≠ END ∧ ¬ (!b.hasNode s && s != START) = true ∧ ends.length ≠ 1 ∧
        checkAssignable im ((branchStartTyped f b s t).nodeOut s) (some t) = .mustNot) := by
  rw [addBranchBody_eq]
  by_cases h1 : s = END
  · simp [h1]
  by_cases h2 : (!b.hasNode s && s != START) = true
  · simp [h1, h2]
  by_cases h3 : ends.length = 1
  · simp [h1, h2, h3]
  rw [if_neg h1, if_neg h2, if_neg h3]
  constructor
  · intro h
    refine ⟨h1, h2, h3, ?_⟩
    split at h
    · assumption
    · rcases branchTail_errkind h with e | e <;> cases e
  · rintro ⟨-, -, -, h4⟩
    rw [h4]

/-- `addBranch(s, branch, skipData = true)`: the condition is validated against the start
    node's type like that of a Graph branch; no end node is connected -/
theorem addBranch_skip_inv (f : Facts) (hg : f.branchGuarded = true) (hpr : f.branchPropagates = true)
    (im : Impl) (ord : Ord) (hv : ord.Valid) (b : Builder) (s : Key) (t : Ty) (ends : List Key)
    (h : Inv im b) : Inv im (addBranch f im ord b s t ends true).1 :=
  addBranch_inv_any f hg hpr im ord hv b s t ends true h

end EinoV.Build

namespace EinoV.C07
open EinoV.Build

theorem plainOps_wf (ns : List WfNode) : ∀ op ∈ plainOps ns, op.isWfApi = true := by
  induction ns with
  | nil => intro op h; simp [plainOps] at h
  | cons n ns ih =>
    intro op h
    simp only [plainOps, List.mem_cons] at h
    rcases h with rfl | h
    · cases n.body <;> rfl
    · exact ih op h

theorem branchOps_wf (d : WfDecl) : ∀ op ∈ d.branchOps, op.isWfApi = true := by
  intro op h
  simp only [WfDecl.branchOps, List.mem_map] at h
  obtain ⟨br, _, rfl⟩ := h
  rfl

theorem inOp_wf (dst : Key) (i : WfIn) (h : i.mapped.isNone = true) : (WfIn.op dst i).isWfApi = true := by
  simp only [Option.isNone_iff_eq_none] at h
  simp [WfIn.op, Op.isWfApi, h]

theorem inputOps_wf (d : WfDecl) (hu : d.unmapped = true) : ∀ op ∈ d.inputOps, op.isWfApi = true := by
  intro op h
  simp only [WfDecl.unmapped, Bool.and_eq_true, List.all_eq_true] at hu
  simp only [WfDecl.inputOps, List.mem_append, List.mem_flatMap, List.mem_map] at h
  rcases h with ⟨n, hn, i, hi, rfl⟩ | ⟨i, hi, rfl⟩
  · exact inOp_wf _ i (hu.1 n hn i hi)
  · exact inOp_wf _ i (hu.2 i hi)

theorem wfBuilt_inv (E : Env) (hg : E.f.branchGuarded = true) (hpr : E.f.branchPropagates = true)
    (hv : E.ord.Valid) (d : WfDecl) (hu : d.unmapped = true) : Inv E.im (wfBuilt E d) := by
  unfold wfBuilt
  apply runK_inv E hg hpr hv
  · intro op h
    rcases List.mem_append.mp h with h | h
    · exact branchOps_wf d op h
    · exact inputOps_wf d hu op h
  · apply runK_inv E hg hpr hv _ _ (plainOps_wf d.nodes)
    exact Inv.new E.im .workflow d.inT d.outT d.stateTy

theorem wfCompile_sound (E : Env) (hg : E.f.branchGuarded = true) (hpr : E.f.branchPropagates = true)
    (hv : E.ord.Valid) (ec : Bool) (d : WfDecl) (hu : d.unmapped = true) (co : COpts) (w : WRunner)
    (h : (wfCompile E ec d co).2 = some w) : SoundRunner E.im w.r := by
  unfold wfCompile at h
  simp only at h
  split at h
  · cases h
  · split at h
    · cases h
    · obtain ⟨x, hx, rfl⟩ := Option.map_eq_some_iff.mp h
      obtain ⟨hpre, rfl⟩ := compile_runner hx
      exact mkRunner_sound E.im E.f _ co (wfBuilt_inv E hg hpr hv d hu) hpre

/-- a value on its way into `t` fits `t`'s declared input type – or it is a stream that already
    carries an error item (whoever reads it gets an ordinary error) -/
def GoodV (im : Impl) (r : Runner) (t : Key) (v : Val) : Prop := v.bad = true ∨ Inhab im v.d (r.inOf t)

/-- a value leaving `k` fits `k`'s declared output type (or is such a stream) -/
def OutV (im : Impl) (r : Runner) (k : Key) (v : Val) : Prop := v.bad = true ∨ Inhab im v.d (r.outOf k)

/-- the invariant of the workflow run loop, the counterpart of `Good` of `Proofs/C07.lean`: what sits in
    a node's channel (`vals`) and what a submitted task was handed (`queue`) is `GoodV` for that node -/
structure GoodSt (im : Impl) (w : WRunner) (st : WSt) : Prop where
  vals : ∀ t p, p ∈ st.vals t → GoodV im w.r t p.2
  queue : ∀ q ∈ st.queue, GoodV im w.r q.1 q.2

theorem deliver_good {mode : Mode} {im : Impl} {w : WRunner} {k t : Key} {v : Val} {st st' : WSt}
    (ht : ImplTrans im) (hs : SoundConn im w.r k t) (hv : OutV im w.r k v) (hg : GoodSt im w st)
    (h : deliver mode im w k v t st = .ok st') : GoodSt im w st' := by
  unfold deliver at h
  simp only at h
  split at h
  · cases h
  split at h <;> cases h
  · exact hg
  refine ⟨fun t' p hp => ?_, hg.queue⟩
  simp only [upd] at hp
  split at hp
  · rename_i ht'
    subst ht'
    rcases List.mem_append.mp hp with hp | hp
    · exact hg.vals _ p (List.mem_filter.mp hp).1
    · -- the value just written: it fits, or the edge's check has marked it
      cases List.mem_singleton.mp hp
      rcases hv with hb | hi
      · exact Or.inl (by simp [hb])
      · rcases convert_cases im w.r k t' v.d with hc | hc
        · exact Or.inr ((conn_good ht hs hi).2 hc)
        · exact Or.inl (by simp [hc])
  · exact hg.vals _ p hp

/-- the only error of `deliver` is the one of the edge's check -/
theorem deliver_ne_panic (mode : Mode) (im : Impl) (w : WRunner) (k : Key) (v : Val) (t : Key) (st : WSt) :
    deliver mode im w k v t st ≠ .error .panic := by
  unfold deliver
  simp only
  split
  · nofun
  · split <;> nofun

theorem deliverAll_good {mode : Mode} {im : Impl} {w : WRunner} {k : Key} {v : Val} (ht : ImplTrans im)
    (hv : OutV im w.r k v) : ∀ (ts : List Key) (st : WSt), (∀ t ∈ ts, SoundConn im w.r k t) → GoodSt im w st →
      deliverAll mode im w k v ts st ≠ .error .panic ∧
      ∀ st', deliverAll mode im w k v ts st = .ok st' → GoodSt im w st' := by
  intro ts
  induction ts with
  | nil => exact fun st _ hg => ⟨by simp [deliverAll], fun st' h => by cases h; exact hg⟩
  | cons t ts ih =>
    intro st hs hg
    simp only [deliverAll]
    cases h1 : deliver mode im w k v t st with
    | error e => exact ⟨fun h => deliver_ne_panic mode im w k v t st (h1.trans h), by simp⟩
    | ok st1 =>
      exact ih st1 (fun x hx => hs x (List.mem_cons_of_mem _ hx)) (deliver_good ht (hs t List.mem_cons_self) hv hg h1)

theorem brEvent_ok {im : Impl} (ht : ImplTrans im) {r : Runner} (hr : SoundRunner im r) (c : Code) (k : Key)
    (v : Val) (hv : OutV im r k v) (p : Nat × BranchRec × Bool) (hp : p ∈ r.branchTable) (hk : p.2.1.src = k) :
    brEvent im c k v p ≠ .panic ∧ (brEvent im c k v p = .pass → c.pick k p.1 v.d ∈ p.2.1.ends) := by
  unfold brEvent
  rcases hv with hb | hi
  · simp [hb]
  · cases v.bad
    · exact brEv_ok ht hr c hi hp hk rfl
    · simp

theorem targets_eq (im : Impl) (w : WRunner) (c : Code) (k : Key) (v : Val) :
    targets w c k v = (emit im w.r c k v.d).2.map (·.dst) := by
  simp [targets, emit, List.map_filterMap, Function.comp_def, apply_ite (Option.map _)]

theorem complete_good {mode : Mode} {im : Impl} {w : WRunner} (ht : ImplTrans im) (hr : SoundRunner im w.r)
    (c : Code) (k : Key) (v : Val) (hv : OutV im w.r k v) (st : WSt) (hg : GoodSt im w st) :
    complete mode im w c k v st ≠ .error .panic ∧
    (∀ st', complete mode im w c k v st = .ok st' → GoodSt im w st') := by
  have hev := fun p (hp : p ∈ w.r.branchTable.filter (fun p => p.2.1.src = k)) =>
    brEvent_ok ht hr c k v hv p (List.mem_filter.mp hp).1 (by simpa using (List.mem_filter.mp hp).2)
  unfold complete
  simp only
  split
  · rename_i hw
    obtain ⟨p, hp, hpe⟩ := List.mem_map.mp ((worst_spec _).2.mp hw)
    exact absurd hpe (hev p hp).1
  · simp
  · simp
  · -- every condition let the value pass, so the value goes over validated connections only
    rename_i hw
    have hts : ∀ t ∈ targets w c k v, SoundConn im w.r k t := by
      intro t ht
      rw [targets_eq im] at ht
      obtain ⟨dl, hdl, rfl⟩ := List.mem_map.mp ht
      refine (emit_conn hr c k v.d (fun p hp hk => ?_) dl hdl).2.2
      have hm : p ∈ w.r.branchTable.filter (fun p => p.2.1.src = k) := List.mem_filter.mpr ⟨hp, decide_eq_true hk⟩
      exact (hev p hm).2 ((worst_spec _).1.mp hw _ (List.mem_map_of_mem hm))
    split
    · simp
    · rename_i cs1 _
      have hd := deliverAll_good (mode := mode) ht hv _ { st with cs := cs1 } hts ⟨hg.vals, hg.queue⟩
      split
      · rename_i e he
        exact ⟨fun h => hd.1 (he.trans h), by simp⟩
      · rename_i st2 h2
        refine ⟨by simp, fun st' h => ?_⟩
        cases h
        exact ⟨(hd.2 st2 h2).vals, (hd.2 st2 h2).queue⟩

theorem getVal_good {im : Impl} {w : WRunner} {t : Key} {vs : List (Key × Val)} {v : Val}
    (hg : ∀ p ∈ vs, GoodV im w.r t p.2) (h : getVal w t vs = .val v) : GoodV im w.r t v := by
  unfold getVal at h
  split at h
  · -- no value: the zero value of a concrete input type
    split at h <;> cases h
    rename_i c hin
    exact Or.inr fun T hT => by cases hin.symm.trans hT; simp [dynOk]
  · cases h
    exact hg _ List.mem_cons_self
  · cases h

theorem enqueue_good {im : Impl} {w : WRunner} : ∀ (ks : List Key) (st : WSt), GoodSt im w st →
    enqueue w ks st ≠ .error .panic ∧ ∀ st', enqueue w ks st = .ok st' → GoodSt im w st' := by
  intro ks
  induction ks with
  | nil => exact fun st hg => ⟨by simp [enqueue], fun st' h => by cases h; exact hg⟩
  | cons k ks ih =>
    intro st hg
    simp only [enqueue]
    split
    · simp
    · simp
    · rename_i v hv
      refine ih _ ⟨fun t p hp => ?_, fun q hq => ?_⟩
      · simp only [upd] at hp
        split at hp
        · cases hp
        · exact hg.vals t p hp
      · rcases List.mem_append.mp hq with hq | hq
        · exact hg.queue q hq
        · cases List.mem_singleton.mp hq
          exact getVal_good (hg.vals k) hv

theorem scan_good {im : Impl} {w : WRunner} {st : WSt} (hg : GoodSt im w st) :
    scan im w st ≠ .inl .panic ∧ (∀ st', scan im w st = .inr st' → GoodSt im w st') := by
  have he := enqueue_good (w.keys.filter fun k => (st.cs k).ready) st hg
  unfold scan
  simp only
  split
  · simp
  split
  · split
    · simp
    · simp
    · rename_i v hv
      split
      · simp
      · rename_i hb
        simp [assertIn_pass ((getVal_good (hg.vals END) hv).resolve_left hb)]
  · split
    · rename_i e h
      exact ⟨fun h' => he.1 (h.trans (by cases h'; rfl)), by simp⟩
    · rename_i st1 h1
      exact ⟨by simp, fun st' h => by cases h; exact he.2 _ h1⟩

theorem runNode_good {im : Impl} {w : WRunner} (hr : SoundRunner im w.r) {c : Code} (hc : CodeOk im w.r c)
    (k : Key) (v : Val) (hv : GoodV im w.r k v) :
    runNode im w c k v ≠ .error .panic ∧ (∀ out, runNode im w c k v = .ok out → OutV im w.r k out) := by
  unfold runNode
  split
  · rename_i hpt
    refine ⟨by simp, fun out h => ?_⟩
    cases h
    exact hv.imp_right fun h => pt_out_eq_in hr k hpt ▸ h
  · rename_i hpt
    split
    · exact ⟨by simp, by simp⟩
    · rename_i hb
      simp only [assertIn_pass (hv.resolve_left hb)]
      refine ⟨by simp, fun out h => ?_⟩
      cases h
      simp only [Bool.or_eq_true, decide_eq_true_eq, not_or] at hpt
      exact Or.inr (hc k v.d (by simpa using hpt.1.1) hpt.1.2 hpt.2)

theorem wfLoop_no_panic {mode : Mode} {im : Impl} {w : WRunner} (ht : ImplTrans im) (hr : SoundRunner im w.r)
    {c : Code} (hc : CodeOk im w.r c) : ∀ (fuel : Nat) (zm : Bool) (st : WSt), GoodSt im w st →
      (wfLoop mode im w c fuel zm st).1 ≠ .panic := by
  intro fuel
  induction fuel with
  | zero => intro zm st _; simp [wfLoop]
  | succ n ih =>
    intro zm st hg
    simp only [wfLoop]
    split
    · simp
    · -- each stage ends the run without `panic` or hands a good value / state to the next
      rename_i k v q hq
      have hgq : ∀ x ∈ (k, v) :: q, GoodV im w.r x.1 x.2 := fun x hx => hg.queue x (hq.symm ▸ hx)
      have hrn := runNode_good hr hc k v (hgq _ List.mem_cons_self)
      rcases h1 : runNode im w c k v with e | out
      · exact fun h => hrn.1 (h1.trans (congrArg _ h))
      have hcp := complete_good (mode := mode) ht hr c k out (hrn.2 out h1)
        { st with queue := q, par := st.par || !q.isEmpty } ⟨hg.vals, fun x hx => hgq x (List.mem_cons_of_mem _ hx)⟩
      simp only
      rcases h2 : complete mode im w c k out _ with e | st2
      · exact fun h => hcp.1 (h2.trans (congrArg _ h))
      have hsc := scan_good (hcp.2 st2 h2)
      simp only
      rcases h3 : scan im w st2 with res | st3
      · exact fun h => hsc.1 (h3.trans (congrArg _ h))
      · exact ih _ st3 (hsc.2 st3 h3)

theorem wfRun_no_panic {mode : Mode} {im : Impl} {w : WRunner} (ht : ImplTrans im) (hr : SoundRunner im w.r)
    {c : Code} (hc : CodeOk im w.r c) (fuel : Nat) (d0 : Dyn) (hd : dynOk im d0 w.r.inT = true) :
    (wfRun mode im w c fuel d0).1 ≠ .panic := by
  have hcp := complete_good (mode := mode) ht hr c START ⟨d0, false⟩ (Or.inr (inhab_start hd))
    { cs := initCh w, vals := fun _ => [], queue := [], par := false } ⟨by simp, by simp⟩
  unfold wfRun
  simp only
  rcases h1 : complete mode im w c START _ _ with e | st1
  · exact fun h => hcp.1 (h1.trans (congrArg _ h))
  have hsc := scan_good (hcp.2 st1 h1)
  simp only
  rcases h2 : scan im w st1 with res | st2
  · exact fun h => hsc.1 (h2.trans (congrArg _ h))
  · exact wfLoop_no_panic ht hr hc fuel _ st2 (hsc.2 st2 h2)

theorem build_plain (E : Env) : ∀ (ns : List WfNode) (b : Builder), ns.all WfNode.isPlain = true →
    DOps.build E (wfNodeOps ns) b = (runK E b (plainOps ns), []) := by
  intro ns
  induction ns with
  | nil => intro b _; simp [wfNodeOps, DOps.build, plainOps, runK]
  | cons n ns ih =>
    intro b h
    simp only [List.all_cons, Bool.and_eq_true] at h
    obtain ⟨hn, hns⟩ := h
    unfold WfNode.isPlain at hn
    unfold wfNodeOps plainOps
    split at hn
    · rename_i pt i o hb
      simp only [hb, DOps.build, runK]
      exact ih _ hns
    · simp at hn

theorem compileN_nil (f : Facts) (ord : Ord) (b : Builder) (o : COpts) : compileN f ord b o [] = compile f ord b o :=
  EinoV.Build.compileN_nil f ord b o

end EinoV.C07
