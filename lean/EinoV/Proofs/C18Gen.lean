/-
  C18 — the regenerated source facts (EinoV/Gen/FactsC18.lean, core types only) decoded into
  the model's parameter record, and the concrete scripts used as witnesses in Props/C18.lean.
-/
import EinoV.Model.C18Shared
import EinoV.Gen.FactsC18

namespace EinoV.C18
open EinoV.Gen

def genFacts : Option Facts :=
  Facts.decode FactsC18.checkerRules FactsC18.checkerAtEOF
    FactsC18.topoPlainNodes FactsC18.topoPlainEdges FactsC18.topoPlainBranches
    FactsC18.topoRDNodes FactsC18.topoRDEdges FactsC18.topoRDBranches
    FactsC18.maxStepPassed FactsC18.maxStepExported FactsC18.defaultSlack FactsC18.modelPreAppends FactsC18.toolsPreAppends

/-- the source facts about the memory of the message history (Model/C18Shared.lean) -/
def genMemFacts : MemFacts :=
  { historyOnlyAppended := FactsC18.historyOnlyAppended, stateFreshPerRun := FactsC18.stateFreshPerRun }

/-- one echo tool `t` -/
def wTools : String → Option (String → Except Nat String) :=
  fun n => if n == "t" then some (fun a => .ok ("t(" ++ a ++ ")")) else none

def wCfg (rd : List String) (maxStep : Int) : Config :=
  { tools := wTools, returnDirectly := rd, maxStep := maxStep, modifier := id, checker := none }

def wOrig : List Msg := [⟨.user, "hi", [], ""⟩]

/-- content chunk first, the tool call in the second chunk -/
def wLate : Reply := ⟨[⟨"thinking", [], []⟩, ⟨"", [⟨"c1", "t", "x", none⟩], []⟩]⟩
def wDone : Reply := ⟨[⟨"done", [], []⟩]⟩

/-- a head chunk that carries nothing but provider metadata (`Extra`), then the tool call -/
def wMetaHead : Reply := ⟨[⟨"", [], ["extra:request_id"]⟩, ⟨"", [⟨"c1", "t", "x", none⟩], []⟩]⟩

/-- two parallel calls of `t` streamed as deltas, one delta per call in every chunk: heads (id,
    name), then the arguments in two fragments each -/
def wInterleaved : Reply := ⟨[
  ⟨"", [⟨"c0", "t", "", some 0⟩, ⟨"c1", "t", "", some 1⟩], []⟩,
  ⟨"", [⟨"", "", "{\"a\":", some 0⟩, ⟨"", "", "{\"b\":", some 1⟩], []⟩,
  ⟨"", [⟨"", "", "1}", some 0⟩, ⟨"", "", "2}", some 1⟩], []⟩]⟩

/-- the same deltas, those of each call back to back -/
def wContiguous : Reply := ⟨[
  ⟨"", [⟨"c0", "t", "", some 0⟩, ⟨"", "", "{\"a\":", some 0⟩], []⟩,
  ⟨"", [⟨"", "", "1}", some 0⟩, ⟨"c1", "t", "", some 1⟩], []⟩,
  ⟨"", [⟨"", "", "{\"b\":", some 1⟩, ⟨"", "", "2}", some 1⟩], []⟩]⟩

/-- `wCfg` with an unknown-tools handler that names the tool it was asked for -/
def wCfgU (rd : List String) (maxStep : Int) : Config :=
  { wCfg rd maxStep with unknown := some (fun n a => .ok ("no tool " ++ n ++ "(" ++ a ++ ")")) }

/-- the model misspells `t` in its first call and calls the real `t` in the same message -/
def wMisspelt : Reply := ⟨[⟨"", [⟨"c1", "tt", "a", none⟩, ⟨"c2", "t", "b", none⟩], []⟩]⟩

/-- two runs for the shared-slice witnesses: each calls `t` once (with its own argument and call
    id) and then answers -/
def wRunA : RunSpec :=
  { cfg := wCfg [] 0, mode := .generate,
    script := [⟨[⟨"for A", [⟨"cA", "t", "a", none⟩], []⟩]⟩, ⟨[⟨"answer A", [], []⟩]⟩] }
def wRunB : RunSpec :=
  { cfg := wCfg [] 0, mode := .stream,
    script := [⟨[⟨"for B", [⟨"cB", "t", "b", none⟩], []⟩]⟩, ⟨[⟨"answer B", [], []⟩]⟩] }

/-- two spare cells behind the caller's one message (whatever the caller keeps there) -/
def wSpare : List Msg := [⟨.user, "spare-0", [], ""⟩, ⟨.user, "spare-1", [], ""⟩]

end EinoV.C18
