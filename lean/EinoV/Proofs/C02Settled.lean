/-
  C02, run level: when a run returns a value, every control ancestor of END is settled — it has completed
  or it is skipped (`run_ancestors_settled`; `runEager_ancestors_settled` for the Workflow loop).
-/
import EinoV.Proofs.C02Just
import EinoV.Proofs.C02Complete
import EinoV.Proofs.C02Eager

namespace EinoV.Engine
namespace DagRun

theorem hist_justified {V} (ops : ValOps V) (r : Runner V) (x : V) (T : Trace V) (hj : JustTr ops r x T)
    (n : Key) (o : V) (hn : n ≠ START) (h : (n, o) ∈ histOf r x T) :
    ∃ v H', Justified ops r H' n v ∧ ∀ d, d ∈ H' → d ∈ histOf r x T := by
  rcases (histOf_mem r x T (n, o)).mp h with e | ⟨t, ht, ho⟩
  · exact absurd (Prod.mk.inj e).1 hn
  · have hk : n = t.1 := outOf_key r t (n, o) ho
    exact ⟨t.2, _, hk ▸ justTr_all ops r x T hj t.1 t.2 ht, fun _ hd => hd⟩

theorem settled_of_justified {V} (ops : ValOps V) (r : Runner V) (H' H : List (Done V)) (n : Key) (v : V)
    (hj : Justified ops r H' n v) (hsub : ∀ d, d ∈ H' → d ∈ H) (p : Key) (hp : p ∈ lookupList n r.ctrlPreds) :
    Settled r H p := by
  rcases hj.1 p hp with ⟨o, ho, _⟩ | hs | ⟨o, ho, _⟩
  · exact Or.inl ⟨o, hsub _ ho⟩
  · exact Or.inr (hs.mono hsub)
  · exact Or.inl ⟨o, hsub _ ho⟩

theorem ancestors_settled {V} (ops : ValOps V) (r : Runner V) (x : V) (T : Trace V) (hj : JustTr ops r x T)
    (hs : lookupList START r.ctrlPreds = []) (v : V) (he : Justified ops r (histOf r x T) END v)
    (p : Key) (ha : AncEnd r p) : Settled r (histOf r x T) p := by
  induction ha with
  | base p h => exact settled_of_justified ops r _ _ END v he (fun _ hd => hd) p h
  | step p n _ h ih =>
    rcases ih with ⟨o, ho⟩ | hsk
    · by_cases hn : n = START
      · subst hn; rw [hs] at h; simp at h
      · obtain ⟨v', H', hj', hsub⟩ := hist_justified ops r x T hj n o hn ho
        exact settled_of_justified ops r H' _ n v' hj' hsub p h
    · cases hsk with
      | intro _ hall =>
        by_cases hd : ∃ o, (p, o) ∈ histOf r x T ∧ Deselects r p o n
        · obtain ⟨o, ho, _⟩ := hd
          exact Or.inl ⟨o, ho⟩
        · exact Or.inr (hall p h hd)

theorem run_ancestors_settled {V} (ops : ValOps V) (r : Runner V) (wf : DagWF r)
    (hs : lookupList START r.ctrlPreds = []) (sched : Sched V) (hf : sched.Fair) (x v : V)
    (hres : (runS ops r sched x).result = .ok v) (p : Key) (ha : AncEnd r p) :
    Settled r (histOf r x (runS ops r sched x).trace.reverse) p := by
  obtain ⟨j1, j2⟩ := run_justified ops r wf sched hf x
  exact ancestors_settled ops r x _ j1 hs v (j2 v hres) p ha

theorem runEager_ancestors_settled {V} (ops : ValOps V) (r : Runner V) (wf : DagWF r)
    (hs : lookupList START r.ctrlPreds = []) (pick : Pick V) (x v : V)
    (hres : (runEager ops r pick x).result = .ok v) (p : Key) (ha : AncEnd r p) :
    Settled r (histOf r x (runEager ops r pick x).batches.reverse) p := by
  obtain ⟨j1, j2⟩ := runEager_justified ops r wf pick x
  exact ancestors_settled ops r x _ j1 hs v (j2 v hres) p ha

end DagRun
end EinoV.Engine
