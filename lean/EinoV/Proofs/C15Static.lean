/-
  C15 — helper lemmas for the pre-node handler chain and static values.
-/
import EinoV.Model.C15

namespace EinoV.C15

theorem chain_agree_along {V E : Type} (concat : List V → V) :
    ∀ (hs : List (HandlerPair V E)) (cs : List V), CommutesAlong concat hs cs →
      (chainStream true hs cs).map concat = chainValue true hs (concat cs)
  | [], cs, _ => by simp [chainStream, chainValue, Except.map]
  | h :: rest, cs, hc => by
    obtain ⟨h1, h2⟩ := hc
    unfold chainStream chainValue
    rw [← h1]
    cases ht : h.transform cs with
    | error e => rfl
    | ok cs' => exact chain_agree_along concat rest cs' (h2 cs' ht)

theorem commutesAlong_of_commutes {V E : Type} (concat : List V → V) :
    ∀ (hs : List (HandlerPair V E)), (∀ h ∈ hs, Commutes concat h) → ∀ cs, CommutesAlong concat hs cs
  | [], _, _ => trivial
  | h :: rest, hc, cs =>
    ⟨hc h (by simp) cs, fun cs' _ =>
      commutesAlong_of_commutes concat rest (fun h' hh => hc h' (by simp [hh])) cs'⟩

def keyFree (l : List (Path × Taken)) (p : Path) : Prop := ∀ x ∈ l, x.1 ≠ p

theorem insEntry_fresh (p : Path) (t : Taken) (l : List (Path × Taken)) (h : keyFree l p) :
    insEntry p t l = l ++ [(p, t)] := by
  induction l with
  | nil => rfl
  | cons x r ih =>
    obtain ⟨q, u⟩ := x
    have hq : q ≠ p := h (q, u) (by simp)
    simp only [insEntry, hq, if_false, List.cons_append]
    rw [ih (fun y hy => h y (by simp [hy]))]

theorem mergeEntries_fresh (st l : List (Path × Taken))
    (hnew : ∀ y ∈ st, keyFree l y.1) (hnd : st.Pairwise (fun a b => a.1 ≠ b.1)) :
    mergeEntries l st = l ++ st := by
  unfold mergeEntries
  induction st generalizing l with
  | nil => simp
  | cons y rest ih =>
    simp only [List.foldl_cons]
    rw [insEntry_fresh y.1 y.2 l (hnew y (by simp))]
    have hnd' := List.pairwise_cons.mp hnd
    rw [ih (l ++ [(y.1, y.2)]) ?_ hnd'.2]
    · simp
    · intro z hz x hx
      rcases List.mem_append.mp hx with hx | hx
      · exact hnew z (by simp [hz]) x hx
      · simp only [List.mem_singleton] at hx
        subst hx
        exact hnd'.1 z hz

theorem concatIn_append_one (cs : List NodeIn) (c : NodeIn) :
    concatIn (cs ++ [c]) = NodeIn.merge (concatIn cs) c := by
  simp [concatIn, List.foldl_append]

theorem concatIn_entries (ls : List (List (Path × Taken))) :
    ∃ l, concatIn (ls.map NodeIn.entries) = .entries l := by
  unfold concatIn
  suffices h : ∀ a, ∃ l, (ls.map NodeIn.entries).foldl NodeIn.merge (.entries a) = .entries l from h []
  induction ls with
  | nil => intro a; exact ⟨a, rfl⟩
  | cons x rest ih =>
    intro a
    simp only [List.map_cons, List.foldl_cons, NodeIn.merge]
    exact ih _

theorem all_isEntries_map (ls : List (List (Path × Taken))) :
    (ls.map NodeIn.entries).all NodeIn.isEntries = true := by
  induction ls with
  | nil => rfl
  | cons l rest ih => simp [NodeIn.isEntries]

theorem dupKey_eq_false {a b : List (Path × Taken)} : dupKey a b = false ↔ ∀ x ∈ a, ∀ y ∈ b, x.1 ≠ y.1 := by
  simp only [dupKey, List.any_eq_false, List.any_eq_true, beq_iff_eq, not_exists, not_and, ne_eq]

theorem keyFree_of_dupKey_false (l st : List (Path × Taken)) (hd : dupKey l st = false) :
    ∀ y ∈ st, keyFree l y.1 :=
  fun y hy x hx => dupKey_eq_false.mp hd x hx y hy

theorem dupKey_false_of_noOverlap (lm ls : List (Path × Taken))
    (hno : noOverlap ((lm ++ ls).map (·.1))) : dupKey lm ls = false :=
  -- equal keys are prefix-related, and no entry of `lm` is related to one of `ls`
  dupKey_eq_false.mpr fun x hx y hy heq =>
    (List.pairwise_append.mp (List.pairwise_map.mp hno)).2.2 x hx y hy (.inl (heq ▸ List.prefix_refl _))

/-- the value twin of the pre-node chain `[merge static values, convertTo]`, in one step -/
theorem assembleStatic_eq (f : ChainFacts) (hf : f.valueAppliesAll = true) (T : FTy) (st mapped : List (Path × Taken)) :
    assembleStatic f T st mapped =
      if dupKey mapped st then .error .request else convertIn T (.entries (mapped ++ st)) := by
  have hconv : ∀ x, chainValue true [converterHandler T] x = convertIn T x := fun x => by
    simp only [chainValue, converterHandler]; cases convertIn T x <;> rfl
  unfold assembleStatic nodeHandlers
  rw [hf]
  cases st with
  | nil => simp [hconv, dupKey]
  | cons s rest =>
    rw [List.isEmpty_cons, if_neg Bool.false_ne_true, chainValue]
    simp only [staticHandler]
    cases dupKey mapped (s :: rest) <;> simp [hconv]

end EinoV.C15
