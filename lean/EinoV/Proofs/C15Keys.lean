/-
  C15 — "everything else zero-valued" for maps: an assignment creates no map key other than the
  ones on its own target path; a fresh instance has no keys at all.
-/
import EinoV.Model.C15
import EinoV.Proofs.C15

namespace EinoV.C15

theorem FKVs.mem_keys_iff : ∀ (kvs : FKVs) (k : String),
    k ∈ kvs.toList.map (·.1) ↔ (kvs.lookup k).isSome
  | .nil, k => by simp [FKVs.toList, FKVs.lookup]
  | .cons k0 w r, k => by
    simp only [FKVs.toList, FKVs.lookup, List.map_cons, List.mem_cons, FKVs.mem_keys_iff r k]
    split <;> simp [*]

theorem FKVs.mem_keys_ins (kvs : FKVs) (s : String) (v : FVal) (k : String)
    (h : k ∈ (kvs.ins s v).toList.map (·.1)) : k = s ∨ k ∈ kvs.toList.map (·.1) := by
  by_cases hk : k = s
  · exact Or.inl hk
  · rw [FKVs.mem_keys_iff, FKVs.lookup_ins_other kvs v hk] at h
    exact Or.inr ((FKVs.mem_keys_iff kvs k).mpr h)

theorem mapOf_put (t : FTy) (d : FVal) (s : Seg) (v : FVal) :
    mapOf t (put t d s v) = (mapOf t d).map fun ek => (ek.1, ek.2.ins s v) := by
  rcases hm : mapOf t d with _ | ⟨e, kvs⟩
  · exact mapOf_none hm _
  · simp only [put, hm]; exact mapOf_remap hm _

theorem keysAt_eq (t : FTy) (d : FVal) (c : Path) :
    keysAt t d c = (getT t d c).bind fun x => (mapOf x.1 x.2).map fun ek => ek.2.toList.map (·.1) := by
  unfold keysAt
  rcases getT t d c with _ | ⟨ct, cv⟩
  · rfl
  · cases hm : mapOf ct cv <;> simp [hm]

theorem keysAt_cons (t : FTy) (d : FVal) (s : Seg) (c : Path) :
    keysAt t d (s :: c) = (child t d s).bind fun x => keysAt x.1 x.2 c := by
  simp only [keysAt_eq, getT_cons]
  cases child t d s <;> rfl

theorem assign_keys : ∀ (p c : Path) (t : FTy) (d d' : FVal) (a : Taken) (ks' : List String) (k : String),
    assign t d p a = some d' → ¬ p <+: c → keysAt t d' c = some ks' → k ∈ ks' →
    (∃ ks, keysAt t d c = some ks ∧ k ∈ ks) ∨ (c ++ [k]) <+: p := by
  intro p
  induction p with
  | nil => intro c t d d' a ks' k _ hp; exact absurd List.nil_prefix hp
  | cons s r ih =>
    intro c t d d' a ks' k h hp hk hmem
    obtain ⟨e, cur, v, hc, hv, rfl⟩ := assign_cons_some h
    cases c with
    | nil =>
      -- the container is the root: its keys are the old ones and `s`
      simp only [keysAt_eq, getT, Option.bind_some, mapOf_put, Option.map_map] at hk ⊢
      obtain ⟨⟨e', kvs⟩, hm, rfl⟩ := Option.map_eq_some_iff.mp hk
      rcases FKVs.mem_keys_ins kvs s v k hmem with rfl | hh
      · exact Or.inr (by simp)
      · exact Or.inl ⟨_, by rw [hm]; rfl, hh⟩
    | cons s' c' =>
      by_cases hs : s' = s
      · subst hs
        rw [keysAt_cons, child_put_same, hc] at hk
        rw [keysAt_cons, hc]
        rcases ih c' e cur v a ks' k hv (fun hh => hp (by simpa using hh)) hk hmem with h2 | h2
        · exact Or.inl h2
        · exact Or.inr (by simpa using h2)
      · -- c branches off p at its first segment: nothing below c changed
        have hrel : ¬ prefixRel (s :: r) (s' :: c') := fun hh => hs (prefixRel_cons_iff.mp hh).1.symm
        rw [keysAt_eq, assign_getT_other _ _ t d _ a hrel h, ← keysAt_eq] at hk
        exact Or.inl ⟨ks', hk, hmem⟩

/-- `v` is a value `convertTo` starts from or instantiates on the way -/
def Fresh (t : FTy) (v : FVal) : Prop := v = zero t ∨ v = newInstance t

theorem fieldGet_zeroFields : ∀ (fs : FFields) (s : Seg) (ft : FTy) (fv : FVal),
    fieldGet fs (zeroFields fs) s = some (ft, fv) → fv = zero ft
  | .nil, s, ft, fv, h => by simp [fieldGet] at h
  | .cons n t r, s, ft, fv, h => by
    simp only [zeroFields, fieldGet, FKVs.headD_cons, FKVs.tail_cons] at h
    split at h
    · simp only [Option.some.injEq, Prod.mk.injEq] at h
      obtain ⟨rfl, rfl⟩ := h; rfl
    · exact fieldGet_zeroFields r s ft fv h

theorem newInstance_struct (n : String) (fs : FFields) : newInstance (.struct n fs) = zero (.struct n fs) := rfl

theorem derefRec_fresh {t : FTy} {fs : FFields} (hst : structOf t = some fs) {d : FVal} (hf : Fresh t d) :
    derefRec t fs d = zeroFields fs := by
  obtain ⟨n, rfl | rfl⟩ := structOf_eq_some hst <;> rcases hf with rfl | rfl <;> rfl

theorem mapOf_fresh {t : FTy} {d : FVal} (hf : Fresh t d) {e : FTy} {kvs : FKVs}
    (hm : mapOf t d = some (e, kvs)) : kvs = .nil := by
  cases t with
  | any =>
    rcases hf with rfl | rfl <;> simp [mapOf, zero, newInstance] at hm <;> exact hm.2.symm
  | map e' =>
    rcases hf with rfl | rfl <;> simp [mapOf, zero, newInstance] at hm <;> exact hm.2.symm
  | _ => simp [mapOf] at hm

theorem child_fresh {t : FTy} {d : FVal} {s : Seg} {e : FTy} {cur : FVal} (hf : Fresh t d)
    (hc : child t d s = some (e, cur)) : Fresh e cur := by
  unfold child at hc
  rcases hm : mapOf t d with _ | ⟨e', kvs⟩
  · rw [hm] at hc
    cases hst : structOf t with
    | none => simp [hst] at hc
    | some fs =>
      simp only [hst, Option.bind_some, derefRec_fresh hst hf] at hc
      exact Or.inl (fieldGet_zeroFields fs s e cur hc)
  · simp only [hm, mapOf_fresh hf hm, FKVs.lookup, Option.getD_none, Option.some.injEq, Prod.mk.injEq] at hc
    obtain ⟨rfl, rfl⟩ := hc
    exact Or.inr rfl

theorem getT_fresh : ∀ (c : Path) (t : FTy) (d : FVal) (ct : FTy) (cv : FVal),
    Fresh t d → getT t d c = some (ct, cv) → Fresh ct cv := by
  intro c
  induction c with
  | nil =>
    intro t d ct cv hf h
    simp only [getT, Option.some.injEq, Prod.mk.injEq] at h
    obtain ⟨rfl, rfl⟩ := h; exact hf
  | cons s r ih =>
    intro t d ct cv hf h
    rw [getT_cons] at h
    rcases hc : child t d s with _ | ⟨e, cur⟩
    · simp [hc] at h
    · rw [hc] at h; exact ih e cur ct cv (child_fresh hf hc) h

theorem keysAt_newInstance (t : FTy) (c : Path) (ks : List String) :
    keysAt t (newInstance t) c = some ks → ks = [] := by
  intro h
  rw [keysAt_eq] at h
  obtain ⟨⟨ct, cv⟩, hg, h⟩ := Option.bind_eq_some_iff.mp h
  obtain ⟨⟨e, kvs⟩, hm, rfl⟩ := Option.map_eq_some_iff.mp h
  rw [mapOf_fresh (getT_fresh c t _ ct cv (Or.inr rfl) hg) hm]
  rfl

theorem convertFrom_keys (t : FTy) : ∀ (l : List (Path × Taken)) (d v : FVal) (c : Path) (ks' : List String)
    (k : String), convertFrom t d l = some v → (∀ x ∈ l, ¬ x.1 <+: c) → keysAt t v c = some ks' → k ∈ ks' →
    (∃ ks, keysAt t d c = some ks ∧ k ∈ ks) ∨ ∃ x ∈ l, (c ++ [k]) <+: x.1 := by
  intro l
  induction l with
  | nil =>
    intro d v c ks' k h _ hk hmem
    simp only [convertFrom, Option.some.injEq] at h
    subst h
    exact Or.inl ⟨ks', hk, hmem⟩
  | cons x rest ih =>
    intro d v c ks' k h hnb hk hmem
    obtain ⟨p, a⟩ := x
    obtain ⟨d1, h1, h⟩ := convertFrom_cons_some h
    rcases ih d1 v c ks' k h (fun y hy => hnb y (List.mem_cons_of_mem _ hy)) hk hmem with ⟨ks1, g1, g2⟩ | ⟨y, hy, g⟩
    · rcases assign_keys p c t d d1 a ks1 k h1 (hnb (p, a) (by simp)) g1 g2 with g3 | g3
      · exact Or.inl g3
      · exact Or.inr ⟨(p, a), by simp, g3⟩
    · exact Or.inr ⟨y, List.mem_cons_of_mem _ hy, g⟩

end EinoV.C15
