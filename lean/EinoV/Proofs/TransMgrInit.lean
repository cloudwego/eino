/-
  The hypotheses of the refinement theorems of Proofs/TransMgr.lean hold for the manager that
  `initChannelManager` builds from a compiled runner (`initMgr`: the model's initial channels, the runner's
  predecessor lists as sets, `getSuccessors` of every node), for every runner with distinct keys; the
  closedness hypothesis (every successor has a channel: no nil dereference in `reportBranch`) holds for
  the runner `compile` builds from any graph definition AddEdge / AddBranch accept.  Each refinement
  theorem returns `Frame` and `ChansOK` for the new manager, so the hypotheses carry over from call to call.
-/
import EinoV.Proofs.TransMgr
import EinoV.Proofs.C02Compile
import EinoV.Model.GraphBuild
import EinoV.Spec.DagWF
namespace EinoV.TransMgr
open EinoV.GoSem EinoV.Engine EinoV.Gen.TransC02 EinoV.Gen.TransC01 EinoV.Gen.TransMgr EinoV.GoWorkList
open TransDag (KeysNodup)
variable {V : Type} [Inhabited V]
set_option linter.unusedSectionVars false

theorem SuccClosed.frame {c c' : channelManager V} (h : SuccClosed c) (f : Frame c c') : SuccClosed c' := by
  intro k succs hk s hs
  rw [f.has]
  exact h k succs (by rw [← f.successors]; exact hk) s hs

/-- `dataPredecessors[k] = map[string]struct{}` built from the list of predecessors -/
def mkSet (vs : List Key) : GoMap Unit := vs.foldl (fun m v => m.set v ()) []

theorem mkSet_has (vs : List Key) (f : Key) : (mkSet vs).has f = vs.contains f := by
  rw [Bool.eq_iff_iff, GoMap.has, alookup_isSome_iff,
    show mkSet vs = vs.foldl (fun m k => aset k () m) [] from rfl, foldl_aset_const_nil]
  simp [akeys, List.map_map, Function.comp_def]

/-- the channel `chanBuilder` returns for a node, from the model's initial channel -/
def ofChanR (dag : Bool) (c : Chan V) : channel V :=
  if dag then .of_dagChannel (TransDag.ofChan c) else .of_pregelChannel { Values := c.values }

/-- the manager `initChannelManager` builds for a runner (value or stream mode) -/
def initMgr (r : Runner V) (isStream : Bool) : channelManager V :=
  { isStream := isStream
    channels := (initChans r).map (fun p => (p.1, ofChanR r.dag p.2))
    successors := r.nodes.map (fun n => (n.key, n.successors))
    dataPredecessors := r.dataPreds.map (fun p => (p.1, mkSet p.2))
    controlPredecessors := r.ctrlPreds.map (fun p => (p.1, mkSet p.2)) }

theorem chanOf_ofChanR_init (dag : Bool) (cp dp : List Key) :
    chanOf (ofChanR dag (Chan.init (V := V) dag cp dp)) = Chan.init dag cp dp := by
  cases dag <;> rfl

theorem isDag_ofChanR (dag : Bool) (c : Chan V) : isDag (ofChanR dag c) = dag := by
  cases dag <;> rfl

theorem chWF_ofChanR_init (dag : Bool) (cp dp : List Key) :
    ChWF (ofChanR dag (Chan.init (V := V) dag cp dp)) := by
  cases dag with
  | false => trivial
  | true => exact TransDag.init_wf cp dp

theorem initMgr_chans (r : Runner V) (s : Bool) : toChans (initMgr r s).channels = initChans r := by
  simp only [toChans, initMgr, List.map_map]
  have : ∀ p ∈ initChans r, ((fun p : Key × channel V => (p.1, chanOf p.2)) ∘ fun p => (p.1, ofChanR r.dag p.2)) p = p := by
    intro p hp
    have e := DagRun.mem_initChans r p.1 p.2 hp
    simp only [Function.comp, e, chanOf_ofChanR_init]
    rw [← e]
  exact (List.map_congr_left this).trans (List.map_id' _)

theorem initMgr_keys (r : Runner V) (s : Bool) : (initMgr r s).channels.map (·.1) = akeys (initChans r) := by
  rw [← akeys_toChans, initMgr_chans]

theorem initMgr_rel (r : Runner V) (s : Bool) : Rel r (initMgr r s) := by
  -- the set tables are the list tables with `mkSet` on the values, and `mkSet [] = []`
  have sets : ∀ (m : List (Key × List Key)) t f,
      (GoMap.getD' (m.map fun p => (p.1, mkSet p.2)) t []).has f = (lookupList t m).contains f :=
    fun m t f => (congrArg (·.has f) (getD'_map mkSet m t [])).trans (mkSet_has _ f)
  refine ⟨sets _, sets _, fun k => ?_, List.forall_mem_map.mpr fun q _ => isDag_ofChanR r.dag q.2⟩
  simp only [initMgr, alookup_map_key, Runner.node?]

theorem initMgr_ok (r : Runner V) (s : Bool) (hnd : (akeys (initChans r)).Nodup) :
    ChansOK r.dag (initMgr r s).channels := by
  refine ⟨?_, (initMgr_rel r s).mode, List.forall_mem_map.mpr fun q hq => ?_⟩
  · unfold KeysNodup; rw [initMgr_keys]; exact hnd
  · rw [DagRun.mem_initChans r q.1 q.2 hq]
    exact chWF_ofChanR_init ..

theorem init_not_skipped (r : Runner V) (k : Key) : skIn (initChans r) k = false := by
  unfold skIn
  cases hl : alookup k (initChans r) with
  | none => rfl
  | some c =>
    rw [DagRun.mem_initChans r k c (mem_of_alookup _ _ _ hl)]
    simp only [Chan.init]; split <;> rfl

theorem init_skipClosed (r : Runner V) : SkipClosed r (initChans r) ∧ AllSkImp (initChans r) := by
  refine ⟨fun s hs => (by rw [init_not_skipped] at hs; cases hs), fun s c hc hsk => ?_⟩
  have := init_not_skipped r s
  simp only [skIn, hc] at this
  rw [this] at hsk; cases hsk

theorem initMgr_len (r : Runner V) (s : Bool) :
    (initMgr r s).channels.length ≤ (r.nodes.length + 2) * (r.nodes.length + 2) := by
  simp only [initMgr, initChans, List.length_map, List.length_append, List.length_singleton]
  have : r.nodes.length + 1 ≤ (r.nodes.length + 2) * 1 := by omega
  exact Nat.le_trans this (Nat.mul_le_mul_left _ (by omega))

/-- every successor of every node is a node or END (what AddEdge / AddBranch accept) -/
def RunnerClosed (r : Runner V) : Prop := ∀ n ∈ r.nodes, ∀ s ∈ n.successors, s ∈ akeys (initChans r)

theorem initMgr_closed (r : Runner V) (s : Bool) (h : RunnerClosed r) : SuccClosed (initMgr r s) := by
  intro k succs hk t ht
  rw [(initMgr_rel r s).succ k, Option.map_eq_some_iff] at hk
  obtain ⟨n, hn, rfl⟩ := hk
  exact has_of_mem_keys _ t (by rw [initMgr_keys]; exact h n (node?_some r k n hn).1 t ht)

theorem compile_closed (slack : Nat) (g : GraphDef V)
    (edgeTo : ∀ e, e ∈ g.edges → e.2 = END ∨ e.2 ∈ g.nodes.map (·.1))
    (brTo : ∀ b, b ∈ g.branches → ∀ e, e ∈ b.2.ends → e = END ∨ e ∈ g.nodes.map (·.1)) :
    RunnerClosed (compile slack g) := by
  intro n hn s hs
  rw [DagRun.akeys_initChans, show (compile slack g).nodes = g.nodes.map _ from rfl, List.map_map, List.mem_append,
    List.mem_singleton, or_comm]
  obtain ⟨hw, hc, hb⟩ := DagRun.compile_node slack g n (Or.inl hn)
  simp only [Node.successors, hw, hc, hb, List.mem_append, or_self, List.mem_map, List.mem_filter,
    List.mem_flatMap] at hs
  rcases hs with ⟨e, ⟨he, _⟩, rfl⟩ | ⟨b, ⟨bb, ⟨hbb, _⟩, rfl⟩, hs⟩
  · exact edgeTo e he
  · exact brTo bb hbb s hs

/-- a compiled all-predecessor runner (`DagWF`: every node is a declared predecessor of its successors, the
    predecessor relation is acyclic — `validateDAG`) whose successors all have channels has an acyclic
    successor relation -/
theorem acyc_of_dagWF (r : Runner V) (wf : DagRun.DagWF r) (hc : RunnerClosed r) :
    ∃ rank : Key → Nat, ∀ n ∈ r.nodes, ∀ s ∈ n.successors, rank n.key < rank s := by
  obtain ⟨rank, hr⟩ := wf.acyclic
  refine ⟨rank, fun n hn s hs => ?_⟩
  obtain ⟨c, hp⟩ := exists_of_mem_akeys s _ (hc n hn s hs)
  have hsh : (s, DagRun.shapeOf c) ∈ DagRun.shapes (initChans r) := by
    simp only [DagRun.shapes, List.mem_map]; exact ⟨(s, c), hp, rfl⟩
  have := wf.succ n (Or.inl hn) s hs (DagRun.shapeOf c).1 (DagRun.shapeOf c).2 hsh
  exact hr s _ _ hsh n.key this

end EinoV.TransMgr
