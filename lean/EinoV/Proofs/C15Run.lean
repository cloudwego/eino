/-
  C15 — lemmas about one run of a node with field mappings: extraction along a source path never
  panics (with the guards), the static check agrees with the slot typing, and what a statically
  validated mapping delivers past its run-time checker can always be assigned.  The run is treated
  in the form with a separate extraction path (`fieldMapR`, `edgesMapR`, Model/C15Embed.lean); the
  run along the declared source paths (`fieldMapE`, `edgesMap`) is the instance `rp = Mapping.src`.
-/
import EinoV.Model.C15Embed
import EinoV.Proofs.C15

namespace EinoV.C15

theorem takeStep_no_panic (a : Taken) (via : Bool) (s : Seg) :
    takeStep Expected.C15.take a via s ≠ .error .panic := by
  unfold takeStep Expected.C15.take
  split <;> try (simp; done)
  all_goals (split <;> simp)

theorem takeFrom_no_panic : ∀ (p : Path) (a : Taken) (via : Bool),
    takeFrom Expected.C15.take a via p ≠ .error .panic := by
  intro p
  induction p with
  | nil => intro a via; simp [takeFrom]
  | cons s r ih =>
    intro a via
    simp only [takeFrom]
    have := takeStep_no_panic a via s
    cases h : takeStep Expected.C15.take a via s with
    | error e =>
      cases e <;> simp_all
    | ok sv =>
      obtain ⟨st, v⟩ := sv
      exact ih _ _

theorem take_no_panic (t : FTy) (v : FVal) (p : Path) : take Expected.C15.take t v p ≠ .error .panic :=
  takeFrom_no_panic p _ _

theorem store_any (a : Taken) : (store .any a).isSome := by
  cases a with
  | none => simp [store, nilable]
  | some x => obtain ⟨ty, v⟩ := x; simp [store, assignable]

-- In `extractTy true`, here and in the whole file, the Boolean is the parameter `rejectTrailing` of `extractTy`
-- (Model/C15): a last segment applied to a type with neither fields nor keys, and not an interface, is refused.
-- It takes the value of the fact `ValidateFacts.rejectsTrailingSegment`; `true` is that of `Expected.C15.validate`,
-- and `extractTy true` is the static path check `extractTyF Expected.C15.validate` of those facts
-- (`extractTyF_expected` below).
theorem extractTy_cons (t : FTy) (s : Seg) (r : Path) :
    extractTy true t (s :: r) =
      match childTy t s with
      | some t' => extractTy true t' r
      | none => if isIface t = true then some (t, !(decide (t = .any) && r.isEmpty)) else none := by
  rcases t.map_or_not with ⟨e, rfl⟩ | hm
  · rfl
  -- not a map: the fields of `structOf t`, or else the rule for a trailing segment
  rw [extractTy, childTy] <;> try exact hm
  cases hst : structOf t with
  | some fs =>
    simp only [Option.bind_some, structOf_not_iface hst]
    cases fieldTy fs s <;> rfl
  | none =>
    by_cases ha : t = .any
    · subst ha; cases r <;> rfl
    · cases isIface t <;> cases r <;> simp [ha]

theorem extractTy_cons_some {t x : FTy} {s : Seg} {r : Path} {i : Bool} (h : extractTy true t (s :: r) = some (x, i)) :
    (∃ t', childTy t s = some t' ∧ extractTy true t' r = some (x, i)) ∨
    (childTy t s = none ∧ isIface t = true ∧ x = t ∧ i = !(decide (t = .any) && r.isEmpty)) := by
  rw [extractTy_cons] at h
  cases hc : childTy t s with
  | some t' => rw [hc] at h; exact .inl ⟨t', rfl, h⟩
  | none =>
    rw [hc] at h
    by_cases hta : isIface t = true
    · rw [if_pos hta] at h; cases h; exact .inr ⟨rfl, hta, rfl, rfl⟩
    · rw [if_neg hta] at h; cases h

/-- the static check and the slot typing agree, except below a non-empty interface (where the
    check reports an intermediate interface and there is no slot) -/
theorem extractTy_slotTy : ∀ (p : Path) (t x : FTy) (i : Bool),
    extractTy true t p = some (x, i) → (i = true → x = .any) → slotTy t p = some x := by
  intro p
  induction p with
  | nil => intro t x i h _; simp [extractTy] at h; simp [slotTy, h.1]
  | cons s r ih =>
    intro t x i h hi
    rw [slotTy_cons_child]
    rcases extractTy_cons_some h with ⟨t', hc, h'⟩ | ⟨_, _, rfl, rfl⟩
    · have : t ≠ .any := by rintro rfl; cases hc
      rw [if_neg this, hc]; exact ih t' x i h' hi
    · by_cases ha : x = .any
      · subst ha; rw [if_pos rfl]; exact slotTy_any r
      · exact absurd (hi (by simp [ha])) ha

theorem takeStep_ok (f : TakeFacts) (ty : FTy) (val : FVal) (via : Bool) (s : Seg) (st : FTy) (v : FVal)
    (h : takeStep f (some (ty, val)) via s = .ok (st, v)) :
    (∃ kvs, ty = .map st ∧ val = .map kvs ∧ kvs.lookup s = some v) ∨
    (∃ n fs kvs, ty = .struct n fs ∧ val = .obj kvs ∧ fieldGet fs kvs s = some (st, v)) ∨
    (∃ n fs kvs, ty = .ptr (.struct n fs) ∧ val = .ptr (.obj kvs) ∧ fieldGet fs kvs s = some (st, v)) := by
  unfold takeStep at h
  split at h
  · rename_i heq; simp at heq
  · rename_i e kvs heq
    simp only [Option.some.injEq, Prod.mk.injEq] at heq
    obtain ⟨rfl, rfl⟩ := heq
    split at h
    · rename_i x hx; simp only [Except.ok.injEq, Prod.mk.injEq] at h; obtain ⟨rfl, rfl⟩ := h; exact Or.inl ⟨kvs, rfl, rfl, hx⟩
    · simp at h
  · simp at h
  · rename_i n fs kvs heq
    simp only [Option.some.injEq, Prod.mk.injEq] at heq
    obtain ⟨rfl, rfl⟩ := heq
    split at h
    · rename_i x hx; simp only [Except.ok.injEq] at h; subst h; exact Or.inr (Or.inl ⟨n, fs, kvs, rfl, rfl, hx⟩)
    · split at h <;> simp at h
  · rename_i n fs kvs heq
    simp only [Option.some.injEq, Prod.mk.injEq] at heq
    obtain ⟨rfl, rfl⟩ := heq
    split at h
    · rename_i x hx; simp only [Except.ok.injEq] at h; subst h; exact Or.inr (Or.inr ⟨n, fs, kvs, rfl, rfl, hx⟩)
    · split at h <;> simp at h
  · split at h <;> simp at h
  · split at h
    · simp at h
    · split at h <;> simp at h

theorem takeFrom_cons_ok {f : TakeFacts} {a b : Taken} {via : Bool} {s : Seg} {r : Path}
    (h : takeFrom f a via (s :: r) = .ok b) :
    ∃ st v, takeStep f a via s = .ok (st, v) ∧ takeFrom f (unstore st v) (isIface st) r = .ok b := by
  simp only [takeFrom] at h
  cases hs : takeStep f a via s with
  | error e => simp [hs] at h
  | ok sv => obtain ⟨st, v⟩ := sv; simp only [hs] at h; exact ⟨st, v, rfl, h⟩

theorem unstore_not_iface {t : FTy} (h : isIface t = false) (v : FVal) : unstore t v = some (t, v) := by
  simp [unstore, h]

theorem extractTy_iface_cons {t pf : FTy} {s : Seg} {r : Path} (ht : isIface t = true)
    (h : extractTy true t (s :: r) = some (pf, false)) : pf = .any := by
  rw [extractTy_cons, childTy_iface ht, if_pos ht] at h
  simp only [Option.some.injEq, Prod.mk.injEq] at h
  obtain ⟨rfl, h⟩ := h
  by_cases ha : t = .any
  · exact ha
  · simp [ha] at h

theorem takeStep_childTy {f : TakeFacts} {t : FTy} {v : FVal} {via : Bool} {s : Seg} {st : FTy} {x : FVal}
    (hstep : takeStep f (some (t, v)) via s = .ok (st, x)) : childTy t s = some st := by
  rcases takeStep_ok f t v via s st x hstep with ⟨kvs, rfl, rfl, hl⟩ | ⟨n, fs, kvs, rfl, rfl, hg⟩ | ⟨n, fs, kvs, rfl, rfl, hg⟩
  · rfl
  all_goals
    have hty := fieldGet_ty fs kvs s
    rw [hg] at hty
    exact hty.symm

theorem extractTy_step {f : TakeFacts} {t : FTy} {v : FVal} {via : Bool} {s : Seg} {r : Path} {st : FTy} {x : FVal}
    (hstep : takeStep f (some (t, v)) via s = .ok (st, x)) :
    extractTy true t (s :: r) = extractTy true st r := by
  rw [extractTy_cons, takeStep_childTy hstep]

theorem store_unstore (pf : FTy) (v : FVal) : (store pf (unstore pf v)).isSome := by
  cases pf with
  | any => exact store_any _
  | iface n is =>
    simp only [unstore, isIface, if_true]
    cases v with
    | box ty x =>
      -- `fits` at a non-empty interface is `implements`, one of the ways to be assignable
      cases hf : implements ty (.iface n is) <;> simp [fits, hf, store, nilable, assignable]
    | _ => simp [store, nilable]
  | _ => simp [unstore, isIface, store, assignable]

theorem takeFrom_end (f : TakeFacts) : ∀ (p : Path) (t pf : FTy) (v : FVal) (via : Bool) (a : Taken),
    extractTy true t p = some (pf, false) → takeFrom f (unstore t v) via p = .ok a →
    pf = .any ∨ ∃ w, a = unstore pf w := by
  intro p
  induction p with
  | nil =>
    intro t pf v via a h ht
    simp only [extractTy, Option.some.injEq, Prod.mk.injEq, and_true] at h
    subst h
    exact .inr ⟨v, (Except.ok.inj ht).symm⟩
  | cons s r ih =>
    intro t pf v via a h ht
    obtain ⟨st, x, hstep, hrest⟩ := takeFrom_cons_ok ht
    by_cases hta : isIface t = true
    · exact .inl (extractTy_iface_cons hta h)
    · rw [unstore_not_iface (by simpa using hta)] at hstep
      rw [extractTy_step hstep] at h
      exact ih st pf x _ a h hrest

theorem takeFrom_tag (f : TakeFacts) : ∀ (p : Path) (t pf : FTy) (v : FVal) (via : Bool) (a : Taken),
    extractTy true t p = some (pf, false) → isIface pf = false →
    takeFrom f (unstore t v) via p = .ok a → ∃ w, a = some (pf, w) := by
  intro p t pf v via a h hne ht
  rcases takeFrom_end f p t pf v via a h ht with rfl | ⟨w, rfl⟩
  · cases hne
  · exact ⟨w, unstore_not_iface hne w⟩

theorem takeFrom_storable (f : TakeFacts) : ∀ (p : Path) (t pf : FTy) (v : FVal) (via : Bool) (a : Taken),
    extractTy true t p = some (pf, false) →
    takeFrom f (unstore t v) via p = .ok a → (store pf a).isSome := by
  intro p t pf v via a h ht
  rcases takeFrom_end f p t pf v via a h ht with rfl | ⟨w, rfl⟩
  · exact store_any a
  · exact store_unstore pf w

theorem extractTyF_expected : extractTyF Expected.C15.validate = extractTy true := rfl

theorem extractTy_append : ∀ (p : Path) (t x : FTy) (q : Path),
    extractTy true t p = some (x, false) → x ≠ .any → extractTy true t (p ++ q) = extractTy true x q := by
  intro p
  induction p with
  | nil =>
    intro t x q h _
    simp only [extractTy, Option.some.injEq, Prod.mk.injEq, and_true] at h
    subst h; rfl
  | cons s r ih =>
    intro t x q h hx
    rcases extractTy_cons_some h with ⟨t', hc, h'⟩ | ⟨_, hta, _⟩
    · rw [List.cons_append, extractTy_cons, hc]; exact ih t' x q h' hx
    · exact absurd (extractTy_iface_cons hta h) hx

theorem checkAssignable_must {src dst : FTy} (h : checkAssignable src dst = .must) :
    dst = src ∨ dst = .any ∨ implements src dst = true := by
  unfold checkAssignable at h
  by_cases h1 : dst = src
  · exact Or.inl h1
  · by_cases h2 : dst = .any
    · exact Or.inr (Or.inl h2)
    · by_cases h3 : implements src dst = true
      · exact Or.inr (Or.inr h3)
      · -- the remaining branches answer `may` or `mustNot`
        rw [if_neg h1, if_neg h2, if_neg h3] at h
        split at h
        · cases h
        · split at h
          · split at h <;> cases h
          · cases h

theorem store_of_runtimeCheck {sf : FTy} {strict : Bool} {a : Taken}
    (h : runtimeCheck (some (sf, strict)) a = true) : (store sf a).isSome := by
  rcases a with _ | ⟨ty, w⟩ <;> simp only [runtimeCheck] at h <;> simp [store, h]

/-- the four ways the static check lets a mapping through, each with the checker it installs: a target below an
    interface (only under `any`), a source below an interface (checker against the target slot, nil guarded),
    `may` (checker), `must` (none) -/
theorem validateOne_some {pt st : FTy} {m : Mapping} {chk : Option (FTy × Bool)}
    (hv : validateOne Expected.C15.validate pt st m = some chk) :
    ∃ pf pI sf sI, extractTy true pt m.src = some (pf, pI) ∧ slotTy st m.dst = some sf ∧
      ((sI = true ∧ sf = .any ∧ chk = none) ∨
       (sI = false ∧ pI = true ∧ chk = some (sf, true)) ∨
       (sI = false ∧ pI = false ∧ checkAssignable pf sf = .may ∧ chk = some (sf, false)) ∨
       (sI = false ∧ pI = false ∧ checkAssignable pf sf = .must ∧ chk = none)) := by
  simp only [validateOne, extractTyF_expected] at hv
  rcases hp : extractTy true pt m.src with _ | ⟨pf, pI⟩
  · simp [hp] at hv
  rcases hs : extractTy true st m.dst with _ | ⟨sf, sI⟩
  · simp [hp, hs] at hv
  simp only [hp, hs] at hv
  refine ⟨pf, pI, sf, sI, rfl, ?_⟩
  cases sI with
  | true =>
    by_cases hsf : sf = .any
    · simp only [hsf, if_true, Option.some.injEq] at hv
      exact ⟨extractTy_slotTy _ _ _ _ hs fun _ => hsf, .inl ⟨rfl, hsf, hv.symm⟩⟩
    · simp [hsf] at hv
  | false =>
    refine ⟨extractTy_slotTy _ _ _ _ hs nofun, .inr ?_⟩
    simp only [Bool.false_eq_true, if_false] at hv
    cases pI with
    | true => simp only [if_true, Option.some.injEq] at hv; exact .inl ⟨rfl, rfl, hv.symm⟩
    | false =>
      simp only [Bool.false_eq_true, if_false] at hv
      cases hca : checkAssignable pf sf <;> simp only [hca, Option.some.injEq, reduceCtorEq] at hv
      · exact .inr (.inr ⟨rfl, rfl, rfl, hv.symm⟩)
      · exact .inr (.inl ⟨rfl, rfl, rfl, hv.symm⟩)

theorem assign_of_validated_R (f : TakeFacts) (pt st : FTy) (v : FVal) (m : Mapping) (p' : Path)
    (chk : Option (FTy × Bool)) (a : Taken)
    (hv : validateOne Expected.C15.validate pt st m = some chk)
    (hp' : ∀ pf, extractTy true pt m.src = some (pf, false) → pf ≠ .any → p' = m.src)
    (ht : take f pt v p' = .ok a) (hc : runtimeCheck chk a = true) (d : FVal) :
    (assign st d m.dst a).isSome := by
  obtain ⟨pf, pI, sf, sI, hp, hsl, h⟩ := validateOne_some hv
  rw [assign_isSome, hsl]
  show (store sf a).isSome = true
  rcases h with ⟨_, rfl, _⟩ | ⟨_, _, rfl⟩ | ⟨_, _, _, rfl⟩ | ⟨_, rfl, hca, _⟩
  · exact store_any a
  · exact store_of_runtimeCheck hc
  · exact store_of_runtimeCheck hc
  · rcases checkAssignable_must hca with h1 | rfl | himp
    · -- the same type: what the path delivers is storable at the path's own static type
      rw [h1]
      by_cases h2 : pf = .any
      · rw [h2]; exact store_any a
      · rw [hp' pf hp h2] at ht; exact takeFrom_storable f m.src pt pf v false a hp ht
    · exact store_any a
    · -- a concrete source type that implements the target interface
      have hpi : isIface pf = false := by
        cases sf <;> simp [implements] at himp
        exact himp.1
      have hpa : pf ≠ .any := by rintro rfl; cases hpi
      rw [hp' pf hp hpa] at ht
      obtain ⟨w, rfl⟩ := takeFrom_tag f m.src pt pf v false a hp hpi ht
      simp [store, assignable, himp]

theorem assign_of_validated (f : TakeFacts) (pt st : FTy) (v : FVal) (m : Mapping) (chk : Option (FTy × Bool))
    (a : Taken) (hv : validateOne Expected.C15.validate pt st m = some chk)
    (ht : take f pt v m.src = .ok a) (hc : runtimeCheck chk a = true) (d : FVal) :
    (assign st d m.dst a).isSome :=
  assign_of_validated_R f pt st v m m.src chk a hv (fun _ _ _ => rfl) ht hc d

theorem fieldMapR_ok (f : TakeFacts) (allow : Bool) (pt : FTy) (v : FVal) (rp : Mapping → Path) :
    ∀ (ms : List Mapping) (l : List (Mapping × Taken)), fieldMapR f allow pt v rp ms = .ok l →
    ∀ x ∈ l, x.1 ∈ ms ∧ take f pt v (rp x.1) = .ok x.2 := by
  intro ms
  induction ms with
  | nil => intro l h; simp [fieldMapR] at h; subst h; simp
  | cons m rest ih =>
    intro l h x hx
    simp only [fieldMapR] at h
    cases ht : take f pt v (rp m) with
    | error e =>
      cases e with
      | keyMissing =>
        simp only [ht] at h
        cases allow with
        | true =>
          simp only [if_true] at h
          have := ih l h x hx
          exact ⟨List.mem_cons_of_mem _ this.1, this.2⟩
        | false => simp at h
      | bad => simp [ht] at h
      | panic => simp [ht] at h
    | ok a =>
      simp only [ht] at h
      cases hr : fieldMapR f allow pt v rp rest with
      | error e => simp [hr] at h
      | ok l' =>
        simp only [hr, Except.ok.injEq] at h
        subst h
        rcases List.mem_cons.mp hx with rfl | hx
        · exact ⟨by simp, ht⟩
        · have := ih l' hr x hx
          exact ⟨List.mem_cons_of_mem _ this.1, this.2⟩

theorem fieldMapR_no_panic (allow : Bool) (pt : FTy) (v : FVal) (rp : Mapping → Path) :
    ∀ (ms : List Mapping), fieldMapR Expected.C15.take allow pt v rp ms ≠ .error .panic := by
  intro ms
  induction ms with
  | nil => simp [fieldMapR]
  | cons m rest ih =>
    simp only [fieldMapR]
    have hnp := take_no_panic pt v (rp m)
    cases ht : take Expected.C15.take pt v (rp m) with
    | error e =>
      cases e with
      | keyMissing =>
        cases allow with
        | true => simpa using ih
        | false => simp
      | bad => simp
      | panic => exact absurd ht hnp
    | ok a =>
      simp only []
      cases hr : fieldMapR Expected.C15.take allow pt v rp rest with
      | error e => simp only [ne_eq, Except.error.injEq]; intro he; subst he; exact ih hr
      | ok l' => simp

theorem fieldMapR_src (f : TakeFacts) (allow : Bool) (pt : FTy) (v : FVal) (rp : Mapping → Path)
    (hrp : ∀ m, rp m = m.src) : ∀ (ms : List Mapping),
    fieldMapR f allow pt v rp ms = fieldMapE f allow pt v ms := by
  intro ms
  induction ms with
  | nil => simp [fieldMapR, fieldMapE]
  | cons m rest ih =>
    simp only [fieldMapR, fieldMapE, hrp m, ih]
    cases take f pt v m.src with
    | error e => cases e <;> rfl
    | ok a => cases fieldMapE f allow pt v rest <;> rfl

theorem fieldMapE_ok (f : TakeFacts) (allow : Bool) (pt : FTy) (v : FVal) : ∀ (ms : List Mapping)
    (l : List (Mapping × Taken)), fieldMapE f allow pt v ms = .ok l →
    ∀ x ∈ l, x.1 ∈ ms ∧ take f pt v x.1.src = .ok x.2 := by
  intro ms l h
  rw [← fieldMapR_src f allow pt v (·.src) (fun _ => rfl)] at h
  exact fieldMapR_ok f allow pt v (·.src) ms l h

theorem fieldMapE_no_panic (allow : Bool) (pt : FTy) (v : FVal) : ∀ (ms : List Mapping),
    fieldMapE Expected.C15.take allow pt v ms ≠ .error .panic := by
  intro ms
  rw [← fieldMapR_src _ allow pt v (·.src) (fun _ => rfl)]
  exact fieldMapR_no_panic allow pt v (·.src) ms

theorem checkPanics_guarded (vf : ValidateFacts) (hg : vf.ifaceCheckerGuardsNil = true)
    (chk : Option (FTy × Bool)) (a : Taken) : checkPanics vf chk a = false := by
  unfold checkPanics
  split <;> simp [hg]

theorem checkPanicE_guarded (vf : ValidateFacts) (hg : vf.ifaceCheckerGuardsNil = true)
    (pt st : FTy) (ms : List Mapping) (l : List (Mapping × Taken)) : checkPanicE vf pt st ms l = false := by
  unfold checkPanicE
  rw [List.any_eq_false]
  intro x _
  obtain ⟨m, a⟩ := x
  simp [checkPanics_guarded vf hg]

theorem checkPanicE_expected (pt st : FTy) (ms : List Mapping) (l : List (Mapping × Taken)) :
    checkPanicE Expected.C15.validate pt st ms l = false :=
  checkPanicE_guarded _ rfl pt st ms l

theorem edgesMapR_src (f : TakeFacts) (vf : ValidateFacts) (allow : Bool) (st : FTy)
    (rp : Edge → Mapping → Path) (hrp : ∀ e m, rp e m = m.src) : ∀ (es : List Edge),
    edgesMapR f vf allow st rp es = edgesMap f vf allow st es := by
  intro es
  induction es with
  | nil => simp [edgesMapR, edgesMap]
  | cons e rest ih =>
    simp only [edgesMapR, edgesMap, fieldMapR_src f allow e.pt e.v (rp e) (hrp e) e.ms, ih]
    cases fieldMapE f allow e.pt e.v e.ms with
    | error err => rfl
    | ok l =>
      simp only []
      cases checkPanicE vf e.pt st e.ms l with
      | true => rfl
      | false =>
        cases checkE vf e.pt st e.ms l with
        | false => rfl
        | true => cases edgesMap f vf allow st rest <;> rfl

theorem checkerOf_expected {pt st : FTy} {m : Mapping} {chk : Option (FTy × Bool)}
    (hv : validateOne Expected.C15.validate pt st m = some chk) (ms : List Mapping) :
    checkerOf Expected.C15.validate pt st ms m = chk := by
  simp only [checkerOf, hv, Option.getD_some]
  rcases chk with _ | ⟨ty, strict⟩ <;> rfl

/-- the extraction path agrees with the declared source path wherever the static check relied on
    the static type of the source slot -/
def Agrees (rp : Edge → Mapping → Path) (es : List Edge) : Prop :=
  ∀ e ∈ es, ∀ m ∈ e.ms, ∀ pf, extractTy true e.pt m.src = some (pf, false) → pf ≠ .any → rp e m = m.src

theorem edgesMapR_ok (allow : Bool) (st : FTy) (rp : Edge → Mapping → Path) :
    ∀ (es : List Edge) (l : List (Path × Taken)),
    (∀ e ∈ es, ∀ m ∈ e.ms, (validateOne Expected.C15.validate e.pt st m).isSome) →
    Agrees rp es →
    edgesMapR Expected.C15.take Expected.C15.validate allow st rp es = .ok l →
    ∀ x ∈ l, ∀ d, (assign st d x.1 x.2).isSome := by
  intro es
  induction es with
  | nil => intro l _ _ h; simp [edgesMapR] at h; subst h; simp
  | cons e rest ih =>
    intro l hval hag h x hx d
    simp only [edgesMapR, checkPanicE_expected, Bool.false_eq_true, if_false] at h
    cases hf : fieldMapR Expected.C15.take allow e.pt e.v (rp e) e.ms with
    | error err => simp [hf] at h
    | ok le =>
      simp only [hf] at h
      by_cases hc : checkE Expected.C15.validate e.pt st e.ms le = true
      · simp only [hc, if_true] at h
        cases hr : edgesMapR Expected.C15.take Expected.C15.validate allow st rp rest with
        | error err => simp [hr] at h
        | ok l' =>
          simp only [hr, Except.ok.injEq] at h
          subst h
          rcases List.mem_append.mp hx with hx | hx
          · obtain ⟨y, hy, rfl⟩ := List.mem_map.mp hx
            obtain ⟨m, a⟩ := y
            have hm := fieldMapR_ok _ _ _ _ _ _ _ hf (m, a) hy
            have hvm := hval e (by simp) m hm.1
            cases hv : validateOne Expected.C15.validate e.pt st m with
            | none => simp [hv] at hvm
            | some chk =>
              have hrc : runtimeCheck chk a = true := checkerOf_expected hv e.ms ▸ List.all_eq_true.mp hc (m, a) hy
              exact assign_of_validated_R _ e.pt st e.v m (rp e m) chk a hv
                (hag e (by simp) m hm.1) hm.2 hrc d
          · exact ih l' (fun e' he' => hval e' (List.mem_cons_of_mem _ he'))
              (fun e' he' => hag e' (List.mem_cons_of_mem _ he')) hr x hx d
      · simp [hc] at h

theorem edgesMapR_no_panic (allow : Bool) (st : FTy) (rp : Edge → Mapping → Path) : ∀ (es : List Edge),
    edgesMapR Expected.C15.take Expected.C15.validate allow st rp es ≠ .error .panic := by
  intro es
  induction es with
  | nil => simp [edgesMapR]
  | cons e rest ih =>
    simp only [edgesMapR, checkPanicE_expected, Bool.false_eq_true, if_false]
    have hnp := fieldMapR_no_panic allow e.pt e.v (rp e) e.ms
    cases hf : fieldMapR Expected.C15.take allow e.pt e.v (rp e) e.ms with
    | error err => simp only [ne_eq, Except.error.injEq]; intro he; subst he; exact hnp hf
    | ok le =>
      simp only []
      by_cases hc : checkE Expected.C15.validate e.pt st e.ms le = true
      · simp only [hc, if_true]
        cases hr : edgesMapR Expected.C15.take Expected.C15.validate allow st rp rest with
        | error err => simp only [ne_eq, Except.error.injEq]; intro he; subst he; exact ih hr
        | ok l' => simp
      · simp [hc]

theorem edgesMap_ok (allow : Bool) (st : FTy) : ∀ (es : List Edge) (l : List (Path × Taken)),
    (∀ e ∈ es, ∀ m ∈ e.ms, (validateOne Expected.C15.validate e.pt st m).isSome) →
    edgesMap Expected.C15.take Expected.C15.validate allow st es = .ok l →
    ∀ x ∈ l, ∀ d, (assign st d x.1 x.2).isSome := by
  intro es l hval h
  rw [← edgesMapR_src _ _ allow st (fun _ m => m.src) (fun _ _ => rfl)] at h
  exact edgesMapR_ok allow st _ es l hval (fun _ _ _ _ _ _ _ => rfl) h

theorem edgesMap_no_panic (allow : Bool) (st : FTy) : ∀ (es : List Edge),
    edgesMap Expected.C15.take Expected.C15.validate allow st es ≠ .error .panic := by
  intro es
  rw [← edgesMapR_src _ _ allow st (fun _ m => m.src) (fun _ _ => rfl)]
  exact edgesMapR_no_panic allow st _ es

theorem runNodeR_src (f : TakeFacts) (vf : ValidateFacts) (allow : Bool) (st : FTy)
    (rp : Edge → Mapping → Path) (hrp : ∀ e m, rp e m = m.src) (es : List Edge) :
    runNodeR f vf allow st rp es = runNode f vf allow st es := by
  rw [runNodeR, edgesMapR_src f vf allow st rp hrp es]; rfl

theorem slotTy_of_ifaceChecker (pt st : FTy) (m : Mapping) (sf : FTy)
    (hv : validateOne Expected.C15.validate pt st m = some (some (sf, true))) :
    slotTy st m.dst = some sf := by
  obtain ⟨_, _, sf', _, _, hsl, h⟩ := validateOne_some hv
  rcases h with ⟨_, _, h⟩ | ⟨_, _, h⟩ | ⟨_, _, _, h⟩ | ⟨_, _, _, h⟩ <;> cases h
  exact hsl

end EinoV.C15
