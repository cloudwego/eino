/-
  C10 — helper lemmas about the units of a run over the built-in components that fire their
  own callbacks (Model/C10Builtin.lean).  The source facts are hypotheses here (`bf = good`);
  Props/C10.lean instantiates them with the regenerated ones.
-/
import EinoV.Model.C10
import EinoV.Model.C10Runs
import EinoV.Model.C10Builtin
import EinoV.Proofs.C10
import EinoV.Proofs.C10Runs

namespace EinoV.C10

/-- every error / panic path of the self-firing components reports the unit's end -/
def BFacts.good : BFacts := ⟨true, true, true, true, true, true, true, true⟩

theorem tplBody_fails (fails : List Bool) : (tplBody fails).2 = fails.any id := by
  induction fails with
  | nil => rfl
  | cons f rest ih => cases f <;> simp [tplBody, ih]

theorem tplBody_calls (fails : List Bool) :
    (tplBody fails).1 = if fails.any id then [] else [Timing.end_] := by
  induction fails with
  | nil => rfl
  | cons f rest ih => cases f <;> simp [tplBody, ih]

theorem tplCalls_good (fails : List Bool) :
    tplCalls true fails = [Timing.start, if fails.any id then Timing.error else Timing.end_] := by
  unfold tplCalls
  simp only [tplBody_fails, tplBody_calls]
  cases h : fails.any id <;> simp

theorem stageCalls_good (fails : Bool) :
    stageCalls true fails = [Timing.start, if fails then Timing.error else Timing.end_] := by
  cases fails <;> rfl

theorem taskCalls_good (o : TaskOut) :
    taskCalls BFacts.good o = [Timing.start, if o.failed then Timing.error else Timing.end_] := by
  cases o <;> rfl

theorem paired_self (cf : CFacts) (b : Bool) :
    Paired cf (.self [Timing.start, if b then Timing.error else Timing.end_]) :=
  ⟨.start, _, rfl, rfl, by cases b <;> rfl⟩

theorem paired_self_tpl (cf : CFacts) (fails : List Bool) : Paired cf (.self (tplCalls true fails)) :=
  tplCalls_good fails ▸ paired_self cf _

theorem paired_self_stage (cf : CFacts) (fails : Bool) : Paired cf (.self (stageCalls true fails)) :=
  stageCalls_good fails ▸ paired_self cf _

theorem paired_self_task (cf : CFacts) (o : TaskOut) : Paired cf (.self (taskCalls BFacts.good o)) :=
  taskCalls_good o ▸ paired_self cf _

theorem paired_routerUnits {cf : CFacts} (hw : cf.wrapperOnErrorAlways = true) (path : List String)
    (d : RouterD) (u : UnitSpec) (hu : u ∈ routerUnits BFacts.good path d) : Paired cf u.kind := by
  simp only [routerUnits, BFacts.good, Bool.not_true, Bool.and_false, Bool.false_eq_true, if_false,
    List.mem_cons, List.mem_append, List.mem_ite_nil_right, List.mem_map, List.not_mem_nil, or_false] at hu
  rcases hu with rfl | rfl | ⟨_, _, _, rfl⟩ | ⟨_, rfl⟩
  · exact paired_wrapped hw _ _
  · exact paired_self_stage cf _
  · exact paired_self_task cf _
  · exact paired_self_stage cf _

theorem paired_rewriteNodes {cf : CFacts} (hw : cf.wrapperOnErrorAlways = true) (chain : List String)
    (r : RewriteD) (u : UnitSpec) (hu : u ∈ rewriteNodes BFacts.good chain r) : Paired cf u.kind := by
  cases r with
  | handler f =>
    simp only [rewriteNodes, List.mem_singleton] at hu
    subst hu
    exact paired_wrapped hw _ _
  | llm tpl m p =>
    simp only [rewriteNodes, BFacts.good, List.mem_cons, List.mem_ite_nil_left, List.not_mem_nil, or_false] at hu
    rcases hu with rfl | rfl | ⟨_, rfl | ⟨_, rfl⟩⟩
    · exact paired_wrapped hw _ _
    · exact paired_self_tpl cf _
    · exact paired_wrapped hw _ _
    · exact paired_wrapped hw _ _

theorem paired_mqUnits {cf : CFacts} (hd : cf.hasDefer = true) (hs : cf.deferStarts = true)
    (hw : cf.wrapperOnErrorAlways = true) (path : List String)
    (d : MqD) (u : UnitSpec) (hu : u ∈ mqUnits BFacts.good path d) : Paired cf u.kind := by
  unfold mqUnits at hu
  simp only [List.mem_cons, List.mem_append, List.mem_ite_nil_left, List.mem_ite_nil_right, List.mem_map,
    List.not_mem_nil, or_false] at hu
  rcases hu with rfl | rfl | (hu | ⟨_, _, _, rfl⟩) | ⟨_, rfl⟩
  · exact paired_wrapped hw _ _
  · exact paired_graph hd hs _ _
  · exact paired_rewriteNodes hw _ _ u hu
  · exact paired_self_task cf _
  · exact paired_self_stage cf _

theorem paired_bNodeUnits {cf : CFacts} (hd : cf.hasDefer = true) (hs : cf.deferStarts = true)
    (hw : cf.wrapperOnErrorAlways = true) (pre : List String) (n : BNode) (u : UnitSpec)
    (hu : u ∈ bNodeUnits BFacts.good pre n) : Paired cf u.kind := by
  cases n with
  | tpl key fs =>
    simp only [bNodeUnits, List.mem_singleton] at hu
    subst hu
    exact paired_self_tpl cf _
  | router key d => exact paired_routerUnits hw _ d u hu
  | mq key d => exact paired_mqUnits hd hs hw _ d u hu
  | lam key f =>
    simp only [bNodeUnits, List.mem_singleton] at hu
    subst hu
    exact paired_wrapped hw _ _

theorem paired_bLevelUnits {cf : CFacts} (hd : cf.hasDefer = true) (hs : cf.deferStarts = true)
    (hw : cf.wrapperOnErrorAlways = true) (pre : List String) (ns : List BNode) (u : UnitSpec)
    (hu : u ∈ bLevelUnits BFacts.good pre ns) : Paired cf u.kind := by
  simp only [bLevelUnits, List.mem_append, List.mem_flatMap, List.mem_ite_nil_left, List.mem_singleton] at hu
  rcases hu with ⟨n, _, hn⟩ | ⟨_, rfl⟩
  · exact paired_bNodeUnits hd hs hw _ n u hn
  · exact paired_wrapped hw _ _

theorem paired_bUnits {cf : CFacts} (hd : cf.hasDefer = true) (hs : cf.deferStarts = true)
    (hw : cf.wrapperOnErrorAlways = true) (sh : BShape) (u : UnitSpec)
    (hu : u ∈ bUnits BFacts.good sh) : Paired cf u.kind := by
  simp only [bUnits, List.mem_cons, List.mem_append, List.mem_flatMap, List.mem_ite_nil_left,
    List.not_mem_nil, or_false] at hu
  rcases hu with rfl | ⟨n, _, hn⟩ | ⟨_, rfl⟩
  · exact paired_graph hd hs _ _
  · cases n with
    | node n => exact paired_bNodeUnits hd hs hw _ n u hn
    | sub key ns =>
      simp only [bTopUnits, List.mem_cons] at hn
      rcases hn with rfl | hn
      · exact paired_graph hd hs _ _
      · exact paired_bLevelUnits hd hs hw _ ns u hn
  · exact paired_wrapped hw _ _

theorem tpl_unit_end (pre : List String) (key : String) (fails : List Bool) (u : UnitSpec)
    (hu : u ∈ bNodeUnits BFacts.good pre (.tpl key fails)) :
    u.kind = .self [Timing.start, if fails.any id then Timing.error else Timing.end_] := by
  simp only [bNodeUnits, List.mem_singleton] at hu
  subst hu
  simp only [BFacts.good, tplCalls_good]

end EinoV.C10
