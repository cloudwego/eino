import EinoV.Model.C04ErrItem
namespace EinoV.C04
open EinoV.Engine

theorem view_identity_fail {V} (pre : List V) (rel : EOFRel) (e : Err) (rest : List (Item V))
    (h : rel ≠ .identical) :
    view true (pre.map Item.chunk ++ Item.fail rel e :: rest) = { chunks := pre, err := some e } := by
  induction pre with
  | nil =>
    cases rel with
    | identical => exact absurd rfl h
    | reaches => rfl
    | unrelated => rfl
  | cons v pre ih => simp only [List.map_cons, List.cons_append, view, ih]

theorem view_chunks {V} (b : Bool) (l : List V) : view b (l.map Item.chunk) = { chunks := l, err := none } := by
  induction l with
  | nil => rfl
  | cons v l ih => simp only [List.map_cons, view, ih]

end EinoV.C04
