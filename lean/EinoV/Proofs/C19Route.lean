/-
  C19 — lemmas about the copy-routing model (Model/C19Route.lean): with the closing facts every
  reader derived from a Workflow node's output is consumed or closed, whatever the successors'
  own data inputs are; without the fallback for a target that has no data predecessor the copy
  of a selected data-less branch end is dropped.
-/
import EinoV.Model.C19Route
import EinoV.Proofs.C19Ledger
import EinoV.Gen.FactsC19

namespace EinoV.C19.Route
open EinoV.Gen

/-- the facts read from the source on this run -/
def srcFacts : Facts :=
  { missing := Missing.ofFact FactsC19.missingDpsArm,
    closesNonData := FactsC19.closesNonDataValues,
    skippedCloses := FactsC19.skippedChannelClosesValues,
    skipReleasesStored := FactsC19.skipReleasesStored,
    closesSurplus := FactsC19.closesSurplus,
    closesReplaced := FactsC19.closesReplaced }

/-- the fact values under which nothing is dropped -/
def Facts.closing (f : Facts) : Prop :=
  f.missing = .emptySet ∧ f.closesNonData = true ∧ f.skippedCloses = true ∧
  f.closesSurplus = true ∧ f.closesReplaced = true ∧ f.skipReleasesStored = true

instance (f : Facts) : Decidable f.closing := by unfold Facts.closing; infer_instance

theorem srcFacts_closing : srcFacts.closing := by decide

theorem routeCopy_ne_dropped {f : Facts} (hf : f.closing) (dps : Option (List String))
    (sender : String) (skip : SkipTime) (consumer : Fate) (hc : consumer ≠ .dropped) :
    routeCopy f dps sender skip consumer ≠ .dropped := by
  obtain ⟨hm, h1, h2, _, _, h5⟩ := hf
  unfold routeCopy
  cases dps with
  | none => simp [hm, h1]
  | some ds =>
    by_cases hs : sender ∈ ds
    · cases skip <;> simp [hs, h2, h5, hc, skipFate]
    · simp [hs, h1]

theorem routeCopy_skipTarget {f : Facts} (hm : f.missing = .skipTarget) (sender : String)
    (skip : SkipTime) (consumer : Fate) : routeCopy f none sender skip consumer = .dropped := by
  simp [routeCopy, hm]

theorem endFate_ne_dropped (k : Option Nat) : endFate k ≠ .dropped := by
  cases k <;> simp [endFate]

theorem condFate_ne_dropped (k : Cond) : condFate k ≠ .dropped := by
  cases k <;> simp [condFate]

theorem entries_consumer (c : Case) : ∀ e ∈ entries c, e.consumer ≠ .dropped := by
  intro e he
  simp only [entries, selectedEntries, writeToEntries, List.mem_append, List.mem_map, List.mem_ite_nil_right,
    List.mem_singleton] at he
  rcases he with ⟨s, _, rfl⟩ | ⟨s, _, rfl⟩ | ⟨_, rfl⟩
  · simp
  · simp
  · exact endFate_ne_dropped _

/-- `entryFate` and `xEntryFate` for any sender: a replaced copy is closed, the others are routed -/
theorem replacedOrRouted_ne_dropped {f : Facts} (hf : f.closing) (sender : String) (e : Entry)
    (hc : e.consumer ≠ .dropped) :
    (if e.replaced then (if f.closesReplaced then Fate.closed else .dropped)
      else routeCopy f e.dps sender e.skip e.consumer) ≠ .dropped := by
  by_cases hr : e.replaced = true
  -- the conjuncts of `Facts.closing` in order: `missing = .emptySet`, `closesNonData`, `skippedCloses`,
  -- `closesSurplus`, `closesReplaced`, `skipReleasesStored`; so `hf.2.2.2.2.1` is `closesReplaced`
  -- and `hf.2.2.2.1` (in `fates_ne_dropped`, `xFates_ne_dropped`) is `closesSurplus`
  · simp [hr, hf.2.2.2.2.1]
  · simp only [hr]
    exact routeCopy_ne_dropped hf _ _ _ _ hc

theorem fates_ne_dropped {f : Facts} (hf : f.closing) (c : Case) : ∀ x ∈ fates f c, x ≠ .dropped := by
  intro x hx
  simp only [fates, List.mem_append, List.mem_replicate, List.mem_map] at hx
  rcases hx with (⟨_, rfl⟩ | ⟨e, he, rfl⟩) | ⟨_, rfl⟩
  · exact condFate_ne_dropped _
  -- the sender must be the literal of the model for the goal to match: `"p"` is the one in `entryFate`,
  -- `"A"` (in `xFates_ne_dropped`, and in the `dps` of `xFates_adata_end`) the one in `xEntryFate` /
  -- `xEntries` (Model/C19Route.lean)
  · exact replacedOrRouted_ne_dropped hf "p" e (entries_consumer c e he)
  · simp [hf.2.2.2.1]

theorem all_not_dropped {fs : List Fate} (h : ∀ x ∈ fs, x ≠ .dropped) :
    fs.all (fun x => !x.isDropped) = true := by
  rw [List.all_eq_true]
  intro x hx
  have := h x hx
  cases x <;> simp_all [Fate.isDropped]

theorem mustRelease_of_closing {f : Facts} (hf : f.closing) (c : Case) : mustRelease f c = true := by
  simp [mustRelease, all_not_dropped (fates_ne_dropped hf c)]

theorem selectedEntries_nil (c : Case) (h : hasBranch c = false) : selectedEntries c = [] := by
  simp [selectedEntries, isSelected, h]

theorem entries_length (c : Case) :
    (entries c).length = (selectedEntries c).length + (writeToEntries c).length := by
  simp [entries]

theorem created_eq_ledger (cs cr : Bool) (c : Case) (dups : Nat) :
    created c = (distribute cs cr (writeToEntries c).length (nBranches c)
      (selectedEntries c).length dups).created := by
  simp only [created, distribute, entries_length]
  split <;> rfl

theorem created_ge (c : Case) : nBranches c + (entries c).length ≤ created c := by
  rw [created_eq_ledger true true c 0, entries_length]
  exact distribute_created_ge ..

theorem fates_length (f : Facts) (c : Case) : (fates f c).length = created c := by
  have := created_ge c
  simp only [fates, List.length_append, List.length_replicate, List.length_map]
  omega

theorem xEntries_consumer (c : XCase) : ∀ e ∈ xEntries c, e.consumer ≠ .dropped := by
  intro e he
  simp only [xEntries, List.mem_append, List.mem_map, List.mem_ite_nil_right, List.mem_singleton] at he
  rcases he with ⟨s, _, rfl⟩ | ⟨_, rfl⟩
  · by_cases hd : s.drains = true
    · simp [hd]
    · simp only [hd]
      exact endFate_ne_dropped _
  · exact endFate_ne_dropped _

theorem xFates_ne_dropped {f : Facts} (hf : f.closing) (c : XCase) : ∀ x ∈ xFates f c, x ≠ .dropped := by
  intro x hx
  simp only [xFates, List.mem_append, List.mem_replicate, List.mem_map] at hx
  rcases hx with ⟨e, he, rfl⟩ | ⟨_, rfl⟩
  · exact replacedOrRouted_ne_dropped hf "A" e (xEntries_consumer c e he)
  · simp [hf.2.2.2.1]

theorem xMustRelease_of_closing {f : Facts} (hf : f.closing) (c : XCase) : xMustRelease f c = true := by
  simp [xMustRelease, all_not_dropped (xFates_ne_dropped hf c)]

theorem xFates_length (f : Facts) (c : XCase) : (xFates f c).length = xCreated c := by
  have : (xEntries c).length ≤ xCreated c := le_copyCount _
  simp only [xFates, List.length_append, List.length_replicate, List.length_map]
  omega

/-- `A` has no branch: the ledger with `B = 0`, `sel = 0` -/
theorem xCreated_eq_ledger (cs cr : Bool) (c : XCase) :
    xCreated c = (distribute cs cr (xEntries c).length 0 0 0).created := by
  unfold xCreated
  rcases Nat.eq_zero_or_pos (xEntries c).length with h | h
  · rw [h]; rfl
  · rw [distribute_created_eq cs cr _ 0 0 0 (by omega) (fun _ => rfl), copyCount_eq_max]
    omega

/-- the copy of `A`'s stream made for an end that takes it without control goes through that end's
    channel: its fate is what the skip (if any, at the time the order fixes) leaves of it -/
theorem xFates_adata_end (f : Facts) (c : XCase) (e : XEnd) (he : e ∈ c.ends) (hd : e.data = .adata) :
    skipFate f (xSkip c e) (if e.drains then .drained else endFate c.consume) ∈ xFates f c := by
  simp only [xFates, List.mem_append, List.mem_map]
  refine Or.inl ⟨⟨e.key, some ["A"], xSkip c e, if e.drains then .drained else endFate c.consume, false⟩, ?_, ?_⟩
  · simp only [xEntries, List.mem_append, List.mem_map, List.mem_filter]
    exact Or.inl ⟨e, ⟨he, by simp [xTakesA, hd]⟩, rfl⟩
  · simp [xEntryFate, routeCopy]

end EinoV.C19.Route
