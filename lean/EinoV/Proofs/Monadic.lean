/-
  `Except ε` as a monad, in core Lean alone: when `>>=`, `Except.map`, a refusal `if c then .error k else x`,
  `List.mapM` and `List.foldlM` give `.ok` or `.error`, and the invariant rules for `foldlM` (also in `Option`).
-/
namespace EinoV

theorem bind_eq_ok {ε α β} {x : Except ε α} {f : α → Except ε β} {b : β} :
    (x >>= f) = .ok b ↔ ∃ a, x = .ok a ∧ f a = .ok b := by
  cases x <;> simp [bind, Except.bind]

theorem bind_eq_error {ε α β} {x : Except ε α} {f : α → Except ε β} {e : ε} :
    (x >>= f) = .error e ↔ x = .error e ∨ ∃ a, x = .ok a ∧ f a = .error e := by
  cases x <;> simp [bind, Except.bind]

theorem map_eq_ok {ε α β} {x : Except ε α} {g : α → β} {b : β} : x.map g = .ok b ↔ ∃ a, x = .ok a ∧ g a = b := by
  cases x <;> simp [Except.map]

theorem map_eq_error {ε α β} {x : Except ε α} {g : α → β} {e : ε} : x.map g = .error e ↔ x = .error e := by
  cases x <;> simp [Except.map]

theorem bind_ok_mono {ε α β} {x x' : Except ε α} {f f' : α → Except ε β} {b : β}
    (hx : ∀ a, x = .ok a → x' = .ok a) (hf : ∀ a, f a = .ok b → f' a = .ok b)
    (h : (x >>= f) = .ok b) : (x' >>= f') = .ok b :=
  let ⟨a, ha, hb⟩ := bind_eq_ok.mp h
  bind_eq_ok.mpr ⟨a, hx a ha, hf a hb⟩

theorem ite_ok_mono {ε α : Type} {c : Prop} [Decidable c] {x y x' y' : Except ε α} {a : α}
    (hx : x = .ok a → x' = .ok a) (hy : y = .ok a → y' = .ok a)
    (h : (if c then x else y) = .ok a) : (if c then x' else y') = .ok a := by
  by_cases hc : c
  · rw [if_pos hc] at h ⊢; exact hx h
  · rw [if_neg hc] at h ⊢; exact hy h

theorem of_ite_error_eq_ok {ε α : Type} {c : Prop} [Decidable c] {k : ε} {x : Except ε α} {a : α}
    (h : (if c then .error k else x) = .ok a) : ¬c ∧ x = .ok a := by
  by_cases hc : c
  · rw [if_pos hc] at h; cases h
  · rw [if_neg hc] at h; exact ⟨hc, h⟩

theorem ite_error_bind {ε α β : Type} {c : Prop} [Decidable c] (k : ε) (x : Except ε α) (f : α → Except ε β) :
    ((if c then .error k else x) >>= f) = if c then .error k else x >>= f := by
  by_cases hc : c
  · rw [if_pos hc, if_pos hc]; rfl
  · rw [if_neg hc, if_neg hc]

theorem ite_error_mapError {ε ε' α : Type} {c : Prop} [Decidable c] (g : ε → ε') (k : ε) (x : Except ε α) :
    (if c then .error k else x).mapError g = if c then .error (g k) else x.mapError g := by
  by_cases hc : c
  · rw [if_pos hc, if_pos hc]; rfl
  · rw [if_neg hc, if_neg hc]

theorem ite_some_eq_none_iff {α : Type} {c : Prop} [Decidable c] {a : α} {x : Option α} :
    (if c then some a else x) = none ↔ ¬c ∧ x = none := by
  by_cases h : c <;> simp [h]

theorem mapM_cons_ok {ε α β} {f : α → Except ε β} {a : α} {l : List α} {ys : List β} :
    (a :: l).mapM f = .ok ys ↔ ∃ b bs, f a = .ok b ∧ l.mapM f = .ok bs ∧ ys = b :: bs := by
  rw [List.mapM_cons]
  cases f a with
  | error e => simp [bind, Except.bind]
  | ok b => cases l.mapM f <;> simp [bind, Except.bind, pure, Except.pure, eq_comm]

theorem mapM_cons_error {ε α β} {f : α → Except ε β} {a : α} {l : List α} {e : ε} :
    (a :: l).mapM f = .error e ↔ f a = .error e ∨ (∃ b, f a = .ok b) ∧ l.mapM f = .error e := by
  rw [List.mapM_cons]
  cases f a with
  | error e => simp [bind, Except.bind]
  | ok b => cases l.mapM f <;> simp [bind, Except.bind, pure, Except.pure]

theorem mapM_append_ok {ε α β} (f : α → Except ε β) (l1 l2 : List α) :
    (l1 ++ l2).mapM f = (l1.mapM f).bind fun a => (l2.mapM f).map (a ++ ·) := by
  induction l1 with
  | nil => rw [List.nil_append]; cases l2.mapM f <;> rfl
  | cons a t ih =>
    rw [List.cons_append, List.mapM_cons, List.mapM_cons, ih]
    cases f a with
    | error e => rfl
    | ok b =>
      cases t.mapM f with
      | error e => rfl
      | ok bs => cases l2.mapM f <;> rfl

theorem mapM_ok_get {ε α β} (f : α → Except ε β) (l : List α) (r : List β) (h : l.mapM f = .ok r) :
    r.length = l.length ∧ ∀ i (hi : i < l.length) (hr : i < r.length), f l[i] = .ok r[i] := by
  induction l generalizing r with
  | nil => cases h; exact ⟨rfl, fun i hi => absurd hi (Nat.not_lt_zero i)⟩
  | cons a l ih =>
    obtain ⟨b, bs, hb, hbs, rfl⟩ := mapM_cons_ok.mp h
    obtain ⟨h1, h2⟩ := ih _ hbs
    refine ⟨congrArg (· + 1) h1, fun i hi hr => ?_⟩
    cases i with
    | zero => exact hb
    | succ j => exact h2 j (Nat.lt_of_succ_lt_succ hi) (Nat.lt_of_succ_lt_succ hr)

theorem mapM_ok_length {ε α β} {f : α → Except ε β} (l : List α) (r : List β) (h : l.mapM f = .ok r) :
    r.length = l.length :=
  (mapM_ok_get f l r h).1

theorem mapM_mem_ok {ε α β} (f : α → Except ε β) (l : List α) (r : List β) (h : l.mapM f = .ok r) :
    ∀ y ∈ r, ∃ x ∈ l, f x = .ok y := by
  induction l generalizing r with
  | nil => cases h; intro y hy; cases hy
  | cons a l ih =>
    obtain ⟨b, bs, hb, hbs, rfl⟩ := mapM_cons_ok.mp h
    intro y hy
    rcases List.mem_cons.mp hy with rfl | hy
    · exact ⟨a, List.mem_cons_self, hb⟩
    · obtain ⟨x, hx, hfx⟩ := ih _ hbs y hy
      exact ⟨x, List.mem_cons_of_mem _ hx, hfx⟩

theorem mapM_ok_of_mem {ε α β} (f : α → Except ε β) (l : List α) (r : List β) (h : l.mapM f = .ok r) :
    ∀ x ∈ l, ∃ y ∈ r, f x = .ok y := by
  induction l generalizing r with
  | nil => intro x hx; cases hx
  | cons a l ih =>
    obtain ⟨b, bs, hb, hbs, rfl⟩ := mapM_cons_ok.mp h
    intro x hx
    rcases List.mem_cons.mp hx with rfl | hx
    · exact ⟨b, List.mem_cons_self, hb⟩
    · obtain ⟨y, hy, hfx⟩ := ih _ hbs x hx
      exact ⟨y, List.mem_cons_of_mem _ hy, hfx⟩

theorem mapM_ok_map {ε α β γ} {f : α → Except ε β} (ka : α → γ) (kb : β → γ)
    (hf : ∀ a b, f a = .ok b → kb b = ka a) :
    ∀ (l : List α) (ys : List β), l.mapM f = .ok ys → ys.map kb = l.map ka := by
  intro l
  induction l with
  | nil => intro ys h; cases h; rfl
  | cons a t ih =>
    intro ys h
    obtain ⟨b, bs, ha, ht, rfl⟩ := mapM_cons_ok.mp h
    rw [List.map_cons, List.map_cons, hf a b ha, ih bs ht]

theorem mapM_error_mem {ε α β} (f : α → Except ε β) (l : List α) (e : ε) (h : l.mapM f = .error e) :
    ∃ x ∈ l, f x = .error e := by
  induction l with
  | nil => cases h
  | cons a l ih =>
    rcases mapM_cons_error.mp h with ha | ⟨_, hl⟩
    · exact ⟨a, List.mem_cons_self, ha⟩
    · obtain ⟨x, hx, hfx⟩ := ih hl
      exact ⟨x, List.mem_cons_of_mem _ hx, hfx⟩

theorem mapM_ok_of_forall {ε α β} (f : α → Except ε β) (l : List α) (h : ∀ x ∈ l, ∃ y, f x = .ok y) :
    ∃ ys, l.mapM f = .ok ys := by
  cases hm : l.mapM f with
  | ok ys => exact ⟨ys, rfl⟩
  | error e =>
    obtain ⟨x, hx, he⟩ := mapM_error_mem f l e hm
    obtain ⟨y, hy⟩ := h x hx
    rw [hy] at he; cases he

theorem mapM_error_of_mem {ε α β} (f : α → Except ε β) (l : List α) (x : α) (hx : x ∈ l) (e : ε)
    (h : f x = .error e) : ∃ e', l.mapM f = .error e' := by
  induction l with
  | nil => cases hx
  | cons a l ih =>
    rw [List.mapM_cons]
    cases hf : f a with
    | error e' => exact ⟨e', rfl⟩
    | ok v =>
      rcases List.mem_cons.mp hx with rfl | hx
      · rw [hf] at h; cases h
      · obtain ⟨e', he⟩ := ih hx
        exact ⟨e', by rw [he]; rfl⟩

theorem Engine.mapM_perm {α β ε} (f : α → Except ε β) {l l' : List α} (hp : l.Perm l') :
    ∀ ys, l.mapM f = .ok ys → ∃ ys', l'.mapM f = .ok ys' ∧ ys.Perm ys' := by
  induction hp with
  | nil => intro ys h; exact ⟨ys, h, List.Perm.refl _⟩
  | cons a _ ih =>
    intro ys h
    obtain ⟨b, bs, ha, ht, rfl⟩ := mapM_cons_ok.mp h
    obtain ⟨ys', h1, h2⟩ := ih bs ht
    exact ⟨b :: ys', mapM_cons_ok.mpr ⟨b, ys', ha, h1, rfl⟩, h2.cons b⟩
  | swap a b l0 =>
    intro ys h
    obtain ⟨b', _, hb, h1, rfl⟩ := mapM_cons_ok.mp h
    obtain ⟨a', bs, ha, ht, rfl⟩ := mapM_cons_ok.mp h1
    exact ⟨a' :: b' :: bs, mapM_cons_ok.mpr ⟨a', _, ha, mapM_cons_ok.mpr ⟨b', bs, hb, ht, rfl⟩, rfl⟩,
      List.Perm.swap _ _ _⟩
  | trans _ _ ih1 ih2 =>
    intro ys h
    obtain ⟨ys1, h1, p1⟩ := ih1 ys h
    obtain ⟨ys2, h2, p2⟩ := ih2 ys1 h1
    exact ⟨ys2, h2, p1.trans p2⟩

theorem foldlM_nil_ok {ε α β} {f : β → α → Except ε β} {b b' : β}
    (h : ([] : List α).foldlM f b = .ok b') : b' = b :=
  (Except.ok.inj h).symm

theorem foldlM_cons_ok {ε α β} {f : β → α → Except ε β} {a : α} {l : List α} {b b' : β}
    (h : (a :: l).foldlM f b = .ok b') : ∃ b1, f b a = .ok b1 ∧ l.foldlM f b1 = .ok b' := by
  rw [List.foldlM_cons] at h
  exact bind_eq_ok.mp h

theorem foldlM_inv_mem {ε σ α} (f : σ → α → Except ε σ) (P : σ → Prop) (cs : List α)
    (hstep : ∀ s, ∀ c ∈ cs, ∀ s', P s → f s c = .ok s' → P s') (s s' : σ) (hs : P s)
    (h : cs.foldlM f s = .ok s') : P s' := by
  induction cs generalizing s with
  | nil => exact foldlM_nil_ok h ▸ hs
  | cons c cs ih =>
    obtain ⟨s1, h1, h⟩ := foldlM_cons_ok h
    exact ih (fun s c hc => hstep s c (List.mem_cons_of_mem _ hc)) s1 (hstep s c List.mem_cons_self s1 hs h1) h

theorem foldlM_inv {ε σ α} (f : σ → α → Except ε σ) (P : σ → Prop)
    (hstep : ∀ s c s', P s → f s c = .ok s' → P s') (cs : List α) (s s' : σ) (hs : P s)
    (h : cs.foldlM f s = .ok s') : P s' :=
  foldlM_inv_mem f P cs (fun s c _ => hstep s c) s s' hs h

theorem foldlM_inv_prefix {ε σ α} (f : σ → α → Except ε σ) (P : List α → σ → Prop)
    (hstep : ∀ pre s c s', P pre s → f s c = .ok s' → P (pre ++ [c]) s') (cs pre : List α) (s s' : σ)
    (hs : P pre s) (h : cs.foldlM f s = .ok s') : P (pre ++ cs) s' := by
  induction cs generalizing pre s with
  | nil => cases h; simpa using hs
  | cons c cs ih =>
    obtain ⟨s1, h1, h⟩ := foldlM_cons_ok h
    simpa using ih (pre ++ [c]) s1 (hstep pre s c s1 hs h1) h

theorem foldlM_ok_mem {ε σ α} (f : σ → α → Except ε σ) (cs : List α) (s s' : σ)
    (h : cs.foldlM f s = .ok s') : ∀ c ∈ cs, ∃ s1 s2, f s1 c = .ok s2 := by
  induction cs generalizing s with
  | nil => exact fun _ hc => nomatch hc
  | cons c cs ih =>
    obtain ⟨s1, h1, h⟩ := foldlM_cons_ok h
    exact fun c' hc' => (List.mem_cons.mp hc').elim (fun e => e ▸ ⟨s, s1, h1⟩) (ih s1 h c')

theorem foldlM_error_split {ε σ α} (f : σ → α → Except ε σ) (cs : List α) (s : σ) (e : ε)
    (h : cs.foldlM f s = .error e) :
    ∃ pre c post s1, cs = pre ++ c :: post ∧ pre.foldlM f s = .ok s1 ∧ f s1 c = .error e := by
  induction cs generalizing s with
  | nil => cases h
  | cons c cs ih =>
    rw [List.foldlM_cons] at h
    rcases bind_eq_error.mp h with h | ⟨s1, h1, h⟩
    · exact ⟨[], c, cs, s, rfl, rfl, h⟩
    · obtain ⟨pre, d, post, s2, e1, e2, e3⟩ := ih s1 h
      exact ⟨c :: pre, d, post, s2, by rw [e1]; rfl, by rw [List.foldlM_cons, h1]; exact e2, e3⟩

theorem foldlM_error {ε σ α} (f : σ → α → Except ε σ) (cs : List α) (s : σ) (e : ε)
    (h : cs.foldlM f s = .error e) : ∃ s1 c, f s1 c = .error e :=
  let ⟨_, c, _, s1, _, _, h⟩ := foldlM_error_split f cs s e h
  ⟨s1, c, h⟩

theorem foldlM_some_inv {σ α} (f : σ → α → Option σ) (P : σ → Prop) {cs : List α}
    (hstep : ∀ s c s', c ∈ cs → P s → f s c = some s' → P s') {s s' : σ} (hs : P s)
    (h : cs.foldlM f s = some s') : P s' := by
  induction cs generalizing s with
  | nil => cases h; exact hs
  | cons c cs ih =>
    simp only [List.foldlM_cons, Option.bind_eq_bind, Option.bind_eq_some_iff] at h
    obtain ⟨s1, h1, h2⟩ := h
    exact ih (fun s c s' hc => hstep s c s' (List.mem_cons_of_mem _ hc))
      (hstep s c s1 List.mem_cons_self hs h1) h2

end EinoV
