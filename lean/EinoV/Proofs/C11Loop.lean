/-
  C11 — lemmas for Model/C11Loop.lean: which executions of a node in a resumed run have their
  pre-handler, and how many handler operations the pipeline of n+1 executions contains.
-/
import EinoV.Model.C11Loop

namespace EinoV.C11

variable {S V : Type}

theorem skipsPre_later (cpSkip : Bool) {k : Nat} (hk : 1 ≤ k) : skipsPre true cpSkip k = false := by
  have : (k == 0) = false := by
    cases k with
    | zero => omega
    | succ k => rfl
  simp [skipsPre, this]

theorem skipsPre_restored (perTask cpSkip : Bool) : skipsPre perTask cpSkip 0 = cpSkip := by
  simp [skipsPre]

theorem skipsPre_perNode (k : Nat) : skipsPre false true k = true := by
  simp [skipsPre]

theorem execTask_prog (perTask cpSkip : Bool) (nd : LoopNode S V) (k : Nat) (v : V) :
    (execTask perTask cpSkip nd k v).prog = execProg perTask cpSkip nd k := by
  unfold Task.prog execTask execProg
  cases skipsPre perTask cpSkip k <;> rfl

theorem loopProg_zero (perTask cpSkip : Bool) (nd : LoopNode S V) :
    loopProg perTask cpSkip nd 0 = execProg perTask cpSkip nd 0 := by
  simp [loopProg]

theorem loopProg_succ (perTask cpSkip : Bool) (nd : LoopNode S V) (n : Nat) :
    loopProg perTask cpSkip nd (n + 1) =
      loopProg perTask cpSkip nd n ++ execProg perTask cpSkip nd (n + 1) := by
  unfold loopProg
  rw [List.range_succ, List.flatMap_append]
  simp

theorem countP_hOp (q : Op S V → Bool) (b : Bool) {o : Option (Wrapper × (S → V → S × V))}
    (h : ∀ w f, o = some (w, f) → q (.st w f) = b) :
    List.countP q (hOp o) = if o.isSome && b then 1 else 0 := by
  cases o with
  | none => rfl
  | some x => cases b <;> simp [hOp, h x.1 x.2 rfl]

theorem wf_isPre {nd : LoopNode S V} (h : nd.WF) (w f) (e : nd.pre = some (w, f)) :
    isPreOp (Op.st w f) = true ∧ isPostOp (Op.st w f) = false := by
  rcases h.pre w f e with rfl | rfl <;> exact ⟨rfl, rfl⟩

theorem wf_isPost {nd : LoopNode S V} (h : nd.WF) (w f) (e : nd.post = some (w, f)) :
    isPreOp (Op.st w f) = false ∧ isPostOp (Op.st w f) = true := by
  rcases h.post w f e with rfl | rfl <;> exact ⟨rfl, rfl⟩

theorem countP_body_pre {nd : LoopNode S V} (h : nd.WF) (k : Nat) :
    List.countP isPreOp (nd.body k) = 0 := by
  rw [List.countP_eq_zero]
  intro o ho; simp [(h.body k o ho).1]

theorem countP_body_post {nd : LoopNode S V} (h : nd.WF) (k : Nat) :
    List.countP isPostOp (nd.body k) = 0 := by
  rw [List.countP_eq_zero]
  intro o ho; simp [(h.body k o ho).2]

theorem countP_pre_exec {nd : LoopNode S V} (h : nd.WF) (perTask cpSkip : Bool) (k : Nat) :
    List.countP isPreOp (execProg perTask cpSkip nd k) =
      if skipsPre perTask cpSkip k then 0 else (if nd.pre.isSome then 1 else 0) := by
  unfold execProg
  rw [List.countP_append, List.countP_append, countP_body_pre h,
    countP_hOp isPreOp false fun w f e => (wf_isPost h w f e).1]
  cases skipsPre perTask cpSkip k
  · simp [countP_hOp isPreOp true fun w f e => (wf_isPre h w f e).1]
  · simp

theorem countP_post_exec {nd : LoopNode S V} (h : nd.WF) (perTask cpSkip : Bool) (k : Nat) :
    List.countP isPostOp (execProg perTask cpSkip nd k) = if nd.post.isSome then 1 else 0 := by
  unfold execProg
  rw [List.countP_append, List.countP_append, countP_body_post h,
    countP_hOp isPostOp true fun w f e => (wf_isPost h w f e).2]
  cases skipsPre perTask cpSkip k
  · simp [countP_hOp isPostOp false fun w f e => (wf_isPre h w f e).2]
  · simp

theorem countP_pre_loop {nd : LoopNode S V} (h : nd.WF) (perTask cpSkip : Bool) (n : Nat) :
    List.countP isPreOp (loopProg perTask cpSkip nd n) =
      if nd.pre.isSome then (if cpSkip then (if perTask then n else 0) else n + 1) else 0 := by
  induction n with
  | zero =>
    rw [loopProg_zero, countP_pre_exec h, skipsPre_restored]
    cases cpSkip <;> cases nd.pre.isSome <;> simp
  | succ n ih =>
    rw [loopProg_succ, List.countP_append, ih, countP_pre_exec h]
    cases perTask <;> cases cpSkip <;> cases nd.pre.isSome <;> simp [skipsPre]

theorem countP_post_loop {nd : LoopNode S V} (h : nd.WF) (perTask cpSkip : Bool) (n : Nat) :
    List.countP isPostOp (loopProg perTask cpSkip nd n) = if nd.post.isSome then n + 1 else 0 := by
  induction n with
  | zero => rw [loopProg_zero, countP_post_exec h]
  | succ n ih =>
    rw [loopProg_succ, List.countP_append, ih, countP_post_exec h]
    cases nd.post.isSome <;> simp

end EinoV.C11
