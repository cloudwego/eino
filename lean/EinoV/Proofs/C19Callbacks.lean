import EinoV.Model.C19Callbacks
namespace EinoV.C19.Cb

theorem handedAux_every (seen : List Nat) (l : List Occ) (i : Nat) :
    handedAux .everyKept seen l i = List.range' i l.length := by
  induction l generalizing seen i with
  | nil => rfl
  | cons o rest ih => simp only [handedAux, ih, List.length_cons, List.range'_succ]

theorem handedAux_skip_le (seen : List Nat) (l : List Occ) (i : Nat) :
    (handedAux .skipRepeated seen l i).length ≤ l.length := by
  induction l generalizing seen i with
  | nil => simp [handedAux]
  | cons o rest ih =>
    simp only [handedAux]
    split
    · have := ih seen (i + 1); simp only [List.length_cons]; omega
    · have := ih (o.id :: seen) (i + 1); simp only [List.length_cons]; omega

theorem handedAux_skip_seen (seen : List Nat) (o : Occ) (rest : List Occ) (i : Nat)
    (h : seen.contains o.id = true) :
    (handedAux .skipRepeated seen (o :: rest) i).length ≤ rest.length := by
  simp only [handedAux, h, ↓reduceIte]
  exact handedAux_skip_le _ _ _

end EinoV.C19.Cb
