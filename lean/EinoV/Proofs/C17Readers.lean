/-
  C17, stream readers (Model/C17Readers.lean): with an allocating concatenation a read writes nothing
  back into the store, so every reader finds the chunks as they were sent.
-/
import EinoV.Model.C17Readers

namespace EinoV.C17

def ConcatFacts.Good (CF : ConcatFacts) : Prop := CF.arrayAllocates = true ∧ CF.msgsAllocates = true

theorem writeBack_good {CF : ConcatFacts} (h : CF.Good) (cells : Cells) (res : List (Option Msg)) :
    writeBack CF cells res = cells := by
  obtain ⟨h1, h2⟩ := h
  unfold writeBack
  simp [h1, h2]

theorem readOnce_good {CF : ConcatFacts} (h : CF.Good) (cells : Cells) :
    readOnce CF cells = (collect cells, cells) := by
  unfold readOnce
  cases hc : collect cells with
  | ok res => simp [writeBack_good h]
  | error e => rfl

theorem readK_good {CF : ConcatFacts} (h : CF.Good) :
    ∀ (k : Nat) (cells : Cells), readK CF k cells = (List.replicate k (collect cells), cells)
  | 0, _ => rfl
  | k + 1, cells => by
    simp only [readK, readOnce_good h, readK_good h k cells, List.replicate_succ]

end EinoV.C17
