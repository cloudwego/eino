/- C20: without key options the keyed builder model (Model/C20Keys.lean) is the builder model
   (Model/C20Builder.lean): same outcomes, same runners, same builder after every call. -/
import EinoV.Model.C20Keys
import EinoV.Proofs.C20
import EinoV.Proofs.C20Infer
import EinoV.Proofs.C20Keys

namespace EinoV.Build


/-- an error of the builder model is an error value, never a panic -/
def liftE {α β : Type} (g : α → β) : Except ErrKind α → Except Fail β
  | .ok a => .ok (g a)
  | .error k => .error (.err k)

theorem liftE_ite_error {α β : Type} {c : Prop} [Decidable c] (g : α → β) (k : ErrKind) (x : Except ErrKind α) :
    liftE g (if c then .error k else x) = if c then .error (.err k) else liftE g x :=
  apply_ite (liftE g) c _ x

@[simp] theorem ofB_b (b : Builder) (mt : Ty) : (XB.ofB b mt).b = b := rfl
@[simp] theorem ofB_nodeIn (b : Builder) (mt : Ty) (k : Key) : (XB.ofB b mt).nodeIn k = b.nodeIn k := by
  simp [XB.nodeIn, XB.ofB]
@[simp] theorem ofB_nodeOut (b : Builder) (mt : Ty) (k : Key) : (XB.ofB b mt).nodeOut k = b.nodeOut k := by
  simp [XB.nodeOut, XB.ofB]
@[simp] theorem ofB_keyed (b : Builder) (mt : Ty) (k : Key) : (XB.ofB b mt).keyed k = false := by
  simp [XB.keyed, XB.ofB]
theorem ofB_helperNilIn (K : KFacts) (b : Builder) (mt : Ty) (k : Key) :
    (XB.ofB b mt).helperNilIn K k = (b.nodeIn k).isNone := by
  simp [XB.helperNilIn]
theorem ofB_helperNilOut (K : KFacts) (b : Builder) (mt : Ty) (k : Key) :
    (XB.ofB b mt).helperNilOut K k = (b.nodeOut k).isNone := by
  simp [XB.helperNilOut]
@[simp] theorem ofB_setTy (b : Builder) (mt : Ty) (k : Key) (t : Ty) :
    (XB.ofB b mt).setTy k t = XB.ofB (b.setTy k t) mt := rfl
theorem ofB_branchStartTyped (f : Facts) (b : Builder) (mt : Ty) (s : Key) (t : Ty) :
    (XB.ofB b mt).branchStartTyped f s t = XB.ofB (branchStartTyped f b s t) mt :=
  (apply_ite (XB.ofB · mt) _ _ _).symm
theorem ofB_with (b b' : Builder) (mt : Ty) : ({ XB.ofB b mt with b := b' } : XB) = XB.ofB b' mt := rfl

theorem procEntriesX_plain (K : KFacts) (im : Impl) (mt : Ty) (s : Key) (sTy : Option Ty) :
    ∀ (l : List PEdge) (b : Builder) (kept : List PEdge) (ch : Bool),
      (sTy.isSome = true → (b.nodeOut s).isSome = true) →
      procEntriesX K im s sTy l (XB.ofB b mt) kept ch =
        liftE (fun r => (XB.ofB r.1 mt, r.2.1, r.2.2)) (procEntries im s sTy l b kept ch)
  | [], b, kept, ch, _ => rfl
  | pe :: rest, b, kept, ch, hs => by
    unfold procEntriesX procEntries
    simp only [ofB_nodeIn, ofB_helperNilIn, ofB_helperNilOut]
    cases sTy with
    | none =>
      cases he : b.nodeIn pe.dst with
      | none => exact procEntriesX_plain K im mt s _ rest b _ _ hs
      | some et => exact procEntriesX_plain K im mt s _ rest _ _ _ (fun h => by simp at h)
    | some st =>
      have hn : (b.nodeOut s).isNone = false := by rw [← Option.not_isSome, hs rfl]; rfl
      cases he : b.nodeIn pe.dst with
      | none =>
        simp only [hn, Bool.false_eq_true, ↓reduceIte, ofB_setTy]
        exact procEntriesX_plain K im mt s _ rest _ _ _ (fun h => nodeOut_setTy_isSome b _ _ s (hs h))
      | some et =>
        simp only []
        cases hm : pe.mapped with
        | some t => exact procEntriesX_plain K im mt s _ rest _ _ _ (fun h => hs h)
        | none =>
          simp only []
          cases hc : checkAssignable im (some st) (some et) with
          | mustNot => rfl
          | may => exact procEntriesX_plain K im mt s _ rest _ _ _ (fun h => hs h)
          | must => exact procEntriesX_plain K im mt s _ rest b _ _ hs

theorem updRoundX_plain (K : KFacts) (im : Impl) (mt : Ty) :
    ∀ (ks : List Key) (b : Builder) (ch : Bool),
      updRoundX K im ks (XB.ofB b mt) ch = liftE (fun r => (XB.ofB r.1 mt, r.2)) (updRound im ks b ch)
  | [], b, ch => rfl
  | s :: ks, b, ch => by
    unfold updRoundX updRound
    simp only [ofB_nodeOut, ofB_b]
    rw [procEntriesX_plain K im mt s _ _ b [] false (fun h => h)]
    cases procEntries im s (b.nodeOut s) (getSlice b.toValidate s) b [] false with
    | error k => rfl
    | ok r => exact updRoundX_plain K im mt ks _ _

theorem updLoopX_plain (K : KFacts) (im : Impl) (ord : Ord) (mt : Ty) :
    ∀ (fuel : Nat) (b : Builder),
      updLoopX K im ord fuel (XB.ofB b mt) = liftE (fun r => XB.ofB r mt) (updLoop im ord fuel b)
  | 0, b => rfl
  | fuel + 1, b => by
    unfold updLoopX updLoop
    simp only [ofB_b]
    rw [updRoundX_plain]
    cases updRound im (ord.keys b (b.toValidate.map (·.1))) b false with
    | error k => rfl
    | ok r =>
      obtain ⟨b', ch⟩ := r
      simp only [liftE]
      split
      · exact updLoopX_plain K im ord mt fuel b'
      · rfl

theorem updateX_plain (K : KFacts) (im : Impl) (ord : Ord) (mt : Ty) (b : Builder) :
    updateX K im ord (XB.ofB b mt) = liftE (fun r => XB.ofB r mt) (update im ord b) := by
  unfold updateX update
  exact updLoopX_plain K im ord mt _ b

theorem guardedX_plain (g : Guards) (b : Builder) (mt : Ty) (body : Except ErrKind Builder) :
    guardedX g (XB.ofB b mt) (liftE (fun r => XB.ofB r mt) body) =
      (XB.ofB (guarded g b body).1 mt, (guarded g b body).2) := by
  unfold guardedX guarded
  simp only [ofB_b]
  cases hE : (if g.checkErr = true then b.buildError else none) with
  | some k => rfl
  | none =>
    simp only []
    by_cases hc : (g.checkCompiled && b.compiled) = true
    · simp only [hc, ↓reduceIte]
    · simp only [hc]
      cases body with
      | ok b' => rfl
      | error k => cases g.storeErr <;> rfl

theorem addNodeCheckX_plain (b : Builder) (mt : Ty) (n : NodeSpec) :
    addNodeCheckX (XB.ofB b mt) n false false = addNodeCheck b n := by
  -- without key options the shown types are the own types: the two functions differ only in
  -- asking `passthrough` directly or through `shownIn` / `shownOut`
  obtain ⟨key, pt, inTy, outTy, pre, post, ko⟩ := n
  cases pt <;> rfl

theorem addNodeX_plain (f : Facts) (b : Builder) (mt : Ty) (n : NodeSpec) :
    addNodeX f (XB.ofB b mt) n false false = (XB.ofB (addNode f b n).1 mt, (addNode f b n).2) := by
  unfold addNodeX addNode
  rw [addNodeCheckX_plain]
  rw [← guardedX_plain]
  congr 1
  cases addNodeCheck b n <;> rfl

theorem addEdgeBodyX_plain (K : KFacts) (im : Impl) (ord : Ord) (b : Builder) (mt : Ty) (s e : Key)
    (nc nd : Bool) (m : Option Nat) :
    addEdgeBodyX K im ord (XB.ofB b mt) s e nc nd m =
      liftE (fun r => XB.ofB r mt) (addEdgeBody im ord b s e nc nd m) := by
  rw [addEdgeBodyX_split, addEdgeBody_split, ofB_b]
  cases edgeHead b s e nc with
  | error k => rfl
  | ok b1 =>
    show (if nd = true then _ else _) = liftE _ (if nd = true then _ else _)
    rw [apply_ite (liftE _), liftE_ite_error]
    simp only [ofB_with, updateX_plain]
    congr 2
    cases update im ord (b1.addToValidate s { dst := e, mapped := m }) <;> rfl

theorem addEdgeX_plain (K : KFacts) (f : Facts) (im : Impl) (ord : Ord) (b : Builder) (mt : Ty) (s e : Key)
    (nc nd : Bool) (m : Option Nat) :
    addEdgeX K f im ord (XB.ofB b mt) s e nc nd m =
      (XB.ofB (addEdge f im ord b s e nc nd m).1 mt, (addEdge f im ord b s e nc nd m).2) := by
  rw [addEdgeX_eq_guardedX, addEdge_eq_guarded]
  split
  · exact guardedX_plain _ b mt (.error .edgeBothNo)
  · rw [addEdgeBodyX_plain, guardedX_plain]

theorem branchEndsX_plain (K : KFacts) (im : Impl) (ord : Ord) (mt : Ty) (s : Key) :
    ∀ (es : List Key) (b : Builder),
      branchEndsX K im ord s es (XB.ofB b mt) = liftE (fun r => XB.ofB r mt) (branchEnds im ord s es b)
  | [], b => rfl
  | e :: es, b => by
    unfold branchEndsX branchEnds
    rw [liftE_ite_error]
    simp only [ofB_b, ofB_with, updateX_plain]
    congr 1
    cases update im ord (b.addToValidate s { dst := e, mapped := none }) with
    | error k => rfl
    | ok b1 => exact branchEndsX_plain K im ord mt s es _

theorem branchTailX_plain (K : KFacts) (f : Facts) (im : Impl) (ord : Ord) (b1 : Builder) (mt : Ty)
    (s : Key) (t : Ty) (ends : List Key) (sk flag : Bool) :
    branchTailX K f im ord (XB.ofB b1 mt) s t ends sk flag =
      liftE (fun r => XB.ofB r mt) (branchTail f im ord b1 s t ends sk flag) := by
  have hupd : ∀ b2 : Builder,
      (if f.branchPropagates = true then updateX K im ord (XB.ofB b2 mt) else .ok (XB.ofB b2 mt)) =
        liftE (fun r => XB.ofB r mt) (if f.branchPropagates = true then update im ord b2 else .ok b2) := by
    intro b2; split
    · exact updateX_plain K im ord mt b2
    · rfl
  have hends : ∀ b3 : Builder,
      (if sk = true then .ok (XB.ofB b3 mt) else branchEndsX K im ord s (ord.ends b3 ends) (XB.ofB b3 mt)) =
        liftE (fun r => XB.ofB r mt) (if sk = true then .ok b3 else branchEnds im ord s (ord.ends b3 ends) b3) := by
    intro b3; split
    · rfl
    · exact branchEndsX_plain K im ord mt s _ b3
  unfold branchTailX branchTail
  simp only [ofB_b, ofB_with, hupd]
  generalize (if f.branchPropagates = true then update im ord _ else Except.ok _) = r3
  cases r3 with
  | error k => rfl
  | ok b3 =>
    simp only [liftE, ofB_b, hends]
    generalize (if sk = true then Except.ok b3 else branchEnds im ord s (ord.ends b3 ends) b3) = r4
    cases r4 with
    | error k => rfl
    | ok b4 => rfl

theorem addBranchBodyX_plain (K : KFacts) (f : Facts) (im : Impl) (ord : Ord) (b : Builder) (mt : Ty)
    (s : Key) (t : Ty) (ends : List Key) (sk : Bool) :
    addBranchBodyX K f im ord (XB.ofB b mt) s t ends sk =
      liftE (fun r => XB.ofB r mt) (addBranchBody f im ord b s t ends sk) := by
  rw [addBranchBodyX_eq, addBranchBody_eq, ofB_branchStartTyped, liftE_ite_error, liftE_ite_error, liftE_ite_error]
  simp only [ofB_b, ofB_nodeOut]
  congr 3
  cases checkAssignable im ((branchStartTyped f b s t).nodeOut s) (some t) with
  | mustNot => rfl
  | must | may => exact branchTailX_plain K f im ord _ mt s t ends sk _

theorem addBranchX_plain (K : KFacts) (f : Facts) (im : Impl) (ord : Ord) (b : Builder) (mt : Ty)
    (s : Key) (t : Ty) (ends : List Key) (sk : Bool) :
    addBranchX K f im ord (XB.ofB b mt) s t ends sk =
      (XB.ofB (addBranch f im ord b s t ends sk).1 mt, (addBranch f im ord b s t ends sk).2) := by
  unfold addBranchX addBranch
  rw [addBranchBodyX_plain, guardedX_plain]

theorem ofB_shownUntyped (b : Builder) (mt : Ty) : (XB.ofB b mt).shownUntyped = b.hasUntyped := by
  simp [XB.shownUntyped, Builder.hasUntyped, XB.ofB]

theorem ofB_keyedUntyped (b : Builder) (mt : Ty) : (XB.ofB b mt).keyedUntyped = false := by
  simp [XB.keyedUntyped]

theorem ofB_plainUntyped (b : Builder) (mt : Ty) : (XB.ofB b mt).plainUntyped = b.hasUntyped := by
  simp [XB.plainUntyped, Builder.hasUntyped]

theorem compilePreX_plain (K : KFacts) (f : Facts) (hct : f.compileChecksTypes = true) (b : Builder) (mt : Ty)
    (o : COpts) : compilePreX K f (XB.ofB b mt) o = compilePre f b o := by
  unfold compilePreX compilePre
  simp only [ofB_b, ofB_shownUntyped, hct, Bool.true_and]
  by_cases hu : b.hasUntyped = true <;> by_cases hp : b.hasPending = true <;>
    (try simp only [Bool.not_eq_true] at hu hp) <;>
    simp only [hu, hp, Bool.and_false, Bool.false_eq_true, ↓reduceIte] <;> rfl

theorem compilePostX_plain (K : KFacts) (b : Builder) (mt : Ty) (ord : Ord) (o : COpts) :
    compilePostX K (XB.ofB b mt) ord o = compilePost b ord o := by
  unfold compilePostX compilePost
  simp only [ofB_b, ofB_keyedUntyped, ofB_plainUntyped, Bool.and_false, Bool.false_eq_true, ↓reduceIte]
  rfl

theorem compileX_plain (K : KFacts) (f : Facts) (hct : f.compileChecksTypes = true) (ord : Ord) (b : Builder)
    (mt : Ty) (o : COpts) :
    compileX K f ord (XB.ofB b mt) o =
      (XB.ofB (compile f ord b o).1 mt, (compile f ord b o).2.1, (compile f ord b o).2.2) := by
  unfold compileX compile
  simp only [ofB_b]
  cases hb : b.buildError with
  | some k => rfl
  | none =>
    simp only []
    rw [compilePreX_plain K f hct]
    cases hp : compilePre f b o with
    | some k => rfl
    | none =>
      simp only [ofB_with]
      rw [compilePostX_plain]
      cases hq : compilePost (mutatePre f b) ord o with
      | some oc => rfl
      | none => rfl

theorem stepX_plain (K : KFacts) (f : Facts) (hct : f.compileChecksTypes = true) (im : Impl) (ord : Ord)
    (b : Builder) (mt : Ty) (op : Op) :
    stepX K f im ord (XB.ofB b mt) (.plain op) =
      (XB.ofB (step f im ord b op).1 mt, (step f im ord b op).2.1, (step f im ord b op).2.2) := by
  cases op with
  | node n => simp only [stepX, step, addNodeX_plain]
  | edge s e nc nd m => simp only [stepX, step, addEdgeX_plain]
  | branch s t ends sk => simp only [stepX, step, addBranchX_plain]
  | compile o => simp only [stepX, step]; exact compileX_plain K f hct ord b mt o

theorem runX_plain (K : KFacts) (f : Facts) (hct : f.compileChecksTypes = true) (im : Impl) (ord : Ord) (mt : Ty) :
    ∀ (ops : List Op) (b : Builder),
      runX K f im ord (XB.ofB b mt) (ops.map XOp.plain) =
        (XB.ofB (run f im ord b ops).1 mt, (run f im ord b ops).2.1, (run f im ord b ops).2.2)
  | [], b => rfl
  | op :: ops, b => by
    simp only [List.map_cons, runX, run, stepX_plain K f hct im ord b mt op]
    rw [runX_plain K f hct im ord mt ops]
    rfl

end EinoV.Build
