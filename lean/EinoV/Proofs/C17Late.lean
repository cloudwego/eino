/-
  C17, tools that answer late (Model/C17Late.lean).  While no step of a producer reacts to a done context
  (it is alive, or the producer ignores it) everything is delivered; in general what arrives is a prefix
  of the chunks that contains the eagerly produced part, and an error item comes only from `fail`.
-/
import EinoV.Model.C17Late

namespace EinoV.C17

/-- the shape /repo has (`genCtxFacts_good`, Props/C17.lean): the tools' context is the caller's and nothing the node does ends it -/
def CtxFacts.Good (CF : CtxFacts) : Prop := CF.notScoped = true ∧ CF.fromCaller = true

theorem ctxDone_good {CF : CtxFacts} (h : CF.Good) (b : Bool) : ctxDone CF b = b := by
  obtain ⟨h1, h2⟩ := h
  simp [ctxDone, h1, h2]

theorem cancelledAt_none (t : Nat) : cancelledAt none t = false := rfl

theorem cancelledAt_zero (t : Nat) : cancelledAt (some 0) t = true := by simp [cancelledAt]

theorem lateSteps_all {β : Type} (od : OnDone) (done : Nat → Bool)
    (h : ∀ j, done j = true → od = .ignore) (j : Nat) (xs : List β) :
    lateSteps od done j xs = xs.map .chunk := by
  fun_induction lateSteps od done j xs with
  | case1 => rfl
  | case2 j _ _ hd hod | case3 j _ _ hd hod => rw [h j hd] at hod; cases hod
  | case4 _ _ _ _ hod ih => subst hod; rw [ih]; rfl
  | case5 _ _ _ _ ih => rw [ih]; rfl

theorem produce_all {β : Type} (p : Pace) (done : Nat → Bool)
    (h : ∀ j, done j = true → p.onDone = .ignore) (xs : List β) :
    produce p done xs = xs.map .chunk := by
  unfold produce
  rw [lateSteps_all _ _ h, ← List.map_append, List.take_append_drop]

theorem lateSteps_done {β : Type} (od : OnDone) (done : Nat → Bool) (j : Nat) (h : done j = true)
    (x : β) (xs : List β) :
    lateSteps od done j (x :: xs) =
      match od with
      | .fail => [.ctxErr]
      | .stop => []
      | .ignore => (x :: xs).map .chunk := by
  cases od with
  | fail => simp [lateSteps, h]
  | stop => simp [lateSteps, h]
  | ignore => exact lateSteps_all _ done (fun _ _ => rfl) j (x :: xs)

theorem chunks_map_chunk {β : Type} (xs : List β) : chunksOfItems (xs.map Item.chunk) = xs := by
  rw [chunksOfItems, List.filterMap_map]
  exact List.filterMap_some

theorem chunks_lateSteps_prefix {β : Type} (od : OnDone) (done : Nat → Bool) (j : Nat) (xs : List β) :
    chunksOfItems (lateSteps od done j xs) <+: xs := by
  fun_induction lateSteps od done j xs with
  | case1 | case2 | case3 => exact List.nil_prefix
  | case4 _ _ _ _ hod ih => subst hod; exact List.cons_prefix_cons.2 ⟨rfl, ih⟩
  | case5 _ _ _ _ ih => exact List.cons_prefix_cons.2 ⟨rfl, ih⟩

theorem chunks_append {β : Type} (a b : List (Item β)) :
    chunksOfItems (a ++ b) = chunksOfItems a ++ chunksOfItems b := by
  simp [chunksOfItems]

theorem chunks_produce {β : Type} (p : Pace) (done : Nat → Bool) (xs : List β) :
    chunksOfItems (produce p done xs) <+: xs ∧ xs.take p.hold <+: chunksOfItems (produce p done xs) := by
  unfold produce
  rw [chunks_append, chunks_map_chunk]
  constructor
  · obtain ⟨t, ht⟩ := chunks_lateSteps_prefix p.onDone done 0 (xs.drop p.hold)
    refine ⟨t, ?_⟩
    rw [List.append_assoc, ht, List.take_append_drop]
  · exact List.prefix_append _ _

theorem ctxErr_mem_lateSteps {β : Type} (od : OnDone) (done : Nat → Bool) (j : Nat) (xs : List β)
    (h : Item.ctxErr ∈ lateSteps od done j xs) : od = .fail ∧ ∃ j', done j' = true := by
  fun_induction lateSteps od done j xs with
  | case1 | case3 => cases h
  | case2 j x xs hd hod => exact ⟨hod, j, hd⟩
  | case4 _ _ _ _ hod ih =>
    subst hod
    exact ih ((List.mem_cons.1 h).resolve_left nofun)
  | case5 _ _ _ _ ih => exact ih ((List.mem_cons.1 h).resolve_left nofun)

theorem ctxErr_mem_produce {β : Type} (p : Pace) (done : Nat → Bool) (xs : List β)
    (h : Item.ctxErr ∈ produce p done xs) : p.onDone = .fail ∧ ∃ j, done j = true := by
  unfold produce at h
  rw [List.mem_append] at h
  rcases h with h | h
  · obtain ⟨y, _, hy⟩ := List.mem_map.1 h
    cases hy
  · exact ctxErr_mem_lateSteps _ _ _ _ h

theorem length_deliver {β : Type} (CF : CtxFacts) (paces : Nat → Option Pace) (prod : List Nat)
    (cancel : Option Nat) (srcs : List (List β)) :
    (deliver CF paces prod cancel srcs).length = srcs.length := by
  simp [deliver]

theorem getElem_deliver {β : Type} (CF : CtxFacts) (paces : Nat → Option Pace) (prod : List Nat)
    (cancel : Option Nat) (srcs : List (List β)) (i : Nat) (h : i < srcs.length) :
    (deliver CF paces prod cancel srcs)[i]'(by rw [length_deliver]; exact h) =
      match paces i with
      | none => srcs[i].map .chunk
      | some p => produce p (fun j => ctxDone CF (cancelledAt cancel (timeOf prod i j))) srcs[i] := by
  cases hp : paces i <;> simp [deliver, hp]

theorem deliver_alive {β : Type} (CF : CtxFacts) (paces : Nat → Option Pace) (prod : List Nat)
    (cancel : Option Nat) (h : ∀ t, ctxDone CF (cancelledAt cancel t) = false)
    (srcs : List (List β)) :
    deliver CF paces prod cancel srcs = srcs.map (·.map .chunk) := by
  apply List.ext_getElem
  · simp [length_deliver]
  · intro i h1 h2
    have hi : i < srcs.length := by simpa [length_deliver] using h1
    rw [getElem_deliver _ _ _ _ _ i hi]
    cases paces i with
    | none => simp
    | some p =>
      rw [List.getElem_map]
      refine produce_all p _ (fun j hj => ?_) _
      rw [h] at hj
      cases hj

end EinoV.C17
