/-
  C13 — helper lemmas about the stream-forwarding goroutines (Model/C13Fwd.lean).
-/
import EinoV.Model.C13Fwd

namespace EinoV.C13

theorem build_panics_ty (f : FwdFacts) (t : STree) : ∀ (r : Rd), build f t = some r →
    r.panics.isSome = true → (r.ty = .conv ∨ r.ty = .child) := by
  induction t with
  | arr xs => intro r h hp; cases h; cases hp
  | pipe xs => intro r h hp; cases h; cases hp
  | conv s p e ih =>
    intro r h _
    simp only [build] at h
    split at h
    · cases h
    · cases h; exact Or.inl rfl
  | copy s ih =>
    intro r h hp
    simp only [build] at h
    split at h
    · cases h
    · rename_i r' hr'
      cases h
      rcases ih r' hr' hp with h1 | h1 <;> simp [h1]
  | merge a b iha ihb =>
    -- a merged reader never panics on its puller
    intro r h hp
    simp only [build] at h
    split at h
    · split at h
      · cases h; cases hp
      · split at h
        · cases h; cases hp
        · cases h
    · cases h

-- `⟨true, true⟩ : FwdFacts` is `⟨convRecovers, childRecovers⟩`: both forwarding goroutines of
-- schema/stream.go recover; it is the value of `srcFwd`, read off /repo (`srcFwd_eq`, Props/C13.lean).
theorem mergeSide_recovering (r : Rd) :
    mergeSide ⟨true, true⟩ r = some (match r.panics with
      | none => r.evs
      | some v => if r.ty = .conv ∨ r.ty = .child then r.evs ++ [.perr v] else r.evs) := by
  unfold mergeSide forward
  cases hp : r.panics <;> cases ht : r.ty <;> simp

theorem build_recovering_isSome (t : STree) : (build ⟨true, true⟩ t).isSome = true := by
  induction t with
  | arr xs => rfl
  | pipe xs => rfl
  | conv s p e ih =>
    obtain ⟨r, hr⟩ := Option.isSome_iff_exists.mp ih
    simp only [build, hr]; rfl
  | copy s ih =>
    obtain ⟨r, hr⟩ := Option.isSome_iff_exists.mp ih
    simp only [build, hr]; rfl
  | merge a b iha ihb =>
    obtain ⟨ra, hra⟩ := Option.isSome_iff_exists.mp iha
    obtain ⟨rb, hrb⟩ := Option.isSome_iff_exists.mp ihb
    simp only [build, hra, hrb, mergeSide_recovering]
    split <;> rfl

theorem mergeSide_recovering_mem (r : Rd) : ∃ es, mergeSide ⟨true, true⟩ r = some es ∧
    (∀ e ∈ r.evs, e ∈ es) ∧ (∀ v, r.panics = some v → (r.ty = .conv ∨ r.ty = .child) → Ev.perr v ∈ es) := by
  refine ⟨_, mergeSide_recovering r, ?_⟩
  cases hp : r.panics with
  | none => exact ⟨fun _ he => he, fun v hv => by cases hv⟩
  | some w =>
    by_cases hty : r.ty = .conv ∨ r.ty = .child
    · simp only [if_pos hty]
      exact ⟨fun _ he => List.mem_append_left _ he, fun v hv _ => by cases hv; simp⟩
    · exact ⟨fun _ he => by simpa only [if_neg hty] using he, fun _ _ h' => absurd h' hty⟩

theorem build_merge_recovering (a b : STree) (ra rb r : Rd)
    (ha : build ⟨true, true⟩ a = some ra) (hb : build ⟨true, true⟩ b = some rb)
    (hr : build ⟨true, true⟩ (.merge a b) = some r) :
    r.panics = none ∧ (∀ e ∈ ra.evs, e ∈ r.evs) ∧ (∀ e ∈ rb.evs, e ∈ r.evs) ∧
    (∀ v, ra.panics = some v → Ev.perr v ∈ r.evs) ∧ (∀ v, rb.panics = some v → Ev.perr v ∈ r.evs) := by
  have hpa : ∀ v, ra.panics = some v → ra.ty = .conv ∨ ra.ty = .child :=
    fun v hv => build_panics_ty ⟨true, true⟩ a ra ha (by simp [hv])
  have hpb : ∀ v, rb.panics = some v → rb.ty = .conv ∨ rb.ty = .child :=
    fun v hv => build_panics_ty ⟨true, true⟩ b rb hb (by simp [hv])
  obtain ⟨ea, hea, a1, a2⟩ := mergeSide_recovering_mem ra
  obtain ⟨eb, heb, b1, b2⟩ := mergeSide_recovering_mem rb
  simp only [build, ha, hb, hea, heb] at hr
  split at hr
  · -- two arrays are concatenated; an array never panics
    rename_i hc
    cases hr
    exact ⟨rfl, fun e he => List.mem_append_left _ he, fun e he => List.mem_append_right _ he,
      fun v hv => by rcases hpa v hv with h1 | h1 <;> simp [h1] at hc,
      fun v hv => by rcases hpb v hv with h1 | h1 <;> simp [h1] at hc⟩
  · cases hr
    exact ⟨rfl, fun e he => List.mem_append_left _ (a1 e he), fun e he => List.mem_append_right _ (b1 e he),
      fun v hv => List.mem_append_left _ (a2 v hv (hpa v hv)),
      fun v hv => List.mem_append_right _ (b2 v hv (hpb v hv))⟩

end EinoV.C13
