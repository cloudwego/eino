import EinoV.Model.C04Key
import EinoV.Proofs.C04Lazy
namespace EinoV.C04
open EinoV.Engine

theorem panicsAt_safe {V} (l : List (KVal V)) : panicsAt true l = false := by
  induction l with
  | nil => rfl
  | cons a l ih => cases a <;> simp [panicsAt, ih]

theorem keyStream_good {V} (vs : List V) :
    keyStream (vs.map KVal.good) = { chunks := vs, err := none } := by
  induction vs with
  | nil => rfl
  | cons v vs ih => simp [keyStream, ih]

/-- the one-chunk stream is what `Stream` and every invoke-only producer hand over -/
theorem key_single_chunk {V} (co : ChunkOps V) (kv : KVal V) :
    Agree (keyValue kv) (lazyConcat co (keyStream [kv])) := by
  cases kv with
  | absent => exact .of_error rfl rfl
  | nilVal => exact .of_error rfl rfl
  | wrong => exact .of_error rfl rfl
  | good v => exact .of_ok rfl rfl

end EinoV.C04
