/-
  C05 / C06 — `foldFin` (resolve, updateValues, updateDependencies — no `get`) in any-predecessor (Pregel)
  mode: fold-then-get = get-after-all, and one `calculateNextTasks` does not depend on the order of the
  finished tasks.  Both read off the normal form of a Pregel superstep in Proofs/C01Pregel.lean
  (`calcNext_pregel_eq`: every channel has its `Spec.inbox` set over what it held, `deliver`; then
  `getReady`): `deliver` composes over appended batches, and a permuted batch permutes every inbox.
-/
import EinoV.Model.C05Nested
import EinoV.Proofs.C01Pregel
namespace EinoV.Interrupt
open EinoV.Engine

namespace PregelFold

variable {V : Type}

def gw (k : Key) (ws : List (Key × List (Key × V))) : List (Key × V) := (alookup k ws).getD []

theorem updateValues_map (r : Runner V) (ws : List (Key × List (Key × V))) :
    ∀ (cm : Chans V), (akeys ws).Nodup →
    updateValues r cm ws = cm.map (fun p =>
      (p.1, p.2.reportValues r.dag ((gw p.1 ws).filter (fun kv => (lookupList p.1 r.dataPreds).contains kv.1)))) := by
  intro cm hnd
  exact Engine.updateValues_map r ws cm hnd

theorem reportBranch_pregel (r : Runner V) (hdag : r.dag = false) (cm : Chans V) (f : Key) (sk : List Key) :
    reportBranch r cm f sk = .ok cm :=
  Engine.reportBranch_pregel r hdag cm f sk

end PregelFold

theorem foldFin_pregel {V} (r : Runner V) (h : r.dag = false) (cm : Chans V) (done : List (Done V)) :
    foldFin r cm done = (done.mapM (Spec.sentOf r)).map (deliver r · cm) := by
  obtain ⟨deps, hres⟩ := resolve_pregel r h done ⟨cm, [], []⟩
  rw [foldFin, resolve, hres]
  cases done.mapM (Spec.sentOf r) with
  | error e => rfl
  | ok sent => exact congrArg Except.ok (updates_pregel r h cm sent deps)

open PregelFold in
theorem pregel_fold_then_get {V} (ops : ValOps V) (base : Runner V) (hdag : base.dag = false)
    (cm : Chans V) (D1 D2 : List (Done V)) (cm' : Chans V) (nx : Next V)
    (h : calcNext ops base cm (D1 ++ D2) = .ok (cm', nx)) :
    ∃ cm2, foldFin base cm D1 = .ok cm2 ∧ calcNext ops base cm2 D2 = .ok (cm', nx) := by
  rw [calcNext_pregel_eq ops base hdag, mapM_append_ok] at h
  rw [foldFin_pregel base hdag]
  cases h1 : D1.mapM (Spec.sentOf base) with
  | error e => rw [h1] at h; cases h
  | ok s1 =>
    refine ⟨_, rfl, ?_⟩
    rw [calcNext_pregel_eq ops base hdag]
    rw [h1] at h
    cases h2 : D2.mapM (Spec.sentOf base) with
    | error e => rw [h2] at h; cases h
    | ok s2 => rw [h2] at h; rw [← h]; simp only [Except.bind, Except.map, deliver_append]

namespace PregelFold

variable {V : Type}

/-- the same entries up to order, and every key bound to the same value: what `aset` respects -/
def Sim {α : Type} (v v' : List (Key × α)) : Prop := v.Perm v' ∧ ∀ k, alookup k v = alookup k v'

theorem sim_aset {α : Type} {v v' : List (Key × α)} (h : Sim v v') (k : Key) (x : α) :
    Sim (aset k x v) (aset k x v') := by
  obtain ⟨hp, hl⟩ := h
  refine ⟨?_, fun j => ?_⟩
  · cases hv : alookup k v with
    | none =>
      rw [aset_append_new k x v ((alookup_none_iff k v).1 hv),
        aset_append_new k x v' ((alookup_none_iff k v').1 (hl k ▸ hv))]
      exact hp.append_right _
    | some y =>
      obtain ⟨l, h1, h2⟩ := aset_perm_of_alookup k x y v hv
      obtain ⟨l', h1', h2'⟩ := aset_perm_of_alookup k x y v' (hl k ▸ hv)
      exact h2.trans ((((h1.symm.trans hp).trans h1').cons_inv.cons _).trans h2'.symm)
  · by_cases hj : j = k
    · rw [hj, alookup_aset_same, alookup_aset_same]
    · rw [alookup_aset_other k j x v hj, alookup_aset_other k j x v' hj, hl j]

theorem sim_asets {α : Type} (a : List (Key × α)) :
    ∀ {v v' : List (Key × α)}, Sim v v' → Sim (asets a v) (asets a v') := by
  induction a with
  | nil => intro v v' h; exact h
  | cons p a' ih => intro v v' h; exact ih (sim_aset h p.1 p.2)

theorem sim_swap {α : Type} (k k' : Key) (x y : α) (v : List (Key × α)) (hne : k ≠ k') :
    Sim (aset k' y (aset k x v)) (aset k x (aset k' y v)) := by
  refine ⟨(aset_comm k' k y x v hne.symm).1, fun j => ?_⟩
  by_cases hj : j = k
  · rw [hj, alookup_aset_other k' k y _ hne, alookup_aset_same, alookup_aset_same]
  · rw [alookup_aset_other k j x _ hj]
    by_cases hj' : j = k'
    · rw [hj', alookup_aset_same, alookup_aset_same]
    · rw [alookup_aset_other k' j y _ hj', alookup_aset_other k' j y _ hj', alookup_aset_other k j x _ hj]

theorem asets_perm {α : Type} {a a' : List (Key × α)} (hp : a.Perm a') :
    (akeys a).Nodup → ∀ (v : List (Key × α)), (asets a v).Perm (asets a' v) := by
  induction hp with
  | nil => intro _ v; exact List.Perm.refl _
  | cons p _ ih =>
    intro hn v
    exact ih (List.nodup_cons.1 hn).2 _
  | swap p q l =>
    intro hn v
    have he : q.1 ≠ p.1 := fun e => (List.nodup_cons.1 hn).1 (List.mem_cons.2 (.inl e))
    exact (sim_asets l (sim_swap q.1 p.1 q.2 p.2 v he)).1
  | trans h1 _ ih1 ih2 =>
    intro hn v
    exact (ih1 hn v).trans (ih2 ((h1.map _).nodup_iff.1 hn) v)

theorem get_pregel_perm (ops : ValOps V) (hm : MergePerm ops) (c : Chan V) (l l' : List (Key × V))
    (h : l.Perm l') : ({ c with values := l } : Chan V).get ops false = ({ c with values := l' } : Chan V).get ops false := by
  unfold Chan.get
  simp only [Bool.false_eq_true, ↓reduceIte]
  cases l with
  | nil => rw [List.nil_perm.mp h]
  | cons p t =>
    cases l' with
    | nil => exact absurd h.length_eq (by simp)
    | cons p' t' =>
      simp only [List.isEmpty_cons, Bool.false_eq_true, ↓reduceIte]
      rw [collect_perm ops hm _ _ (h.map (·.2))]

theorem getReady_pregel_congr (ops : ValOps V) (hm : MergePerm ops) (f g : Key × Chan V → List (Key × V)) :
    ∀ (cm : Chans V), (∀ p ∈ cm, (f p).Perm (g p)) →
    getReady ops false (cm.map (fun p => (p.1, { p.2 with values := f p }))) =
      getReady ops false (cm.map (fun p => (p.1, { p.2 with values := g p }))) := by
  intro cm
  induction cm with
  | nil => intro _; rfl
  | cons p rest ih =>
    intro h
    simp only [List.map_cons, getReady]
    rw [ih (fun q hq => h q (List.mem_cons_of_mem _ hq)), get_pregel_perm ops hm p.2 _ _ (h p (by simp))]

end PregelFold

open PregelFold in
theorem pregel_calcNext_perm {V} (ops : ValOps V) (hm : MergePerm ops) (base : Runner V) (hdag : base.dag = false)
    (cm : Chans V) (D D' : List (Done V)) (hp : D.Perm D') (hnd : (D.map (·.1)).Nodup)
    (cm' : Chans V) (nx : Next V) (h : calcNext ops base cm D = .ok (cm', nx)) :
    calcNext ops base cm D' = .ok (cm', nx) := by
  rw [calcNext_pregel_eq ops base hdag] at h ⊢
  cases hs : D.mapM (Spec.sentOf base) with
  | error e => rw [hs] at h; cases h
  | ok sent =>
    obtain ⟨sent', hs', hps⟩ := mapM_perm (Spec.sentOf base) hp sent hs
    rw [hs] at h
    rw [hs', ← h]
    refine congrArg classify (getReady_pregel_congr ops hm _ _ cm fun p _ => ?_)
    refine asets_perm (hps.symm.filterMap _) (inbox_nodup base sent' p.1 ?_) _
    rw [mapM_ok_map _ _ (sentOf_key base) D' sent' hs']
    exact (hp.map _).nodup_iff.mp hnd

end EinoV.Interrupt
