/-
  The end nodes of one AddBranch call can be visited in any order: the loop
  `for endNode := range branch.endNodes` is characterised by the *set* of end nodes.  With that:
  AddBranch under two iteration orders (`addBranch_sim`) and, call by call, whole Graph-API call
  sequences (`run_order_free`).
-/
import EinoV.Proofs.C20Sim
import EinoV.Proofs.C20Kahn

namespace EinoV.Build

/-- the state with the pending entries `s → e` (e ∈ L) all added at once (never built by the
    code; a device to describe the result of adding them one by one) -/
def addEnds (b : Builder) (s : Key) : List Key → Builder
  | [] => b
  | e :: es => addEnds (b.addToValidate s { dst := e, mapped := none }) s es

theorem addEnds_types (b : Builder) (s : Key) (L : List Key) :
    (∀ k, (addEnds b s L).nodeIn k = b.nodeIn k) ∧ (∀ k, (addEnds b s L).nodeOut k = b.nodeOut k) := by
  induction L generalizing b with
  | nil => exact ⟨fun _ => rfl, fun _ => rfl⟩
  | cons e es ih =>
    have := ih (b.addToValidate s { dst := e, mapped := none })
    exact ⟨fun k => (this.1 k).trans rfl, fun k => (this.2 k).trans rfl⟩

theorem addEnds_slice (b : Builder) (s : Key) (L : List Key) (s' : Key) (x : PEdge) :
    x ∈ getSlice (addEnds b s L).toValidate s' ↔
      (x ∈ getSlice b.toValidate s' ∨ (s' = s ∧ ∃ e ∈ L, x = { dst := e, mapped := none })) := by
  induction L generalizing b with
  | nil => simp [addEnds]
  | cons e es ih =>
    rw [addEnds, ih, mem_getSlice_addToValidate]
    simp only [List.mem_cons, or_and_right, exists_or, exists_eq_left, and_or_left, or_assoc]

theorem Reach.addEnds_mono {b b' : Builder} {s : Key} {L L' : List Key} (ht : ∀ k, b'.nodeIn k = b.nodeIn k)
    (hp : ∀ s x, x ∈ getSlice b.toValidate s → x ∈ getSlice b'.toValidate s) (hL : ∀ e, e ∈ L → e ∈ L')
    {k : Key} (h : Reach (addEnds b s L) k) : Reach (addEnds b' s L') k := by
  refine Reach.of_sets (fun k0 hk0 => Reach.typed ?_) (fun s1 x1 hx1 => Or.inl ?_) h
  · rw [(addEnds_types b' s L').1, ht, ← (addEnds_types b s L).1]; exact hk0
  · rcases (addEnds_slice b s L s1 x1).mp hx1 with r | ⟨r1, e, he, r2⟩
    · exact (addEnds_slice b' s L' s1 x1).mpr (Or.inl (hp s1 x1 r))
    · exact (addEnds_slice b' s L' s1 x1).mpr (Or.inr ⟨r1, e, hL e he, r2⟩)


/-- the hypotheses are what a run of the work list from `b` to `c` gives: what `c` has typed was reachable
    in `b`, what it has resolved joins typed nodes -/
theorem Reach.addEnds_congr {b c : Builder} (s : Key) (L : List Key)
    (hup : ∀ k, (c.nodeIn k).isSome = true → Reach b k)
    (hmono : ∀ k, (b.nodeIn k).isSome = true → (c.nodeIn k).isSome = true)
    (hsub : ∀ s x, x ∈ getSlice c.toValidate s → x ∈ getSlice b.toValidate s)
    (hres : ∀ s x, x ∈ getSlice b.toValidate s →
      x ∈ getSlice c.toValidate s ∨ ((c.nodeIn x.dst).isSome = true ∧ (c.nodeIn s).isSome = true))
    (k : Key) : Reach (addEnds c s L) k ↔ Reach (addEnds b s L) k := by
  have tc := (addEnds_types c s L).1
  have tb := (addEnds_types b s L).1
  constructor
  · refine Reach.of_sets (fun k0 hk0 => ?_) (fun s1 x1 hx1 => Or.inl ?_)
    · exact Reach.addEnds_mono (L := []) (fun _ => rfl) (fun _ _ h => h) (fun _ h => nomatch h) (hup k0 (tc k0 ▸ hk0))
    · exact (addEnds_slice b s L s1 x1).mpr (((addEnds_slice c s L s1 x1).mp hx1).imp_left (hsub s1 x1))
  · refine Reach.of_sets (fun k0 hk0 => Reach.typed ?_) (fun s1 x1 hx1 => ?_)
    · rw [tc]; exact hmono k0 (tb k0 ▸ hk0)
    · rcases (addEnds_slice b s L s1 x1).mp hx1 with r | r
      · exact (hres s1 x1 r).imp (fun q => (addEnds_slice c s L s1 x1).mpr (Or.inl q)) (fun q => by rw [tc, tc]; exact q)
      · exact Or.inl ((addEnds_slice c s L s1 x1).mpr (Or.inr r))


/-- an end node the loop over `branch.endNodes` refuses -/
def badEnd (im : Impl) (b : Builder) (A : Ty) (e : Key) : Prop :=
  (!b.hasNode e && e != END) = true ∨
  ∃ B, b.nodeIn e = some B ∧ checkAssignable im (some A) (some B) = .mustNot

theorem end_update_char (im : Impl) (ord : Ord) (hv : ord.Valid) (b : Builder) (X : List (Key × Key))
    (s e : Key) (A : Ty) (hi : InvC im b X) (hA : b.nodeOut s = some A)
    (hk : ¬ (!b.hasNode e && e != END) = true) :
    let b1 := b.addToValidate s { dst := e, mapped := none }
    ((∃ B, b.nodeIn e = some B ∧ checkAssignable im (some A) (some B) = .mustNot) →
        update im ord b1 = .error .edgeMismatch) ∧
    ((¬ ∃ B, b.nodeIn e = some B ∧ checkAssignable im (some A) (some B) = .mustNot) →
        ∃ c, update im ord b1 = .ok c ∧ StepT b c A ∧ WF c ∧
          (∀ k, (c.nodeIn k).isSome = true ↔ Reach b1 k) ∧
          (∀ s' x, x ∈ getSlice c.toValidate s' ↔
             (x ∈ getSlice b.toValidate s' ∧ c.nodeOut s' = none ∧ c.nodeIn x.dst = none)) ∧
          (∀ s' x, x ∈ getSlice b1.toValidate s' → x ∈ getSlice c.toValidate s' ∨
             ((c.nodeIn x.dst).isSome = true ∧ (c.nodeIn s').isSome = true))) := by
  intro b1
  have hs : b.hasNode s = true ∨ b.nodeOut s ≠ none := Or.inr (by rw [hA]; simp)
  -- the new entry starts at a node typed `A`: whatever it spreads is `A`
  obtain ⟨w, q, p⟩ := pending_pre im b X s e A hi hs (known_end hk) (fun h => nomatch hA.symm.trans h)
    (fun _ => Or.inr hA)
  let pe : PEdge := { dst := e, mapped := none }
  have hsl := mem_getSlice_addToValidate b s pe
  -- the old entries join untyped nodes: only the new one can join two typed nodes
  have herr : Err im b1 ↔ ∃ B, b.nodeIn e = some B ∧ checkAssignable im (some A) (some B) = .mustNot := by
    constructor
    · rintro ⟨s', x, hx, A', B', ho, hin, hc⟩
      rcases (hsl s' x).mp hx with hx | ⟨rfl, rfl⟩
      · exact nomatch (hi.i2 s' x hx).1.symm.trans ho
      · cases hA.symm.trans ho
        exact ⟨B', hin, hc⟩
    · rintro ⟨B, hB, hc⟩
      exact ⟨s, pe, (hsl s pe).mpr (Or.inr ⟨rfl, rfl⟩), A, B, hA, hB, hc⟩
  obtain ⟨hfail, hok⟩ := update_error_iff im ord hv A b1 w q p
  refine ⟨fun hbad => hfail (herr.mpr hbad), fun hgood => ?_⟩
  obtain ⟨c, hc⟩ := hok (fun h => hgood (herr.mp h))
  obtain ⟨hu, -, -⟩ := update_spec im ord hv A b1 c w q p hc
  obtain ⟨t1, -, -, t4⟩ := update_types im ord hv A b1 c w q p hc
  refine ⟨c, hc, ⟨⟨hu.step.mono.tin, hu.step.mono.tout, hu.step.mono.may⟩, hu.step.tin, hu.step.tout⟩, hu.wf, t1,
    fun s' x => ?_, fun s' x hx => hu.typed_or_pending hx⟩
  rw [t4 s' x, hsl s' x]
  refine ⟨?_, fun ⟨hx, ho, hin⟩ => ⟨Or.inl hx, ho, hin⟩⟩
  rintro ⟨hx | ⟨rfl, -⟩, ho, hin⟩
  · exact ⟨hx, ho, hin⟩
  · -- the new entry starts at a typed node: it cannot stay pending
    exact absurd (hA.symm.trans (hu.step.mono.out_none ho)) (fun h => nomatch h)


structure EndsPost (b c : Builder) (s : Key) (A : Ty) (L : List Key) : Prop where
  step : StepT b c A
  wf : WF c
  typed : ∀ k, (c.nodeIn k).isSome = true ↔ Reach (addEnds b s L) k
  pend : ∀ s' x, x ∈ getSlice c.toValidate s' ↔
      (x ∈ getSlice b.toValidate s' ∧ c.nodeOut s' = none ∧ c.nodeIn x.dst = none)
  fr : (c.cmp, c.inT, c.outT, c.stateTy, c.controlEdges, c.dataEdges, c.branches, c.fmRecords, c.compiled,
        c.preNode, keysOf c, c.buildError) =
       (b.cmp, b.inT, b.outT, b.stateTy, b.controlEdges, b.dataEdges, b.branches, b.fmRecords, b.compiled,
        b.preNode, keysOf b, b.buildError)
  sn : c.startNodes.isEmpty = (b.startNodes.isEmpty && (decide (s ≠ START) || L.isEmpty))
  en : c.endNodes.isEmpty = (b.endNodes.isEmpty && !(L.contains END))

theorem Frame.endsFr {b c : Builder} (h : Frame b c) :
    (c.cmp, c.inT, c.outT, c.stateTy, c.controlEdges, c.dataEdges, c.branches, c.fmRecords, c.compiled,
        c.preNode, keysOf c, c.buildError) =
    (b.cmp, b.inT, b.outT, b.stateTy, b.controlEdges, b.dataEdges, b.branches, b.fmRecords, b.compiled,
        b.preNode, keysOf b, b.buildError) := by
  obtain ⟨h1, h2, h3, h4, h5, h6, h7, h8, h9, h10, h11, -, -⟩ := simFrame_eq_iff.mp h.simFrame
  simp only [keysOf, h1, h2, h3, h4, h5, h6, h7, h8, h9, h10, h11, h.buildError]

theorem badEnd_step {im : Impl} {b c : Builder} {A : Ty} (hst : StepT b c A) (hk : keysOf c = keysOf b) (e : Key) :
    badEnd im c A e ↔ badEnd im b A e := by
  have hh : c.hasNode e = b.hasNode e := (findNode_isSome_of_keys hk e).1
  unfold badEnd
  rw [hh]
  constructor
  · rintro (h | ⟨B, hB, hc⟩)
    · exact Or.inl h
    · rcases hst.tin e with r | r
      · exact Or.inr ⟨B, by rw [← r]; exact hB, hc⟩
      · rw [hB] at r; simp at r; subst r
        rw [checkAssignable_same] at hc; simp at hc
  · rintro (h | ⟨B, hB, hc⟩)
    · exact Or.inl h
    · exact Or.inr ⟨B, hst.mono.tin _ _ hB, hc⟩

theorem branchEnds_char (im : Impl) (ord : Ord) (hv : ord.Valid) (s : Key) (A : Ty) :
    ∀ (L : List Key) (b : Builder) (X : List (Key × Key)), InvC im b X → b.nodeOut s = some A →
      ((∃ e ∈ L, badEnd im b A e) → ∃ k, branchEnds im ord s L b = .error k) ∧
      ((¬ ∃ e ∈ L, badEnd im b A e) → ∃ c, branchEnds im ord s L b = .ok c ∧ EndsPost b c s A L) := by
  intro L
  induction L with
  | nil =>
    intro b X hi hA
    refine ⟨fun ⟨e, he, _⟩ => by simp at he, fun _ => ⟨b, rfl, ?_⟩⟩
    exact ⟨StepT.refl b A, hi.wf, fun k => ⟨Reach.typed, hi.i2.reach hi.wf⟩,
      fun s' x => ⟨fun hx => ⟨hx, hi.i2 s' x hx⟩, fun h => h.1⟩, rfl, by simp, by simp⟩
  | cons e es ih =>
    intro b X hi hA
    rw [branchEnds_cons]
    by_cases hbe : badEnd im b A e
    · refine ⟨fun _ => ?_, fun hn => absurd ⟨e, List.mem_cons_self, hbe⟩ hn⟩
      by_cases hk : (!b.hasNode e && e != END) = true
      · exact ⟨_, if_pos hk⟩
      · rw [if_neg hk, (end_update_char im ord hv b X s e A hi hA hk).1 (hbe.resolve_left hk)]; exact ⟨_, rfl⟩
    · have hk : ¬ (!b.hasNode e && e != END) = true := fun h => hbe (Or.inl h)
      obtain ⟨c0, hc0, hst0, -, ht0, hp0, hr0⟩ :=
        (end_update_char im ord hv b X s e A hi hA hk).2 (fun h => hbe (Or.inr h))
      obtain ⟨hic0, hfr0, hmo0⟩ := data_step im ord hv b c0 X s e hi (Or.inr (by rw [hA]; simp)) (known_end hk) hc0
      rw [if_neg hk, hc0]
      let c1 : Builder := c0.noteEnds s e
      have hst01 : StepT b c1 A := ⟨⟨hst0.mono.tin, hst0.mono.tout, hst0.mono.may⟩, hst0.tin, hst0.tout⟩
      obtain ⟨ihbad, ihgood⟩ := ih c1 ((s, e) :: X) (hic0.noteEnds s e) (hmo0.tout s A hA)
      have hbad1 : (∃ e' ∈ e :: es, badEnd im b A e') ↔ ∃ e' ∈ es, badEnd im c1 A e' := by
        have hstep : ∀ e', badEnd im c1 A e' ↔ badEnd im b A e' := badEnd_step (c := c1) hst01 hfr0.keys
        simp only [List.mem_cons, or_and_right, exists_or, exists_eq_left, hbe, false_or, hstep]
      rw [hbad1]
      refine ⟨ihbad, fun hn => ?_⟩
      obtain ⟨c, hc, hpost⟩ := ihgood hn
      refine ⟨c, hc, hst01.trans hpost.step, hpost.wf, fun k => (hpost.typed k).trans ?_, fun s' x => ?_, ?_, ?_, ?_⟩
      · -- the first end node's run of the work list keeps the reachable set of `b ⊕ (e :: es)`
        exact Reach.addEnds_congr (b := b.addToValidate s { dst := e, mapped := none }) (c := c1) s es
          (fun k => (ht0 k).mp) (fun _ => hst0.mono.isSome_in)
          (fun s1 x1 h => (mem_getSlice_addToValidate b s _ s1 x1).mpr (Or.inl ((hp0 s1 x1).mp h).1)) hr0 k
      · rw [hpost.pend s' x, show x ∈ getSlice c1.toValidate s' ↔ _ from hp0 s' x]
        exact ⟨fun ⟨hx, ho, hin⟩ => ⟨hx.1, ho, hin⟩, fun ⟨hx, ho, hin⟩ =>
          ⟨⟨hx, hpost.step.mono.out_none ho, hpost.step.mono.in_none hin⟩, ho, hin⟩⟩
      · rw [hpost.fr]; exact hfr0.endsFr
      · rw [hpost.sn]
        show ((if s = START then c0.startNodes ++ [e] else c0.startNodes).isEmpty && _) = _
        rw [hfr0.startNodes]
        by_cases hst : s = START <;> simp [hst]
      · rw [hpost.en]
        show ((if e = END then c0.endNodes ++ [s] else c0.endNodes).isEmpty && _) = _
        rw [hfr0.endNodes]
        by_cases hen : e = END <;> simp [hen, eq_comm (a := END)]


theorem badEnd_sim {im : Impl} {b b' : Builder} (hs : Sim b b') (A : Ty) (e : Key) :
    badEnd im b' A e ↔ badEnd im b A e := by
  unfold badEnd; rw [hs.hasNode, hs.tin]

theorem branchEnds_perm_sim (im : Impl) (ord ord' : Ord) (hv : ord.Valid) (hv' : ord'.Valid) (s : Key) (A : Ty)
    (L L' : List Key) (hperm : L.Perm L') (b b' : Builder) (X X' : List (Key × Key)) (hs : Sim b b')
    (hi : InvC im b X) (hi' : InvC im b' X') (hA : b.nodeOut s = some A) :
    (∃ k k', branchEnds im ord s L b = .error k ∧ branchEnds im ord' s L' b' = .error k') ∨
    (∃ c c', branchEnds im ord s L b = .ok c ∧ branchEnds im ord' s L' b' = .ok c' ∧ Sim c c') := by
  have hA' : b'.nodeOut s = some A := by rw [hs.tout]; exact hA
  obtain ⟨hbad, hgood⟩ := branchEnds_char im ord hv s A L b X hi hA
  obtain ⟨hbad', hgood'⟩ := branchEnds_char im ord' hv' s A L' b' X' hi' hA'
  have hiff : (∃ e ∈ L', badEnd im b' A e) ↔ (∃ e ∈ L, badEnd im b A e) := by
    simp only [hperm.symm.mem_iff, badEnd_sim hs]
  by_cases hb : ∃ e ∈ L, badEnd im b A e
  · obtain ⟨k, hk⟩ := hbad hb
    obtain ⟨k', hk'⟩ := hbad' (hiff.mpr hb)
    exact Or.inl ⟨k, k', hk, hk'⟩
  · obtain ⟨c, hc, hp⟩ := hgood hb
    obtain ⟨c', hc', hp'⟩ := hgood' (fun h => hb (hiff.mp h))
    refine Or.inr ⟨c, c', hc, hc', ?_⟩
    -- same reachable sets in the two all-at-once states, hence the same typed nodes
    have hreach : ∀ k, Reach (addEnds b' s L') k ↔ Reach (addEnds b s L) k := fun k =>
      ⟨Reach.addEnds_mono (fun k => (hs.tin k).symm) (fun s x => (hs.pend s x).mp) (fun _ => hperm.mem_iff.mpr),
       Reach.addEnds_mono hs.tin (fun s x => (hs.pend s x).mpr) (fun _ => hperm.mem_iff.mp)⟩
    obtain ⟨hin, hout⟩ := hp.step.agree hp'.step hp.wf hp'.wf hs.tin hs.tout
      (fun k => (hp'.typed k).trans ((hreach k).trans (hp.typed k).symm))
    have g := simFrame_eq_iff.mp hs.fr
    have f := hp.fr
    have f' := hp'.fr
    simp only [Prod.mk.injEq, keysOf] at f f'
    refine ⟨simFrame_eq_iff.mpr ?_, ?_, hin, hout, ?_⟩
    -- both loops leave the fields alone; the start / end lists are only read through `isEmpty`
    · simp only [f, f', g, hp.sn, hp'.sn, hp.en, hp'.en, hperm.symm.isEmpty_eq, hperm.symm.contains_eq, and_self]
    · simp only [f, f', hs.err, and_self]
    · intro s1 x1
      rw [hp'.pend s1 x1, hp.pend s1 x1, hs.pend s1 x1, hout s1, hin x1.dst]

theorem branchTail_sim {f : Facts} (hpr : f.branchPropagates = true) (im : Impl) (ord ord' : Ord) (hv : ord.Valid)
    (hv' : ord'.Valid) (b b' b1 b1' : Builder)
    (hi : Inv im b) (hi' : Inv im b') (s : Key) (t : Ty) (ends : List Key) (flag : Bool)
    (hex : b.hasNode s = true ∨ b.nodeOut s ≠ none) (hex' : b'.hasNode s = true ∨ b'.nodeOut s ≠ none)
    (h1 : Retyped b b1 t) (h1' : Retyped b' b1' t) (hs : Sim b1 b1') (A : Ty) (hA : b1.nodeOut s = some A) :
    (∃ k k', branchTail f im ord b1 s t ends false flag = .error k ∧
      branchTail f im ord' b1' s t ends false flag = .error k') ∨
    (∃ c c', branchTail f im ord b1 s t ends false flag = .ok c ∧
      branchTail f im ord' b1' s t ends false flag = .ok c' ∧ Sim c c') := by
  have hs2 : Sim ({ b1 with preBranch := b1.preBranch ++ [(s, flag)] } : Builder)
      ({ b1' with preBranch := b1'.preBranch ++ [(s, flag)] } : Builder) :=
    ⟨hs.fr, hs.err, hs.tin, hs.tout, hs.pend⟩
  unfold branchTail
  simp only [hpr, ↓reduceIte, Bool.false_eq_true]
  rcases update_sim im ord ord' hv hv' t _ _ hs2 h1.wf h1'.wf h1.q h1.pn h1'.pn with
    ⟨e1, e2⟩ | ⟨b3, b3', e1, e2, hs3⟩
  · simp only [e1, e2]; exact Or.inl ⟨_, _, rfl, rfl⟩
  · simp only [e1, e2]
    obtain ⟨hc3, _, hm3, _⟩ := branch_mid_inv im ord hv b b1 b3 s t flag hi hex h1 e1
    obtain ⟨hc3', _⟩ := branch_mid_inv im ord' hv' b' b1' b3' s t flag hi' hex' h1' e2
    have hperm : (ord.ends b3 ends).Perm (ord'.ends b3' ends) := (hv.ends b3 ends).trans (hv'.ends b3' ends).symm
    rcases branchEnds_perm_sim im ord ord' hv hv' s A _ _ hperm b3 b3' [] [] hs3 hc3 hc3' (hm3.tout s A hA) with
      ⟨k, k', f1, f2⟩ | ⟨b4, b4', f1, f2, hs4⟩
    · simp only [f1, f2]; exact Or.inl ⟨_, _, rfl, rfl⟩
    · simp only [f1, f2]; exact Or.inr ⟨_, _, rfl, rfl, hs4.appendBranch _⟩

theorem addBranch_sim (f : Facts) (hf : f.Guarded) (hg : f.branchGuarded = true) (hpr : f.branchPropagates = true)
    (im : Impl) (ord ord' : Ord) (hv : ord.Valid) (hv' : ord'.Valid)
    (b b' : Builder) (hs : Sim b b') (hi : Inv im b) (hi' : Inv im b') (s : Key) (t : Ty) (ends : List Key) :
    (addBranch f im ord b s t ends false).2.cls = (addBranch f im ord' b' s t ends false).2.cls ∧
    (Sim (addBranch f im ord b s t ends false).1 (addBranch f im ord' b' s t ends false).1 ∨
     BothErr (addBranch f im ord b s t ends false).1 (addBranch f im ord' b' s t ends false).1) := by
  unfold addBranch
  apply guarded_sim (R := Sim) f.branchG (by rw [hf.branch]; rfl) b b' hs _ _ _ hs
  rw [addBranchBody_eq, addBranchBody_eq, hs.hasNode]
  by_cases c1 : s = END
  · rw [if_pos c1, if_pos c1]; exact Or.inl ⟨_, _, rfl, rfl⟩
  by_cases c2 : (!b.hasNode s && s != START) = true
  · rw [if_neg c1, if_neg c1, if_pos c2, if_pos c2]; exact Or.inl ⟨_, _, rfl, rfl⟩
  by_cases c3 : ends.length = 1
  · rw [if_neg c1, if_neg c1, if_neg c2, if_neg c2, if_pos c3, if_pos c3]; exact Or.inl ⟨_, _, rfl, rfl⟩
  rw [if_neg c1, if_neg c1, if_neg c2, if_neg c2, if_neg c3, if_neg c3, (hs.branchStartTyped f s t).tout s]
  have hex := known_start c2
  -- the condition type is only accepted at a typed start node
  rcases ho : (branchStartTyped f b s t).nodeOut s with _ | A
  · exact Or.inl ⟨_, _, rfl, rfl⟩
  · have rest := fun flag => branchTail_sim hpr im ord ord' hv hv' b b' _ _ hi hi' s t ends flag hex
      (by rw [hs.hasNode, hs.tout]; exact hex) (branchStartTyped_pre hg hi s t) (branchStartTyped_pre hg hi' s t)
      (hs.branchStartTyped f s t) A ho
    rcases checkAssignable im (some A) (some t) with _ | _ | _
    · exact Or.inl ⟨_, _, rfl, rfl⟩
    · exact rest _
    · exact rest _


theorem addNode_keysOK (f : Facts) (b : Builder) (n : NodeSpec) (hk : KeysOK b) : KeysOK (addNode f b n).1 := by
  refine addNode_ind f b n hk (fun hck => ?_) (fun _ => ⟨hk.nodup, hk.nores⟩)
  have hkey := addNodeCheck_none hck
  have hnk := n.node_key
  have hnew : n.key ∉ b.nodes.map (·.key) := fun h =>
    Bool.false_ne_true (hkey.2.2.1.symm.trans ((hasNode_iff b n.key).mpr h))
  refine ⟨?_, ?_⟩
  · show ((b.nodes ++ [n.node]).map (·.key)).Nodup
    rw [List.map_append, List.nodup_append]
    refine ⟨hk.nodup, by simp, fun a ha b0 hb0 e => ?_⟩
    exact hnew (e.trans ((List.mem_singleton.mp hb0).trans hnk) ▸ ha)
  · intro m hm
    rcases List.mem_append.mp hm with hm | hm
    · exact hk.nores m hm
    · simp only [List.mem_singleton] at hm
      subst hm; rw [hnk]; exact ⟨hkey.1, hkey.2.1⟩

theorem addEdge_keysOK (f : Facts) (im : Impl) (ord : Ord) (b : Builder) (s e : Key) (nc nd : Bool) (m : Option Nat)
    (hk : KeysOK b) : KeysOK (addEdge f im ord b s e nc nd m).1 := by
  refine addEdge_ind f im ord b s e nc nd m hk (fun c hc => ?_) (fun _ => ⟨hk.nodup, hk.nores⟩)
  obtain ⟨b1, h1, hd⟩ := addEdgeBody_accepted hc
  have hk1 : keysOf b1 = keysOf b := by
    rcases (edgeHead_accepted h1).2.2.2.2 with ⟨-, rfl⟩ | ⟨-, -, rfl⟩ <;> rfl
  rcases hd with ⟨-, rfl⟩ | ⟨-, -, b2, hupd, rfl⟩
  · exact hk.of_keys hk1
  · exact hk.of_keys (b' := { b2 with dataEdges := b2.dataEdges ++ [(s, e)] })
      ((update_keys im ord _ _ hupd).trans hk1)

theorem addBranch_keysOK (f : Facts) (im : Impl) (ord : Ord) (b : Builder) (s : Key) (t : Ty) (ends : List Key)
    (sk : Bool) (hk : KeysOK b) : KeysOK (addBranch f im ord b s t ends sk).1 :=
  guarded_ind _ b _ hk (fun _ hc => hk.of_keys (keysOf_frame.addBranchBody hc)) (fun _ => ⟨hk.nodup, hk.nores⟩)

theorem compile_keysOK (f : Facts) (ord : Ord) (b : Builder) (o : COpts) (hk : KeysOK b) :
    KeysOK (compile f ord b o).1 :=
  compile_preserves (P := KeysOK) f ord b o hk (fun _ => ⟨hk.nodup, hk.nores⟩) (fun _ hx => ⟨hx.nodup, hx.nores⟩)

theorem step_keysOK (f : Facts) (im : Impl) (ord : Ord) (b : Builder) (op : Op) (hk : KeysOK b) :
    KeysOK (step f im ord b op).1 := by
  cases op with
  | node n => exact addNode_keysOK f b n hk
  | edge s e nc nd m => exact addEdge_keysOK f im ord b s e nc nd m hk
  | branch s t ends sk => exact addBranch_keysOK f im ord b s t ends sk hk
  | compile o => exact compile_keysOK f ord b o hk

/-- **Two runs of the same Graph-API call sequence under two iteration orders give the same
    outcome class for every call** (ok / error / ErrGraphCompiled / panic): the orders in
    which the type-inference work list, the end nodes of a branch and Kahn's counters are
    visited are arbitrary, state-dependent and independent of each other. -/
theorem run_order_free (f : Facts) (hf : f.Guarded) (hg : f.branchGuarded = true) (hpr : f.branchPropagates = true)
    (hm : f.compileMutates = false)
    (im : Impl) (ord ord' : Ord) (hv : ord.Valid) (hv' : ord'.Valid) :
    ∀ (ops : List Op) (b b' : Builder), (∀ op ∈ ops, op.isGraphApi = true) →
      ((Sim b b' ∧ Inv im b ∧ Inv im b' ∧ KeysOK b) ∨ BothErr b b') →
      (run f im ord b ops).2.1.map Outcome.cls = (run f im ord' b' ops).2.1.map Outcome.cls := by
  intro ops
  induction ops with
  | nil => intro b b' _ _; rfl
  | cons op ops ih =>
    intro b b' hops hrel
    have hop : op.isGraphApi = true := hops op List.mem_cons_self
    have hrest : ∀ x ∈ ops, x.isGraphApi = true := fun x hx => hops x (List.mem_cons_of_mem _ hx)
    simp only [run, List.map_cons]
    rcases hrel with ⟨hs, hi, hi', hko⟩ | ⟨he, he'⟩
    · have hI := step_inv f hg hpr im ord hv b op (isWfApi_of_isGraphApi hop) hi
      have hI' := step_inv f hg hpr im ord' hv' b' op (isWfApi_of_isGraphApi hop) hi'
      have key : (step f im ord b op).2.1.cls = (step f im ord' b' op).2.1.cls ∧
          (Sim (step f im ord b op).1 (step f im ord' b' op).1 ∨
            BothErr (step f im ord b op).1 (step f im ord' b' op).1) := by
        cases op with
        | node n => exact addNode_sim f hf b b' hs n
        | edge s e nc nd m =>
          simp only [Op.isGraphApi, Bool.and_eq_true, Bool.not_eq_true', Option.isNone_iff_eq_none] at hop
          obtain ⟨⟨rfl, rfl⟩, rfl⟩ := hop
          exact addEdge_sim f hf im ord ord' hv hv' b b' hs hi hi' s e
        | branch s t ends sk =>
          simp only [Op.isGraphApi, Bool.not_eq_true'] at hop
          subst hop
          exact addBranch_sim f hf hg hpr im ord ord' hv hv' b b' hs hi hi' s t ends
        | compile o =>
          exact compile_sim f hm ord ord' (fun x hx => validateDAG_order_free x hx ord' ord hv'.kahn hv.kahn)
            b b' hs hko o
      rw [key.1]
      congr 1
      exact ih _ _ hrest (key.2.imp_left fun h => ⟨h, hI, hI', step_keysOK f im ord b op hko⟩)
    · obtain ⟨k, hk⟩ := Option.isSome_iff_exists.mp he
      obtain ⟨k', hk'⟩ := Option.isSome_iff_exists.mp he'
      rw [step_stored f hf im ord b k hk op, step_stored f hf im ord' b' k' hk' op]
      simp only [Outcome.cls]
      congr 1
      exact ih b b' hrest (Or.inr ⟨he, he'⟩)


theorem Sim.refl (b : Builder) (h : b.buildError = none) : Sim b b :=
  ⟨rfl, ⟨h, h⟩, fun _ => rfl, fun _ => rfl, fun _ _ => Iff.rfl⟩

theorem KeysOK_new (cmp : Cmp) (inT outT : Ty) (st : Option Nat) : KeysOK (Builder.new cmp inT outT st) :=
  ⟨by simp [Builder.new], by intro n hn; simp [Builder.new] at hn⟩

end EinoV.Build
