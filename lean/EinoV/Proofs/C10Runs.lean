/-
  C10 — helper lemmas about the units of an interrupted / resumed run (Model/C10Runs.lean)
  and about the run info and the program of a unit of a compose case (Model/C10.lean `progOf`).
  The compose-level facts are hypotheses here; Props/C10.lean instantiates them with the
  regenerated ones.
-/
import EinoV.Model.C10
import EinoV.Model.C10Runs
import EinoV.Proofs.C10

namespace EinoV.C10

/-- a unit kind whose callbacks are one start-kind timing followed by one finishing timing: the
    hypothesis of `paired_unit_finished_once` (Props/C10.lean), shown here for every kind of unit the
    run shapes contain -/
def Paired (cf : CFacts) (k : UKind) : Prop :=
  ∃ s e, kindProg cf k = [s, e] ∧ s.isStart = true ∧ e.isStart = false

theorem wrapperCalls_always (s : Bool) (k : EndKind) : wrapperCalls true s k = [startT s, endT k] := by
  cases k <;> rfl

theorem paired_wrapped {cf : CFacts} (hw : cf.wrapperOnErrorAlways = true) (s : Bool) (k : EndKind) :
    Paired cf (.wrapped s k) :=
  ⟨startT s, endT k, by rw [kindProg, hw, wrapperCalls_always], by cases s <;> rfl, by cases k <;> rfl⟩

theorem paired_graph {cf : CFacts} (hd : cf.hasDefer = true) (hs : cf.deferStarts = true) (s : Bool) (p : RunPath) :
    Paired cf (.graph s p) := by
  refine ⟨startT s, (match p with | .ok => (if s then Timing.endStream else Timing.end_) | _ => Timing.error), ?_, ?_, ?_⟩
  · simp only [kindProg, hd, hs]
    cases p <;> cases s <;> rfl
  · cases s <;> rfl
  · cases p <;> cases s <;> rfl

theorem paired_lamKind {cf : CFacts} (hw : cf.wrapperOnErrorAlways = true) (lk : LK) (self act : Bool) :
    Paired cf (lamKind lk self act) := by
  unfold lamKind
  cases self
  · exact paired_wrapped hw _ _
  · exact ⟨.start, _, rfl, rfl, by cases act <;> rfl⟩

theorem paired_toolKind {cf : CFacts} (hw : cf.wrapperOnErrorAlways = true) (t : ToolD) (stream act : Bool) :
    Paired cf (t.kind stream act) := by
  unfold ToolD.kind
  cases hcb : t.cb
  · exact paired_wrapped hw _ _
  · refine ⟨.start, _, rfl, rfl, ?_⟩
    cases act <;> cases t.usesStream stream <;> rfl

theorem paired_innerUnits {cf : CFacts} (hw : cf.wrapperOnErrorAlways = true) (stream first : Bool)
    (pre : List String) (n : InnerD) (u : UnitSpec) (hu : u ∈ innerUnits stream first pre n) :
    Paired cf u.kind := by
  cases n with
  | lam key lk self intr =>
    simp only [innerUnits, List.mem_singleton] at hu
    subst hu
    exact paired_lamKind hw _ _ _
  | tools key ts =>
    simp only [innerUnits, List.mem_cons, List.mem_map] at hu
    rcases hu with rfl | ⟨t, _, rfl⟩
    · exact paired_wrapped hw _ _
    · exact paired_toolKind hw _ _ _

theorem paired_levelUnits {cf : CFacts} (hw : cf.wrapperOnErrorAlways = true) (stream first : Bool)
    (pre : List String) (ns : List InnerD) (u : UnitSpec) (hu : u ∈ levelUnits stream first pre ns) :
    Paired cf u.kind := by
  simp only [levelUnits, List.mem_append, List.mem_flatMap, List.mem_ite_nil_left, List.mem_singleton] at hu
  rcases hu with ⟨n, _, hn⟩ | ⟨_, rfl⟩
  · exact paired_innerUnits hw _ _ _ n u hn
  · exact paired_wrapped hw _ _

theorem paired_topUnits {cf : CFacts} (hd : cf.hasDefer = true) (hs : cf.deferStarts = true)
    (hw : cf.wrapperOnErrorAlways = true) (stream first : Bool) (n : TopD) (u : UnitSpec)
    (hu : u ∈ topUnits stream first n) : Paired cf u.kind := by
  cases n with
  | inner n => exact paired_innerUnits hw _ _ _ n u hu
  | sub key ns =>
    simp only [topUnits, List.mem_cons] at hu
    rcases hu with rfl | hu
    · exact paired_graph hd hs _ _
    · exact paired_levelUnits hw _ _ _ ns u hu

theorem paired_runUnits {cf : CFacts} (hd : cf.hasDefer = true) (hs : cf.deferStarts = true)
    (hw : cf.wrapperOnErrorAlways = true) (sh : Shape) (first : Bool) (u : UnitSpec)
    (hu : u ∈ runUnits sh first) : Paired cf u.kind := by
  simp only [runUnits, List.mem_cons, List.mem_append, List.mem_flatMap, List.mem_ite_nil_left,
    List.not_mem_nil, or_false] at hu
  rcases hu with rfl | ⟨n, _, hn⟩ | ⟨_, rfl⟩
  · exact paired_graph hd hs _ _
  · exact paired_topUnits hd hs hw _ _ n u hn
  · exact paired_wrapped hw _ _

theorem paired_failedResumeUnits {cf : CFacts} (hd : cf.hasDefer = true) (hs : cf.deferStarts = true)
    (hw : cf.wrapperOnErrorAlways = true) (sh : Shape) (w : ResumeFail) (u : UnitSpec)
    (hu : u ∈ failedResumeUnits sh w) : Paired cf u.kind := by
  cases w with
  | top =>
    simp only [failedResumeUnits, List.mem_singleton] at hu
    subst hu
    exact paired_graph hd hs _ _
  | sub key =>
    simp only [failedResumeUnits, List.mem_cons, List.mem_flatMap] at hu
    rcases hu with rfl | ⟨n, _, hn⟩
    · exact paired_graph hd hs _ _
    · cases n with
      | inner m => exact paired_topUnits hd hs hw _ _ _ u hn
      | sub k ns =>
        dsimp only at hn
        split at hn
        · simp only [List.mem_singleton] at hn
          subst hn
          exact paired_graph hd hs _ _
        · exact paired_topUnits hd hs hw _ _ _ u hn

theorem resumed_innerUnits (stream : Bool) (pre : List String) (n : InnerD) (u : UnitSpec)
    (hu : u ∈ innerUnits stream false pre n) : u.kind.isInterrupt = false := by
  cases n with
  | lam key lk self intr =>
    simp only [innerUnits, List.mem_singleton] at hu
    subst hu
    cases self <;> cases lk <;> simp [lamKind, UKind.isInterrupt, LK.outStream]
  | tools key ts =>
    simp only [innerUnits, List.mem_cons, List.mem_map] at hu
    rcases hu with rfl | ⟨t, _, rfl⟩
    · cases stream <;> simp [UKind.isInterrupt]
    · simp only [ToolD.kind, Bool.false_and]
      cases t.cb <;> cases t.usesStream stream <;> simp [UKind.isInterrupt]

theorem resumed_levelUnits (stream : Bool) (pre : List String) (ns : List InnerD) (u : UnitSpec)
    (hu : u ∈ levelUnits stream false pre ns) : u.kind.isInterrupt = false := by
  simp only [levelUnits, List.mem_append, List.mem_flatMap, Bool.false_and] at hu
  rcases hu with ⟨n, _, hn⟩ | hj
  · exact resumed_innerUnits _ _ n u hn
  · simp at hj
    subst hj
    rfl

theorem resumed_runUnits (sh : Shape) (u : UnitSpec) (hu : u ∈ runUnits sh false) :
    u.kind.isInterrupt = false := by
  simp only [runUnits, List.mem_cons, List.mem_append, List.mem_flatMap, Bool.false_and] at hu
  rcases hu with rfl | ⟨n, _, hn⟩ | hj
  · rfl
  · cases n with
    | inner n => exact resumed_innerUnits _ _ n u hn
    | sub key ns =>
      simp only [topUnits, List.mem_cons, Bool.false_and] at hn
      rcases hn with rfl | hn
      · rfl
      · exact resumed_levelUnits _ _ ns u hn
  · simp at hj
    subst hj
    rfl

theorem mkUnit_info (cf : CFacts) (c : Case) (root : UnitDecl) (shift : Nat) (u : UnitSpec) :
    (mkUnit cf c root shift u).info = effInfo cf c.units u := by
  unfold mkUnit
  split <;> rfl

theorem mkUnit_prog (cf : CFacts) (c : Case) (root : UnitDecl) (shift : Nat) (u : UnitSpec) :
    (mkUnit cf c root shift u).prog = kindProg cf u.kind := by
  unfold mkUnit
  split <;> rfl

theorem effInfo_own {cf : CFacts} (ht : cf.toolOwnInfoAlways = true) (us : List UnitSpec) (u : UnitSpec) :
    effInfo cf us u = u.info := by
  simp [effInfo, ht]

/-- the caller's own unit (`userInit`), if there is one, comes first in the unit machine's program -/
def shiftOf (c : Case) : Nat := if c.userInit.isSome then 1 else 0

theorem progOf_unit (cf : CFacts) (c : Case) {k : Nat} {u : UnitSpec} (hu : c.units[k]? = some u) :
    ∃ root shift, (progOf cf c).units[k + shiftOf c]? = some (mkUnit cf c root shift u) := by
  unfold progOf shiftOf
  cases c.userInit with
  | none => exact ⟨_, _, List.getElem?_map.trans (congrArg (Option.map _) hu)⟩
  | some p => exact ⟨_, _, List.getElem?_map.trans (congrArg (Option.map _) hu)⟩

theorem unitInfo_progOf {cf : CFacts} (ht : cf.toolOwnInfoAlways = true) (c : Case) (k : Nat) (u : UnitSpec)
    (hu : c.units[k]? = some u) : unitInfo (progOf cf c) (k + shiftOf c) = u.info := by
  obtain ⟨root, shift, h⟩ := progOf_unit cf c hu
  rw [unitInfo_of h, mkUnit_info, effInfo_own ht]

theorem unitProg_progOf (cf : CFacts) (c : Case) (k : Nat) (u : UnitSpec)
    (hu : c.units[k]? = some u) : unitProg (progOf cf c) (k + shiftOf c) = kindProg cf u.kind := by
  obtain ⟨root, shift, h⟩ := progOf_unit cf c hu
  rw [unitProg_of h, mkUnit_prog]

/-- `OnStart` and `OnStartWithStreamInput` counted together, as below the three finishing timings: a
    unit fires one of each group, which one depends on its paradigm and outcome -/
def countStart (log : List LogEv) (i : Nat) (h : Hd) : Nat :=
  countEv log i h .start + countEv log i h .startStream

def countFinish (log : List LogEv) (i : Nat) (h : Hd) : Nat :=
  countEv log i h .end_ + countEv log i h .error + countEv log i h .endStream

end EinoV.C10
