/-
  C12 — eino's own registry table as the model sees it: the entries of the two `init` functions
  (`Expected/C12.lean`) with the kinds of the defined types among them, evaluated once.
-/
import EinoV.Expected.C12
import EinoV.Proofs.C12Reg

namespace EinoV.C12
open EinoV.Expected.C12

/-- kinds of the defined types in eino's own registry tables: "struct", or the underlying basic kind of a
    named basic.  TRUSTED: these 14 entries are written by hand; factgen regenerates the tables as (key, Go
    type name) pairs only, and `facts_match` (Props/C12.lean) does not cover the kinds, so nothing ties
    them to the Go declarations.  `builtinReg` drops a defined type it finds no kind for: the `length = 32`
    half of `builtin_registry_ok` shows that none is missing, not that a kind is the right one.
    `builtin_registry_ok`, `init_calls_all_accepted` and every test context of Props/C12.lean rest on it. -/
def einoKinds : List (String × String) :=
  [("schema.Message", "struct"), ("schema.Document", "struct"), ("schema.RoleType", "string"),
   ("schema.ChatMessagePart", "struct"), ("schema.ToolCall", "struct"), ("schema.FunctionCall", "struct"),
   ("schema.ResponseMeta", "struct"), ("schema.TokenUsage", "struct"), ("schema.LogProbs", "struct"),
   ("compose.channel", "struct"), ("compose.checkpoint", "struct"), ("compose.dagChannel", "struct"),
   ("compose.pregelChannel", "struct"), ("compose.dependencyState", "struct")]

/-- The table every test context of Props/C12.lean starts from.  Building it compares each Go type
    name with the basic kinds and with `einoKinds` (some 500 string comparisons, each through the UTF-8
    bytes in the kernel); the test vectors rewrite with this equation, so that the table is built here
    and not again inside each of them. -/
theorem builtinReg_eino : builtinReg (registry ++ composeRegistry) einoKinds =
    [("_eino_int", .basic "int"), ("_eino_int8", .basic "int8"), ("_eino_int16", .basic "int16"),
     ("_eino_int32", .basic "int32"), ("_eino_int64", .basic "int64"), ("_eino_uint", .basic "uint"),
     ("_eino_uint8", .basic "uint8"), ("_eino_uint16", .basic "uint16"), ("_eino_uint32", .basic "uint32"),
     ("_eino_uint64", .basic "uint64"), ("_eino_float32", .basic "float32"), ("_eino_float64", .basic "float64"),
     ("_eino_complex64", .basic "complex64"), ("_eino_complex128", .basic "complex128"),
     ("_eino_uintptr", .basic "uintptr"), ("_eino_bool", .basic "bool"), ("_eino_string", .basic "string"),
     ("_eino_any", .iface), ("_eino_message", .struct "schema.Message"), ("_eino_document", .struct "schema.Document"),
     ("_eino_role_type", .named "schema.RoleType" "string"),
     ("_eino_chat_message_type", .struct "schema.ChatMessagePart"), ("_eino_tool_call", .struct "schema.ToolCall"),
     ("_eino_function_call", .struct "schema.FunctionCall"), ("_eino_response_meta", .struct "schema.ResponseMeta"),
     ("_eino_token_usage", .struct "schema.TokenUsage"), ("_eino_log_probs", .struct "schema.LogProbs"),
     ("_eino_channel", .struct "compose.channel"), ("_eino_checkpoint", .struct "compose.checkpoint"),
     ("_eino_dag_channel", .struct "compose.dagChannel"), ("_eino_pregel_channel", .struct "compose.pregelChannel"),
     ("_eino_dependency_state", .struct "compose.dependencyState")] := by
  decide +kernel

/-- eino's own `init` calls run through `regStep`: all 32 are accepted and build the table (newest first).
    The one evaluation over the table's keys and types; well-formedness follows from it. -/
theorem eino_replay :
    regOutcomes RFall [] ((builtinReg (registry ++ composeRegistry) einoKinds).map fun e => ⟨e.1, e.2⟩)
      = List.replicate 32 .accepted
    ∧ regAfter RFall [] ((builtinReg (registry ++ composeRegistry) einoKinds).map fun e => ⟨e.1, e.2⟩)
      = (builtinReg (registry ++ composeRegistry) einoKinds).reverse := by
  rw [builtinReg_eino]
  decide +kernel

/-- eino's table alone is a bijection without an empty key, because it is what accepted calls built;
    contexts that add to it need only look at what they add (`ok_append`) -/
theorem eino_regOK : regOK (builtinReg (registry ++ composeRegistry) einoKinds) = true := by
  have h := regOK_regAfter_nil ((builtinReg (registry ++ composeRegistry) einoKinds).map fun e => ⟨e.1, e.2⟩)
  rwa [eino_replay.2, regOK_reverse] at h

end EinoV.C12
