/-
  C11 — lemmas for Model/C11Late.lean: when no context can talk a lock site out of locking,
  the context-aware machine is the machine of Model/C11.lean.
-/
import EinoV.Model.C11Late

namespace EinoV.C11

variable {S V : Type}

def AlwaysLocks (cf : CtxFacts) : Prop := ∀ src, takesLock cf (ctxVal cf src) = true

theorem alwaysLocks_of_unconditional {cf : CtxFacts} (h : cf.lockUnconditional = true) :
    AlwaysLocks cf := by
  intro src; simp [takesLock, h]

theorem alwaysLocks_of_plain {cf : CtxFacts} (h : cf.handsPlainCtx = true) : AlwaysLocks cf := by
  intro src; cases src <;> simp [takesLock, ctxVal, h]

theorem locksAt_eq {cf : CtxFacts} (h : AlwaysLocks cf) (srcs : Nat → Nat → CtxSrc)
    (locks : Wrapper → Bool) (c : Core S V) (t : Nat) : locksAt cf srcs locks c t = locks := by
  funext w
  simp [locksAt, h _]

theorem stepK_eq {cf : CtxFacts} (h : AlwaysLocks cf) (srcs : Nat → Nat → CtxSrc)
    (locks : Wrapper → Bool) (sys : Sys S V) (t : Nat) :
    stepK cf srcs locks sys t = step locks sys t := by
  unfold stepK; rw [locksAt_eq h]

theorem gstepK_eq {cf : CtxFacts} (h : AlwaysLocks cf) (srcs : Nat → Nat → CtxSrc)
    (locks : Wrapper → Bool) (guard : Sys S V → Nat → Bool) :
    gstepK cf srcs locks guard = gstep locks guard := by
  funext sys t
  unfold gstepK gstep; rw [stepK_eq h]

theorem runK_eq_run {cf : CtxFacts} (h : AlwaysLocks cf) (srcs : Nat → Nat → CtxSrc)
    (locks : Wrapper → Bool) (guard : Sys S V → Nat → Bool) (sched : List Nat) (sys : Sys S V) :
    runK cf srcs locks guard sched sys = run locks guard sched sys := by
  unfold runK run
  rw [gstepK_eq h]

end EinoV.C11
