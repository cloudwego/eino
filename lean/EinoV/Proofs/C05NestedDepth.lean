/-
  C05 — nested graphs of every depth: `call_sim` (Proofs/C05Nested.lean) lifted through the depth-indexed
  family `NR d` by induction on `d`, the history of calls of a caller that keeps resuming, and the split
  rule `SplitOK` derived from `FoldThenGet`, `CalcNextPerm` and `PostsCommute` (the first two hold for
  any-predecessor levels with an order-insensitive merge).
-/
import EinoV.Proofs.C05Nested
import EinoV.Proofs.C05NestedEngine

namespace EinoV.Interrupt
open EinoV.Engine

variable {V S X : Type}

theorem NNode.toI_key {C : Type} (ops : ValOps V) (cfg : Cfg) (cd : SubCodec V S X) (toC : C → IRunner V S X)
    (n : NNode V S X C) : (n.toI ops cfg cd toC).key = n.key := rfl

theorem NLevel.inode?_toIWith {C : Type} (ops : ValOps V) (cfg : Cfg) (cd : SubCodec V S X) (toC : C → IRunner V S X)
    (l : NLevel V S X C) (k : Key) :
    (l.toIWith ops cfg cd toC).inode? k = (l.node? k).map (NNode.toI ops cfg cd toC) :=
  find?_map_key (NNode.toI ops cfg cd toC) (·.key) (·.key) k l.nodes (fun _ _ => rfl)

theorem fnBody_noSR (f : V → S → Except Err V × S) (v : V) (s : S) (x : Option X) :
    ((fnBody f v s x : BodyOut V S X).res).isSR = false := by
  unfold fnBody
  split <;> rfl

theorem NLevel.inode?_cases {C : Type} (ops : ValOps V) (cfg : Cfg) (cd : SubCodec V S X) (toC : C → IRunner V S X)
    (l : NLevel V S X C) (k : Key) (n : INode V S X) (hn : (l.toIWith ops cfg cd toC).inode? k = some n) :
    ∃ n', l.node? k = some n' ∧
      ((∃ f, n'.body = .fn f ∧ n.body = fnBody f) ∨
       (∃ c sc, n'.body = .graph c sc ∧ n.body = subBody ops cfg cd (toC c) sc)) := by
  rw [NLevel.inode?_toIWith] at hn
  cases hnode : l.node? k with
  | none => rw [hnode] at hn; cases hn
  | some n' =>
    rw [hnode] at hn
    simp only [Option.map_some, Option.some.injEq] at hn
    subst hn
    refine ⟨n', rfl, ?_⟩
    cases hb : n'.body with
    | fn f => exact Or.inl ⟨f, rfl, by simp [NNode.toI, hb]⟩
    | graph c sc => exact Or.inr ⟨c, sc, rfl, by simp [NNode.toI, hb]⟩

def NNode.plainWith {C : Type} (pc : C → C) (n : NNode V S X C) : NNode V S X C :=
  { n with body := match n.body with
      | .fn f => .fn f
      | .graph c sc => .graph (pc c) sc }

theorem NLevel.node?_plainWith {C : Type} (pc : C → C) (l : NLevel V S X C) (k : Key) :
    (l.plainWith pc).node? k = (l.node? k).map (NNode.plainWith pc) :=
  find?_map_key (NNode.plainWith pc) (·.key) (·.key) k l.nodes (fun _ _ => rfl)

theorem bodySim_refl (XOK : X → Prop) (clog : List (Ev V S X) → Log V) (wt : V → S → Option X → Nat)
    (b : V → S → Option X → BodyOut V S X) : BodySim XOK clog wt b b :=
  fun _ _ _ _ _ _ h => Or.inl ⟨h, List.Perm.refl _⟩

section level
variable {C : Type} (ops : ValOps V) (cfg : Cfg) (cd : SubCodec V S X)
  (toC : C → IRunner V S X) (pc : C → C)
  (isFnC : C → Key → Bool) (xokC : C → Key → X → Prop) (clogC : C → Key → List (Ev V S X) → Log V)
  (wtC : C → Key → V → S → Option X → Nat)

/-- acceptable nested checkpoints of the graph nodes of a level -/
def NLevel.xokWith (l : NLevel V S X C) (k : Key) (p : X) : Prop :=
  match l.child? k with
  | some c => LsOK (toC c) (xokC c) (restore cfg (toC c) (cd.cp p))
  | none => True

/-- what the block of a nested run contributes to the log -/
def NLevel.clogWith (l : NLevel V S X C) (k : Key) (e : List (Ev V S X)) : Log V :=
  match l.child? k with
  | some c => pfxLog k (levelLog (isFnC c) (clogC c) e)
  | none => []

/-- the work of the reference body of a node: the work of the nested reference call for a graph node -/
def NLevel.wtWith (l : NLevel V S X C) (k : Key) (v : V) (_s : S) (x : Option X) : Nat :=
  match l.node? k with
  | some n =>
    (match n.body with
     | .graph c sc => callWt ops cfg (wtC c) (toC (pc c)) sc (subInp cd v x)
     | .fn _ => 0)
  | none => 0

theorem NLevel.levelRel (hcd : ∀ cp info, cd.cp (cd.pack cp info) = cp) (l : NLevel V S X C)
    (hch : ∀ n ∈ l.nodes, ∀ c sc, n.body = .graph c sc →
      CallSim ops cfg (isFnC c) (xokC c) (clogC c) (wtC c) (toC c) (toC (pc c)) sc) :
    LevelRel l.isFn (l.xokWith cfg cd toC xokC) (l.clogWith isFnC clogC) (l.wtWith ops cfg cd toC pc wtC)
      (l.toIWith ops cfg cd toC) ((l.plainWith pc).toIWith ops cfg cd toC) := by
  have hnode : ∀ k, ((l.plainWith pc).toIWith ops cfg cd toC).inode? k =
      (l.node? k).map (fun n => (NNode.plainWith pc n).toI ops cfg cd toC) := by
    intro k
    rw [NLevel.inode?_toIWith, NLevel.node?_plainWith, Option.map_map]
    rfl
  refine ⟨⟨rfl, rfl, ?_, ?_⟩, rfl, rfl, ?_, ?_, ?_⟩
  · intro k
    rw [hnode, NLevel.inode?_toIWith]
    cases l.node? k <;> rfl
  · intro k
    rw [hnode, NLevel.inode?_toIWith]
    cases l.node? k <;> rfl
  · intro k
    unfold NLevel.clogWith
    split <;> simp [levelLog, pfxLog]
  · intro k
    rw [hnode, NLevel.inode?_toIWith]
    cases hn : l.node? k with
    | none => left; exact ⟨rfl, rfl⟩
    | some n =>
      right
      refine ⟨_, _, rfl, rfl, ?_⟩
      have hmem : n ∈ l.nodes := List.mem_of_find?_eq_some hn
      cases hb : n.body with
      | fn f =>
        simp only [NNode.toI, NNode.plainWith, hb]
        exact bodySim_refl _ _ _ _
      | graph c sc =>
        have hx : l.xokWith cfg cd toC xokC k = fun p => LsOK (toC c) (xokC c) (restore cfg (toC c) (cd.cp p)) := by
          funext p; simp only [NLevel.xokWith, NLevel.child?, hn, hb]
        have hl : l.clogWith isFnC clogC k = fun e => pfxLog k (levelLog (isFnC c) (clogC c) e) := by
          funext e; simp only [NLevel.clogWith, NLevel.child?, hn, hb]
        have hw : l.wtWith ops cfg cd toC pc wtC k =
            fun v _ x => callWt ops cfg (wtC c) (toC (pc c)) sc (subInp cd v x) := by
          funext v s' x; simp only [NLevel.wtWith, hn, hb]
        simp only [NNode.toI, NNode.plainWith, hb, hx, hl, hw]
        exact subBody_sim ops cfg cd hcd (isFnC c) (xokC c) (clogC c) (wtC c) (toC c) (toC (pc c)) sc k
          (hch n hmem c sc hb)
  · intro k n hfn hn v s x
    obtain ⟨n', hn', ⟨f, _, hf⟩ | ⟨c, sc, hb, _⟩⟩ := NLevel.inode?_cases ops cfg cd toC l k n hn
    · rw [hf]; exact fnBody_noSR f v s x
    · simp [NLevel.isFn, hn', hb] at hfn

end level

section depth
variable (ops : ValOps V) (cfg : Cfg) (cd : SubCodec V S X)

def NLevel.hypWith {C : Type} (hypC : C → ISched V S X → Prop) (l : NLevel V S X C) : Prop :=
  ∀ n ∈ l.nodes, ∀ c sc, n.body = .graph c sc → hypC c sc

def NR.Hyp : (d : Nat) → NR V S X d → ISched V S X → Prop
  | 0, l, sched => LevelHyp ops (NR.toI ops cfg cd 0 l) sched
  | d + 1, l, sched => LevelHyp ops (NR.toI ops cfg cd (d + 1) l) sched ∧ NLevel.hypWith (NR.Hyp d) l

def NR.isFn : (d : Nat) → NR V S X d → Key → Bool
  | 0, l => NLevel.isFn l
  | _ + 1, l => NLevel.isFn l

/-- acceptable nested checkpoints, at every depth: a nested checkpoint stored under a graph node
    restores to an acceptable loop state of that node's runner -/
def NR.xok : (d : Nat) → NR V S X d → Key → X → Prop
  | 0, l => NLevel.xokWith cfg cd (fun e : Empty => nomatch e) (fun e => nomatch e) l
  | d + 1, l => NLevel.xokWith cfg cd (NR.toI ops cfg cd d) (NR.xok d) l

def NR.clog : (d : Nat) → NR V S X d → Key → List (Ev V S X) → Log V
  | 0, l => NLevel.clogWith (fun e : Empty => nomatch e) (fun e => nomatch e) l
  | d + 1, l => NLevel.clogWith (NR.isFn d) (NR.clog d) l

def NR.wt : (d : Nat) → NR V S X d → Key → V → S → Option X → Nat
  | 0, l => NLevel.wtWith ops cfg cd (fun e : Empty => nomatch e) (fun e => e) (fun e => nomatch e) l
  | d + 1, l => NLevel.wtWith ops cfg cd (NR.toI ops cfg cd d) (NR.deepPlain d) (NR.wt d) l

/-- the work of the uninterrupted reference call: a bound on the number of interrupts the run takes -/
def NR.work (d : Nat) (nr : NR V S X d) (sched : ISched V S X) (inp : V ⊕ Checkpoint V S X) : Nat :=
  callWt ops cfg (NR.wt ops cfg cd d nr) (NR.toI ops cfg cd d (NR.deepPlain d nr)) sched inp

theorem NR.leafLog_eq : ∀ (d : Nat) (nr : NR V S X d) (evs : List (Ev V S X)),
    NR.leafLog d nr evs = levelLog (NR.isFn d nr) (NR.clog d nr) evs
  | 0, nr, evs => by
    have : NR.clog 0 nr = fun _ _ => ([] : Log V) := by
      funext k e
      show NLevel.clogWith _ _ nr k e = []
      unfold NLevel.clogWith
      cases NLevel.child? nr k with
      | none => rfl
      | some c => exact nomatch c
    rw [this]; rfl
  | d + 1, nr, evs => by
    have : NR.clog (d + 1) nr = fun k e => match NLevel.child? nr k with
        | some c => pfxLog k (NR.leafLog d c e)
        | none => ([] : Log V) := by
      funext k e
      show NLevel.clogWith _ _ nr k e = _
      unfold NLevel.clogWith
      cases NLevel.child? nr k with
      | none => rfl
      | some c => simp only [NR.leafLog_eq d c]
    rw [this]; rfl

theorem NR.call_sim (hcd : ∀ cp info, cd.cp (cd.pack cp info) = cp) (hcfg : cfg.fwdStale = false) :
    ∀ (d : Nat) (nr : NR V S X d) (sched : ISched V S X), NR.Hyp ops cfg cd d nr sched →
    ∀ (isSub hasID s0 h0 : Bool),
      CallSimAt ops cfg (NR.isFn d nr) (NR.xok ops cfg cd d nr) (NR.clog d nr) (NR.wt ops cfg cd d nr)
        (NR.toI ops cfg cd d nr) (NR.toI ops cfg cd d (NR.deepPlain d nr)) sched isSub hasID s0 h0 := by
  intro d
  induction d with
  | zero =>
    intro nr sched hyp isSub hasID s0 h0
    have hrel := NLevel.levelRel ops cfg cd (fun e : Empty => nomatch e) (fun e => e)
      (fun e => nomatch e) (fun e => nomatch e) (fun e => nomatch e) (fun e => nomatch e) hcd nr (fun _ _ c => nomatch c)
    exact EinoV.Interrupt.call_sim hrel hyp cfg hcfg isSub hasID s0 h0
  | succ d ih =>
    intro nr sched hyp isSub hasID s0 h0
    have hrel := NLevel.levelRel ops cfg cd (NR.toI ops cfg cd d) (NR.deepPlain d)
      (NR.isFn d) (NR.xok ops cfg cd d) (NR.clog d) (NR.wt ops cfg cd d) hcd nr
      (fun n hn c sc hb inp' hinp' v' href' => ih c sc (hyp.2 n hn c sc hb) true false true false v' inp' hinp' href')
    exact EinoV.Interrupt.call_sim hrel hyp.1 cfg hcfg isSub hasID s0 h0

end depth

theorem resumeLoop_eq_chain (ops : ValOps V) (cfg : Cfg) (r : IRunner V S X) (sched : ISched V S X) :
    ∀ (n : Nat) (inp : V ⊕ Checkpoint V S X), resumeLoop ops cfg r sched n inp = chain ops cfg r sched false true n inp := by
  intro n
  induction n with
  | zero => intro inp; rfl
  | succ n ih =>
    intro inp
    simp only [resumeLoop, chain]
    split <;> simp_all

theorem Out.finalOf_cons_eq_some {o : Out V S X} {rest : List (Out V S X)} {res : Res V S X} :
    Out.finalOf (o :: rest) = some res ↔ (rest = [] ∧ o.res = res) ∨ Out.finalOf rest = some res := by
  cases rest <;> simp [Out.finalOf]

/-- **the history of calls.**  If the reference returns `v`, a history of calls (each resumed from the
    checkpoint the previous one returned) that ends with something else than an interrupt ends with
    `v`, and the executions logged over the whole history are those the reference logs. -/
theorem chain_sim {isFn : Key → Bool} {XOK : Key → X → Prop} {clog : Key → List (Ev V S X) → Log V}
    {wt : Key → V → S → Option X → Nat}
    {r r₀ : IRunner V S X} {ops : ValOps V} {sched : ISched V S X} (cfg : Cfg) (isSub hasID s0 h0 : Bool)
    (hcall : CallSimAt ops cfg isFn XOK clog wt r r₀ sched isSub hasID s0 h0) (v : V) :
    ∀ (calls : Nat) (inp : V ⊕ Checkpoint V S X), InpOK cfg r XOK inp →
      (runI ops cfg r₀ sched s0 h0 inp).res = .done v →
      ∀ res, Out.finalOf (chain ops cfg r sched isSub hasID calls inp) = some res → res.final? ≠ none →
        res = .done v ∧
        (levelLog isFn clog (runI ops cfg r₀ sched s0 h0 inp).evs).Perm
          (levelLog isFn clog (allEvs (chain ops cfg r sched isSub hasID calls inp))) := by
  intro calls
  induction calls with
  | zero => intro inp _ _ res h; simp [chain, Out.finalOf] at h
  | succ n ih =>
    intro inp hinp href res hfin hne
    simp only [chain] at hfin ⊢
    rcases (hcall v inp hinp href).cases with ⟨hr, hlog⟩ | ⟨cp', info, hr, hok, href', hlog, _⟩
    · simp only [hr, Out.finalOf, Option.some.injEq] at hfin ⊢
      subst hfin
      exact ⟨rfl, by simpa [allEvs] using hlog⟩
    · simp only [hr] at hfin ⊢
      rcases Out.finalOf_cons_eq_some.1 hfin with ⟨_, rfl⟩ | hfin'
      · rw [hr] at hne
        exact absurd rfl hne
      · obtain ⟨i1, i2⟩ := ih (.inr cp') hok href' res hfin' hne
        refine ⟨i1, ?_⟩
        rw [allEvs_cons, levelLog_append]
        exact hlog.trans (List.Perm.append_left _ i2)

/-- **the history completes.**  The work of the reference bounds the number of interrupts: a caller
    that allows more calls than that gets a history that does not end in an interrupt. -/
theorem chain_terminates {isFn : Key → Bool} {XOK : Key → X → Prop} {clog : Key → List (Ev V S X) → Log V}
    {wt : Key → V → S → Option X → Nat}
    {r r₀ : IRunner V S X} {ops : ValOps V} {sched : ISched V S X} (cfg : Cfg) (isSub hasID s0 h0 : Bool)
    (hcall : CallSimAt ops cfg isFn XOK clog wt r r₀ sched isSub hasID s0 h0) (v : V) :
    ∀ (calls : Nat) (inp : V ⊕ Checkpoint V S X), InpOK cfg r XOK inp →
      (runI ops cfg r₀ sched s0 h0 inp).res = .done v → callWt ops cfg wt r₀ sched inp < calls →
      ∃ res, Out.finalOf (chain ops cfg r sched isSub hasID calls inp) = some res ∧ res.final? ≠ none := by
  intro calls
  induction calls with
  | zero => intro inp _ _ h; exact absurd h (Nat.not_lt_zero _)
  | succ n ih =>
    intro inp hinp href hw
    simp only [chain]
    rcases (hcall v inp hinp href).cases with ⟨hr, _⟩ | ⟨cp', info, hr, hok, href', _, hlt⟩
    · exact ⟨.done v, by simp [Out.finalOf, hr], by simp [Res.final?]⟩
    · obtain ⟨res, h1, h2⟩ := ih (.inr cp') hok href' (Nat.lt_of_lt_of_le hlt (Nat.le_of_lt_succ hw))
      rw [hr]
      exact ⟨res, Out.finalOf_cons_eq_some.2 (Or.inr h1), h2⟩

theorem NR.plain_deepPlain (ops : ValOps V) (cfg : Cfg) (cd : SubCodec V S X) : ∀ (d : Nat) (nr : NR V S X d),
    (NR.toI ops cfg cd d (NR.deepPlain d nr)).plain = NR.toI ops cfg cd d (NR.deepPlain d nr) := by
  intro d
  cases d <;> intro nr <;> rfl

/-- **nested resume equivalence** in the terms of `resumeUntilDone` / `run₀` / `NR.leafLog` -/
theorem NR.resume_equiv (ops : ValOps V) (cfg : Cfg) (cd : SubCodec V S X)
    (hcd : ∀ cp info, cd.cp (cd.pack cp info) = cp) (hcfg : cfg.fwdStale = false)
    (d : Nat) (nr : NR V S X d) (sched : ISched V S X) (hyp : NR.Hyp ops cfg cd d nr sched)
    (calls : Nat) (x v : V)
    (href : (run₀ ops cfg (NR.toI ops cfg cd d (NR.deepPlain d nr)) sched x).res = .done v)
    (res : Res V S X)
    (hfin : Out.finalOf (resumeUntilDone ops cfg (NR.toI ops cfg cd d nr) sched calls x) = some res)
    (hne : res.final? ≠ none) :
    res = .done v ∧
    (NR.leafLog d nr (run₀ ops cfg (NR.toI ops cfg cd d (NR.deepPlain d nr)) sched x).evs).Perm
      (NR.leafLog d nr (allEvs (resumeUntilDone ops cfg (NR.toI ops cfg cd d nr) sched calls x))) := by
  unfold run₀ at href ⊢
  rw [NR.plain_deepPlain] at href ⊢
  unfold resumeUntilDone at hfin ⊢
  rw [resumeLoop_eq_chain] at hfin ⊢
  rw [NR.leafLog_eq, NR.leafLog_eq]
  exact chain_sim cfg false true false false
    (NR.call_sim ops cfg cd hcd hcfg d nr sched hyp false true false false)
    v calls (.inl x) trivial href res hfin hne

theorem NR.resume_terminates (ops : ValOps V) (cfg : Cfg) (cd : SubCodec V S X)
    (hcd : ∀ cp info, cd.cp (cd.pack cp info) = cp) (hcfg : cfg.fwdStale = false)
    (d : Nat) (nr : NR V S X d) (sched : ISched V S X) (hyp : NR.Hyp ops cfg cd d nr sched)
    (calls : Nat) (x v : V)
    (href : (run₀ ops cfg (NR.toI ops cfg cd d (NR.deepPlain d nr)) sched x).res = .done v)
    (hc : NR.work ops cfg cd d nr sched (.inl x) < calls) :
    ∃ res, Out.finalOf (resumeUntilDone ops cfg (NR.toI ops cfg cd d nr) sched calls x) = some res ∧
      res.final? ≠ none := by
  unfold run₀ at href
  rw [NR.plain_deepPlain] at href
  unfold resumeUntilDone
  rw [resumeLoop_eq_chain]
  exact chain_terminates cfg false true false false
    (NR.call_sim ops cfg cd hcd hcfg d nr sched hyp false true false false)
    v calls (.inl x) trivial href hc

/-- **fold then get = get after all**: folding the first part of the finished tasks into the channels
    (resolve, updateValues, updateDependencies, no `get`) and reporting the rest to
    `calculateNextTasks` later gives what `calculateNextTasks` gives on all of them at once -/
def FoldThenGet (ops : ValOps V) (base : Runner V) : Prop :=
  ∀ (cm : Chans V) (D1 D2 : List (Done V)) (cm' : Chans V) (nx : Next V), ModeInv base cm →
    calcNext ops base cm (D1 ++ D2) = .ok (cm', nx) →
    ∃ cm2, foldFin base cm D1 = .ok cm2 ∧ calcNext ops base cm2 D2 = .ok (cm', nx)

def CalcNextPerm (ops : ValOps V) (base : Runner V) : Prop :=
  ∀ (cm : Chans V) (D D' : List (Done V)) (cm' : Chans V) (nx : Next V), D.Perm D' → (D.map (·.1)).Nodup →
    calcNext ops base cm D = .ok (cm', nx) → calcNext ops base cm D' = .ok (cm', nx)

def postStep (r : IRunner V S X) (d : Done V) (st : S) : Done V × S :=
  match (r.inode? d.1).bind (·.post) with
  | none => (d, st)
  | some h => ((d.1, (h d.2 st).1), (h d.2 st).2)

def PostsCommute (r : IRunner V S X) : Prop :=
  ∀ (d1 d2 : Done V) (st : S), d1.1 ≠ d2.1 →
    (postStep r d2 (postStep r d1 st).2).2 = (postStep r d1 (postStep r d2 st).2).2 ∧
    (postStep r d1 (postStep r d2 st).2).1 = (postStep r d1 st).1 ∧
    (postStep r d2 (postStep r d1 st).2).1 = (postStep r d2 st).1

theorem postDones_cons (r : IRunner V S X) (d : Done V) (rest : List (Done V)) (st : S) :
    postDones r (d :: rest) st =
      ((postStep r d st).1 :: (postDones r rest (postStep r d st).2).1, (postDones r rest (postStep r d st).2).2) := by
  simp only [postDones, postStep]
  cases (r.inode? d.1).bind (·.post) <;> rfl

theorem postsCommute_of_noPost (r : IRunner V S X) (h : ∀ k, (r.inode? k).bind (·.post) = none) : PostsCommute r := by
  intro d1 d2 st _
  simp [postStep, h]

theorem postDones_perm (r : IRunner V S X) (hc : PostsCommute r) {C C' : List (Done V)} (hp : C.Perm C') :
    (C.map (·.1)).Nodup → ∀ st, (postDones r C st).2 = (postDones r C' st).2 ∧
      (postDones r C st).1.Perm (postDones r C' st).1 := by
  induction hp with
  | nil => intro _ st; exact ⟨rfl, List.Perm.refl _⟩
  | cons d _ ih =>
    intro hnd st
    simp only [List.map_cons, List.nodup_cons] at hnd
    obtain ⟨i1, i2⟩ := ih hnd.2 (postStep r d st).2
    simp only [postDones_cons]
    exact ⟨i1, i2.cons _⟩
  | swap a b l =>
    intro hnd st
    simp only [List.map_cons, List.nodup_cons, List.mem_cons, not_or] at hnd
    have hne : b.1 ≠ a.1 := hnd.1.1
    obtain ⟨c1, c2, c3⟩ := hc b a st hne
    simp only [postDones_cons]
    rw [c1, c2, c3]
    exact ⟨rfl, List.Perm.swap _ _ _⟩
  | trans h1 _ ih1 ih2 =>
    intro hnd st
    obtain ⟨a1, a2⟩ := ih1 hnd st
    obtain ⟨b1, b2⟩ := ih2 ((h1.map _).nodup_iff.1 hnd) st
    exact ⟨a1.trans b1, a2.trans b2⟩

theorem splitOK_of (ops : ValOps V) (r : IRunner V S X) (hf : FoldThenGet ops r.base) (hp : CalcNextPerm ops r.base)
    (hc : PostsCommute r) : SplitOK ops r := by
  intro cm st A B C res hperm hnd hinv hnx
  obtain ⟨s1, s2⟩ := postDones_perm r hc hperm hnd st
  unfold nextOf at hnx ⊢
  cases hcn : calcNext ops r.base cm (postDones r C st).1 with
  | error e => rw [hcn] at hnx; cases hnx
  | ok q =>
    obtain ⟨cm', nx⟩ := q
    rw [hcn] at hnx
    simp only [Except.ok.injEq] at hnx
    subst hnx
    have hnd' : ((postDones r C st).1.map (·.1)).Nodup := by rw [postDones_fst_keys]; exact hnd
    have h2 := hp cm _ _ cm' nx s2 hnd' hcn
    rw [postDones_append] at h2 s1
    simp only at h2 s1
    obtain ⟨cm2, hfold, hnext⟩ := hf cm _ _ cm' nx hinv h2
    exact ⟨cm2, hfold, by rw [hnext, s1]⟩

/-- **any-predecessor mode.**  With a merge that does not depend on the order of its arguments and
    post-handlers that commute, the split rule holds for every topology (cycles, branches, fan-in). -/
theorem pregel_splitOK (ops : ValOps V) (hm : MergePerm ops) (r : IRunner V S X) (hdag : r.base.dag = false)
    (hc : PostsCommute r) : SplitOK ops r :=
  splitOK_of ops r
    (fun cm D1 D2 cm' nx _ h => pregel_fold_then_get ops r.base hdag cm D1 D2 cm' nx h)
    (fun cm D D' cm' nx hp hnd h => pregel_calcNext_perm ops hm r.base hdag cm D D' hp hnd cm' nx h) hc

theorem levelHyp_pregel (ops : ValOps V) (hm : MergePerm ops) (r : IRunner V S X) (sched : ISched V S X)
    (hdag : r.base.dag = false) (hnd : (akeys (initChans r.base)).Nodup) (hperm : ∀ l, (sched l).Perm l)
    (hc : PostsCommute r) : LevelHyp ops r sched :=
  ⟨hnd, fun h => by rw [hdag] at h; exact absurd h (by decide), hperm, pregel_splitOK ops hm r hdag hc⟩

theorem NLevel.noPost {C : Type} (ops : ValOps V) (cfg : Cfg) (cd : SubCodec V S X) (toC : C → IRunner V S X)
    (l : NLevel V S X C) (h : ∀ n ∈ l.nodes, n.post = none) :
    PostsCommute (l.toIWith ops cfg cd toC) := by
  apply postsCommute_of_noPost
  intro k
  rw [NLevel.inode?_toIWith]
  cases hn : l.node? k with
  | none => rfl
  | some n => exact h n (List.mem_of_find?_eq_some hn)

def PregelLevel (r : IRunner V S X) (sched : ISched V S X) : Prop :=
  r.base.dag = false ∧ (akeys (initChans r.base)).Nodup ∧ (∀ l, (sched l).Perm l) ∧ PostsCommute r

def NR.PregelHyp (ops : ValOps V) (cfg : Cfg) (cd : SubCodec V S X) : (d : Nat) → NR V S X d → ISched V S X → Prop
  | 0, l, sched => PregelLevel (NR.toI ops cfg cd 0 l) sched
  | d + 1, l, sched => PregelLevel (NR.toI ops cfg cd (d + 1) l) sched ∧ NLevel.hypWith (NR.PregelHyp ops cfg cd d) l

theorem NR.hyp_of_pregel (ops : ValOps V) (hm : MergePerm ops) (cfg : Cfg) (cd : SubCodec V S X) :
    ∀ (d : Nat) (nr : NR V S X d) (sched : ISched V S X), NR.PregelHyp ops cfg cd d nr sched → NR.Hyp ops cfg cd d nr sched := by
  intro d
  induction d with
  | zero =>
    intro nr sched h
    exact levelHyp_pregel ops hm _ sched h.1 h.2.1 h.2.2.1 h.2.2.2
  | succ d ih =>
    intro nr sched h
    exact ⟨levelHyp_pregel ops hm _ sched h.1.1 h.1.2.1 h.1.2.2.1 h.1.2.2.2,
      fun n hn c sc hb => ih c sc (h.2 n hn c sc hb)⟩

end EinoV.Interrupt
