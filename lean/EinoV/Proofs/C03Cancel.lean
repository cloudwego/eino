/-
  C03 — lemmas for `Model/C03Cancel.lean` (the run's context becomes done at any point of the
  submit / executor / wait protocol).
-/
import EinoV.Model.C03Cancel
import EinoV.Proofs.C03
import EinoV.Proofs.C03Loop

set_option linter.unusedSimpArgs false

namespace EinoV.C03

theorem cstep_tm_some {F : Facts} {C : CancelFacts} {needAll : Bool} {c c' : CSt} {e : Ev}
    (h : cstep F C needAll c (.tm e) = some c') :
    step F needAll c.s e = some c'.s ∧ c'.dropped = c.dropped ∧ c'.ctxDone = c.ctxDone ∧
      (e.isSubmit = false → c'.fresh = c.fresh) := by
  cases e with
  | finish t err =>
    simp only [cstep] at h
    split at h
    · cases h
    · obtain ⟨s', hs, rfl⟩ := Option.map_eq_some_iff.1 h
      exact ⟨hs, rfl, rfl, fun _ => rfl⟩
  | submit ts =>
    obtain ⟨s', hs, rfl⟩ := Option.map_eq_some_iff.1 h
    exact ⟨hs, rfl, rfl, nofun⟩
  | _ =>
    obtain ⟨s', hs, rfl⟩ := Option.map_eq_some_iff.1 h
    exact ⟨hs, rfl, rfl, fun _ => rfl⟩

theorem cstep_cancel_some {F : Facts} {C : CancelFacts} {needAll : Bool} {c c' : CSt}
    (h : cstep F C needAll c .cancel = some c') : c.ctxDone = false ∧ c' = { c with ctxDone := true } := by
  rw [cstep] at h
  split at h
  · cases h
  · cases h; exact ⟨Bool.eq_false_iff.2 ‹_›, rfl⟩

/-- an executor that begins was counted and had not begun; it goes on to run, or — only when the
    hand-off is not registered first — it sees the done context and is dropped -/
theorem cstep_enter_some {F : Facts} {C : CancelFacts} {needAll : Bool} {c c' : CSt} {t : Task}
    (h : cstep F C needAll c (.enter t) = some c') :
    t ∈ c.fresh ∧ c'.fresh = c.fresh.erase t ∧ c'.ctxDone = c.ctxDone ∧
      (c'.s = c.s ∧ c'.dropped = c.dropped ∨
       C.executorDefersFirst = false ∧
         c'.s = { c.s with running := c.s.running.erase t
                           coll := if c.s.coll = .inline t then .idle else c.s.coll }) := by
  rw [cstep] at h
  split at h
  · refine ⟨List.contains_iff_mem.1 ‹_›, ?_⟩
    split at h
    · rename_i hd
      cases h
      exact ⟨rfl, rfl, .inr ⟨by simpa using (Bool.and_eq_true_iff.1 hd).2, rfl⟩⟩
    · cases h; exact ⟨rfl, rfl, .inl ⟨rfl, rfl⟩⟩
  · cases h

theorem cstep_proj {F : Facts} {C : CancelFacts} (hC : C.executorDefersFirst = true)
    (needAll : Bool) {c c' : CSt} {e : CEv} (h : cstep F C needAll c e = some c') :
    (match e.proj with
     | some ev => step F needAll c.s ev = some c'.s
     | none => c'.s = c.s) ∧ c'.dropped = c.dropped := by
  cases e with
  | cancel => obtain ⟨-, rfl⟩ := cstep_cancel_some h; exact ⟨rfl, rfl⟩
  | enter t =>
    obtain ⟨-, -, -, hs | ⟨hC', -⟩⟩ := cstep_enter_some h
    · exact hs
    · rw [hC] at hC'; cases hC'
  | tm ev => exact ⟨(cstep_tm_some h).1, (cstep_tm_some h).2.1⟩

theorem crun_cons_some {F : Facts} {C : CancelFacts} {needAll : Bool} {c c' : CSt} {e : CEv}
    {es : List CEv} :
    crun F C needAll c (e :: es) = some c' ↔
      ∃ c1, cstep F C needAll c e = some c1 ∧ crun F C needAll c1 es = some c' := by
  rw [crun]
  cases cstep F C needAll c e <;> simp

/-- a schedule of the extended system, with its `cancel` and `enter` steps erased, is a
    schedule of the task manager reaching the same task-manager state -/
theorem crun_proj {F : Facts} {C : CancelFacts} (hC : C.executorDefersFirst = true)
    (needAll : Bool) :
    ∀ (evs : List CEv) {c c' : CSt}, crun F C needAll c evs = some c' →
      run F needAll c.s (evs.filterMap CEv.proj) = some c'.s ∧ c'.dropped = c.dropped := by
  intro evs c c' h
  induction evs generalizing c with
  | nil => cases h; exact ⟨rfl, rfl⟩
  | cons e es ih =>
    obtain ⟨c1, hs, h⟩ := crun_cons_some.1 h
    have h1 := cstep_proj hC needAll hs
    have h2 := ih h
    rw [List.filterMap_cons]
    cases hp : e.proj with
    | none =>
      rw [hp] at h1
      rw [← h1.1]
      exact ⟨h2.1, h2.2.trans h1.2⟩
    | some ev =>
      rw [hp] at h1
      exact ⟨run_cons_some.2 ⟨_, h1.1, h2.1⟩, h2.2.trans h1.2⟩

theorem creachable_base {F : Facts} {C : CancelFacts} (hC : C.executorDefersFirst = true)
    {needAll : Bool} {c : CSt} (h : CReachable F C needAll c) :
    Reachable F needAll c.s ∧ c.dropped = [] := by
  obtain ⟨evs, hr⟩ := h
  have := crun_proj hC needAll evs hr
  exact ⟨⟨_, this.1⟩, this.2⟩

theorem crun_append {F : Facts} {C : CancelFacts} {needAll : Bool} :
    ∀ (e1 : List CEv) {e2 : List CEv} {c c1 c2 : CSt},
      crun F C needAll c e1 = some c1 → crun F C needAll c1 e2 = some c2 →
      crun F C needAll c (e1 ++ e2) = some c2 := by
  intro e1 e2 c c1 c2 h1 h2
  induction e1 generalizing c with
  | nil => cases h1; exact h2
  | cons e es ih =>
    obtain ⟨c', hs, h1⟩ := crun_cons_some.1 h1
    exact crun_cons_some.2 ⟨c', hs, ih h1⟩

theorem creachable_run {F : Facts} {C : CancelFacts} {needAll : Bool} {c c' : CSt}
    {evs : List CEv} (h : CReachable F C needAll c) (hr : crun F C needAll c evs = some c') :
    CReachable F C needAll c' := by
  obtain ⟨e0, h0⟩ := h
  exact ⟨e0 ++ evs, crun_append e0 h0 hr⟩

/-- `stuck_of_idle_empty` for the extended system, when in addition every counted executor has begun -/
theorem cstuck_of_idle_empty {F : Facts} {C : CancelFacts} {needAll : Bool} {c : CSt}
    (hf : c.fresh = []) (hr : c.s.running = []) (hc : c.s.coll = .idle) (hch : c.s.ch = []) :
    ∀ e : CEv, e.isSubmit = false → e ≠ .cancel → cstep F C needAll c e = none := by
  intro e he hne
  cases e with
  | cancel => exact absurd rfl hne
  | enter t => simp [cstep, hf]
  | tm ev =>
    cases h : cstep F C needAll c (.tm ev) with
    | none => rfl
    | some c' => exact nomatch (stuck_of_idle_empty hr hc hch ev he).symm.trans (cstep_tm_some h).1

theorem cprogress {F : Facts} (hF : F.Good) (C : CancelFacts) (needAll : Bool) {c : CSt}
    (hI : Inv F c.s) (hn : c.s.num ≠ 0) :
    ∃ e : CEv, e.isSubmit = false ∧ e ≠ .cancel ∧ (cstep F C needAll c e).isSome = true := by
  cases hr : c.s.running with
  | cons t rest =>
    by_cases hf : c.fresh.contains t = true
    · refine ⟨.enter t, rfl, by simp, ?_⟩
      simp only [cstep, hf, if_true]
      split <;> rfl
    · refine ⟨.tm (.finish t false), rfl, by simp, ?_⟩
      have hf' : t ∉ c.fresh := by simpa using hf
      simp [cstep, hf', step, hr]
  | nil =>
    rcases inv_progress hF needAll hI hn hr with ⟨_, h1⟩ | ⟨_, s1, h1, _, _⟩
    · refine ⟨.tm .recv, rfl, by simp, ?_⟩
      simpa [cstep] using h1
    · refine ⟨.tm .refill, rfl, by simp, ?_⟩
      simp [cstep, h1]

theorem cstep_measure {F : Facts} {C : CancelFacts} (needAll : Bool) {c c' : CSt} {e : CEv}
    (hns : e.isSubmit = false) (h : cstep F C needAll c e = some c') :
    cmeasure c' < cmeasure c := by
  cases e with
  | cancel =>
    obtain ⟨hd, rfl⟩ := cstep_cancel_some h
    simp [cmeasure, hd]
  | enter t =>
    obtain ⟨hmem, hfr, hd, hs⟩ := cstep_enter_some h
    have hlen := List.length_erase_of_mem hmem
    have hpos : 0 < c.fresh.length := List.length_pos_of_mem hmem
    rcases hs with ⟨hs, -⟩ | ⟨-, hs⟩
    · simp only [cmeasure, hfr, hd, hs, hlen]
      omega
    · -- the execution is dropped: it leaves `running`, and an inlined call returns
      have hle : (c.s.running.erase t).length ≤ c.s.running.length := List.erase_sublist.length_le
      simp only [cmeasure, measure, hfr, hd, hs, hlen, release_window_iff]
      omega
  | tm ev =>
    obtain ⟨hs, _, hd, hf⟩ := cstep_tm_some h
    have := step_measure needAll hns hs
    simp only [cmeasure, hd, hf hns]
    omega

theorem crun_measure {F : Facts} {C : CancelFacts} (needAll : Bool) :
    ∀ (evs : List CEv) {c c' : CSt}, (∀ e ∈ evs, e.isSubmit = false) →
      crun F C needAll c evs = some c' → evs.length + cmeasure c' ≤ cmeasure c := by
  intro evs c c' hns h
  induction evs generalizing c with
  | nil => cases h; exact Nat.le_of_eq (Nat.zero_add _)
  | cons e es ih =>
    obtain ⟨c1, hs, h⟩ := crun_cons_some.1 h
    have h1 := cstep_measure needAll (hns e List.mem_cons_self) hs
    have h2 := ih (fun e' he' => hns e' (List.mem_cons_of_mem _ he')) h
    rw [List.length_cons]; omega

theorem cBatch_covered (c : CCfg) :
    ∀ (n : Nat) (st : EState) (next : List Key) (done : Bool) (it : Nat) (acc : List IStep),
      Covered st [] → Covered (cBatch c n st next done it acc).st [] := by
  intro n st next done it acc hc
  -- the branches of `cBatch`: 1 no fuel, 2 the context is done (`.cancelled`), 3 nothing to submit
  -- (`.stuck`), 4 END is ready after the superstep (`.ok`), 5 the loop goes on
  fun_induction cBatch c n st next done it acc with
  | case1 | case2 | case3 => exact hc
  | case4 => exact covered_drain_all _ (covered_mono (covered_start hc) (by simp))
  | case5 => rename_i ih; exact ih (covered_drain_all _ (covered_mono (covered_start hc) (by simp)))

theorem cEager_steps_len (c : CCfg) :
    ∀ (n : Nat) (st : EState) (infl next : List Key) (done : Bool) (it : Nat) (acc : List IStep),
      acc.length = it → (cEager c n st infl next done it acc).out ≠ .stuck →
        (cEager c n st infl next done it acc).steps.length = (cEager c n st infl next done it acc).iters := by
  intro n st infl next done it acc hl
  -- the branches of `cEager`: 1 no fuel (`.stuck`), 2 the context is done (`.cancelled`), 3 nothing
  -- outstanding after the submit (`.stuck`), 4 END is ready after the collection (`.ok`), 5 the loop goes on
  fun_induction cEager c n st infl next done it acc with
  | case1 | case3 => exact fun hs => absurd rfl hs
  | case2 => exact fun _ => hl
  | case4 => exact fun _ => by rw [List.length_append, hl]; rfl
  | case5 => rename_i ih; exact ih (by rw [List.length_append, hl]; rfl)

end EinoV.C03
