/-
  C04 — the packer (`Model/C04.lean`): for every preference table whose rows each name all four
  paradigms the four forms of a component agree with its function (`pack_agree`), hence for the
  expected table; total concatenation `concatD`; a packed component's Invoke form commutes with
  its Transform form along concatenation (`packed_component_commutes`).
-/
import EinoV.Model.C04
import EinoV.Expected.C04

namespace EinoV.C04
open EinoV.Engine

theorem concat_single {V} (co : ChunkOps V) (v : V) : concat co [v] = .ok v := rfl

theorem bind_ok {ε α β} (a : α) (f : α → Except ε β) : (Except.ok a >>= f) = f a := rfl
theorem bind_assoc' {ε α β γ} (x : Except ε α) (f : α → Except ε β) (g : β → Except ε γ) :
    (x >>= f >>= g) = (x >>= fun a => f a >>= g) := bind_assoc x f g
theorem bind_pure' {ε α} (x : Except ε α) : (x >>= fun a => pure a) = x := bind_pure x


/-!
  A component built by `nativeOf` implements `f` in some of the four paradigms.  Whichever implemented
  paradigm `q` a derived form is taken from, Invoke and Collect are `f` (of the concatenated input), and
  Stream and Transform are `f` followed by a chunking `g` that is the component's own `chunk` or the
  one-chunk stream.  The preference table only has to find an implemented source. -/

theorem pickSource_eq_find? {V} (n : Native V) (l : List Paradigm) : pickSource n l = l.find? n.has := by
  induction l with
  | nil => rfl
  | cons p ps ih =>
    rw [pickSource, List.find?_cons, ih]
    cases n.has p <;> rfl

theorem pickSource_nativeOf {V} (co : ChunkOps V) (f : V → Except Err V) (chunk : V → List V)
    {hasI hasS hasC hasT : Bool} (hne : (hasI || hasS || hasC || hasT) = true)
    {l : List Paradigm} (hl : ∀ p, p ∈ l) :
    ∃ q, pickSource (nativeOf co f chunk hasI hasS hasC hasT) l = some q ∧
      (nativeOf co f chunk hasI hasS hasC hasT).has q = true := by
  have hp : ∃ p, (nativeOf co f chunk hasI hasS hasC hasT).has p = true := by
    simp only [Bool.or_eq_true] at hne
    rcases hne with ((h | h) | h) | h <;> subst h
    · exact ⟨.i, rfl⟩
    · exact ⟨.s, rfl⟩
    · exact ⟨.c, rfl⟩
    · exact ⟨.t, rfl⟩
  obtain ⟨p, hp⟩ := hp
  rw [pickSource_eq_find?]
  obtain ⟨q, hq⟩ := Option.isSome_iff_exists.mp (List.find?_isSome.mpr ⟨p, hl p, hp⟩)
  exact ⟨q, hq, List.find?_some hq⟩

theorem bind_chunking_concat {V} (co : ChunkOps V) (chunk g : V → List V)
    (hchunk : ∀ v, concat co (chunk v) = .ok v) (hg : ∀ o, g o = chunk o ∨ g o = [o])
    (y : Except Err V) : ((y >>= fun o => pure (g o)) >>= concat co) = y := by
  cases y with
  | error e => rfl
  | ok o =>
    show concat co (g o) = .ok o
    rcases hg o with h | h <;> rw [h]
    · exact hchunk o
    · rfl

section derive
variable {V : Type} (co : ChunkOps V) (f : V → Except Err V) (chunk : V → List V)
  {hasI hasS hasC hasT : Bool} {q : Paradigm}
  (hq : (nativeOf co f chunk hasI hasS hasC hasT).has q = true)
include hq

theorem deriveIC_nativeOf (hchunk : ∀ v, concat co (chunk v) = .ok v) :
    (∀ x, deriveI co (nativeOf co f chunk hasI hasS hasC hasT) (some q) x = f x) ∧
    ∀ xs, deriveC co (nativeOf co f chunk hasI hasS hasC hasT) (some q) xs = (concat co xs >>= f) := by
  have e := bind_chunking_concat co chunk chunk hchunk (fun _ => .inl rfl)
  cases q
  · cases hasI
    · cases hq
    · exact ⟨fun _ => rfl, fun _ => rfl⟩
  · cases hasS
    · cases hq
    · exact ⟨fun x => e (f x), fun xs => (congrArg (· >>= concat co) (bind_assoc _ _ _).symm).trans (e _)⟩
  · cases hasC
    · cases hq
    · exact ⟨fun _ => rfl, fun _ => rfl⟩
  · cases hasT
    · cases hq
    · exact ⟨fun x => e (f x), fun xs => e _⟩

theorem deriveST_nativeOf :
    ∃ g : V → List V, (∀ o, g o = chunk o ∨ g o = [o]) ∧
      (∀ x, deriveS co (nativeOf co f chunk hasI hasS hasC hasT) (some q) x = (f x >>= fun o => pure (g o))) ∧
      ∀ xs, deriveT co (nativeOf co f chunk hasI hasS hasC hasT) (some q) xs
        = (concat co xs >>= f >>= fun o => pure (g o)) := by
  cases q
  · cases hasI
    · cases hq
    · exact ⟨fun o => [o], fun _ => .inr rfl, fun _ => rfl, fun _ => rfl⟩
  · cases hasS
    · cases hq
    · exact ⟨chunk, fun _ => .inl rfl, fun _ => rfl, fun xs => (bind_assoc _ _ _).symm⟩
  · cases hasC
    · cases hq
    · exact ⟨fun o => [o], fun _ => .inr rfl, fun _ => rfl, fun _ => rfl⟩
  · cases hasT
    · cases hq
    · exact ⟨chunk, fun _ => .inl rfl, fun _ => rfl, fun _ => rfl⟩

end derive

theorem pack_agree {V} (co : ChunkOps V) (f : V → Except Err V) (chunk : V → List V)
    (hchunk : ∀ v, concat co (chunk v) = .ok v) (pref : Pref)
    (hrows : ∀ p, p ∈ pref.forI ∧ p ∈ pref.forS ∧ p ∈ pref.forC ∧ p ∈ pref.forT)
    (hasI hasS hasC hasT : Bool) (hne : (hasI || hasS || hasC || hasT) = true) :
    let p := pack co pref (nativeOf co f chunk hasI hasS hasC hasT)
    (∀ x, p.i x = f x) ∧ (∀ x, (p.s x >>= concat co) = f x) ∧
    (∀ xs, p.c xs = (concat co xs >>= f)) ∧ (∀ xs, (p.t xs >>= concat co) = (concat co xs >>= f)) := by
  obtain ⟨qi, hi, hqi⟩ := pickSource_nativeOf co f chunk hne (fun p => (hrows p).1)
  obtain ⟨qs, hs, hqs⟩ := pickSource_nativeOf co f chunk hne (fun p => (hrows p).2.1)
  obtain ⟨qc, hc, hqc⟩ := pickSource_nativeOf co f chunk hne (fun p => (hrows p).2.2.1)
  obtain ⟨qt, ht, hqt⟩ := pickSource_nativeOf co f chunk hne (fun p => (hrows p).2.2.2)
  obtain ⟨gs, hgs, es, _⟩ := deriveST_nativeOf co f chunk hqs
  obtain ⟨gt, hgt, _, et⟩ := deriveST_nativeOf co f chunk hqt
  simp only [pack, hi, hs, hc, ht]
  exact ⟨(deriveIC_nativeOf co f chunk hqi hchunk).1,
    fun x => by rw [es]; exact bind_chunking_concat co chunk gs hchunk hgs _,
    (deriveIC_nativeOf co f chunk hqc hchunk).2,
    fun xs => by rw [et]; exact bind_chunking_concat co chunk gt hchunk hgt _⟩

theorem pack_t_nonempty {V} (co : ChunkOps V) (f : V → Except Err V) (chunk : V → List V)
    (hne : ∀ v, chunk v ≠ []) (pref : Pref) (hrows : ∀ p, p ∈ pref.forT)
    (hasI hasS hasC hasT : Bool) (hany : (hasI || hasS || hasC || hasT) = true) (a a' : List V)
    (h : (pack co pref (nativeOf co f chunk hasI hasS hasC hasT)).t a = .ok a') : a' ≠ [] := by
  obtain ⟨qt, ht, hqt⟩ := pickSource_nativeOf co f chunk hany hrows
  obtain ⟨g, hg, _, et⟩ := deriveST_nativeOf co f chunk hqt
  simp only [pack, ht, et] at h
  cases hy : concat co a >>= f with
  | error e => rw [hy] at h; cases h
  | ok o =>
    rw [hy] at h
    cases h
    rcases hg o with h' | h' <;> rw [h']
    · exact hne o
    · exact List.cons_ne_nil _ _

theorem packerPref_rows (p : Paradigm) :
    p ∈ Expected.C04.packerPref.forI ∧ p ∈ Expected.C04.packerPref.forS ∧
    p ∈ Expected.C04.packerPref.forC ∧ p ∈ Expected.C04.packerPref.forT := by
  cases p <;> decide

theorem packer_agree_expected {V} (co : ChunkOps V) (f : V → Except Err V) (chunk : V → List V)
    (hchunk : ∀ v, concat co (chunk v) = .ok v)
    (hasI hasS hasC hasT : Bool) (hne : (hasI || hasS || hasC || hasT) = true) :
    let p := pack co Expected.C04.packerPref (nativeOf co f chunk hasI hasS hasC hasT)
    (∀ x, p.i x = f x) ∧ (∀ x, (p.s x >>= concat co) = f x) ∧
    (∀ xs, p.c xs = (concat co xs >>= f)) ∧ (∀ xs, (p.t xs >>= concat co) = (concat co xs >>= f)) :=
  pack_agree co f chunk hchunk _ packerPref_rows hasI hasS hasC hasT hne


/-- `concat` with the default `d` in place of a failure: a total map from streams to values, which
    `Proofs/C04Graph.lean` takes as the translation `h` of `Proofs/EngineHom.lean`.  `d` never shows:
    the map is only used on non-empty streams, where concatenation is assumed total (`hct`). -/
def concatD {V} (co : ChunkOps V) (d : V) (l : List V) : V :=
  match concat co l with
  | .ok v => v
  | .error _ => d

theorem concat_eq_concatD {V} (co : ChunkOps V) (d : V)
    (hct : ∀ l, l ≠ [] → ∃ v, concat co l = .ok v) (l : List V) (hl : l ≠ []) :
    concat co l = .ok (concatD co d l) := by
  obtain ⟨v, hv⟩ := hct l hl
  simp [concatD, hv]

theorem packed_t_nonempty {V} (co : ChunkOps V) (f : V → Except Err V) (chunk : V → List V)
    (hne : ∀ v, chunk v ≠ []) (hasI hasS hasC hasT : Bool) (hany : (hasI || hasS || hasC || hasT) = true)
    (a a' : List V)
    (h : (pack co Expected.C04.packerPref (nativeOf co f chunk hasI hasS hasC hasT)).t a = .ok a') : a' ≠ [] :=
  pack_t_nonempty co f chunk hne _ (fun p => (packerPref_rows p).2.2.2) hasI hasS hasC hasT hany a a' h

theorem map_eq_bind_concat {V} (co : ChunkOps V) (d : V)
    (hct : ∀ l, l ≠ [] → ∃ v, concat co l = .ok v)
    (x : Except Err (List V)) (hx : ∀ a', x = .ok a' → a' ≠ []) :
    x.map (concatD co d) = (x >>= concat co) := by
  cases x with
  | error e => rfl
  | ok a' =>
    simp only [Except.map, bind, Except.bind]
    rw [concat_eq_concatD co d hct a' (hx a' rfl)]

theorem packed_component_commutes {V} (co : ChunkOps V) (d : V)
    (hct : ∀ l, l ≠ [] → ∃ v, concat co l = .ok v)
    (f : V → Except Err V) (chunk : V → List V)
    (hchunk : ∀ v, concat co (chunk v) = .ok v) (hne : ∀ v, chunk v ≠ [])
    (hasI hasS hasC hasT : Bool) (hany : (hasI || hasS || hasC || hasT) = true) (a : List V) (ha : a ≠ []) :
    let p := pack co Expected.C04.packerPref (nativeOf co f chunk hasI hasS hasC hasT)
    p.i (concatD co d a) = (p.t a).map (concatD co d) := by
  intro p
  have key := packer_agree_expected co f chunk hchunk hasI hasS hasC hasT hany
  obtain ⟨k1, _, _, k4⟩ := key
  rw [map_eq_bind_concat co d hct _ (fun a' h' => packed_t_nonempty co f chunk hne hasI hasS hasC hasT hany a a' h')]
  rw [k4 a, k1, concat_eq_concatD co d hct a ha]
  rfl

end EinoV.C04
