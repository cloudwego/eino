/- Helper lemmas for C07: from the builder invariant to a sound runner, and what a sound
   runner does with values of every dynamic type. -/
import EinoV.Model.C20Builder
import EinoV.Model.C07
import EinoV.Proofs.C20Infer
import EinoV.Proofs.C20Sim

namespace EinoV.C07
open EinoV.Build

/-- method-set inclusion is transitive: a type implementing the interface `u`, where `u`
    implements `v`, implements `v` (for `u = any`: if the empty interface implemented `v`,
    everything would) -/
def ImplTrans (im : Impl) : Prop :=
  ∀ (t u v : Ty), u.isIface = true → implements im t u = true → implements im u v = true →
    implements im t v = true

theorem dynOk_any (im : Impl) (d : Dyn) : dynOk im d .any = true := rfl

theorem dynOk_iface (im : Impl) (d : Dyn) (A : Ty) (h : A.isIface = true) :
    dynOk im d A = implements im (.conc d) A := by
  cases A with
  | conc c => simp [Ty.isIface] at h
  | iface i => rfl
  | any => rfl

theorem checkAssignable_must {im : Impl} {A B : Ty} (h : checkAssignable im (some A) (some B) = .must) :
    B = A ∨ (B.isIface = true ∧ implements im A B = true) := by
  simp only [checkAssignable] at h
  by_cases h1 : B = A
  · exact Or.inl h1
  by_cases h2 : (B.isIface && implements im A B) = true
  · exact Or.inr (by simpa using h2)
  rw [if_neg h1, if_neg h2] at h
  split at h
  · split at h <;> cases h
  · cases h

theorem must_sound (im : Impl) (ht : ImplTrans im) (A B : Ty)
    (h : checkAssignable im (some A) (some B) = .must) (d : Dyn) (hd : dynOk im d A = true) :
    dynOk im d B = true := by
  rcases checkAssignable_must h with rfl | ⟨hbi, himp⟩
  · exact hd
  · rw [dynOk_iface im d B hbi]
    cases A with
    | conc c =>
      -- A concrete: the value has exactly type A
      simp only [dynOk, beq_iff_eq] at hd
      subst hd; exact himp
    | iface i => exact ht (.conc d) (.iface i) B rfl hd himp
    | any => exact ht (.conc d) .any B rfl hd himp

theorem may_upstream_iface (im : Impl) (A B : Ty) (h : checkAssignable im (some A) (some B) = .may) :
    A.isIface = true := by
  simp only [checkAssignable] at h
  by_cases h1 : B = A
  · rw [if_pos h1] at h; cases h
  by_cases h2 : (B.isIface && implements im A B) = true
  · rw [if_neg h1, if_pos h2] at h; cases h
  by_cases h3 : A.isIface = true
  · exact h3
  · rw [if_neg h1, if_neg h2, if_neg h3] at h; cases h

theorem concrete_table (im : Impl) (a b : Nat) :
    checkAssignable im (some (.conc a)) (some (.conc b)) = (if a = b then .must else .mustNot) ∧
    (∀ d, dynOk im d (.conc a) = true → (dynOk im d (.conc b) = true ↔ a = b)) := by
  constructor
  · simp only [checkAssignable, Ty.isIface, Bool.false_and, Bool.false_eq_true, ↓reduceIte, Ty.conc.injEq]
    by_cases h : a = b
    · simp [h]
    · have : ¬ b = a := fun e => h e.symm
      simp [h, this]
  · intro d hd
    simp only [dynOk, beq_iff_eq] at hd ⊢
    subst hd
    exact ⟨fun e => e.symm, fun e => e.symm⟩

/-- the data connection `a → b` of the runner was validated: assignable for sure, or possibly
    assignable with the run-time converter installed -/
def SoundConn (im : Impl) (r : Runner) (a b : Key) : Prop :=
  match checkAssignable im (r.outOf a) (r.inOf b) with
  | .mustNot => False
  | .may => (a, b) ∈ r.mayEdges
  | .must => True

/-- the same for what a branch condition reads: the output of `br.src` against the condition's
    declared input type, `flag` = the pre-branch converter is installed (the Bool of `r.preBranch`) -/
def SoundBrR (im : Impl) (r : Runner) (br : BranchRec) (flag : Bool) : Prop :=
  match checkAssignable im (r.outOf br.src) (some br.inTy) with
  | .mustNot => False
  | .may => flag = true
  | .must => True

/-- What compile-time validation leaves true of a runner (`mkRunner_sound`, from the builder invariant),
    and all that `runGraph_no_panic` uses of it: every data edge was validated (`edges`), every branch's
    condition input and, unless the branch carries no data, every connection to one of its ends (`br`);
    `brLen` pairs the branches with their converter flags; `nodeOK`: a pass-through node has one type
    for input and output, any other node has both declared. -/
structure SoundRunner (im : Impl) (r : Runner) : Prop where
  nodeOK : ∀ n ∈ r.nodes, NodeOK n
  edges : ∀ p ∈ r.dataEdges, SoundConn im r p.1 p.2
  brLen : r.branches.length = r.preBranch.length
  br : ∀ p ∈ r.branches.zip (r.preBranch.map (·.2)),
    SoundBrR im r p.1 p.2 ∧ (p.1.noData = false → ∀ e ∈ p.1.ends, SoundConn im r p.1.src e)

theorem mkRunner_sound (im : Impl) (f : Facts) (b : Builder) (o : COpts) (h : Inv im b)
    (hp : compilePre f b o = none) : SoundRunner im (mkRunner f b o) := by
  have hnp : b.hasPending ≠ true := Bool.eq_false_iff.mp (compilePre_eq_none.mp hp).2.2.2.2.1
  have hconn : ∀ s e, Conn b s e → SoundE im b s e := by
    intro s e hc
    rcases h.c.conn s e (Or.inl hc) with ⟨x, hx, _⟩ | hs
    · exact absurd ((hasPending_iff b).mpr ⟨s, x, hx⟩) hnp
    · exact hs
  refine ⟨h.c.wf, ?_, h.brLen, ?_⟩
  · intro p hp'
    exact hconn p.1 p.2 (Or.inl hp')
  · intro p hp'
    refine ⟨h.br p hp', fun hnd e he => ?_⟩
    have hmem : p.1 ∈ b.branches := (List.of_mem_zip hp').1
    exact hconn p.1.src e (Or.inr ⟨p.1, hmem, rfl, he, hnd⟩)

/-- every runner that calls without field mappings hand out is sound (noControl / noData edges and
    branches without data flow included) -/
theorem run_runners_sound' (f : Facts) (hg : f.branchGuarded = true) (hpr : f.branchPropagates = true)
    (im : Impl) (ord : Ord) (hv : ord.Valid) :
    ∀ (ops : List Op) (b : Builder), (∀ op ∈ ops, op.isWfApi = true) → Inv im b →
      ∀ r ∈ (run f im ord b ops).2.2, SoundRunner im r := by
  intro ops
  induction ops with
  | nil => intro b _ _ r hr; simp [run] at hr
  | cons op ops ih =>
    intro b hops hi r hr
    simp only [run] at hr
    rcases List.mem_append.mp hr with hr | hr
    · -- only Compile hands out a runner
      cases op with
      | compile o =>
        rcases h0 : (compile f ord b o).2.2 with _ | r0
        · simp [step, h0] at hr
        · simp only [step, h0, List.mem_singleton] at hr
          obtain ⟨hpre, rfl⟩ := compile_runner h0
          exact hr ▸ mkRunner_sound im f b o hi hpre
      | _ => simp [step] at hr
    · exact ih _ (fun x hx => hops x (List.mem_cons_of_mem _ hx))
        (step_inv f hg hpr im ord hv b op (hops op List.mem_cons_self) hi) r hr

theorem run_runners_sound (f : Facts) (hg : f.branchGuarded = true) (hpr : f.branchPropagates = true)
    (im : Impl) (ord : Ord) (hv : ord.Valid) :
    ∀ (ops : List Op) (b : Builder), (∀ op ∈ ops, op.isGraphApi = true) → Inv im b →
      ∀ r ∈ (run f im ord b ops).2.2, SoundRunner im r :=
  fun ops b hops => run_runners_sound' f hg hpr im ord hv ops b fun op h => isWfApi_of_isGraphApi (hops op h)

theorem Inv.new (im : Impl) (cmp : Cmp) (inT outT : Ty) (st : Option Nat) : Inv im (Builder.new cmp inT outT st) :=
  EinoV.Build.Inv_new im cmp inT outT st

/-- `worst` is the maximum for `pass < badPick < typeErr < panic` -/
theorem worst_spec (evs : List Ev) :
    (worst evs = .pass ↔ ∀ e ∈ evs, e = .pass) ∧ (worst evs = .panic ↔ Ev.panic ∈ evs) := by
  induction evs with
  | nil => simp [worst]
  | cons x xs ih =>
    rw [List.forall_mem_cons, List.mem_cons, ← ih.1, ← ih.2]
    cases x <;> simp only [worst] <;> cases worst xs <;> simp

theorem mem_zipIdx {α : Type} {l : List α} {n i : Nat} {x : α} (h : (i, x) ∈ zipIdx l n) : x ∈ l := by
  induction l generalizing n with
  | nil => simp [zipIdx] at h
  | cons y ys ih =>
    simp only [zipIdx, List.mem_cons, Prod.mk.injEq] at h
    rcases h with ⟨_, rfl⟩ | h
    · exact List.mem_cons_self
    · exact List.mem_cons_of_mem _ (ih h)

theorem mem_branchTable {r : Runner} {p : Nat × BranchRec × Bool} (h : p ∈ r.branchTable) :
    (p.2.1, p.2.2) ∈ r.branches.zip (r.preBranch.map (·.2)) := by
  unfold Runner.branchTable at h
  simp only [List.mem_map] at h
  obtain ⟨q, hq, rfl⟩ := h
  obtain ⟨i, x⟩ := q
  exact mem_zipIdx hq

/-- a value of dynamic type `d` fits the declared type `T`; `none` (a key that is no node, a
    pass-through node whose type was not inferred) is fitted by everything -/
def Inhab (im : Impl) (d : Dyn) (T : Option Ty) : Prop := ∀ t, T = some t → dynOk im d t = true

/-- the invariant of `runLevels`: a value on its way to `dl.dst` fits the input type of `dl.dst`.
    Kept by a level as long as no run-time check fired (`level_ok`); it is why no body panics. -/
def Good (im : Impl) (r : Runner) (dl : Delivery) : Prop := Inhab im dl.d (r.inOf dl.dst)

/-- Go's type checker on user code: a node body returns a value of its declared output type -/
def CodeOk (im : Impl) (r : Runner) (c : Code) : Prop :=
  ∀ k d, r.isPassthrough k = false → k ≠ START → k ≠ END → Inhab im (c.body k d) (r.outOf k)

/-- what validation at compile time buys at run time (the shape shared by `SoundConn` and
    `SoundBrR`, `flag` = the run-time check is installed): a value of the upstream type fits
    downstream, or the upstream type is an interface and the check is there to catch it -/
theorem validated_fits {im : Impl} (ht : ImplTrans im) {A B : Ty} {flag : Prop} {d : Dyn}
    (h : match checkAssignable im (some A) (some B) with
      | .mustNot => False
      | .may => flag
      | .must => True)
    (hd : dynOk im d A = true) : dynOk im d B = true ∨ (A.isIface = true ∧ flag) := by
  cases hc : checkAssignable im (some A) (some B) with
  | mustNot => rw [hc] at h; exact h.elim
  | must => exact Or.inl (must_sound im ht A B hc d hd)
  | may => rw [hc] at h; exact Or.inr ⟨may_upstream_iface im A B hc, h⟩

theorem convert_some {im : Impl} {r : Runner} {a b : Key} {d : Dyn} {B : Ty} (hi : r.inOf b = some B) :
    convert im r a b d = if r.mayEdges.contains (a, b) && !dynOk im d B then .typeErr else .pass := by
  unfold convert; rw [hi]

theorem convert_cases (im : Impl) (r : Runner) (a b : Key) (d : Dyn) :
    convert im r a b d = .pass ∨ convert im r a b d = .typeErr := by
  unfold convert
  split
  · exact Or.inl rfl
  · split
    · exact Or.inr rfl
    · exact Or.inl rfl

theorem convert_typeErr_iff {im : Impl} (ht : ImplTrans im) {r : Runner} {a b : Key} {d : Dyn} {A B : Ty}
    (hs : SoundConn im r a b) (ho : r.outOf a = some A) (hi : r.inOf b = some B)
    (hd : dynOk im d A = true) :
    convert im r a b d = .typeErr ↔ (A.isIface = true ∧ dynOk im d B = false) := by
  unfold SoundConn at hs
  rw [ho, hi] at hs
  rw [convert_some hi]
  rcases validated_fits ht hs hd with hB | ⟨hA, hm⟩
  · simp [hB]
  · simp [hm, hA]

theorem conn_good {im : Impl} (ht : ImplTrans im) {r : Runner} {a b : Key} {d : Dyn}
    (hs : SoundConn im r a b) (hd : Inhab im d (r.outOf a)) :
    convert im r a b d ≠ .panic ∧ (convert im r a b d = .pass → Inhab im d (r.inOf b)) := by
  refine ⟨by rcases convert_cases im r a b d with h | h <;> simp [h], fun hp B hi => ?_⟩
  rcases ho : r.outOf a with _ | A
  · simp [SoundConn, ho, checkAssignable] at hs
  · unfold SoundConn at hs
    rw [ho, hi] at hs
    rcases validated_fits ht hs (hd A ho) with hB | ⟨-, hm⟩
    · exact hB
    · -- a `may` connection: the converter is installed, and it let the value pass
      rw [convert_some hi] at hp
      cases hB : dynOk im d B with
      | true => rfl
      | false => simp [hm, hB] at hp

theorem arriveBranch_typeErr_iff {im : Impl} (ht : ImplTrans im) {r : Runner} {br : BranchRec} {flag : Bool}
    {A : Ty} {d : Dyn} (hs : SoundBrR im r br flag) (ho : r.outOf br.src = some A) (hd : dynOk im d A = true) :
    (arriveBranch im br.inTy flag d = .typeErr ↔ (A.isIface = true ∧ dynOk im d br.inTy = false)) ∧
    arriveBranch im br.inTy flag d ≠ .panic := by
  unfold SoundBrR at hs
  rw [ho] at hs
  unfold arriveBranch
  rcases validated_fits ht hs hd with hB | ⟨hA, rfl⟩
  · simp [hB]
  · cases hB : dynOk im d br.inTy <;> simp [hA]

theorem arriveBranch_ne_panic {im : Impl} (ht : ImplTrans im) {r : Runner} {br : BranchRec} {flag : Bool}
    {d : Dyn} (hs : SoundBrR im r br flag) (hd : Inhab im d (r.outOf br.src)) :
    arriveBranch im br.inTy flag d ≠ .panic := by
  rcases ho : r.outOf br.src with _ | A
  · simp [SoundBrR, ho, checkAssignable] at hs
  · exact (arriveBranch_typeErr_iff ht hs ho (hd A ho)).2

theorem brEv_ok {im : Impl} (ht : ImplTrans im) {r : Runner} (hr : SoundRunner im r) (c : Code) {k : Key} {d : Dyn}
    (hd : Inhab im d (r.outOf k)) {p : Nat × BranchRec × Bool} (hp : p ∈ r.branchTable) (hk : p.2.1.src = k)
    {ev : Ev} (hev : ev = match arriveBranch im p.2.1.inTy p.2.2 d with
      | .pass => if p.2.1.ends.contains (c.pick k p.1 d) then Ev.pass else .badPick
      | e => e) :
    ev ≠ .panic ∧ (ev = .pass → c.pick k p.1 d ∈ p.2.1.ends) := by
  subst hev
  cases ha : arriveBranch im p.2.1.inTy p.2.2 d with
  | panic => exact absurd ha (arriveBranch_ne_panic ht (hr.br _ (mem_branchTable hp)).1 (hk ▸ hd))
  | pass => by_cases hc : c.pick k p.1 d ∈ p.2.1.ends <;> simp [hc]
  | typeErr => simp
  | badPick => simp

theorem inhab_start {im : Impl} {r : Runner} {d : Dyn} (hd : dynOk im d r.inT = true) : Inhab im d (r.outOf START) := by
  intro t ht
  simp only [Runner.outOf, ↓reduceIte, Option.some.injEq] at ht
  exact ht ▸ hd

theorem assertIn_pass {im : Impl} {r : Runner} {k : Key} {d : Dyn} (h : Inhab im d (r.inOf k)) :
    assertIn im r k d = .pass := by
  unfold assertIn
  rcases hi : r.inOf k with _ | t
  · rfl
  · simp [h t hi]

theorem pt_out_eq_in {im : Impl} {r : Runner} (hr : SoundRunner im r) (k : Key)
    (h : (r.isPassthrough k || k = START || k = END) = true) : r.outOf k = r.inOf k := by
  unfold Runner.outOf Runner.inOf
  by_cases h1 : k = START
  · simp [h1]
  · by_cases h2 : k = END
    · simp [h2]
    · simp only [h1, h2, ↓reduceIte]
      simp only [h1, h2, decide_false, Bool.or_false] at h
      unfold Runner.isPassthrough Runner.node at h
      rcases hf : findNode r.nodes k with _ | n
      · rfl
      · simp only [hf] at h
        exact ((hr.nodeOK n (findNode_mem hf).1).1 h).symm

theorem emit_conn {im : Impl} {r : Runner} (hr : SoundRunner im r) (c : Code) (k : Key) (d : Dyn)
    (hpick : ∀ p ∈ r.branchTable, p.2.1.src = k → c.pick k p.1 d ∈ p.2.1.ends) :
    ∀ dl ∈ (emit im r c k d).2, dl.src = k ∧ dl.d = d ∧ SoundConn im r k dl.dst := by
  intro dl hdl
  simp only [emit, List.mem_append, List.mem_map, List.mem_filter, List.mem_filterMap,
    decide_eq_true_eq] at hdl
  rcases hdl with ⟨e, ⟨he, rfl⟩, rfl⟩ | ⟨p, ⟨hp, rfl⟩, hsome⟩
  · exact ⟨rfl, rfl, hr.edges e he⟩
  · split at hsome
    · cases hsome
    · rename_i hnd
      cases hsome
      exact ⟨rfl, rfl, (hr.br _ (mem_branchTable hp)).2 (by simpa using hnd) _ (hpick p hp rfl)⟩

theorem emit_ok {im : Impl} (ht : ImplTrans im) {r : Runner} (hr : SoundRunner im r) (c : Code) (k : Key) (d : Dyn)
    (hd : Inhab im d (r.outOf k)) :
    Ev.panic ∉ (emit im r c k d).1 ∧
    ((∀ e ∈ (emit im r c k d).1, e = .pass) → ∀ dl ∈ (emit im r c k d).2, Good im r dl) := by
  constructor
  · intro hmem
    simp only [emit, List.mem_append, List.mem_map, List.mem_filter, decide_eq_true_eq] at hmem
    rcases hmem with ⟨p, ⟨hp, hk⟩, hev⟩ | ⟨dl, _, hev⟩
    · exact (brEv_ok ht hr c hd hp hk rfl).1 hev
    · rcases convert_cases im r dl.src dl.dst dl.d with h | h <;> rw [h] at hev <;> cases hev
  · intro hall dl hdl
    -- every condition let the value pass, so each picked one of its end nodes
    obtain ⟨hsrc, hdd, hs⟩ := emit_conn hr c k d (fun p hp hk => (brEv_ok ht hr c hd hp hk rfl).2
      (hall _ (List.mem_append_left _ (List.mem_map_of_mem (List.mem_filter.mpr ⟨hp, decide_eq_true hk⟩))))) dl hdl
    have hconv := hall _ (List.mem_append_right _ (List.mem_map_of_mem hdl))
    rw [hsrc, hdd] at hconv
    show Inhab im dl.d _
    rw [hdd]
    exact (conn_good ht hs hd).2 hconv

theorem task_ok {im : Impl} (ht : ImplTrans im) {r : Runner} (hr : SoundRunner im r) {c : Code}
    (hc : CodeOk im r c) (dl : Delivery) (hg : Good im r dl) :
    Ev.panic ∉ (task im r c dl).1 ∧
    ((∀ e ∈ (task im r c dl).1, e = .pass) → ∀ x ∈ (task im r c dl).2, Good im r x) := by
  unfold task
  simp only [assertIn_pass hg]
  apply emit_ok ht hr c
  by_cases hpt : (r.isPassthrough dl.dst || dl.dst = START || dl.dst = END) = true
  · simp only [hpt, ↓reduceIte]
    rw [pt_out_eq_in hr dl.dst hpt]; exact hg
  · simp only [hpt]
    simp only [Bool.or_eq_true, decide_eq_true_eq, not_or] at hpt
    exact hc dl.dst dl.d (by simpa using hpt.1.1) hpt.1.2 hpt.2

theorem level_ok {im : Impl} (ht : ImplTrans im) {r : Runner} (hr : SoundRunner im r) {c : Code}
    (hc : CodeOk im r c) : ∀ (ds : List Delivery), (∀ dl ∈ ds, Good im r dl) →
      Ev.panic ∉ (level im r c ds).1 ∧
      ((∀ e ∈ (level im r c ds).1, e = .pass) → ∀ x ∈ (level im r c ds).2, Good im r x) := by
  intro ds
  induction ds with
  | nil => intro _; simp [level]
  | cons dl rest ih =>
    intro hg
    have h1 := task_ok ht hr hc dl (hg dl List.mem_cons_self)
    have h2 := ih (fun x hx => hg x (List.mem_cons_of_mem _ hx))
    simp only [level]
    constructor
    · intro hm
      rcases List.mem_append.mp hm with e | e
      · exact h1.1 e
      · exact h2.1 e
    · intro hall x hx
      rcases List.mem_append.mp hx with e | e
      · exact h1.2 (fun ev hev => hall ev (List.mem_append_left _ hev)) x e
      · exact h2.2 (fun ev hev => hall ev (List.mem_append_right _ hev)) x e

theorem settle_ok {im : Impl} {r : Runner} (ds : List Delivery) (hg : ∀ dl ∈ ds, Good im r dl) :
    settle im r ds ≠ some .panic := by
  unfold settle
  split
  · simp
  · split
    · rename_i dl hf
      have hmem : dl ∈ ds := List.mem_of_find?_eq_some hf
      have hend : dl.dst = END := by simpa using List.find?_some hf
      have : assertIn im r END dl.d = .pass := assertIn_pass (hend ▸ hg dl hmem)
      simp [this]
    · split <;> simp

/-- one superstep (`X` = its events and deliveries) followed by `settle`, as `runLevels` and
    `runGraph` do it; `rest` is the remainder of the run -/
theorem step_no_panic {im : Impl} {r : Runner} {X : List Ev × List Delivery} {rest : RunRes}
    (hX : Ev.panic ∉ X.1 ∧ ((∀ e ∈ X.1, e = .pass) → ∀ dl ∈ X.2, Good im r dl))
    (hrest : (∀ dl ∈ X.2, Good im r dl) → rest ≠ .panic) :
    (match worst X.1 with
      | .panic => RunRes.panic
      | .typeErr => .typeErr
      | .badPick => .badPick
      | .pass =>
        match settle im r X.2 with
        | some res => res
        | none => rest) ≠ .panic := by
  cases hw : worst X.1 with
  | pass =>
    have hnext := hX.2 ((worst_spec _).1.mp hw)
    cases hs : settle im r X.2 with
    | none => exact hrest hnext
    | some res => exact fun e => settle_ok _ hnext (e ▸ hs)
  | panic => exact absurd ((worst_spec _).2.mp hw) hX.1
  | typeErr => simp
  | badPick => simp

theorem runLevels_no_panic {im : Impl} (ht : ImplTrans im) {r : Runner} (hr : SoundRunner im r) {c : Code}
    (hc : CodeOk im r c) : ∀ (fuel : Nat) (ds : List Delivery), (∀ dl ∈ ds, Good im r dl) →
      runLevels im r c fuel ds ≠ .panic := by
  intro fuel
  induction fuel with
  | zero => intro ds _; simp [runLevels]
  | succ n ih => exact fun ds hg => step_no_panic (level_ok ht hr hc ds hg) (ih _)

theorem runGraph_no_panic {im : Impl} (ht : ImplTrans im) {r : Runner} (hr : SoundRunner im r) {c : Code}
    (hc : CodeOk im r c) (fuel : Nat) (d0 : Dyn) (hd : dynOk im d0 r.inT = true) :
    runGraph im r c fuel d0 ≠ .panic := by
  unfold runGraph
  simp only
  exact step_no_panic (emit_ok ht hr c START d0 (inhab_start hd)) (runLevels_no_panic ht hr hc fuel _)

theorem conc_eq_of_ne_mustNot {im : Impl} {a b : Nat}
    (h : checkAssignable im (some (.conc a)) (some (.conc b)) ≠ .mustNot) : a = b := by
  rw [(concrete_table im a b).1] at h
  exact Decidable.of_not_not fun hne => h (if_neg hne)

theorem SoundConn.conc_eq {im : Impl} {r : Runner} {s e : Key} {a b : Nat} (h : SoundConn im r s e)
    (ha : r.outOf s = some (.conc a)) (hb : r.inOf e = some (.conc b)) : a = b := by
  unfold SoundConn at h
  rw [ha, hb] at h
  exact conc_eq_of_ne_mustNot fun hm => by rw [hm] at h; exact h

theorem SoundBrR.conc_eq {im : Impl} {r : Runner} {br : BranchRec} {flag : Bool} {a c : Nat}
    (h : SoundBrR im r br flag) (ha : r.outOf br.src = some (.conc a)) (hc : br.inTy = .conc c) : a = c := by
  unfold SoundBrR at h
  rw [ha, hc] at h
  exact conc_eq_of_ne_mustNot fun hm => by rw [hm] at h; exact h

end EinoV.C07
