/-
  C08 — helper lemmas: the invariants of the components of EinoV/Model/C08.lean (pipe, convert,
  copy, merge) and their preservation by every step (so they hold after every event list).
-/
import EinoV.Model.C08

set_option linter.unusedSimpArgs false
set_option linter.unusedVariables false

namespace EinoV.C08

/-! The outcomes of each operation of a pipe, each with its equation: a proof about a step function
    that runs the operation splits on them and rewrites the step with the equation.  The `_some`
    lemmas say the same of a given result. -/

theorem Pipe.send_cases (p : Pipe) (i : Item) :
    p.send i = none ∨ p.sendClosed = false ∧
      (p.recvClosed = true ∧ p.send i = some (p, true) ∨
       p.recvClosed = false ∧ p.buf.length < p.cap ∧
         p.send i = some ({ p with buf := p.buf ++ [i] }, false)) := by
  unfold Pipe.send
  cases hsc : p.sendClosed
  · cases hrc : p.recvClosed
    · by_cases hl : p.buf.length < p.cap
      · exact .inr ⟨rfl, .inr ⟨rfl, hl, by simp [hl]⟩⟩
      · exact .inl (by simp [hl])
    · exact .inr ⟨rfl, .inl ⟨rfl, rfl⟩⟩
  · exact .inl rfl

theorem Pipe.recv_cases (p : Pipe) :
    p.recv = none ∨
    (∃ x rest, p.buf = x :: rest ∧ p.recv = some ({ p with buf := rest }, .item x)) ∨
    (p.buf = [] ∧ p.sendClosed = true ∧ p.recv = some (p, .eof)) := by
  unfold Pipe.recv
  split
  · exact .inr (.inl ⟨_, _, ‹_›, rfl⟩)
  · split
    · exact .inr (.inr ⟨‹_›, ‹_›, rfl⟩)
    · exact .inl rfl

theorem Pipe.handoff_cases (p : Pipe) :
    p.handoff = none ∨
    (p.sendClosed = false ∧ p.recvClosed = false ∧ p.buf = [] ∧ p.handoff = some p) := by
  unfold Pipe.handoff
  split
  · exact .inl rfl
  · rename_i hc
    refine .inr ?_
    simpa [Bool.or_eq_true, not_or, and_assoc] using hc

theorem Pipe.closeSend_cases (p : Pipe) :
    p.closeSend = none ∨
    (p.sendClosed = false ∧ p.closeSend = some { p with sendClosed := true }) := by
  unfold Pipe.closeSend
  split
  · exact .inl rfl
  · exact .inr ⟨Bool.eq_false_iff.mpr ‹_›, rfl⟩

theorem Pipe.closeRecv_cases (p : Pipe) :
    p.closeRecv = none ∨
    (p.recvClosed = false ∧ p.closeRecv = some { p with recvClosed := true }) := by
  unfold Pipe.closeRecv
  split
  · exact .inl rfl
  · exact .inr ⟨Bool.eq_false_iff.mpr ‹_›, rfl⟩

theorem Pipe.send_some {p p' : Pipe} {i : Item} {b : Bool} (h : p.send i = some (p', b)) :
    p.sendClosed = false ∧
    (b = true ∧ p.recvClosed = true ∧ p' = p ∨
     b = false ∧ p.recvClosed = false ∧ p.buf.length < p.cap ∧ p' = { p with buf := p.buf ++ [i] }) := by
  rcases p.send_cases i with e | ⟨hsc, ⟨hrc, e⟩ | ⟨hrc, hl, e⟩⟩ <;> rw [e] at h <;> cases h
  · exact ⟨hsc, .inl ⟨rfl, hrc, rfl⟩⟩
  · exact ⟨hsc, .inr ⟨rfl, hrc, hl, rfl⟩⟩

theorem Pipe.recv_some {p p' : Pipe} {r : Res} (h : p.recv = some (p', r)) :
    (∃ x rest, p.buf = x :: rest ∧ r = .item x ∧ p' = { p with buf := rest }) ∨
    (p.buf = [] ∧ p.sendClosed = true ∧ r = .eof ∧ p' = p) := by
  rcases p.recv_cases with e | ⟨x, rest, hb, e⟩ | ⟨hb, hsc, e⟩ <;> rw [e] at h <;> cases h
  · exact .inl ⟨x, rest, hb, rfl, rfl⟩
  · exact .inr ⟨hb, hsc, rfl, rfl⟩

theorem Pipe.closeRecv_some {p p' : Pipe} (h : p.closeRecv = some p') :
    p.recvClosed = false ∧ p' = { p with recvClosed := true } := by
  rcases p.closeRecv_cases with e | ⟨hrc, e⟩ <;> rw [e] at h <;> cases h
  exact ⟨hrc, rfl⟩

structure PInv (ph : Pipe × PHist) : Prop where
  fifo : ph.2.accepted = ph.2.recvd ++ ph.1.buf
  eofClosed : ph.2.eof = true → ph.1.sendClosed = true ∧ ph.1.buf = []
  noItemAfterEof : ph.2.itemAfterEof = false
  noLate : ph.2.lateAccept = false

theorem PInv.init (cap : Nat) : PInv (Pipe.new cap, {}) := by
  constructor <;> simp [Pipe.new]

theorem PInv.step {ph ph' : Pipe × PHist} {e : PEv} (h : PInv ph)
    (hs : Pipe.stepH ph e = some ph') : PInv ph' := by
  obtain ⟨p, hi⟩ := ph
  obtain ⟨h1, h2, h3, h4⟩ := h
  simp only at h1 h2 h3 h4
  -- once io.EOF was returned nothing is buffered and the writer has closed
  have noEof : p.sendClosed = false ∨ p.buf ≠ [] → hi.eof = false := fun hc => by
    cases he : hi.eof
    · rfl
    · obtain ⟨a, b⟩ := h2 he
      rcases hc with hc | hc
      · rw [a] at hc; cases hc
      · exact absurd b hc
  unfold Pipe.stepH at hs
  cases e with
  | send i =>
    rcases p.send_cases i with e | ⟨hsc, ⟨hrc, e⟩ | ⟨hrc, hl, e⟩⟩ <;> simp only [e] at hs <;> cases hs
    · exact ⟨h1, h2, h3, h4⟩
    · refine ⟨?_, ?_, h3, ?_⟩
      · show hi.accepted ++ [i] = hi.recvd ++ (p.buf ++ [i])
        rw [h1, List.append_assoc]
      · intro he; rw [noEof (.inl hsc)] at he; cases he
      · show (hi.lateAccept || p.recvClosed) = false
        rw [h4, hrc]; rfl
  | handoff i =>
    rcases p.handoff_cases with e | ⟨hsc, hrc, hb, e⟩ <;> simp only [e] at hs <;> cases hs
    refine ⟨?_, h2, ?_, h4⟩
    · show hi.accepted ++ [i] = hi.recvd ++ [i] ++ p.buf
      rw [h1, hb, List.append_nil, List.append_nil]
    · show (hi.itemAfterEof || hi.eof) = false
      rw [h3, noEof (.inl hsc)]; rfl
  | recv =>
    rcases p.recv_cases with e | ⟨x, rest, hb, e⟩ | ⟨hb, hsc, e⟩ <;> simp only [e] at hs <;> cases hs
    · have hne := noEof (.inr (by rw [hb]; exact List.cons_ne_nil _ _))
      refine ⟨?_, ?_, ?_, h4⟩
      · show hi.accepted = hi.recvd ++ [x] ++ rest
        rw [h1, hb, List.append_assoc]; rfl
      · intro he; rw [hne] at he; cases he
      · show (hi.itemAfterEof || hi.eof) = false
        rw [h3, hne]; rfl
    · exact ⟨h1, fun _ => ⟨hsc, hb⟩, h3, h4⟩
  | closeSend =>
    rcases p.closeSend_cases with e | ⟨hsc, e⟩ <;> simp only [e] at hs <;> cases hs
    exact ⟨h1, fun he => ⟨rfl, (h2 he).2⟩, h3, h4⟩
  | closeRecv =>
    rcases p.closeRecv_cases with e | ⟨_, e⟩ <;> simp only [e] at hs <;> cases hs
    exact ⟨h1, h2, h3, h4⟩

theorem PInv.run {ph ph' : Pipe × PHist} {evs : List PEv} (h : PInv ph)
    (hr : Pipe.runH ph evs = some ph') : PInv ph' := by
  induction evs generalizing ph with
  | nil => cases hr; exact h
  | cons e es ih =>
    rw [Pipe.runH] at hr
    split at hr
    · exact ih (h.step ‹_›) hr
    · cases hr

theorem convRecv_spec (g : Nat → ConvOut) (l : List Item) :
    match convRecv g l with
    | (.eof, rest) => l.filterMap (convItem g) = [] ∧ rest = []
    | (.item y, rest) => l.filterMap (convItem g) = y :: rest.filterMap (convItem g) := by
  induction l with
  | nil => simp [convRecv]
  | cons x xs ih =>
    unfold convRecv
    cases hx : convItem g x with
    | some y => simp [hx]
    | none =>
      simp only [hx]
      rw [List.filterMap_cons_none hx]
      exact ih

theorem convDrain_eq (g : Nat → ConvOut) (l : List Item) :
    convDrain g l = l.filterMap (convItem g) := by
  fun_induction convDrain g l with
  | case1 l rest h =>
    have := convRecv_spec g l
    rw [h] at this
    exact this.1.symm
  | case2 l y rest h hlt ih =>
    have := convRecv_spec g l
    rw [h] at this
    simp only at this
    rw [this, ih]

@[simp] theorem itemsOf_nil (i : Nat) : itemsOf i [] = [] := rfl
@[simp] theorem eofOf_nil (i : Nat) : eofOf i [] = false := rfl

theorem itemsOf_append (i j : Nat) (r : Res) (outs : List (Nat × Res)) :
    itemsOf i (outs ++ [(j, r)]) = itemsOf i outs ++ (if j = i then r.item?.toList else []) := by
  unfold itemsOf
  rw [List.filterMap_append]
  congr 1
  by_cases h : j = i <;> simp [h]
  cases r <;> simp [Res.item?]

theorem eofOf_append (i j : Nat) (r : Res) (outs : List (Nat × Res)) :
    eofOf i (outs ++ [(j, r)]) = (eofOf i outs || (decide (j = i) && r.isEof)) := by
  unfold eofOf
  simp [List.any_append]

theorem count_none_lt {l : List (Option Nat)} {i k : Nat} (h : l[i]? = some (some k)) :
    l.count none < l.length :=
  Nat.lt_of_le_of_ne List.count_le_length fun e =>
    nomatch List.count_eq_length.mp e _ (List.mem_of_getElem? h)

theorem count_none_set {l : List (Option Nat)} {i k : Nat} (h : l[i]? = some (some k)) :
    (l.set i none).count none = l.count none + 1 := by
  obtain ⟨hi, hget⟩ := List.getElem?_eq_some_iff.mp h
  rw [List.count_set hi, hget]; rfl

theorem count_none_eq_length {l : List (Option Nat)} :
    l.count none = l.length ↔ ∀ i, i < l.length → l[i]? = some none := by
  rw [List.count_eq_length]
  constructor
  · intro h i hi
    rw [List.getElem?_eq_getElem hi, ← h _ (List.getElem_mem hi)]
  · intro h b hb
    obtain ⟨i, hi, rfl⟩ := List.getElem_of_mem hb
    have := h i hi
    rw [List.getElem?_eq_getElem hi] at this
    exact (Option.some.inj this).symm

theorem openCursor_iff (l : List (Option Nat)) :
    (∃ (i k : Nat), l[i]? = some (some k)) ↔ l.count none ≠ l.length := by
  rw [Ne, count_none_eq_length]
  constructor
  · rintro ⟨i, k, hik⟩ hall
    rw [hall i (List.getElem?_eq_some_iff.mp hik).1] at hik; cases hik
  · intro hne
    by_cases hex : ∃ (i k : Nat), l[i]? = some (some k)
    · exact hex
    · exfalso; apply hne
      intro i hi
      cases hv : l[i]? with
      | none => rw [List.getElem?_eq_none_iff] at hv; omega
      | some v =>
        cases v with
        | none => rfl
        | some k => exact absurd ⟨i, k, hv⟩ hex

theorem count_none_set_some {l : List (Option Nat)} {i k k' : Nat} (h : l[i]? = some (some k)) :
    (l.set i (some k')).count none = l.count none := by
  obtain ⟨hi, hget⟩ := List.getElem?_eq_some_iff.mp h
  rw [List.count_set hi, hget]; rfl

theorem CopyCore.new_cursors_get (n i : Nat) :
    (CopyCore.new n).cursors[i]? = if i < n then some (some 0) else none :=
  List.getElem?_replicate

theorem CopyCore.new_cursors_length (n : Nat) : (CopyCore.new n).cursors.length = n :=
  List.length_replicate

theorem CopyCore.new_count_none (n : Nat) : (CopyCore.new n).cursors.count none = 0 :=
  (List.count_replicate ..).trans (if_neg nofun)

variable {σ : Type}

def goodCopy : CopyFacts := ⟨true, true, true⟩

structure CInv (n : Nat) (y : CopySys σ) : Prop where
  len : y.core.cursors.length = n
  pulledLog : y.pulled.filterMap Res.item? = y.core.log
  eofMem : y.core.eofSeen = true ↔ Res.eof ∈ y.pulled
  cur : ∀ i k, y.core.cursors[i]? = some (some k) →
    k ≤ y.core.log.length ∧ itemsOf i y.outs = y.core.log.take k
  closedPre : ∀ i, y.core.cursors[i]? = some none → itemsOf i y.outs <+: y.core.log
  outRange : ∀ i, y.core.cursors[i]? = none → itemsOf i y.outs = [] ∧ eofOf i y.outs = false
  eofAll : ∀ i, eofOf i y.outs = true → y.core.eofSeen = true ∧ itemsOf i y.outs = y.core.log
  cnt : y.core.closedNum = y.core.cursors.count none
  srcC : y.core.srcClosed = if y.core.closedNum = n then 1 else 0

theorem CInv.init (n : Nat) (hn : 0 < n) (s : σ) : CInv n (CopySys.init n s) where
  len := CopyCore.new_cursors_length n
  pulledLog := rfl
  eofMem := ⟨fun h => Bool.noConfusion h, fun h => nomatch h⟩
  cur := by
    intro i k h
    have h' : (CopyCore.new n).cursors[i]? = some (some k) := h
    rw [CopyCore.new_cursors_get] at h'
    split at h'
    · cases h'; exact ⟨Nat.le_refl _, rfl⟩
    · cases h'
  closedPre := by
    intro i h
    have h' : (CopyCore.new n).cursors[i]? = some none := h
    rw [CopyCore.new_cursors_get] at h'
    split at h' <;> cases h'
  outRange := fun i _ => ⟨rfl, rfl⟩
  eofAll := fun i h => Bool.noConfusion h
  cnt := (CopyCore.new_count_none n).symm
  srcC := by
    show 0 = if 0 = n then 1 else 0
    rw [if_neg (Nat.ne_of_lt hn)]

theorem itemsOf_append_ne {i j : Nat} (h : j ≠ i) (r : Res) (outs : List (Nat × Res)) :
    itemsOf i (outs ++ [(j, r)]) = itemsOf i outs := by
  rw [itemsOf_append, if_neg h, List.append_nil]

theorem itemsOf_append_eof (i j : Nat) (outs : List (Nat × Res)) :
    itemsOf i (outs ++ [(j, .eof)]) = itemsOf i outs := by
  rw [itemsOf_append]; split <;> exact List.append_nil _

theorem eofOf_append_ne {i j : Nat} (h : j ≠ i) (r : Res) (outs : List (Nat × Res)) :
    eofOf i (outs ++ [(j, r)]) = eofOf i outs := by
  rw [eofOf_append, decide_eq_false h, Bool.false_and, Bool.or_false]

theorem eofOf_append_item (i j : Nat) (x : Item) (outs : List (Nat × Res)) :
    eofOf i (outs ++ [(j, .item x)]) = eofOf i outs := by
  rw [eofOf_append]; exact (congrArg _ (Bool.and_false _)).trans (Bool.or_false _)

theorem filterMap_item?_map_item (l : List Item) : (l.map Res.item).filterMap Res.item? = l := by
  induction l with
  | nil => rfl
  | cons x xs ih => exact congrArg (x :: ·) ih

theorem CopyCore.peekLocal_cases {f : CopyFacts} (hfo : f.fillOnce = true) (c : CopyCore) (i : Nat) :
    (c.peekLocal f i = .closed ∧ ∀ k, c.cursors[i]? ≠ some (some k)) ∨
    ∃ k, c.cursors[i]? = some (some k) ∧
      ((∃ it, c.log[k]? = some it ∧
          c.peekLocal f i = .have (.item it) { c with cursors := c.cursors.set i (some (k + 1)) }) ∨
       (c.log[k]? = none ∧ c.eofSeen = true ∧ c.peekLocal f i = .have .eof c) ∨
       (c.log[k]? = none ∧ c.eofSeen = false ∧ c.peekLocal f i = .fill k)) := by
  unfold CopyCore.peekLocal
  split
  · rename_i h0
    exact .inl ⟨rfl, fun k hk => by rw [h0] at hk; cases hk⟩
  · rename_i h0
    exact .inl ⟨rfl, fun k hk => by rw [h0] at hk; cases hk⟩
  · rename_i k hk
    refine .inr ⟨k, hk, ?_⟩
    rw [hfo]
    cases hl : c.log[k]? with
    | some it => exact .inl ⟨it, rfl, rfl⟩
    | none =>
      cases he : c.eofSeen with
      | true => exact .inr (.inl ⟨rfl, rfl, rfl⟩)
      | false => exact .inr (.inr ⟨rfl, rfl, rfl⟩)

theorem CopySys.recv_cases {S : Src σ} {y y' : CopySys σ} {i : Nat}
    (hk : ∀ k, y.core.cursors[i]? = some (some k) → k ≤ y.core.log.length)
    (hs : y.step goodCopy S (.recv i) = some y') :
    ∃ k, y.core.cursors[i]? = some (some k) ∧
      ((∃ it new s', y' = { core := { y.core with log := y.core.log ++ new,
                                                  cursors := y.core.cursors.set i (some (k + 1)) },
                            src := s', pulled := y.pulled ++ new.map .item,
                            outs := y.outs ++ [(i, .item it)] } ∧
          (y.core.log ++ new)[k]? = some it ∧ (new = [] ∨ y.core.eofSeen = false)) ∨
       (k = y.core.log.length ∧
        ∃ s' pl, y' = { core := { y.core with eofSeen := true }, src := s', pulled := pl,
                        outs := y.outs ++ [(i, .eof)] } ∧
          (pl = y.pulled ∧ y.core.eofSeen = true ∨ pl = y.pulled ++ [.eof]))) := by
  simp only [CopySys.step] at hs
  rcases CopyCore.peekLocal_cases (f := goodCopy) rfl y.core i with
    ⟨e, _⟩ | ⟨k, hci, ⟨it, hl, e⟩ | ⟨hl, he, e⟩ | ⟨hl, he, e⟩⟩ <;> rw [e] at hs
  · cases hs
  · cases hs
    exact ⟨k, hci, .inl ⟨it, [], y.src, by simp only [List.append_nil, List.map_nil],
      by rw [List.append_nil]; exact hl, .inl rfl⟩⟩
  · cases hs
    have hkeq : k = y.core.log.length :=
      Nat.le_antisymm (hk k hci) (List.getElem?_eq_none_iff.mp hl)
    exact ⟨k, hci, .inr ⟨hkeq, y.src, y.pulled, by rw [← he], .inl ⟨rfl, he⟩⟩⟩
  · have hkeq : k = y.core.log.length :=
      Nat.le_antisymm (hk k hci) (List.getElem?_eq_none_iff.mp hl)
    cases hsr : S.recv y.src with
    | none => rw [hsr] at hs; cases hs
    | some rs =>
      obtain ⟨r, s'⟩ := rs
      rw [hsr] at hs; cases hs
      refine ⟨k, hci, ?_⟩
      cases r with
      | eof => exact .inr ⟨hkeq, s', _, rfl, .inr rfl⟩
      | item it =>
        exact .inl ⟨it, [it], s',
          by simp only [CopyCore.fill, hkeq, List.take_length, List.map_cons, List.map_nil],
          by rw [hkeq]; exact List.getElem?_concat_length .., .inr he⟩

def closedCore (c : CopyCore) (i : Nat) : CopyCore :=
  { c with
      cursors := c.cursors.set i none, closedNum := c.closedNum + 1,
      srcClosed := if (c.closedNum + 1 == c.cursors.length) then c.srcClosed + 1 else c.srcClosed }

theorem CopyCore.close_open {c : CopyCore} {i k : Nat} (h : c.cursors[i]? = some (some k)) :
    c.close goodCopy i = (closedCore c i, c.closedNum + 1 == c.cursors.length) := by
  simp only [CopyCore.close, h, goodCopy, if_true, closedCore]

theorem CopyCore.close_not_open {f : CopyFacts} {c : CopyCore} {i : Nat}
    (h : ∀ k, c.cursors[i]? ≠ some (some k)) : c.close f i = (c, false) := by
  unfold CopyCore.close
  split
  · exact absurd ‹_› (h _)
  · rfl

/-- What child `j` has been handed, against the shared list: the clauses of `CInv` that speak of one
    child, as a statement about its cursor `c`, its items and whether it has seen io.EOF.  A `Recv` or
    `Close` of another child changes none of the three. -/
structure Kid (log : List Item) (eofSeen : Bool) (c : Option (Option Nat)) (its : List Item)
    (eof : Bool) : Prop where
  cur : ∀ k, c = some (some k) → k ≤ log.length ∧ its = log.take k
  closedPre : c = some none → its <+: log
  outRange : c = none → its = [] ∧ eof = false
  eofAll : eof = true → eofSeen = true ∧ its = log

theorem CInv.kid {n : Nat} {y : CopySys σ} (h : CInv n y) (j : Nat) :
    Kid y.core.log y.core.eofSeen y.core.cursors[j]? (itemsOf j y.outs) (eofOf j y.outs) :=
  ⟨h.cur j, h.closedPre j, h.outRange j, h.eofAll j⟩

theorem Kid.grow {log : List Item} {es : Bool} {c : Option (Option Nat)} {its : List Item} {eof : Bool}
    (h : Kid log es c its eof) {new : List Item} (hnew : new = [] ∨ es = false) :
    Kid (log ++ new) es c its eof where
  cur k hk := by
    obtain ⟨h1, h2⟩ := h.cur k hk
    rw [List.take_append_of_le_length h1, List.length_append]
    exact ⟨Nat.le_add_right_of_le h1, h2⟩
  closedPre hc := (h.closedPre hc).trans (List.prefix_append _ _)
  outRange := h.outRange
  eofAll he := by
    obtain ⟨h1, h2⟩ := h.eofAll he
    obtain rfl : new = [] := hnew.resolve_right (by rw [h1]; exact Bool.noConfusion)
    rw [List.append_nil]; exact ⟨h1, h2⟩

theorem Kid.seen {log : List Item} {es : Bool} {c : Option (Option Nat)} {its : List Item} {eof : Bool}
    (h : Kid log es c its eof) : Kid log true c its eof :=
  ⟨h.cur, h.closedPre, h.outRange, fun he => ⟨rfl, (h.eofAll he).2⟩⟩

theorem CInv.step {n : Nat} (hn : 0 < n) (S : Src σ) {y y' : CopySys σ} {e : CEv σ}
    (h : CInv n y) (hs : y.step goodCopy S e = some y') : CInv n y' := by
  cases e with
  | env g =>
    simp [CopySys.step] at hs; subst hs
    exact ⟨h.len, h.pulledLog, h.eofMem, h.cur, h.closedPre, h.outRange, h.eofAll, h.cnt, h.srcC⟩
  | close i =>
    simp only [CopySys.step, Option.some.injEq] at hs
    by_cases hopen : ∃ k, y.core.cursors[i]? = some (some k)
    · obtain ⟨k, hci⟩ := hopen
      rw [CopyCore.close_open hci] at hs
      subst hs
      have hi : i < y.core.cursors.length := (List.getElem?_eq_some_iff.mp hci).1
      -- child `i` is closed now and keeps what it has
      have kids : ∀ j, Kid y.core.log y.core.eofSeen (y.core.cursors.set i none)[j]?
          (itemsOf j y.outs) (eofOf j y.outs) := fun j => by
        by_cases hji : j = i
        · subst hji
          rw [List.getElem?_set_self hi]
          exact ⟨nofun, fun _ => (h.cur j k hci).2 ▸ List.take_prefix _ _, nofun, h.eofAll j⟩
        · rw [List.getElem?_set_ne (Ne.symm hji)]; exact h.kid j
      refine ⟨(List.length_set ..).trans h.len, h.pulledLog, h.eofMem, fun j => (kids j).cur,
        fun j => (kids j).closedPre, fun j => (kids j).outRange, fun j => (kids j).eofAll, ?_, ?_⟩
      · show y.core.closedNum + 1 = (y.core.cursors.set i none).count none
        rw [count_none_set hci, h.cnt]
      · -- the source was not closed before, since child `i` was still open
        show (if (y.core.closedNum + 1 == y.core.cursors.length) = true then y.core.srcClosed + 1
              else y.core.srcClosed) = if y.core.closedNum + 1 = n then 1 else 0
        have h0 : y.core.srcClosed = 0 := by
          rw [h.srcC, if_neg]; rw [h.cnt, ← h.len]; exact Nat.ne_of_lt (count_none_lt hci)
        rw [h0, h.len]; simp only [beq_iff_eq, Nat.zero_add]
    · rw [CopyCore.close_not_open (fun k hk => hopen ⟨k, hk⟩)] at hs
      subst hs
      exact ⟨h.len, h.pulledLog, h.eofMem, h.cur, h.closedPre, h.outRange, h.eofAll, h.cnt, h.srcC⟩
  | recv i =>
    obtain ⟨k, hci, hcase⟩ := CopySys.recv_cases (fun k hk => (h.cur i k hk).1) hs
    obtain ⟨hk, hik⟩ := h.cur i k hci
    have hi : i < y.core.cursors.length := (List.getElem?_eq_some_iff.mp hci).1
    rcases hcase with ⟨it, new, s', rfl, hit, hnew⟩ | ⟨hkeq, s', pl, rfl, hp⟩
    · have kids : ∀ j, Kid (y.core.log ++ new) y.core.eofSeen (y.core.cursors.set i (some (k + 1)))[j]?
          (itemsOf j (y.outs ++ [(i, .item it)])) (eofOf j (y.outs ++ [(i, .item it)])) := fun j => by
        rw [eofOf_append_item]
        by_cases hji : j = i
        · subst hji
          rw [List.getElem?_set_self hi, itemsOf_append, if_pos rfl, hik]
          refine ⟨fun k' hk' => ?_, nofun, nofun, fun he => ?_⟩
          · cases hk'
            refine ⟨(List.getElem?_eq_some_iff.mp hit).1, ?_⟩
            rw [List.take_add_one, hit, List.take_append_of_le_length hk]; rfl
          · -- a child that has seen io.EOF has the whole list, and nothing new is pulled after the
            -- end: but the cursor of child `j` is inside the list
            obtain ⟨he1, he2⟩ := h.eofAll j he
            obtain rfl : new = [] := hnew.resolve_right (by rw [he1]; exact Bool.noConfusion)
            rw [List.append_nil] at hit
            have hlt := (List.getElem?_eq_some_iff.mp hit).1
            have := congrArg List.length (he2.symm.trans hik)
            rw [List.length_take] at this
            omega
        · rw [List.getElem?_set_ne (Ne.symm hji), itemsOf_append_ne (Ne.symm hji)]
          exact (h.kid j).grow hnew
      refine ⟨(List.length_set ..).trans h.len, ?_, ?_, fun j => (kids j).cur,
        fun j => (kids j).closedPre, fun j => (kids j).outRange, fun j => (kids j).eofAll, ?_, h.srcC⟩
      · show (y.pulled ++ new.map Res.item).filterMap Res.item? = y.core.log ++ new
        rw [List.filterMap_append, h.pulledLog, filterMap_item?_map_item]
      · show y.core.eofSeen = true ↔ Res.eof ∈ y.pulled ++ new.map Res.item
        rw [List.mem_append]
        exact h.eofMem.trans ⟨.inl, fun h => h.resolve_right (by simp)⟩
      · show y.core.closedNum = (y.core.cursors.set i (some (k + 1))).count none
        rw [count_none_set_some hci, h.cnt]
    · -- io.EOF: nobody's items change, child `i` is at the end of the list
      have kids : ∀ j, Kid y.core.log true y.core.cursors[j]?
          (itemsOf j (y.outs ++ [(i, .eof)])) (eofOf j (y.outs ++ [(i, .eof)])) := fun j => by
        rw [itemsOf_append_eof]
        by_cases hji : j = i
        · subst hji
          refine ⟨h.cur j, h.closedPre j, fun hc => (nomatch hci.symm.trans hc),
            fun _ => ⟨rfl, ?_⟩⟩
          rw [hik, hkeq, List.take_length]
        · rw [eofOf_append_ne (Ne.symm hji)]; exact (h.kid j).seen
      refine ⟨h.len, ?_, ?_, fun j => (kids j).cur, fun j => (kids j).closedPre,
        fun j => (kids j).outRange, fun j => (kids j).eofAll, h.cnt, h.srcC⟩
      · show pl.filterMap Res.item? = y.core.log
        rcases hp with ⟨rfl, _⟩ | rfl
        · exact h.pulledLog
        · rw [List.filterMap_append, h.pulledLog]; exact List.append_nil _
      · show true = true ↔ Res.eof ∈ pl
        refine ⟨fun _ => ?_, fun _ => rfl⟩
        rcases hp with ⟨rfl, hes⟩ | rfl
        · exact h.eofMem.mp hes
        · exact List.mem_append_right _ (List.mem_singleton_self _)

theorem CInv.run {n : Nat} (hn : 0 < n) (S : Src σ) {y y' : CopySys σ} {evs : List (CEv σ)}
    (h : CInv n y) (hr : y.run goodCopy S evs = some y') : CInv n y' := by
  induction evs generalizing y with
  | nil => cases hr; exact h
  | cons e es ih =>
    rw [CopySys.run] at hr
    split at hr
    · exact ih (h.step hn S ‹_›) hr
    · cases hr

def CEv.isEnv {σ : Type} : CEv σ → Bool
  | .env _ => true
  | _ => false

/-- list source, no environment interference: what was pulled plus what is left is the list -/
structure LInv (l : List Item) (y : CopySys (List Item)) : Prop where
  split : y.pulled.filterMap Res.item? ++ y.src = l
  done : Res.eof ∈ y.pulled → y.src = []

theorem LInv.init (l : List Item) (n : Nat) : LInv l (CopySys.init n l) :=
  ⟨by simp [CopySys.init], by simp [CopySys.init]⟩

theorem CopySys.recv_src {f : CopyFacts} {S : Src σ} {y y' : CopySys σ} {i : Nat}
    (hs : y.step f S (.recv i) = some y') :
    (y'.pulled = y.pulled ∧ y'.src = y.src) ∨
    ∃ r, S.recv y.src = some (r, y'.src) ∧ y'.pulled = y.pulled ++ [r] := by
  simp only [CopySys.step] at hs
  split at hs
  · cases hs
  · cases hs; exact .inl ⟨rfl, rfl⟩
  · split at hs
    · cases hs
    · cases hs; exact .inr ⟨_, ‹_›, rfl⟩

theorem listSrc_recv {l l' : List Item} {r : Res} (h : listSrc.recv l = some (r, l')) :
    r.item?.toList ++ l' = l ∧ (r = .eof ∨ l = [] → l' = []) := by
  cases l with
  | nil => cases h; exact ⟨rfl, fun _ => rfl⟩
  | cons x rest => cases h; exact ⟨rfl, fun h => by rcases h with h | h <;> cases h⟩

theorem LInv.step {l : List Item} {f : CopyFacts} {y y' : CopySys (List Item)} {e : CEv (List Item)}
    (h : LInv l y) (he : e.isEnv = false) (hs : y.step f listSrc e = some y') : LInv l y' := by
  obtain ⟨h1, h2⟩ := h
  cases e with
  | env g => cases he
  | close i =>
    simp only [CopySys.step, Option.some.injEq] at hs; subst hs
    have hsrc : ∀ c : Bool, (if c then listSrc.close y.src else y.src) = y.src := fun c => ite_self _
    exact ⟨(congrArg _ (hsrc _)).trans h1, fun hm => (hsrc _).trans (h2 hm)⟩
  | recv i =>
    rcases CopySys.recv_src hs with ⟨hp, hsrc⟩ | ⟨r, hr, hp⟩
    · exact ⟨by rw [hp, hsrc]; exact h1, by rw [hp, hsrc]; exact h2⟩
    · obtain ⟨hl, hnil⟩ := listSrc_recv hr
      refine ⟨?_, fun hm => hnil ?_⟩
      · rw [hp, List.filterMap_append, List.append_assoc]
        exact (congrArg _ hl).trans h1
      · -- io.EOF is pulled now, or was before, and then the source was empty
        exact (List.mem_append.mp (hp ▸ hm)).elim (.inr ∘ h2) fun hm => .inl (List.mem_singleton.mp hm).symm

theorem LInv.run {l : List Item} {f : CopyFacts} {y y' : CopySys (List Item)} {evs : List (CEv (List Item))}
    (h : LInv l y) (he : ∀ e ∈ evs, e.isEnv = false) (hr : y.run f listSrc evs = some y') : LInv l y' := by
  induction evs generalizing y with
  | nil => cases hr; exact h
  | cons e es ih =>
    rw [CopySys.run] at hr
    split at hr
    · exact ih (h.step (he e List.mem_cons_self) ‹_›) (fun e' he' => he e' (List.mem_cons_of_mem e he')) hr
    · cases hr

theorem ofSrc_append (k j : Nat) (x : Item) (l : List (Nat × Item)) :
    ofSrc k (l ++ [(j, x)]) = ofSrc k l ++ (if j = k then [x] else []) := by
  unfold ofSrc
  rw [List.filterMap_append]
  by_cases h : j = k <;> simp [h]

theorem selCases_ok {tbl : List (List (Nat × Nat))} {maxSel : Nat} (h : tblOK tbl maxSel = true) (n : Nat) :
    selCases tbl maxSel n = (List.range n).map fun j => (j, j) := by
  unfold selCases
  split
  · rfl
  · rename_i hn
    unfold tblOK at h
    simp only [Bool.and_eq_true, List.all_eq_true] at h
    have := h.2 n (by simp; omega)
    simp at this
    simp [this]

theorem selCases_get {tbl : List (List (Nat × Nat))} {maxSel : Nat} (h : tblOK tbl maxSel = true)
    {n c a b : Nat} (hc : (selCases tbl maxSel n)[c]? = some (a, b)) : a = c ∧ b = c ∧ c < n := by
  rw [selCases_ok h] at hc
  simp [List.getElem?_map] at hc
  obtain ⟨h1, rfl⟩ := hc
  rcases List.getElem?_eq_some_iff.mp h1 with ⟨hlt, hget⟩
  simp at hlt hget
  omega


structure MInv (m : MergeSt) : Prop where
  fifo : ∀ k p, m.srcs[k]? = some p → ofSrc k m.acc = ofSrc k m.outs ++ p.buf
  dropped : ∀ k p, m.srcs[k]? = some p → k ∉ m.chosen → p.sendClosed = true ∧ p.buf = []
  eofEmpty : m.eofOut = true → m.chosen = []

theorem MInv.init (caps : List Nat) : MInv (MergeSt.init caps) where
  fifo := by
    intro k p h
    have h' : (caps.map Pipe.new)[k]? = some p := h
    rw [List.getElem?_map] at h'
    cases hc : caps[k]? with
    | none => rw [hc] at h'; cases h'
    | some c => rw [hc] at h'; cases h'; rfl
  dropped := by
    intro k p h hk
    have h' : (caps.map Pipe.new)[k]? = some p := h
    have hlt := (List.getElem?_eq_some_iff.mp h').1
    rw [List.length_map] at hlt
    exact absurd (List.mem_range.mpr hlt) hk
  eofEmpty := fun h => Bool.noConfusion h

theorem forall_set_pipe {l : List Pipe} {k : Nat} {p' : Pipe} {P : Nat → Pipe → Prop}
    (hold : ∀ j q, l[j]? = some q → j ≠ k → P j q) (hnew : P k p') :
    ∀ j q, (l.set k p')[j]? = some q → P j q := by
  intro j q hj
  by_cases hjk : j = k
  · subst hjk
    obtain ⟨_, rfl⟩ := List.getElem?_eq_some_iff.mp hj
    rw [List.getElem_set_self]; exact hnew
  · rw [List.getElem?_set_ne (Ne.symm hjk)] at hj; exact hold j q hj hjk

theorem MInv.step {tbl : List (List (Nat × Nat))} {maxSel : Nat} (ht : tblOK tbl maxSel = true)
    {m m' : MergeSt} {e : MEv} (h : MInv m) (hs : m.step tbl maxSel e = some m') : MInv m' := by
  obtain ⟨hf, hd, he⟩ := h
  -- when pipe `k` is replaced and `chosen` stays, `dropped` has to be shown of the new pipe only
  have hd' : ∀ {k : Nat} {p' : Pipe}, (k ∉ m.chosen → p'.sendClosed = true ∧ p'.buf = []) →
      ∀ j q, (m.srcs.set k p')[j]? = some q → j ∉ m.chosen → q.sendClosed = true ∧ q.buf = [] :=
    fun hnew => forall_set_pipe (fun j q hj _ => hd j q hj) hnew
  cases e with
  | eof =>
    simp only [MergeSt.step] at hs
    split at hs
    · simp at hs; subst hs
      rename_i hc
      exact ⟨hf, hd, fun _ => by simpa using hc⟩
    · simp at hs
  | closeSend k =>
    simp only [MergeSt.step] at hs
    cases hk : m.srcs[k]? with
    | none => simp [hk] at hs
    | some p =>
      rcases p.closeSend_cases with e | ⟨_, e⟩ <;> simp only [hk, e] at hs <;> cases hs
      exact ⟨forall_set_pipe (fun j q hj _ => hf j q hj) (hf k p hk),
        hd' fun hkc => ⟨rfl, (hd k p hk hkc).2⟩, he⟩
  | send k i =>
    simp only [MergeSt.step] at hs
    cases hk : m.srcs[k]? with
    | none => simp [hk] at hs
    | some p =>
      rcases p.send_cases i with e | ⟨hsc, ⟨_, e⟩ | ⟨_, _, e⟩⟩ <;> simp only [hk, e] at hs <;> cases hs
      · exact ⟨forall_set_pipe (fun j q hj _ => hf j q hj) (hf k p hk), hd' (hd k p hk), he⟩
      · refine ⟨forall_set_pipe (fun j q hj hne => ?_) ?_, hd' fun hkc => ?_, he⟩
        · show ofSrc j (m.acc ++ [(k, i)]) = ofSrc j m.outs ++ q.buf
          rw [ofSrc_append, if_neg (Ne.symm hne), List.append_nil]; exact hf j q hj
        · show ofSrc k (m.acc ++ [(k, i)]) = ofSrc k m.outs ++ (p.buf ++ [i])
          rw [ofSrc_append, if_pos rfl, hf k p hk, List.append_assoc]
        · rw [(hd k p hk hkc).1] at hsc; cases hsc
  | handoff k i c =>
    simp only [MergeSt.step] at hs
    cases hc : (selCases tbl maxSel m.chosen.length)[c]? with
    | none => simp [hc] at hs
    | some ab =>
      obtain ⟨a, b⟩ := ab
      simp only [hc] at hs
      split at hs
      · cases hk : m.srcs[k]? with
        | none => simp [hk] at hs
        | some p =>
          rcases p.handoff_cases with e | ⟨_, _, hb, e⟩ <;> simp only [hk, e] at hs <;> cases hs
          refine ⟨fun j q hj => ?_, hd, he⟩
          show ofSrc j (m.acc ++ [(k, i)]) = ofSrc j (m.outs ++ [(k, i)]) ++ q.buf
          rw [ofSrc_append, ofSrc_append, hf j q hj]
          by_cases hkj : k = j
          · subst hkj
            rw [hk] at hj; cases hj
            rw [if_pos rfl, hb, List.append_nil, List.append_nil]
          · rw [if_neg hkj, List.append_nil, List.append_nil]
      · simp at hs
  | sel c =>
    simp only [MergeSt.step] at hs
    cases hc : (selCases tbl maxSel m.chosen.length)[c]? with
    | none => simp [hc] at hs
    | some ab =>
      obtain ⟨a, b⟩ := ab
      obtain ⟨ha, hb2, hcn⟩ := selCases_get ht hc
      rw [ha, hb2] at hc
      simp only [hc] at hs
      cases hch : m.chosen[c]? with
      | none => simp [hch] at hs
      | some sa =>
        simp only [hch] at hs
        have hmem : sa ∈ m.chosen := List.mem_of_getElem? hch
        cases hk : m.srcs[sa]? with
        | none => simp [hk] at hs
        | some p =>
          rcases p.recv_cases with e | ⟨x, rest, hb, e⟩ | ⟨hb, hsc, e⟩ <;> simp only [hk, e] at hs <;>
            cases hs
          · refine ⟨forall_set_pipe (fun j q hj hne => ?_) ?_, hd' (absurd hmem), he⟩
            · show ofSrc j m.acc = ofSrc j (m.outs ++ [(sa, x)]) ++ q.buf
              rw [ofSrc_append, if_neg (Ne.symm hne), List.append_nil]; exact hf j q hj
            · show ofSrc sa m.acc = ofSrc sa (m.outs ++ [(sa, x)]) ++ rest
              rw [ofSrc_append, if_pos rfl, hf sa p hk, hb, List.append_assoc]; rfl
          · refine ⟨hf, fun j q hj hjc => ?_, fun h => ?_⟩
            · by_cases hjs : j = sa
              · subst hjs; rw [hk] at hj; cases hj; exact ⟨hsc, hb⟩
              · exact hd j q hj (fun hm => hjc ((List.mem_erase_of_ne hjs).mpr hm))
            · rw [he h] at hmem; cases hmem

theorem MInv.run {tbl : List (List (Nat × Nat))} {maxSel : Nat} (ht : tblOK tbl maxSel = true)
    {m m' : MergeSt} {evs : List MEv} (h : MInv m) (hr : m.run tbl maxSel evs = some m') : MInv m' := by
  induction evs generalizing m with
  | nil => cases hr; exact h
  | cons e es ih =>
    rw [MergeSt.run] at hr
    split at hr
    · exact ih (h.step ht ‹_›) hr
    · cases hr

end EinoV.C08
