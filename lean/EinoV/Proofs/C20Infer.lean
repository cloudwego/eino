/-
  The type-inference invariant of the builder (used by C07 soundness and C20 order-freeness):
  what `updateToValidateMap` preserves whatever order Go's map iteration takes, and that every
  call without field mappings keeps it (`stepK_inv`: stated for the edge body of the declaration
  layer, `addEdgeBodyK`, of which the builder's is the case `inCtl = true`).
-/
import EinoV.Model.C20Wf
import EinoV.Proofs.C20

namespace EinoV.Build

theorem findNode_eq_find? (ns : List Node) (k : Key) : findNode ns k = ns.find? (·.key = k) := by
  induction ns with
  | nil => rfl
  | cons n ns ih => simp only [findNode, List.find?_cons, ih]; split <;> simp [*]

theorem findNode_setTyIn (ns : List Node) (k x : Key) (t : Ty) :
    findNode (setTyIn ns k t) x =
      if x = k then (findNode ns k).map (fun n => { n with inTy := some t, outTy := some t }) else findNode ns x := by
  induction ns with
  | nil => simp [setTyIn, findNode]
  | cons n ns ih =>
    by_cases hk : n.key = k
    · by_cases hx : x = k
      · simp [setTyIn, findNode, hk, hx]
      · simp [setTyIn, findNode, hk, hx, Ne.symm hx]
    · by_cases hx : n.key = x
      · subst hx; simp [setTyIn, findNode, hk]
      · simp [setTyIn, findNode, hk, hx, ih]

theorem untyped_ne (b : Builder) (k : Key) (h : b.nodeIn k = none ∨ b.nodeOut k = none) : k ≠ START ∧ k ≠ END := by
  unfold Builder.nodeIn Builder.nodeOut at h
  constructor <;> intro e <;> simp [e] at h
  · by_cases h2 : END = START <;> simp [h2] at h

theorem nodeIn_setTy (b : Builder) (k : Key) (t : Ty) (x : Key) :
    (b.setTy k t).nodeIn x =
      if x = k ∧ x ≠ START ∧ x ≠ END ∧ b.hasNode x = true then some t else b.nodeIn x := by
  unfold Builder.nodeIn Builder.hasNode Builder.setTy
  rw [findNode_setTyIn]
  by_cases h1 : x = START
  · simp [h1]
  by_cases h2 : x = END
  · simp [h2]
  by_cases hx : x = k
  · subst hx; cases findNode b.nodes x <;> simp [h1, h2]
  · simp [hx]

theorem nodeOut_setTy (b : Builder) (k : Key) (t : Ty) (x : Key) :
    (b.setTy k t).nodeOut x =
      if x = k ∧ x ≠ START ∧ x ≠ END ∧ b.hasNode x = true then some t else b.nodeOut x := by
  unfold Builder.nodeOut Builder.hasNode Builder.setTy
  rw [findNode_setTyIn]
  by_cases h1 : x = START
  · simp [h1]
  by_cases h2 : x = END
  · simp [h2]
  by_cases hx : x = k
  · subst hx; cases findNode b.nodes x <;> simp [h1, h2]
  · simp [hx]

theorem findNode_mem {ns : List Node} {k : Key} {n : Node} (h : findNode ns k = some n) : n ∈ ns ∧ n.key = k := by
  rw [findNode_eq_find?] at h
  exact ⟨List.mem_of_find?_eq_some h, by simpa using List.find?_some h⟩

def NodeOK (n : Node) : Prop :=
  (n.passthrough = true → n.inTy = n.outTy) ∧ (n.passthrough = false → n.inTy.isSome ∧ n.outTy.isSome)

def WF (b : Builder) : Prop := ∀ n ∈ b.nodes, NodeOK n

theorem WF.untyped_iff {b : Builder} (hw : WF b) (k : Key) : b.nodeIn k = none ↔ b.nodeOut k = none := by
  unfold Builder.nodeIn Builder.nodeOut
  by_cases h1 : k = START
  · simp [h1]
  by_cases h2 : k = END
  · simp [h2]
  simp only [h1, h2, ↓reduceIte]
  rcases hf : findNode b.nodes k with _ | n
  · simp
  · have hn := hw n (findNode_mem hf).1
    simp only
    cases hp : n.passthrough
    · have := hn.2 hp
      simp [Option.isSome_iff_ne_none.mp this.1, Option.isSome_iff_ne_none.mp this.2]
    · rw [hn.1 hp]

theorem setTyIn_ok (ns : List Node) (k : Key) (t : Ty) (h : ∀ n ∈ ns, NodeOK n) :
    ∀ n ∈ setTyIn ns k t, NodeOK n := by
  induction ns with
  | nil => simp [setTyIn]
  | cons m ns ih =>
    obtain ⟨hm, hns⟩ := List.forall_mem_cons.mp h
    simp only [setTyIn]
    split
    · exact List.forall_mem_cons.mpr ⟨⟨fun _ => rfl, fun _ => ⟨rfl, rfl⟩⟩, hns⟩
    · exact List.forall_mem_cons.mpr ⟨hm, ih hns⟩

theorem WF.setTy {b : Builder} (hw : WF b) (k : Key) (t : Ty) : WF (b.setTy k t) :=
  setTyIn_ok b.nodes k t hw

/-- everything an inference step leaves alone -/
def Builder.frame (b : Builder) :=
  (b.cmp, b.inT, b.outT, b.stateTy, b.controlEdges, b.dataEdges, b.branches, b.startNodes, b.endNodes,
   b.fmRecords, b.mapEdges, b.preBranch, b.preNode, b.buildError, b.compiled,
   b.nodes.map (fun n => (n.key, n.passthrough)))

def Frame (b b' : Builder) : Prop := b'.frame = b.frame

theorem Frame.refl (b : Builder) : Frame b b := rfl
theorem Frame.trans {a b c : Builder} (h1 : Frame a b) (h2 : Frame b c) : Frame a c := by
  unfold Frame at *; rw [h2, h1]

theorem setTyIn_keys (ns : List Node) (k : Key) (t : Ty) :
    (setTyIn ns k t).map (fun n => (n.key, n.passthrough)) = ns.map (fun n => (n.key, n.passthrough)) := by
  induction ns with
  | nil => rfl
  | cons m ns ih =>
    simp only [setTyIn]
    split
    · simp
    · simp [ih]

theorem Frame.setTy (b : Builder) (k : Key) (t : Ty) : Frame b (b.setTy k t) := by
  simp [Frame, Builder.frame, Builder.setTy, setTyIn_keys]

theorem find?_key_passthrough (l : List Node) (k : Key) :
    (l.map (fun n => (n.key, n.passthrough))).find? (·.1 = k) =
      (findNode l k).map (fun n => (n.key, n.passthrough)) := by
  rw [List.find?_map, findNode_eq_find?]; rfl

theorem findNode_isSome_of_keys {ns ms : List Node}
    (h : ms.map (fun n => (n.key, n.passthrough)) = ns.map (fun n => (n.key, n.passthrough))) (k : Key) :
    (findNode ms k).isSome = (findNode ns k).isSome ∧
    (findNode ms k).map (·.passthrough) = (findNode ns k).map (·.passthrough) := by
  have e : (findNode ms k).map (fun n => (n.key, n.passthrough)) =
      (findNode ns k).map (fun n => (n.key, n.passthrough)) := by
    rw [← find?_key_passthrough, ← find?_key_passthrough, h]
  have e1 := congrArg Option.isSome e
  have e2 := congrArg (Option.map (·.2)) e
  rw [Option.isSome_map, Option.isSome_map] at e1
  rw [Option.map_map, Option.map_map] at e2
  exact ⟨e1, e2⟩

theorem isPassthrough_of_keys {b b' : Builder}
    (h : b'.nodes.map (fun n => (n.key, n.passthrough)) = b.nodes.map (fun n => (n.key, n.passthrough))) (k : Key) :
    isPassthrough b' k = isPassthrough b k := by
  have := (findNode_isSome_of_keys h k).2
  unfold isPassthrough
  rcases h1 : findNode b'.nodes k with _ | n1 <;> rcases h2 : findNode b.nodes k with _ | n2 <;> simp_all

theorem Frame.keys {b b' : Builder} (h : Frame b b') :
    b'.nodes.map (fun n => (n.key, n.passthrough)) = b.nodes.map (fun n => (n.key, n.passthrough)) :=
  congrArg (·.2.2.2.2.2.2.2.2.2.2.2.2.2.2.2) h

theorem Frame.hasNode {b b' : Builder} (h : Frame b b') (k : Key) : b'.hasNode k = b.hasNode k :=
  (findNode_isSome_of_keys h.keys k).1

theorem Frame.isPassthrough {b b' : Builder} (h : Frame b b') (k : Key) :
    EinoV.Build.isPassthrough b' k = EinoV.Build.isPassthrough b k :=
  isPassthrough_of_keys h.keys k

/-- Inference only adds: a type once given to a node's input or output stays, and so does an installed run-time
    check (`mayEdges`).  Hence a connection validated under `b` is validated under `b'` (`SoundE.mono`,
    `SoundBr.mono`), which is how the invariant survives the later steps. -/
structure Mono (b b' : Builder) : Prop where
  tin : ∀ k t, b.nodeIn k = some t → b'.nodeIn k = some t
  tout : ∀ k t, b.nodeOut k = some t → b'.nodeOut k = some t
  may : ∀ x, x ∈ b.mayEdges → x ∈ b'.mayEdges

theorem Mono.refl (b : Builder) : Mono b b := ⟨fun _ _ h => h, fun _ _ h => h, fun _ h => h⟩
theorem Mono.trans {a b c : Builder} (h1 : Mono a b) (h2 : Mono b c) : Mono a c :=
  ⟨fun k t h => h2.tin k t (h1.tin k t h), fun k t h => h2.tout k t (h1.tout k t h), fun x h => h2.may x (h1.may x h)⟩

theorem Mono.in_none {b b' : Builder} (h : Mono b b') {k : Key} (h' : b'.nodeIn k = none) : b.nodeIn k = none := by
  rcases e : b.nodeIn k with _ | A
  · rfl
  · rw [h.tin k A e] at h'; cases h'

theorem Mono.out_none {b b' : Builder} (h : Mono b b') {k : Key} (h' : b'.nodeOut k = none) : b.nodeOut k = none := by
  rcases e : b.nodeOut k with _ | A
  · rfl
  · rw [h.tout k A e] at h'; cases h'

theorem Mono.known_start {b c : Builder} (hm : Mono b c) {s : Key} (hh : c.hasNode s = b.hasNode s)
    (h : b.hasNode s = true ∨ b.nodeOut s ≠ none) : c.hasNode s = true ∨ c.nodeOut s ≠ none :=
  h.imp (hh.trans ·) fun h hc => h (hm.out_none hc)

theorem untyped_of_not_hasNode {b : Builder} {k : Key} (h : b.hasNode k = false) (h1 : k ≠ START) (h2 : k ≠ END) :
    b.nodeIn k = none ∧ b.nodeOut k = none := by
  have hf : findNode b.nodes k = none := by simpa [Builder.hasNode] using h
  simp [Builder.nodeIn, Builder.nodeOut, h1, h2, hf]

theorem hasNode_of_nodeIn {b : Builder} {k : Key} {t : Ty} (h : b.nodeIn k = some t)
    (h1 : k ≠ START) (h2 : k ≠ END) : b.hasNode k = true := by
  cases hh : b.hasNode k
  · rw [(untyped_of_not_hasNode hh h1 h2).1] at h; cases h
  · rfl

theorem hasNode_of_nodeOut {b : Builder} {k : Key} {t : Ty} (h : b.nodeOut k = some t)
    (h1 : k ≠ START) (h2 : k ≠ END) : b.hasNode k = true := by
  cases hh : b.hasNode k
  · rw [(untyped_of_not_hasNode hh h1 h2).2] at h; cases h
  · rfl

theorem setTy_cases (b : Builder) (k : Key) (t : Ty) (x : Key) :
    ((b.setTy k t).nodeIn x = b.nodeIn x ∨ (x = k ∧ (b.setTy k t).nodeIn x = some t)) ∧
    ((b.setTy k t).nodeOut x = b.nodeOut x ∨ (x = k ∧ (b.setTy k t).nodeOut x = some t)) := by
  rw [nodeIn_setTy, nodeOut_setTy]
  split
  · rename_i h; exact ⟨Or.inr ⟨h.1, rfl⟩, Or.inr ⟨h.1, rfl⟩⟩
  · exact ⟨Or.inl rfl, Or.inl rfl⟩

theorem Mono.setTy (b : Builder) (k : Key) (t : Ty)
    (hi : b.nodeIn k = none ∨ b.nodeIn k = some t) (ho : b.nodeOut k = none ∨ b.nodeOut k = some t) :
    Mono b (b.setTy k t) := by
  refine ⟨?_, ?_, fun x h => h⟩
  · intro x t0 hx
    rcases (setTy_cases b k t x).1 with e | ⟨e1, e2⟩
    · rw [e]; exact hx
    · subst e1
      rcases hi with hi | hi
      · rw [hi] at hx; simp at hx
      · rw [hi] at hx; rw [e2]; exact hx
  · intro x t0 hx
    rcases (setTy_cases b k t x).2 with e | ⟨e1, e2⟩
    · rw [e]; exact hx
    · subst e1
      rcases ho with ho | ho
      · rw [ho] at hx; simp at hx
      · rw [ho] at hx; rw [e2]; exact hx


/-- the connection `s → e` has been validated under the current types: assignable for sure,
    or possibly assignable with the run-time check installed -/
def SoundE (im : Impl) (b : Builder) (s e : Key) : Prop :=
  match checkAssignable im (b.nodeOut s) (b.nodeIn e) with
  | .mustNot => False
  | .may => (s, e) ∈ b.mayEdges
  | .must => True

theorem checkAssignable_none_right (im : Impl) (x : Option Ty) : checkAssignable im x none = .mustNot := by
  cases x <;> rfl

theorem SoundE.typed {im : Impl} {b : Builder} {s e : Key} (h : SoundE im b s e) :
    ∃ A B, b.nodeOut s = some A ∧ b.nodeIn e = some B := by
  unfold SoundE at h
  rcases ho : b.nodeOut s with _ | A
  · simp [ho, checkAssignable] at h
  · rcases hi : b.nodeIn e with _ | B
    · simp [hi, checkAssignable_none_right] at h
    · exact ⟨A, B, rfl, rfl⟩

theorem SoundE.mono {im : Impl} {b b' : Builder} {s e : Key} (hm : Mono b b') (h : SoundE im b s e) :
    SoundE im b' s e := by
  obtain ⟨A, B, ho, hi⟩ := h.typed
  unfold SoundE at h ⊢
  rw [ho, hi] at h
  rw [hm.tout s A ho, hm.tin e B hi]
  cases hc : checkAssignable im (some A) (some B) <;> simp only [hc] at h ⊢
  · exact hm.may _ h

/-- every pending entry with exactly one typed end has that end typed `T` -/
def Q (b : Builder) (T : Ty) : Prop :=
  ∀ s pe, pe ∈ getSlice b.toValidate s →
    (b.nodeOut s = none → b.nodeIn pe.dst = none ∨ b.nodeIn pe.dst = some T) ∧
    (b.nodeIn pe.dst = none → b.nodeOut s = none ∨ b.nodeOut s = some T)

/-- untyped ends of pending entries are nodes of the graph; no entry carries field mappings -/
def PN (b : Builder) : Prop :=
  ∀ s pe, pe ∈ getSlice b.toValidate s →
    (b.nodeIn pe.dst = none → b.hasNode pe.dst = true) ∧ (b.nodeOut s = none → b.hasNode s = true) ∧
    pe.mapped = none

/-- `b'` differs from `b` in types only by nodes newly typed `T` -/
structure StepT (b b' : Builder) (T : Ty) : Prop where
  mono : Mono b b'
  tin : ∀ x, b'.nodeIn x = b.nodeIn x ∨ b'.nodeIn x = some T
  tout : ∀ x, b'.nodeOut x = b.nodeOut x ∨ b'.nodeOut x = some T

theorem StepT.refl (b : Builder) (T : Ty) : StepT b b T :=
  ⟨Mono.refl b, fun _ => Or.inl rfl, fun _ => Or.inl rfl⟩

theorem StepT.trans {a b c : Builder} {T : Ty} (h1 : StepT a b T) (h2 : StepT b c T) : StepT a c T := by
  refine ⟨h1.mono.trans h2.mono, fun x => ?_, fun x => ?_⟩
  · rcases h2.tin x with e | e
    · rw [e]; exact h1.tin x
    · exact Or.inr e
  · rcases h2.tout x with e | e
    · rw [e]; exact h1.tout x
    · exact Or.inr e

theorem StepT.setTy (b : Builder) (k : Key) (T : Ty)
    (hi : b.nodeIn k = none ∨ b.nodeIn k = some T) (ho : b.nodeOut k = none ∨ b.nodeOut k = some T) :
    StepT b (b.setTy k T) T := by
  refine ⟨Mono.setTy b k T hi ho, fun x => ?_, fun x => ?_⟩
  · rcases (setTy_cases b k T x).1 with e | ⟨_, e⟩
    · exact Or.inl e
    · exact Or.inr e
  · rcases (setTy_cases b k T x).2 with e | ⟨_, e⟩
    · exact Or.inl e
    · exact Or.inr e

theorem StepT.typeNode {b : Builder} {k : Key} {T : Ty} (hh : b.hasNode k = true) (hne : k ≠ START ∧ k ≠ END)
    (hi : b.nodeIn k = none ∨ b.nodeIn k = some T) (ho : b.nodeOut k = none ∨ b.nodeOut k = some T) :
    StepT b (b.setTy k T) T ∧ (b.setTy k T).nodeIn k = some T ∧ (b.setTy k T).nodeOut k = some T ∧
    ∀ x, ((b.setTy k T).nodeIn x).isSome → (b.nodeIn x).isSome ∨ x = k := by
  refine ⟨StepT.setTy b k T hi ho, by rw [nodeIn_setTy, if_pos ⟨rfl, hne.1, hne.2, hh⟩],
    by rw [nodeOut_setTy, if_pos ⟨rfl, hne.1, hne.2, hh⟩], fun x hx => ?_⟩
  rcases (setTy_cases b k T x).1 with e | ⟨e, _⟩
  · exact Or.inl (e ▸ hx)
  · exact Or.inr e

theorem Q.step {b b' : Builder} {T : Ty} (hq : Q b T) (hs : StepT b b' T)
    (htv : ∀ s pe, pe ∈ getSlice b'.toValidate s → pe ∈ getSlice b.toValidate s) : Q b' T := by
  intro s pe hpe
  have hq0 := hq s pe (htv s pe hpe)
  constructor
  · intro ho'
    rcases hs.tin pe.dst with e | e
    · rw [e]; exact hq0.1 (hs.mono.out_none ho')
    · exact Or.inr e
  · intro hi'
    rcases hs.tout s with e | e
    · rw [e]; exact hq0.2 (hs.mono.in_none hi')
    · exact Or.inr e

theorem PN.step {b b' : Builder} (hp : PN b) (hm : Mono b b') (hf : Frame b b')
    (htv : ∀ s pe, pe ∈ getSlice b'.toValidate s → pe ∈ getSlice b.toValidate s) : PN b' := by
  intro s pe hpe
  have h0 := hp s pe (htv s pe hpe)
  exact ⟨fun hi' => by rw [hf.hasNode]; exact h0.1 (hm.in_none hi'),
    fun ho' => by rw [hf.hasNode]; exact h0.2.1 (hm.out_none ho'), h0.2.2⟩

theorem checkAssignable_same (im : Impl) (T : Ty) : checkAssignable im (some T) (some T) = .must := by
  simp [checkAssignable]


/-- the local `startNodeOutputType` is either current, or stale-`nil` while the start node has
    meanwhile been typed `T` (and then every remaining end is untyped or typed `T`) -/
def SOk (b : Builder) (s : Key) (sTy : Option Ty) (T : Ty) (entries : List PEdge) : Prop :=
  sTy = b.nodeOut s ∨
  (sTy = none ∧ s ≠ START ∧ s ≠ END ∧ b.nodeIn s = some T ∧ b.nodeOut s = some T ∧
     ∀ pe ∈ entries, b.nodeIn pe.dst = none ∨ b.nodeIn pe.dst = some T)

theorem SOk.tail {b : Builder} {s : Key} {sTy : Option Ty} {T : Ty} {pe : PEdge} {rest : List PEdge}
    (h : SOk b s sTy T (pe :: rest)) : SOk b s sTy T rest := by
  rcases h with h | ⟨h1, h2, h3, h4, h5, h6⟩
  · exact Or.inl h
  · exact Or.inr ⟨h1, h2, h3, h4, h5, fun x hx => h6 x (List.mem_cons_of_mem _ hx)⟩

theorem setTy_toValidate (b : Builder) (k : Key) (t : Ty) : (b.setTy k t).toValidate = b.toValidate := rfl

theorem SoundE.same {im : Impl} {b : Builder} {s e : Key} {T : Ty}
    (ho : b.nodeOut s = some T) (hi : b.nodeIn e = some T) : SoundE im b s e := by
  unfold SoundE; rw [ho, hi, checkAssignable_same]; trivial

theorem procEntries_cons_cases (im : Impl) (T : Ty) (s : Key) (sTy : Option Ty)
    (pe : PEdge) (rest : List PEdge) (b : Builder) (kept : List PEdge) (ch : Bool)
    (hw : WF b) (hq : Q b T) (hp : PN b) (hsub : ∀ x ∈ pe :: rest, x ∈ getSlice b.toValidate s)
    (hso : SOk b s sTy T (pe :: rest)) :
    (∃ A B, sTy = some A ∧ b.nodeOut s = some A ∧ b.nodeIn pe.dst = some B ∧
        checkAssignable im (some A) (some B) = .mustNot ∧
        procEntries im s sTy (pe :: rest) b kept ch = .error .edgeMismatch) ∨
    (sTy = none ∧ b.nodeIn pe.dst = none ∧
        procEntries im s sTy (pe :: rest) b kept ch = procEntries im s sTy rest b (pe :: kept) ch) ∨
    (∃ b1, procEntries im s sTy (pe :: rest) b kept ch = procEntries im s sTy rest b1 kept true ∧
        WF b1 ∧ SOk b1 s sTy T rest ∧ SoundE im b1 s pe.dst ∧
        -- what was typed: only ends of this entry, and only if the other end was typed before
        (∀ k, (b1.nodeIn k).isSome → (b.nodeIn k).isSome ∨
           (k = pe.dst ∧ (b.nodeOut s).isSome) ∨ (k = s ∧ (b.nodeIn pe.dst).isSome)) ∧
        StepT b b1 T ∧ Frame b b1 ∧ b1.toValidate = b.toValidate ∧
        -- so the hypotheses hold again for the rest of the pass
        Q b1 T ∧ PN b1 ∧ ∀ x ∈ rest, x ∈ getSlice b1.toValidate s) := by
  have hpe : pe ∈ getSlice b.toValidate s := hsub pe List.mem_cons_self
  have hsubr : ∀ x ∈ rest, x ∈ getSlice b.toValidate s := fun x hx => hsub x (List.mem_cons_of_mem _ hx)
  have again : ∀ b1, StepT b b1 T → Frame b b1 → b1.toValidate = b.toValidate →
      StepT b b1 T ∧ Frame b b1 ∧ b1.toValidate = b.toValidate ∧
      Q b1 T ∧ PN b1 ∧ ∀ x ∈ rest, x ∈ getSlice b1.toValidate s := by
    intro b1 hst hf htv
    have htv' : ∀ s' x, x ∈ getSlice b1.toValidate s' → x ∈ getSlice b.toValidate s' := by
      intro s' x hx; rwa [htv] at hx
    exact ⟨hst, hf, htv, hq.step hst htv', hp.step hst.mono hf htv', fun x hx => by rw [htv]; exact hsubr x hx⟩
  have hq0 := hq s pe hpe
  have hp0 := hp s pe hpe
  rcases hs : sTy with _ | st <;> rcases hd : b.nodeIn pe.dst with _ | et
  · right; left
    exact ⟨rfl, rfl, by simp only [procEntries, hd]⟩
  · -- (nil, typed): the start node takes the end's type, which is `T` whether the nil is current or stale
    right; right
    subst hs
    have hfacts : et = T ∧ (b.nodeIn s = none ∨ b.nodeIn s = some T) ∧ (b.nodeOut s = none ∨ b.nodeOut s = some T) ∧
        (∀ x ∈ rest, b.nodeIn x.dst = none ∨ b.nodeIn x.dst = some T) ∧ b.hasNode s = true ∧ s ≠ START ∧ s ≠ END := by
      rcases hso with h0 | ⟨_, hr1, hr2, h2, h3, h4⟩
      · have hon : b.nodeOut s = none := h0.symm
        exact ⟨by simpa [hd] using hq0.1 hon, Or.inl ((hw.untyped_iff s).mpr hon), Or.inl hon,
          fun x hx => (hq s x (hsubr x hx)).1 hon, hp0.2.1 hon, untyped_ne b s (Or.inr hon)⟩
      · exact ⟨by simpa [hd] using h4 pe List.mem_cons_self, Or.inr h2, Or.inr h3,
          fun x hx => h4 x (List.mem_cons_of_mem _ hx), hasNode_of_nodeIn h2 hr1 hr2, hr1, hr2⟩
    obtain ⟨rfl, hin, hon, hrest, hhas, hne⟩ := hfacts
    obtain ⟨hst1, hi1, ho1, hnew⟩ := StepT.typeNode hhas hne hin hon
    -- from now on the nil is stale
    have hso1 : SOk (b.setTy s et) s none et rest :=
      Or.inr ⟨rfl, hne.1, hne.2, hi1, ho1, fun x hx => (hst1.tin x.dst).elim (fun e => e ▸ hrest x hx) Or.inr⟩
    exact ⟨b.setTy s et, by simp only [procEntries, hd], hw.setTy s et, hso1, SoundE.same ho1 (hst1.mono.tin _ _ hd),
      fun k hk => (hnew k hk).imp_right fun e => Or.inr ⟨e, rfl⟩, again _ hst1 (Frame.setTy b s et) rfl⟩
  · -- (typed, nil): the end node takes the start's type
    right; right
    subst hs
    have hcur : b.nodeOut s = some st := hso.elim Eq.symm fun h => nomatch h.1
    obtain rfl : st = T := by simpa [hcur] using hq0.2 hd
    obtain ⟨hst1, hi1, -, hnew⟩ := StepT.typeNode (T := st) (hp0.1 hd) (untyped_ne b pe.dst (Or.inl hd)) (Or.inl hd)
      (Or.inl ((hw.untyped_iff _).mp hd))
    have ho1 := hst1.mono.tout s st hcur
    exact ⟨b.setTy pe.dst st, by simp only [procEntries, hd], hw.setTy _ _, Or.inl ho1.symm, SoundE.same ho1 hi1,
      fun k hk => (hnew k hk).imp_right fun e => Or.inl ⟨e, by rw [hcur]; rfl⟩, again _ hst1 (Frame.setTy b _ _) rfl⟩
  · -- (typed, typed): the entry is checked
    subst hs
    have hcur : b.nodeOut s = some st := hso.elim Eq.symm fun h => nomatch h.1
    rcases hc : checkAssignable im (some st) (some et) with _ | _ | _
    · left
      exact ⟨st, et, rfl, hcur, rfl, hc, by simp only [procEntries, hd, hp0.2.2, hc]⟩
    · right; right
      refine ⟨b, by simp only [procEntries, hd, hp0.2.2, hc], hw, hso.tail, ?_,
        fun k hk => Or.inl hk, again b (StepT.refl b T) (Frame.refl b) rfl⟩
      unfold SoundE; rw [hcur, hd, hc]; trivial
    · right; right
      let b1 : Builder := { b with mayEdges := b.mayEdges ++ [(s, pe.dst)] }
      have hst1 : StepT b b1 T :=
        ⟨⟨fun _ _ hx => hx, fun _ _ hx => hx, fun x hx => List.mem_append_left _ hx⟩, fun _ => Or.inl rfl, fun _ => Or.inl rfl⟩
      refine ⟨b1, by simp only [procEntries, hd, hp0.2.2, hc]; rfl, hw, Or.inl hcur.symm, ?_,
        fun k hk => Or.inl hk, again b1 hst1 (Frame.refl b) rfl⟩
      unfold SoundE
      show (match checkAssignable im (b.nodeOut s) (b.nodeIn pe.dst) with
        | .mustNot => False | .may => (s, pe.dst) ∈ b.mayEdges ++ [(s, pe.dst)] | .must => True)
      rw [hcur, hd, hc]; simp


theorem procEntries_spec (im : Impl) (T : Ty) (s : Key) (sTy : Option Ty) :
    ∀ (entries : List PEdge) (b : Builder) (kept : List PEdge) (ch : Bool),
      WF b → Q b T → PN b →
      (∀ pe ∈ entries, pe ∈ getSlice b.toValidate s) →
      SOk b s sTy T entries →
      ∀ b' kept' ch', procEntries im s sTy entries b kept ch = .ok (b', kept', ch') →
        WF b' ∧ StepT b b' T ∧ Frame b b' ∧ b'.toValidate = b.toValidate ∧
        ∃ k2, kept' = kept.reverse ++ k2 ∧ (∀ pe ∈ k2, pe ∈ entries) ∧
          (∀ pe ∈ entries, pe ∈ k2 ∨ SoundE im b' s pe.dst) := by
  intro entries
  induction entries with
  | nil =>
    intro b kept ch hw _ _ _ _ b' kept' ch' h
    simp only [procEntries, Except.ok.injEq, Prod.mk.injEq] at h
    obtain ⟨rfl, rfl, _⟩ := h
    exact ⟨hw, StepT.refl _ _, Frame.refl _, rfl, [], by simp, by simp, by simp⟩
  | cons pe rest ih =>
    intro b kept ch hw hq hp hsub hso b' kept' ch' h
    rcases procEntries_cons_cases im T s sTy pe rest b kept ch hw hq hp hsub hso with
      ⟨_, _, _, _, _, _, heq⟩ | ⟨_, _, heq⟩ | ⟨b1, heq, hw1, hso1, hsound, _, hst1, hf1, htv1, hq1, hp1, hsub1⟩
    · rw [heq] at h; cases h
    · rw [heq] at h
      obtain ⟨hw', hst, hfr, htv, k2, hk, hk2, hall⟩ :=
        ih b (pe :: kept) ch hw hq hp (fun x hx => hsub x (List.mem_cons_of_mem _ hx)) hso.tail b' kept' ch' h
      exact ⟨hw', hst, hfr, htv, pe :: k2, by simp [hk],
        List.forall_mem_cons.mpr ⟨List.mem_cons_self, fun x e => List.mem_cons_of_mem _ (hk2 x e)⟩,
        List.forall_mem_cons.mpr ⟨Or.inl List.mem_cons_self, fun x e => (hall x e).imp (List.mem_cons_of_mem _) id⟩⟩
    · -- the entry is resolved, soundly; later steps keep it sound
      rw [heq] at h
      obtain ⟨hw', hst, hfr, htv, k2, hk, hk2, hall⟩ := ih b1 kept true hw1 hq1 hp1 hsub1 hso1 b' kept' ch' h
      exact ⟨hw', hst1.trans hst, hf1.trans hfr, htv.trans htv1, k2, hk,
        fun x hx => List.mem_cons_of_mem _ (hk2 x hx),
        List.forall_mem_cons.mpr ⟨Or.inr (hsound.mono hst.mono), hall⟩⟩


theorem mem_getSlice_key {tv : List (Key × List PEdge)} {s : Key} {x : PEdge} (h : x ∈ getSlice tv s) :
    s ∈ tv.map (·.1) := by
  induction tv with
  | nil => simp [getSlice] at h
  | cons p tv ih =>
    obtain ⟨k, l⟩ := p
    simp only [getSlice] at h
    by_cases hk : k = s
    · simp [hk]
    · simp only [hk, ↓reduceIte] at h
      simp only [List.map_cons, List.mem_cons]
      exact Or.inr (ih h)

theorem getSlice_setSlice (tv : List (Key × List PEdge)) (s s' : Key) (nl : List PEdge) :
    getSlice (setSlice tv s nl) s' = if s' = s ∧ s ∈ tv.map (·.1) then nl else getSlice tv s' := by
  induction tv with
  | nil => simp [setSlice, getSlice]
  | cons p tv ih =>
    obtain ⟨k, l⟩ := p
    by_cases hk : k = s
    · subst hk
      by_cases h : k = s'
      · simp [setSlice, getSlice, h]
      · simp [setSlice, getSlice, h, Ne.symm h]
    · by_cases h : k = s'
      · subst h; simp [setSlice, getSlice, hk]
      · simp only [setSlice, getSlice, hk, h, ↓reduceIte, ih, List.map_cons, List.mem_cons, Ne.symm hk, false_or]

theorem getSlice_setSlice_ne (tv : List (Key × List PEdge)) (s s' : Key) (nl : List PEdge) (h : s' ≠ s) :
    getSlice (setSlice tv s nl) s' = getSlice tv s' := by
  rw [getSlice_setSlice, if_neg fun e => h e.1]

theorem getSlice_setSlice_self (tv : List (Key × List PEdge)) (s : Key) (nl : List PEdge)
    (h : s ∈ tv.map (·.1)) : getSlice (setSlice tv s nl) s = nl := by
  rw [getSlice_setSlice, if_pos ⟨rfl, h⟩]

theorem getSlice_setSlice_sub (tv : List (Key × List PEdge)) (s : Key) (nl : List PEdge) (x : PEdge)
    (h : x ∈ getSlice (setSlice tv s nl) s) : x ∈ nl := by
  rw [getSlice_setSlice] at h
  split at h
  · exact h
  · rename_i hn; exact absurd ⟨rfl, mem_getSlice_key h⟩ hn

theorem setSlice_same (tv : List (Key × List PEdge)) (s : Key) : setSlice tv s (getSlice tv s) = tv := by
  induction tv with
  | nil => rfl
  | cons p tv ih =>
    obtain ⟨k, l⟩ := p
    simp only [setSlice, getSlice]
    by_cases hk : k = s
    · simp [hk]
    · simp [hk, ih]

theorem pendingCount_setSlice (tv : List (Key × List PEdge)) (s : Key) (nl : List PEdge)
    (h : nl.length ≤ (getSlice tv s).length) :
    pendingCount (setSlice tv s nl) + (getSlice tv s).length = pendingCount tv + nl.length := by
  induction tv with
  | nil => simp [setSlice, getSlice] at h ⊢; exact h
  | cons p tv ih =>
    obtain ⟨k, l⟩ := p
    simp only [setSlice, getSlice] at h ⊢
    by_cases hk : k = s
    · simp only [hk, ↓reduceIte, pendingCount, List.map_cons, List.sum_cons]
      omega
    · simp only [hk, ↓reduceIte] at h ⊢
      have := ih h
      simp only [pendingCount, List.map_cons, List.sum_cons] at this ⊢
      omega


/-- relation between the state before and after (part of) `updateToValidateMap` -/
structure Upd (im : Impl) (b b' : Builder) (T : Ty) : Prop where
  wf : WF b'
  step : StepT b b' T
  frame : Frame b b'
  shrink : ∀ s pe, pe ∈ getSlice b'.toValidate s → pe ∈ getSlice b.toValidate s
  resolved : ∀ s pe, pe ∈ getSlice b.toValidate s → pe ∈ getSlice b'.toValidate s ∨ SoundE im b' s pe.dst

theorem Upd.refl (im : Impl) {b : Builder} (hw : WF b) (T : Ty) : Upd im b b T :=
  ⟨hw, StepT.refl _ _, Frame.refl _, fun _ _ h => h, fun _ _ h => Or.inl h⟩

theorem Upd.trans {im : Impl} {a b c : Builder} {T : Ty} (h1 : Upd im a b T) (h2 : Upd im b c T) : Upd im a c T := by
  refine ⟨h2.wf, h1.step.trans h2.step, h1.frame.trans h2.frame,
    fun s pe h => h1.shrink s pe (h2.shrink s pe h), fun s pe h => ?_⟩
  rcases h1.resolved s pe h with e | e
  · exact h2.resolved s pe e
  · exact Or.inr (e.mono h2.step.mono)

theorem Upd.q {im : Impl} {b b' : Builder} {T : Ty} (h : Upd im b b' T) (hq : Q b T) : Q b' T :=
  hq.step h.step h.shrink

theorem Upd.pn {im : Impl} {b b' : Builder} {T : Ty} (h : Upd im b b' T) (hp : PN b) : PN b' :=
  hp.step h.step.mono h.frame h.shrink

theorem Upd.pass {im : Impl} {T : Ty} {b0 : Builder} (hq : Q b0 T) (hp : PN b0) (s : Key) (b b1 : Builder)
    (kept : List PEdge) (ch1 : Bool) (hu : Upd im b0 b T)
    (hpr : procEntries im s (b.nodeOut s) (getSlice b.toValidate s) b [] false = .ok (b1, kept, ch1)) :
    Upd im b0 ({ b1 with toValidate := setSlice b1.toValidate s kept } : Builder) T := by
  obtain ⟨hw1, hst1, hfr1, htv1, k2, hk, hk2, hall⟩ :=
    procEntries_spec im T s (b.nodeOut s) (getSlice b.toValidate s) b [] false hu.wf (hu.q hq) (hu.pn hp)
      (fun _ hx => hx) (Or.inl rfl) b1 kept ch1 hpr
  simp only [List.reverse_nil, List.nil_append] at hk
  subst hk
  refine hu.trans ⟨hw1, ⟨⟨hst1.mono.tin, hst1.mono.tout, hst1.mono.may⟩, hst1.tin, hst1.tout⟩, hfr1, ?_, ?_⟩
  · intro s' pe hpe
    have hpe : pe ∈ getSlice (setSlice b1.toValidate s kept) s' := hpe
    by_cases hs' : s' = s
    · subst hs'
      exact hk2 pe (getSlice_setSlice_sub _ _ _ _ hpe)
    · rwa [getSlice_setSlice_ne _ _ _ _ hs', htv1] at hpe
  · intro s' pe hpe
    show pe ∈ getSlice (setSlice b1.toValidate s kept) s' ∨ _
    by_cases hs' : s' = s
    · subst hs'
      rw [getSlice_setSlice_self _ _ _ (htv1 ▸ mem_getSlice_key hpe)]
      exact hall pe hpe
    · rw [getSlice_setSlice_ne _ _ _ _ hs', htv1]
      exact Or.inl hpe

theorem updRound_spec (im : Impl) (T : Ty) :
    ∀ (ks : List Key) (b : Builder) (ch : Bool), WF b → Q b T → PN b →
      ∀ b' ch', updRound im ks b ch = .ok (b', ch') → Upd im b b' T :=
  fun ks b ch hw hq hp b' ch' => (updRound_walk im (Upd.pass hq hp) ks b ch (Upd.refl im hw T)).1 (b', ch')

theorem updLoop_spec (im : Impl) (ord : Ord) (T : Ty) :
    ∀ (fuel : Nat) (b : Builder), WF b → Q b T → PN b →
      ∀ b', updLoop im ord fuel b = .ok b' → Upd im b b' T :=
  fun fuel b hw hq hp => (updLoop_walk im (Upd.pass hq hp) ord fuel b (Upd.refl im hw T)).1


/-! ### the loop reaches its fixpoint: afterwards every pending entry joins two untyped nodes -/

theorem procEntries_cons (im : Impl) (s : Key) (sTy : Option Ty) (pe : PEdge) (rest : List PEdge) (b : Builder)
    (kept : List PEdge) (ch : Bool) :
    procEntries im s sTy (pe :: rest) b kept ch = .error .edgeMismatch ∨
    (sTy = none ∧ b.nodeIn pe.dst = none ∧
      procEntries im s sTy (pe :: rest) b kept ch = procEntries im s sTy rest b (pe :: kept) ch) ∨
    ∃ b1, procEntries im s sTy (pe :: rest) b kept ch = procEntries im s sTy rest b1 kept true ∧
      b1.toValidate = b.toValidate := by
  rcases hs : sTy with _ | st <;> rcases hd : b.nodeIn pe.dst with _ | et
  · exact Or.inr (Or.inl ⟨rfl, rfl, by simp only [procEntries, hd]⟩)
  · exact Or.inr (Or.inr ⟨b.setTy s et, by simp only [procEntries, hd], rfl⟩)
  · exact Or.inr (Or.inr ⟨b.setTy pe.dst st, by simp only [procEntries, hd], rfl⟩)
  · rcases hm : pe.mapped with _ | t
    · rcases hc : checkAssignable im (some st) (some et) with _ | _ | _
      · exact Or.inl (by simp only [procEntries, hd, hm, hc])
      · exact Or.inr (Or.inr ⟨b, by simp only [procEntries, hd, hm, hc], rfl⟩)
      · exact Or.inr (Or.inr ⟨{ b with mayEdges := b.mayEdges ++ [(s, pe.dst)] },
          by simp only [procEntries, hd, hm, hc], rfl⟩)
    · exact Or.inr (Or.inr ⟨{ b with mapEdges := b.mapEdges ++ [(s, pe.dst)],
                                     fmRecords := b.fmRecords ++ [(pe.dst, t)] },
        by simp only [procEntries, hd, hm], rfl⟩)

/-- The flag pays for every entry that goes: what is kept and the flag together are bounded by what came
    in; and a flag that is still down says that nothing happened. -/
theorem procEntries_shape (im : Impl) (s : Key) (sTy : Option Ty) :
    ∀ (entries : List PEdge) (b : Builder) (kept : List PEdge) (ch : Bool) b' kept' ch',
      procEntries im s sTy entries b kept ch = .ok (b', kept', ch') →
      b'.toValidate = b.toValidate ∧
      kept'.length + ch'.toNat ≤ kept.length + entries.length + ch.toNat ∧
      (ch' = false → ch = false ∧ b' = b ∧ kept' = kept.reverse ++ entries ∧
         ∀ pe ∈ entries, sTy = none ∧ b.nodeIn pe.dst = none) := by
  intro entries
  induction entries with
  | nil =>
    intro b kept ch b' kept' ch' h
    simp only [procEntries, Except.ok.injEq, Prod.mk.injEq] at h
    obtain ⟨rfl, rfl, rfl⟩ := h
    simp
  | cons pe rest ih =>
    intro b kept ch b' kept' ch' h
    rcases procEntries_cons im s sTy pe rest b kept ch with heq | ⟨hs, hd, heq⟩ | ⟨b1, heq, e1⟩ <;> rw [heq] at h
    · cases h
    · obtain ⟨i0, i1, i2⟩ := ih b (pe :: kept) ch b' kept' ch' h
      simp only [List.length_cons] at i1 ⊢
      refine ⟨i0, by omega, fun hf => ?_⟩
      obtain ⟨e0, e1, e2, e3⟩ := i2 hf
      exact ⟨e0, e1, by simp [e2], List.forall_mem_cons.mpr ⟨⟨hs, hd⟩, e3⟩⟩
    · obtain ⟨i0, i1, i2⟩ := ih b1 kept true b' kept' ch' h
      simp only [List.length_cons, Bool.toNat_true] at i1 ⊢
      exact ⟨i0.trans e1, by omega, fun hf => nomatch (i2 hf).1⟩

/-- Pending entries and the flag together do not grow, so a round that raises the flag has removed an
    entry; a round that leaves it down has changed nothing and has met only entries between untyped nodes. -/
theorem updRound_shape (im : Impl) :
    ∀ (ks : List Key) (b : Builder) (ch : Bool) b' ch', updRound im ks b ch = .ok (b', ch') →
      pendingCount b'.toValidate + ch'.toNat ≤ pendingCount b.toValidate + ch.toNat ∧
      (ch' = false → ch = false ∧ b' = b ∧
        ∀ s ∈ ks, ∀ pe ∈ getSlice b.toValidate s, b.nodeOut s = none ∧ b.nodeIn pe.dst = none) := by
  intro ks
  induction ks with
  | nil =>
    intro b ch b' ch' h
    simp only [updRound, Except.ok.injEq, Prod.mk.injEq] at h
    obtain ⟨rfl, rfl⟩ := h
    simp
  | cons s ks ih =>
    intro b ch b' ch' h
    simp only [updRound] at h
    rcases hpr : procEntries im s (b.nodeOut s) (getSlice b.toValidate s) b [] false with k | ⟨b1, kept, ch1⟩
    · simp [hpr] at h
    · simp only [hpr] at h
      obtain ⟨htv1, hlen, hsame⟩ :=
        procEntries_shape im s (b.nodeOut s) (getSlice b.toValidate s) b [] false b1 kept ch1 hpr
      simp only [List.length_nil, Nat.zero_add, Bool.toNat_false, Nat.add_zero] at hlen
      rw [htv1] at h
      obtain ⟨ih1, ih2⟩ := ih _ (ch || ch1) b' ch' h
      refine ⟨?_, fun hf => ?_⟩
      · have hcnt := pendingCount_setSlice b.toValidate s kept (by omega)
        have hor : (ch || ch1).toNat ≤ ch.toNat + ch1.toNat := by cases ch <;> cases ch1 <;> decide
        have ih1 : _ ≤ pendingCount (setSlice b.toValidate s kept) + _ := ih1
        omega
      · -- nothing changed in the later passes, so nothing changed in this one
        obtain ⟨hor, e1, f2⟩ := ih2 hf
        obtain ⟨rfl, rfl⟩ := Bool.or_eq_false_iff.mp hor
        obtain ⟨-, rfl, rfl, e3⟩ := hsame rfl
        simp only [List.reverse_nil, List.nil_append, setSlice_same] at e1 f2
        refine ⟨rfl, e1, fun s' hs' pe hpe => ?_⟩
        rcases List.mem_cons.mp hs' with rfl | e
        · exact e3 pe hpe
        · exact f2 s' e pe hpe


/-- between calls: every pending entry joins two nodes whose types are both still unknown -/
def I2 (b : Builder) : Prop :=
  ∀ s pe, pe ∈ getSlice b.toValidate s → b.nodeOut s = none ∧ b.nodeIn pe.dst = none

theorem updLoop_fix (im : Impl) (ord : Ord) (hv : ord.Valid) :
    ∀ (fuel : Nat) (b b' : Builder), pendingCount b.toValidate < fuel →
      updLoop im ord fuel b = .ok b' → I2 b' := by
  intro fuel
  induction fuel with
  | zero => intro b b' h; omega
  | succ n ih =>
    intro b b' hlt h
    simp only [updLoop] at h
    rcases hr : updRound im (ord.keys b (b.toValidate.map (·.1))) b false with k | ⟨b1, ch⟩
    · simp [hr] at h
    · simp only [hr] at h
      have hs := updRound_shape im _ b false b1 ch hr
      cases hch : ch
      · simp only [hch, Bool.false_eq_true, ↓reduceIte, Except.ok.injEq] at h
        subst h
        obtain ⟨-, e1, e2⟩ := hs.2 hch
        subst e1
        intro s pe hpe
        have hk : s ∈ b1.toValidate.map (·.1) := mem_getSlice_key hpe
        have : s ∈ ord.keys b1 (b1.toValidate.map (·.1)) := ((hv.keys b1 _).mem_iff).mpr hk
        exact e2 s this pe hpe
      · simp only [hch, ↓reduceIte] at h
        have := hs.1
        simp only [hch, Bool.toNat_true, Bool.toNat_false] at this
        exact ih b1 b' (by omega) h

/-- **the contract of `updateToValidateMap`**, for every iteration order: started from a
    well-formed state in which every half-typed pending entry has its typed end typed `T`, it
    keeps all known types, resolves entries only soundly, and ends with all remaining entries
    joining untyped nodes. -/
theorem update_spec (im : Impl) (ord : Ord) (hv : ord.Valid) (T : Ty) (b b' : Builder)
    (hw : WF b) (hq : Q b T) (hp : PN b) (h : update im ord b = .ok b') :
    Upd im b b' T ∧ I2 b' ∧ PN b' :=
  have hu := updLoop_spec im ord T _ b hw hq hp b' h
  ⟨hu, updLoop_fix im ord hv _ b b' (Nat.lt_succ_self _) h, hu.pn hp⟩


theorem procEntries_errkind (im : Impl) (s : Key) (sTy : Option Ty) :
    ∀ (entries : List PEdge) (b : Builder) (kept : List PEdge) (ch : Bool) (k : ErrKind),
      procEntries im s sTy entries b kept ch = .error k → k = .edgeMismatch := by
  intro entries
  induction entries with
  | nil => intro b kept ch k h; simp [procEntries] at h
  | cons pe rest ih =>
    intro b kept ch k h
    rcases procEntries_cons im s sTy pe rest b kept ch with heq | ⟨_, _, heq⟩ | ⟨b1, heq, _⟩ <;> rw [heq] at h
    · cases h; rfl
    · exact ih _ _ _ k h
    · exact ih _ _ _ k h

theorem update_errkind (im : Impl) (ord : Ord) (b : Builder) (k : ErrKind)
    (h : update im ord b = .error k) : k = .edgeMismatch := by
  obtain ⟨s, x, -, hpe⟩ :=
    (updLoop_walk (P := fun _ => True) im (fun _ _ _ _ _ _ _ => trivial) ord _ b trivial).2 k h
  exact procEntries_errkind im s _ _ _ _ _ _ hpe

theorem getSlice_addPending (tv : List (Key × List PEdge)) (s s' : Key) (pe : PEdge) :
    getSlice (addPending tv s pe) s' = if s' = s then getSlice tv s ++ [pe] else getSlice tv s' := by
  induction tv with
  | nil =>
    by_cases h : s' = s
    · simp [addPending, getSlice, h]
    · simp [addPending, getSlice, h, Ne.symm h]
  | cons p tv ih =>
    obtain ⟨k, l⟩ := p
    by_cases hk : k = s
    · subst hk
      by_cases h : s' = k
      · simp [addPending, getSlice, h]
      · simp [addPending, getSlice, h, Ne.symm h]
    · by_cases h2 : k = s'
      · subst h2; simp [addPending, getSlice, hk]
      · simp only [addPending, getSlice, hk, h2, ↓reduceIte, ih]

theorem mem_getSlice_addToValidate (b : Builder) (s : Key) (pe : PEdge) (s' : Key) (x : PEdge) :
    x ∈ getSlice (b.addToValidate s pe).toValidate s' ↔ (x ∈ getSlice b.toValidate s' ∨ (s' = s ∧ x = pe)) := by
  show x ∈ getSlice (addPending b.toValidate s pe) s' ↔ _
  rw [getSlice_addPending]
  by_cases hs' : s' = s
  · subst hs'; simp
  · simp [hs']

/-- a data connection of the graph under construction: an edge, or a branch start with one of
    the branch's end nodes -/
def Conn (b : Builder) (s e : Key) : Prop :=
  (s, e) ∈ b.dataEdges ∨ ∃ br ∈ b.branches, br.src = s ∧ e ∈ br.ends ∧ br.noData = false

def Pending (b : Builder) (s e : Key) : Prop := ∃ pe ∈ getSlice b.toValidate s, pe.dst = e

/-- `X`: connections whose edge / branch record is not stored yet (the call is still running) -/
structure InvC (im : Impl) (b : Builder) (X : List (Key × Key)) : Prop where
  wf : WF b
  i2 : I2 b
  pn : PN b
  conn : ∀ s e, (Conn b s e ∨ (s, e) ∈ X) → Pending b s e ∨ SoundE im b s e

theorem I2.q {b : Builder} (h : I2 b) (T : Ty) : Q b T := by
  intro s pe hpe
  have := h s pe hpe
  exact ⟨fun _ => Or.inl this.2, fun _ => Or.inl this.1⟩

theorem Frame.dataEdges {b b' : Builder} (h : Frame b b') : b'.dataEdges = b.dataEdges :=
  congrArg (·.2.2.2.2.2.1) h
theorem Frame.branches {b b' : Builder} (h : Frame b b') : b'.branches = b.branches :=
  congrArg (·.2.2.2.2.2.2.1) h
theorem Frame.startNodes {b b' : Builder} (h : Frame b b') : b'.startNodes = b.startNodes :=
  congrArg (·.2.2.2.2.2.2.2.1) h
theorem Frame.endNodes {b b' : Builder} (h : Frame b b') : b'.endNodes = b.endNodes :=
  congrArg (·.2.2.2.2.2.2.2.2.1) h
theorem Frame.preBranch {b b' : Builder} (h : Frame b b') : b'.preBranch = b.preBranch :=
  congrArg (·.2.2.2.2.2.2.2.2.2.2.2.1) h
theorem Frame.io {b b' : Builder} (h : Frame b b') : b'.inT = b.inT ∧ b'.outT = b.outT :=
  ⟨congrArg (·.2.1) h, congrArg (·.2.2.1) h⟩

theorem Frame.conn {b b' : Builder} (h : Frame b b') (s e : Key) : Conn b' s e ↔ Conn b s e := by
  unfold Conn; rw [h.dataEdges, h.branches]

/-- the type a pending connection `s → e` can spread: that of its typed end, if exactly one is typed -/
def chooseT (b : Builder) (s e : Key) : Ty :=
  match b.nodeOut s, b.nodeIn e with
  | none, some B => B
  | some A, none => A
  | _, _ => Ty.any

/-- the old entries join untyped nodes, so any `T` will do that the typed end of the new entry has, if
    exactly one end is typed -/
theorem pending_pre (im : Impl) (b : Builder) (X : List (Key × Key)) (s e : Key) (T : Ty) (hi : InvC im b X)
    (hs : b.hasNode s = true ∨ b.nodeOut s ≠ none) (he : b.hasNode e = true ∨ b.nodeIn e ≠ none)
    (ho : b.nodeOut s = none → b.nodeIn e = none ∨ b.nodeIn e = some T)
    (hn : b.nodeIn e = none → b.nodeOut s = none ∨ b.nodeOut s = some T) :
    let b1 := b.addToValidate s { dst := e, mapped := none }
    WF b1 ∧ Q b1 T ∧ PN b1 := by
  intro b1
  refine ⟨hi.wf, ?_, ?_⟩
  · intro s' x hx
    rcases (mem_getSlice_addToValidate b s _ s' x).mp hx with hx | ⟨rfl, rfl⟩
    · exact hi.i2.q _ s' x hx
    · exact ⟨ho, hn⟩
  · intro s' x hx
    rcases (mem_getSlice_addToValidate b s _ s' x).mp hx with hx | ⟨rfl, rfl⟩
    · exact hi.pn s' x hx
    · exact ⟨fun hn => he.resolve_right (fun h => h hn), fun hn => hs.resolve_right (fun h => h hn), rfl⟩

theorem data_pre (im : Impl) (b : Builder) (X : List (Key × Key)) (s e : Key) (hi : InvC im b X)
    (hs : b.hasNode s = true ∨ b.nodeOut s ≠ none) (he : b.hasNode e = true ∨ b.nodeIn e ≠ none) :
    let b1 := b.addToValidate s { dst := e, mapped := none }
    WF b1 ∧ Q b1 (chooseT b s e) ∧ PN b1 := by
  refine pending_pre im b X s e _ hi hs he ?_ ?_ <;>
    rcases ho : b.nodeOut s with _ | A <;> rcases hin : b.nodeIn e with _ | B <;> simp [chooseT, ho, hin]

theorem data_step (im : Impl) (ord : Ord) (hv : ord.Valid) (b b2 : Builder) (X : List (Key × Key)) (s e : Key)
    (hi : InvC im b X)
    (hs : b.hasNode s = true ∨ b.nodeOut s ≠ none) (he : b.hasNode e = true ∨ b.nodeIn e ≠ none)
    (h : update im ord (b.addToValidate s { dst := e, mapped := none }) = .ok b2) :
    InvC im b2 ((s, e) :: X) ∧ Frame b b2 ∧ Mono b b2 := by
  let pe : PEdge := { dst := e, mapped := none }
  let b1 := b.addToValidate s pe
  have hsl := mem_getSlice_addToValidate b s pe
  obtain ⟨hw1, hq1, hp1⟩ := data_pre im b X s e hi hs he
  obtain ⟨hu, hi2, hpn⟩ := update_spec im ord hv _ b1 b2 hw1 hq1 hp1 h
  refine ⟨⟨hu.wf, hi2, hpn, ?_⟩, hu.frame, ⟨hu.step.mono.tin, hu.step.mono.tout, hu.step.mono.may⟩⟩
  intro s' e' hc
  have hres : ∀ x, x ∈ getSlice b1.toValidate s' → x.dst = e' → Pending b2 s' e' ∨ SoundE im b2 s' e' := by
    intro x hx hd
    rcases hu.resolved s' x hx with r | r
    · exact Or.inl ⟨x, r, hd⟩
    · exact Or.inr (hd ▸ r)
  have old : (Conn b s' e' ∨ (s', e') ∈ X) → Pending b2 s' e' ∨ SoundE im b2 s' e' := by
    intro hc
    rcases hi.conn s' e' hc with ⟨x, hx, hd⟩ | hsnd
    · exact hres x ((hsl s' x).mpr (Or.inl hx)) hd
    · exact Or.inr (SoundE.mono (b := b1) hu.step.mono hsnd)
  rcases hc with hc | hc
  · exact old (Or.inl ((hu.frame.conn s' e').mp hc))
  · rcases List.mem_cons.mp hc with e1 | e1
    · simp only [Prod.mk.injEq] at e1
      obtain ⟨rfl, rfl⟩ := e1
      exact hres pe ((hsl s' pe).mpr (Or.inr ⟨rfl, rfl⟩)) rfl
    · exact old (Or.inr e1)


/-- the branch condition of `br` can take what its start node produces: for sure, or possibly
    with the run-time check installed (`flag`) -/
def SoundBr (im : Impl) (b : Builder) (br : BranchRec) (flag : Bool) : Prop :=
  match checkAssignable im (b.nodeOut br.src) (some br.inTy) with
  | .mustNot => False
  | .may => flag = true
  | .must => True

theorem SoundBr.mono {im : Impl} {b b' : Builder} {br : BranchRec} {flag : Bool} (hm : Mono b b')
    (h : SoundBr im b br flag) : SoundBr im b' br flag := by
  unfold SoundBr at h ⊢
  rcases ho : b.nodeOut br.src with _ | A
  · simp [ho, checkAssignable] at h
  · rw [ho] at h; rw [hm.tout _ A ho]; exact h

structure Inv (im : Impl) (b : Builder) : Prop where
  c : InvC im b []
  brLen : b.branches.length = b.preBranch.length
  br : ∀ p ∈ b.branches.zip (b.preBranch.map (·.2)), SoundBr im b p.1 p.2

/-- calls the public `Graph` type can make: AddEdge has no mappings / noControl / noData,
    AddBranch is not `skipData` -/
def Op.isGraphApi : Op → Bool
  | .node _ => true
  | .edge _ _ nc nd m => !nc && !nd && m.isNone
  | .branch _ _ _ sk => !sk
  | .compile _ => true

theorem findNode_append_new (ns : List Node) (m : Node) (h : findNode ns m.key = none) (k : Key) :
    findNode (ns ++ [m]) k = if k = m.key then some m else findNode ns k := by
  rw [findNode_eq_find?] at h
  rw [findNode_eq_find?, findNode_eq_find?, List.find?_append]
  by_cases hk : k = m.key
  · subst hk; simp [h]
  · simp [hk, Ne.symm hk]

theorem Inv.setErr {im : Impl} {b : Builder} (h : Inv im b) (k : ErrKind) : Inv im { b with buildError := some k } :=
  ⟨⟨h.c.wf, h.c.i2, h.c.pn, h.c.conn⟩, h.brLen, h.br⟩

theorem Inv.branches_mono {im : Impl} {b b' : Builder} (h : Inv im b) (hm : Mono b b')
    (e1 : b'.branches = b.branches) (e2 : b'.preBranch = b.preBranch) :
    b'.branches.length = b'.preBranch.length ∧
    ∀ p ∈ b'.branches.zip (b'.preBranch.map (·.2)), SoundBr im b' p.1 p.2 := by
  rw [e1, e2]; exact ⟨h.brLen, fun p hp => (h.br p hp).mono hm⟩

theorem NodeSpec.node_key (n : NodeSpec) : n.node.key = n.key := by
  unfold NodeSpec.node; split <;> rfl

theorem addNode_types {b : Builder} {n : NodeSpec} (hck : addNodeCheck b n = none) (k : Key) :
    ({ b with nodes := b.nodes ++ [n.node] } : Builder).nodeIn k = (if k = n.key then n.node.inTy else b.nodeIn k) ∧
    ({ b with nodes := b.nodes ++ [n.node] } : Builder).nodeOut k = (if k = n.key then n.node.outTy else b.nodeOut k) ∧
    ({ b with nodes := b.nodes ++ [n.node] } : Builder).hasNode k = (k = n.key || b.hasNode k) := by
  obtain ⟨hk1, hk2, hk3, -, -⟩ := addNodeCheck_none hck
  have hnew := findNode_append_new b.nodes n.node (by simpa [Builder.hasNode, n.node_key] using hk3) k
  rw [n.node_key] at hnew
  by_cases hk : k = n.key
  · subst hk; simp [Builder.nodeIn, Builder.nodeOut, Builder.hasNode, hk1, hk2, hnew]
  · simp [Builder.nodeIn, Builder.nodeOut, Builder.hasNode, hk, hnew]

theorem addNode_inv (f : Facts) (im : Impl) (b : Builder) (n : NodeSpec) (h : Inv im b) :
    Inv im (addNode f b n).1 := by
  refine addNode_ind f b n h (fun hck => ?_) (fun k => h.setErr k)
  obtain ⟨hk1, hk2, hk3, -, -⟩ := addNodeCheck_none hck
  let b' : Builder := { b with nodes := b.nodes ++ [n.node] }
  have hty := addNode_types hck
  have hin : ∀ k, k ≠ n.key → b'.nodeIn k = b.nodeIn k := fun k hk => (hty k).1.trans (if_neg hk)
  have hout : ∀ k, k ≠ n.key → b'.nodeOut k = b.nodeOut k := fun k hk => (hty k).2.1.trans (if_neg hk)
  have hhas : ∀ k, b.hasNode k = true → b'.hasNode k = true := fun k hk => by rw [(hty k).2.2, hk, Bool.or_true]
  obtain ⟨hnone_in, hnone_out⟩ := untyped_of_not_hasNode hk3 hk1 hk2
  have hmono : Mono b b' := by
    refine ⟨fun k t hk => ?_, fun k t hk => ?_, fun _ hx => hx⟩
    · rw [hin k (fun e => by rw [e, hnone_in] at hk; simp at hk)]; exact hk
    · rw [hout k (fun e => by rw [e, hnone_out] at hk; simp at hk)]; exact hk
  have hne_of_has : ∀ k, b.hasNode k = true → k ≠ n.key := fun k hk e => by rw [e, hk3] at hk; simp at hk
  refine ⟨⟨?_, ?_, ?_, ?_⟩, h.brLen, fun p hp => (h.br p hp).mono hmono⟩
  · intro x hx
    rcases List.mem_append.mp hx with hx | hx
    · exact h.c.wf x hx
    · simp only [List.mem_singleton] at hx
      subst hx
      unfold NodeSpec.node
      split
      · exact ⟨fun _ => rfl, fun hp => by simp at hp⟩
      · exact ⟨fun hp => by simp at hp, fun _ => ⟨rfl, rfl⟩⟩
  · intro s pe hpe
    have h2 := h.c.i2 s pe hpe
    have h3 := h.c.pn s pe hpe
    exact ⟨by rw [hout s (hne_of_has s (h3.2.1 h2.1))]; exact h2.1,
           by rw [hin pe.dst (hne_of_has _ (h3.1 h2.2))]; exact h2.2⟩
  · intro s pe hpe
    have h2 := h.c.i2 s pe hpe
    have h3 := h.c.pn s pe hpe
    exact ⟨fun _ => hhas _ (h3.1 h2.2), fun _ => hhas _ (h3.2.1 h2.1), h3.2.2⟩
  · rintro s e (hc | hc)
    · exact (h.c.conn s e (Or.inl hc)).imp_right (·.mono hmono)
    · cases hc


theorem compile_inv (f : Facts) (im : Impl) (ord : Ord) (b : Builder) (o : COpts) (h : Inv im b) :
    Inv im (compile f ord b o).1 :=
  compile_preserves (P := Inv im) f ord b o h (fun _ => ⟨⟨h.c.wf, h.c.i2, h.c.pn, h.c.conn⟩, h.brLen, h.br⟩)
    (fun _ hx => ⟨⟨hx.c.wf, hx.c.i2, hx.c.pn, hx.c.conn⟩, hx.brLen, hx.br⟩)

theorem node_or_reserved {b : Builder} {k r : Key} (hk : ¬ (!b.hasNode k && k != r) = true) :
    b.hasNode k = true ∨ k = r := by
  by_cases hh : b.hasNode k = true
  · exact Or.inl hh
  · exact Or.inr (by simpa [hh] using hk)

theorem known_start {b : Builder} {s : Key} (hk : ¬ (!b.hasNode s && s != START) = true) :
    b.hasNode s = true ∨ b.nodeOut s ≠ none :=
  (node_or_reserved hk).imp_right fun h hn => (untyped_ne b s (Or.inr hn)).1 h

theorem known_end {b : Builder} {e : Key} (hk : ¬ (!b.hasNode e && e != END) = true) :
    b.hasNode e = true ∨ b.nodeIn e ≠ none :=
  (node_or_reserved hk).imp_right fun h hn => (untyped_ne b e (Or.inl hn)).2 h

theorem Inv.ctl {im : Impl} {b : Builder} (h : Inv im b) (ce : List (Key × Key)) (sn en : List Key) :
    Inv im { b with controlEdges := ce, startNodes := sn, endNodes := en } :=
  ⟨⟨h.c.wf, h.c.i2, h.c.pn, h.c.conn⟩, h.brLen, h.br⟩

theorem Inv.edgeHead {im : Impl} {b b1 : Builder} {s e : Key} {nc : Bool} (h : Inv im b)
    (h1 : edgeHead b s e nc = .ok b1) :
    Inv im b1 ∧ (b1.hasNode s = true ∨ b1.nodeOut s ≠ none) ∧ (b1.hasNode e = true ∨ b1.nodeIn e ≠ none) := by
  obtain ⟨-, -, hs, he, hc⟩ := edgeHead_accepted h1
  have hs' : b.hasNode s = true ∨ b.nodeOut s ≠ none := known_start (by simpa using hs)
  have he' : b.hasNode e = true ∨ b.nodeIn e ≠ none := known_end (by simpa using he)
  rcases hc with ⟨-, rfl⟩ | ⟨-, -, rfl⟩
  · exact ⟨h, hs', he'⟩
  · exact ⟨h.ctl _ _ _, hs', he'⟩

theorem dataEdge_inv (im : Impl) (ord : Ord) (hv : ord.Valid) (b1 b2 : Builder) (s e : Key)
    (h : Inv im b1)
    (hs : b1.hasNode s = true ∨ b1.nodeOut s ≠ none) (he : b1.hasNode e = true ∨ b1.nodeIn e ≠ none)
    (hupd : update im ord (b1.addToValidate s { dst := e, mapped := none }) = .ok b2) :
    Inv im { b2 with dataEdges := b2.dataEdges ++ [(s, e)] } := by
  obtain ⟨hc2, hfr, hmo⟩ := data_step im ord hv b1 b2 [] s e h.c hs he hupd
  obtain ⟨hl, hbr⟩ := h.branches_mono (b' := b2) ⟨hmo.tin, hmo.tout, hmo.may⟩ hfr.branches hfr.preBranch
  refine ⟨⟨hc2.wf, hc2.i2, hc2.pn, fun s' e' hc => hc2.conn s' e' ?_⟩, hl, hbr⟩
  -- a connection of the new state is an old one or the pending pair (s, e)
  rcases hc with (hc | hc) | hc
  · rcases List.mem_append.mp hc with hc | hc
    · exact Or.inl (Or.inl hc)
    · exact Or.inr (by simpa using hc)
  · exact Or.inl (Or.inr hc)
  · cases hc

/-! The edge body with the entry / exit bookkeeping in either position (`addEdgeBodyK` of
    Model/C20Wf.lean, what a declaration is lowered to); at `inCtl = true` it is the builder's. -/

theorem mapOk_id (x : Except ErrKind Builder) : mapOk (fun b => b) x = x := by
  cases x <;> rfl

theorem addEdgeBodyK_true (im : Impl) (ord : Ord) (b : Builder) (s e : Key) (nc nd : Bool)
    (m : Option Nat) : addEdgeBodyK true im ord b s e nc nd m = addEdgeBody im ord b s e nc nd m := by
  simp only [addEdgeBodyK, addEdgeBody, ↓reduceIte, mapOk_id, Builder.noteEnds]
  rfl

theorem addEdgeK_true (f : Facts) (im : Impl) (ord : Ord) (b : Builder) (s e : Key) (nc nd : Bool)
    (m : Option Nat) : addEdgeK f true im ord b s e nc nd m = addEdge f im ord b s e nc nd m := by
  unfold addEdgeK addEdge
  rw [addEdgeBodyK_true] <;> rfl

theorem stepK_true (E : Env) (h : E.inCtl = true) (b : Builder) (op : Op) :
    stepK E b op = step E.f E.im E.ord b op := by
  cases op <;> simp [stepK, step, h, addEdgeK_true]

theorem mapOk_ok {g : Builder → Builder} {r : Except ErrKind Builder} {b' : Builder}
    (h : mapOk g r = .ok b') : ∃ b3, r = .ok b3 ∧ b' = g b3 := by
  cases r with
  | error k => cases h
  | ok b3 => exact ⟨b3, rfl, (Except.ok.inj h).symm⟩

theorem addEdgeBodyK_ok {inCtl : Bool} {im : Impl} {ord : Ord} {b b' : Builder} {s e : Key} {nc nd : Bool}
    {m : Option Nat} (h : addEdgeBodyK inCtl im ord b s e nc nd m = .ok b') :
    ¬(!b.hasNode s && s != START) = true ∧ ¬(!b.hasNode e && e != END) = true ∧
    ∃ ce sn en b3 sn' en',
      (nd = true ∧ b3 = { b with controlEdges := ce, startNodes := sn, endNodes := en } ∨
       ∃ b2, update im ord (({ b with controlEdges := ce, startNodes := sn, endNodes := en } : Builder).addToValidate
          s { dst := e, mapped := m }) = .ok b2 ∧ b3 = { b2 with dataEdges := b2.dataEdges ++ [(s, e)] }) ∧
      b' = { b3 with startNodes := sn', endNodes := en' } := by
  unfold addEdgeBodyK at h
  obtain ⟨hs, h⟩ := of_ite_error_eq_ok (of_ite_error_eq_ok (of_ite_error_eq_ok h).2).2
  obtain ⟨he, h⟩ := of_ite_error_eq_ok h
  refine ⟨hs, he, ?_⟩
  simp only at h
  split at h
  · cases h
  · rename_i b1 h1
    obtain ⟨b3, h3, rfl⟩ := mapOk_ok h
    have hb1 : ∃ ce sn en, b1 = { b with controlEdges := ce, startNodes := sn, endNodes := en } := by
      cases nc with
      | true => exact ⟨_, _, _, (Except.ok.inj h1).symm⟩
      | false =>
        rw [if_neg Bool.false_ne_true] at h1
        have h1 := (of_ite_error_eq_ok h1).2
        cases inCtl <;> exact ⟨_, _, _, (Except.ok.inj h1).symm⟩
    obtain ⟨ce, sn, en, rfl⟩ := hb1
    refine ⟨ce, sn, en, b3, (if inCtl then b3 else b3.noteEnds s e).startNodes,
      (if inCtl then b3 else b3.noteEnds s e).endNodes, ?_, by cases inCtl <;> rfl⟩
    cases nd with
    | true => exact Or.inl ⟨rfl, (Except.ok.inj h3).symm⟩
    | false =>
      rw [if_neg Bool.false_ne_true] at h3
      have h3 := (of_ite_error_eq_ok h3).2
      split at h3
      · cases h3
      · rename_i b2 hu; exact Or.inr ⟨b2, hu, (Except.ok.inj h3).symm⟩

/-- `none`: without field mappings – every AddEdge of the Graph API and every call the Workflow API makes
    for an unmapped input -/
theorem addEdgeBodyK_inv (inCtl : Bool) (im : Impl) (ord : Ord) (hv : ord.Valid) (b b' : Builder) (s e : Key)
    (nc nd : Bool) (h : Inv im b)
    (hb : addEdgeBodyK inCtl im ord b s e nc nd none = .ok b') : Inv im b' := by
  obtain ⟨hs, he, ce, sn, en, b3, sn', en', hdata, rfl⟩ := addEdgeBodyK_ok hb
  have h3 : Inv im b3 := by
    rcases hdata with ⟨_, rfl⟩ | ⟨b2, hu, rfl⟩
    · exact h.ctl ce sn en
    · exact dataEdge_inv im ord hv _ b2 s e (h.ctl ce sn en) (known_start hs) (known_end he) hu
  exact h3.ctl b3.controlEdges sn' en'

theorem addEdgeK_inv (f : Facts) (inCtl : Bool) (im : Impl) (ord : Ord) (hv : ord.Valid) (b : Builder) (s e : Key)
    (nc nd : Bool) (h : Inv im b) : Inv im (addEdgeK f inCtl im ord b s e nc nd none).1 := by
  unfold addEdgeK
  split
  · exact h
  · split
    · exact h
    · split
      · exact h
      · exact guarded_ind _ _ _ h (fun b' hb => addEdgeBodyK_inv inCtl im ord hv b b' s e nc nd h hb)
          (fun k => h.setErr k)

theorem addEdge_inv_any (f : Facts) (im : Impl) (ord : Ord) (hv : ord.Valid) (b : Builder) (s e : Key)
    (nc nd : Bool) (h : Inv im b) : Inv im (addEdge f im ord b s e nc nd none).1 :=
  addEdgeK_true f im ord b s e nc nd none ▸ addEdgeK_inv f true im ord hv b s e nc nd h

theorem addEdge_inv (f : Facts) (im : Impl) (ord : Ord) (hv : ord.Valid) (b : Builder) (s e : Key)
    (h : Inv im b) : Inv im (addEdge f im ord b s e false false none).1 :=
  addEdge_inv_any f im ord hv b s e false false h

theorem InvC.weaken {im : Impl} {b : Builder} {X X' : List (Key × Key)} (h : InvC im b X)
    (hsub : ∀ p ∈ X', p ∈ X) : InvC im b X' :=
  ⟨h.wf, h.i2, h.pn, fun s e hc => h.conn s e (hc.imp id (hsub _))⟩

theorem InvC.noteEnds {im : Impl} {b : Builder} {X : List (Key × Key)} (h : InvC im b X) (s e : Key) :
    InvC im (b.noteEnds s e) X := ⟨h.wf, h.i2, h.pn, h.conn⟩

theorem branchEnds_cons (im : Impl) (ord : Ord) (s e : Key) (es : List Key) (b : Builder) :
    branchEnds im ord s (e :: es) b =
      if !b.hasNode e && e != END then .error .branchUnknownEnd
      else match update im ord (b.addToValidate s { dst := e, mapped := none }) with
        | .error k => .error k
        | .ok b1 => branchEnds im ord s es (b1.noteEnds s e) := rfl

theorem branchEnds_spec (im : Impl) (ord : Ord) (hv : ord.Valid) (s : Key) :
    ∀ (es : List Key) (b : Builder) (X : List (Key × Key)) (b' : Builder),
      InvC im b X → (b.hasNode s = true ∨ b.nodeOut s ≠ none) →
      branchEnds im ord s es b = .ok b' →
      ∃ X', InvC im b' X' ∧ (∀ p ∈ X, p ∈ X') ∧ (∀ e ∈ es, (s, e) ∈ X') ∧ Mono b b' ∧
        b'.branches = b.branches ∧ b'.preBranch = b.preBranch := by
  intro es
  induction es with
  | nil =>
    intro b X b' hi _ h
    simp only [branchEnds, Except.ok.injEq] at h
    subst h
    exact ⟨X, hi, fun _ hp => hp, by simp, Mono.refl _, rfl, rfl⟩
  | cons e es ih =>
    intro b X b' hi hs h
    rw [branchEnds_cons] at h
    by_cases he : (!b.hasNode e && e != END) = true
    · rw [if_pos he] at h; cases h
    · rw [if_neg he] at h
      split at h
      · cases h
      · rename_i b1 hupd
        obtain ⟨hc1, hfr, hmo⟩ := data_step im ord hv b b1 X s e hi hs (known_end he) hupd
        obtain ⟨X', hx1, hx2, hx3, hm2, e2, e3⟩ :=
          ih (b1.noteEnds s e) ((s, e) :: X) b' (hc1.noteEnds s e) (hmo.known_start (hfr.hasNode s) hs) h
        refine ⟨X', hx1, fun p hp => hx2 p (List.mem_cons_of_mem _ hp),
          List.forall_mem_cons.mpr ⟨hx2 _ List.mem_cons_self, hx3⟩, ?_, ?_, ?_⟩
        · exact (Mono.mk hmo.tin hmo.tout hmo.may : Mono b (b1.noteEnds s e)).trans hm2
        · rw [e2]; exact hfr.branches
        · rw [e3]; exact hfr.preBranch

/-- `b1` is `b` with at most one node newly typed `t`, by a step that is no work-list step: what addBranch's
    typing of a pass-through start node does, as far as the rest of the call needs it -/
structure Retyped (b b1 : Builder) (t : Ty) : Prop where
  wf : WF b1
  q : Q b1 t
  pn : PN b1
  mono : Mono b b1
  frame : Frame b b1
  tv : b1.toValidate = b.toValidate

theorem branchStartTyped_pre {f : Facts} (hg : f.branchGuarded = true) {im : Impl} {b : Builder} (h : Inv im b)
    (s : Key) (t : Ty) : Retyped b (branchStartTyped f b s t) t := by
  unfold branchStartTyped
  split
  · rename_i hcond
    have hin : b.nodeIn s = none := by
      simp only [hg, Bool.not_true, Bool.false_or, Bool.and_eq_true, Option.isNone_iff_eq_none] at hcond
      exact hcond.2
    have hon : b.nodeOut s = none := (h.c.wf.untyped_iff s).mp hin
    have hst := StepT.setTy b s t (Or.inl hin) (Or.inl hon)
    exact ⟨h.c.wf.setTy s t, (h.c.i2.q t).step hst (fun _ _ hx => hx),
      h.c.pn.step hst.mono (Frame.setTy b s t) (fun _ _ hx => hx), hst.mono, Frame.setTy b s t, rfl⟩
  · exact ⟨h.c.wf, h.c.i2.q t, h.c.pn, Mono.refl _, Frame.refl _, rfl⟩

theorem SoundBr.of_check {im : Impl} {b : Builder} {br : BranchRec}
    (h : checkAssignable im (b.nodeOut br.src) (some br.inTy) ≠ .mustNot) :
    SoundBr im b br (checkAssignable im (b.nodeOut br.src) (some br.inTy) == .may) := by
  unfold SoundBr
  cases hc : checkAssignable im (b.nodeOut br.src) (some br.inTy) with
  | mustNot => exact h hc
  | must => trivial
  | may => rfl

theorem branch_mid_inv (im : Impl) (ord : Ord) (hv : ord.Valid) (b b1 b3 : Builder) (s : Key) (t : Ty) (flag : Bool)
    (h : Inv im b) (hex : b.hasNode s = true ∨ b.nodeOut s ≠ none) (h1 : Retyped b b1 t)
    (hupd : update im ord { b1 with preBranch := b1.preBranch ++ [(s, flag)] } = .ok b3) :
    InvC im b3 [] ∧ (b3.hasNode s = true ∨ b3.nodeOut s ≠ none) ∧ Mono b1 b3 ∧
    b3.branches = b.branches ∧ b3.preBranch = b.preBranch ++ [(s, flag)] := by
  obtain ⟨hu, hi3, hpn3⟩ :=
    update_spec im ord hv t { b1 with preBranch := b1.preBranch ++ [(s, flag)] } b3 h1.wf h1.q h1.pn hupd
  have hm13 : Mono b1 b3 := ⟨hu.step.mono.tin, hu.step.mono.tout, hu.step.mono.may⟩
  have hde3 : b3.dataEdges = b.dataEdges := hu.frame.dataEdges.trans h1.frame.dataEdges
  have hbr3 : b3.branches = b.branches := hu.frame.branches.trans h1.frame.branches
  have hpb3 : b3.preBranch = b.preBranch ++ [(s, flag)] := by
    rw [hu.frame.preBranch]; show b1.preBranch ++ [(s, flag)] = _; rw [h1.frame.preBranch]
  refine ⟨⟨hu.wf, hi3, hpn3, ?_⟩, ?_, hm13, hbr3, hpb3⟩
  · intro s' e' hc
    rcases hc with hc | hc
    · have hcb : Conn b s' e' := by
        unfold Conn at hc ⊢; rw [hde3, hbr3] at hc; exact hc
      rcases h.c.conn s' e' (Or.inl hcb) with ⟨x, hx, hd⟩ | hsd
      · rcases hu.resolved s' x (h1.tv ▸ hx) with r' | r'
        · exact Or.inl ⟨x, r', hd⟩
        · exact Or.inr (hd ▸ r')
      · exact Or.inr ((hsd.mono h1.mono).mono hm13)
    · simp at hc
  · exact hm13.known_start (hu.frame.hasNode s) (h1.mono.known_start (h1.frame.hasNode s) hex)

theorem branchTail_inv {f : Facts} (hpr : f.branchPropagates = true) (im : Impl) (ord : Ord) (hv : ord.Valid)
    (b b1 b' : Builder) (s : Key) (t : Ty) (ends : List Key) (sk flag : Bool) (h : Inv im b)
    (hex : b.hasNode s = true ∨ b.nodeOut s ≠ none) (h1 : Retyped b b1 t)
    (hsb : SoundBr im b1 { src := s, inTy := t, ends := ends, noData := sk } flag)
    (hb : branchTail f im ord b1 s t ends sk flag = .ok b') : Inv im b' := by
  obtain ⟨b3, b4, hupd, hends, rfl⟩ := branchTail_ok hb
  rw [if_pos hpr] at hupd
  obtain ⟨hc3, hs3, hm13, hbr3, hpb3⟩ := branch_mid_inv im ord hv b b1 b3 s t flag h hex h1 hupd
  have hE : ∃ X', InvC im b4 X' ∧ (sk = false → ∀ e ∈ ord.ends b3 ends, (s, e) ∈ X') ∧ Mono b3 b4 ∧
      b4.branches = b3.branches ∧ b4.preBranch = b3.preBranch := by
    cases sk with
    | true => rw [if_pos rfl] at hends; cases hends; exact ⟨[], hc3, nofun, Mono.refl _, rfl, rfl⟩
    | false =>
      rw [if_neg Bool.false_ne_true] at hends
      obtain ⟨X', hx1, _, hx3, hm34, e2, e3⟩ := branchEnds_spec im ord hv s _ b3 [] b4 hc3 hs3 hends
      exact ⟨X', hx1, fun _ => hx3, hm34, e2, e3⟩
  obtain ⟨X', hx1, hx3, hm34, e2, e3⟩ := hE
  have hpb : b4.preBranch = b.preBranch ++ [(s, flag)] := by rw [e3]; exact hpb3
  have hbr : b4.branches = b.branches := by rw [e2]; exact hbr3
  refine ⟨⟨hx1.wf, hx1.i2, hx1.pn, ?_⟩, ?_, ?_⟩
  · intro s' e' hc
    apply hx1.conn
    rcases hc with (hc | ⟨br, hbrm, hb1', hb2, hb3⟩) | hc
    · exact Or.inl (Or.inl hc)
    · rcases List.mem_append.mp hbrm with hbrm | hbrm
      · exact Or.inl (Or.inr ⟨br, hbrm, hb1', hb2, hb3⟩)
      · simp only [List.mem_singleton] at hbrm
        subst hbrm
        subst hb1'
        exact Or.inr (hx3 hb3 e' (((hv.ends b3 ends).mem_iff).mpr hb2))
    · simp at hc
  · show (b4.branches ++ [_]).length = b4.preBranch.length
    rw [hpb, hbr]; simp [h.brLen]
  · intro p hp
    dsimp only at hp
    rw [hpb, hbr, List.map_append, List.zip_append (by simp [h.brLen])] at hp
    rcases List.mem_append.mp hp with hp' | hp'
    · exact ((h.br p hp').mono ((h1.mono.trans hm13).trans hm34) :)
    · cases List.mem_singleton.mp hp'
      exact ((hsb.mono hm13).mono hm34 :)

/-- `addBranch`, for a Graph branch (`skipData = false`) and a Workflow branch (`skipData = true`) alike -/
theorem addBranch_inv_any (f : Facts) (hg : f.branchGuarded = true) (hpr : f.branchPropagates = true)
    (im : Impl) (ord : Ord) (hv : ord.Valid) (b : Builder) (s : Key) (t : Ty) (ends : List Key) (sk : Bool)
    (h : Inv im b) : Inv im (addBranch f im ord b s t ends sk).1 := by
  unfold addBranch
  refine guarded_ind _ _ _ h (fun b' hb => ?_) (fun k => h.setErr k)
  obtain ⟨-, h2, -, hne, hb⟩ := addBranchBody_ok hb
  exact branchTail_inv hpr im ord hv b _ b' s t ends sk _ h (known_start h2) (branchStartTyped_pre hg h s t)
    (SoundBr.of_check (br := { src := s, inTy := t, ends := ends, noData := sk }) hne) hb

theorem addBranch_inv (f : Facts) (hg : f.branchGuarded = true) (hpr : f.branchPropagates = true)
    (im : Impl) (ord : Ord) (hv : ord.Valid) (b : Builder) (s : Key) (t : Ty) (ends : List Key)
    (h : Inv im b) : Inv im (addBranch f im ord b s t ends false).1 :=
  addBranch_inv_any f hg hpr im ord hv b s t ends false h

/-- calls the Workflow API makes on the underlying graph when no input carries field mappings:
    `addNode`, `addEdgeWithMappings` with any noControl / noData, `addBranch` with or without
    data flow, `compile` -/
def Op.isWfApi : Op → Bool
  | .edge _ _ _ _ m => m.isNone
  | _ => true

theorem isWfApi_of_isGraphApi {op : Op} (h : op.isGraphApi = true) : op.isWfApi = true := by
  cases op <;> simp_all [Op.isGraphApi, Op.isWfApi]

theorem stepK_inv (E : Env) (hg : E.f.branchGuarded = true) (hpr : E.f.branchPropagates = true)
    (hv : E.ord.Valid) (b : Builder) (op : Op) (hop : op.isWfApi = true) (h : Inv E.im b) :
    Inv E.im (stepK E b op).1 := by
  cases op with
  | node n => exact addNode_inv E.f E.im b n h
  | edge s e nc nd m =>
    simp only [Op.isWfApi, Option.isNone_iff_eq_none] at hop
    subst hop
    exact addEdgeK_inv E.f E.inCtl E.im E.ord hv b s e nc nd h
  | branch s t ends sk =>
    exact addBranch_inv_any E.f hg hpr E.im E.ord hv b s t ends sk h
  | compile o => exact compile_inv E.f E.im E.ord b o h

theorem step_inv (f : Facts) (hg : f.branchGuarded = true) (hpr : f.branchPropagates = true) (im : Impl) (ord : Ord)
    (hv : ord.Valid) (b : Builder) (op : Op) (hop : op.isWfApi = true) (h : Inv im b) :
    Inv im (step f im ord b op).1 :=
  stepK_true ⟨f, true, im, ord⟩ rfl b op ▸ stepK_inv ⟨f, true, im, ord⟩ hg hpr hv b op hop h

theorem runK_ind {P : Builder → Prop} (E : Env) : ∀ (ops : List Op) (b : Builder),
    (∀ b, ∀ op ∈ ops, P b → P (stepK E b op).1) → P b → P (runK E b ops)
  | [], _, _, h => h
  | op :: ops, b, hs, h =>
    runK_ind E ops _ (fun b o ho => hs b o (List.mem_cons_of_mem _ ho)) (hs b op List.mem_cons_self h)

theorem runK_inv (E : Env) (hg : E.f.branchGuarded = true) (hpr : E.f.branchPropagates = true)
    (hv : E.ord.Valid) : ∀ (ops : List Op) (b : Builder), (∀ op ∈ ops, op.isWfApi = true) → Inv E.im b →
      Inv E.im (runK E b ops) :=
  fun ops b hops => runK_ind E ops b fun b op ho => stepK_inv E hg hpr hv b op (hops op ho)

theorem Inv_new (im : Impl) (cmp : Cmp) (inT outT : Ty) (st : Option Nat) : Inv im (Builder.new cmp inT outT st) := by
  refine ⟨⟨?_, ?_, ?_, ?_⟩, rfl, ?_⟩
  · intro n hn; simp [Builder.new] at hn
  · intro s pe hpe; simp [Builder.new, getSlice] at hpe
  · intro s pe hpe; simp [Builder.new, getSlice] at hpe
  · intro s e hc
    rcases hc with hc | hc
    · rcases hc with hc | ⟨br, hbr, _⟩
      · simp [Builder.new] at hc
      · simp [Builder.new] at hbr
    · simp at hc
  · intro p hp; simp [Builder.new] at hp

end EinoV.Build
