/- C20: what the guards of the Add* functions give (a stored error is returned first and sticks,
   a compiled builder refuses every Add*), the builder cells a runner aliases, what `compile`
   leaves behind, and the answer of a refused call on an error-free, uncompiled builder. -/
import EinoV.Model.C20Builder
import EinoV.Proofs.C20Body

namespace EinoV.Build

/-- the guards as they must be in the source -/
def Guards.all : Guards := { checkErr := true, checkCompiled := true, storeErr := true }

structure Facts.Guarded (f : Facts) : Prop where
  node : f.nodeG = Guards.all
  edge : f.edgeG = Guards.all
  branch : f.branchG = Guards.all

theorem guarded_stored (g : Guards) (hg : g.checkErr = true) (b : Builder) (k : ErrKind)
    (h : b.buildError = some k) (body : Except ErrKind Builder) :
    guarded g b body = (b, .stored k) := by
  simp [guarded, hg, h]

theorem guarded_compiled (g : Guards) (hg : g.checkCompiled = true) (b : Builder)
    (he : b.buildError = none) (hc : b.compiled = true) (body : Except ErrKind Builder) :
    guarded g b body = (b, .compiled) := by
  simp [guarded, he, hc, hg]

theorem addNode_stored (f : Facts) (hf : f.Guarded) (b : Builder) (k : ErrKind) (h : b.buildError = some k)
    (n : NodeSpec) : addNode f b n = (b, .stored k) := by
  have hg : f.nodeG.checkErr = true := by rw [hf.node]; rfl
  unfold addNode; rw [guarded_stored _ hg b k h]

theorem step_stored (f : Facts) (hf : f.Guarded) (im : Impl) (ord : Ord) (b : Builder) (k : ErrKind)
    (h : b.buildError = some k) (op : Op) : step f im ord b op = (b, .stored k, none) := by
  cases op with
  | node n => simp only [step, addNode_stored f hf b k h]
  | edge s e nc nd m => simp [step, addEdge, hf.edge, Guards.all, h]
  | branch s t ends sk =>
    have hg : f.branchG.checkErr = true := by rw [hf.branch]; rfl
    simp only [step, addBranch]; rw [guarded_stored _ hg b k h]
  | compile o => simp [step, compile, h]

theorem run_stored (f : Facts) (hf : f.Guarded) (im : Impl) (ord : Ord) (b : Builder) (k : ErrKind)
    (h : b.buildError = some k) (ops : List Op) :
    run f im ord b ops = (b, ops.map (fun _ => .stored k), []) := by
  induction ops with
  | nil => rfl
  | cons op ops ih => simp [run, step_stored f hf im ord b k h op, ih]

theorem guarded_fresh_stores (g : Guards) (hg : g.storeErr = true) (b : Builder)
    (body : Except ErrKind Builder) (k : ErrKind) (h : (guarded g b body).2 = .fresh k) :
    (guarded g b body).1.buildError = some k := by
  rcases guarded_cases g b body with ⟨_, _, e⟩ | ⟨_, e⟩ | ⟨_, _, e⟩ | ⟨k', _, e⟩ <;> rw [e] at h ⊢ <;> cases h
  rw [if_pos hg]

/-- `hk`: the noControl∧noData refusal is not stored; the source returns it before installing the `defer` -/
theorem step_fresh_stores (f : Facts) (hf : f.Guarded) (im : Impl) (ord : Ord) (b : Builder)
    (op : Op) (hop : op.isCompile = false) (k : ErrKind) (hk : k ≠ .edgeBothNo)
    (h : (step f im ord b op).2.1 = .fresh k) :
    (step f im ord b op).1.buildError = some k := by
  cases op with
  | compile o => simp [Op.isCompile] at hop
  | node n =>
    have hg : f.nodeG.storeErr = true := by rw [hf.node]; rfl
    exact guarded_fresh_stores _ hg b _ k h
  | branch s t ends sk =>
    have hg : f.branchG.storeErr = true := by rw [hf.branch]; rfl
    exact guarded_fresh_stores _ hg b _ k h
  | edge s e nc nd m =>
    have hg : f.edgeG.storeErr = true := by rw [hf.edge]; rfl
    simp only [step, addEdge_eq_guarded] at h ⊢
    by_cases hn : (nc && nd) = true
    · rw [if_pos hn] at h
      cases guarded_fresh h
      exact absurd rfl hk
    · rw [if_neg hn] at h ⊢
      exact guarded_fresh_stores _ hg b _ k h

theorem guarded_err (b : Builder) (he : b.buildError = none) (hc : b.compiled = false) (g : Guards) (k : ErrKind) :
    (guarded g b (.error k)).2 = .fresh k := by
  simp [guarded, he, hc]

theorem step_compiled (f : Facts) (hf : f.Guarded) (im : Impl) (ord : Ord) (b : Builder)
    (he : b.buildError = none) (hc : b.compiled = true) (op : Op) (hop : op.isCompile = false) :
    step f im ord b op = (b, .compiled, none) := by
  cases op with
  | compile o => simp [Op.isCompile] at hop
  | node n =>
    have hg : f.nodeG.checkCompiled = true := by rw [hf.node]; rfl
    simp only [step, addNode]; rw [guarded_compiled _ hg b he hc]
  | edge s e nc nd m => simp [step, addEdge, hf.edge, Guards.all, he, hc]
  | branch s t ends sk =>
    have hg : f.branchG.checkCompiled = true := by rw [hf.branch]; rfl
    simp only [step, addBranch]; rw [guarded_compiled _ hg b he hc]

/-- the builder-owned cells a runner keeps references to -/
structure Aliased where
  nodes : List Node
  controlEdges : List (Key × Key)
  dataEdges : List (Key × Key)
  branches : List BranchRec
  mayEdges : List (Key × Key)
  mapEdges : List (Key × Key)
  preBranch : List (Key × Bool)
  preNode : List (Key × Nat)
  deriving DecidableEq, Repr

def Builder.aliased (b : Builder) : Aliased :=
  { nodes := b.nodes, controlEdges := b.controlEdges, dataEdges := b.dataEdges, branches := b.branches,
    mayEdges := b.mayEdges, mapEdges := b.mapEdges, preBranch := b.preBranch, preNode := b.preNode }

theorem mutatePre_off (f : Facts) (hm : f.compileMutates = false) (b : Builder) : mutatePre f b = b := by
  simp [mutatePre, hm]

@[simp] theorem mutatePre_buildError (f : Facts) (b : Builder) : (mutatePre f b).buildError = b.buildError := by
  unfold mutatePre; split <;> rfl

@[simp] theorem setCompiled_buildError (b : Builder) : b.setCompiled.buildError = b.buildError := rfl
@[simp] theorem setCompiled_compiled (b : Builder) : b.setCompiled.compiled = true := rfl

theorem compilePost_ne_ok (b : Builder) (ord : Ord) (o : COpts) : compilePost b ord o ≠ some .ok := by
  intro h
  rcases compilePost_some h with h | ⟨h, -⟩ | h <;> cases h

theorem compile_fst (f : Facts) (hm : f.compileMutates = false) (ord : Ord) (b : Builder) (o : COpts) :
    (compile f ord b o).1 = if (compile f ord b o).2.1 = .ok then b.setCompiled else b := by
  rcases compile_cases f ord b o with ⟨_, _, e⟩ | ⟨_, _, _, e⟩ | ⟨oc, _, _, hpost, e⟩ | ⟨_, _, _, e⟩ <;> rw [e]
  · rfl
  · rfl
  · rw [mutatePre_off f hm] at hpost ⊢
    exact (if_neg fun e : oc = .ok => compilePost_ne_ok b ord o (e ▸ hpost)).symm
  · rw [mutatePre_off f hm]; rfl

theorem compile_state (f : Facts) (hm : f.compileMutates = false) (ord : Ord) (b : Builder) (o : COpts) :
    (compile f ord b o).1 = b ∨ (compile f ord b o).1 = b.setCompiled := by
  rw [compile_fst f hm]
  split
  · exact Or.inr rfl
  · exact Or.inl rfl

theorem compile_ok_flags (f : Facts) (ord : Ord) (b : Builder) (o : COpts)
    (h : (compile f ord b o).2.1 = .ok) :
    (compile f ord b o).1.compiled = true ∧ (compile f ord b o).1.buildError = none ∧ b.buildError = none := by
  rcases compile_cases f ord b o with ⟨_, _, e⟩ | ⟨_, _, _, e⟩ | ⟨oc, _, _, hpost, e⟩ | ⟨he, _, _, e⟩ <;>
    rw [e] at h ⊢
  · cases h
  · cases h
  · cases h; exact absurd hpost (compilePost_ne_ok _ _ _)
  · exact ⟨rfl, (mutatePre_buildError f b).trans he, he⟩

theorem addNode_refused {f : Facts} {b : Builder} {n : NodeSpec} {k : ErrKind} (he : b.buildError = none)
    (hc : b.compiled = false) (h : addNodeCheck b n = some k) : (addNode f b n).2 = .fresh k := by
  simp only [addNode, h]; exact guarded_err b he hc _ _

theorem addEdge_refused {f : Facts} {im : Impl} {ord : Ord} {b : Builder} {s e : Key} {nc nd : Bool}
    {m : Option Nat} {k : ErrKind} (he : b.buildError = none) (hc : b.compiled = false)
    (hn : (nc && nd) = false) (h : addEdgeBody im ord b s e nc nd m = .error k) :
    (addEdge f im ord b s e nc nd m).2 = .fresh k := by
  rw [addEdge_of_body f im ord b s e nc nd m he hc hn, h]

theorem addBranch_refused {f : Facts} {im : Impl} {ord : Ord} {b : Builder} {s : Key} {t : Ty}
    {ends : List Key} {sk : Bool} {k : ErrKind} (he : b.buildError = none) (hc : b.compiled = false)
    (h : addBranchBody f im ord b s t ends sk = .error k) :
    (addBranch f im ord b s t ends sk).2 = .fresh k := by
  rw [addBranch, h]; exact guarded_err b he hc _ _

theorem addNodeCheck_nodeKeyOpt {b : Builder} {n : NodeSpec} (h : addNodeCheck b n = none)
    (hk : n.nodeKeyOpt = true) : b.cmp = .chain := by
  unfold addNodeCheck at h
  obtain ⟨-, h⟩ := ite_some_eq_none_iff.mp h
  obtain ⟨-, h⟩ := ite_some_eq_none_iff.mp h
  obtain ⟨-, h⟩ := ite_some_eq_none_iff.mp h
  simpa [hk] using (ite_some_eq_none_iff.mp h).1

/-- `hct`: the check of `compilePost` that would panic cannot be the one that refuses, since with
    `compileChecksTypes` an untyped node is refused before -/
theorem compile_refused {f : Facts} (hm : f.compileMutates = false) (hct : f.compileChecksTypes = true)
    {ord : Ord} {b : Builder} {o : COpts} (he : b.buildError = none)
    (h : compilePre f b o ≠ none ∨ compilePost b ord o ≠ none) :
    ∃ k, compile f ord b o = (b, .fresh k, none) := by
  rcases compile_cases f ord b o with ⟨k, hk, _⟩ | ⟨k, _, _, e⟩ | ⟨oc, _, hp, hr, e⟩ | ⟨_, hp, hr, _⟩
  · rw [he] at hk; cases hk
  · exact ⟨k, e⟩
  · rw [mutatePre_off f hm] at hr e
    rcases compilePost_some hr with rfl | ⟨-, hu⟩ | rfl
    · exact ⟨_, e⟩
    · rw [(compilePre_eq_none.mp hp).2.2.2.2.2.1 hct] at hu; cases hu
    · exact ⟨_, e⟩
  · rw [mutatePre_off f hm] at hr
    exact (h.elim (· hp) (· hr)).elim

end EinoV.Build
