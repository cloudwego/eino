/-
  C10 — helper lemmas about the compile-time model of Lambda nodes (Model/C10Share.lean):
  when every graph node owns its runnable (`owns = true`) the name stored in a node's action
  is the node's own, for every compile order.
-/
import EinoV.Model.C10Share
import EinoV.Proofs.C10
import EinoV.Proofs.ListFacts
import EinoV.Proofs.Sched

namespace EinoV.C10

/-- the state after the first `k` declarations with `owns = true`: node `j < k` refers to the cell
    `nLam + j` allocated for it, a nameless copy of its Lambda's; the Lambdas' own cells are untouched
    and nothing is compiled yet.  Only its value at `k = ns.length` is used, to start `CompInv`. -/
structure AddInv (nLam : Nat) (ns : List NodeD) (k : Nat) (st : CState) : Prop where
  next : st.next = nLam + k
  ref : ∀ j, j < k → st.ref j = nLam + j
  own : ∀ j d, j < k → ns[j]? = some d → st.cell (nLam + j) = ⟨d.lam, none⟩
  lam : ∀ l, l < nLam → st.cell l = ⟨l, none⟩
  act : ∀ i, st.action i = none

theorem addInv_init (nLam : Nat) (ns : List NodeD) : AddInv nLam ns 0 (CState.init nLam) :=
  ⟨rfl, fun _ h => absurd h (Nat.not_lt_zero _), fun _ _ h => absurd h (Nat.not_lt_zero _),
   fun _ _ => rfl, fun _ => rfl⟩

theorem addInv_step {nLam : Nat} {ns : List NodeD} {k : Nat} {st : CState} (h : AddInv nLam ns k st)
    (d : NodeD) (hd : ns[k]? = some d) (hl : d.lam < nLam) :
    AddInv nLam ns (k + 1) (addNode true st k d) := by
  have hn := h.next
  refine ⟨?_, ?_, ?_, ?_, ?_⟩
  · simp only [addNode, if_true]; omega
  · intro j hj
    simp only [addNode, if_true]
    by_cases hjk : j = k
    · subst hjk; rw [upd_same]; exact hn
    · rw [upd_other _ _ _ _ hjk]; exact h.ref j (by omega)
  · intro j d' hj hd'
    simp only [addNode, if_true]
    by_cases hjk : j = k
    · subst hjk
      rw [hd] at hd'
      cases hd'
      rw [← hn, upd_same]
      exact h.lam _ hl
    · rw [upd_other _ _ _ _ (by omega)]
      exact h.own j d' (by omega) hd'
  · intro l hlt
    simp only [addNode, if_true]
    rw [upd_other _ _ _ _ (by omega)]
    exact h.lam l hlt
  · intro i
    simp only [addNode, if_true]
    exact h.act i

theorem addInv_from {nLam : Nat} {ns : List NodeD} (hwf : ∀ d ∈ ns, d.lam < nLam) :
    ∀ (ds : List NodeD) (k : Nat) (st : CState), AddInv nLam ns k st → ns.drop k = ds →
      AddInv nLam ns (k + ds.length) (addNodesFrom true st k ds) := by
  intro ds
  induction ds with
  | nil => intro k st h _; exact h
  | cons d ds ih =>
    intro k st h hdrop
    have hd : ns[k]? = some d := by rw [← Nat.add_zero k, ← List.getElem?_drop, hdrop]; rfl
    have := ih (k + 1) _ (addInv_step h d hd (hwf d (List.mem_of_getElem? hd)))
      (by rw [← List.drop_drop, hdrop]; rfl)
    rwa [Nat.add_right_comm] at this

theorem addInv_all {nLam : Nat} {ns : List NodeD} (hwf : ∀ d ∈ ns, d.lam < nLam) :
    AddInv nLam ns ns.length (addNodes true nLam ns) := by
  simpa [addNodes] using addInv_from hwf ns 0 (CState.init nLam) (addInv_init nLam ns) rfl

/-- Invariant of `compileNode` in any order (`compInv_step`).  `act` is the result: a compiled node's
    action is its own cell `nLam + i` or a wrapper allocated during compilation, and that cell carries
    the node's Lambda and the node's name.  `next`, `ref`, `own` keep the nodes' cells apart, so that
    compiling one node does not rename another's. -/
structure CompInv (nLam : Nat) (ns : List NodeD) (st : CState) : Prop where
  next : nLam + ns.length ≤ st.next
  ref : ∀ j, j < ns.length → st.ref j = nLam + j
  own : ∀ j d, ns[j]? = some d → (st.cell (nLam + j)).lam = d.lam
  act : ∀ i a, st.action i = some a → ∃ d, ns[i]? = some d ∧ a < st.next ∧
          (a = nLam + i ∨ nLam + ns.length ≤ a) ∧ st.cell a = ⟨d.lam, some d.name⟩

theorem compInv_of_addInv {nLam : Nat} {ns : List NodeD} {st : CState} (h : AddInv nLam ns ns.length st) :
    CompInv nLam ns st := by
  refine ⟨by rw [h.next]; exact Nat.le_refl _, h.ref, ?_, ?_⟩
  · intro j d hd
    rw [h.own j d (List.getElem?_eq_some_iff.mp hd).1 hd]
  · intro i a ha
    rw [h.act i] at ha
    cases ha

theorem compInv_set {nLam : Nat} {ns : List NodeD} {st : CState} (h : CompInv nLam ns st) {i : Nat}
    {d : NodeD} (hd : ns[i]? = some d) {C : Nat → Cell} {N a : Nat} (hN : st.next ≤ N)
    (hC : ∀ b, b < st.next → b ≠ nLam + i → C b = st.cell b) (hown : (C (nLam + i)).lam = d.lam)
    (ha : a < N) (hor : a = nLam + i ∨ nLam + ns.length ≤ a) (hcell : C a = ⟨d.lam, some d.name⟩) :
    CompInv nLam ns { st with cell := C, next := N, action := upd st.action i (some a) } := by
  have hnext := h.next
  refine ⟨by simp only; omega, h.ref, fun j d' hd' => ?_, fun i' a' ha' => ?_⟩
  · by_cases hji : j = i
    · subst hji; cases hd.symm.trans hd'; exact hown
    · have hj := (List.getElem?_eq_some_iff.mp hd').1
      exact (congrArg Cell.lam (hC _ (by omega) (by omega))).trans (h.own j d' hd')
  · by_cases hii : i' = i
    · subst hii
      cases (upd_same _ _ _).symm.trans ha'
      exact ⟨d, hd, ha, hor, hcell⟩
    · obtain ⟨d', hd', halt, hor', hcell'⟩ := h.act i' a' ((upd_other _ _ _ _ hii).symm.trans ha')
      have hi := (List.getElem?_eq_some_iff.mp hd).1
      exact ⟨d', hd', by simp only; omega, hor', (hC a' halt (by omega)).trans hcell'⟩

theorem compInv_step {nLam : Nat} {ns : List NodeD} {st : CState} (h : CompInv nLam ns st) (i : Nat) :
    CompInv nLam ns (compileNode ns st i) := by
  unfold compileNode
  cases hd : ns[i]? with
  | none => exact h
  | some d =>
    have hi : i < ns.length := (List.getElem?_eq_some_iff.mp hd).1
    have hlam : (st.cell (nLam + i)).lam = d.lam := h.own i d hd
    have hnext := h.next
    simp only [h.ref i hi]
    split
    · -- keyed: the action is a wrapper allocated now, a copy of the node's (named) runnable
      refine compInv_set h hd (Nat.le_succ _) (fun b hb hne => ?_) ?_ (Nat.lt_succ_self _)
        (.inr hnext) ?_
      · rw [upd_other _ _ _ _ (by omega), upd_other _ _ _ _ hne]
      · rw [upd_other _ _ _ _ (by omega), upd_same]; exact hlam
      · rw [upd_same, upd_same, hlam]
    · refine compInv_set h hd (Nat.le_refl _) (fun b _ hne => upd_other _ _ _ _ hne) ?_ (by omega)
        (.inl rfl) ?_
      · rw [upd_same]; exact hlam
      · rw [upd_same, hlam]

theorem action_isSome_step (ns : List NodeD) (st : CState) (i j : Nat)
    (h : j = i ∧ (ns[i]?).isSome ∨ (st.action j).isSome) :
    ((compileNode ns st i).action j).isSome := by
  unfold compileNode
  cases hd : ns[i]? with
  | none =>
    rcases h with ⟨_, h⟩ | h
    · rw [hd] at h; cases h
    · exact h
  | some d =>
    dsimp only
    by_cases hji : j = i
    · subst hji
      split <;> simp [upd_same]
    · have hj := h.resolve_left fun h => hji h.1
      split <;> simpa only [upd_other _ _ _ _ hji] using hj

theorem action_isSome_foldl (ns : List NodeD) (j : Nat) (hj : (ns[j]?).isSome) (order : List Nat) (st : CState)
    (h : j ∈ order ∨ (st.action j).isSome) : ((order.foldl (compileNode ns) st).action j).isSome :=
  -- `Sched.countdown` with the compile order as schedule and "node `j` is compiled" as the thread's
  -- turn: `R k s` = `j` still occurs `k > 0` times in what is left of the order, or its action is set.
  -- Compiling `j` sets it, compiling another node keeps it; at the end `k = 0`.
  (Sched.countdown (compileNode ns) (fun l s => l.foldl (compileNode ns) s) (fun _ => rfl) (fun _ _ _ => rfl) j
    (fun k s => 0 < k ∨ (s.action j).isSome)
    (fun s _ _ => .inr (action_isSome_step ns s j j (.inl ⟨rfl, hj⟩)))
    (fun s i _ _ h => h.imp_right fun h => action_isSome_step ns s i j (.inr h)) order st
    (h.imp_left List.count_pos_iff.mpr)).resolve_left (Nat.lt_irrefl 0)

theorem own_name_of_owns {nLam : Nat} {ns : List NodeD} (hwf : ∀ d ∈ ns, d.lam < nLam)
    (order : List Nat) (i : Nat) (d : NodeD) (hd : ns[i]? = some d) (hi : i ∈ order) :
    runName (compileAll true nLam ns order) i = some d.name ∧
    runLam (compileAll true nLam ns order) i = some d.lam := by
  have inv : CompInv nLam ns (compileAll true nLam ns order) :=
    foldl_inv (CompInv nLam ns) _ order (fun _ h i _ => compInv_step h i) _
      (compInv_of_addInv (addInv_all hwf))
  have hs : ((compileAll true nLam ns order).action i).isSome :=
    action_isSome_foldl ns i (by rw [hd]; rfl) order _ (Or.inl hi)
  obtain ⟨a, ha⟩ := Option.isSome_iff_exists.mp hs
  obtain ⟨d', hd', _, _, hcell⟩ := inv.act i a ha
  rw [hd] at hd'
  cases hd'
  simp [runName, runLam, ha, hcell]

end EinoV.C10
