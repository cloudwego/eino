/-
  C18 — runs that share the caller's message slice (Model/C18Shared.lean).  A node execution only ever
  extends the history, and with the expected memory facts every run's slice points into an array no
  other run and not the caller points into; so stepping the shared-memory machine is stepping the
  machines without memory (`pstep`) independently, whatever the schedule (`Rel`, `rel_step`).  The
  round-robin tail gives each of them more steps than its limit, and run that long `pstep` is `run`
  (`runShared_isolated`).
-/
import EinoV.Model.C18Shared
import EinoV.Proofs.C18
import EinoV.Proofs.Sched
import EinoV.Proofs.ListFacts

namespace EinoV.C18

theorem arrAt_set_ne (h : Heap) (a b : Nat) (v : Arr) (hne : a ≠ b) :
    Heap.arrAt (h.set a v) b = Heap.arrAt h b := by
  simp [Heap.arrAt, hne]

theorem arrAt_set_eq (h : Heap) (a : Nat) (v : Arr) (ha : a < h.length) :
    Heap.arrAt (h.set a v) a = v := by
  simp [Heap.arrAt, ha]

theorem arrAt_append_lt (h : Heap) (v : Arr) (a : Nat) (ha : a < h.length) :
    Heap.arrAt (h ++ [v]) a = Heap.arrAt h a := by
  simp [Heap.arrAt, List.getElem?_append_left ha]

theorem arrAt_append_len (h : Heap) (v : Arr) : Heap.arrAt (h ++ [v]) h.length = v := by
  simp [Heap.arrAt]

def Valid (h : Heap) (s : Slice) : Prop := s.arr < h.length ∧ s.len ≤ (Heap.arrAt h s.arr).length

theorem goAppend_spec (slack : Nat → Nat) (h : Heap) (s : Slice) (xs : List Msg) (hv : Valid h s) :
    Heap.read (goAppend slack h s xs).1 (goAppend slack h s xs).2 = Heap.read h s ++ xs ∧
    Valid (goAppend slack h s xs).1 (goAppend slack h s xs).2 ∧
    h.length ≤ (goAppend slack h s xs).1.length ∧
    ((goAppend slack h s xs).2.arr = s.arr ∨ (goAppend slack h s xs).2.arr = h.length) ∧
    (∀ a, a ≠ s.arr → a < h.length →
      Heap.arrAt (goAppend slack h s xs).1 a = Heap.arrAt h a) := by
  obtain ⟨hlt, hlen⟩ := hv
  unfold goAppend
  by_cases hc : s.len + xs.length ≤ (Heap.arrAt h s.arr).length
  · simp only [hc, if_true]
    refine ⟨?_, ⟨by simpa using hlt, ?_⟩, by simp, by simp, ?_⟩
    · simp only [Heap.read, arrAt_set_eq h s.arr _ hlt]
      exact take_overwrite _ _ _ hlen
    · simp only [arrAt_set_eq h s.arr _ hlt]
      exact (length_overwrite _ _ hc).symm ▸ hc
    · intro a hne _
      exact arrAt_set_ne h s.arr a _ (fun e => hne e.symm)
  · simp only [hc, if_false]
    refine ⟨?_, ⟨by simp, ?_⟩, by simp, by simp, ?_⟩
    · simp only [Heap.read, arrAt_append_len]
      exact List.take_left' rfl
    · simp only [arrAt_append_len]
      simp
    · intro a _ ha
      exact arrAt_append_lt h _ a ha

theorem exists_append_ite {α : Type} (c : Bool) (a l : List α) :
    ∃ added, (if c then a ++ l else a) = a ++ added :=
  ⟨if c then l else [], by cases c <;> simp⟩

/-- the chat and the tools node append under their pre-handler fact; direct_return and every
    ill-typed execution leave the history alone -/
theorem execNode_msgs (F : Facts) (cfg : Config) (mode : Mode) (key : String) (input : Val) (st : St) :
    ∃ added, (execNode F cfg mode key input st).1.msgs = st.msgs ++ added := by
  fun_cases execNode F cfg mode key input st with
  | case1 | case2 | case4 | case5 => exact exists_append_ite _ _ _
  | _ => exact ⟨[], (List.append_nil _).symm⟩

theorem superstep_fst (F : Facts) (cfg : Config) (mode : Mode) (T : Topo) (key : String)
    (input : Val) (st : St) :
    (superstep F cfg mode T key input st).1 = (execNode F cfg mode key input st).1 := by
  unfold superstep
  split
  · next st1 e he => simp [he]
  · next st1 out he =>
    split
    · split <;> simp [he]
    · simp [he]

theorem superstep_msgs (F : Facts) (cfg : Config) (mode : Mode) (T : Topo) (key : String)
    (input : Val) (st : St) :
    ∃ added, (superstep F cfg mode T key input st).1.msgs = st.msgs ++ added := by
  rw [superstep_fst]; exact execNode_msgs F cfg mode key input st

def iter {α : Type} (f : α → α) : Nat → α → α
  | 0, a => a
  | n + 1, a => iter f n (f a)

structure PRun where
  st : St
  pc : Pc

/-- `hstep` with the history kept as a value -/
def pstep (F : Facts) (p : RunSpec) (r : PRun) : PRun :=
  match r.pc with
  | .done _ => r
  | .at 0 _ _ _ => { r with pc := .done (.error .maxSteps) }
  | .at (b + 1) key input _ =>
    let res := superstep F p.cfg p.mode (topoOf F p.cfg) key input r.st
    { st := res.1,
      pc := match res.2 with
        | .done out => .done out
        | .next k v => .at b k v false }

def PRun.out (r : PRun) : Option Run :=
  match r.pc with
  | .done res => some { seen := r.st.seen, evs := r.st.evs, result := res }
  | .at _ _ _ _ => none

theorem iter_done (F : Facts) (p : RunSpec) (st : St) (res : Except Err Msg) (k : Nat) :
    iter (pstep F p) k ⟨st, .done res⟩ = ⟨st, .done res⟩ := by
  induction k with
  | zero => rfl
  | succ k ih => simpa [iter, pstep] using ih

theorem iter_loop (F : Facts) (p : RunSpec) (b : Nat) :
    ∀ (key : String) (input : Val) (f : Bool) (st : St) (k : Nat), b + 1 ≤ k →
      iter (pstep F p) k ⟨st, .at b key input f⟩ =
        ⟨(loop F p.cfg p.mode (topoOf F p.cfg) b key input st).1,
         .done (loop F p.cfg p.mode (topoOf F p.cfg) b key input st).2⟩ := by
  intro key input f st k
  induction k generalizing b key input f st with
  | zero => intro hk; omega
  | succ k ih =>
    intro hk
    cases b with
    | zero => exact iter_done F p st _ k
    | succ b =>
      simp only [iter, pstep, loop]
      cases hs : superstep F p.cfg p.mode (topoOf F p.cfg) key input st with
      | mk st1 o =>
        cases o with
        | done r => exact iter_done F p st1 r k
        | next k2 v => exact ih b k2 v false st1 (by omega)

theorem iter_run (F : Facts) (p : RunSpec) (orig : List Msg) (k : Nat)
    (hk : (stepLimit F p.cfg).getD 0 + 1 ≤ k) :
    (iter (pstep F p) k ⟨initSt p.script, initPc F p.cfg orig⟩).out
      = some (run F p.cfg p.mode orig p.script) := by
  unfold initPc run
  cases hl : stepLimit F p.cfg with
  | none => simp only; rw [iter_done]; rfl
  | some limit =>
    simp only [hl, Option.getD_some] at hk ⊢
    rcases hn : nextNodes (topoOf F p.cfg) keyStart none with _ | ⟨n, _ | ⟨m, rest⟩⟩
    · simp only; rw [iter_done]; rfl
    · simp only; rw [iter_loop F p limit n _ true _ k hk]; rfl
    · simp only; rw [iter_done]; rfl

open EinoV.Expected.C18 (memFacts)

/-- run `hr` in memory `h` is the pure run `pr`; array 0 is the caller's, so `own` says the slice
    does not point into it -/
structure RunRel (orig : List Msg) (h : Heap) (hr : HRun) (pr : PRun) : Prop where
  st : hr.st = pr.st
  pc : hr.pc = pr.pc
  mem : Heap.read h hr.sl = pr.st.msgs
  valid : Valid h hr.sl
  own : 0 < hr.sl.arr
  first : ∀ b key input, pr.pc = .at b key input true → input = .msgs orig

theorem RunRel.frame {orig : List Msg} {h h' : Heap} {hr : HRun} {pr : PRun}
    (r : RunRel orig h hr pr) (ha : Heap.arrAt h' hr.sl.arr = Heap.arrAt h hr.sl.arr)
    (hl : h.length ≤ h'.length) : RunRel orig h' hr pr :=
  { st := r.st, pc := r.pc, own := r.own, first := r.first,
    mem := by simp only [Heap.read, ha]; exact r.mem,
    valid := ⟨Nat.lt_of_lt_of_le r.valid.1 hl, by rw [ha]; exact r.valid.2⟩ }

theorem hstep_sim (F : Facts) (slack : Nat → Nat) (p : RunSpec) (orig : List Msg) (caller : Slice)
    (h : Heap) (hr : HRun) (pr : PRun) (hc : Heap.read h caller = orig)
    (r : RunRel orig h hr pr) :
    RunRel orig (hstep F memFacts slack p caller h hr).1 (hstep F memFacts slack p caller h hr).2
      (pstep F p pr) ∧
    h.length ≤ (hstep F memFacts slack p caller h hr).1.length ∧
    ((hstep F memFacts slack p caller h hr).2.sl.arr = hr.sl.arr ∨
     (hstep F memFacts slack p caller h hr).2.sl.arr = h.length) ∧
    (∀ a, a ≠ hr.sl.arr → a < h.length →
      Heap.arrAt (hstep F memFacts slack p caller h hr).1 a = Heap.arrAt h a) := by
  obtain ⟨sl, st, pc⟩ := hr
  obtain ⟨st', pc'⟩ := pr
  obtain ⟨hst, hpc, hmem, hvalid, hown, hfirst⟩ := r
  simp only at hst hpc hmem hvalid hown hfirst
  subst hst; subst hpc
  cases pc with
  | done res =>
    simp only [hstep, pstep]
    exact ⟨⟨rfl, rfl, hmem, hvalid, hown, hfirst⟩, Nat.le_refl _, by simp, by simp⟩
  | «at» b key input first =>
    cases b with
    | zero =>
      simp only [hstep, pstep]
      refine ⟨⟨rfl, rfl, hmem, hvalid, hown, ?_⟩, Nat.le_refl _, by simp, by simp⟩
      intro b key input h; cases h
    | succ b =>
      have hin : (if first then Val.msgs (Heap.read h caller) else input) = input := by
        cases first with
        | false => rfl
        | true => simp only [if_true, hc]; exact (hfirst _ _ _ rfl).symm
      have hstE : ({ st with msgs := Heap.read h sl } : St) = st := by
        cases st; simp only at hmem; subst hmem; rfl
      obtain ⟨added, hadd⟩ := superstep_msgs F p.cfg p.mode (topoOf F p.cfg) key input st
      have hdrop : (superstep F p.cfg p.mode (topoOf F p.cfg) key input st).1.msgs.drop
          (Heap.read h sl).length = added := by
        rw [hadd, hmem]; exact List.drop_left' rfl
      have hcond : (first && !memFacts.historyOnlyAppended && sl.len == 0) = false := by
        simp [memFacts]
      simp only [hstep, pstep, hin, hstE, hdrop, hcond, Bool.false_eq_true, if_false]
      obtain ⟨g1, g2, g3, g4, g5⟩ := goAppend_spec slack h sl added hvalid
      refine ⟨⟨rfl, rfl, ?_, g2, ?_, ?_⟩, g3, g4, g5⟩
      · rw [g1, hmem, hadd]
      · rcases g4 with g | g <;> rw [g]
        · exact hown
        · exact Nat.lt_of_le_of_lt (Nat.zero_le _) hvalid.1
      · intro b' key' input' hEq
        simp only at hEq
        split at hEq <;> cases hEq

structure Rel (orig spare : List Msg) (s : Shared) (ps : List PRun) : Prop where
  caller : Heap.arrAt s.heap 0 = orig ++ spare
  len : s.runs.length = ps.length
  each : ∀ (i : Nat) (hr : HRun) (pr : PRun), s.runs[i]? = some hr → ps[i]? = some pr →
    RunRel orig s.heap hr pr
  distinct : ∀ (i j : Nat) (hi hj : HRun), i ≠ j → s.runs[i]? = some hi → s.runs[j]? = some hj →
    hi.sl.arr ≠ hj.sl.arr

def pstepAt (F : Facts) (specs : List RunSpec) (ps : List PRun) (i : Nat) : List PRun :=
  match ps[i]?, specs[i]? with
  | some r, some p => ps.set i (pstep F p r)
  | _, _ => ps

theorem pstepAt_length (F : Facts) (specs : List RunSpec) (ps : List PRun) (i : Nat) :
    (pstepAt F specs ps i).length = ps.length := by
  unfold pstepAt; split <;> simp

theorem rel_step (F : Facts) (slack : Nat → Nat) (specs : List RunSpec) (orig spare : List Msg)
    (s : Shared) (ps : List PRun) (i : Nat) (R : Rel orig spare s ps) :
    Rel orig spare (stepAt F memFacts slack specs ⟨0, orig.length⟩ s i) (pstepAt F specs ps i) := by
  have hcaller : Heap.read s.heap ⟨0, orig.length⟩ = orig := by
    simp only [Heap.read, R.caller]; exact List.take_left' rfl
  cases hri : s.runs[i]? with
  | none =>
    have hpi : ps[i]? = none := by
      rw [List.getElem?_eq_none_iff] at hri ⊢; rw [← R.len]; exact hri
    simp only [stepAt, pstepAt, hri, hpi]; exact R
  | some r =>
    cases hsi : specs[i]? with
    | none =>
      have : pstepAt F specs ps i = ps := by unfold pstepAt; split <;> simp_all
      simp only [stepAt, hri, hsi, this]; exact R
    | some p =>
      have hil : i < s.runs.length := (List.getElem?_eq_some_iff.mp hri).1
      have pure_of : ∀ {m : Nat} {hm : HRun}, s.runs[m]? = some hm → ∃ pm, ps[m]? = some pm :=
        fun h => ⟨_, List.getElem?_eq_getElem (R.len ▸ (List.getElem?_eq_some_iff.mp h).1)⟩
      obtain ⟨pr, hpi⟩ := pure_of hri
      have rr := R.each i r pr hri hpi
      obtain ⟨q1, q2, q3, q4⟩ := hstep_sim F slack p orig ⟨0, orig.length⟩ s.heap r pr hcaller rr
      simp only [stepAt, pstepAt, hri, hsi, hpi]
      have hpos : 0 < s.heap.length := Nat.lt_of_le_of_lt (Nat.zero_le _) rr.valid.1
      refine ⟨?_, by simp [R.len], ?_, ?_⟩
      · simp only; rw [q4 0 (Nat.ne_of_lt rr.own) hpos]; exact R.caller
      · intro j hj pj hhj hpj
        simp only at hhj ⊢
        by_cases hji : j = i
        · subst hji
          rw [List.getElem?_set_self hil] at hhj
          rw [List.getElem?_set_self (R.len ▸ hil)] at hpj
          cases hhj; cases hpj; exact q1
        · rw [List.getElem?_set_ne (fun e => hji e.symm)] at hhj hpj
          have rj := R.each j hj pj hhj hpj
          exact rj.frame (q4 _ (R.distinct j i hj r hji hhj hri) rj.valid.1) q2
      · intro j k hj hk hjk hhj hhk
        simp only at hhj hhk
        have other : ∀ (m : Nat) (hm : HRun), m ≠ i → s.runs[m]? = some hm →
            hm.sl.arr ≠ (hstep F memFacts slack p ⟨0, orig.length⟩ s.heap r).2.sl.arr := by
          intro m hm hmi hhm
          rcases q3 with g | g <;> rw [g]
          · exact R.distinct m i hm r hmi hhm hri
          · obtain ⟨pm, hpm⟩ := pure_of hhm
            exact Nat.ne_of_lt (R.each m hm pm hhm hpm).valid.1
        by_cases hji : j = i
        · subst hji
          rw [List.getElem?_set_self hil] at hhj
          rw [List.getElem?_set_ne hjk] at hhk
          cases hhj
          exact (other k hk (fun e => hjk e.symm) hhk).symm
        · rw [List.getElem?_set_ne (fun e => hji e.symm)] at hhj
          by_cases hki : k = i
          · subst hki
            rw [List.getElem?_set_self hil] at hhk
            cases hhk
            exact other j hj hji hhj
          · rw [List.getElem?_set_ne (fun e => hki e.symm)] at hhk
            exact R.distinct j k hj hk hjk hhj hhk

theorem rel_fold (F : Facts) (slack : Nat → Nat) (specs : List RunSpec) (orig spare : List Msg)
    (tokens : List Nat) :
    ∀ (s : Shared) (ps : List PRun), Rel orig spare s ps →
      Rel orig spare (tokens.foldl (stepAt F memFacts slack specs ⟨0, orig.length⟩) s)
        (tokens.foldl (pstepAt F specs) ps) := by
  induction tokens with
  | nil => intro s ps R; exact R
  | cons t ts ih =>
    intro s ps R
    exact ih _ _ (rel_step F slack specs orig spare s ps t R)

theorem pfold_length (F : Facts) (specs : List RunSpec) (tokens : List Nat) (ps : List PRun) :
    (tokens.foldl (pstepAt F specs) ps).length = ps.length :=
  foldl_preserves _ List.length tokens (fun ps t _ => pstepAt_length F specs ps t) ps

theorem pfold_get (F : Facts) (specs : List RunSpec) (tokens : List Nat) :
    ∀ (ps : List PRun) (i : Nat) (p : RunSpec), specs[i]? = some p → ps.length = specs.length →
      (tokens.foldl (pstepAt F specs) ps)[i]? = (ps[i]?).map (iter (pstep F p) (tokens.count i)) := by
  intro ps i p hp hlen
  have hil : ∀ st : List PRun, st.length = specs.length → i < st.length :=
    fun st h => h ▸ (List.getElem?_eq_some_iff.mp hp).1
  refine Sched.proj_exec (pstepAt F specs) (fun l s => l.foldl (pstepAt F specs) s) (fun _ => rfl)
    (fun _ _ _ => rfl) (fun st => st.length = specs.length)
    (fun st j h => (pstepAt_length F specs st j).trans h) i (·[i]?)
    (fun n => Option.map (iter (pstep F p) n)) (fun st _ => by cases st[i]? <;> rfl) ?_ ?_ tokens ps hlen
  · intro st n h
    simp only [pstepAt, List.getElem?_eq_getElem (hil st h), hp, List.getElem?_set_self (hil st h),
      Option.map_some, iter]
  · intro st j _ hji
    unfold pstepAt; split
    · exact List.getElem?_set_ne hji
    · rfl

theorem count_drain (i n k : Nat) (hi : i < n) : (drain n k).count i = k := by
  unfold drain
  induction k with
  | zero => simp
  | succ k ih =>
    rw [List.replicate_succ, List.flatten_cons, List.count_append, ih, List.count_range]
    simp [hi]; omega

theorem fuel_enough (F : Facts) (specs : List RunSpec) (i : Nat) (p : RunSpec)
    (hp : specs[i]? = some p) : (stepLimit F p.cfg).getD 0 + 1 ≤ fuel F specs := by
  have hm : (stepLimit F p.cfg).getD 0 ∈ specs.map (fun p => (stepLimit F p.cfg).getD 0) :=
    List.mem_map.mpr ⟨p, List.mem_of_getElem? hp, rfl⟩
  have := List.le_max?_getD_of_mem (k := 0) hm
  unfold fuel
  rw [List.foldl_max]
  omega

def initRun (F : Facts) (orig : List Msg) (a : Nat) (p : RunSpec) : HRun :=
  { sl := { arr := a, len := 0 }, st := initSt p.script, pc := initPc F p.cfg orig }

theorem initRuns_get (F : Facts) (orig : List Msg) (stride : Nat) (specs : List RunSpec) :
    ∀ (a i : Nat), (initRuns F orig stride a specs)[i]? =
      (specs[i]?).map (initRun F orig (a + stride * i)) := by
  induction specs with
  | nil => intro a i; simp [initRuns]
  | cons p ps ih =>
    intro a i
    cases i with
    | zero => simp [initRuns, initRun]
    | succ i =>
      simp only [initRuns, List.getElem?_cons_succ, ih]
      have : a + stride + stride * i = a + stride * (i + 1) := by
        rw [Nat.mul_succ]; omega
      rw [this]

theorem initRuns_length (F : Facts) (orig : List Msg) (stride : Nat) (specs : List RunSpec) :
    ∀ (a : Nat), (initRuns F orig stride a specs).length = specs.length := by
  induction specs with
  | nil => intro a; rfl
  | cons p ps ih => intro a; simp [initRuns, ih]

theorem initPc_first (F : Facts) (cfg : Config) (orig : List Msg) (b : Nat) (key : String)
    (input : Val) (h : initPc F cfg orig = .at b key input true) : input = .msgs orig := by
  unfold initPc at h
  split at h
  · cases h
  · split at h
    · cases h; rfl
    · cases h

def initPure (F : Facts) (orig : List Msg) (specs : List RunSpec) : List PRun :=
  specs.map (fun p => { st := initSt p.script, pc := initPc F p.cfg orig })

theorem rel_init (F : Facts) (orig spare : List Msg) (specs : List RunSpec) :
    Rel orig spare (initShared F memFacts orig spare specs) (initPure F orig specs) := by
  have hI : initShared F memFacts orig spare specs =
      { heap := (orig ++ spare) :: specs.map (fun p => List.replicate (stateCap p.cfg) nilMsg),
        runs := initRuns F orig 1 1 specs } := by
    simp [initShared, memFacts]
  rw [hI]
  refine ⟨by simp [Heap.arrAt], by simp [initRuns_length, initPure], ?_, ?_⟩
  · intro i hr pr hhr hpr
    simp only [initRuns_get, Option.map_eq_some_iff] at hhr
    obtain ⟨p, hs, rfl⟩ := hhr
    simp only [initPure, List.getElem?_map, hs, Option.map_some, Option.some.injEq] at hpr
    subst hpr
    have hil : i < specs.length := (List.getElem?_eq_some_iff.mp hs).1
    refine ⟨rfl, rfl, ?_, ⟨?_, ?_⟩, ?_, ?_⟩
    · simp [Heap.read, initSt, initRun]
    · simp [initRun]; omega
    · simp [initRun]
    · simp only [initRun]; omega
    · intro b key input h
      exact initPc_first F p.cfg orig b key input h
  · intro i j hi hj hij hhi hhj
    simp only [initRuns_get, Option.map_eq_some_iff] at hhi hhj
    obtain ⟨pi, _, rfl⟩ := hhi
    obtain ⟨pj, _, rfl⟩ := hhj
    simp only [initRun]
    omega

theorem runShared_isolated (F : Facts) (slack : Nat → Nat) (orig spare : List Msg)
    (specs : List RunSpec) (sched : List Nat) :
    (runShared F memFacts slack orig spare specs sched).out =
      { runs := specs.map (fun p => some (run F p.cfg p.mode orig p.script)),
        callerArr := orig ++ spare } := by
  have R := rel_fold F slack specs orig spare (sched ++ drain specs.length (fuel F specs)) _ _
    (rel_init F orig spare specs)
  have hlen : (runShared F memFacts slack orig spare specs sched).runs.length = specs.length := by
    unfold runShared
    rw [R.len, pfold_length]
    simp [initPure]
  have hruns : (runShared F memFacts slack orig spare specs sched).runs.map HRun.out =
      specs.map (fun p => some (run F p.cfg p.mode orig p.script)) := by
    apply List.ext_getElem (by simp [hlen])
    intro i h1 _
    have hil : i < specs.length := by simpa [hlen] using h1
    have hs : specs[i]? = some specs[i] := List.getElem?_eq_getElem hil
    have hpure := pfold_get F specs (sched ++ drain specs.length (fuel F specs))
      (initPure F orig specs) i _ hs (by simp [initPure])
    simp only [initPure, List.getElem?_map, hs, Option.map_some] at hpure
    have rr := R.each i _ _ (List.getElem?_eq_getElem (hlen.symm ▸ hil :)) hpure
    have hout := iter_run F specs[i] orig ((sched ++ drain specs.length (fuel F specs)).count i) (by
      have := fuel_enough F specs i _ hs
      rw [List.count_append, count_drain i _ _ hil]
      omega)
    simp only [List.getElem_map, ← hout]
    unfold HRun.out PRun.out
    rw [rr.st, rr.pc]
    rfl
  unfold Shared.out
  rw [hruns]
  have := R.caller
  unfold runShared
  rw [this]

end EinoV.C18
