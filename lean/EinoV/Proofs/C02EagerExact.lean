/-
  C02, Workflows: exact inputs in the eager loop (`ereach_exact`): the history invariant `K` kept for
  exactly the processed completions, the stored-values invariant `RV`, one completion per round.
-/
import EinoV.Proofs.C02EagerComplete
import EinoV.Proofs.C02Exact

namespace EinoV.Engine
namespace DagRun

structure EXInv {V} (ops : ValOps V) (r : Runner V) (x : V) (cm : Chans V) (running : List (Key × V))
    (bs : List (List (Key × V))) (comp : List Key) : Prop where
  c : ECInv ops r x cm running bs comp
  kc : K r (histC r x bs comp) cm
  rv : ∀ p o n, (p, o) ∈ histC r x bs comp → RoutesD r p o n → RV (fun n => (keysOfTr bs).count n) cm n p

theorem EXInv_init {V} (ops : ValOps V) (r : Runner V) (wf : DagWF r) (wf2 : DagWF2 r) (x : V)
    (cm : Chans V) (ts : List (Key × V))
    (hc : calcNext ops r (initChans r) [(START, x)] = .ok (cm, .tasks ts)) :
    EXInv ops r x cm ts [ts] [] ∧ ∀ n v, (n, v) ∈ ts → ExactIn ops r [(START, x)] n v := by
  -- the first round is the batch loop's first round
  have hx := XInv_start ops r wf wf2 x cm ts hc
  have hH := histC_nil r x [ts]
  exact ⟨⟨ECInv_init ops r wf wf2 x cm ts hc, by rw [hH]; exact hx.c.k.k, by rw [hH]; exact hx.rv⟩, hx.ex.1⟩

theorem EXInv_step {V} (ops : ValOps V) (r : Runner V) (wf : DagWF r) (wf2 : DagWF2 r) (pick : Pick V) (x : V)
    (cm cm' : Chans V) (running ts : List (Key × V)) (bs : List (List (Key × V))) (comp : List Key)
    (t : Key × V) (d : Done V)
    (h : EXInv ops r x cm running bs comp)
    (hp : running[pick running % running.length]? = some t)
    (hce : collectOne (execOne r t) = .ok d)
    (hc : calcNext ops r cm [d] = .ok (cm', .tasks ts)) :
    EXInv ops r x cm' (running.eraseIdx (pick running % running.length) ++ ts) (bs ++ [ts]) (comp ++ [t.1]) ∧
    ∀ n v, (n, v) ∈ ts → ExactIn ops r (histC r x (bs ++ [ts]) (comp ++ [t.1])) n v := by
  obtain ⟨rank, hrank⟩ := wf.acyclic
  have hci := ECInv_step ops r wf wf2 pick x cm cm' running ts bs comp t d h.c hp hce hc
  have hcnt := einv_bound r wf cm' _ (bs ++ [ts]) (comp ++ [t.1]) hci.e
  obtain ⟨hcall, hdone, hH⟩ := h.c.processed (List.mem_of_getElem? hp) hce hcnt
  have hKm : K r (histC r x (bs ++ [ts]) (comp ++ [t.1])) cm :=
    K_mono h.kc (histC_subset r x (fun u hu => by simp [hu]) (fun k hk => List.mem_append_left _ hk))
  obtain ⟨j1, _, _⟩ := calcNext_K ops r wf.dag wf.succ wf.startKey rank hrank cm cm' [d] _ hKm h.c.e.sh hdone hc
  have hF0 : ∀ t', t' ∈ ts → (fun n => (keysOfTr bs).count n) t'.1 = 0 := fun _ => task_fresh_append hcnt
  obtain ⟨x1, x2⟩ := round_exact (F := fun n => (keysOfTr bs).count n) ops r wf.dag wf.succ wf2.pc wf2.pd
    wf.startFresh wf.startKey cm cm' [d] ts (histC r x (bs ++ [ts]) (comp ++ [t.1])) (fun p o => (p, o) ∈ histC r x bs comp)
    hKm h.c.e.sh hdone (fun p o => hH (p, o)) (histC_functional r wf x hci.e _) h.c.rq h.rv hcall hF0 hc
  have eF : (fun n => (keysOfTr bs).count n + (akeys ts).count n) = (fun n => (keysOfTr (bs ++ [ts])).count n) := by
    funext n; rw [keysOfTr_append_single, List.count_append]
  rw [eF] at x2
  exact ⟨⟨hci, j1, x2⟩, x1⟩

theorem ereach_EXInv {V} (ops : ValOps V) (r : Runner V) (wf : DagWF r) (wf2 : DagWF2 r) (pick : Pick V) (x : V)
    (cm : Chans V) (running : List (Key × V)) (bs : List (List (Key × V))) (comp : List Key)
    (h : EReach ops r pick x cm running bs comp) : EXInv ops r x cm running bs comp := by
  induction h with
  | init cm ts hc => exact (EXInv_init ops r wf wf2 x cm ts hc).1
  | step cm cm' running ts bs comp t d _ hp hce hn ih =>
    exact (EXInv_step ops r wf wf2 pick x cm cm' running ts bs comp t d ih hp hce hn).1

theorem ereach_exact {V} (ops : ValOps V) (r : Runner V) (wf : DagWF r) (wf2 : DagWF2 r) (pick : Pick V) (x : V)
    (cm cm' : Chans V) (running ts : List (Key × V)) (bs : List (List (Key × V))) (comp : List Key)
    (t : Key × V) (d : Done V)
    (h : EReach ops r pick x cm running bs comp)
    (hp : running[pick running % running.length]? = some t)
    (hce : collectOne (execOne r t) = .ok d)
    (hc : calcNext ops r cm [d] = .ok (cm', .tasks ts)) :
    ∀ n v, (n, v) ∈ ts → ExactIn ops r (histC r x (bs ++ [ts]) (comp ++ [t.1])) n v :=
  (EXInv_step ops r wf wf2 pick x cm cm' running ts bs comp t d
    (ereach_EXInv ops r wf wf2 pick x cm running bs comp h) hp hce hc).2

theorem start_exact {V} (ops : ValOps V) (r : Runner V) (wf : DagWF r) (wf2 : DagWF2 r) (x : V)
    (cm : Chans V) (ts : List (Key × V))
    (hc : calcNext ops r (initChans r) [(START, x)] = .ok (cm, .tasks ts)) :
    ∀ n v, (n, v) ∈ ts → ExactIn ops r [(START, x)] n v :=
  (EXInv_init ops r wf wf2 x cm ts hc).2

end DagRun
end EinoV.Engine
