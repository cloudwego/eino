/-
  C04 — a concrete instance of the graph-level agreement theorem (non-vacuity):
  `V = Nat`, chunk concatenation = sum, value fan-in = sum; three components with different
  native subsets and chunkers; a graph with fan-out, fan-in, a branch and a cycle (`natG`),
  and a graph using it as a node (`natG1`).  Data and the routine checks of the side
  conditions; the statements that use them are in EinoV/Props/C04.lean.
-/
import EinoV.Model.C04Graph
import EinoV.Proofs.C04Graph

namespace EinoV.C04
open EinoV.Engine

def natCo : ChunkOps Nat := { concatItems := fun l => .ok l.sum, emptyErr := { cls := .noTasks } }
def natOps : ValOps Nat := { merge := fun l => some l.sum, zero := 0 }

theorem natHct : ∀ l : List Nat, l ≠ [] → ∃ v, concat natCo l = .ok v := by
  intro l hl
  match l, hl with
  | [v], _ => exact ⟨v, rfl⟩
  | a :: b :: t, _ => exact ⟨(a :: b :: t).sum, rfl⟩

theorem natConcatD (l : List Nat) : concatD natCo 0 l = l.sum := by
  match l with
  | [] => rfl
  | [v] => simp [concatD, concat]
  | a :: b :: t => rfl

theorem sum_map_sum (ls : List (List Nat)) : (ls.map List.sum).sum = ls.flatten.sum := by
  induction ls with
  | nil => rfl
  | cons a t ih => simp [List.sum_append, ih]

def split1 (v : Nat) : List Nat := if 2 ≤ v then [1, v - 1] else [v]
def lead0 (v : Nat) : List Nat := [0, v]

def compA : Comp Nat := { f := fun v => .ok (v + 1), chunk := split1, hasI := false, hasS := true }
def compB : Comp Nat := { f := fun v => .ok (2 * v), chunk := lead0, hasI := false, hasT := true }
def compC : Comp Nat :=
  { f := fun v => if 100 < v then .error { cls := .user 7 } else .ok (v + 10), chunk := split1,
    hasI := false, hasS := true, hasC := true }

theorem split1_ok (v : Nat) : concat natCo (split1 v) = .ok v ∧ split1 v ≠ [] := by
  unfold split1
  split
  · refine ⟨?_, by simp⟩
    simp only [concat, natCo, List.sum_cons, List.sum_nil, Except.ok.injEq]
    omega
  · exact ⟨rfl, by simp⟩

theorem compA_valid : compA.Valid natCo := ⟨fun v => (split1_ok v).1, fun v => (split1_ok v).2, rfl⟩
theorem compB_valid : compB.Valid natCo := ⟨fun v => by simp [compB, lead0, concat, natCo], fun v => by simp [compB, lead0], rfl⟩
theorem compC_valid : compC.Valid natCo := ⟨fun v => (split1_ok v).1, fun v => (split1_ok v).2, rfl⟩

def natG : Graph Nat 0 :=
  { start := { key := START, kind := .pass, writeTo := ["a", "b"] },
    nodes := [
      { key := "a", kind := .comp compA, writeTo := ["c"] },
      { key := "b", kind := .comp compB, writeTo := ["c"] },
      { key := "c", kind := .comp compC,
        branches := [{ ends := ["p", "a"], cond := fun v => .ok (if v < 40 then ["a"] else ["p"]) }] },
      { key := "p", kind := .pass, writeTo := [END] }],
    dataPreds := [("a", [START, "c"]), ("b", [START]), ("c", ["a", "b"]), ("p", ["c"]), (END, ["p"])],
    ctrlPreds := [("a", [START, "c"]), ("b", [START]), ("c", ["a", "b"]), ("p", ["c"]), (END, ["p"])],
    maxSteps := 20 }

theorem natG_ok : Graph.OK natCo 0 natG := by
  intro n hn
  simp only [natG, List.mem_cons, List.not_mem_nil, or_false] at hn
  rcases hn with rfl | rfl | rfl | rfl | rfl
  · trivial
  · exact compA_valid
  · exact compB_valid
  · exact compC_valid
  · trivial

def natG1 : Graph Nat 1 :=
  { start := { key := START, kind := .pass, writeTo := ["g", "q"] },
    nodes := [
      { key := "g", kind := .graph natG, writeTo := [END] },
      { key := "q", kind := .comp compA, writeTo := [END] }],
    dataPreds := [("g", [START]), ("q", [START]), (END, ["g", "q"])],
    ctrlPreds := [("g", [START]), ("q", [START]), (END, ["g", "q"])],
    maxSteps := 5 }

theorem natG1_ok : Graph.OK natCo 1 natG1 := by
  intro n hn
  simp only [natG1, List.mem_cons, List.not_mem_nil, or_false] at hn
  rcases hn with rfl | rfl | rfl
  · trivial
  · exact natG_ok
  · exact compA_valid

/-- all-predecessor mode: "a" has a control predecessor (START) and no data predecessor, so
    its channel is ready without a value and hands out the zero value / the zero stream -/
def natDag : Graph Nat 0 :=
  { start := { key := START, kind := .pass, controls := ["a"] },
    nodes := [{ key := "a", kind := .comp compA, writeTo := [END], controls := [END] }],
    dataPreds := [(END, ["a"])],
    ctrlPreds := [("a", [START]), (END, ["a"])],
    maxSteps := 5, dag := true }

theorem natDag_ok : Graph.OK natCo 0 natDag := by
  intro n hn
  simp only [natDag, List.mem_cons, List.not_mem_nil, or_false] at hn
  rcases hn with rfl | rfl
  · trivial
  · exact compA_valid

end EinoV.C04
