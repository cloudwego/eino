/-
  C14 — the lemmas behind Props/C14.lean.  In file order (first declaration of each stretch in brackets):
  `EqvE` (equal, or both errors) as a congruence for `>>=`, `map`, `mapM` [`EqvE.rfl'`].
  Re-chunking laws, bottom up: scalar fields of a message [`joinS_append`]; tool calls, whose fold state keeps
  `SInv`, so that folding a prefix's output again rebuilds the state [`GSorted`]; maps, key by key
  [`keysOf_eq_eraseDups`].  Under `Cfg.Std` and `nilAbsent` maps reach no panic site, and fuel above the nesting
  depth is enough [`asSc_fail`].
  Re-chunking of whole messages and of stream chunks [`assemble`].
  What a successful `concatTC` returns: `TCSpec` (arguments only), then the whole fold state as a function of
  the chunks seen, `TCFull` [`TCSpec`].  Error classes and totality [`pick_err`]; every field of a successful
  message [`concatMsgs_ok_fields`]; two fuels above the depth agree [`perKeyW_congr`].
  `[]*Message` chunks [`concatCol_of_ne`]; chunks of type `any` [`filter_nonNil_ne_nil`]; a nested map value
  delivered in two consecutive chunks [`keysOf_dup`].
-/
import EinoV.Spec.C14
import EinoV.Proofs.Monadic
import EinoV.Proofs.ListFacts
set_option linter.unusedVariables false
namespace EinoV.C14

theorem EqvE.rfl' {α} (a : Except Err α) : EqvE a a := by
  cases a <;> simp [EqvE]

theorem EqvE.of_eq {α} {a b : Except Err α} (h : a = b) : EqvE a b := h ▸ EqvE.rfl' a

theorem EqvE.error_left {α} {e : Err} {b : Except Err α} (h : EqvE (.error e) b) : ∃ e', b = .error e' := by
  cases b with
  | error e' => exact ⟨e', rfl⟩
  | ok v => exact h.elim

theorem EqvE.bind {α β} {a a' : Except Err α} {k k' : α → Except Err β} (h : EqvE a a')
    (hk : ∀ x, EqvE (k x) (k' x)) : EqvE (a >>= k) (a' >>= k') := by
  cases a with
  | error _ => cases a' with
    | error _ => exact trivial
    | ok _ => exact h.elim
  | ok x => cases a' with
    | error _ => exact h.elim
    | ok y => have e : x = y := h; subst e; exact hk x

/-- how every law `EqvE (f xs >>= fun r => f (r :: ys)) (f (xs ++ ys))` below is proved: an error of the first
    stage must remain an error, a value must lead to the same outcome -/
theorem EqvE.bind_left {α β} {a : Except Err α} {k : α → Except Err β} {b : Except Err β}
    (herr : ∀ e, a = .error e → ∃ e', b = .error e') (hok : ∀ x, a = .ok x → EqvE (k x) b) :
    EqvE (a >>= k) b := by
  cases a with
  | error e => obtain ⟨e', rfl⟩ := herr e rfl; exact trivial
  | ok x => exact hok x rfl

theorem EqvE.of_bind_ok {α β} {a : Except Err α} {k : α → Except Err β} {b : Except Err β} {x : α}
    (h : EqvE (a >>= k) b) (ha : a = .ok x) : EqvE (k x) b := by
  subst ha; exact h

theorem EqvE.of_bind_error {α β} {a : Except Err α} {k : α → Except Err β} {b : Except Err β} {e : Err}
    (h : EqvE (a >>= k) b) (ha : a = .error e) : ∃ e', b = .error e' := by
  subst ha; exact h.error_left

theorem EqvE.map {α β} {a b : Except Err α} (g : α → β) (h : EqvE a b) : EqvE (a.map g) (b.map g) := by
  cases a <;> cases b
  · exact trivial
  · exact h.elim
  · exact h.elim
  · exact congrArg g h

theorem EqvE.map_bind {α β} {a b : Except Err α} {k : α → Except Err α} (g : α → β) (k' : β → Except Err β)
    (hk : ∀ x, k' (g x) = (k x).map g) (h : EqvE (a >>= k) b) : EqvE (a.map g >>= k') (b.map g) := by
  cases a with
  | error e => obtain ⟨e', rfl⟩ := h.error_left; exact trivial
  | ok x =>
    show EqvE (k' (g x)) _
    rw [hk]
    exact EqvE.map g h

theorem mapM_error_mem {α β} (f : α → Except Err β) (l : List α) (e : Err) (h : l.mapM f = .error e) :
    ∃ x ∈ l, f x = .error e :=
  EinoV.mapM_error_mem f l e h

theorem mapM_congr_eqv {α β} (f g : α → Except Err β) (l : List α) (h : ∀ x ∈ l, EqvE (f x) (g x)) :
    EqvE (l.mapM f) (l.mapM g) := by
  induction l with
  | nil => exact EqvE.rfl' _
  | cons a l ih =>
    rw [List.mapM_cons, List.mapM_cons]
    exact (h a List.mem_cons_self).bind fun _ =>
      (ih fun x hx => h x (List.mem_cons_of_mem _ hx)).bind fun _ => EqvE.rfl' _

theorem joinS_append (xs ys : List String) : joinS (xs ++ ys) = joinS xs ++ joinS ys := by
  induction xs with
  | nil => simp [joinS, String.empty_append]
  | cons x xs ih => simp [joinS, ih, String.append_assoc]

theorem joinS_rechunk (xs ys : List String) : joinS (joinS xs :: ys) = joinS (xs ++ ys) := by
  simp [joinS, joinS_append]

theorem pick_empty_left (c : Bool) (x : String) : pick c "" x = .ok x := by
  unfold pick; split <;> simp_all

theorem firstNE_append (c : Bool) (acc : String) (xs ys : List String) :
    firstNE c acc (xs ++ ys) = (firstNE c acc xs >>= fun r => firstNE c r ys) := by
  induction xs generalizing acc with
  | nil => simp [firstNE]; rfl
  | cons x xs ih =>
    simp only [List.cons_append, firstNE]
    cases pick c acc x with
    | error e => rfl
    | ok a => simpa [bind, Except.bind] using ih a

theorem firstNE_cons_empty (c : Bool) (r : String) (ys : List String) :
    firstNE c "" (r :: ys) = firstNE c r ys := by
  simp [firstNE, pick_empty_left, bind, Except.bind]

theorem firstNE_rechunk (c : Bool) (xs ys : List String) :
    (firstNE c "" xs >>= fun r => firstNE c "" (r :: ys)) = firstNE c "" (xs ++ ys) := by
  rw [firstNE_append]; simp only [firstNE_cons_empty]

theorem lastNEl_append (acc : List Nat) (xs ys : List (List Nat)) :
    lastNEl acc (xs ++ ys) = lastNEl (lastNEl acc xs) ys := by
  induction xs generalizing acc with
  | nil => rfl
  | cons x xs ih => simp [lastNEl, ih]

theorem lastNEl_rechunk (xs ys : List (List Nat)) :
    lastNEl [] (lastNEl [] xs :: ys) = lastNEl [] (xs ++ ys) := by
  rw [lastNEl_append]; simp only [lastNEl]; split <;> simp_all

/-- The usage counters of an accumulated `ResponseMeta` are non-negative: they start at 0 and `stepMeta` only takes
    maxima.  This is what lets a prefix's result be fed back as a first chunk (`stepMeta_none_id`): `imax u 0 = u`
    needs `0 ≤ u`, and a chunk itself may carry negative counters. -/
def NormMeta (om : Option Meta) : Prop :=
  ∀ m, om = some m → ∀ u, m.usage = some u → 0 ≤ u.prompt ∧ 0 ≤ u.completion ∧ 0 ≤ u.total

theorem imax_nonneg (a b : Int) (h : 0 ≤ b) : 0 ≤ imax a b := by
  unfold imax; split <;> omega

theorem imax_zero (a : Int) (h : 0 ≤ a) : imax a 0 = a := by
  unfold imax; split <;> omega

theorem stepMeta_norm (acc m : Option Meta) (h : NormMeta acc) : NormMeta (stepMeta acc m) := by
  cases m with
  | none => simpa [stepMeta] using h
  | some x =>
    intro r hr u hu
    simp only [stepMeta, Option.some.injEq] at hr
    subst hr
    simp only at hu
    cases hx : x.usage with
    | none =>
      simp only [hx] at hu
      cases acc with
      | none => simp at hu
      | some a => exact h a rfl u hu
    | some xu =>
      simp only [hx, Option.some.injEq] at hu
      subst hu
      cases acc with
      | none => simp [imax_nonneg]
      | some a =>
        cases ha : a.usage with
        | none => simp [imax_nonneg]
        | some au =>
          have := h a rfl au ha
          simp [imax_nonneg, this]

theorem stepMeta_none_id (r : Option Meta) (h : NormMeta r) : stepMeta none r = r := by
  cases r with
  | none => rfl
  | some x =>
    obtain ⟨f, u, l⟩ := x
    simp only [stepMeta, Option.some.injEq]
    congr 1
    · split <;> simp_all
    · cases u with
      | none => rfl
      | some uu =>
        have := h _ rfl uu rfl
        obtain ⟨p, c, t⟩ := uu
        simp at this
        simp [imax_zero, this]
    · cases l <;> simp

theorem concatMeta_norm (ms : List (Option Meta)) : NormMeta (concatMeta ms) :=
  foldl_inv NormMeta stepMeta ms (fun a ha m _ => stepMeta_norm a m ha) none (fun _ hm => nomatch hm)

theorem concatMeta_rechunk (xs ys : List (Option Meta)) :
    concatMeta (concatMeta xs :: ys) = concatMeta (xs ++ ys) := by
  have h := stepMeta_none_id _ (concatMeta_norm xs)
  unfold concatMeta at *
  rw [List.foldl_cons, List.foldl_append, h]

/-- Group keys strictly ascending, in the recursive form that `insertG` walks (`gsorted_iff`: it is `Pairwise`). -/
def GSorted : List (Int × TC) → Prop
  | [] => True
  | (j, _) :: r => (∀ p ∈ r, j < p.1) ∧ GSorted r

/-- … and every group's call carries its key as `index`, so a group fed back as a chunk goes to its own key. -/
def GInv (gs : List (Int × TC)) : Prop := GSorted gs ∧ ∀ p ∈ gs, p.2.index = some p.1

/-- Invariant of the `stepTC` fold; it makes `TCState.out` foldable again (`refold_out`): the calls of `nils` have
    no index and return to `nils`; the groups return in ascending key order, each one appended at the end
    (`insertG_gt`). -/
def SInv (s : TCState) : Prop := (∀ c ∈ s.nils, c.index = none) ∧ GInv s.groups

theorem mergeTC_ok {cfg : Cfg} {g c g' : TC} (h : mergeTC cfg g c = .ok g') :
    ∃ id ty nm, g' = { g with id := id, type := ty, name := nm, args := g.args ++ c.args } := by
  obtain ⟨id, _, h⟩ := bind_eq_ok.mp h
  obtain ⟨ty, _, h⟩ := bind_eq_ok.mp h
  obtain ⟨nm, _, h⟩ := bind_eq_ok.mp h
  cases h; exact ⟨id, ty, nm, rfl⟩

theorem gsorted_iff (gs : List (Int × TC)) : GSorted gs ↔ gs.Pairwise (fun p q => p.1 < q.1) := by
  induction gs with
  | nil => simp [GSorted]
  | cons hd tl ih => obtain ⟨j, g⟩ := hd; simp only [GSorted, List.pairwise_cons, ih]

theorem gsorted_pairwise (gs : List (Int × TC)) (h : GSorted gs) : gs.Pairwise (fun p q => p.1 < q.1) :=
  (gsorted_iff gs).mp h

theorem key_inj (gs : List (Int × TC)) (h : gs.Pairwise (fun p q => p.1 < q.1)) :
    ∀ p ∈ gs, ∀ q ∈ gs, p.1 = q.1 → p = q := by
  induction gs with
  | nil => intro p hp; cases hp
  | cons g rest ih =>
    rw [List.pairwise_cons] at h
    intro p hp q hq hk
    simp only [List.mem_cons] at hp hq
    rcases hp with rfl | hp <;> rcases hq with rfl | hq
    · rfl
    · have := h.1 q hq; omega
    · have := h.1 p hp; omega
    · exact ih h.2 p hp q hq hk

theorem gsorted_key_unique {gs : List (Int × TC)} (hs : GSorted gs) {k : Int} {g g' : TC}
    (h1 : (k, g) ∈ gs) (h2 : (k, g') ∈ gs) : g = g' :=
  (Prod.mk.inj (key_inj gs (gsorted_pairwise gs hs) _ h1 _ h2 rfl)).2

theorem lt_of_head {i : Int} {post : List (Int × TC)} (hs : post.Pairwise (fun p q => p.1 < q.1))
    (hh : ∀ p, post.head? = some p → i < p.1) : ∀ p ∈ post, i < p.1 := by
  cases post with
  | nil => exact fun _ h => nomatch h
  | cons q t =>
    intro p hp
    rcases List.mem_cons.mp hp with rfl | hp
    · exact hh p rfl
    · exact Int.lt_trans (hh q rfl) ((List.pairwise_cons.mp hs).1 p hp)

theorem insertG_cons (cfg : Cfg) (i j : Int) (c g : TC) (rest : List (Int × TC)) :
    insertG cfg i c ((j, g) :: rest) =
      if i < j then .ok ((i, c) :: (j, g) :: rest)
      else if i = j then (mergeTC cfg g c).map fun g' => (j, g') :: rest
      else (insertG cfg i c rest).map ((j, g) :: ·) := by
  rw [insertG]
  split
  · rfl
  · split
    · cases mergeTC cfg g c <;> rfl
    · cases insertG cfg i c rest <;> rfl

/-- The only induction over `insertG`. -/
theorem insertG_split (cfg : Cfg) (i : Int) (c : TC) (gs : List (Int × TC)) :
    ∃ pre post, gs = pre ++ post ∧ (∀ p ∈ pre, p.1 < i) ∧
      ((∃ g rest, post = (i, g) :: rest ∧
          insertG cfg i c gs = (mergeTC cfg g c).map fun g' => pre ++ (i, g') :: rest) ∨
       ((∀ p, post.head? = some p → i < p.1) ∧ insertG cfg i c gs = .ok (pre ++ (i, c) :: post))) := by
  induction gs with
  | nil => exact ⟨[], [], rfl, (fun _ h => nomatch h), .inr ⟨(fun _ h => nomatch h), rfl⟩⟩
  | cons hd rest ih =>
    obtain ⟨j, g⟩ := hd
    rw [insertG_cons]
    by_cases h1 : i < j
    · exact ⟨[], (j, g) :: rest, rfl, (fun _ h => nomatch h),
        .inr ⟨fun p hp => by cases hp; exact h1, if_pos h1⟩⟩
    rw [if_neg h1]
    by_cases h2 : i = j
    · subst h2
      exact ⟨[], (i, g) :: rest, rfl, (fun _ h => nomatch h), .inl ⟨g, rest, rfl, if_pos rfl⟩⟩
    rw [if_neg h2]
    -- `j < i`: the head joins `pre`
    obtain ⟨pre, post, rfl, hpre, h⟩ := ih
    refine ⟨(j, g) :: pre, post, rfl, List.forall_mem_cons.mpr ⟨by show j < i; omega, hpre⟩, ?_⟩
    rcases h with ⟨g0, r0, rfl, he⟩ | ⟨hh, he⟩
    · refine .inl ⟨g0, r0, rfl, ?_⟩
      rw [he]; cases mergeTC cfg g0 c <;> rfl
    · exact .inr ⟨hh, by rw [he]; rfl⟩

theorem insertG_ok {cfg : Cfg} {i : Int} {c : TC} {gs gs' : List (Int × TC)} (h : insertG cfg i c gs = .ok gs') :
    ∃ pre post, (∀ p ∈ pre, p.1 < i) ∧
      ((∃ g g', mergeTC cfg g c = .ok g' ∧ gs = pre ++ (i, g) :: post ∧ gs' = pre ++ (i, g') :: post) ∨
       ((∀ p, post.head? = some p → i < p.1) ∧ gs = pre ++ post ∧ gs' = pre ++ (i, c) :: post)) := by
  obtain ⟨pre, post, rfl, hpre, ⟨g, rest, rfl, he⟩ | ⟨hh, he⟩⟩ := insertG_split cfg i c gs
  · obtain ⟨g', hm, rfl⟩ := map_eq_ok.mp (he ▸ h)
    exact ⟨pre, rest, hpre, .inl ⟨g, g', hm, rfl, rfl⟩⟩
  · rw [he] at h; cases h; exact ⟨pre, post, hpre, .inr ⟨hh, rfl, rfl⟩⟩

theorem insertG_error_spec (cfg : Cfg) (i : Int) (c : TC) (gs : List (Int × TC)) (e : Err)
    (h : insertG cfg i c gs = .error e) : ∃ g, (i, g) ∈ gs ∧ mergeTC cfg g c = .error e := by
  obtain ⟨pre, post, rfl, _, ⟨g, rest, rfl, he⟩ | ⟨_, he⟩⟩ := insertG_split cfg i c gs
  · exact ⟨g, by simp, map_eq_error.mp (he ▸ h)⟩
  · rw [he] at h; cases h

theorem insertG_gt (cfg : Cfg) (i : Int) (c : TC) (gs : List (Int × TC)) (h : ∀ p ∈ gs, p.1 < i) :
    insertG cfg i c gs = .ok (gs ++ [(i, c)]) := by
  obtain ⟨pre, post, rfl, _, ⟨g, rest, rfl, _⟩ | ⟨hh, he⟩⟩ := insertG_split cfg i c gs
  · exact absurd (h (i, g) (by simp)) (Int.lt_irrefl i)
  · cases post with
    | nil => simpa using he
    | cons q t => exact absurd (Int.lt_trans (hh q rfl) (h q (by simp))) (Int.lt_irrefl i)

theorem insertG_keys_iff {cfg : Cfg} {i : Int} {c : TC} {gs gs' : List (Int × TC)}
    (h : insertG cfg i c gs = .ok gs') (k : Int) : (∃ p ∈ gs', p.1 = k) ↔ k = i ∨ ∃ q ∈ gs, q.1 = k := by
  obtain ⟨pre, post, _, ⟨g, g', _, rfl, rfl⟩ | ⟨_, rfl, rfl⟩⟩ := insertG_ok h
  · -- the keys are the same, and `i` is among them
    have same : (∃ p ∈ pre ++ (i, g') :: post, p.1 = k) ↔ ∃ q ∈ pre ++ (i, g) :: post, q.1 = k := by
      simp only [List.mem_append, List.mem_cons, or_and_right, exists_or, exists_eq_left]
    rw [same, or_iff_right_of_imp]
    rintro rfl
    exact ⟨(k, g), by simp, rfl⟩
  · simp only [List.mem_append, List.mem_cons, or_and_right, exists_or, exists_eq_left, eq_comm (a := k)]
    exact or_left_comm

theorem insertG_inv (cfg : Cfg) (i : Int) (c : TC) (hc : c.index = some i) (gs gs' : List (Int × TC))
    (hi : GInv gs) (h : insertG cfg i c gs = .ok gs') : GInv gs' := by
  obtain ⟨hs, hidx⟩ := hi
  unfold GInv
  rw [gsorted_iff] at hs ⊢
  obtain ⟨pre, post, hpre, ⟨g, g', hm, rfl, rfl⟩ | ⟨hh, rfl, rfl⟩⟩ := insertG_ok h
  · -- the merged call has the index of the group's call, and sits under the same key
    obtain ⟨_, _, _, rfl⟩ := mergeTC_ok hm
    simp only [List.pairwise_append, List.pairwise_cons, List.mem_append, List.mem_cons, forall_eq,
      or_imp, forall_and] at hs hidx ⊢
    exact ⟨hs, hidx⟩
  · have hpost := lt_of_head (List.pairwise_append.mp hs).2.1 hh
    simp only [List.pairwise_append, List.pairwise_cons, List.mem_append, List.mem_cons, forall_eq,
      or_imp, forall_and] at hs hidx ⊢
    exact ⟨⟨hs.1, ⟨hpost, hs.2.1⟩, hpre, hs.2.2⟩, hidx.1, hc, hidx.2⟩

theorem insertG_spec (cfg : Cfg) (i : Int) (c : TC) (gs gs' : List (Int × TC)) (hs : GSorted gs)
    (h : insertG cfg i c gs = .ok gs') :
    ∀ j g', (j, g') ∈ gs' →
      (j ≠ i ∧ (j, g') ∈ gs) ∨
      (j = i ∧ ((g' = c ∧ ∀ p ∈ gs, p.1 ≠ i) ∨ ∃ g, (i, g) ∈ gs ∧ mergeTC cfg g c = .ok g')) := by
  rw [gsorted_iff] at hs
  intro j g' hm
  obtain ⟨pre, post, hpre, hcase⟩ := insertG_ok h
  -- in both outcomes `post` lies above `i`, and an entry of `pre` or `post` is an old entry with another key
  have hpost : ∀ p ∈ post, i < p.1 := by
    rcases hcase with ⟨g, _, _, rfl, _⟩ | ⟨hh, rfl, _⟩
    · exact (List.pairwise_cons.mp (List.pairwise_append.mp hs).2.1).1
    · exact lt_of_head (List.pairwise_append.mp hs).2.1 hh
  have lo : (j, g') ∈ pre → j ≠ i := fun hm => Int.ne_of_lt (hpre _ hm)
  have hi : (j, g') ∈ post → j ≠ i := fun hm => Int.ne_of_gt (hpost _ hm)
  rcases hcase with ⟨g, g1, hmg, rfl, rfl⟩ | ⟨_, rfl, rfl⟩
  · rcases List.mem_append.mp hm with hm | hm
    · exact .inl ⟨lo hm, by simp [hm]⟩
    · rcases List.mem_cons.mp hm with hm | hm
      · cases hm; exact .inr ⟨rfl, .inr ⟨g, by simp, hmg⟩⟩
      · exact .inl ⟨hi hm, by simp [hm]⟩
  · rcases List.mem_append.mp hm with hm | hm
    · exact .inl ⟨lo hm, by simp [hm]⟩
    · rcases List.mem_cons.mp hm with hm | hm
      · cases hm
        refine .inr ⟨rfl, .inl ⟨rfl, fun p hp => ?_⟩⟩
        rcases List.mem_append.mp hp with hp | hp
        · exact Int.ne_of_lt (hpre p hp)
        · exact Int.ne_of_gt (hpost p hp)
      · exact .inl ⟨hi hm, by simp [hm]⟩

theorem stepTC_ok {cfg : Cfg} {s s' : TCState} {c : TC} (h : stepTC cfg s c = .ok s') :
    (c.index = none ∧ s' = { s with nils := s.nils ++ [c] }) ∨
    ∃ i g, c.index = some i ∧ insertG cfg i c s.groups = .ok g ∧ s' = { s with groups := g } := by
  unfold stepTC at h
  split at h
  · cases h; exact .inl ⟨‹_›, rfl⟩
  · obtain ⟨g, hg, h⟩ := bind_eq_ok.mp h
    cases h; exact .inr ⟨_, g, ‹_›, hg, rfl⟩

theorem stepTC_error {cfg : Cfg} {s : TCState} {c : TC} {e : Err} (h : stepTC cfg s c = .error e) :
    ∃ i, c.index = some i ∧ insertG cfg i c s.groups = .error e := by
  unfold stepTC at h
  split at h
  · cases h
  · rcases bind_eq_error.mp h with h | ⟨_, _, h⟩
    · exact ⟨_, ‹_›, h⟩
    · cases h

theorem stepTC_inv (cfg : Cfg) (s s' : TCState) (c : TC) (hi : SInv s) (h : stepTC cfg s c = .ok s') :
    SInv s' := by
  rcases stepTC_ok h with ⟨hn, rfl⟩ | ⟨i, g, hsome, hr, rfl⟩
  · refine ⟨?_, hi.2⟩
    intro x hx
    simp only [List.mem_append, List.mem_singleton] at hx
    rcases hx with hx | rfl
    · exact hi.1 x hx
    · exact hn
  · exact ⟨hi.1, insertG_inv cfg i c hsome _ _ hi.2 hr⟩

theorem foldlM_stepTC_inv (cfg : Cfg) (cs : List TC) (s s' : TCState) (hi : SInv s)
    (h : cs.foldlM (stepTC cfg) s = .ok s') : SInv s' :=
  foldlM_inv _ SInv (fun s c s' => stepTC_inv cfg s s' c) cs s s' hi h

theorem refold_nils (cfg : Cfg) (ns : List TC) (hn : ∀ c ∈ ns, c.index = none) (n0 : List TC) (g0 : List (Int × TC)) :
    ns.foldlM (stepTC cfg) ⟨n0, g0⟩ = .ok ⟨n0 ++ ns, g0⟩ := by
  induction ns generalizing n0 with
  | nil => simp [List.foldlM, pure, Except.pure]
  | cons c ns ih =>
    have hc : c.index = none := hn c (by simp)
    simp only [List.foldlM_cons, stepTC, hc, bind, Except.bind]
    rw [ih (fun x hx => hn x (by simp [hx]))]
    simp

theorem refold_groups (cfg : Cfg) (hs : List (Int × TC)) (n : List TC) (g0 : List (Int × TC))
    (hi : GInv (g0 ++ hs)) :
    (hs.map (·.2)).foldlM (stepTC cfg) ⟨n, g0⟩ = .ok ⟨n, g0 ++ hs⟩ := by
  induction hs generalizing g0 with
  | nil => simp [pure, Except.pure]
  | cons hd rest ih =>
    obtain ⟨i, t⟩ := hd
    have hidx : t.index = some i := hi.2 (i, t) (by simp)
    have hlt : ∀ p ∈ g0, p.1 < i := fun p hp =>
      (List.pairwise_append.mp (gsorted_pairwise _ hi.1)).2.2 p hp (i, t) List.mem_cons_self
    simp only [List.map_cons, List.foldlM_cons, stepTC, hidx, bind, Except.bind, insertG_gt cfg i t g0 hlt,
      pure, Except.pure]
    have := ih (g0 ++ [(i, t)]) (by simpa using hi)
    simpa using this

theorem refold_out (cfg : Cfg) (s : TCState) (hi : SInv s) :
    s.out.foldlM (stepTC cfg) ⟨[], []⟩ = .ok s := by
  unfold TCState.out
  rw [List.foldlM_append, refold_nils cfg s.nils hi.1]
  simp only [bind, Except.bind, List.nil_append]
  have := refold_groups cfg s.groups s.nils [] (by simpa using hi.2)
  simpa using this

theorem sinv_init : SInv ⟨[], []⟩ := ⟨by simp, by simp [GSorted], by simp⟩

theorem concatTC_rechunk (cfg : Cfg) (xs ys : List TC) :
    (concatTC cfg xs >>= fun r => concatTC cfg (r ++ ys)) = concatTC cfg (xs ++ ys) := by
  unfold concatTC
  rw [List.foldlM_append]
  cases hx : xs.foldlM (stepTC cfg) ⟨[], []⟩ with
  | error e => rfl
  | ok s =>
    have hi := foldlM_stepTC_inv cfg xs _ _ sinv_init hx
    simp only [bind, Except.bind, pure, Except.pure]
    rw [List.foldlM_append, refold_out cfg s hi]
    rfl

theorem keysOf_eq_eraseDups (l : List String) : keysOf l = l.eraseDups := by
  induction l with
  | nil => rfl
  | cons x xs ih =>
    rw [keysOf, ih, filter_eraseDups, List.eraseDups_cons]
    rfl

theorem mem_keysOf (l : List String) (k : String) : k ∈ keysOf l ↔ k ∈ l := by
  rw [keysOf_eq_eraseDups, List.mem_eraseDups]

theorem keysOf_nodup (l : List String) : (keysOf l).Nodup :=
  keysOf_eq_eraseDups l ▸ nodup_eraseDups l

theorem keysOf_of_nodup (l : List String) (h : l.Nodup) : keysOf l = l :=
  (keysOf_eq_eraseDups l).trans (eraseDups_of_nodup l h)

theorem keysOf_append (a b : List String) :
    keysOf (a ++ b) = keysOf a ++ (keysOf b).filter (fun k => !a.contains k) := by
  simp only [keysOf_eq_eraseDups, List.eraseDups_append, filter_eraseDups]
  rfl

theorem keysOf_keysOf_append (a b : List String) : keysOf (keysOf a ++ b) = keysOf (a ++ b) := by
  rw [keysOf_append, keysOf_append, keysOf_of_nodup _ (keysOf_nodup a)]
  congr 1
  apply List.filter_congr
  intro k _
  congr 1
  rw [Bool.eq_iff_iff]
  simp [mem_keysOf]

theorem vals_append (a b : KVs) (k : String) : vals (a ++ b) k = vals a k ++ vals b k := by
  simp [vals]

theorem vals_cons_ne (k k' : String) (v : XVal) (B : KVs) (h : k ≠ k') : vals ((k, v) :: B) k' = vals B k' := by
  simp [vals, h]

theorem vals_cons_eq (k : String) (v : XVal) (B : KVs) : vals ((k, v) :: B) k = v :: vals B k := by
  simp [vals]

theorem mem_vals {evs : KVs} {k : String} {v : XVal} : v ∈ vals evs k ↔ (k, v) ∈ evs := by
  simp only [vals, List.mem_map, List.mem_filter, beq_iff_eq]
  constructor
  · rintro ⟨⟨_, _⟩, ⟨hp, rfl⟩, rfl⟩; exact hp
  · exact fun h => ⟨(k, v), ⟨h, rfl⟩, rfl⟩

theorem vals_of_not_mem (r : KVs) (k : String) (h : k ∉ r.map (·.1)) : vals r k = [] :=
  List.eq_nil_iff_forall_not_mem.mpr fun v hv => h (List.mem_map.mpr ⟨(k, v), mem_vals.mp hv, rfl⟩)

theorem vals_ne_nil (r : KVs) (k : String) (h : k ∈ r.map (·.1)) : vals r k ≠ [] := by
  obtain ⟨⟨_, v⟩, hp, rfl⟩ := List.mem_map.mp h
  exact List.ne_nil_of_mem (mem_vals.mpr hp)

theorem vals_of_nodup (r : KVs) (h : (r.map (·.1)).Nodup) (k : String) (v : XVal) (hm : (k, v) ∈ r) :
    vals r k = [v] := by
  induction r with
  | nil => cases hm
  | cons hd tl ih =>
    obtain ⟨k', v'⟩ := hd
    rw [List.map_cons, List.nodup_cons] at h
    rcases List.mem_cons.mp hm with e | hm
    · cases e; rw [vals_cons_eq, vals_of_not_mem tl k h.1]
    · have hne : k' ≠ k := fun e => h.1 (e ▸ List.mem_map.mpr ⟨(k, v), hm, rfl⟩)
      rw [vals_cons_ne _ _ _ _ hne, ih h.2 hm]

/-- The map with the keys `ks`, in that order, and the value `f k` under `k`; the first failing key fails the whole.
    Under `Cfg.Std` one level of `concatEvs` is this with `f` = `perKey` on the key's values (`concatEvs_succ`), so
    the laws about maps are proved for `buildM` with any `f` (`build_rechunk`). -/
def buildM (f : String → Except Err XVal) (ks : List String) : Except Err KVs :=
  ks.mapM (fun k => do let v ← f k; pure (k, v))

theorem buildM_nil (f : String → Except Err XVal) : buildM f [] = .ok [] := rfl

theorem buildM_cons (f : String → Except Err XVal) (k : String) (ks : List String) :
    buildM f (k :: ks) = (do let v ← f k; let r ← buildM f ks; pure ((k, v) :: r)) := by
  simp [buildM, List.mapM_cons]

theorem buildM_ok (f : String → Except Err XVal) (ks : List String) (r : KVs) (h : buildM f ks = .ok r) :
    r.map (·.1) = ks ∧ ∀ p ∈ r, f p.1 = .ok p.2 := by
  have el : ∀ k p, (f k >>= fun v => pure (k, v)) = .ok p → p.1 = k ∧ f p.1 = .ok p.2 := fun k p hp => by
    obtain ⟨v, hv, hp⟩ := bind_eq_ok.mp hp
    cases hp; exact ⟨rfl, hv⟩
  refine ⟨(mapM_ok_map id (·.1) (fun k p hp => (el k p hp).1) ks r h).trans (List.map_id ks), fun p hp => ?_⟩
  obtain ⟨k, _, hk⟩ := mapM_mem_ok _ ks r h p hp
  exact (el k p hk).2

theorem buildM_error (f : String → Except Err XVal) (ks : List String) (e : Err) (h : buildM f ks = .error e) :
    ∃ k ∈ ks, f k = .error e := by
  obtain ⟨k, hk, he⟩ := mapM_error_mem _ ks e h
  rcases bind_eq_error.mp he with h1 | ⟨_, _, h2⟩
  · exact ⟨k, hk, h1⟩
  · cases h2

theorem buildM_error_of (f : String → Except Err XVal) (ks : List String) (k : String) (hk : k ∈ ks) (e : Err)
    (h : f k = .error e) : ∃ e', buildM f ks = .error e' :=
  mapM_error_of_mem _ ks k hk e (by rw [h]; rfl)

theorem buildM_congr (f f' : String → Except Err XVal) (ks : List String)
    (h : ∀ k ∈ ks, EqvE (f k) (f' k)) : EqvE (buildM f ks) (buildM f' ks) :=
  mapM_congr_eqv _ _ ks fun k hk => (h k hk).bind fun _ => EqvE.rfl' _

theorem combineSc_sc (r : Rule) (ty : String) (l : List String) (x : XVal) (h : combineSc r ty l = .ok x) :
    ∃ u, x = .sc ty u := by
  unfold combineSc at h
  cases r <;> simp only at h
  · cases h; exact ⟨_, rfl⟩
  · split at h <;> cases h; exact ⟨_, rfl⟩
  · split at h <;> cases h <;> exact ⟨_, rfl⟩

theorem combineSc_rechunk (r : Rule) (ty : String) (l qs : List String) (u : String) (hl : l ≠ [])
    (h : combineSc r ty l = .ok (.sc ty u)) : combineSc r ty (u :: qs) = combineSc r ty (l ++ qs) := by
  unfold combineSc at h ⊢
  cases r <;> simp only at h ⊢
  · simp only [Except.ok.injEq, XVal.sc.injEq, true_and] at h
    subst h; rw [joinS_rechunk]
  · split at h <;> simp only [Except.ok.injEq, XVal.sc.injEq, true_and, reduceCtorEq] at h
    subst h
    rename_i v hv
    cases qs with
    | nil => simp [hv]
    | cons q qs' =>
      rw [List.getLast?_cons_cons, List.getLast?_append]
      cases hg : (q :: qs').getLast? with
      | none => simp at hg
      | some z => simp
  · split at h <;> simp only [Except.ok.injEq, XVal.sc.injEq, true_and, reduceCtorEq] at h
    · rename_i hf; subst h
      simp [List.filter_append, hf]
    · rename_i v hf; subst h
      have hv : (v != "") = true := by
        have : v ∈ l.filter (fun v => v != "") := by rw [hf]; simp
        exact (List.mem_filter.1 this).2
      simp [List.filter_append, hf, hv]

theorem combineSc_mono (r : Rule) (ty : String) (l qs : List String) (e : Err) (hl : l ≠ [])
    (h : combineSc r ty l = .error e) : ∃ e', combineSc r ty (l ++ qs) = .error e' := by
  unfold combineSc at h ⊢
  cases r <;> simp only at h ⊢
  · cases h
  · split at h
    · rename_i hn
      simp [List.getLast?_eq_none_iff] at hn
      exact absurd hn hl
    · cases h
  · split at h
    · cases h
    · cases h
    · rename_i a b t hf
      simp [List.filter_append, hf]

theorem perKeyW_nonnil (cfg : Cfg) (rec : String → List KVs → Except Err KVs) (ws : List XVal) (hws : ws ≠ [])
    (r : XVal) (h : perKeyW cfg rec ws = .ok r) : r.isNil = false := by
  cases ws with
  | nil => exact absurd rfl hws
  | cons w rest =>
    cases w with
    | nil => cases h
    | sc ty v =>
      obtain ⟨ps, _, h⟩ := bind_eq_ok.mp h
      obtain ⟨u, rfl⟩ := combineSc_sc _ _ _ _ h
      rfl
    | map et kvs =>
      obtain ⟨ms, _, h⟩ := bind_eq_ok.mp h
      obtain ⟨r', _, h⟩ := bind_eq_ok.mp h
      cases h; rfl

/-- Each branch of `perKeyW` decodes the later values against the first one (`cast`), combines the payloads
    (`core`) and returns a value of the first one's shape (`inj`): the law of such an `F` is that of `core`. -/
theorem castCore_rechunk {β} (F : List XVal → Except Err XVal) (cast : XVal → Except Err β) (inj : β → XVal)
    (core : List β → Except Err XVal)
    (hF : ∀ v rest, F (inj v :: rest) = rest.mapM cast >>= fun ps => core (v :: ps))
    (hok : ∀ l r, l ≠ [] → core l = .ok r → ∃ u, r = inj u ∧ ∀ l', EqvE (core (u :: l')) (core (l ++ l')))
    (herr : ∀ l l' e, l ≠ [] → core l = .error e → ∃ e', core (l ++ l') = .error e')
    (v : β) (rest wb : List XVal) :
    EqvE (F (inj v :: rest) >>= fun r => F (r :: wb)) (F (inj v :: (rest ++ wb))) := by
  rw [hF, hF]
  simp only [List.mapM_append, bind_assoc, pure_bind]
  cases rest.mapM cast with
  | error e => exact trivial
  | ok ps =>
    show EqvE (core (v :: ps) >>= fun r => F (r :: wb)) (wb.mapM cast >>= fun qs => core (v :: ps ++ qs))
    refine EqvE.bind_left (fun e he => ?_) (fun r hr => ?_)
    · cases wb.mapM cast with
      | error e' => exact ⟨e', rfl⟩
      | ok qs => exact herr (v :: ps) qs e (List.cons_ne_nil _ _) he
    · obtain ⟨u, rfl, hu⟩ := hok (v :: ps) r (List.cons_ne_nil _ _) hr
      rw [hF]
      exact (EqvE.rfl' _).bind hu

theorem perKeyW_rechunk (cfg : Cfg) (rec : String → List KVs → Except Err KVs)
    (hrec : ∀ et ms ms', ms ≠ [] → EqvE (rec et ms >>= fun r => rec et (r :: ms')) (rec et (ms ++ ms')))
    (wa wb : List XVal) (hwa : wa ≠ []) :
    EqvE (perKeyW cfg rec wa >>= fun r => perKeyW cfg rec (r :: wb)) (perKeyW cfg rec (wa ++ wb)) := by
  cases wa with
  | nil => exact absurd rfl hwa
  | cons w rest =>
    cases w with
    | nil => exact trivial
    | sc ty v =>
      refine castCore_rechunk (perKeyW cfg rec) (asSc ty) (.sc ty) (combineSc (cfg.rule ty) ty) (fun _ _ => rfl)
        (fun l r hl h => ?_) (fun l l' e hl h => combineSc_mono _ _ l l' e hl h) v rest wb
      obtain ⟨u, rfl⟩ := combineSc_sc _ _ _ _ h
      exact ⟨u, rfl, fun l' => .of_eq (combineSc_rechunk _ _ l l' u hl h)⟩
    | map et kvs =>
      refine castCore_rechunk (perKeyW cfg rec) (asMap et) (.map et) (fun ms => rec et ms >>= fun r => pure (.map et r))
        (fun _ _ => rfl) (fun l r hl h => ?_) (fun l l' e hl h => ?_) kvs rest wb
      · obtain ⟨r, hr, h⟩ := bind_eq_ok.mp h
        cases h
        exact ⟨r, rfl, fun l' => ((hrec et l l' hl).of_bind_ok hr).bind fun _ => .rfl' _⟩
      · rcases bind_eq_error.mp h with h | ⟨_, _, h⟩
        · obtain ⟨e', he⟩ := (hrec et l l' hl).of_bind_error h
          exact ⟨e', by rw [he]; rfl⟩
        · cases h

theorem dropNil_append (cfg : Cfg) (a b : List XVal) : dropNil cfg (a ++ b) = dropNil cfg a ++ dropNil cfg b := by
  unfold dropNil; split <;> simp

theorem dropNil_cons_nonnil (cfg : Cfg) (r : XVal) (b : List XVal) (h : r.isNil = false) :
    dropNil cfg (r :: b) = r :: dropNil cfg b := by
  unfold dropNil; split <;> simp [h]

theorem dropNil_cons_nil (cfg : Cfg) (b : List XVal) (h : cfg.nilAbsent = true) :
    dropNil cfg (.nil :: b) = dropNil cfg b := by
  unfold dropNil; simp [h, XVal.isNil]

theorem mem_dropNil {cfg : Cfg} {vs : List XVal} {x : XVal} :
    x ∈ dropNil cfg vs ↔ x ∈ vs ∧ (cfg.nilAbsent = true → x.isNil = false) := by
  unfold dropNil; split <;> simp [*]

theorem perKey_rechunk (cfg : Cfg) (rec : String → List KVs → Except Err KVs)
    (hrec : ∀ et ms ms', ms ≠ [] → EqvE (rec et ms >>= fun r => rec et (r :: ms')) (rec et (ms ++ ms')))
    (va vb : List XVal) (hva : va ≠ []) :
    EqvE (perKey cfg rec va >>= fun r => perKey cfg rec (r :: vb)) (perKey cfg rec (va ++ vb)) := by
  unfold perKey
  rw [dropNil_append]
  by_cases hw : dropNil cfg va = []
  · have hg : cfg.nilAbsent = true := by
      cases hb : cfg.nilAbsent with
      | true => rfl
      | false => simp [dropNil, hb] at hw; exact absurd hw hva
    simp only [hw, perKeyW, bind, Except.bind, List.nil_append, dropNil_cons_nil cfg vb hg]
    exact EqvE.rfl' _
  · have key := perKeyW_rechunk cfg rec hrec (dropNil cfg va) (dropNil cfg vb) hw
    refine EqvE.bind_left (fun e hx => key.of_bind_error hx) (fun r hx => ?_)
    rw [dropNil_cons_nonnil cfg r vb (perKeyW_nonnil cfg rec _ hw r hx)]
    exact key.of_bind_ok hx


theorem build_rechunk (h : List XVal → Except Err XVal)
    (PK : ∀ va vb, va ≠ [] → EqvE (h va >>= fun r => h (r :: vb)) (h (va ++ vb))) (A B : KVs) :
    EqvE (buildM (fun k => h (vals A k)) (keysOf (A.map (·.1))) >>= fun r =>
            buildM (fun k => h (vals (r ++ B) k)) (keysOf ((r ++ B).map (·.1))))
         (buildM (fun k => h (vals (A ++ B) k)) (keysOf ((A ++ B).map (·.1)))) := by
  refine EqvE.bind_left (fun e hA => ?_) (fun r hA => ?_)
  · obtain ⟨k, hk, he⟩ := buildM_error _ _ _ hA
    have hkA : k ∈ A.map (·.1) := (mem_keysOf _ _).1 hk
    obtain ⟨e'', he''⟩ := (PK (vals A k) (vals B k) (vals_ne_nil A k hkA)).of_bind_error he
    have hk' : k ∈ keysOf ((A ++ B).map (·.1)) := by
      rw [mem_keysOf]; simp only [List.map_append, List.mem_append]; exact Or.inl hkA
    exact buildM_error_of (fun k => h (vals (A ++ B) k)) _ k hk' e'' (by simpa [vals_append] using he'')
  · obtain ⟨hkeys, hvals⟩ := buildM_ok _ _ _ hA
    have hnd : (r.map (·.1)).Nodup := by rw [hkeys]; exact keysOf_nodup _
    have hK : keysOf ((r ++ B).map (·.1)) = keysOf ((A ++ B).map (·.1)) := by
      simp only [List.map_append, hkeys, keysOf_keysOf_append]
    rw [hK]
    apply buildM_congr
    intro k _
    simp only [vals_append]
    by_cases hkA : k ∈ A.map (·.1)
    · have hkr : k ∈ r.map (·.1) := by rw [hkeys, mem_keysOf]; exact hkA
      simp only [List.mem_map] at hkr
      obtain ⟨p, hp, hpk⟩ := hkr
      obtain ⟨k', v⟩ := p
      simp only at hpk; subst hpk
      rw [vals_of_nodup r hnd _ v hp]
      exact (PK (vals A k') (vals B k') (vals_ne_nil A k' hkA)).of_bind_ok (hvals _ hp)
    · have hkr : k ∉ r.map (·.1) := by rw [hkeys, mem_keysOf]; exact hkA
      rw [vals_of_not_mem r k hkr, vals_of_not_mem A k hkA]
      exact EqvE.rfl' _

theorem guardPanics_std (cfg : Cfg) (hs : cfg.Std) (et : String) : guardPanics cfg et = false := by
  simp [guardPanics, hs.1]

/-- with both `concatMaps` facts at their standard value the typed-map model is the plain
    per-key construction (no `IsNil` panic, every map type recurses) -/
theorem concatEvs_succ (cfg : Cfg) (hs : cfg.Std) (n : Nat) (et : String) (evs : KVs) :
    concatEvs cfg (n + 1) et evs =
      buildM (fun k => perKey cfg (fun et' ms => concatEvs cfg n et' ms.flatten) (vals evs k)) (keysOf (evs.map (·.1))) := by
  simp only [concatEvs, guardPanics_std cfg hs, Bool.false_and, perKeyF, hs.2, if_true, buildM]
  rfl

theorem concatEvs_rechunk (cfg : Cfg) (hs : cfg.Std) (n : Nat) : ∀ (et : String) (A B : KVs),
    EqvE (concatEvs cfg n et A >>= fun r => concatEvs cfg n et (r ++ B)) (concatEvs cfg n et (A ++ B)) := by
  induction n with
  | zero => intro et A B; simp [concatEvs, bind, Except.bind, EqvE]
  | succ n ih =>
    intro et A B
    simp only [concatEvs_succ cfg hs]
    apply build_rechunk (perKey cfg (fun et' ms => concatEvs cfg n et' ms.flatten))
    intro va vb hva
    apply perKey_rechunk _ _ _ va vb hva
    intro et' ms ms' _
    simpa using ih et' ms.flatten ms'.flatten

theorem concatMaps_rechunk (cfg : Cfg) (hs : cfg.Std) (n : Nat) (et : String) (xs ys : List KVs) :
    EqvE (concatMaps cfg n et xs >>= fun r => concatMaps cfg n et (r :: ys)) (concatMaps cfg n et (xs ++ ys)) := by
  simpa [concatMaps] using concatEvs_rechunk cfg hs n et xs.flatten ys.flatten

theorem asSc_fail (ty : String) (x : XVal) (e : Err) (h : asSc ty x = .error e) : e = .fail := by
  unfold asSc at h; split at h
  · split at h <;> cases h; rfl
  · cases h; rfl

theorem asMap_fail (et : String) (x : XVal) (e : Err) (h : asMap et x = .error e) : e = .fail := by
  unfold asMap at h; split at h
  · split at h <;> cases h; rfl
  · cases h; rfl

theorem asMap_ok (et : String) (x : XVal) (m : KVs) (h : asMap et x = .ok m) : x = .map et m := by
  unfold asMap at h; split at h
  · split at h
    · rename_i he; cases h; rw [he]
    · cases h
  · cases h

theorem mapM_asMap_mem {et : String} {rest : List XVal} {ms : List KVs} (h : rest.mapM (asMap et) = .ok ms) (kvs : KVs) :
    ∀ m ∈ kvs :: ms, XVal.map et m ∈ XVal.map et kvs :: rest := by
  intro m hm
  rcases List.mem_cons.mp hm with rfl | hm
  · exact List.mem_cons_self
  · obtain ⟨x, hx, hfx⟩ := mapM_mem_ok _ _ _ h m hm
    exact List.mem_cons_of_mem _ (asMap_ok _ _ _ hfx ▸ hx)

theorem combineSc_err (r : Rule) (ty : String) (v : String) (ps : List String) (e : Err)
    (h : combineSc r ty (v :: ps) = .error e) : e = .fail := by
  unfold combineSc at h
  cases r <;> simp only at h
  · cases h
  · split at h
    · rename_i hn; simp [List.getLast?_eq_none_iff] at hn
    · cases h
  · split at h <;> cases h; rfl

theorem perKey_err (cfg : Cfg) (rec : String → List KVs → Except Err KVs) (vs : List XVal) (e : Err)
    (h : perKey cfg rec vs = .error e) :
    e = .fail ∨ (e = .panic ∧ cfg.nilAbsent = false) ∨
      ∃ et ms, ms ≠ [] ∧ (∀ m ∈ ms, .map et m ∈ vs) ∧ rec et ms = .error e := by
  unfold perKey at h
  have hsub : ∀ x ∈ dropNil cfg vs, x ∈ vs ∧ (cfg.nilAbsent = true → x.isNil = false) := fun x hx => mem_dropNil.1 hx
  cases hd : dropNil cfg vs with
  | nil => rw [hd] at h; cases h
  | cons w rest =>
    rw [hd] at h hsub
    cases w with
    | nil =>
      cases h
      refine .inr (.inl ⟨rfl, ?_⟩)
      cases hg : cfg.nilAbsent with
      | false => rfl
      | true => exact absurd ((hsub .nil List.mem_cons_self).2 hg) (by decide)
    | sc ty v =>
      rcases bind_eq_error.mp h with h | ⟨ps, _, h⟩
      · obtain ⟨x, _, hx⟩ := mapM_error_mem _ _ _ h
        exact .inl (asSc_fail _ _ _ hx)
      · exact .inl (combineSc_err _ _ _ _ _ h)
    | map et kvs =>
      rcases bind_eq_error.mp h with h | ⟨ms, hp, h⟩
      · obtain ⟨x, _, hx⟩ := mapM_error_mem _ _ _ h
        exact .inl (asMap_fail _ _ _ hx)
      · rcases bind_eq_error.mp h with h | ⟨_, _, h⟩
        · exact .inr (.inr ⟨et, kvs :: ms, List.cons_ne_nil _ _, fun m hm => (hsub _ (mapM_asMap_mem hp kvs m hm)).1, h⟩)
        · cases h

theorem concatEvs_no_panic (cfg : Cfg) (hs : cfg.Std) (hg : cfg.nilAbsent = true) (n : Nat) :
    ∀ (et : String) (evs : KVs), concatEvs cfg n et evs ≠ .error .panic := by
  induction n with
  | zero => intro et evs; simp [concatEvs]
  | succ n ih =>
    intro et evs h
    rw [concatEvs_succ cfg hs] at h
    obtain ⟨k, _, he⟩ := buildM_error _ _ _ h
    rcases perKey_err _ _ _ _ he with h1 | ⟨_, h2⟩ | ⟨et', ms, _, _, h3⟩
    · cases h1
    · rw [hg] at h2; cases h2
    · exact ih _ _ h3

theorem depth_map (et : String) (m : KVs) : (XVal.map et m).depth = 1 + depthKVs m := by
  simp [XVal.depth, depthKVs]

theorem depthKVs_cons (k : String) (v : XVal) (r : KVs) : depthKVs ((k, v) :: r) = max v.depth (depthKVs r) := by
  simp [depthKVs, XVal.depth.go]

theorem depth_mem (evs : KVs) (k : String) (v : XVal) (h : (k, v) ∈ evs) : v.depth ≤ depthKVs evs := by
  induction evs with
  | nil => cases h
  | cons hd tl ih =>
    obtain ⟨k', v'⟩ := hd
    rw [depthKVs_cons]
    simp only [List.mem_cons, Prod.mk.injEq] at h
    rcases h with ⟨_, rfl⟩ | h
    · omega
    · have := ih h; omega

theorem depthKVs_append (a b : KVs) : depthKVs (a ++ b) = max (depthKVs a) (depthKVs b) := by
  induction a with
  | nil => simp [depthKVs, XVal.depth.go]
  | cons hd tl ih =>
    obtain ⟨k, v⟩ := hd
    simp only [List.cons_append, depthKVs_cons, ih, Nat.max_assoc]

theorem depthKVs_flatten (ms : List KVs) (d : Nat) (h : ∀ m ∈ ms, depthKVs m ≤ d) : depthKVs ms.flatten ≤ d := by
  induction ms with
  | nil => simp [depthKVs, XVal.depth.go]
  | cons m ms ih =>
    simp only [List.flatten_cons, depthKVs_append]
    have h1 := h m (by simp)
    have h2 := ih (fun m' hm' => h m' (by simp [hm']))
    omega

theorem depth_nested (evs : KVs) (k et : String) (ms : List KVs) (hne : ms ≠ [])
    (hms : ∀ m ∈ ms, XVal.map et m ∈ vals evs k) : depthKVs ms.flatten < depthKVs evs := by
  have hb : ∀ x ∈ ms, depthKVs x ≤ depthKVs evs - 1 ∧ 0 < depthKVs evs := by
    intro x hx
    have h1 := depth_mem evs k _ (mem_vals.mp (hms x hx))
    rw [depth_map] at h1
    omega
  have hfl := depthKVs_flatten ms (depthKVs evs - 1) fun x hx => (hb x hx).1
  cases ms with
  | nil => exact absurd rfl hne
  | cons x _ => have := (hb x List.mem_cons_self).2; omega

theorem concatEvs_fuel_ok (cfg : Cfg) (hs : cfg.Std) (n : Nat) : ∀ (et : String) (evs : KVs), depthKVs evs < n →
    concatEvs cfg n et evs ≠ .error .fuel := by
  induction n with
  | zero => intro et evs hd; omega
  | succ n ih =>
    intro et evs hd h
    rw [concatEvs_succ cfg hs] at h
    obtain ⟨k, _, he⟩ := buildM_error _ _ _ h
    rcases perKey_err _ _ _ _ he with h1 | ⟨h2, _⟩ | ⟨et', ms, hne, hms, h3⟩
    · cases h1
    · cases h2
    · have := depth_nested evs k et' ms hne hms
      exact ih et' ms.flatten (by omega) h3

/-- `concatMsgs` with its five fallible parts (role, name, tool-call id, tool calls, extras) as parameters
    (`concatMsgs_eq`), so that the law for messages follows from the laws of the parts.  Not the `assemble` of
    Model/C18.lean, which is that model's `concatToolCalls`. -/
def assemble (R N I : Except Err String) (T : Except Err (List TC)) (E : Except Err KVs)
    (content : String) (multi : List Nat) (rm : Option Meta) : Except Err Msg := do
  let role ← R
  let name ← N
  let tcid ← I
  let tcs ← T
  let extra ← E
  pure { role := role, name := name, toolCallID := tcid, content := content, multi := multi,
         toolCalls := tcs, rmeta := rm, extra := extra }

/-- Some error, whichever: `EqvE` identifies all errors, so for a failing side only THAT it fails is needed. -/
def IsErr {α} (x : Except Err α) : Prop := ∃ e, x = .error e

theorem assemble_ok (R N I T E c m rm) (r : Msg) (h : assemble R N I T E c m rm = .ok r) :
    ∃ a b i d e, R = .ok a ∧ N = .ok b ∧ I = .ok i ∧ T = .ok d ∧ E = .ok e ∧
      r = { role := a, name := b, toolCallID := i, content := c, multi := m, toolCalls := d, rmeta := rm, extra := e } := by
  obtain ⟨a, hR, h⟩ := bind_eq_ok.mp h
  obtain ⟨b, hN, h⟩ := bind_eq_ok.mp h
  obtain ⟨i, hI, h⟩ := bind_eq_ok.mp h
  obtain ⟨d, hT, h⟩ := bind_eq_ok.mp h
  obtain ⟨e, hE, h⟩ := bind_eq_ok.mp h
  cases h
  exact ⟨a, b, i, d, e, hR, hN, hI, hT, hE, rfl⟩

theorem assemble_err_exact (R N I T E c m rm) (x : Err) (h : assemble R N I T E c m rm = .error x) :
    R = .error x ∨ N = .error x ∨ I = .error x ∨ T = .error x ∨ E = .error x := by
  rcases bind_eq_error.mp h with h | ⟨_, _, h⟩
  · exact .inl h
  rcases bind_eq_error.mp h with h | ⟨_, _, h⟩
  · exact .inr (.inl h)
  rcases bind_eq_error.mp h with h | ⟨_, _, h⟩
  · exact .inr (.inr (.inl h))
  rcases bind_eq_error.mp h with h | ⟨_, _, h⟩
  · exact .inr (.inr (.inr (.inl h)))
  rcases bind_eq_error.mp h with h | ⟨_, _, h⟩
  · exact .inr (.inr (.inr (.inr h)))
  · cases h

theorem assemble_err (R N I T E c m rm) (h : IsErr R ∨ IsErr N ∨ IsErr I ∨ IsErr T ∨ IsErr E) :
    IsErr (assemble R N I T E c m rm) := by
  cases hr : assemble R N I T E c m rm with
  | error x => exact ⟨x, rfl⟩
  | ok r =>
    obtain ⟨a, b, i, d, e, rfl, rfl, rfl, rfl, rfl, _⟩ := assemble_ok R N I T E c m rm r hr
    rcases h with ⟨_, h⟩ | ⟨_, h⟩ | ⟨_, h⟩ | ⟨_, h⟩ | ⟨_, h⟩ <;> cases h

theorem assemble_eqv (R N I T) (E E' : Except Err KVs) (c m rm) (h : EqvE E E') :
    EqvE (assemble R N I T E c m rm) (assemble R N I T E' c m rm) :=
  (EqvE.rfl' R).bind fun _ => (EqvE.rfl' N).bind fun _ => (EqvE.rfl' I).bind fun _ => (EqvE.rfl' T).bind fun _ =>
    h.bind fun _ => EqvE.rfl' _

theorem flatten_filter_nonempty (l : List KVs) : (l.filter (fun e => !e.isEmpty)).flatten = l.flatten := by
  induction l with
  | nil => rfl
  | cons a l ih =>
    cases a with
    | nil => simp [ih]
    | cons p q => simp [ih]

theorem concatMsgs_eq (cfg : Cfg) (n : Nat) (ms : List Msg) :
    concatMsgs cfg n ms =
      assemble (firstNE cfg.roleCheck "" (ms.map (·.role))) (firstNE cfg.nameCheck "" (ms.map (·.name)))
        (firstNE cfg.tcidCheck "" (ms.map (·.toolCallID))) (concatTC cfg (ms.flatMap (·.toolCalls)))
        (concatEvs cfg n "any" (ms.map (·.extra)).flatten)
        (joinS (ms.map (·.content))) (lastNEl [] (ms.map (·.multi))) (concatMeta (ms.map (·.rmeta))) := by
  unfold concatMsgs assemble concatMaps
  rw [flatten_filter_nonempty]

theorem firstNE_err_append (c : Bool) (xs ys : List String) (h : IsErr (firstNE c "" xs)) :
    IsErr (firstNE c "" (xs ++ ys)) := by
  obtain ⟨e, he⟩ := h
  rw [firstNE_append, he]; exact ⟨e, rfl⟩

theorem firstNE_ok_append (c : Bool) (xs ys : List String) (a : String) (h : firstNE c "" xs = .ok a) :
    firstNE c "" (a :: ys) = firstNE c "" (xs ++ ys) := by
  rw [firstNE_append, h, firstNE_cons_empty]; rfl

theorem concatMsgs_rechunk (cfg : Cfg) (hs : cfg.Std) (n : Nat) (xs ys : List Msg) :
    EqvE (concatMsgs cfg n xs >>= fun r => concatMsgs cfg n (r :: ys)) (concatMsgs cfg n (xs ++ ys)) := by
  have hT := concatTC_rechunk cfg (xs.flatMap (·.toolCalls)) (ys.flatMap (·.toolCalls))
  have hE := concatEvs_rechunk cfg hs n "any" (xs.map (·.extra)).flatten (ys.map (·.extra)).flatten
  refine EqvE.bind_left (fun x hx => ?_) (fun r hx => ?_)
  · -- the component that fails in the first stage fails in the whole
    rw [concatMsgs_eq] at hx
    rw [concatMsgs_eq]
    apply assemble_err
    simp only [List.map_append, List.flatMap_append, List.flatten_append]
    rcases assemble_err_exact _ _ _ _ _ _ _ _ _ hx with h | h | h | h | h
    · exact .inl (firstNE_err_append _ _ _ ⟨x, h⟩)
    · exact .inr (.inl (firstNE_err_append _ _ _ ⟨x, h⟩))
    · exact .inr (.inr (.inl (firstNE_err_append _ _ _ ⟨x, h⟩)))
    · exact .inr (.inr (.inr (.inl ⟨x, by rw [← hT, h]; rfl⟩)))
    · exact .inr (.inr (.inr (.inr (hE.of_bind_error h))))
  · rw [concatMsgs_eq] at hx
    obtain ⟨a, b, i, d, e, hR, hN, hI, hTx, hEx, rfl⟩ := assemble_ok _ _ _ _ _ _ _ _ _ hx
    rw [concatMsgs_eq, concatMsgs_eq]
    simp only [List.map_cons, List.map_append, List.flatMap_cons, List.flatMap_append, List.flatten_cons,
      List.flatten_append]
    rw [firstNE_ok_append _ _ _ _ hR, firstNE_ok_append _ _ _ _ hN, firstNE_ok_append _ _ _ _ hI,
      joinS_rechunk, lastNEl_rechunk, concatMeta_rechunk, ← hT, hTx]
    exact assemble_eqv _ _ _ _ _ _ _ _ _ (hE.of_bind_ok hEx)

theorem allSome_append {α} (a b : List (Option α)) :
    allSome (a ++ b) = (match allSome a, allSome b with
      | some x, some y => some (x ++ y)
      | _, _ => none) := by
  induction a with
  | nil => simp [allSome]; cases allSome b <;> rfl
  | cons h t ih =>
    cases h with
    | none => simp [allSome]
    | some x =>
      simp only [List.cons_append, allSome, ih]
      cases allSome t <;> cases allSome b <;> rfl

/-- the same for `[]*Message` (a nil chunk is an error) -/
theorem concatMsgPtrs_rechunk (cfg : Cfg) (hs : cfg.Std) (n : Nat) (xs ys : List (Option Msg)) :
    EqvE (concatMsgPtrs cfg n xs >>= fun r => concatMsgPtrs cfg n (some r :: ys)) (concatMsgPtrs cfg n (xs ++ ys)) := by
  unfold concatMsgPtrs
  rw [allSome_append]
  cases hx : allSome xs with
  | none => simp [bind, Except.bind, EqvE]
  | some ms =>
    cases hy : allSome ys with
    | none =>
      simp only [allSome, hy]
      cases concatMsgs cfg n ms <;> simp [bind, Except.bind, EqvE]
    | some ms' =>
      simp only [allSome, hy]
      exact concatMsgs_rechunk cfg hs n ms ms'

theorem concatStream_rechunk' {α} (core : List α → Except Err α) (xs ys : List α) (hxs : xs ≠ [])
    (hcore : EqvE (core xs >>= fun r => core (r :: ys)) (core (xs ++ ys))) :
    EqvE (concatStream core xs >>= fun r => concatStream core (r :: ys)) (concatStream core (xs ++ ys)) := by
  cases xs with
  | nil => exact absurd rfl hxs
  | cons x t =>
    cases t with
    | nil => simp only [concatStream, bind, Except.bind, List.cons_append, List.nil_append]; exact EqvE.rfl' _
    | cons x' t' =>
      cases ys with
      | nil =>
        simp only [concatStream, List.append_nil]
        cases core (x :: x' :: t') <;> simp [bind, Except.bind, EqvE]
      | cons y t'' => exact hcore  -- on two or more chunks `concatStream core` is `core`

theorem concatStream_rechunk {α} (core : List α → Except Err α)
    (hcore : ∀ xs ys, xs ≠ [] → EqvE (core xs >>= fun r => core (r :: ys)) (core (xs ++ ys)))
    (xs ys : List α) (hxs : xs ≠ []) :
    EqvE (concatStream core xs >>= fun r => concatStream core (r :: ys)) (concatStream core (xs ++ ys)) :=
  concatStream_rechunk' core xs ys hxs (hcore xs ys hxs)

/-- The function `concatStrChunks` hands to `concatStream`, under a name (`concatStrChunks cfg = concatStream
    (strCore cfg)` by `rfl`): `ConcatItems` on two or more string chunks, by the rule registered for `string`. -/
def strCore (cfg : Cfg) (xs : List String) : Except Err String :=
  match combineSc (cfg.rule "string") "string" xs with
  | .ok (.sc _ v) => .ok v
  | .ok _ => .error .fail
  | .error e => .error e

theorem strCore_rechunk (cfg : Cfg) (xs ys : List String) (hxs : xs ≠ []) :
    EqvE (strCore cfg xs >>= fun r => strCore cfg (r :: ys)) (strCore cfg (xs ++ ys)) := by
  unfold strCore
  cases hc : combineSc (cfg.rule "string") "string" xs with
  | error e =>
    obtain ⟨e', he⟩ := combineSc_mono _ _ xs ys e hxs hc
    simp [bind, Except.bind, he, EqvE]
  | ok x =>
    obtain ⟨u, hu⟩ := combineSc_sc _ _ _ _ hc
    subst hu
    simp only [bind, Except.bind]
    rw [combineSc_rechunk _ _ xs ys u hxs hc]
    exact EqvE.rfl' _

theorem concatStrChunks_rechunk (cfg : Cfg) (xs ys : List String) (hxs : xs ≠ []) :
    EqvE (concatStrChunks cfg xs >>= fun r => concatStrChunks cfg (r :: ys)) (concatStrChunks cfg (xs ++ ys)) :=
  concatStream_rechunk (strCore cfg) (fun a b h => strCore_rechunk cfg a b h) xs ys hxs

theorem concatMapChunks_rechunk (cfg : Cfg) (hs : cfg.Std) (n : Nat) (et : String) (xs ys : List KVs) (hxs : xs ≠ []) :
    EqvE (concatMapChunks cfg n et xs >>= fun r => concatMapChunks cfg n et (r :: ys)) (concatMapChunks cfg n et (xs ++ ys)) :=
  concatStream_rechunk (concatMaps cfg n et) (fun a b _ => concatMaps_rechunk cfg hs n et a b) xs ys hxs

theorem concatMsgChunks_rechunk (cfg : Cfg) (hs : cfg.Std) (n : Nat) (xs ys : List (Option Msg)) (hxs : xs ≠ []) :
    EqvE (concatMsgChunks cfg n xs >>= fun r => concatMsgChunks cfg n (r :: ys)) (concatMsgChunks cfg n (xs ++ ys)) :=
  concatStream_rechunk (fun cs => (concatMsgPtrs cfg n cs).map some)
    (fun a b _ => EqvE.map_bind some _ (fun _ => rfl) (concatMsgPtrs_rechunk cfg hs n a b)) xs ys hxs

/-- What the fold state says of the chunks `pre` consumed so far, one clause per clause of `toolcalls_by_index`
    (Props/C14.lean): calls without index untouched in arrival order; a group's `args` is the join of its index's
    fragments; one group for exactly the indexes that occur.  A consequence of `TCFull` below (`TCFull.spec`). -/
def TCSpec (pre : List TC) (s : TCState) : Prop :=
  s.nils = pre.filter (fun c => c.index = none) ∧
  (∀ j g, (j, g) ∈ s.groups → g.args = joinS ((pre.filter (fun c => c.index = some j)).map (·.args))) ∧
  (∀ i, (∃ c ∈ pre, c.index = some i) ↔ (∃ p ∈ s.groups, p.1 = i))

theorem exists_mem_snoc {α} (l : List α) (c : α) (P : α → Prop) : (∃ x ∈ l ++ [c], P x) ↔ (∃ x ∈ l, P x) ∨ P c := by
  simp [or_and_right, exists_or]

/-- The fragments of call `i` in arrival order: what `mergeAll` turns into the group of key `i` (`TCFull.merged`). -/
def grp (cs : List TC) (i : Int) : List TC := cs.filter fun c => c.index = some i

theorem grp_snoc (cs : List TC) (c : TC) (i : Int) :
    grp (cs ++ [c]) i = grp cs i ++ (if c.index = some i then [c] else []) := by
  simp only [grp, List.filter_append, List.filter_cons, List.filter_nil, decide_eq_true_eq]

theorem grp_ne_nil (cs : List TC) (i : Int) : grp cs i ≠ [] ↔ ∃ c ∈ cs, c.index = some i := by
  simp [grp, List.filter_eq_nil_iff]

/-- For any reading `Q g L` of "group `g` stands for the chunks `L`" that holds of a first chunk and is kept by
    `mergeTC` (`TCSpec` reads a group by its arguments, `TCFull` below as the merge of the chunks). -/
theorem stepTC_groups {cfg : Cfg} {Q : TC → List TC → Prop} (hQ1 : ∀ c, Q c [c])
    (hQ2 : ∀ {g c g' L}, L ≠ [] → Q g L → mergeTC cfg g c = .ok g' → Q g' (L ++ [c]))
    {cs : List TC} {s s' : TCState} {c : TC} (hs : GSorted s.groups)
    (hn : s.nils = cs.filter fun c => c.index = none)
    (hk : ∀ i, grp cs i ≠ [] ↔ ∃ p ∈ s.groups, p.1 = i)
    (hq : ∀ {i g}, (i, g) ∈ s.groups → Q g (grp cs i)) (h : stepTC cfg s c = .ok s') :
    s'.nils = (cs ++ [c]).filter (fun c => c.index = none) ∧
    (∀ i, grp (cs ++ [c]) i ≠ [] ↔ ∃ p ∈ s'.groups, p.1 = i) ∧
    ∀ {i g}, (i, g) ∈ s'.groups → Q g (grp (cs ++ [c]) i) := by
  rcases stepTC_ok h with ⟨hc, rfl⟩ | ⟨k, gs', hc, hi, rfl⟩
  · have hg : ∀ i, grp (cs ++ [c]) i = grp cs i := fun i => by rw [grp_snoc, hc]; simp
    exact ⟨by simp [List.filter_append, hn, hc], fun i => by rw [hg]; exact hk i, fun hm => by rw [hg]; exact hq hm⟩
  · refine ⟨by simp [List.filter_append, hn, hc], fun i => ?_, fun {i g'} hm => ?_⟩
    · rw [grp_ne_nil, exists_mem_snoc, hc, insertG_keys_iff hi i, ← hk i, grp_ne_nil, or_comm,
        Option.some.injEq, eq_comm]
    · rw [grp_snoc, hc]
      rcases insertG_spec cfg k c _ _ hs hi i g' hm with ⟨hne, hin⟩ | ⟨rfl, ⟨rfl, hno⟩ | ⟨g, hg, hmg⟩⟩
      · -- a group of another index, with the chunks it had
        rw [if_neg (fun e => hne (Option.some.inj e).symm), List.append_nil]
        exact hq hin
      · -- the first chunk of its index
        have hnone : grp cs i = [] := Classical.byContradiction fun hne => by
          obtain ⟨p, hp, hpi⟩ := (hk i).mp hne
          exact hno p hp hpi
        rw [if_pos rfl, hnone]; exact hQ1 g'
      · rw [if_pos rfl]; exact hQ2 ((hk i).mpr ⟨_, hg, rfl⟩) (hq hg) hmg

theorem stepTC_spec (cfg : Cfg) (pre : List TC) (s s' : TCState) (c : TC) (hi : SInv s) (hp : TCSpec pre s)
    (h : stepTC cfg s c = .ok s') : TCSpec (pre ++ [c]) s' := by
  obtain ⟨hn, ha, hk⟩ := hp
  obtain ⟨hn', hk', ha'⟩ := stepTC_groups (Q := fun g L => g.args = joinS (L.map (·.args)))
    (fun c => by simp [joinS, String.append_empty])
    (fun _ hq hm => by
      obtain ⟨_, _, _, rfl⟩ := mergeTC_ok hm
      simp [hq, joinS_append, joinS, String.append_empty])
    hi.2.1 hn (fun i => by rw [grp_ne_nil]; exact hk i) (fun hm => ha _ _ hm) h
  exact ⟨hn', fun j g hm => ha' hm, fun i => by rw [← grp_ne_nil]; exact hk' i⟩

theorem foldlM_stepTC_spec (cfg : Cfg) (cs pre : List TC) (s s' : TCState) (hi : SInv s) (hp : TCSpec pre s)
    (h : cs.foldlM (stepTC cfg) s = .ok s') : TCSpec (pre ++ cs) s' :=
  (foldlM_inv_prefix _ (fun pre s => SInv s ∧ TCSpec pre s)
    (fun pre s c s' ⟨hi, hp⟩ hs => ⟨stepTC_inv cfg s s' c hi hs, stepTC_spec cfg pre s s' c hi hp hs⟩)
    cs pre s s' ⟨hi, hp⟩ h).2

theorem tcspec_init : TCSpec [] ⟨[], []⟩ := by
  refine ⟨rfl, ?_, ?_⟩
  · intro j g hm; cases hm
  · intro i; simp

/-! #### the fold state as a function of the chunks seen

  `TCSpec` speaks of the arguments only.  The whole state is determined by the chunks: one group per index
  that occurs, holding that index's chunks merged in arrival order; and the fold fails exactly when the
  chunks of some index do not merge. -/

/-- all chunks of one index merged in arrival order (only ever applied to a non-empty list) -/
def mergeAll (cfg : Cfg) : List TC → Except Err TC
  | [] => .error .fail
  | c :: rest => rest.foldlM (mergeTC cfg) c

theorem mergeAll_append (cfg : Cfg) {L : List TC} (h : L ≠ []) (M : List TC) :
    mergeAll cfg (L ++ M) = mergeAll cfg L >>= fun g => M.foldlM (mergeTC cfg) g := by
  cases L with
  | nil => exact absurd rfl h
  | cons c0 rest => exact List.foldlM_append

theorem mergeAll_snoc (cfg : Cfg) {L : List TC} (h : L ≠ []) (c : TC) :
    mergeAll cfg (L ++ [c]) = mergeAll cfg L >>= fun g => mergeTC cfg g c := by
  simp only [mergeAll_append cfg h, List.foldlM_cons, List.foldlM_nil, bind_pure]

theorem foldlM_mergeTC_ok (cfg : Cfg) : ∀ (rest : List TC) (c g : TC), rest.foldlM (mergeTC cfg) c = .ok g →
    ∃ id ty nm, g = { c with id := id, type := ty, name := nm, args := c.args ++ joinS (rest.map (·.args)) }
  | [], c, g, h => by
    cases h
    exact ⟨c.id, c.type, c.name, by simp [joinS, String.append_empty]⟩
  | x :: xs, c, g, h => by
    rw [List.foldlM_cons] at h
    obtain ⟨g1, h1, h2⟩ := bind_eq_ok.mp h
    obtain ⟨_, _, _, rfl⟩ := mergeTC_ok h1
    obtain ⟨id, ty, nm, rfl⟩ := foldlM_mergeTC_ok cfg xs _ g h2
    exact ⟨id, ty, nm, by simp [joinS, String.append_assoc]⟩

theorem mergeAll_args (cfg : Cfg) : ∀ (L : List TC) (g : TC), mergeAll cfg L = .ok g →
    g.args = joinS (L.map (·.args))
  | [], _, h => nomatch h
  | c :: rest, g, h => by
    obtain ⟨_, _, _, rfl⟩ := foldlM_mergeTC_ok cfg rest c g h
    rfl

structure TCFull (cfg : Cfg) (cs : List TC) (s : TCState) : Prop where
  nils : s.nils = cs.filter fun c => c.index = none
  inv : GInv s.groups
  keys : ∀ i, grp cs i ≠ [] ↔ ∃ p ∈ s.groups, p.1 = i
  merged : ∀ {i g}, (i, g) ∈ s.groups → mergeAll cfg (grp cs i) = .ok g

theorem TCFull.init (cfg : Cfg) : TCFull cfg [] ⟨[], []⟩ :=
  ⟨rfl, sinv_init.2, fun i => by simp [grp], fun h => nomatch h⟩

theorem TCFull.only {cfg : Cfg} {cs : List TC} {s : TCState} (h : TCFull cfg cs s) (i : Int) (g : TC)
    (hm : (i, g) ∈ s.groups) : grp cs i ≠ [] := (h.keys i).mpr ⟨_, hm, rfl⟩

theorem TCFull.present {cfg : Cfg} {cs : List TC} {s : TCState} (h : TCFull cfg cs s) (i : Int)
    (hne : grp cs i ≠ []) : ∃ g, mergeAll cfg (grp cs i) = .ok g ∧ (i, g) ∈ s.groups := by
  obtain ⟨⟨_, g⟩, hm, rfl⟩ := (h.keys i).mp hne
  exact ⟨g, h.merged hm, hm⟩

theorem TCFull.step {cfg : Cfg} {cs : List TC} {s s' : TCState} {c : TC} (h : TCFull cfg cs s)
    (hs : stepTC cfg s c = .ok s') : TCFull cfg (cs ++ [c]) s' := by
  obtain ⟨hn, hk, hm⟩ := stepTC_groups (Q := fun g L => mergeAll cfg L = .ok g) (fun _ => rfl)
    (fun hne hq hm => by rw [mergeAll_snoc cfg hne, hq]; exact hm) h.inv.1 h.nils h.keys h.merged hs
  have hnil : ∀ c ∈ s.nils, c.index = none := fun c hc => by
    rw [h.nils] at hc; simpa using (List.mem_filter.mp hc).2
  exact ⟨hn, (stepTC_inv cfg s s' c ⟨hnil, h.inv⟩ hs).2, hk, hm⟩

theorem foldlM_stepTC_full (cfg : Cfg) (cs pre : List TC) (s s' : TCState) (h : TCFull cfg pre s)
    (hf : cs.foldlM (stepTC cfg) s = .ok s') : TCFull cfg (pre ++ cs) s' :=
  foldlM_inv_prefix _ (TCFull cfg) (fun _ _ _ _ h hs => h.step hs) cs pre s s' h hf

theorem TCFull.step_error {cfg : Cfg} {cs : List TC} {s : TCState} {c : TC} {e : Err} (h : TCFull cfg cs s)
    (hs : stepTC cfg s c = .error e) : ∃ k, c.index = some k ∧ mergeAll cfg (grp (cs ++ [c]) k) = .error e := by
  obtain ⟨k, hc, hi⟩ := stepTC_error hs
  obtain ⟨g, hg, hm⟩ := insertG_error_spec cfg k c s.groups e hi
  refine ⟨k, hc, ?_⟩
  rw [grp_snoc, if_pos hc, mergeAll_snoc cfg (h.only k g hg), h.merged hg]; exact hm

theorem foldlM_stepTC_fails (cfg : Cfg) (cs pre : List TC) (s : TCState) (e : Err) (h : TCFull cfg pre s)
    (hf : cs.foldlM (stepTC cfg) s = .error e) :
    ∃ k, grp (pre ++ cs) k ≠ [] ∧ mergeAll cfg (grp (pre ++ cs) k) = .error e := by
  obtain ⟨done, c, post, s1, rfl, hok, hs⟩ := foldlM_error_split _ cs s e hf
  obtain ⟨k, hck, hbad⟩ := (foldlM_stepTC_full cfg done pre s s1 h hok).step_error hs
  -- the chunks after the failing one change nothing: a failed merge stays failed
  have hne : grp (pre ++ done ++ [c]) k ≠ [] := (grp_ne_nil _ k).mpr ⟨c, by simp, hck⟩
  have hg : grp (pre ++ (done ++ c :: post)) k = grp (pre ++ done ++ [c]) k ++ grp post k := by
    rw [← List.append_assoc, List.append_cons]; exact List.filter_append ..
  refine ⟨k, by rw [hg]; exact List.append_ne_nil_of_left_ne_nil hne _, ?_⟩
  rw [hg, mergeAll_append cfg hne, hbad]; rfl

theorem TCFull.spec {cfg : Cfg} {cs : List TC} {s : TCState} (h : TCFull cfg cs s) : TCSpec cs s :=
  ⟨h.nils, fun _ g hm => mergeAll_args cfg _ g (h.merged hm), fun i => by rw [← grp_ne_nil]; exact h.keys i⟩

theorem concatTC_spec (cfg : Cfg) (cs out : List TC) (h : concatTC cfg cs = .ok out) :
    ∃ gs : List (Int × TC),
      out = cs.filter (fun c => c.index = none) ++ gs.map (·.2) ∧
      gs.Pairwise (fun p q => p.1 < q.1) ∧
      (∀ p ∈ gs, p.2.index = some p.1) ∧
      (∀ i, (∃ c ∈ cs, c.index = some i) ↔ (∃ p ∈ gs, p.1 = i)) ∧
      (∀ p ∈ gs, p.2.args = joinS ((cs.filter (fun c => c.index = some p.1)).map (·.args))) := by
  obtain ⟨s, hf, h⟩ := bind_eq_ok.mp h
  cases h
  have F := foldlM_stepTC_full cfg cs [] _ s (TCFull.init cfg) hf
  rw [List.nil_append] at F
  obtain ⟨hn, ha, hk⟩ := F.spec
  exact ⟨s.groups, by simp [TCState.out, hn], gsorted_pairwise _ F.inv.1, F.inv.2, hk, fun p hp => ha p.1 p.2 hp⟩

theorem pick_err (c : Bool) (a b : String) (e : Err) (h : pick c a b = .error e) : e = .fail := by
  unfold pick at h
  split at h; · cases h
  split at h; · cases h
  split at h <;> cases h; rfl

theorem firstNE_err (c : Bool) (acc : String) (l : List String) (e : Err) (h : firstNE c acc l = .error e) :
    e = .fail := by
  induction l generalizing acc with
  | nil => cases h
  | cons x xs ih =>
    rcases bind_eq_error.mp h with h | ⟨a, _, h⟩
    · exact pick_err _ _ _ _ h
    · exact ih a h

theorem mergeTC_err (cfg : Cfg) (g c : TC) (e : Err) (h : mergeTC cfg g c = .error e) : e = .fail := by
  rcases bind_eq_error.mp h with h | ⟨_, _, h⟩
  · exact pick_err _ _ _ _ h
  rcases bind_eq_error.mp h with h | ⟨_, _, h⟩
  · exact pick_err _ _ _ _ h
  rcases bind_eq_error.mp h with h | ⟨_, _, h⟩
  · exact pick_err _ _ _ _ h
  · cases h

theorem insertG_err (cfg : Cfg) (i : Int) (c : TC) (gs : List (Int × TC)) (e : Err)
    (h : insertG cfg i c gs = .error e) : e = .fail := by
  obtain ⟨g, _, hm⟩ := insertG_error_spec cfg i c gs e h
  exact mergeTC_err _ _ _ _ hm

theorem stepTC_err (cfg : Cfg) (s : TCState) (c : TC) (e : Err) (h : stepTC cfg s c = .error e) : e = .fail := by
  obtain ⟨_, _, h⟩ := stepTC_error h
  exact insertG_err _ _ _ _ _ h

theorem concatTC_err (cfg : Cfg) (cs : List TC) (e : Err) (h : concatTC cfg cs = .error e) : e = .fail := by
  rcases bind_eq_error.mp h with h | ⟨_, _, h⟩
  · obtain ⟨s1, c, h⟩ := foldlM_error _ _ _ _ h
    exact stepTC_err _ _ _ _ h
  · cases h

theorem concatMsgs_err (cfg : Cfg) (n : Nat) (ms : List Msg) (e : Err) (h : concatMsgs cfg n ms = .error e) :
    e = .fail ∨ concatEvs cfg n "any" (ms.map (·.extra)).flatten = .error e := by
  rw [concatMsgs_eq] at h
  rcases assemble_err_exact _ _ _ _ _ _ _ _ _ h with h | h | h | h | h
  · exact Or.inl (firstNE_err _ _ _ _ h)
  · exact Or.inl (firstNE_err _ _ _ _ h)
  · exact Or.inl (firstNE_err _ _ _ _ h)
  · exact Or.inl (concatTC_err _ _ _ h)
  · exact Or.inr h

theorem concatEvs_error_fail (cfg : Cfg) (hs : cfg.Std) (hg : cfg.nilAbsent = true) (n : Nat) (et : String) (evs : KVs)
    (hn : depthKVs evs < n) (e : Err) (h : concatEvs cfg n et evs = .error e) : e = .fail := by
  cases e with
  | fail => rfl
  | panic => exact absurd h (concatEvs_no_panic cfg hs hg n _ _)
  | fuel => exact absurd h (concatEvs_fuel_ok cfg hs n _ _ hn)

theorem concatMsgs_total (cfg : Cfg) (hs : cfg.Std) (hg : cfg.nilAbsent = true) (n : Nat) (ms : List Msg)
    (hn : extrasDepth ms < n) :
    (∃ m, concatMsgs cfg n ms = .ok m) ∨ concatMsgs cfg n ms = .error .fail := by
  cases h : concatMsgs cfg n ms with
  | ok m => exact Or.inl ⟨m, rfl⟩
  | error e =>
    right
    rcases concatMsgs_err cfg n ms e h with h1 | h2
    · rw [h1]
    · rw [concatEvs_error_fail cfg hs hg n _ _ hn e h2]

theorem concatMsgPtrs_total (cfg : Cfg) (hs : cfg.Std) (hg : cfg.nilAbsent = true) (n : Nat) (cs : List (Option Msg))
    (hn : ∀ ms, allSome cs = some ms → extrasDepth ms < n) :
    (∃ m, concatMsgPtrs cfg n cs = .ok m) ∨ concatMsgPtrs cfg n cs = .error .fail := by
  unfold concatMsgPtrs
  cases h : allSome cs with
  | none => exact Or.inr rfl
  | some ms => exact concatMsgs_total cfg hs hg n ms (hn ms h)

theorem concatMaps_total (cfg : Cfg) (hs : cfg.Std) (hg : cfg.nilAbsent = true) (n : Nat) (et : String) (ms : List KVs)
    (hn : depthKVs ms.flatten < n) :
    (∃ m, concatMaps cfg n et ms = .ok m) ∨ concatMaps cfg n et ms = .error .fail := by
  unfold concatMaps
  cases h : concatEvs cfg n et ms.flatten with
  | ok m => exact Or.inl ⟨m, rfl⟩
  | error e => right; rw [concatEvs_error_fail cfg hs hg n _ _ hn e h]

theorem concatStream_total {α} (core : List α → Except Err α)
    (hc : ∀ xs, xs ≠ [] → (∃ m, core xs = .ok m) ∨ core xs = .error .fail) (xs : List α) :
    (∃ m, concatStream core xs = .ok m) ∨ concatStream core xs = .error .fail := by
  cases xs with
  | nil => exact Or.inr rfl
  | cons x t =>
    cases t with
    | nil => exact Or.inl ⟨x, rfl⟩
    | cons y t' => exact hc _ (by simp)

theorem strCore_total (cfg : Cfg) (xs : List String) (hxs : xs ≠ []) :
    (∃ m, strCore cfg xs = .ok m) ∨ strCore cfg xs = .error .fail := by
  unfold strCore
  cases xs with
  | nil => exact absurd rfl hxs
  | cons v ps =>
    cases hc : combineSc (cfg.rule "string") "string" (v :: ps) with
    | error e => right; rw [combineSc_err _ _ _ _ _ hc]
    | ok x =>
      obtain ⟨u, hu⟩ := combineSc_sc _ _ _ _ hc
      subst hu; exact Or.inl ⟨u, rfl⟩

theorem concatMsgs_ok_fields (cfg : Cfg) (n : Nat) (ms : List Msg) (m : Msg) (h : concatMsgs cfg n ms = .ok m) :
    firstNE cfg.roleCheck "" (ms.map (·.role)) = .ok m.role ∧
    firstNE cfg.nameCheck "" (ms.map (·.name)) = .ok m.name ∧
    firstNE cfg.tcidCheck "" (ms.map (·.toolCallID)) = .ok m.toolCallID ∧
    m.content = joinS (ms.map (·.content)) ∧
    m.multi = lastNEl [] (ms.map (·.multi)) ∧
    concatTC cfg (ms.flatMap (·.toolCalls)) = .ok m.toolCalls ∧
    m.rmeta = concatMeta (ms.map (·.rmeta)) ∧
    concatEvs cfg n "any" (ms.map (·.extra)).flatten = .ok m.extra := by
  rw [concatMsgs_eq] at h
  obtain ⟨a, b, i, d, e, hR, hN, hI, hT, hE, hr⟩ := assemble_ok _ _ _ _ _ _ _ _ _ h
  subst hr
  exact ⟨hR, hN, hI, rfl, rfl, hT, rfl, hE⟩

theorem perKeyW_congr (cfg : Cfg) (rec rec' : String → List KVs → Except Err KVs) (ws : List XVal)
    (h : ∀ et ms, ms ≠ [] → (∀ m ∈ ms, XVal.map et m ∈ ws) → rec et ms = rec' et ms) :
    perKeyW cfg rec ws = perKeyW cfg rec' ws := by
  cases ws with
  | nil => rfl
  | cons w rest =>
    cases w with
    | nil => rfl
    | sc ty v => rfl
    | map et kvs =>
      simp only [perKeyW]
      cases hp : rest.mapM (asMap et) with
      | error e => rfl
      | ok ms =>
        simp only [bind, Except.bind]
        rw [h et (kvs :: ms) (List.cons_ne_nil _ _) (mapM_asMap_mem hp kvs)]

theorem perKey_congr (cfg : Cfg) (rec rec' : String → List KVs → Except Err KVs) (vs : List XVal)
    (h : ∀ et ms, ms ≠ [] → (∀ m ∈ ms, XVal.map et m ∈ vs) → rec et ms = rec' et ms) :
    perKey cfg rec vs = perKey cfg rec' vs := by
  unfold perKey
  apply perKeyW_congr
  intro et ms hne hms
  exact h et ms hne fun m hm => (mem_dropNil.1 (hms m hm)).1

theorem buildM_congr_eq (f f' : String → Except Err XVal) (ks : List String) (h : ∀ k ∈ ks, f k = f' k) :
    buildM f ks = buildM f' ks := by
  induction ks with
  | nil => rfl
  | cons k ks ih =>
    rw [buildM_cons, buildM_cons, h k (by simp), ih (fun k' hk' => h k' (by simp [hk']))]

theorem concatEvs_fuel_irrelevant (cfg : Cfg) (hs : cfg.Std) (n : Nat) : ∀ (m : Nat) (et : String) (evs : KVs),
    depthKVs evs < n → depthKVs evs < m → concatEvs cfg n et evs = concatEvs cfg m et evs := by
  induction n with
  | zero => intro m et evs hn hm; omega
  | succ n ih =>
    intro m et evs hn hm
    cases m with
    | zero => omega
    | succ m =>
      rw [concatEvs_succ cfg hs, concatEvs_succ cfg hs]
      apply buildM_congr_eq
      intro k _
      apply perKey_congr
      intro et' ms hne hms
      have := depth_nested evs k et' ms hne hms
      exact ih m et' ms.flatten (by omega) (by omega)

theorem concatMsgs_fuel_irrelevant (cfg : Cfg) (hs : cfg.Std) (n m : Nat) (ms : List Msg) (hn : extrasDepth ms < n) (hm : extrasDepth ms < m) :
    concatMsgs cfg n ms = concatMsgs cfg m ms := by
  rw [concatMsgs_eq, concatMsgs_eq, concatEvs_fuel_irrelevant cfg hs n m _ _ hn hm]

theorem concatCol_of_ne (cfg : Cfg) (n : Nat) (col : List (Option Msg)) (h : col.filterMap id ≠ []) :
    concatCol cfg n col = (concatStream (concatMsgs cfg n) (col.filterMap id)).map some := by
  unfold concatCol
  generalize col.filterMap id = l at h
  cases l with
  | nil => exact absurd rfl h
  | cons x t => cases t <;> rfl

theorem concatCol_rechunk (cfg : Cfg) (hs : cfg.Std) (n : Nat) (a b : List (Option Msg)) :
    EqvE (concatCol cfg n a >>= fun r => concatCol cfg n (r :: b)) (concatCol cfg n (a ++ b)) := by
  by_cases ha : a.filterMap id = []
  · have h1 : concatCol cfg n a = .ok none := by unfold concatCol; rw [ha]
    have h2 : concatCol cfg n (a ++ b) = concatCol cfg n (none :: b) := by
      unfold concatCol; rw [List.filterMap_append, ha]; rfl
    rw [h1, h2]
    exact EqvE.rfl' _
  · rw [concatCol_of_ne cfg n a ha, concatCol_of_ne cfg n (a ++ b) (by simp [ha]), List.filterMap_append]
    exact EqvE.map_bind some _ (fun m => concatCol_of_ne cfg n (some m :: b) (List.cons_ne_nil m _))
      (concatStream_rechunk' (concatMsgs cfg n) _ _ ha (concatMsgs_rechunk cfg hs n _ _))

theorem concatArr_rechunk (cfg : Cfg) (hs : cfg.Std) (n : Nat) (xs ys : List (List (Option Msg))) (hxs : xs ≠ []) :
    EqvE (concatArr cfg n xs >>= fun r => concatArr cfg n (r :: ys)) (concatArr cfg n (xs ++ ys)) := by
  cases xs with
  | nil => exact absurd rfl hxs
  | cons a0 t =>
    -- position by position, in the form in which the two stages and the whole present their columns
    have law : ∀ i, EqvE
        (concatCol cfg n ((a0 :: t).map (fun a => a.getD i none)) >>= fun b =>
          concatCol cfg n (b :: ys.map (fun a => a.getD i none)))
        (concatCol cfg n ((a0 :: (t ++ ys)).map (fun a => a.getD i none))) := fun i => by
      rw [← List.cons_append, List.map_append]
      exact concatCol_rechunk cfg hs n _ _
    -- the length check of the whole is that of `xs` and that of `ys`
    have hw : (a0 :: (t ++ ys)).all (fun a => a.length == a0.length) =
        ((a0 :: t).all (fun a => a.length == a0.length) && ys.all (fun a => a.length == a0.length)) := by
      rw [← List.cons_append, List.all_append]
    simp only [concatArr, List.cons_append]
    rw [hw]
    by_cases hx : (a0 :: t).all (fun a => a.length == a0.length) = true
    · rw [if_pos hx, hx, Bool.true_and]
      refine EqvE.bind_left (fun e he => ?_) (fun r hr => ?_)
      · by_cases hy : ys.all (fun a => a.length == a0.length) = true
        · rw [if_pos hy]
          obtain ⟨i, hi, he⟩ := mapM_error_mem _ _ _ he
          obtain ⟨e', he'⟩ := (law i).of_bind_error he
          exact mapM_error_of_mem _ _ i hi e' he'
        · rw [if_neg hy]; exact ⟨_, rfl⟩
      · -- the result has the common length, so the second stage checks the lengths of `ys` against it
        obtain ⟨hlen, hget⟩ := mapM_ok_get _ _ _ hr
        rw [List.length_range] at hlen
        rw [List.all_cons, beq_self_eq_true, Bool.true_and, hlen]
        by_cases hy : ys.all (fun a => a.length == a0.length) = true
        · rw [if_pos hy, if_pos hy]
          refine mapM_congr_eqv _ _ _ fun i hi => ?_
          have hi' : i < r.length := hlen ▸ List.mem_range.1 hi
          have hgi := hget i (by rw [List.length_range]; exact List.mem_range.1 hi) hi'
          rw [List.getElem_range] at hgi
          rw [List.map_cons, List.getD_eq_getElem?_getD, List.getElem?_eq_getElem hi', Option.getD_some]
          exact (law i).of_bind_ok hgi
        · rw [if_neg hy, if_neg hy]; exact trivial
    · rw [if_neg hx, Bool.eq_false_iff.mpr hx, Bool.false_and, if_neg Bool.false_ne_true]; exact trivial

theorem concatArrChunks_rechunk (cfg : Cfg) (hs : cfg.Std) (n : Nat) (xs ys : List (List (Option Msg))) (hxs : xs ≠ []) :
    EqvE (concatArrChunks cfg n xs >>= fun r => concatArrChunks cfg n (r :: ys)) (concatArrChunks cfg n (xs ++ ys)) :=
  concatStream_rechunk (concatArr cfg n) (fun a b h => concatArr_rechunk cfg hs n a b h) xs ys hxs

theorem concatMsgs_no_panic (cfg : Cfg) (hs : cfg.Std) (hg : cfg.nilAbsent = true) (n : Nat) (ms : List Msg) :
    concatMsgs cfg n ms ≠ .error .panic := by
  intro he
  rcases concatMsgs_err cfg n ms _ he with h1 | h2
  · cases h1
  · exact concatEvs_no_panic cfg hs hg n _ _ h2

theorem concatCol_no_panic (cfg : Cfg) (hs : cfg.Std) (hg : cfg.nilAbsent = true) (n : Nat) (col : List (Option Msg)) :
    concatCol cfg n col ≠ .error .panic := by
  unfold concatCol
  generalize col.filterMap id = fm
  split
  · simp
  · simp
  · exact fun h => concatMsgs_no_panic cfg hs hg n fm (map_eq_error.mp h)

/-- through `concatStreamReader` the array concatenation never panics: `mas[0]` is only
    evaluated on ≥ 2 arrays -/
theorem concatArrChunks_no_panic (cfg : Cfg) (hs : cfg.Std) (hg : cfg.nilAbsent = true) (n : Nat)
    (xs : List (List (Option Msg))) : concatArrChunks cfg n xs ≠ .error .panic := by
  unfold concatArrChunks
  cases xs with
  | nil => simp [concatStream]
  | cons a t =>
    cases t with
    | nil => simp [concatStream]
    | cons b t' =>
      simp only [concatStream, concatArr]
      split
      · intro h
        obtain ⟨i, _, he⟩ := mapM_error_mem _ _ _ h
        exact concatCol_no_panic cfg hs hg n _ he
      · simp

theorem filter_nonNil_ne_nil {xs : List XVal} (h : ∃ x ∈ xs, x.isNil = false) :
    xs.filter (fun v => !v.isNil) ≠ [] := by
  obtain ⟨x, hx, hn⟩ := h
  exact List.ne_nil_of_mem (List.mem_filter.2 ⟨hx, by simp [hn]⟩)

theorem anyCore_rechunk (cfg : Cfg) (xs ys : List XVal)
    (h : cfg.nilResultGuard = true ∨ ∃ x ∈ xs, x.isNil = false) :
    EqvE (anyCore cfg xs >>= fun r => anyCore cfg (r :: ys)) (anyCore cfg (xs ++ ys)) := by
  unfold anyCore
  simp only [List.filter_append]
  cases hf : xs.filter (fun v => !v.isNil) with
  | nil =>
    have hg : cfg.nilResultGuard = true := h.resolve_right fun hx => filter_nonNil_ne_nil hx hf
    simp only [hg, if_true, bind, Except.bind, List.filter_cons, XVal.isNil, Bool.not_true, Bool.false_eq_true,
      if_false, List.nil_append]
    exact EqvE.rfl' _
  | cons v t =>
    have hv : (!v.isNil) = true := by
      have : v ∈ xs.filter (fun v => !v.isNil) := by rw [hf]; simp
      exact (List.mem_filter.1 this).2
    cases t with
    | nil =>
      simp only [bind, Except.bind, List.filter_cons, hv, if_true, List.cons_append, List.nil_append]
      exact EqvE.rfl' _
    | cons w t' => simp [bind, Except.bind, EqvE]

theorem anyCore_total (cfg : Cfg) (xs : List XVal)
    (h : cfg.nilResultGuard = true ∨ ∃ x ∈ xs, x.isNil = false) :
    (∃ v, anyCore cfg xs = .ok v) ∨ anyCore cfg xs = .error .fail := by
  unfold anyCore
  cases hf : xs.filter (fun v => !v.isNil) with
  | nil => simp [h.resolve_right fun hx => filter_nonNil_ne_nil hx hf]
  | cons v t => cases t <;> simp

theorem concatAnyChunks_rechunk (cfg : Cfg) (xs ys : List XVal) (hxs : xs ≠ [])
    (h : cfg.nilResultGuard = true ∨ ∃ x ∈ xs, x.isNil = false) :
    EqvE (concatAnyChunks cfg xs >>= fun r => concatAnyChunks cfg (r :: ys)) (concatAnyChunks cfg (xs ++ ys)) :=
  concatStream_rechunk' (anyCore cfg) xs ys hxs (anyCore_rechunk cfg xs ys h)

theorem concatAnyChunks_total (cfg : Cfg) (xs : List XVal)
    (h : cfg.nilResultGuard = true ∨ (∃ x ∈ xs, x.isNil = false) ∨ xs.length < 2) :
    (∃ v, concatAnyChunks cfg xs = .ok v) ∨ concatAnyChunks cfg xs = .error .fail := by
  unfold concatAnyChunks
  cases xs with
  | nil => exact Or.inr rfl
  | cons x t =>
    cases t with
    | nil => exact Or.inl ⟨x, rfl⟩
    | cons y t' =>
      apply anyCore_total
      rcases h with h | h | h
      · exact Or.inl h
      · exact Or.inr h
      · simp only [List.length_cons] at h; omega

theorem keysOf_dup (k : String) (l : List String) : keysOf (k :: k :: l) = keysOf (k :: l) := by
  simp [keysOf, List.filter_filter]

theorem keysOf_dup_mid (A B : List String) (k : String) : keysOf (A ++ k :: k :: B) = keysOf (A ++ k :: B) := by
  rw [keysOf_append, keysOf_append, keysOf_dup]

theorem asSc_map (ty e : String) (m : KVs) : asSc ty (.map e m) = .error .fail := rfl

theorem mapM_asSc_split (ty e : String) (V V' : List XVal) (a b c : KVs) :
    (V ++ .map e a :: V').mapM (asSc ty) = (V ++ .map e b :: .map e c :: V').mapM (asSc ty) := by
  rw [List.mapM_append, List.mapM_append]
  cases V.mapM (asSc ty) with
  | error x => rfl
  | ok ps => simp [List.mapM_cons, asSc_map, bind, Except.bind]

theorem mapM_asMap_split (e' e : String) (V V' : List XVal) (a b : KVs) :
    ((V ++ .map e (a ++ b) :: V').mapM (asMap e') = (V ++ .map e a :: .map e b :: V').mapM (asMap e') ∧ e ≠ e') ∨
    (e = e' ∧ ∃ r : Except Err (List KVs × List KVs),
      (V ++ .map e (a ++ b) :: V').mapM (asMap e') = r.map (fun p => p.1 ++ (a ++ b) :: p.2) ∧
      (V ++ .map e a :: .map e b :: V').mapM (asMap e') = r.map (fun p => p.1 ++ a :: b :: p.2)) := by
  by_cases he : e = e'
  · right
    refine ⟨he, ?_⟩
    subst he
    rw [List.mapM_append, List.mapM_append]
    cases h1 : V.mapM (asMap e) with
    | error x => exact ⟨.error x, rfl, rfl⟩
    | ok m1 =>
      cases h2 : V'.mapM (asMap e) with
      | error x =>
        exact ⟨.error x, by simp [List.mapM_cons, asMap, h2, bind, Except.bind, Except.map],
          by simp [List.mapM_cons, asMap, h2, bind, Except.bind, Except.map]⟩
      | ok m2 =>
        exact ⟨.ok (m1, m2), by simp [List.mapM_cons, asMap, h2, bind, Except.bind, Except.map, pure, Except.pure],
          by simp [List.mapM_cons, asMap, h2, bind, Except.bind, Except.map, pure, Except.pure]⟩
  · left
    refine ⟨?_, he⟩
    rw [List.mapM_append, List.mapM_append]
    cases V.mapM (asMap e') with
    | error x => rfl
    | ok ps => simp [List.mapM_cons, asMap, he, bind, Except.bind]

theorem perKeyW_split (cfg : Cfg) (rec : String → List KVs → Except Err KVs)
    (hrec : ∀ et ms ms', ms.flatten = ms'.flatten → rec et ms = rec et ms')
    (W W' : List XVal) (e : String) (a b : KVs) :
    perKeyW cfg rec (W ++ .map e (a ++ b) :: W') = perKeyW cfg rec (W ++ .map e a :: .map e b :: W') := by
  cases W with
  | nil =>
    simp only [List.nil_append, perKeyW, List.mapM_cons, asMap, if_true, bind, Except.bind]
    cases W'.mapM (asMap e) with
    | error x => rfl
    | ok ms =>
      simp only [pure, Except.pure]
      rw [hrec e ((a ++ b) :: ms) (a :: b :: ms) (by simp)]
  | cons w W1 =>
    cases w with
    | nil => rfl
    | sc ty v =>
      simp only [List.cons_append, perKeyW]
      rw [mapM_asSc_split ty e W1 W' (a ++ b) a b]
    | map e' kvs =>
      simp only [List.cons_append, perKeyW]
      rcases mapM_asMap_split e' e W1 W' a b with ⟨h, _⟩ | ⟨he, r, h1, h2⟩
      · rw [h]
      · rw [h1, h2]
        cases r with
        | error x => rfl
        | ok p =>
          simp only [Except.map, bind, Except.bind]
          rw [hrec e' (kvs :: (p.1 ++ (a ++ b) :: p.2)) (kvs :: (p.1 ++ a :: b :: p.2)) (by simp)]

theorem perKey_split (cfg : Cfg) (rec : String → List KVs → Except Err KVs)
    (hrec : ∀ et ms ms', ms.flatten = ms'.flatten → rec et ms = rec et ms')
    (W W' : List XVal) (e : String) (a b : KVs) :
    perKey cfg rec (W ++ .map e (a ++ b) :: W') = perKey cfg rec (W ++ .map e a :: .map e b :: W') := by
  unfold perKey
  rw [dropNil_append, dropNil_append, dropNil_cons_nonnil _ _ _ rfl, dropNil_cons_nonnil _ _ _ rfl,
    dropNil_cons_nonnil _ _ _ rfl]
  exact perKeyW_split cfg rec hrec _ _ e a b

theorem concatEvs_split_nested (cfg : Cfg) (hs : cfg.Std) (n : Nat) (et : String) (A B : KVs) (k e : String) (a b : KVs) :
    concatEvs cfg n et (A ++ (k, .map e (a ++ b)) :: B) = concatEvs cfg n et (A ++ (k, .map e a) :: (k, .map e b) :: B) := by
  cases n with
  | zero => rfl
  | succ n =>
    rw [concatEvs_succ cfg hs, concatEvs_succ cfg hs]
    have hk : keysOf ((A ++ (k, XVal.map e a) :: (k, XVal.map e b) :: B).map (·.1)) =
        keysOf ((A ++ (k, XVal.map e (a ++ b)) :: B).map (·.1)) := by
      simp only [List.map_append, List.map_cons, keysOf_dup_mid]
    rw [hk]
    apply buildM_congr_eq
    intro k' _
    by_cases h : k = k'
    · subst h
      simp only [vals_append, vals_cons_eq]
      apply perKey_split
      intro et' ms ms' hfl
      simp only [hfl]
    · simp only [vals_append, vals_cons_ne _ _ _ _ h]

end EinoV.C14
