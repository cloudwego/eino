/-
  C05 / C06 — the interrupt-aware run loop: lemmas, and the predicates over the trace of a call
  (`StepsAvoid`, `CPListed`, `GoodCall`, `HistOK`, `NoStepAfter`) that Props/C05.lean and Props/C06.lean
  state their theorems with.
-/
import EinoV.Model.C05

namespace EinoV.Interrupt
open EinoV.Engine

variable {V S X : Type}

def Ev.isBody : Ev V S X → Bool
  | .start .. => true | .finish .. => true | .nested .. => true | _ => false

theorem mem_taskEvs (t : Task V X) (bo : BodyOut V S X) (e : Ev V S X) :
    e ∈ taskEvs t bo ↔ e = .start t.key t.input ∨ (bo.evs ≠ [] ∧ e = .nested t.key bo.evs) ∨
      ((∃ out s, bo.res = .done out s) ∧ e = .finish t.key) := by
  simp only [taskEvs, List.mem_append, List.mem_cons, or_assoc]
  refine or_congr_right (or_congr ?_ ?_)
  · cases bo.evs <;> simp
  · cases bo.res <;> simp

theorem mem_runBodies_evs (r : IRunner V S X) : ∀ (ts : List (Task V X)) (st : S) (e : Ev V S X),
    e ∈ (runBodies r ts st).2.2 → ∃ t ∈ ts, ∃ st', e ∈ taskEvs t (bodyOne r t st') ∧
      (t.key, (bodyOne r t st').res) ∈ (runBodies r ts st).1 := by
  intro ts
  induction ts with
  | nil => intro st e he; simp [runBodies] at he
  | cons t rest ih =>
    intro st e he
    simp only [runBodies, List.mem_append] at he ⊢
    rcases he with he | he
    · exact ⟨t, List.mem_cons_self .., st, he, List.mem_cons_self ..⟩
    · obtain ⟨t', ht', st', h1, h2⟩ := ih _ e he
      exact ⟨t', List.mem_cons_of_mem _ ht', st', h1, List.mem_cons_of_mem _ h2⟩

def bodyEvs (r : IRunner V S X) (ls : LoopSt V S X) : List (Ev V S X) :=
  (runBodies r (runPres r ls.tasks ls.st).1 (runPres r ls.tasks ls.st).2).2.2

theorem stepI_evs (ops : ValOps V) (r : IRunner V S X) (sched : ISched V S X) (ls : LoopSt V S X) :
    (stepI ops r sched ls).1 = Ev.step (stepTasks r ls) :: bodyEvs r ls := rfl

theorem bodyEvs_body (r : IRunner V S X) (ls : LoopSt V S X) : ∀ e ∈ bodyEvs r ls, e.isBody = true := fun e he => by
  obtain ⟨t, _, st', h, _⟩ := mem_runBodies_evs r _ _ e he
  rcases (mem_taskEvs t _ e).1 h with rfl | ⟨_, rfl⟩ | ⟨_, rfl⟩ <;> rfl

theorem topSteps_append (l1 l2 : List (Ev V S X)) : topSteps (l1 ++ l2) = topSteps l1 ++ topSteps l2 := by
  induction l1 with
  | nil => rfl
  | cons e rest ih => cases e <;> simp [topSteps, ih]

theorem topSteps_eq_nil (l : List (Ev V S X)) (h : ∀ ts, Ev.step ts ∉ l) : topSteps l = [] := by
  induction l with
  | nil => rfl
  | cons e rest ih =>
    have hr := ih fun ts hm => h ts (List.mem_cons_of_mem _ hm)
    cases e with
    | step ts => exact absurd (List.mem_cons_self ..) (h ts)
    | _ => exact hr

theorem topSteps_body (l : List (Ev V S X)) (h : ∀ e ∈ l, e.isBody = true) : topSteps l = [] :=
  topSteps_eq_nil l fun _ hm => nomatch h _ hm

theorem topSteps_intrEvs (isSub hasID : Bool) (info : Info S X) :
    topSteps (intrEvs (V := V) isSub hasID info) = [] := by
  unfold intrEvs; split <;> simp [topSteps]

theorem topSteps_stepI (ops : ValOps V) (r : IRunner V S X) (sched : ISched V S X) (ls : LoopSt V S X) :
    topSteps (stepI ops r sched ls).1 = [stepTasks r ls] := by
  rw [stepI_evs]; simp [topSteps, topSteps_body _ (bodyEvs_body r ls)]

theorem preOne_key (r : IRunner V S X) (t : Task V X) (st : S) :
    (preOne r t st).1.key = t.key ∧ (preOne r t st).1.sub = t.sub ∧ (preOne r t st).1.skipPre = t.skipPre := by
  unfold preOne
  split
  · simp
  · split
    · simp
    · split <;> simp

theorem runPres_map {β : Type} (r : IRunner V S X) (f : Task V X → β) (hf : ∀ t st, f (preOne r t st).1 = f t) :
    ∀ (ts : List (Task V X)) (st : S), (runPres r ts st).1.map f = ts.map f := by
  intro ts
  induction ts with
  | nil => intro st; rfl
  | cons t rest ih => intro st; simp only [runPres, List.map_cons, ih, hf]

theorem stepTasks_eq (r : IRunner V S X) (ls : LoopSt V S X) :
    stepTasks r ls = ls.tasks.map (fun t => (t.key, t.sub.isSome)) :=
  runPres_map r _ (fun t st => by rw [(preOne_key r t st).1, (preOne_key r t st).2.1]) _ _

theorem mem_hitKeys {α} (ts : List (Key × α)) (keys : List Key) (k : Key) :
    k ∈ hitKeys ts keys ↔ (∃ v, (k, v) ∈ ts) ∧ k ∈ keys := by
  unfold hitKeys
  simp only [List.mem_flatMap, List.mem_map, List.mem_filter, beq_iff_eq]
  constructor
  · rintro ⟨⟨k', v⟩, hmem, ⟨a, ⟨ha, rfl⟩, rfl⟩⟩
    exact ⟨⟨v, hmem⟩, ha⟩
  · rintro ⟨⟨v, hmem⟩, hk⟩
    exact ⟨(k, v), hmem, ⟨k, ⟨hk, rfl⟩, rfl⟩⟩

theorem hitKeys_append {α} (a b : List (Key × α)) (keys : List Key) :
    hitKeys (a ++ b) keys = hitKeys a keys ++ hitKeys b keys :=
  List.flatMap_append

theorem hitKeys_nil_iff {α} (ts : List (Key × α)) (keys : List Key) :
    hitKeys ts keys = [] ↔ ∀ t ∈ ts, t.1 ∉ keys := by
  constructor
  · intro h t ht hk
    have : t.1 ∈ hitKeys ts keys := (mem_hitKeys ts keys t.1).2 ⟨⟨t.2, ht⟩, hk⟩
    rw [h] at this; simp at this
  · intro h
    apply List.eq_nil_iff_forall_not_mem.2
    intro k hk
    obtain ⟨⟨v, hv⟩, hkeys⟩ := (mem_hitKeys ts keys k).1 hk
    exact h (k, v) hv hkeys

theorem hitKeys_nil_keys {α} (ts : List (Key × α)) : hitKeys ts [] = [] := by
  rw [hitKeys_nil_iff]; intro t _ h; simp at h

theorem afterHits_nil_keys (dones : List (Done V)) : afterHits [] dones = [] := by
  simp [afterHits]

theorem finishStep_next (ops : ValOps V) (r : IRunner V S X) (stale : List (Key × X)) (c : CoreOut V S X)
    (ls' : LoopSt V S X) (h : finishStep ops r stale c = .next ls') :
    ∃ cm ts dones st, c = .next cm ts dones st ∧
      ls' = { cm := cm, tasks := mkTasks stale ts, st := st, stale := stale } ∧
      hitKeys ts r.intBefore = [] ∧ afterHits r.intAfter dones = [] := by
  cases c with
  | done v => cases h
  | fail e => cases h
  | sr cm restore subs reruns dones st => cases h
  | next cm ts dones st =>
    simp only [finishStep] at h
    split at h
    · rename_i hc
      simp only [Bool.and_eq_true, List.isEmpty_iff] at hc
      injection h with h
      exact ⟨cm, ts, dones, st, rfl, h.symm, hc.1, hc.2⟩
    · split at h <;> cases h

theorem mkTasks_keys (stale : List (Key × X)) (ts : List (Key × V)) :
    (mkTasks stale ts).map (·.key) = ts.map (·.1) := by
  simp [mkTasks]

theorem finishStep_next_noBefore (ops : ValOps V) (r : IRunner V S X) (stale : List (Key × X))
    (c : CoreOut V S X) (ls' : LoopSt V S X) (h : finishStep ops r stale c = .next ls') :
    (∀ t ∈ ls'.tasks, t.key ∉ r.intBefore) ∧ ls'.stale = stale := by
  obtain ⟨cm, ts, dones, st, _, rfl, hb, _⟩ := finishStep_next ops r stale c ls' h
  refine ⟨?_, rfl⟩
  intro t ht
  simp only [mkTasks, List.mem_map] at ht
  obtain ⟨p, hp, rfl⟩ := ht
  exact (hitKeys_nil_iff ts r.intBefore).1 hb p hp

def StepsAvoid (bs : List Key) (steps : List (List (Key × Bool))) : Prop :=
  ∀ ts ∈ steps, ∀ p ∈ ts, p.1 ∉ bs

theorem loopI_induct (ops : ValOps V) (r : IRunner V S X) (sched : ISched V S X) (isSub hasID : Bool)
    {P : LoopSt V S X → Out V S X → Prop}
    (hfuel : ∀ ls, P ls { res := .failed { cls := if r.base.dag then .fuel else .maxSteps }, evs := [] })
    (hdone : ∀ ls v, (stepI ops r sched ls).2 = .done v → P ls { res := .done v, evs := (stepI ops r sched ls).1 })
    (hfail : ∀ ls e, (stepI ops r sched ls).2 = .fail e → P ls { res := .failed e, evs := (stepI ops r sched ls).1 })
    (hintr : ∀ ls cp info, (stepI ops r sched ls).2 = .intr cp info →
      P ls { res := .interrupted cp info, evs := (stepI ops r sched ls).1 ++ intrEvs isSub hasID info })
    (hnext : ∀ ls ls' o, (stepI ops r sched ls).2 = .next ls' → P ls' o →
      P ls { res := o.res, evs := (stepI ops r sched ls).1 ++ o.evs }) :
    ∀ (fuel : Nat) (ls : LoopSt V S X), P ls (loopI ops r sched isSub hasID fuel ls)
  | 0, ls => hfuel ls
  | fuel + 1, ls => by
    unfold loopI
    split
    · exact hdone ls _ ‹_›
    · exact hfail ls _ ‹_›
    · exact hintr ls _ _ ‹_›
    · exact hnext ls _ _ ‹_› (loopI_induct ops r sched isSub hasID hfuel hdone hfail hintr hnext fuel _)

section
variable {ops : ValOps V} {r : IRunner V S X} {sched : ISched V S X} {isSub hasID : Bool} {n : Nat} {ls : LoopSt V S X}

theorem loopI_succ_done {v : V} (h : (stepI ops r sched ls).2 = .done v) :
    loopI ops r sched isSub hasID (n + 1) ls = { res := .done v, evs := (stepI ops r sched ls).1 } := by
  rw [loopI]; simp only [h]

theorem loopI_succ_fail {e : Err} (h : (stepI ops r sched ls).2 = .fail e) :
    loopI ops r sched isSub hasID (n + 1) ls = { res := .failed e, evs := (stepI ops r sched ls).1 } := by
  rw [loopI]; simp only [h]

theorem loopI_succ_intr {cp : Checkpoint V S X} {info : Info S X} (h : (stepI ops r sched ls).2 = .intr cp info) :
    loopI ops r sched isSub hasID (n + 1) ls =
      { res := .interrupted cp info, evs := (stepI ops r sched ls).1 ++ intrEvs isSub hasID info } := by
  rw [loopI]; simp only [h]

theorem loopI_succ_next {ls' : LoopSt V S X} (h : (stepI ops r sched ls).2 = .next ls') :
    loopI ops r sched isSub hasID (n + 1) ls =
      { res := (loopI ops r sched isSub hasID n ls').res,
        evs := (stepI ops r sched ls).1 ++ (loopI ops r sched isSub hasID n ls').evs } := by
  rw [loopI]; simp only [h]

end

theorem forall_mem_of_head_rest {α : Type} {P : α → Prop} {l : List α} {a : α}
    (h : l = [] ∨ ∃ rest, l = a :: rest ∧ ∀ x ∈ rest, P x) : (∀ x ∈ l.tail, P x) ∧ (P a → ∀ x ∈ l, P x) := by
  rcases h with rfl | ⟨rest, rfl, hr⟩
  · exact ⟨nofun, fun _ => nofun⟩
  · exact ⟨hr, fun ha => List.forall_mem_cons.2 ⟨ha, hr⟩⟩

theorem loopI_later_steps (ops : ValOps V) (r : IRunner V S X) (sched : ISched V S X) (isSub hasID : Bool)
    (Q : Key × Bool → Prop) (I : LoopSt V S X → Prop)
    (hQ : ∀ ls ls', I ls → (stepI ops r sched ls).2 = .next ls' → I ls' ∧ ∀ p ∈ stepTasks r ls', Q p) :
    ∀ (fuel : Nat) (ls : LoopSt V S X), I ls →
      topSteps (loopI ops r sched isSub hasID fuel ls).evs = [] ∨
      ∃ rest, topSteps (loopI ops r sched isSub hasID fuel ls).evs = stepTasks r ls :: rest ∧
        ∀ ts ∈ rest, ∀ p ∈ ts, Q p := by
  have hone : ∀ ls (evs : List (Ev V S X)), topSteps evs = [stepTasks r ls] →
      ∃ rest, topSteps evs = stepTasks r ls :: rest ∧ ∀ ts ∈ rest, ∀ p ∈ ts, Q p :=
    fun ls evs h => ⟨[], h, fun _ h => nomatch h⟩
  refine loopI_induct ops r sched isSub hasID
    (P := fun ls o => I ls → topSteps o.evs = [] ∨
      ∃ rest, topSteps o.evs = stepTasks r ls :: rest ∧ ∀ ts ∈ rest, ∀ p ∈ ts, Q p) (fun ls _ => Or.inl rfl)
    (fun ls v _ _ => Or.inr (hone ls _ (topSteps_stepI ops r sched ls)))
    (fun ls e _ _ => Or.inr (hone ls _ (topSteps_stepI ops r sched ls)))
    (fun ls cp info _ _ => Or.inr (hone ls _ (by rw [topSteps_append, topSteps_stepI, topSteps_intrEvs]; rfl))) ?_
  intro ls ls' o hnext ih hI
  obtain ⟨hI', hq⟩ := hQ ls ls' hI hnext
  exact Or.inr ⟨_, by rw [topSteps_append, topSteps_stepI]; rfl, (forall_mem_of_head_rest (ih hI')).2 hq⟩

theorem loopI_topSteps (ops : ValOps V) (r : IRunner V S X) (sched : ISched V S X) (isSub hasID : Bool) :
    ∀ (fuel : Nat) (ls : LoopSt V S X),
      topSteps (loopI ops r sched isSub hasID fuel ls).evs = [] ∨
      ∃ rest, topSteps (loopI ops r sched isSub hasID fuel ls).evs = stepTasks r ls :: rest ∧
        StepsAvoid r.intBefore rest := fun fuel ls =>
  loopI_later_steps ops r sched isSub hasID (fun p => p.1 ∉ r.intBefore) (fun _ => True)
    (fun ls ls' _ hnext => ⟨trivial, fun p hp => by
      rw [stepTasks_eq] at hp
      obtain ⟨t, ht, rfl⟩ := List.mem_map.1 hp
      exact (finishStep_next_noBefore ops r ls.stale _ ls' hnext).1 t ht⟩) fuel ls trivial

/-! ### the collected batch of a superstep

  `doneOf`, `rerunOf`, `subIntOf` sort the collected entries by kind, the post-handler pass `runPosts`
  keeps the kind of every entry; everything later uses the batch only through these memberships. -/

theorem mem_doneOf (coll : List (Key × TaskOut V X)) (k : Key) (o : V) :
    (k, o) ∈ doneOf coll ↔ (k, TaskOut.done o) ∈ coll := by
  induction coll with
  | nil => simp [doneOf]
  | cons p rest ih => obtain ⟨k', out⟩ := p; cases out <;> simp [doneOf, ih]

theorem mem_rerunOf (coll : List (Key × TaskOut V X)) (k : Key) :
    k ∈ rerunOf coll ↔ (k, TaskOut.rerun) ∈ coll := by
  induction coll with
  | nil => simp [rerunOf]
  | cons p rest ih => obtain ⟨k', out⟩ := p; cases out <;> simp [rerunOf, ih]

theorem mem_subIntOf (coll : List (Key × TaskOut V X)) (k : Key) (x : X) :
    (k, x) ∈ subIntOf coll ↔ (k, TaskOut.subInt x) ∈ coll := by
  induction coll with
  | nil => simp [subIntOf]
  | cons p rest ih => obtain ⟨k', out⟩ := p; cases out <;> simp [subIntOf, ih]

theorem mem_srKeys (coll : List (Key × TaskOut V X)) (k : Key) :
    k ∈ (coll.filter (fun o => o.2.isSR)).map (·.1) ↔ k ∈ rerunOf coll ∨ k ∈ (subIntOf coll).map (·.1) := by
  constructor
  · intro h
    obtain ⟨⟨k', out⟩, hm, rfl⟩ := List.mem_map.1 h
    obtain ⟨hm, hsr⟩ := List.mem_filter.1 hm
    cases out with
    | rerun => exact Or.inl ((mem_rerunOf _ _).2 hm)
    | subInt x => exact Or.inr (List.mem_map.2 ⟨(k', x), (mem_subIntOf _ _ _).2 hm, rfl⟩)
    | done o => cases hsr
    | fail e => cases hsr
  · rintro (h | h)
    · exact List.mem_map.2 ⟨(k, .rerun), List.mem_filter.2 ⟨(mem_rerunOf _ _).1 h, rfl⟩, rfl⟩
    · obtain ⟨⟨k', x⟩, hm, rfl⟩ := List.mem_map.1 h
      exact List.mem_map.2 ⟨(k', .subInt x), List.mem_filter.2 ⟨(mem_subIntOf _ _ _).1 hm, rfl⟩, rfl⟩

theorem firstFail_ne_none {coll : List (Key × TaskOut V X)} {k : Key} {e : Err}
    (h : (k, TaskOut.fail e) ∈ coll) : firstFail coll ≠ none := by
  induction coll with
  | nil => cases h
  | cons p rest ih =>
    obtain ⟨k', out⟩ := p
    cases out with
    | fail e' => simp [firstFail]
    | _ => exact ih (by simpa using h)

theorem postOne_done (r : IRunner V S X) (k : Key) (o : V) (s st : S) :
    ∃ o', (postOne r k (.done o s) st).1 = .done o' := by
  simp only [postOne]; split <;> exact ⟨_, rfl⟩

theorem mem_rerunOf_runPosts (r : IRunner V S X) (k : Key) : ∀ (l : List (Key × BodyRes V S X)) (st : S),
    k ∈ rerunOf (runPosts r l st).1 ↔ ∃ s, (k, BodyRes.rerun s) ∈ l
  | [], _ => by simp [runPosts, rerunOf]
  | (k', res) :: rest, st => by
    have ih := mem_rerunOf_runPosts r k rest
    cases res with
    | done o s => obtain ⟨o', ho⟩ := postOne_done r k' o s st; simp [runPosts, rerunOf, ho, ih]
    | _ => simp [runPosts, postOne, rerunOf, ih, exists_or]

theorem mem_subIntOf_runPosts (r : IRunner V S X) (k : Key) (p : X) : ∀ (l : List (Key × BodyRes V S X)) (st : S),
    (k, p) ∈ subIntOf (runPosts r l st).1 ↔ ∃ s, (k, BodyRes.subInt p s) ∈ l
  | [], _ => by simp [runPosts, subIntOf]
  | (k', res) :: rest, st => by
    have ih := mem_subIntOf_runPosts r k p rest
    cases res with
    | done o s => obtain ⟨o', ho⟩ := postOne_done r k' o s st; simp [runPosts, subIntOf, ho, ih]
    | _ => simp [runPosts, postOne, subIntOf, ih, exists_or]

theorem mem_runPosts_fail (r : IRunner V S X) (k : Key) (e : Err) : ∀ (l : List (Key × BodyRes V S X)) (st : S),
    (k, TaskOut.fail e) ∈ (runPosts r l st).1 ↔ ∃ s, (k, BodyRes.fail e s) ∈ l
  | [], _ => by simp [runPosts]
  | (k', res) :: rest, st => by
    have ih := mem_runPosts_fail r k e rest
    cases res with
    | done o s => obtain ⟨o', ho⟩ := postOne_done r k' o s st; simp [runPosts, ho, ih]
    | _ => simp [runPosts, postOne, ih, exists_or]

theorem done_mem_runPosts (r : IRunner V S X) (k : Key) (out : V) (s : S) : ∀ (l : List (Key × BodyRes V S X)) (st : S),
    (k, BodyRes.done out s) ∈ l → ∃ out', (k, TaskOut.done out') ∈ (runPosts r l st).1
  | (k', res) :: rest, st, h => by
    rcases List.mem_cons.1 h with h | h
    · obtain ⟨o', ho⟩ := postOne_done r k out s st
      exact ⟨o', by rw [← h]; simp [runPosts, ho]⟩
    · obtain ⟨o', hm⟩ := done_mem_runPosts r k out s rest _ h
      exact ⟨o', by simp only [runPosts]; exact List.mem_cons_of_mem _ hm⟩

theorem mem_runBodies (r : IRunner V S X) : ∀ (ts : List (Task V X)) (st : S) (x : Key × BodyRes V S X),
    x ∈ (runBodies r ts st).1 → ∃ t ∈ ts, ∃ st', x.1 = t.key ∧ x.2 = (bodyOne r t st').res := by
  intro ts
  induction ts with
  | nil => intro st x h; simp [runBodies] at h
  | cons t rest ih =>
    intro st x h
    simp only [runBodies, List.mem_cons] at h
    rcases h with rfl | h
    · exact ⟨t, by simp, st, rfl, rfl⟩
    · obtain ⟨t', ht', st', h1, h2⟩ := ih _ x h
      exact ⟨t', by simp [ht'], st', h1, h2⟩

theorem stepI_unfold (ops : ValOps V) (r : IRunner V S X) (sched : ISched V S X) (ls : LoopSt V S X) :
    stepI ops r sched ls =
      (Ev.step (stepTasks r ls) :: (runBodies r (runPres r ls.tasks ls.st).1 (runPres r ls.tasks ls.st).2).2.2,
       finishStep ops r ls.stale (coreOut ops r sched ls.cm
         (runBodies r (runPres r ls.tasks ls.st).1 (runPres r ls.tasks ls.st).2).1
         (runBodies r (runPres r ls.tasks ls.st).1 (runPres r ls.tasks ls.st).2).2.1)) := rfl

/-- the three ways `coreOut` goes, with what is known of the collected batch `coll` in each: a failure; a
    nested interrupt or rerun request (nobody failed); or `calculateNextTasks` on the completed tasks
    (nobody failed, interrupted inside or asked for a rerun) -/
theorem coreOut_cases (ops : ValOps V) (r : IRunner V S X) (sched : ISched V S X) (cm : Chans V)
    (bres : List (Key × BodyRes V S X)) (st2 : S) {coll : List (Key × TaskOut V X)} {st3 : S}
    (hp : runPosts r (sched bres) st2 = (coll, st3)) {P : CoreOut V S X → Prop}
    (hfail : ∀ e, P (.fail e))
    (hsr : ∀ cm', firstFail coll = none → subIntOf coll ≠ [] ∨ rerunOf coll ≠ [] →
      P (.sr cm' ((coll.filter (fun o => o.2.isSR)).map (·.1)) (subIntOf coll) (rerunOf coll) (doneOf coll) st3))
    (hget : ∀ cm' nx, firstFail coll = none → subIntOf coll = [] → rerunOf coll = [] →
      calcNext ops r.base cm (doneOf coll) = .ok (cm', nx) →
      P (match nx with | .result v => .done v | .tasks ts => .next cm' ts (doneOf coll) st3)) :
    P (coreOut ops r sched cm bres st2) := by
  unfold coreOut
  simp only [hp]
  cases hf : firstFail coll with
  | some e => exact hfail e
  | none =>
    simp only
    by_cases hc : subIntOf coll ≠ [] ∨ rerunOf coll ≠ []
    · rw [if_pos (by simpa [List.isEmpty_iff] using hc)]
      split
      · exact hfail _
      · exact hsr _ hf hc
    · rw [if_neg (by simpa [List.isEmpty_iff] using hc)]
      simp only [not_or, ne_eq, Decidable.not_not] at hc
      split
      · exact hfail _
      · split
        · exact hfail _
        · exact hget _ (.result _) hf hc.1 hc.2 ‹_›
        · exact hget _ (.tasks _) hf hc.1 hc.2 ‹_›

theorem coreOut_sr_parts (ops : ValOps V) (r : IRunner V S X) (sched : ISched V S X) (cm : Chans V)
    (bres : List (Key × BodyRes V S X)) (st2 : S) (cm' : Chans V) (restore : List Key) (subs : List (Key × X))
    (reruns : List Key) (dones : List (Done V)) (st : S)
    (h : coreOut ops r sched cm bres st2 = .sr cm' restore subs reruns dones st) :
    subs = subIntOf (runPosts r (sched bres) st2).1 ∧ reruns = rerunOf (runPosts r (sched bres) st2).1 ∧
    dones = doneOf (runPosts r (sched bres) st2).1 ∧
    restore = ((runPosts r (sched bres) st2).1.filter (fun o => o.2.isSR)).map (·.1) ∧
    (subs ≠ [] ∨ reruns ≠ []) := by
  revert h
  refine coreOut_cases ops r sched cm bres st2 rfl (P := fun c => c = .sr cm' restore subs reruns dones st → _)
    (fun _ h => nomatch h) (fun _ _ hne h => ?_) (fun _ nx _ _ _ _ h => by cases nx <;> cases h)
  cases h
  exact ⟨rfl, rfl, rfl, rfl, hne⟩

theorem coreOut_next_parts (ops : ValOps V) (r : IRunner V S X) (sched : ISched V S X) (cm : Chans V)
    (bres : List (Key × BodyRes V S X)) (st2 : S) (cm' : Chans V) (ts : List (Key × V)) (dones : List (Done V)) (st : S)
    (h : coreOut ops r sched cm bres st2 = .next cm' ts dones st) :
    dones = doneOf (runPosts r (sched bres) st2).1 ∧ st = (runPosts r (sched bres) st2).2 ∧
    subIntOf (runPosts r (sched bres) st2).1 = [] ∧ rerunOf (runPosts r (sched bres) st2).1 = [] ∧
    calcNext ops r.base cm dones = .ok (cm', .tasks ts) := by
  revert h
  refine coreOut_cases ops r sched cm bres st2 rfl (P := fun c => c = .next cm' ts dones st → _)
    (fun _ h => nomatch h) (fun _ _ _ h => nomatch h) (fun _ nx _ hs hr hcn h => ?_)
  cases nx with
  | result v => cases h
  | tasks ts' => cases h; exact ⟨rfl, rfl, hs, hr, hcn⟩

/-- the two ways a superstep ends in an interrupt: a node interrupted itself (sub-graph / rerun), or the
    tasks computed next hit interrupt-before / the completed ones interrupt-after -/
theorem finishStep_intr (ops : ValOps V) (r : IRunner V S X) (stale : List (Key × X)) (c : CoreOut V S X)
    (cp : Checkpoint V S X) (info : Info S X) (h : finishStep ops r stale c = .intr cp info) :
    (∃ cm restore subs reruns dones st, c = .sr cm restore subs reruns dones st ∧
      cp = { chans := cm, inputs := restore.map (fun k => (k, ops.zero)), skipPre := subs.map (·.1),
             state := st, subs := subs } ∧
      info = { state := st, after := afterHits r.intAfter dones, rerun := reruns, subs := subs }) ∨
    (∃ cm ts dones st cm2 ts2, c = .next cm ts dones st ∧
      (hitKeys ts r.intBefore ≠ [] ∨ afterHits r.intAfter dones ≠ []) ∧
      calcNext ops r.base cm [] = .ok (cm2, .tasks ts2) ∧ cp = simpleCP cm2 (ts ++ ts2) st ∧
      info = { state := st, before := hitKeys ts r.intBefore ++ hitKeys ts2 r.intBefore,
               after := afterHits r.intAfter dones }) := by
  cases c with
  | done v => cases h
  | fail e => cases h
  | sr cm restore subs reruns dones st =>
    injection h with h1 h2
    exact Or.inl ⟨_, _, _, _, _, _, rfl, h1.symm, h2.symm⟩
  | next cm ts dones st =>
    simp only [finishStep] at h
    by_cases hc : ((hitKeys ts r.intBefore).isEmpty && (afterHits r.intAfter dones).isEmpty) = true
    · rw [if_pos hc] at h; cases h
    · rw [if_neg hc] at h
      split at h
      · cases h
      · cases h
      · rename_i cm2 ts2 hcn
        injection h with h1 h2
        refine Or.inr ⟨_, _, _, _, cm2, ts2, rfl, ?_, hcn, h1.symm, h2.symm⟩
        rw [Bool.and_eq_true, List.isEmpty_iff, List.isEmpty_iff] at hc
        exact Decidable.not_and_iff_not_or_not.1 hc

/-- `k` is reported by the interrupt: in BeforeNodes, in RerunNodes, or as an interrupted nested graph -/
def Info.lists (i : Info S X) (k : Key) : Prop :=
  k ∈ i.before ∨ k ∈ i.rerun ∨ k ∈ i.subs.map (·.1)

/-- every interrupt-before node among the tasks a checkpoint restores was reported with the interrupt -/
def CPListed (bs : List Key) (cp : Checkpoint V S X) (info : Info S X) : Prop :=
  ∀ k ∈ cp.inputs.map (·.1), k ∈ bs → info.lists k

theorem sr_listed : ∀ (coll : List (Key × TaskOut V X)) (k : Key),
    k ∈ (coll.filter (fun o => o.2.isSR)).map (·.1) → k ∈ rerunOf coll ∨ k ∈ (subIntOf coll).map (·.1) :=
  fun coll k => (mem_srKeys coll k).1

theorem coreOut_sr_listed (ops : ValOps V) (r : IRunner V S X) (sched : ISched V S X) (cm : Chans V)
    (bres : List (Key × BodyRes V S X)) (st2 : S) (cm' : Chans V) (restore : List Key) (subs : List (Key × X))
    (reruns : List Key) (dones : List (Done V)) (st : S)
    (h : coreOut ops r sched cm bres st2 = .sr cm' restore subs reruns dones st) :
    ∀ k ∈ restore, k ∈ reruns ∨ k ∈ subs.map (·.1) := by
  obtain ⟨rfl, rfl, _, rfl, _⟩ := coreOut_sr_parts ops r sched cm bres st2 cm' restore subs reruns dones st h
  exact sr_listed _

theorem finishStep_intr_listed (ops : ValOps V) (r : IRunner V S X) (stale : List (Key × X))
    (c : CoreOut V S X) (cp : Checkpoint V S X) (info : Info S X)
    (hsr : ∀ cm restore subs reruns dones st, c = .sr cm restore subs reruns dones st →
      ∀ k ∈ restore, k ∈ reruns ∨ k ∈ subs.map (·.1))
    (h : finishStep ops r stale c = .intr cp info) : CPListed r.intBefore cp info := by
  intro k hk hb
  rcases finishStep_intr ops r stale c cp info h with
    ⟨cm, restore, subs, reruns, dones, st, rfl, rfl, rfl⟩ | ⟨cm, ts, dones, st, cm2, ts2, rfl, _, _, rfl, rfl⟩
  · have hk' : k ∈ restore := by simpa using hk
    exact Or.inr (hsr cm restore subs reruns dones st rfl k hk')
  · obtain ⟨p, hp, rfl⟩ := List.mem_map.1 hk
    exact Or.inl (hitKeys_append ts ts2 r.intBefore ▸ (mem_hitKeys (ts ++ ts2) r.intBefore p.1).2 ⟨⟨p.2, hp⟩, hb⟩)

theorem stepI_intr_listed (ops : ValOps V) (r : IRunner V S X) (sched : ISched V S X) (ls : LoopSt V S X)
    (cp : Checkpoint V S X) (info : Info S X) (h : (stepI ops r sched ls).2 = .intr cp info) :
    CPListed r.intBefore cp info := by
  apply finishStep_intr_listed ops r ls.stale _ cp info _ h
  intro cm restore subs reruns dones st hc
  exact coreOut_sr_listed ops r sched _ _ _ cm restore subs reruns dones st hc

theorem loopI_intr_from_step (ops : ValOps V) (r : IRunner V S X) (sched : ISched V S X) (isSub hasID : Bool) :
    ∀ (fuel : Nat) (ls : LoopSt V S X) (cp : Checkpoint V S X) (info : Info S X),
      (loopI ops r sched isSub hasID fuel ls).res = .interrupted cp info →
      ∃ ls', (stepI ops r sched ls').2 = .intr cp info :=
  loopI_induct ops r sched isSub hasID
    (P := fun _ o => ∀ cp info, o.res = .interrupted cp info → ∃ ls', (stepI ops r sched ls').2 = .intr cp info)
    (fun _ _ _ h => nomatch h) (fun _ _ _ _ _ h => nomatch h) (fun _ _ _ _ _ h => nomatch h)
    (fun ls _ _ hst cp info h => by cases h; exact ⟨ls, hst⟩) (fun _ _ _ _ ih => ih)

theorem loopI_intr_listed (ops : ValOps V) (r : IRunner V S X) (sched : ISched V S X) (isSub hasID : Bool) :
    ∀ (fuel : Nat) (ls : LoopSt V S X) (cp : Checkpoint V S X) (info : Info S X),
      (loopI ops r sched isSub hasID fuel ls).res = .interrupted cp info → CPListed r.intBefore cp info :=
  fun fuel ls cp info h =>
    let ⟨ls', hst⟩ := loopI_intr_from_step ops r sched isSub hasID fuel ls cp info h
    stepI_intr_listed ops r sched ls' cp info hst

/-- the four ways a call on a fresh input goes: the first `calculateNextTasks` fails, returns the result,
    yields tasks that hit the interrupt-before list (checked only under `initialTasksChecked`), or
    yields the tasks the loop starts with -/
theorem runI_fresh_cases (ops : ValOps V) (cfg : Cfg) (r : IRunner V S X) (sched : ISched V S X) (isSub hasID : Bool)
    (x : V) {P : Out V S X → Prop}
    (hfail : ∀ e, P { res := .failed e, evs := [] }) (hdone : ∀ v, P { res := .done v, evs := [] })
    (hintr : ∀ cm ts, calcNext ops r.base (initChans r.base) [(START, x)] = .ok (cm, .tasks ts) →
      cfg.initialTasksChecked = true → hitKeys ts r.intBefore ≠ [] →
      P { res := .interrupted (simpleCP cm ts r.initState) { state := r.initState, before := hitKeys ts r.intBefore },
          evs := intrEvs isSub hasID { state := r.initState, before := hitKeys ts r.intBefore } })
    (hloop : ∀ cm ts, calcNext ops r.base (initChans r.base) [(START, x)] = .ok (cm, .tasks ts) →
      (cfg.initialTasksChecked = true → hitKeys ts r.intBefore = []) →
      P (loopI ops r sched isSub hasID r.base.fuel { cm := cm, tasks := mkTasks [] ts, st := r.initState, stale := [] })) :
    P (runI ops cfg r sched isSub hasID (.inl x)) := by
  simp only [runI]
  split
  · exact hfail _
  · exact hdone _
  · rename_i cm ts hcn
    by_cases hc : cfg.initialTasksChecked = true ∧ hitKeys ts r.intBefore ≠ []
    · rw [if_pos (by simp [hc.1, hc.2])]
      exact hintr cm ts hcn hc.1 hc.2
    · rw [if_neg (by simpa [List.isEmpty_iff] using hc)]
      exact hloop cm ts hcn fun h => Decidable.not_not.1 fun hne => hc ⟨h, hne⟩

theorem runI_cases (ops : ValOps V) (cfg : Cfg) (r : IRunner V S X) (sched : ISched V S X) (isSub hasID : Bool)
    (inp : V ⊕ Checkpoint V S X) {P : Out V S X → Prop}
    (hfail : ∀ e, P { res := .failed e, evs := [] }) (hdone : ∀ v, P { res := .done v, evs := [] })
    (hintr : ∀ cm ts, hitKeys ts r.intBefore ≠ [] →
      P { res := .interrupted (simpleCP cm ts r.initState) { state := r.initState, before := hitKeys ts r.intBefore },
          evs := intrEvs isSub hasID { state := r.initState, before := hitKeys ts r.intBefore } })
    (hloop : ∀ ls, P (loopI ops r sched isSub hasID r.base.fuel ls)) : P (runI ops cfg r sched isSub hasID inp) := by
  cases inp with
  | inr cp => exact hloop _
  | inl x =>
    exact runI_fresh_cases ops cfg r sched isSub hasID x hfail hdone (fun cm ts _ _ => hintr cm ts) fun _ _ _ _ => hloop _

theorem runI_intr_listed (ops : ValOps V) (cfg : Cfg) (r : IRunner V S X) (sched : ISched V S X) (isSub hasID : Bool)
    (inp : V ⊕ Checkpoint V S X) (cp : Checkpoint V S X) (info : Info S X)
    (h : (runI ops cfg r sched isSub hasID inp).res = .interrupted cp info) : CPListed r.intBefore cp info := by
  revert h
  refine runI_cases ops cfg r sched isSub hasID inp
    (P := fun o => o.res = .interrupted cp info → CPListed r.intBefore cp info)
    (fun _ h => by cases h) (fun _ h => by cases h) ?_
    (fun _ h => loopI_intr_listed ops r sched isSub hasID _ _ cp info h)
  intro cm ts _ h k hk hb
  cases h
  obtain ⟨p, hp, rfl⟩ := List.mem_map.1 hk
  exact Or.inl ((mem_hitKeys ts r.intBefore p.1).2 ⟨⟨p.2, hp⟩, hb⟩)

/-- One call honours interrupt-before relative to what the previous call (if any) reported: an
    interrupt-before node is submitted only in the very first superstep of the call, and only if the
    previous call's interrupt listed it. -/
def GoodCall (bs : List Key) (prev : Option (Info S X)) (o : Out V S X) : Prop :=
  ∀ (j : Nat) (ts : List (Key × Bool)), (topSteps o.evs)[j]? = some ts → ∀ p ∈ ts, p.1 ∈ bs →
    j = 0 ∧ ∃ info, prev = some info ∧ info.lists p.1

theorem goodCall_of_avoid (bs : List Key) (prev : Option (Info S X)) (o : Out V S X)
    (h : StepsAvoid bs (topSteps o.evs)) : GoodCall bs prev o := by
  intro j ts hj p hp hb
  exact absurd hb (h ts (List.mem_of_getElem? hj) p hp)

theorem runI_fresh_avoid (ops : ValOps V) (cfg : Cfg) (r : IRunner V S X) (sched : ISched V S X) (isSub hasID : Bool)
    (hcfg : cfg.initialTasksChecked = true) (x : V) :
    StepsAvoid r.intBefore (topSteps (runI ops cfg r sched isSub hasID (.inl x)).evs) := by
  refine runI_fresh_cases ops cfg r sched isSub hasID x (P := fun o => StepsAvoid r.intBefore (topSteps o.evs))
    (fun _ _ h => nomatch h) (fun _ _ h => nomatch h)
    (fun _ _ _ _ _ => by rw [topSteps_intrEvs]; exact fun _ h => nomatch h) ?_
  intro cm ts _ hhit
  refine (forall_mem_of_head_rest (loopI_topSteps ops r sched isSub hasID r.base.fuel
    { cm := cm, tasks := mkTasks [] ts, st := r.initState, stale := [] })).2 fun p hp => ?_
  rw [stepTasks_eq] at hp
  simp only [mkTasks, List.map_map, List.mem_map] at hp
  obtain ⟨q, hq, rfl⟩ := hp
  exact (hitKeys_nil_iff ts r.intBefore).1 (hhit hcfg) q hq

theorem runI_resumed_good (ops : ValOps V) (cfg : Cfg) (r : IRunner V S X) (sched : ISched V S X) (isSub hasID : Bool)
    (cp : Checkpoint V S X) (info : Info S X) (hl : CPListed r.intBefore cp info) :
    GoodCall r.intBefore (some info) (runI ops cfg r sched isSub hasID (.inr cp)) := by
  intro j ts hj p hp hb
  simp only [runI] at hj
  rcases loopI_topSteps ops r sched isSub hasID r.base.fuel (restore cfg r cp) with h0 | ⟨rest, hr, havoid⟩
  · rw [h0] at hj; simp at hj
  · rw [hr] at hj
    cases j with
    | succ j' =>
      simp only [List.getElem?_cons_succ] at hj
      exact absurd hb (havoid ts (List.mem_of_getElem? hj) p hp)
    | zero =>
      simp only [List.getElem?_cons_zero, Option.some.injEq] at hj
      subst hj
      refine ⟨rfl, info, rfl, ?_⟩
      rw [stepTasks_eq] at hp
      simp only [restore, restoreTasks, List.map_map, List.mem_map] at hp
      obtain ⟨q, hq, rfl⟩ := hp
      exact hl q.1 (List.mem_map.2 ⟨q, hq, rfl⟩) hb

def Res.info? : Res V S X → Option (Info S X)
  | .interrupted _ i => some i
  | _ => none

def HistOK (bs : List Key) : Option (Info S X) → List (Out V S X) → Prop
  | _, [] => True
  | prev, o :: rest => GoodCall bs prev o ∧ HistOK bs o.res.info? rest

theorem resumeLoop_histOK (ops : ValOps V) (cfg : Cfg) (r : IRunner V S X) (sched : ISched V S X)
    (hcfg : cfg.initialTasksChecked = true) :
    ∀ (n : Nat) (inp : V ⊕ Checkpoint V S X) (prev : Option (Info S X)),
      (∀ cp, inp = .inr cp → ∃ info, prev = some info ∧ CPListed r.intBefore cp info) →
      HistOK r.intBefore prev (resumeLoop ops cfg r sched n inp) := by
  intro n
  induction n with
  | zero => intro inp prev _; simp [resumeLoop, HistOK]
  | succ m ih =>
    intro inp prev hin
    have hgood : GoodCall r.intBefore prev (runI ops cfg r sched false true inp) := by
      cases inp with
      | inl x => exact goodCall_of_avoid _ _ _ (runI_fresh_avoid ops cfg r sched false true hcfg x)
      | inr cp =>
        obtain ⟨info, rfl, hl⟩ := hin cp rfl
        exact runI_resumed_good ops cfg r sched false true cp info hl
    unfold resumeLoop
    simp only
    split
    · rename_i cp info hres
      refine ⟨hgood, ?_⟩
      apply ih
      intro cp' hcp'
      injection hcp' with hcp'
      subst hcp'
      exact ⟨info, by simp [hres, Res.info?], runI_intr_listed ops cfg r sched false true inp cp info hres⟩
    · exact ⟨hgood, trivial⟩

theorem stepI_evs_obs (ops : ValOps V) (r : IRunner V S X) (sched : ISched V S X) (ls : LoopSt V S X) :
    ∀ e ∈ (stepI ops r sched ls).1, e.isObs = true := by
  intro e he
  rw [stepI_evs] at he
  simp only [List.mem_cons] at he
  rcases he with rfl | he
  · rfl
  · have := bodyEvs_body r ls e he
    cases e <;> simp_all [Ev.isBody, Ev.isObs]

theorem mem_intrEvs_interrupt (isSub hasID : Bool) (info info' : Info S X) :
    Ev.interrupt info' ∈ intrEvs (V := V) isSub hasID info ↔ info' = info := by
  unfold intrEvs; split <;> simp

theorem mem_intrEvs_store (isSub hasID : Bool) (info : Info S X) :
    Ev.storeSet ∈ intrEvs (V := V) isSub hasID info ↔ (isSub = false ∧ hasID = true) := by
  unfold intrEvs; cases isSub <;> cases hasID <;> simp

theorem loopI_interrupt_mem (ops : ValOps V) (r : IRunner V S X) (sched : ISched V S X) (isSub hasID : Bool) :
    ∀ (fuel : Nat) (ls : LoopSt V S X) (info : Info S X),
      Ev.interrupt info ∈ (loopI ops r sched isSub hasID fuel ls).evs ↔
        ∃ cp, (loopI ops r sched isSub hasID fuel ls).res = .interrupted cp info := by
  have hno : ∀ ls info, Ev.interrupt info ∉ (stepI ops r sched ls).1 :=
    fun ls info h => nomatch stepI_evs_obs ops r sched ls _ h
  refine loopI_induct ops r sched isSub hasID
    (P := fun _ o => ∀ info, Ev.interrupt info ∈ o.evs ↔ ∃ cp, o.res = .interrupted cp info)
    (fun _ _ => by simp) (fun ls _ _ info => by simp [hno ls]) (fun ls _ _ info => by simp [hno ls]) ?_ ?_
  · intro ls cp' info' _ info
    simp only [List.mem_append, hno ls, false_or, mem_intrEvs_interrupt]
    exact ⟨fun h => ⟨cp', by rw [h]⟩, fun ⟨cp, h⟩ => by cases h; rfl⟩
  · intro ls ls' o _ ih info
    simp only [List.mem_append, hno ls, false_or]
    exact ih info

theorem loopI_store_mem (ops : ValOps V) (r : IRunner V S X) (sched : ISched V S X) (isSub hasID : Bool) :
    ∀ (fuel : Nat) (ls : LoopSt V S X),
      Ev.storeSet ∈ (loopI ops r sched isSub hasID fuel ls).evs ↔
        (isSub = false ∧ hasID = true ∧ ∃ cp info, (loopI ops r sched isSub hasID fuel ls).res = .interrupted cp info) := by
  have hno : ∀ ls, Ev.storeSet ∉ (stepI ops r sched ls).1 :=
    fun ls h => nomatch stepI_evs_obs ops r sched ls _ h
  refine loopI_induct ops r sched isSub hasID
    (P := fun _ o => Ev.storeSet ∈ o.evs ↔ (isSub = false ∧ hasID = true ∧ ∃ cp info, o.res = .interrupted cp info))
    (fun _ => by simp) (fun ls _ _ => by simp [hno ls]) (fun ls _ _ => by simp [hno ls]) ?_ ?_
  · intro ls cp' info' _
    simp only [List.mem_append, hno ls, false_or, mem_intrEvs_store]
    exact ⟨fun ⟨h1, h2⟩ => ⟨h1, h2, cp', info', rfl⟩, fun ⟨h1, h2, _⟩ => ⟨h1, h2⟩⟩
  · intro ls ls' o _ ih
    simp only [List.mem_append, hno ls, false_or]
    exact ih

def SchedKeeps (sched : ISched V S X) : Prop := ∀ l x, x ∈ l → x ∈ sched l

theorem finish_mem_runBodies (r : IRunner V S X) (ts : List (Task V X)) (st : S) (k : Key)
    (h : Ev.finish k ∈ (runBodies r ts st).2.2) : ∃ out s, (k, BodyRes.done out s) ∈ (runBodies r ts st).1 := by
  obtain ⟨t, _, st', he, hm⟩ := mem_runBodies_evs r ts st _ h
  rcases (mem_taskEvs t _ _).1 he with he | ⟨_, he⟩ | ⟨⟨out, s, hres⟩, he⟩
  · cases he
  · cases he
  · cases he
    exact ⟨out, s, hres ▸ hm⟩

theorem coreOut_next_dones (ops : ValOps V) (r : IRunner V S X) (sched : ISched V S X) (cm : Chans V)
    (bres : List (Key × BodyRes V S X)) (st2 : S) (cm' : Chans V) (ts : List (Key × V)) (dones : List (Done V)) (st : S)
    (h : coreOut ops r sched cm bres st2 = .next cm' ts dones st) :
    dones = doneOf (runPosts r (sched bres) st2).1 :=
  (coreOut_next_parts ops r sched cm bres st2 cm' ts dones st h).1

theorem afterHits_nil_iff (A : List Key) (dones : List (Done V)) :
    afterHits A dones = [] ↔ ∀ k ∈ dones.map (·.1), k ∉ A := by
  unfold afterHits
  rw [List.filter_eq_nil_iff]
  simp

theorem finish_mem_doneOf (ops : ValOps V) (r : IRunner V S X) (sched : ISched V S X) (hs : SchedKeeps sched)
    (ls : LoopSt V S X) (k : Key) (hk : Ev.finish k ∈ (stepI ops r sched ls).1) :
    k ∈ (doneOf (runPosts r (sched (runBodies r (runPres r ls.tasks ls.st).1 (runPres r ls.tasks ls.st).2).1)
      (runBodies r (runPres r ls.tasks ls.st).1 (runPres r ls.tasks ls.st).2).2.1).1).map (·.1) := by
  rw [stepI_unfold] at hk
  rcases List.mem_cons.1 hk with hk | hk
  · cases hk
  · obtain ⟨out, s, hm⟩ := finish_mem_runBodies r _ _ k hk
    obtain ⟨out', hp⟩ := done_mem_runPosts r k out s _ _ (hs _ _ hm)
    exact List.mem_map.2 ⟨(k, out'), (mem_doneOf _ k out').2 hp, rfl⟩

theorem stepI_next_no_after (ops : ValOps V) (r : IRunner V S X) (sched : ISched V S X) (hs : SchedKeeps sched)
    (ls ls' : LoopSt V S X) (h : (stepI ops r sched ls).2 = .next ls') :
    ∀ k, Ev.finish k ∈ (stepI ops r sched ls).1 → k ∉ r.intAfter := by
  intro k hk
  obtain ⟨cm, ts, dones, st, hc, _, _, hafter⟩ := finishStep_next ops r ls.stale _ ls' h
  have hd := finish_mem_doneOf ops r sched hs ls k hk
  rw [← (coreOut_next_parts ops r sched _ _ _ cm ts dones st hc).1] at hd
  exact (afterHits_nil_iff r.intAfter dones).1 hafter k hd

/-- after a `finish k` with `k` an interrupt-after node, the call submits no further superstep -/
def NoStepAfter (A : List Key) : List (Ev V S X) → Prop
  | [] => True
  | .finish k :: rest => (k ∈ A → topSteps rest = []) ∧ NoStepAfter A rest
  | _ :: rest => NoStepAfter A rest

theorem noStepAfter_of_noSteps (A : List Key) : ∀ (l : List (Ev V S X)), (∀ e ∈ l, ∀ ts, e ≠ Ev.step ts) → NoStepAfter A l := by
  intro l
  induction l with
  | nil => intro _; trivial
  | cons e rest ih =>
    intro h
    have hr : ∀ e ∈ rest, ∀ ts, e ≠ Ev.step ts := fun e' h' => h e' (List.mem_cons_of_mem _ h')
    cases e with
    | finish k => exact ⟨fun _ => topSteps_eq_nil rest fun ts hm => hr _ hm ts rfl, ih hr⟩
    | _ => exact ih hr

theorem noStepAfter_append (A : List Key) : ∀ (l1 l2 : List (Ev V S X)),
    NoStepAfter A l1 → NoStepAfter A l2 → ((∃ k, k ∈ A ∧ Ev.finish k ∈ l1) → topSteps l2 = []) →
    NoStepAfter A (l1 ++ l2) := by
  intro l1
  induction l1 with
  | nil => intro l2 _ h2 _; simpa using h2
  | cons e rest ih =>
    intro l2 h1 h2 h3
    have h3' : (∃ k, k ∈ A ∧ Ev.finish k ∈ rest) → topSteps l2 = [] := by
      rintro ⟨k, hk, hm⟩; exact h3 ⟨k, hk, by simp [hm]⟩
    cases e with
    | finish k =>
      simp only [NoStepAfter] at h1
      simp only [List.cons_append, NoStepAfter]
      refine ⟨?_, ih l2 h1.2 h2 h3'⟩
      intro hk
      rw [topSteps_append, h1.1 hk, h3 ⟨k, hk, by simp⟩]; rfl
    | _ => simp only [NoStepAfter] at h1; simpa [NoStepAfter] using ih l2 h1 h2 h3'

theorem noStepAfter_split (A : List Key) : ∀ (l1 l2 : List (Ev V S X)) (k : Key),
    NoStepAfter A (l1 ++ Ev.finish k :: l2) → k ∈ A → topSteps l2 = [] := by
  intro l1
  induction l1 with
  | nil => intro l2 k h hk; simp only [List.nil_append, NoStepAfter] at h; exact h.1 hk
  | cons e rest ih =>
    intro l2 k h hk
    cases e <;> simp only [List.cons_append, NoStepAfter] at h
    case finish k' => exact ih l2 k h.2 hk
    all_goals exact ih l2 k h hk

theorem stepI_noStepAfter (ops : ValOps V) (r : IRunner V S X) (sched : ISched V S X) (ls : LoopSt V S X) (A : List Key) :
    NoStepAfter A (stepI ops r sched ls).1 := by
  rw [stepI_evs]
  simp only [NoStepAfter]
  apply noStepAfter_of_noSteps
  intro e he ts heq
  have := bodyEvs_body r ls e he
  subst heq
  simp [Ev.isBody] at this

theorem intrEvs_noStepAfter (isSub hasID : Bool) (info : Info S X) (A : List Key) :
    NoStepAfter A (intrEvs (V := V) isSub hasID info) := by
  unfold intrEvs; split <;> simp [NoStepAfter]

theorem loopI_noStepAfter (ops : ValOps V) (r : IRunner V S X) (sched : ISched V S X) (isSub hasID : Bool)
    (hs : SchedKeeps sched) :
    ∀ (fuel : Nat) (ls : LoopSt V S X), NoStepAfter r.intAfter (loopI ops r sched isSub hasID fuel ls).evs :=
  loopI_induct ops r sched isSub hasID (P := fun _ o => NoStepAfter r.intAfter o.evs)
    (fun _ => trivial) (fun ls _ _ => stepI_noStepAfter ops r sched ls _) (fun ls _ _ => stepI_noStepAfter ops r sched ls _)
    (fun ls _ _ _ => noStepAfter_append _ _ _ (stepI_noStepAfter ops r sched ls _) (intrEvs_noStepAfter _ _ _ _)
      (fun _ => topSteps_intrEvs _ _ _))
    (fun ls ls' _ hnext ih => noStepAfter_append _ _ _ (stepI_noStepAfter ops r sched ls _) ih
      (fun ⟨k, hk, hm⟩ => absurd hk (stepI_next_no_after ops r sched hs ls ls' hnext k hm)))

theorem coreOut_sr_dones (ops : ValOps V) (r : IRunner V S X) (sched : ISched V S X) (cm : Chans V)
    (bres : List (Key × BodyRes V S X)) (st2 : S) (cm' : Chans V) (restore : List Key) (subs : List (Key × X))
    (reruns : List Key) (dones : List (Done V)) (st : S)
    (h : coreOut ops r sched cm bres st2 = .sr cm' restore subs reruns dones st) :
    dones = doneOf (runPosts r (sched bres) st2).1 :=
  (coreOut_sr_parts ops r sched cm bres st2 cm' restore subs reruns dones st h).2.2.1

theorem mem_afterHits (A : List Key) (dones : List (Done V)) (k : Key) :
    k ∈ afterHits A dones ↔ k ∈ dones.map (·.1) ∧ k ∈ A := by
  unfold afterHits
  simp [List.mem_filter]

theorem stepI_intr_after (ops : ValOps V) (r : IRunner V S X) (sched : ISched V S X) (hs : SchedKeeps sched)
    (ls : LoopSt V S X) (cp : Checkpoint V S X) (info : Info S X) (h : (stepI ops r sched ls).2 = .intr cp info) :
    ∀ k, Ev.finish k ∈ (stepI ops r sched ls).1 → k ∈ r.intAfter → k ∈ info.after := by
  intro k hk hA
  have hd := finish_mem_doneOf ops r sched hs ls k hk
  rcases finishStep_intr ops r ls.stale _ cp info h with
    ⟨cm, restore, subs, reruns, dones, st, hc, _, rfl⟩ | ⟨cm, ts, dones, st, cm2, ts2, hc, _, _, _, rfl⟩
  · rw [← (coreOut_sr_parts ops r sched _ _ _ cm restore subs reruns dones st hc).2.2.1] at hd
    exact (mem_afterHits r.intAfter dones k).2 ⟨hd, hA⟩
  · rw [← (coreOut_next_parts ops r sched _ _ _ cm ts dones st hc).1] at hd
    exact (mem_afterHits r.intAfter dones k).2 ⟨hd, hA⟩

theorem runI_noStepAfter (ops : ValOps V) (cfg : Cfg) (r : IRunner V S X) (sched : ISched V S X) (isSub hasID : Bool)
    (hs : SchedKeeps sched) (inp : V ⊕ Checkpoint V S X) :
    NoStepAfter r.intAfter (runI ops cfg r sched isSub hasID inp).evs :=
  runI_cases ops cfg r sched isSub hasID inp (P := fun o => NoStepAfter r.intAfter o.evs)
    (fun _ => trivial) (fun _ => trivial) (fun _ _ _ => intrEvs_noStepAfter _ _ _ _)
    (loopI_noStepAfter ops r sched isSub hasID hs _)

theorem runI_interrupt_mem (ops : ValOps V) (cfg : Cfg) (r : IRunner V S X) (sched : ISched V S X) (isSub hasID : Bool)
    (inp : V ⊕ Checkpoint V S X) (info : Info S X) :
    Ev.interrupt info ∈ (runI ops cfg r sched isSub hasID inp).evs ↔
      ∃ cp, (runI ops cfg r sched isSub hasID inp).res = .interrupted cp info := by
  refine runI_cases ops cfg r sched isSub hasID inp
    (P := fun o => Ev.interrupt info ∈ o.evs ↔ ∃ cp, o.res = .interrupted cp info)
    (fun _ => ⟨fun h => (nomatch h), fun ⟨_, h⟩ => by cases h⟩) (fun _ => ⟨fun h => (nomatch h), fun ⟨_, h⟩ => by cases h⟩)
    (fun _ _ _ => ?_) (fun _ => loopI_interrupt_mem ops r sched isSub hasID _ _ info)
  rw [mem_intrEvs_interrupt]
  exact ⟨fun h => h ▸ ⟨_, rfl⟩, fun ⟨_, h⟩ => by injection h with _ h2; exact h2.symm⟩

theorem runI_store_mem (ops : ValOps V) (cfg : Cfg) (r : IRunner V S X) (sched : ISched V S X) (isSub hasID : Bool)
    (inp : V ⊕ Checkpoint V S X) :
    Ev.storeSet ∈ (runI ops cfg r sched isSub hasID inp).evs ↔
      (isSub = false ∧ hasID = true ∧ ∃ cp info, (runI ops cfg r sched isSub hasID inp).res = .interrupted cp info) := by
  refine runI_cases ops cfg r sched isSub hasID inp
    (P := fun o => Ev.storeSet ∈ o.evs ↔ (isSub = false ∧ hasID = true ∧ ∃ cp info, o.res = .interrupted cp info))
    (fun _ => ⟨fun h => (nomatch h), fun ⟨_, _, _, _, h⟩ => by cases h⟩)
    (fun _ => ⟨fun h => (nomatch h), fun ⟨_, _, _, _, h⟩ => by cases h⟩)
    (fun _ _ _ => ?_) (loopI_store_mem ops r sched isSub hasID _)
  rw [mem_intrEvs_store]
  exact ⟨fun ⟨h1, h2⟩ => ⟨h1, h2, _, _, rfl⟩, fun ⟨h1, h2, _⟩ => ⟨h1, h2⟩⟩

/-- in every call, only the first superstep can contain an interrupt-before node (whatever the
    source does with the tasks computed from START) -/
theorem runI_later_steps_avoid (ops : ValOps V) (cfg : Cfg) (r : IRunner V S X) (sched : ISched V S X) (isSub hasID : Bool)
    (inp : V ⊕ Checkpoint V S X) :
    StepsAvoid r.intBefore (topSteps (runI ops cfg r sched isSub hasID inp).evs).tail := by
  refine runI_cases ops cfg r sched isSub hasID inp (P := fun o => StepsAvoid r.intBefore (topSteps o.evs).tail)
    (fun _ _ h => nomatch h) (fun _ _ h => nomatch h)
    (fun _ _ _ => by rw [topSteps_intrEvs]; exact fun _ h => nomatch h)
    fun ls => (forall_mem_of_head_rest (loopI_topSteps ops r sched isSub hasID r.base.fuel ls)).1

end EinoV.Interrupt
