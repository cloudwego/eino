/-
  gotrans phase 7 — `concatToolCalls` (schema/message.go, translated on every run into Gen/TransC14.lean)
  computes the specification `concatTC` (Model/C14.lean) whatever the order in which the map of index groups
  is visited (the final stable sort undoes it: `sortStable_merged`), hence the model's code-level function
  `concatTCGo` for every such order (`concatTCGo_eq`, Props/C14 `toolcalls_any_map_order`).
  This file imports no other translated unit.
-/
import EinoV.Gen.TransC14
import EinoV.Model.C14
import EinoV.Proofs.C14
import EinoV.Proofs.C14Sort
import EinoV.Proofs.GoLoop
import EinoV.Proofs.GoMapK
namespace EinoV.TransC14
open EinoV.GoSem EinoV.Gen.TransC14 EinoV.C14
variable {V : Type} [Inhabited V]
set_option linter.unusedSectionVars false

inductive ListRel {α β : Type} (R : α → β → Prop) : List α → List β → Prop
  | nil : ListRel R [] []
  | cons {a b as bs} : R a b → ListRel R as bs → ListRel R (a :: as) (b :: bs)

/-- the model's tool call as the Go struct; `ex` gives the opaque rest (`Extra`) -/
def enc (ex : Nat → GoMap V) (c : TC) : ToolCall V :=
  { Index := c.index, ID := c.id, Type_ := c.type, Function := { Name := c.name, Arguments := c.args }, Extra := ex c.extra }

theorem less_spec (ext : Ext V) (tcext : TCExt) (ex : Nat → GoMap V) (a b : TC) :
    concatToolCalls__less ext tcext (enc ex a) (enc ex b) = .ret (tcLess a b) := by
  unfold concatToolCalls__less tcLess enc
  cases ha : a.index <;> cases hb : b.index <;> simp [Id.run, pure]

theorem goIns_map (ext : Ext V) (tcext : TCExt) (ex : Nat → GoMap V) (x : TC) (l : List TC) :
    goInsStable (fun a b => (concatToolCalls__less ext tcext a b).getD false) (enc ex x) (l.map (enc ex))
      = (insStable x l).map (enc ex) := by
  induction l with
  | nil => rfl
  | cons y ys ih =>
    have ht : (concatToolCalls__less ext tcext (enc ex y) (enc ex x)).getD false = tcLess y x := by
      rw [less_spec]; rfl
    simp only [List.map_cons, goInsStable, insStable, ht]
    by_cases h : tcLess y x = true
    · simp only [h, if_true, ih, List.map_cons]
    · simp only [h, Bool.false_eq_true, if_false, List.map_cons]

theorem sortS_map (ext : Ext V) (tcext : TCExt) (ex : Nat → GoMap V) (l : List TC) :
    goSortSliceStable (l.map (enc ex)) (fun a b => (concatToolCalls__less ext tcext a b).getD false)
      = (sortStable l).map (enc ex) := by
  unfold goSortSliceStable sortStable
  induction l with
  | nil => rfl
  | cons x xs ih => simp only [List.map_cons, List.foldr_cons, ih, goIns_map]

theorem sort_spec (ext : Ext V) (tcext : TCExt) (ex : Nat → GoMap V) (l : List TC) :
    goSortSliceStable? (l.map (enc ex)) (fun a b => concatToolCalls__less ext tcext a b)
      = some ((sortStable l).map (enc ex)) := by
  unfold goSortSliceStable?
  have hall : ((l.map (enc ex)).all fun a => (l.map (enc ex)).all fun b =>
      (concatToolCalls__less ext tcext a b).isRet) = true := by
    simp only [List.all_eq_true, List.mem_map]
    rintro _ ⟨a, _, rfl⟩ _ ⟨b, _, rfl⟩
    rw [less_spec]; rfl
  simp only [hall, if_true, Option.some.injEq]
  exact sortS_map ext tcext ex l

theorem sortStable_short (l : List TC) (h : l.length ≤ 1) : sortStable l = l := by
  cases l with
  | nil => rfl
  | cons a t =>
    cases t with
    | nil => rfl
    | cons b t' => simp at h

abbrev RT (V : Type) := GoOutcome (List (ToolCall V) × Option GoErr)
abbrev S4 := String × String × String × String
abbrev ASt (V : Type) := Option (RT V) × List (ToolCall V) × GoMapK Int (List Int)
abbrev BSt (V : Type) := Option (RT V) × List (ToolCall V) × String
abbrev CSt (V : Type) := Option (RT V) × S4

def E1 : RT V := GoOutcome.ret ([], some (GoErr.mk "cannot concat ToolCalls with different tool id: '%s' '%s'"))
def E2 : RT V := GoOutcome.ret ([], some (GoErr.mk "cannot concat ToolCalls with different tool type: '%s' '%s'"))
def E3 : RT V := GoOutcome.ret ([], some (GoErr.mk "cannot concat ToolCalls with different tool name: '%s' '%s'"))

def IsConflict (r : RT V) : Prop := r = E1 ∨ r = E2 ∨ r = E3

/-- `if x != "" { if acc == "" { acc = x } else if acc != x { return conflict } }`, then the rest `k` of the
    body with the new `acc` -/
def pickThen {β : Type} (acc x : String) (conflict : β) (k : String → β) : β :=
  if (x != "") = true then
    if (acc == "") = true then k x else if (acc != x) = true then conflict else k acc
  else k acc

/-- body of `for i := range chunks` -/
def stepA (chunks : List (ToolCall V)) (i : Int) (s : ASt V) : ForInStep (ASt V) :=
  match goIdx? chunks i with
  | some x1 =>
    if (x1.Index == none) = true then
      match goIdx? chunks i with
      | some x2 => .yield (none, s.2.1 ++ [x2], s.2.2)
      | _ => .done (some .panic, s.2)
    else
      match x1.Index with
      | some d3 =>
        match x1.Index with
        | some d4 => .yield (none, s.2.1, s.2.2.set d4 (s.2.2.getD' d3 [] ++ [i]))
        | _ => .done (some .panic, s.2)
      | _ => .done (some .panic, s.2)
  | _ => .done (some .panic, s.2)

/-- body of `for _, n := range v`; the state is (args, toolID, toolType, toolName) -/
def stepC (chunks : List (ToolCall V)) (n : Int) (s : CSt V) : ForInStep (CSt V) :=
  match goIdx? chunks n with
  | some c =>
    pickThen s.2.2.1 c.ID (.done (some E1, s.2)) fun i =>
    pickThen s.2.2.2.1 c.Type_ (.done (some E2, s.2.1, i, s.2.2.2)) fun t =>
    pickThen s.2.2.2.2 c.Function.Name (.done (some E3, s.2.1, i, t, s.2.2.2.2)) fun nm =>
    if (c.Function.Arguments != "") = true then .yield (none, s.2.1 ++ c.Function.Arguments, i, t, nm)
    else .yield (none, s.2.1, i, t, nm)
  | _ => .done (some .panic, s.2)

/-- body of `for k, v := range m` -/
def stepB (chunks : List (ToolCall V)) (x : Int × List Int) (s : BSt V) : ForInStep (BSt V) :=
  match x with
  | (k, v) =>
    let rest := fun (tc : ToolCall V) =>
      let r := goLoop (stepC chunks) v (none, "", "", "", "")
      onReturn r.1 (fun e => ForInStep.done (some e, s.2.1, r.2.1))
        (ForInStep.yield (none, s.2.1 ++
          [{ tc with ID := r.2.2.1, Type_ := r.2.2.2.1, Function := { Name := r.2.2.2.2, Arguments := r.2.1 } }],
          r.2.1))
    if decide ((v.length : Int) > 0) = true then
      match goIdx? v 0 with
      | some x5 =>
        match goIdx? chunks x5 with
        | some x6 => rest x6
        | _ => .done (some .panic, s.2)
      | _ => .done (some .panic, s.2)
    else rest { Index := some k, ID := "", Type_ := "", Function := default, Extra := [] }

def goShape (ext : Ext V) (tcext : TCExt) (chunks : List (ToolCall V)) : RT V :=
  let a := goLoop (stepA chunks) (goIndices chunks) (none, [], [])
  onReturn a.1 id <|
    let b := goLoop (stepB chunks) (tcext.rangeOrder a.2.2) (none, a.2.1, "")
    onReturn b.1 id <|
      if decide ((b.2.1.length : Int) > 1) = true then
        match goSortSliceStable? b.2.1 (fun a b => concatToolCalls__less ext tcext a b) with
        | some s => .ret (s, none)
        | _ => .panic
      else .ret (b.2.1, none)

/-- The translated text is `goShape` up to unfolding: the `do` block's join points and mutable variables are
    those of the three bodies above.  (`simp` must not inline the join points: the text would grow by a factor
    of 27; one pass is enough to turn every `forIn` into `goLoop`.) -/
theorem concatToolCalls_shape (ext : Ext V) (tcext : TCExt) (chunks : List (ToolCall V)) :
    concatToolCalls ext tcext chunks = goShape ext tcext chunks := by
  unfold concatToolCalls
  simp -zeta +singlePass only [forIn_id]
  rfl

def goPick (acc x : String) : Option String :=
  if (x != "") = true then (if (acc == "") = true then some x else if (acc != x) = true then none else some acc)
  else some acc

theorem pickThen_eq {β : Type} (acc x : String) (conflict : β) (k : String → β) :
    pickThen acc x conflict k = match goPick acc x with | none => conflict | some v => k v := by
  unfold pickThen goPick
  split
  · split
    · rfl
    · split <;> rfl
  · rfl

/-- Go's three-way test is the model's `pick` with the check present -/
theorem goPick_pick (a b : String) :
    goPick a b = match pick true a b with | .ok s => some s | .error _ => none := by
  unfold goPick pick
  by_cases h1 : b = "" <;> by_cases h2 : a = "" <;> by_cases h3 : a = b <;> simp_all

/-- one chunk folded into (args, id, type, name): `none` = a conflict -/
def acc4 (s : S4) (c : TC) : Option S4 :=
  match goPick s.2.1 c.id with
  | none => none
  | some i' =>
    match goPick s.2.2.1 c.type with
    | none => none
    | some t' =>
      match goPick s.2.2.2 c.name with
      | none => none
      | some n' => some ((if (c.args != "") = true then s.1 ++ c.args else s.1), i', t', n')

def fold4 : List TC → S4 → Option S4
  | [], s => some s
  | c :: cs, s => match acc4 s c with | none => none | some s' => fold4 cs s'

theorem stepC_enc (ex : Nat → GoMap V) (chunks : List (ToolCall V)) (n : Int) (c : TC) (s : S4)
    (hn : goIdx? chunks n = some (enc ex c)) :
    match acc4 s c with
    | some s' => stepC chunks n (none, s) = ForInStep.yield (none, s')
    | none => ∃ E st, IsConflict E ∧ stepC chunks n (none, s) = ForInStep.done (some E, st) := by
  obtain ⟨a, i, t, nm⟩ := s
  simp only [stepC, hn, pickThen_eq, acc4, enc]
  cases goPick i c.id with
  | none => exact ⟨E1, _, .inl rfl, rfl⟩
  | some i' =>
    cases goPick t c.type with
    | none => exact ⟨E2, _, .inr (.inl rfl), rfl⟩
    | some t' =>
      cases goPick nm c.name with
      | none => exact ⟨E3, _, .inr (.inr rfl), rfl⟩
      | some n' => by_cases ha : (c.args != "") = true <;> simp only [ha, if_true, if_false, Bool.false_eq_true]

/-- the loop `for _, n := range v { chunk := chunks[n]; … }` -/
theorem group_loop (ex : Nat → GoMap V) (chunks : List (ToolCall V)) :
    ∀ (ps : List Int) (L : List TC), ListRel (fun n c => goIdx? chunks n = some (enc ex c)) ps L → ∀ s,
      match fold4 L s with
      | some s' => goLoop (stepC chunks) ps (none, s) = (none, s')
      | none => ∃ E st, IsConflict E ∧ goLoop (stepC chunks) ps (none, s) = (some E, st) := by
  intro ps L hr
  induction hr with
  | nil => intro s; rfl
  | @cons n c ps L hn _ ih =>
    intro s
    have h1 := stepC_enc ex chunks n c s hn
    simp only [fold4, goLoop]
    cases ha : acc4 s c with
    | none =>
      rw [ha] at h1
      obtain ⟨E, st, hE, e1⟩ := h1
      exact ⟨E, st, hE, by rw [e1]⟩
    | some s' =>
      rw [ha] at h1
      rw [h1]
      exact ih s'

/-- the map `m` of the first loop: index ↦ positions of the chunks with that index, built by
    `m[*index] = append(m[*index], i)` -/
def posMapFrom : Int → List TC → GoMapK Int (List Int) → GoMapK Int (List Int)
  | _, [], m => m
  | j, c :: rest, m =>
    posMapFrom (j + 1) rest (match c.index with | none => m | some k => m.set k (m.getD' k [] ++ [j]))

def nilsOf (cs : List TC) : List TC := cs.filter (fun c => c.index == none)

/-- what the second loop builds for a group given by its chunks; `none` = a conflict -/
def mergeChunks : List TC → Option TC
  | [] => none
  | c0 :: rest =>
    (fold4 (c0 :: rest) ("", "", "", "")).map
      (fun s => { c0 with args := s.1, id := s.2.1, type := s.2.2.1, name := s.2.2.2 })

theorem stepA_enc (ex : Nat → GoMap V) (chunks : List (ToolCall V)) (j : Int) (c : TC)
    (mg : List (ToolCall V)) (m : GoMapK Int (List Int)) (hj : goIdx? chunks j = some (enc ex c)) :
    stepA chunks j (none, mg, m) = ForInStep.yield (none,
      (match c.index with | none => mg ++ [enc ex c] | some _ => mg),
      (match c.index with | none => m | some k => m.set k (m.getD' k [] ++ [j]))) := by
  simp only [stepA, hj]
  cases hci : c.index <;> simp [enc, hci]

/-- the first loop: `merged` gets the calls without an index, `m` the positions per index -/
theorem gather_loop (ex : Nat → GoMap V) (cs : List TC) :
    ∀ (suffix pre : List TC), cs = pre ++ suffix → ∀ mg m,
      goLoop (stepA (cs.map (enc ex))) ((goEnumFrom (pre.length : Int) (suffix.map (enc ex))).map (·.1)) (none, mg, m)
        = (none, mg ++ (nilsOf suffix).map (enc ex), posMapFrom (pre.length : Int) suffix m) := by
  intro suffix
  induction suffix with
  | nil => intro pre _ mg m; simp [goEnumFrom, goLoop, nilsOf, posMapFrom]
  | cons c rest ih =>
    intro pre hcs mg m
    have hidx : goIdx? (cs.map (enc ex)) (pre.length : Int) = some (enc ex c) := by
      rw [hcs, List.map_append, List.map_cons, ← List.length_map (enc ex)]; exact goIdx_append_self _ _ _
    simp only [List.map_cons, goEnumFrom, goLoop, stepA_enc ex _ _ c mg m hidx, posMapFrom]
    have := ih (pre ++ [c]) (by rw [hcs]; simp)
    have hcast : (((pre ++ [c]).length : Nat) : Int) = (pre.length : Int) + 1 := by simp
    rw [hcast] at this
    rw [this]
    cases hci : c.index <;> simp [nilsOf, hci]

def posChunks (cs : List TC) (ps : List Int) : Option (List TC) := ps.mapM (fun n => goIdx? cs n)

theorem mapM_listRel {α β} {f : α → Option β} {R : α → β → Prop} (hR : ∀ a b, f a = some b → R a b) :
    ∀ (l : List α) (L : List β), l.mapM f = some L → ListRel R l L := by
  intro l
  induction l with
  | nil => intro L h; simp at h; subst h; exact ListRel.nil
  | cons a l ih =>
    intro L h
    rw [List.mapM_cons] at h
    obtain ⟨b, hb, h⟩ := Option.bind_eq_some_iff.1 h
    obtain ⟨bs, hbs, h⟩ := Option.bind_eq_some_iff.1 h
    cases h
    exact ListRel.cons (hR a b hb) (ih bs hbs)

theorem stepB_enc (ex : Nat → GoMap V) (cs : List TC) (e : Int × List Int) (L : List TC) (a : String)
    (mg : List (ToolCall V)) (hL : posChunks cs e.2 = some L) (hne : L ≠ []) :
    match mergeChunks L with
    | some g => ∃ a', stepB (cs.map (enc ex)) e (none, mg, a) = ForInStep.yield (none, mg ++ [enc ex g], a')
    | none => ∃ E st, IsConflict E ∧ stepB (cs.map (enc ex)) e (none, mg, a) = ForInStep.done (some E, st) := by
  obtain ⟨k, ps⟩ := e
  have hrel : ListRel (fun n c => goIdx? (cs.map (enc ex)) n = some (enc ex c)) ps L :=
    mapM_listRel (fun n c h => by rw [goIdx_map, h]; rfl) ps L hL
  have hg := group_loop ex (cs.map (enc ex)) ps L hrel ("", "", "", "")
  cases hrel with
  | nil => exact absurd rfl hne
  | @cons p0 c0 prest rest h0 hr0 =>
    have hlen : ((((p0 :: prest).length : Nat) : Int) > 0) := by simp
    have hi0 : goIdx? (p0 :: prest) 0 = some p0 := rfl
    simp only [stepB, hlen, decide_true, if_true, hi0, h0, mergeChunks]
    cases hf : fold4 (c0 :: rest) ("", "", "", "") with
    | none =>
      rw [hf] at hg
      obtain ⟨E, st, hE, e1⟩ := hg
      simp only [e1, Option.map_none, onReturn]
      exact ⟨E, _, hE, rfl⟩
    | some s' =>
      rw [hf] at hg
      simp only [hg, Option.map_some, onReturn]
      exact ⟨s'.1, by simp [enc]⟩

/-- the second loop: one merged call per visited entry, or the first conflict -/
theorem merge_loop (ex : Nat → GoMap V) (cs : List TC) :
    ∀ (es : List (Int × List Int)) (Ls : List (List TC)),
      ListRel (fun e L => posChunks cs e.2 = some L ∧ L ≠ []) es Ls → ∀ a mg,
      match Ls.mapM mergeChunks with
      | some gs => ∃ a', goLoop (stepB (cs.map (enc ex))) es (none, mg, a) = (none, mg ++ gs.map (enc ex), a')
      | none => ∃ E st, IsConflict E ∧ goLoop (stepB (cs.map (enc ex))) es (none, mg, a) = (some E, st) := by
  intro es Ls hr
  induction hr with
  | nil => intro a mg; exact ⟨a, by simp [goLoop]⟩
  | @cons e L es Ls he _ ih =>
    intro a mg
    have h1 := stepB_enc ex cs e L a mg he.1 he.2
    simp only [List.mapM_cons, goLoop]
    cases hm : mergeChunks L with
    | none =>
      rw [hm] at h1
      obtain ⟨E, st, hE, e1⟩ := h1
      exact ⟨E, st, hE, by rw [e1]⟩
    | some g =>
      rw [hm] at h1
      obtain ⟨a', e1⟩ := h1
      rw [e1]
      have h2 := ih a' (mg ++ [enc ex g])
      cases hms : Ls.mapM mergeChunks with
      | none =>
        rw [hms] at h2
        simpa [bind, Option.bind] using h2
      | some gs =>
        rw [hms] at h2
        obtain ⟨a'', e2⟩ := h2
        exact ⟨a'', by simp [e2, List.append_assoc]⟩

theorem concatToolCalls_go (ext : Ext V) (tcext : TCExt) (ex : Nat → GoMap V) (cs : List TC)
    (Ls : List (List TC))
    (hLs : ListRel (fun e L => posChunks cs e.2 = some L ∧ L ≠ []) (tcext.rangeOrder (posMapFrom 0 cs [])) Ls) :
    match Ls.mapM mergeChunks with
    | some gs => concatToolCalls ext tcext (cs.map (enc ex)) = .ret ((sortStable (nilsOf cs ++ gs)).map (enc ex), none)
    | none => ∃ E, IsConflict E ∧ concatToolCalls ext tcext (cs.map (enc ex)) = E := by
  have hgather := gather_loop ex cs cs [] rfl [] []
  simp only [List.length_nil, Int.natCast_zero, List.nil_append] at hgather
  rw [concatToolCalls_shape]
  unfold goShape goIndices goEnum
  simp only [hgather, onReturn]
  have hmerge := merge_loop ex cs (tcext.rangeOrder (posMapFrom 0 cs [])) Ls hLs "" ((nilsOf cs).map (enc ex))
  cases hm : Ls.mapM mergeChunks with
  | none =>
    rw [hm] at hmerge
    obtain ⟨E, st, hE, e1⟩ := hmerge
    simp only [e1]
    exact ⟨E, hE, rfl⟩
  | some gs =>
    rw [hm] at hmerge
    obtain ⟨a', e1⟩ := hmerge
    simp only [e1]
    rw [← List.map_append]
    by_cases hlen : ((((nilsOf cs ++ gs).map (enc ex)).length : Nat) : Int) > 1
    · simp only [hlen, decide_true, if_true, sort_spec]
    · simp only [hlen, decide_false, Bool.false_eq_true, if_false]
      rw [sortStable_short _ (by simp only [List.length_map] at hlen; omega)]

/-! ### the Go shape against the model: both are functions of the chunks

  After the chunks `cs` the model's fold state has one group per index that occurs, holding the merge of that
  index's chunks (`TCFull`, Proofs/C14).  The map of the first loop has one entry per index that occurs, holding
  the positions of that index's chunks (`mem_posMap`, `posChunks_posOf`), and the second loop merges them as the
  model does (`mergeChunks_eq_mergeAll`). -/

abbrev PM := GoMapK Int (List Int)

def KeysND (m : PM) : Prop := (m.map (·.1)).Nodup

theorem keysND_posMapFrom : ∀ (l : List TC) (j : Int) (m : PM), KeysND m → KeysND (posMapFrom j l m)
  | [], _, _, h => h
  | c :: l, j, m, h => by
    rw [posMapFrom]
    cases c.index with
    | none => exact keysND_posMapFrom l _ _ h
    | some k => exact keysND_posMapFrom l _ _ (nodup_keys_setK m k _ h)

def posOf : Int → List TC → Int → List Int
  | _, [], _ => []
  | j, c :: l, k => (if c.index = some k then [j] else []) ++ posOf (j + 1) l k

theorem posOf_eq_nil_iff (k : Int) : ∀ (l : List TC) (j : Int), posOf j l k = [] ↔ grp l k = []
  | [], _ => by simp [posOf, grp]
  | c :: l, j => by
    have ih := posOf_eq_nil_iff k l (j + 1)
    by_cases hc : c.index = some k <;> simp [posOf, grp, hc] <;> simpa [grp] using ih

theorem lookup_posMapFrom (k : Int) : ∀ (l : List TC) (j : Int) (m : PM),
    GoMapK.lookup k (posMapFrom j l m) =
      if posOf j l k = [] then GoMapK.lookup k m else some (m.getD' k [] ++ posOf j l k)
  | [], j, m => by simp [posMapFrom, posOf]
  | c :: l, j, m => by
    rw [posMapFrom, lookup_posMapFrom k l]
    cases hc : c.index with
    | none => simp [posOf, hc]
    | some k' =>
      by_cases hk : k' = k
      · subst hk
        simp [posOf, hc, GoMapK.getD', lookupK_set_same, List.append_assoc]
      · have hne : ¬ some k' = some k := fun e => hk (Option.some.inj e)
        simp [posOf, hc, hne, GoMapK.getD', lookupK_set_other _ _ _ _ hk]

theorem mem_posMap (cs : List TC) (k : Int) (ps : List Int) :
    (k, ps) ∈ posMapFrom 0 cs [] ↔ grp cs k ≠ [] ∧ ps = posOf 0 cs k := by
  rw [mem_iff_lookupK (keysND_posMapFrom cs 0 [] List.nodup_nil), lookup_posMapFrom, Ne,
    ← posOf_eq_nil_iff k cs 0]
  by_cases h : posOf 0 cs k = [] <;> simp [h, GoMapK.lookup, GoMapK.getD', eq_comm]

theorem posChunks_posOf (k : Int) : ∀ (l pre : List TC),
    posChunks (pre ++ l) (posOf (pre.length : Int) l k) = some (grp l k)
  | [], pre => by simp [posOf, posChunks, grp]
  | c :: l, pre => by
    have ih := posChunks_posOf k l (pre ++ [c])
    have hcast : (((pre ++ [c]).length : Nat) : Int) = (pre.length : Int) + 1 := by simp
    rw [hcast, List.append_assoc, List.singleton_append] at ih
    unfold posChunks at ih ⊢
    simp only [posOf, List.mapM_append, ih, grp, List.filter_cons]
    by_cases hc : c.index = some k
    · simp [hc, goIdx_append_self]
    · simp [hc]

/-- the three conflict checks are present (source facts; Props/C14 discharges them for `srcCfg`) -/
structure Checks (cfg : Cfg) : Prop where
  id : cfg.tcIdCheck = true
  ty : cfg.tcTypeCheck = true
  nm : cfg.tcNameCheck = true

theorem goPick_empty (x : String) : goPick "" x = some x := by
  unfold goPick
  by_cases h : x = "" <;> simp [h]

theorem acc4_init (c : TC) : acc4 ("", "", "", "") c = some (c.args, c.id, c.type, c.name) := by
  unfold acc4
  simp only [goPick_empty]
  by_cases h : c.args = "" <;> simp [h]

theorem acc4_mergeTC (cfg : Cfg) (hk : Checks cfg) (g c : TC) :
    acc4 (g.args, g.id, g.type, g.name) c =
      match mergeTC cfg g c with
      | .ok g' => some (g'.args, g'.id, g'.type, g'.name)
      | .error _ => none := by
  unfold acc4 mergeTC
  simp only [goPick_pick, hk.id, hk.ty, hk.nm]
  cases h1 : pick true g.id c.id <;> simp only [bind, Except.bind]
  cases h2 : pick true g.type c.type <;> simp only []
  cases h3 : pick true g.name c.name <;> simp only [pure, Except.pure]
  by_cases ha : c.args = "" <;> simp [ha]

theorem fold4_mergeTC (cfg : Cfg) (hk : Checks cfg) : ∀ (rest : List TC) (g : TC),
    fold4 rest (g.args, g.id, g.type, g.name) =
      match rest.foldlM (mergeTC cfg) g with
      | .ok g' => some (g'.args, g'.id, g'.type, g'.name)
      | .error _ => none
  | [], g => rfl
  | x :: xs, g => by
    rw [fold4, acc4_mergeTC cfg hk, List.foldlM_cons]
    cases hm : mergeTC cfg g x with
    | error e => rfl
    | ok g' => exact fold4_mergeTC cfg hk xs g'

theorem mergeChunks_eq_mergeAll (cfg : Cfg) (hk : Checks cfg) (L : List TC) :
    mergeChunks L = match mergeAll cfg L with | .ok g => some g | .error _ => none := by
  cases L with
  | nil => rfl
  | cons c0 rest =>
    simp only [mergeChunks, fold4, acc4_init, fold4_mergeTC cfg hk, mergeAll]
    cases hf : rest.foldlM (mergeTC cfg) c0 with
    | error e => rfl
    | ok g =>
      -- `g` is `c0` with id, type, name and arguments replaced, which is what the Go code writes back
      obtain ⟨_, _, _, rfl⟩ := foldlM_mergeTC_ok cfg rest c0 g hf
      rfl

theorem listRel_map {α β : Type} {P : α → β → Prop} (f : α → β) : ∀ (l : List α), (∀ a ∈ l, P a (f a)) →
    ListRel P l (l.map f)
  | [], _ => .nil
  | a :: l, h => .cons (h a (by simp)) (listRel_map f l fun x hx => h x (by simp [hx]))

theorem mapM_none_of_mem {α β : Type} {f : α → Option β} : ∀ {l : List α} {a : α}, a ∈ l → f a = none →
    l.mapM f = none
  | x :: l, a, ha, h => by
    rw [List.mapM_cons]
    rcases List.mem_cons.mp ha with rfl | ha
    · rw [h]; rfl
    · cases f x with
      | none => rfl
      | some b => rw [mapM_none_of_mem ha h]; rfl

theorem mapM_some_build {κ α γ : Type} {f : κ × α → Option γ} {G : List (κ × γ)} : ∀ (es : List (κ × α)),
    (∀ e ∈ es, ∃ g, f e = some g ∧ (e.1, g) ∈ G) →
    ∃ gs' : List (κ × γ), gs'.map (·.1) = es.map (·.1) ∧ (∀ p ∈ gs', p ∈ G) ∧ es.mapM f = some (gs'.map (·.2))
  | [], _ => ⟨[], rfl, (fun _ h => nomatch h), rfl⟩
  | e :: es, h => by
    obtain ⟨g, hf, hg⟩ := h e (by simp)
    obtain ⟨gs', h1, h2, h3⟩ := mapM_some_build es fun x hx => h x (by simp [hx])
    exact ⟨(e.1, g) :: gs', by simp [h1], List.forall_mem_cons.mpr ⟨hg, h2⟩, by simp [List.mapM_cons, hf, h3]⟩

/-- **the Go shape is the model**: the groups the translated code merges, in the order the map is visited, are a
    permutation of the model's groups (and the merge fails exactly when the model's fold fails) -/
theorem go_shape_model (cfg : Cfg) (hk : Checks cfg) (order : PM → PM) (hperm : ∀ m, (order m).Perm m)
    (cs : List TC) :
    ∃ Ls, ListRel (fun e L => posChunks cs e.2 = some L ∧ L ≠ []) (order (posMapFrom 0 cs [])) Ls ∧
      match cs.foldlM (stepTC cfg) ⟨[], []⟩ with
      | .ok s => ∃ gs' : List (Int × TC), gs'.Perm s.groups ∧ Ls.mapM mergeChunks = some (gs'.map (·.2))
      | .error _ => Ls.mapM mergeChunks = none := by
  generalize hM : posMapFrom 0 cs [] = M
  -- the visited entries: one per index that occurs, with that index's positions
  have hmem : ∀ k ps, (k, ps) ∈ order M ↔ grp cs k ≠ [] ∧ ps = posOf 0 cs k := fun k ps => by
    rw [(hperm M).mem_iff, ← hM]; exact mem_posMap cs k ps
  -- so what the code merges for an entry are the chunks of the entry's index
  refine ⟨(order M).map fun e => grp cs e.1, listRel_map _ _ fun e he => ?_, ?_⟩
  · obtain ⟨hne, hps⟩ := (hmem e.1 e.2).mp he
    rw [hps]; exact ⟨by simpa using posChunks_posOf e.1 cs [], hne⟩
  rw [List.mapM_map]
  cases hf : cs.foldlM (stepTC cfg) ⟨[], []⟩ with
  | error err =>
    -- the chunks of some index do not merge, and that index is visited
    obtain ⟨k, hne, hbad⟩ := foldlM_stepTC_fails cfg cs [] _ err (TCFull.init cfg) hf
    rw [List.nil_append] at hne hbad
    refine mapM_none_of_mem ((hmem k _).mpr ⟨hne, rfl⟩) ?_
    show mergeChunks (grp cs k) = none
    rw [mergeChunks_eq_mergeAll cfg hk, hbad]
  | ok s =>
    have F := foldlM_stepTC_full cfg cs [] _ s (TCFull.init cfg) hf
    rw [List.nil_append] at F
    -- every visited entry yields the model's group of its index
    obtain ⟨gs', hk1, hk2, hk3⟩ := mapM_some_build (G := s.groups) (order M) fun e he => by
      obtain ⟨g, h1, h2⟩ := F.present e.1 ((hmem e.1 e.2).mp he).1
      exact ⟨g, by show mergeChunks (grp cs e.1) = some g; rw [mergeChunks_eq_mergeAll cfg hk, h1], h2⟩
    refine ⟨gs', ?_, hk3⟩
    -- a permutation: neither list has a key twice, and they have the same members
    have hndK : ((order M).map (·.1)).Nodup :=
      ((hperm M).map (fun x => x.1)).nodup_iff.mpr (hM ▸ keysND_posMapFrom cs 0 [] List.nodup_nil)
    have hnd1 : gs'.Nodup := List.Pairwise.of_map (fun p : Int × TC => p.1) (fun a b hab e => hab (by rw [e]))
      (show (gs'.map (·.1)).Nodup by rw [hk1]; exact hndK)
    have hnd2 : s.groups.Nodup := (gsorted_pairwise _ F.inv.1).imp fun {a b} hab e => by
      subst e; exact Int.lt_irrefl _ hab
    rw [List.perm_ext_iff_of_nodup hnd1 hnd2]
    refine fun p => ⟨hk2 p, fun hp => ?_⟩
    -- a group's index occurs, so it was visited, and what was built under that key is that group
    obtain ⟨pk, pg⟩ := p
    have hin : pk ∈ gs'.map (·.1) := by
      rw [hk1]; exact List.mem_map_of_mem (f := (·.1)) ((hmem pk _).mpr ⟨F.only pk pg hp, rfl⟩)
    obtain ⟨⟨qk, qg⟩, hq, rfl⟩ := List.mem_map.mp hin
    cases gsorted_key_unique F.inv.1 (hk2 _ hq) hp
    exact hq

theorem nils_of_fold (cfg : Cfg) (cs : List TC) (s : TCState) (h : cs.foldlM (stepTC cfg) ⟨[], []⟩ = .ok s) :
    s.nils = nilsOf cs := by
  rw [(foldlM_stepTC_spec cfg cs [] ⟨[], []⟩ s sinv_init tcspec_init h).1, List.nil_append]
  exact List.filter_congr fun c _ => by cases c.index <;> rfl

/-- **`concatToolCalls` computes `concatTC`**: for every order in which the map of index groups is visited (any
    function returning a permutation of the map) the translated function returns what the specification returns
    (the stable sort puts the merged groups back in ascending order); when the model fails, it returns one of the
    three "cannot concat" errors with a nil slice.  Never a panic. -/
theorem concatToolCalls_is_spec (ext : Ext V) (tcext : TCExt) (ex : Nat → GoMap V) (cfg : Cfg) (hk : Checks cfg)
    (hperm : ∀ m, (tcext.rangeOrder m).Perm m) (cs : List TC) :
    match concatTC cfg cs with
    | .ok out => concatToolCalls ext tcext (cs.map (enc ex)) = .ret (out.map (enc ex), none)
    | .error _ => ∃ E, IsConflict E ∧ concatToolCalls ext tcext (cs.map (enc ex)) = E := by
  obtain ⟨Ls, hLs, hmodel⟩ := go_shape_model cfg hk tcext.rangeOrder hperm cs
  have hgo := concatToolCalls_go ext tcext ex cs Ls hLs
  unfold concatTC
  cases hf : cs.foldlM (stepTC cfg) ⟨[], []⟩ with
  | error e =>
    rw [hf] at hmodel
    rw [hmodel] at hgo
    exact hgo
  | ok s =>
    rw [hf] at hmodel
    obtain ⟨gs', hp, hm⟩ := hmodel
    rw [hm, ← nils_of_fold cfg cs s hf] at hgo
    show concatToolCalls ext tcext (cs.map (enc ex)) = .ret (s.out.map (enc ex), none)
    rw [← sortStable_merged s (foldlM_stepTC_inv cfg cs _ _ sinv_init hf) gs' hp]
    exact hgo

/-- **`concatToolCalls` refines `concatTCGo`**: there is a reordering `ord` of the model's groups — a
    permutation — such that the translated function returns exactly `concatTCGo cfg ord cs`.  Since the final
    sort is stable, every `ord` gives `concatTC` (`concatTCGo_eq`), so the identity will do. -/
theorem concatToolCalls_refines (ext : Ext V) (tcext : TCExt) (ex : Nat → GoMap V) (cfg : Cfg) (hk : Checks cfg)
    (hst : cfg.tcSortStable = true) (hperm : ∀ m, (tcext.rangeOrder m).Perm m) (cs : List TC) :
    ∃ ord : List (Int × TC) → List (Int × TC), (∀ l, (ord l).Perm l) ∧
      match concatTCGo cfg ord cs with
      | .ok out => concatToolCalls ext tcext (cs.map (enc ex)) = .ret (out.map (enc ex), none)
      | .error _ => ∃ E, IsConflict E ∧ concatToolCalls ext tcext (cs.map (enc ex)) = E := by
  refine ⟨id, fun l => .refl l, ?_⟩
  rw [concatTCGo_eq cfg hst id (fun l => .refl l) cs]
  exact concatToolCalls_is_spec ext tcext ex cfg hk hperm cs

theorem concatToolCalls_total (ext : Ext V) (tcext : TCExt) (ex : Nat → GoMap V) (cfg : Cfg) (hk : Checks cfg)
    (hperm : ∀ m, (tcext.rangeOrder m).Perm m) (cs : List TC) :
    ∃ res, concatToolCalls ext tcext (cs.map (enc ex)) = .ret res := by
  have h := concatToolCalls_is_spec ext tcext ex cfg hk hperm cs
  cases hc : concatTC cfg cs with
  | ok out => rw [hc] at h; exact ⟨_, h⟩
  | error e =>
    rw [hc] at h
    obtain ⟨E, hE, he⟩ := h
    rcases hE with rfl | rfl | rfl <;> exact ⟨_, he⟩

end EinoV.TransC14
