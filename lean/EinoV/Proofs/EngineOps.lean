/-
  What the operations of `Model/Engine.lean` do, in either mode (`r.dag`), stated once for every proof that
  walks them: a channel report is a marking of a key list, an update pass acts channel by channel, and one
  walk through all operations serves every invariant of the form "every channel satisfies `P`".
-/
import EinoV.Model.C02Workflow
import EinoV.Proofs.Assoc
import EinoV.Proofs.Monadic

namespace EinoV.Engine
open EinoV.Interrupt.PregelFold (asets mem_asets)

/-- set a key only if it is there: Go's `if _, ok := m[k]; ok { m[k] = v }` -/
def mark {α} (k : Key) (v : α) (m : List (Key × α)) : List (Key × α) :=
  if (alookup k m).isSome then aset k v m else m

theorem akeys_mark {α} (k : Key) (v : α) (l : List (Key × α)) : akeys (mark k v l) = akeys l := by
  unfold mark; split
  · rename_i h; exact akeys_aset_of_mem _ _ _ ((alookup_isSome_iff _ _).mp h)
  · rfl

theorem mem_mark {α} {k : Key} {v : α} {l : List (Key × α)} {p : Key} {d : α}
    (h : (p, d) ∈ mark k v l) : (p, d) ∈ l ∨ (p = k ∧ d = v ∧ k ∈ akeys l) := by
  unfold mark at h; split at h
  · rename_i hs
    rcases (mem_aset _ _ _ _ h).imp_left Prod.mk.inj with ⟨rfl, rfl⟩ | h
    · exact Or.inr ⟨rfl, rfl, (alookup_isSome_iff _ _).mp hs⟩
    · exact Or.inl h
  · exact Or.inl h

theorem mark_self {α} {k : Key} {v : α} {l : List (Key × α)} (hk : k ∈ akeys l) :
    (k, v) ∈ mark k v l := by
  rw [mark, if_pos ((alookup_isSome_iff _ _).mpr hk)]; exact mem_aset_self _ _ _

theorem mark_keep {α} {k : Key} {v : α} {l : List (Key × α)} {p : Key} {d : α} (e : p ≠ k)
    (h : (p, d) ∈ l) : (p, d) ∈ mark k v l := by
  unfold mark; split
  · exact mem_aset_of_ne _ _ _ _ _ e h
  · exact h

theorem alookup_mark {α} (k k' : Key) (v : α) (m : List (Key × α)) :
    alookup k' (mark k v m) = if k' = k then (alookup k m).map (fun _ => v) else alookup k' m := by
  unfold mark
  by_cases e : k' = k
  · subst e; cases hl : alookup k' m <;> simp [hl, alookup_aset_same]
  · cases hl : (alookup k m).isSome <;> simp [e, alookup_aset_other k k' v m e]

theorem mark_noop {α} (k : Key) (v : α) (m : List (Key × α)) (h : alookup k m = none ∨ alookup k m = some v) :
    mark k v m = m := by
  unfold mark
  rcases h with h | h
  · simp [h]
  · simp [h, aset_of_alookup k v m h]

/-! A report is a fold of `mark` over its keys (and `asets` of its pairs).  The facts are about
membership, not a `map` equation, so that they hold for tables with repeated keys too. -/

def markAll {α} (ks : List Key) (v : α) (l : List (Key × α)) : List (Key × α) :=
  ks.foldl (fun l k => mark k v l) l

theorem markAll_cons {α} (k : Key) (ks : List Key) (v : α) (l : List (Key × α)) :
    markAll (k :: ks) v l = markAll ks v (mark k v l) := rfl

theorem akeys_markAll {α} (ks : List Key) (v : α) (l : List (Key × α)) : akeys (markAll ks v l) = akeys l :=
  foldl_preserves _ akeys ks (fun l k _ => akeys_mark k v l) l

theorem mem_markAll {α} {ks : List Key} {v : α} {l : List (Key × α)} {p : Key} {d : α}
    (h : (p, d) ∈ markAll ks v l) : (p, d) ∈ l ∨ (d = v ∧ p ∈ ks ∧ p ∈ akeys l) := by
  induction ks generalizing l with
  | nil => exact Or.inl h
  | cons k t ih =>
    rcases ih h with h | ⟨h1, h2, h3⟩
    · rcases mem_mark h with h | ⟨rfl, rfl, hm⟩
      · exact Or.inl h
      · exact Or.inr ⟨rfl, List.mem_cons_self .., hm⟩
    · exact Or.inr ⟨h1, List.mem_cons_of_mem _ h2, akeys_mark k v l ▸ h3⟩

theorem markAll_same {α} {ks : List Key} {v : α} {l : List (Key × α)} {p : Key}
    (h : (p, v) ∈ l) : (p, v) ∈ markAll ks v l :=
  foldl_inv (fun l => (p, v) ∈ l) _ ks (fun l h k _ => by
    by_cases e : p = k
    · subst e; exact mark_self (mem_akeys_of_mem _ _ _ h)
    · exact mark_keep e h) l h

theorem markAll_set {α} {ks : List Key} {v : α} {l : List (Key × α)} {p : Key}
    (hp : p ∈ ks) (hk : p ∈ akeys l) : (p, v) ∈ markAll ks v l := by
  induction ks generalizing l with
  | nil => cases hp
  | cons k t ih =>
    rcases List.mem_cons.mp hp with rfl | hp
    · exact markAll_same (ks := t) (mark_self hk)
    · exact ih hp (by rw [akeys_mark]; exact hk)

theorem markAll_keep {α} {ks : List Key} {v : α} {l : List (Key × α)} {p : Key} {d : α}
    (h : (p, d) ∈ l) : (p, d) ∈ markAll ks v l ∨ (p, v) ∈ markAll ks v l := by
  by_cases hp : p ∈ ks
  · exact Or.inr (markAll_set hp (mem_akeys_of_mem _ _ _ h))
  · exact Or.inl (foldl_inv (fun l => (p, d) ∈ l) _ ks
      (fun l h k hk => mark_keep (fun e => hp (e ▸ hk)) h) l h)

/-- the step of the fold in `reportDeps` (all-predecessor mode): control predecessor `k` has completed -/
def depsF {V} (c : Chan V) (k : Key) : Chan V :=
  if (alookup k c.ctrl).isSome then { c with ctrl := aset k Dep.ready c.ctrl } else c

theorem reportDeps_eq {V} (c : Chan V) (deps : List Key) :
    c.reportDeps true deps = if c.skipped then c else deps.foldl depsF c := rfl

theorem depsF_ctrl {V} (c : Chan V) (k : Key) :
    (depsF c k).ctrl = mark k Dep.ready c.ctrl := by
  unfold depsF mark; split <;> rfl

theorem depsF_rest {V} (c : Chan V) (k : Key) :
    (depsF c k).data = c.data ∧ (depsF c k).skipped = c.skipped ∧ (depsF c k).values = c.values := by
  unfold depsF; split <;> exact ⟨rfl, rfl, rfl⟩

/-- the step of the fold in `reportValues` (all-predecessor mode): data predecessor `kv.1` has delivered `kv.2` -/
def valsF {V} (c : Chan V) (kv : Key × V) : Chan V :=
  if (alookup kv.1 c.data).isSome then
    { c with data := aset kv.1 true c.data, values := aset kv.1 kv.2 c.values }
  else c

theorem reportValues_eq {V} (c : Chan V) (ins : List (Key × V)) :
    c.reportValues true ins = if c.skipped then c else ins.foldl valsF c := rfl

theorem valsF_data {V} (c : Chan V) (kv : Key × V) :
    (valsF c kv).data = mark kv.1 true c.data := by
  unfold valsF mark; split <;> rfl

theorem valsF_rest {V} (c : Chan V) (kv : Key × V) :
    (valsF c kv).ctrl = c.ctrl ∧ (valsF c kv).skipped = c.skipped := by
  unfold valsF; split <;> exact ⟨rfl, rfl⟩

theorem reportValues_preserves {V γ} (g : Chan V → γ) (l : List (Key × V))
    (h : ∀ c, ∀ kv ∈ l, g (valsF c kv) = g c) (c : Chan V) : g (c.reportValues true l) = g c := by
  rw [reportValues_eq]; split
  · rfl
  · exact foldl_preserves valsF g l h c

theorem reportDeps_preserves {V γ} (g : Chan V → γ) (l : List Key)
    (h : ∀ c, ∀ k ∈ l, g (depsF c k) = g c) (c : Chan V) : g (c.reportDeps true l) = g c := by
  rw [reportDeps_eq]; split
  · rfl
  · exact foldl_preserves depsF g l h c

theorem reportValues_skipped {V} (c : Chan V) (l : List (Key × V)) :
    (c.reportValues true l).skipped = c.skipped :=
  reportValues_preserves (·.skipped) l (fun c kv _ => (valsF_rest c kv).2) c

theorem reportDeps_skipped {V} (c : Chan V) (l : List Key) :
    (c.reportDeps true l).skipped = c.skipped :=
  reportDeps_preserves (·.skipped) l (fun c k _ => (depsF_rest c k).2.1) c

/-- the step of the fold in `reportSkip` (all-predecessor mode): `k` is skipped as control and as data predecessor -/
def skipF {V} (c : Chan V) (k : Key) : Chan V :=
  { c with ctrl := mark k Dep.skipped c.ctrl, data := mark k true c.data }

theorem reportSkip_foldl {V} (c : Chan V) (keys : List Key) :
    c.reportSkip true keys =
      ({ keys.foldl skipF c with skipped := (keys.foldl skipF c).ctrl.all (fun p => p.2 == Dep.skipped) },
       (keys.foldl skipF c).ctrl.all (fun p => p.2 == Dep.skipped)) := by
  have e : (fun (c : Chan V) k =>
      let c := if (alookup k c.ctrl).isSome then { c with ctrl := aset k Dep.skipped c.ctrl } else c
      if (alookup k c.data).isSome then { c with data := aset k true c.data } else c) = skipF := by
    funext c k
    unfold skipF mark
    by_cases h1 : (alookup k c.ctrl).isSome = true <;> by_cases h2 : (alookup k c.data).isSome = true <;>
      simp [h1, h2]
  rw [Chan.reportSkip, if_pos rfl, e]

theorem reportDeps_markAll {V} (c : Chan V) (deps : List Key) :
    c.reportDeps true deps = if c.skipped then c else { c with ctrl := markAll deps Dep.ready c.ctrl } := by
  have h : ∀ c : Chan V, deps.foldl depsF c = { c with ctrl := markAll deps Dep.ready c.ctrl } := by
    induction deps with
    | nil => intro c; rfl
    | cons k t ih => intro c; rw [List.foldl_cons, ih, markAll_cons]; unfold depsF mark; split <;> rfl
  rw [reportDeps_eq, h]

/-- the pairs of a value report that `c` takes: those whose sender is one of its data predecessors -/
def taken {V} (c : Chan V) (ins : List (Key × V)) : List (Key × V) :=
  ins.filter (fun kv => (alookup kv.1 c.data).isSome)

theorem mem_akeys_taken {V} {c : Chan V} {ins : List (Key × V)} {p : Key} (hp : p ∈ akeys ins)
    (hk : p ∈ akeys c.data) : p ∈ akeys (taken c ins) :=
  mem_akeys_filter (q := fun k => (alookup k c.data).isSome) hp ((alookup_isSome_iff _ _).mpr hk)

theorem reportValues_markAll {V} (c : Chan V) (ins : List (Key × V)) :
    c.reportValues true ins = if c.skipped then c else
      { c with data := markAll (akeys ins) true c.data, values := asets (taken c ins) c.values } := by
  have h : ∀ c : Chan V, ins.foldl valsF c =
      { c with data := markAll (akeys ins) true c.data, values := asets (taken c ins) c.values } := by
    induction ins with
    | nil => intro c; rfl
    | cons kv t ih =>
      intro c
      -- marking `kv.1` changes no key of `data`, so the later pairs are taken as before
      have ht : taken (valsF c kv) t = taken c t := by
        unfold taken; congr 1; funext x
        exact Bool.eq_iff_iff.mpr (by rw [alookup_isSome_iff, alookup_isSome_iff, valsF_data, akeys_mark])
      rw [List.foldl_cons, ih, ht]
      by_cases h : (alookup kv.1 c.data).isSome = true <;>
        simp only [valsF, taken, akeys, List.map_cons, markAll_cons, mark, List.filter_cons, asets, List.foldl_cons,
          h, Bool.false_eq_true, ↓reduceIte]
  rw [reportValues_eq, h]

theorem reportSkip_markAll {V} (c : Chan V) (keys : List Key) :
    c.reportSkip true keys =
      ({ c with ctrl := markAll keys Dep.skipped c.ctrl, data := markAll keys true c.data,
                skipped := (markAll keys Dep.skipped c.ctrl).all (fun p => p.2 == Dep.skipped) },
       (markAll keys Dep.skipped c.ctrl).all (fun p => p.2 == Dep.skipped)) := by
  have h : ∀ c : Chan V, keys.foldl skipF c =
      { c with ctrl := markAll keys Dep.skipped c.ctrl, data := markAll keys true c.data } := by
    induction keys with
    | nil => intro c; rfl
    | cons k t ih => intro c; rw [List.foldl_cons, ih]; rfl
  rw [reportSkip_foldl, h]

theorem reportSkip_eq {V} (c : Chan V) (k : Key) :
    c.reportSkip true [k] =
      ({ c with ctrl := mark k Dep.skipped c.ctrl, data := mark k true c.data,
                skipped := (mark k Dep.skipped c.ctrl).all (fun p => p.2 == Dep.skipped) },
       (mark k Dep.skipped c.ctrl).all (fun p => p.2 == Dep.skipped)) :=
  reportSkip_markAll c [k]

theorem reportSkip_values {V} (dag : Bool) (c : Chan V) (keys : List Key) :
    (c.reportSkip dag keys).1.values = c.values := by
  cases dag with
  | false => rfl
  | true => rw [reportSkip_markAll]

theorem reportDeps_values {V} (dag : Bool) (c : Chan V) (deps : List Key) :
    (c.reportDeps dag deps).values = c.values := by
  cases dag with
  | false => rfl
  | true => exact reportDeps_preserves (·.values) deps (fun c k _ => (depsF_rest c k).2.2) c

theorem mem_values_reportValues {V} {dag : Bool} {c : Chan V} {ins : List (Key × V)} {x : Key × V}
    (h : x ∈ (c.reportValues dag ins).values) : x ∈ c.values ∨ x ∈ ins := by
  cases dag with
  | false =>
    have e : (c.reportValues false ins).values = asets ins c.values :=
      (List.foldl_hom Chan.values fun _ _ => rfl).symm
    exact mem_asets (e ▸ h)
  | true =>
    rw [reportValues_markAll] at h
    split at h
    · exact Or.inl h
    · exact (mem_asets h).imp_right fun h => (List.mem_filter.mp h).1

theorem mem_modChan {V} (cm : Chans V) (k : Key) (f : Chan V → Chan V) (n : Key) (c' : Chan V) :
    (n, c') ∈ modChan cm k f ↔ ∃ c, (n, c) ∈ cm ∧ c' = if (n == k) = true then f c else c := by
  simp only [modChan, List.mem_map]
  constructor
  · rintro ⟨⟨n0, c0⟩, hm, he⟩
    by_cases hk : (n0 == k) = true
    · simp only [hk, ↓reduceIte, Prod.mk.injEq] at he
      obtain ⟨rfl, rfl⟩ := he
      exact ⟨c0, hm, by simp [hk]⟩
    · simp only [hk, Bool.false_eq_true, ↓reduceIte, Prod.mk.injEq] at he
      obtain ⟨rfl, rfl⟩ := he
      exact ⟨c0, hm, by simp [hk]⟩
  · rintro ⟨c, hm, rfl⟩
    refine ⟨(n, c), hm, ?_⟩
    by_cases hk : (n == k) = true <;> simp [hk]

theorem mem_modChan_cases {V} {cm : Chans V} {k : Key} {f : Chan V → Chan V} {n : Key} {c' : Chan V}
    (h : (n, c') ∈ modChan cm k f) :
    (n = k ∧ ∃ c, (k, c) ∈ cm ∧ c' = f c) ∨ (n ≠ k ∧ (n, c') ∈ cm) := by
  obtain ⟨c, hc, rfl⟩ := (mem_modChan _ _ _ _ _).mp h
  by_cases hk : n = k
  · subst hk; exact Or.inl ⟨rfl, c, hc, by simp⟩
  · exact Or.inr ⟨hk, by simpa [hk] using hc⟩

theorem forall_mem_modChan {V} {cm : Chans V} {k : Key} {f : Chan V → Chan V} {P : Key → Chan V → Prop}
    (hk : ∀ c, (k, c) ∈ cm → P k (f c)) (ho : ∀ n c, (n, c) ∈ cm → P n c) :
    ∀ n c', (n, c') ∈ modChan cm k f → P n c' := by
  intro n c' h
  rcases mem_modChan_cases h with ⟨rfl, c, hc, rfl⟩ | ⟨_, hc⟩
  · exact hk c hc
  · exact ho n c' hc

theorem akeys_modChan {V} (cm : Chans V) (k : Key) (f : Chan V → Chan V) :
    akeys (modChan cm k f) = akeys cm := by
  simp only [akeys, modChan, List.map_map]
  apply List.map_congr_left
  intro p _
  simp only [Function.comp]
  split <;> rfl

theorem modChan_congr {V} (cm : Chans V) (k : Key) {f g : Chan V → Chan V} (h : ∀ c, (k, c) ∈ cm → f c = g c) :
    modChan cm k f = modChan cm k g := by
  refine List.map_congr_left fun p hp => ?_
  split
  · rename_i hk; rw [h p.2 (by rw [← eq_of_beq hk]; exact hp)]
  · rfl

/-- The model writes back the channel `c0` it looked up; with distinct keys that is the only channel of `s`,
    so the write is a `modChan` by the report itself. -/
@[elab_as_elim]
theorem skipOne_elim {V} {motive : Chans V → Bool → Prop} {cm : Chans V} (hnd : (akeys cm).Nodup) (s from_ : Key)
    (absent : (∀ c, (s, c) ∉ cm) → motive cm false)
    (present : ∀ c0, alookup s cm = some c0 →
      motive (modChan cm s (fun c => (c.reportSkip true [from_]).1))
        ((c0.reportSkip true [from_]).2 && !c0.skipped)) :
    motive (skipOne true cm s from_).1 (skipOne true cm s from_).2 := by
  unfold skipOne
  simp only [Bool.not_true, Bool.false_eq_true, ↓reduceIte]
  cases hl : alookup s cm with
  | none => exact absent fun c hc => (alookup_none_iff s cm).mp hl (mem_akeys_of_mem s c cm hc)
  | some c0 =>
    have e : modChan cm s (fun _ => (c0.reportSkip true [from_]).1) =
        modChan cm s (fun c => (c.reportSkip true [from_]).1) :=
      modChan_congr cm s fun c hc => by rw [mem_unique hnd hc (mem_of_alookup s c0 cm hl)]
    simp only [e]
    exact present c0 hl

theorem skipStep_eq {V} (dag : Bool) (from_ : Key) (a : Chans V × List Key) (s : Key) :
    skipStep dag from_ a s =
      ((skipOne dag a.1 s from_).1, if (skipOne dag a.1 s from_).2 then a.2 ++ [s] else a.2) := rfl

/-- `lookupList` at another value type: the writes gathered for the target `t`, none if it has no entry -/
def gl {V} (t : Key) (ws : List (Key × List (Key × V))) : List (Key × V) := (alookup t ws).getD []

theorem gl_addWrite {V} (ws : List (Key × List (Key × V))) (to from_ t : Key) (v : V) :
    gl t (addWrite ws to from_ v) = if t = to then aset from_ v (gl t ws) else gl t ws := by
  unfold gl addWrite
  by_cases h : t = to
  · subst h; simp [alookup_aset_same]
  · simp [alookup_aset_other _ _ _ _ h, h]

theorem gl_targets_fold {V} (from_ : Key) (v : V) (tg : List Key) (ws : List (Key × List (Key × V))) (t : Key) :
    gl t (tg.foldl (fun ws k => addWrite ws k from_ v) ws)
      = if tg.contains t then aset from_ v (gl t ws) else gl t ws := by
  induction tg generalizing ws with
  | nil => simp
  | cons k rest ih =>
    rw [List.foldl_cons, ih, gl_addWrite]
    by_cases h1 : t = k
    · subst h1
      simp [aset_aset]
    · simp [h1]

theorem nodup_keys_writesFold {V} (from_ : Key) (v : V) (tg : List Key) (ws : List (Key × List (Key × V)))
    (h : (akeys ws).Nodup) : (akeys (tg.foldl (fun ws k => addWrite ws k from_ v) ws)).Nodup :=
  foldl_inv (fun ws => (akeys ws).Nodup) _ tg (fun _ hws _ _ => nodup_akeys_aset _ _ _ hws) ws h

theorem reportValues_nil {V} (dag : Bool) (c : Chan V) : c.reportValues dag [] = c := by
  simp only [Chan.reportValues, List.foldl_nil, ite_self]

theorem foldl_modChan_map {V β} (f : Key → β → Chan V → Chan V) (dflt : β) (hid : ∀ k c, f k dflt c = c)
    (tab : List (Key × β)) (cm : Chans V) (hnd : (akeys tab).Nodup) :
    tab.foldl (fun cm w => modChan cm w.1 (f w.1 w.2)) cm =
      cm.map (fun p => (p.1, f p.1 ((alookup p.1 tab).getD dflt) p.2)) := by
  induction tab generalizing cm with
  | nil => simp only [List.foldl_nil, alookup, Option.getD_none, hid, List.map_id']
  | cons w rest ih =>
    obtain ⟨k, l⟩ := w
    have hnd' : k ∉ akeys rest ∧ (akeys rest).Nodup := List.nodup_cons.mp hnd
    rw [List.foldl_cons, ih _ hnd'.2, modChan, List.map_map]
    refine List.map_congr_left fun ⟨q, c⟩ _ => ?_
    by_cases hk : k = q
    · subst hk
      simp only [Function.comp, alookup, beq_self_eq_true, ↓reduceIte,
        alookup_none_of_not_mem k rest hnd'.1, Option.getD, hid]
    · simp only [Function.comp, alookup, beq_false_of_ne hk, beq_false_of_ne (Ne.symm hk),
        Bool.false_eq_true, ↓reduceIte]

theorem updateValues_map {V} (r : Runner V) (writes : List (Key × List (Key × V))) (cm : Chans V)
    (hnd : (akeys writes).Nodup) :
    updateValues r cm writes = cm.map (fun p =>
      (p.1, p.2.reportValues r.dag ((gl p.1 writes).filter (fun kv => (lookupList p.1 r.dataPreds).contains kv.1)))) :=
  foldl_modChan_map
    (fun k (l : List (Key × V)) c => c.reportValues r.dag (l.filter fun kv => (lookupList k r.dataPreds).contains kv.1))
    [] (fun _ c => reportValues_nil r.dag c) writes cm hnd

theorem lookupList_addDep (ds : List (Key × List Key)) (to f t : Key) :
    lookupList t (addDep ds to f) = if t = to then lookupList t ds ++ [f] else lookupList t ds := by
  unfold lookupList addDep
  by_cases h : t = to
  · subst h; simp [alookup_aset_same]
  · simp [alookup_aset_other _ _ _ _ h, h]

theorem lookupList_targets_fold (f : Key) (tg : List Key) (ds : List (Key × List Key)) (t : Key) :
    lookupList t (tg.foldl (fun ds k => addDep ds k f) ds) = lookupList t ds ++ List.replicate (tg.count t) f := by
  induction tg generalizing ds with
  | nil => simp
  | cons k rest ih =>
    simp only [List.foldl_cons]
    rw [ih, lookupList_addDep]
    by_cases h : t = k
    · subst h
      simp [List.replicate_succ]
    · have : (k == t) = false := by simpa using fun e => h e.symm
      simp [h, List.count_cons, this]

theorem nodup_keys_depsFold (f : Key) (tg : List Key) (ds : List (Key × List Key))
    (h : (akeys ds).Nodup) : (akeys (tg.foldl (fun ds k => addDep ds k f) ds)).Nodup :=
  foldl_inv (fun ds => (akeys ds).Nodup) _ tg (fun _ hds _ _ => nodup_akeys_aset _ _ _ hds) ds h

theorem reportDeps_nil {V} (dag : Bool) (c : Chan V) : c.reportDeps dag [] = c := by
  simp only [Chan.reportDeps, List.foldl_nil, ite_self]

theorem lookupList_cons (t : Key) (w : Key × List Key) (rest : List (Key × List Key)) :
    lookupList t (w :: rest) = if (w.1 == t) = true then w.2 else lookupList t rest := by
  obtain ⟨k, l⟩ := w
  unfold lookupList
  by_cases h : (k == t) = true <;> simp [alookup, h]

theorem updateDeps_map {V} (r : Runner V) (deps : List (Key × List Key)) (cm : Chans V)
    (hnd : (akeys deps).Nodup) :
    updateDeps r cm deps = cm.map (fun p =>
      (p.1, p.2.reportDeps r.dag ((lookupList p.1 deps).filter (lookupList p.1 r.ctrlPreds).contains))) :=
  foldl_modChan_map (fun k (l : List Key) c => c.reportDeps r.dag (l.filter (lookupList k r.ctrlPreds).contains)) []
    (fun _ c => reportDeps_nil r.dag c) deps cm hnd

def WritesAll {V} (Q : Key → Key → V → Prop) (ws : List (Key × List (Key × V))) : Prop :=
  ∀ to l, (to, l) ∈ ws → ∀ p v, (p, v) ∈ l → Q to p v

def DepsAll (Q : Key → Key → Prop) (ds : List (Key × List Key)) : Prop :=
  ∀ to l, (to, l) ∈ ds → ∀ p, p ∈ l → Q to p

theorem foldl_addWrite_all {V} {Q : Key → Key → V → Prop} (from_ : Key) (v : V) (tg : List Key)
    (hq : ∀ to, to ∈ tg → Q to from_ v) (ws : List (Key × List (Key × V))) (h : WritesAll Q ws) :
    WritesAll Q (tg.foldl (fun ws k => addWrite ws k from_ v) ws) := by
  refine foldl_inv (WritesAll Q) _ tg (fun ws h t ht to' l hm p w hp => ?_) ws h
  rcases (mem_aset _ _ _ _ hm).imp_left Prod.mk.inj with ⟨rfl, rfl⟩ | hm
  · rcases (mem_aset _ _ _ _ hp).imp_left Prod.mk.inj with ⟨rfl, rfl⟩ | hp
    · exact hq _ ht
    · obtain ⟨l0, hm0, hp⟩ := mem_getD_alookup hp
      exact h to' l0 hm0 p w hp
  · exact h to' l hm p w hp

theorem foldl_addDep_all {Q : Key → Key → Prop} (from_ : Key) (tg : List Key)
    (hq : ∀ to, to ∈ tg → Q to from_) (ds : List (Key × List Key)) (h : DepsAll Q ds) :
    DepsAll Q (tg.foldl (fun ds k => addDep ds k from_) ds) := by
  refine foldl_inv (DepsAll Q) _ tg (fun ds h t ht to' l hm p hp => ?_) ds h
  rcases (mem_aset _ _ _ _ hm).imp_left Prod.mk.inj with ⟨rfl, rfl⟩ | hm
  · rcases List.mem_append.mp hp with hp | hp
    · obtain ⟨l0, hm0, hp⟩ := mem_getD_alookup hp
      exact h to' l0 hm0 p hp
    · exact List.mem_singleton.mp hp ▸ hq _ ht
  · exact h to' l hm p hp

theorem triggered_eq_true_iff {V} (c : Chan V) : c.triggered = true ↔
    c.skipped = false ∧ ¬ (c.ctrl = [] ∧ c.data = []) ∧
    (∀ p ∈ c.ctrl, p.2 ≠ Dep.waiting) ∧ (∀ p ∈ c.data, p.2 = true) := by
  simp only [Chan.triggered, Bool.not_and, beq_false, Bool.and_eq_true, Bool.not_eq_eq_eq_not, Bool.not_true,
    Bool.or_eq_true, List.isEmpty_eq_false_iff, ne_eq, List.any_eq_false, beq_iff_eq, Prod.forall, and_assoc,
    Bool.not_eq_false, Bool.forall_bool, Bool.false_eq_true, imp_false, implies_true, and_true,
    Decidable.not_and_iff_not_or_not]

theorem reset_not_triggered {V} (c : Chan V) (h : akeys c.ctrl ≠ [] ∨ akeys c.data ≠ []) :
    c.reset.triggered = false := by
  rcases h with h | h
  · cases hc : c.ctrl with
    | nil => simp [akeys, hc] at h
    | cons p t => simp [Chan.triggered, Chan.reset, hc]
  · cases hc : c.data with
    | nil => simp [akeys, hc] at h
    | cons p t => simp [Chan.triggered, Chan.reset, hc]

theorem collect_ne_notReady {V} (ops : ValOps V) (l : List V) (h : l ≠ []) :
    collect ops l ≠ .notReady := by
  match l, h with
  | [v], _ => simp [collect]
  | a :: b :: t, _ =>
    simp only [collect]
    cases ops.merge (a :: b :: t) <;> simp

theorem collect_ready {V} (ops : ValOps V) (l : List V) (v : V) (h : collect ops l = .ready v) :
    l = [v] ∨ (2 ≤ l.length ∧ ops.merge l = some v) := by
  match l with
  | [] => simp [collect] at h
  | [w] => simp [collect] at h; exact Or.inl (by rw [h])
  | a :: b :: t =>
    simp only [collect] at h
    cases hm : ops.merge (a :: b :: t) with
    | none => simp [hm] at h
    | some w => simp [hm] at h; subst h; exact Or.inr ⟨by simp, rfl⟩

theorem collect_eq_notReady_iff {V} (ops : ValOps V) (l : List V) : collect ops l = .notReady ↔ l = [] :=
  ⟨fun h => Decidable.byContradiction fun hl => collect_ne_notReady ops l hl h, fun h => h ▸ rfl⟩

/-! `Chan.get`: one equation per case (all-predecessor mode triggered / not triggered, any-predecessor
    mode); what else the proofs read off it follows from these. -/

theorem get_of_triggered {V} (ops : ValOps V) (c : Chan V) (h : c.triggered = true) :
    c.get ops true
      = (c.reset, if c.values.isEmpty then .ready ops.zero else collect ops (c.values.map (·.2))) := by
  simp [Chan.get, h]

theorem get_not_triggered {V} (ops : ValOps V) (c : Chan V) (h : c.triggered = false) :
    c.get ops true = (c, .notReady) := by
  simp [Chan.get, h]

theorem get_pregel {V} (ops : ValOps V) (c : Chan V) :
    (c.get ops false).2 = collect ops (c.values.map (·.2)) ∧ ((c.get ops false).1).values = [] := by
  unfold Chan.get
  simp only [Bool.false_eq_true, ↓reduceIte]
  by_cases h : c.values.isEmpty = true
  · have : c.values = [] := by simpa using h
    simp [this, collect]
  · simp [h]

theorem get_fst {V} (ops : ValOps V) (c : Chan V) :
    (c.get ops true).1 = if c.triggered then c.reset else c := by
  unfold Chan.get; simp only [↓reduceIte]; split <;> rfl

theorem get_ready {V} (ops : ValOps V) (c : Chan V) (ht : c.triggered = true) {v : V}
    (hg : (c.get ops true).2 = .ready v) :
    (c.values = [] ∧ v = ops.zero) ∨ collect ops (c.values.map (·.2)) = .ready v := by
  rw [get_of_triggered ops c ht] at hg
  by_cases hv : c.values.isEmpty = true
  · rw [if_pos hv] at hg; exact Or.inl ⟨List.isEmpty_iff.mp hv, (GetResult.ready.inj hg).symm⟩
  · rw [if_neg hv] at hg; exact Or.inr hg

theorem get_mergeErr_iff {V} (ops : ValOps V) (c : Chan V) :
    (c.get ops true).2 = .mergeErr ↔ c.triggered = true ∧ collect ops (c.values.map (·.2)) = .mergeErr := by
  cases ht : c.triggered with
  | false => simp [Chan.get, ht]
  | true =>
    rw [get_of_triggered ops c ht]
    cases hv : c.values with
    | nil => simp [collect]
    | cons a t => simp

theorem get_ne_notReady {V} (ops : ValOps V) (c : Chan V) (ht : c.triggered = true) :
    (c.get ops true).2 ≠ .notReady := by
  rw [get_of_triggered ops c ht]
  cases hv : c.values with
  | nil => simp
  | cons a t => simpa using collect_ne_notReady ops _ (List.cons_ne_nil a.2 (t.map (·.2)))

/-- in any-predecessor mode `get` ignores `zero` -/
theorem get_false_zero {V} (ops : ValOps V) (z : V) (c : Chan V) :
    c.get { ops with zero := z } false = c.get ops false := by
  unfold Chan.get
  simp only [Bool.false_eq_true, if_false]
  rcases hv : c.values.map (·.2) with _ | ⟨a, _ | ⟨b, rest⟩⟩ <;> simp [collect]

theorem getReady_map {V} (ops : ValOps V) (dag : Bool) (cm : Chans V) :
    getReady ops dag cm =
      (cm.map (fun p => (p.1, (p.2.get ops dag).1)),
       cm.filterMap (fun p => match (p.2.get ops dag).2 with | .ready v => some (p.1, v) | _ => none),
       cm.any (fun p => match (p.2.get ops dag).2 with | .mergeErr => true | _ => false)) := by
  induction cm with
  | nil => rfl
  | cons p t ih =>
    obtain ⟨k, c⟩ := p
    rw [getReady, ih, List.map_cons, List.filterMap_cons, List.any_cons]
    rcases c.get ops dag with ⟨c', _ | v | _⟩ <;> rfl

theorem getReady_fst {V} (ops : ValOps V) (dag : Bool) (cm : Chans V) :
    (getReady ops dag cm).1 = cm.map (fun p => (p.1, (p.2.get ops dag).1)) := by
  rw [getReady_map]

theorem forall_mem_getReady {V} (ops : ValOps V) {cm : Chans V} {P : Key → Chan V → Prop}
    (ht : ∀ n c, (n, c) ∈ cm → c.triggered = true → P n c.reset)
    (hu : ∀ n c, (n, c) ∈ cm → c.triggered = false → P n c) :
    ∀ n c', (n, c') ∈ (getReady ops true cm).1 → P n c' := by
  intro n c' hm
  rw [getReady_fst] at hm
  obtain ⟨⟨n, c⟩, hc, e⟩ := List.mem_map.mp hm
  obtain ⟨rfl, rfl⟩ := Prod.mk.inj e
  rw [get_fst]
  cases h : c.triggered
  · exact hu n c hc h
  · exact ht n c hc h

theorem akeys_getReady {V} (ops : ValOps V) (dag : Bool) (cm : Chans V) :
    akeys (getReady ops dag cm).1 = akeys cm := by
  rw [getReady_fst, akeys, List.map_map]; rfl

theorem getReady_keys_sublist {V} (ops : ValOps V) (dag : Bool) (cm : Chans V) :
    (akeys (getReady ops dag cm).2.1).Sublist (akeys cm) := by
  rw [getReady_map]
  exact filterMap_map_sublist _ _ _ (fun p q h => by split at h <;> cases h; rfl) cm

theorem alookup_getReady {V} (ops : ValOps V) (dag : Bool) (cm : Chans V) (p : Key) :
    alookup p (getReady ops dag cm).1 = (alookup p cm).map (fun c => (c.get ops dag).1) := by
  rw [getReady_fst]; exact alookup_map (fun c => (c.get ops dag).1) p cm

theorem mem_getReady_ready {V} (ops : ValOps V) (dag : Bool) (cm : Chans V) (n : Key) (v : V) :
    (n, v) ∈ (getReady ops dag cm).2.1 ↔ ∃ c, (n, c) ∈ cm ∧ (c.get ops dag).2 = .ready v := by
  rw [getReady_map, List.mem_filterMap]
  constructor
  · rintro ⟨⟨k, c⟩, hc, he⟩
    split at he
    · rename_i w hg
      obtain ⟨rfl, rfl⟩ := Prod.mk.inj (Option.some.inj he)
      exact ⟨c, hc, hg⟩
    · cases he
  · rintro ⟨c, hc, hg⟩
    exact ⟨(n, c), hc, by simp only [hg]⟩

theorem getReady_mergeErr {V} (ops : ValOps V) (dag : Bool) (cm : Chans V) :
    (getReady ops dag cm).2.2 = true ↔ ∃ p ∈ cm, (p.2.get ops dag).2 = .mergeErr := by
  rw [getReady_map, List.any_eq_true]
  refine exists_congr fun p => and_congr_right fun _ => ?_
  cases (p.2.get ops dag).2 <;> simp

theorem getReady_cons {V} (ops : ValOps V) (dag : Bool) (k : Key) (c : Chan V) (rest : Chans V) :
    getReady ops dag ((k, c) :: rest) =
      ((k, (c.get ops dag).1) :: (getReady ops dag rest).1,
       (match (c.get ops dag).2 with | .ready v => (k, v) :: (getReady ops dag rest).2.1 | _ => (getReady ops dag rest).2.1),
       (match (c.get ops dag).2 with | .mergeErr => true | _ => (getReady ops dag rest).2.2)) := by
  simp only [getReady]
  cases (c.get ops dag).2 <;> rfl

theorem node?_some {V} (r : Runner V) (k : Key) (n : Node V) (h : r.node? k = some n) :
    n ∈ r.nodes ∧ n.key = k := by
  unfold Runner.node? at h
  have h1 := List.mem_of_find?_eq_some h
  have h2 := List.find?_some h
  exact ⟨h1, by simpa using h2⟩

theorem call?_mem {V} (r : Runner V) (k : Key) (n : Node V) (h : r.call? k = some n) : n ∈ r.nodes ∨ n = r.start := by
  unfold Runner.call? at h
  split at h
  · exact Or.inr (Option.some.inj h).symm
  · exact Or.inl (node?_some r k n h).1

theorem call?_some {V} (r : Runner V) (hk : r.start.key = START) (k : Key) (n : Node V)
    (h : r.call? k = some n) : (n ∈ r.nodes ∨ n = r.start) ∧ n.key = k := by
  refine ⟨call?_mem r k n h, ?_⟩
  unfold Runner.call? at h
  split at h
  · rename_i hs
    rw [← Option.some.inj h, hk]; exact (beq_iff_eq.mp hs).symm
  · exact (node?_some r k n h).2

theorem node?_exists {V} (r : Runner V) (k : Key) (hk : k ∈ r.nodes.map (·.key)) : ∃ n, r.node? k = some n := by
  obtain ⟨q, hq, rfl⟩ := List.mem_map.mp hk
  exact Option.isSome_iff_exists.mp (List.find?_isSome.mpr ⟨q, hq, beq_self_eq_true _⟩)

theorem call?_exists {V} (r : Runner V) (p : Key) (hp : p = START ∨ p ∈ r.nodes.map (·.key)) :
    ∃ n, r.call? p = some n := by
  unfold Runner.call?
  by_cases hs : p = START
  · exact ⟨_, if_pos (by simp [hs])⟩
  · rw [if_neg (by simpa using hs)]
    exact node?_exists r p (hp.resolve_left hs)

theorem DagRun.mem_initChans {V} (r : Runner V) (n : Key) (c : Chan V) (h : (n, c) ∈ initChans r) :
    c = Chan.init r.dag (lookupList n r.ctrlPreds) (lookupList n r.dataPreds) := by
  simp only [initChans, List.mem_append, List.mem_map, List.mem_singleton, Prod.mk.injEq] at h
  rcases h with ⟨nd, _, rfl, rfl⟩ | ⟨rfl, rfl⟩
  · rfl
  · rfl

theorem DagRun.akeys_initChans {V} (r : Runner V) : akeys (initChans r) = r.nodes.map (·.key) ++ [END] := by
  simp only [initChans, akeys, List.map_append, List.map_map, List.map_cons, List.map_nil]
  rfl

theorem call?_of_ne_start {V} (r : Runner V) {k : Key} (h : k ≠ START) : r.call? k = r.node? k :=
  if_neg (by simpa using h)

theorem mem_skippedOf_iff {V} (n : Node V) (sel : List Key) (s : Key) :
    s ∈ skippedOf n sel ↔ s ∈ n.branches.flatMap (·.ends) ∧ s ∉ sel ∧ s ∉ n.controls := by
  simp only [skippedOf, List.contains_eq_mem, List.mem_filter, List.mem_eraseDups, Bool.and_eq_true,
    Bool.not_eq_eq_eq_not, Bool.not_true, decide_eq_false_iff_not]

theorem skippedOf_sub {V} (n : Node V) (sel : List Key) : ∀ s, s ∈ skippedOf n sel → s ∈ n.successors :=
  fun s hs => List.mem_append_right _ ((mem_skippedOf_iff n sel s).mp hs).1

theorem propagateSkips_nil {V} (r : Runner V) (fuel : Nat) (cm : Chans V) : propagateSkips r fuel cm [] = .ok cm := by
  cases fuel <;> rfl

theorem skipOne_pregel {V} (cm : Chans V) (k f : Key) : skipOne false cm k f = (cm, false) := by
  simp [skipOne]

theorem skipStep_pregel {V} (f : Key) (acc : Chans V × List Key) (s : Key) :
    skipStep false f acc s = acc := by
  simp [skipStep, skipOne_pregel]

theorem foldl_skipStep_pregel {V} (f : Key) (l : List Key) (acc : Chans V × List Key) :
    l.foldl (skipStep false f) acc = acc :=
  foldl_inv (· = acc) _ l (fun _ e s _ => e ▸ skipStep_pregel f acc s) acc rfl

theorem reportBranch_pregel {V} (r : Runner V) (h : r.dag = false) (cm : Chans V) (f : Key) (sk : List Key) :
    reportBranch r cm f sk = .ok cm := by
  unfold reportBranch
  simp only [h, foldl_skipStep_pregel]
  exact propagateSkips_nil r _ cm

theorem calcBranch_eq_ok {V} {r : Runner V} {cm cm' : Chans V} {n : Node V} {out : V} {sel : List Key} :
    calcBranch r cm n out = .ok (cm', sel) ↔
      selectOf n out = .ok sel ∧ reportBranch r cm n.key (skippedOf n sel) = .ok cm' := by
  unfold calcBranch
  constructor
  · intro h
    obtain ⟨s, hs, h⟩ := bind_eq_ok.mp h
    obtain ⟨c, hc, h⟩ := bind_eq_ok.mp h
    obtain ⟨rfl, rfl⟩ := Prod.mk.inj (Except.ok.inj h)
    exact ⟨hs, hc⟩
  · rintro ⟨hs, hc⟩
    exact bind_eq_ok.mpr ⟨sel, hs, bind_eq_ok.mpr ⟨cm', hc, rfl⟩⟩

theorem resolveStep_ok {V} {r : Runner V} {acc acc' : Resolved V} {t : Done V}
    (h : resolveStep r acc t = .ok acc') :
    (r.call? t.1 = none ∧ acc' = acc) ∨
    ∃ n sel cm', r.call? t.1 = some n ∧ selectOf n t.2 = .ok sel ∧
      reportBranch r acc.cm n.key (skippedOf n sel) = .ok cm' ∧
      acc' = { cm := cm',
               writes := (sel ++ n.writeTo).foldl (fun ws k => addWrite ws k t.1 t.2) acc.writes,
               deps := sel.foldl (fun ds k => addDep ds k t.1)
                         (n.controls.foldl (fun ds k => addDep ds k t.1) acc.deps) } := by
  unfold resolveStep at h
  cases hc : r.call? t.1 with
  | none => rw [hc] at h; exact Or.inl ⟨rfl, (Except.ok.inj h).symm⟩
  | some n =>
    rw [hc] at h
    obtain ⟨⟨cm1, sel⟩, hb, h⟩ := bind_eq_ok.mp h
    obtain ⟨h1, h2⟩ := calcBranch_eq_ok.mp hb
    exact Or.inr ⟨n, sel, cm1, rfl, h1, h2, (Except.ok.inj h).symm⟩

theorem calcNext_ok {V} {ops : ValOps V} {r : Runner V} {cm cm' : Chans V}
    {done : List (Done V)} {nx : Next V} (h : calcNext ops r cm done = .ok (cm', nx)) :
    ∃ res ready, resolve r cm done = .ok res ∧
      getReady ops r.dag (updateDeps r (updateValues r res.cm res.writes) res.deps) = (cm', ready, false) ∧
      ((∃ v, alookup END ready = some v ∧ nx = .result v) ∨ (alookup END ready = none ∧ nx = .tasks ready)) := by
  unfold calcNext at h
  cases h1 : resolve r cm done with
  | error e => simp [h1, bind, Except.bind] at h
  | ok res =>
    simp only [h1, bind, Except.bind] at h
    generalize hg : getReady ops r.dag (updateDeps r (updateValues r res.cm res.writes) res.deps) = gr at h
    obtain ⟨cm3, ready, bad⟩ := gr
    cases bad with
    | true => simp [throw, throwThe, MonadExceptOf.throw] at h
    | false =>
      simp only [Bool.false_eq_true, ↓reduceIte] at h
      refine ⟨res, ready, rfl, ?_⟩
      split at h
      · rename_i v hv
        simp only [pure, Except.pure, Except.ok.injEq, Prod.mk.injEq] at h
        exact ⟨by rw [hg, h.1], Or.inl ⟨v, hv, h.2.symm⟩⟩
      · rename_i hnone
        simp only [pure, Except.pure, Except.ok.injEq, Prod.mk.injEq] at h
        exact ⟨by rw [hg, h.1], Or.inr ⟨hnone, h.2.symm⟩⟩

theorem resolveStep_error {V} {r : Runner V} {acc : Resolved V} {t : Done V} {e : Err}
    (h : resolveStep r acc t = .error e) :
    ∃ n, r.call? t.1 = some n ∧ (selectOf n t.2 = .error e ∨
      ∃ sel, selectOf n t.2 = .ok sel ∧ reportBranch r acc.cm n.key (skippedOf n sel) = .error e) := by
  unfold resolveStep at h
  cases hc : r.call? t.1 with
  | none => rw [hc] at h; cases h
  | some n =>
    rw [hc] at h
    rcases bind_eq_error.mp h with h | ⟨_, _, h⟩
    · rcases bind_eq_error.mp h with h | ⟨sel, hs, h⟩
      · exact ⟨n, rfl, Or.inl h⟩
      · rcases bind_eq_error.mp h with h | ⟨_, _, h⟩
        · exact ⟨n, rfl, Or.inr ⟨sel, hs, h⟩⟩
        · cases h
    · cases h

theorem calcNext_error {V} {ops : ValOps V} {r : Runner V} {cm : Chans V} {done : List (Done V)} {e : Err}
    (h : calcNext ops r cm done = .error e) :
    resolve r cm done = .error e ∨ ∃ res, resolve r cm done = .ok res ∧
      (getReady ops r.dag (updateDeps r (updateValues r res.cm res.writes) res.deps)).2.2 = true := by
  unfold calcNext at h
  cases h1 : resolve r cm done with
  | error e' => rw [h1] at h; cases h; exact Or.inl rfl
  | ok res =>
    simp only [h1, bind, Except.bind] at h
    refine Or.inr ⟨res, rfl, ?_⟩
    generalize getReady ops r.dag (updateDeps r (updateValues r res.cm res.writes) res.deps) = gr at h ⊢
    obtain ⟨cm3, ready, _ | _⟩ := gr
    · simp only [Bool.false_eq_true, ↓reduceIte] at h
      split at h <;> cases h
    · rfl

theorem calcNext_eq_core {V} (ops : ValOps V) (r : Runner V) (cm : Chans V) (done : List (Done V)) :
    calcNext ops r cm done = (calcCore ops r cm done).bind classify := by
  unfold calcNext calcCore classify
  cases hr : resolve r cm done with
  | error e => rfl
  | ok res =>
    simp only [bind, Except.bind, pure, Except.pure]
    generalize getReady ops r.dag (updateDeps r (updateValues r res.cm res.writes) res.deps) = g
    obtain ⟨cm3, ready, bad⟩ := g
    cases bad with
    | true => rfl
    | false =>
      simp only [Bool.false_eq_true, ↓reduceIte]
      cases alookup END ready <;> rfl

/-- `mergeValues` does not depend on the order of its arguments (they come out of a Go map) -/
def MergePerm {V} (ops : ValOps V) : Prop := ∀ l l' : List V, l.Perm l' → ops.merge l = ops.merge l'

theorem collect_perm {V} (ops : ValOps V) (hm : MergePerm ops) (l l' : List V) (h : l.Perm l') :
    collect ops l = collect ops l' := by
  match l, l', h with
  | [], l', h => rw [List.nil_perm.mp h]
  | [v], l', h => rw [List.singleton_perm.mp h]
  | a :: b :: t, [], h => exact absurd h.length_eq (by simp)
  | a :: b :: t, [v], h => exact absurd h.length_eq (by simp)
  | a :: b :: t, a' :: b' :: t', h => simp only [collect, hm _ _ h]

def Sched.Fair {V} (sched : Sched V) : Prop := ∀ n l, (sched n l).Perm l

theorem collectOne_key {V} (t : Key × Except Err V) (d : Done V) (h : collectOne t = .ok d) :
    d.1 = t.1 := by
  unfold collectOne at h
  split at h
  · cases h; rfl
  · cases h

theorem runTasks_keys {V} (r : Runner V) (sched : Sched V) (hf : sched.Fair) (step : Nat)
    (ts : List (Key × V)) (done : List (Done V)) (h : runTasks r sched step ts = .ok done) :
    (done.map (·.1)).Perm (ts.map (·.1)) := by
  unfold runTasks at h
  have hk : (ts.map (execOne r)).map (·.1) = ts.map (·.1) :=
    List.map_map.trans (List.map_congr_left fun t _ => by
      simp only [Function.comp, execOne]
      cases r.node? t.1 <;> rfl)
  rw [mapM_ok_map _ _ collectOne_key _ _ h, ← hk]
  exact (hf step _).map (·.1)

theorem collect_exec_key {V} (r : Runner V) (t : Key × V) (d : Done V) (h : collectOne (execOne r t) = .ok d) :
    d.1 = t.1 :=
  (collectOne_key _ d h).trans (by unfold execOne; split <;> rfl)

/-- An invariant `P` of (channels, pending tasks, trace so far) that every round which goes on keeps (`hstep`)
    is carried to the state `(cm1, tasks1, tr1)` in which `loop` stops.  Either the fuel ran out there before
    `tasks1` were run: the trace is `tr1` and there is no value; or `tasks1` were run: the trace ends with them,
    and a value `v` comes only from `calcNext` answering `.result v` to their completions on `cm1`. -/
theorem loop_stops {V} (ops : ValOps V) (r : Runner V) (sched : Sched V)
    (P : Chans V → List (Key × V) → Trace V → Prop)
    (hstep : ∀ cm cm' tasks tr done ts, P cm tasks tr → runTasks r sched tr.length tasks = .ok done →
      calcNext ops r cm done = .ok (cm', .tasks ts) → P cm' ts (tasks :: tr)) :
    ∀ (fuel : Nat) (cm : Chans V) (tasks : List (Key × V)) (tr : Trace V), P cm tasks tr →
      ∃ cm1 tasks1 tr1, P cm1 tasks1 tr1 ∧
        (((loop ops r sched fuel cm tasks tr).trace = tr1.reverse ∧
            ∀ v, (loop ops r sched fuel cm tasks tr).result ≠ .ok v) ∨
         ((loop ops r sched fuel cm tasks tr).trace = (tasks1 :: tr1).reverse ∧
            ∀ v, (loop ops r sched fuel cm tasks tr).result = .ok v →
              ∃ done cm2, runTasks r sched tr1.length tasks1 = .ok done ∧
                calcNext ops r cm1 done = .ok (cm2, .result v))) := by
  intro fuel
  induction fuel with
  | zero => intro cm tasks tr h; exact ⟨cm, tasks, tr, h, Or.inl ⟨rfl, fun v hv => by cases hv⟩⟩
  | succ f ih =>
    intro cm tasks tr h
    unfold loop
    simp only
    cases hr : runTasks r sched tr.length tasks with
    | error e => exact ⟨cm, tasks, tr, h, Or.inr ⟨rfl, fun v hv => by cases hv⟩⟩
    | ok done =>
      simp only
      by_cases he : done.isEmpty = true
      · simp only [he, ↓reduceIte]
        exact ⟨cm, tasks, tr, h, Or.inr ⟨rfl, fun v hv => by cases hv⟩⟩
      · simp only [he, Bool.false_eq_true, ↓reduceIte]
        cases hc : calcNext ops r cm done with
        | error e => exact ⟨cm, tasks, tr, h, Or.inr ⟨rfl, fun v hv => by cases hv⟩⟩
        | ok res =>
          obtain ⟨cm', nx⟩ := res
          cases nx with
          | result w =>
            refine ⟨cm, tasks, tr, h, Or.inr ⟨rfl, fun v hv => ⟨done, cm', hr, ?_⟩⟩⟩
            cases hv; exact hc
          | tasks ts => exact ih cm' ts (tasks :: tr) (hstep cm cm' tasks tr done ts h hr hc)

@[elab_as_elim]
theorem runS_elim {V} {motive : Outcome V → Prop} (ops : ValOps V) (r : Runner V) (sched : Sched V) (x : V)
    (err : ∀ e, calcNext ops r (initChans r) [(START, x)] = .error e → motive { result := .error e, trace := [] })
    (res : ∀ cm v, calcNext ops r (initChans r) [(START, x)] = .ok (cm, .result v) →
      motive { result := .ok v, trace := [] })
    (go : ∀ cm ts, calcNext ops r (initChans r) [(START, x)] = .ok (cm, .tasks ts) →
      motive (loop ops r sched r.fuel cm ts [])) :
    motive (runS ops r sched x) := by
  unfold runS
  cases hc : calcNext ops r (initChans r) [(START, x)] with
  | error e => exact err e hc
  | ok res' =>
    obtain ⟨cm, v | ts⟩ := res'
    · exact res cm v hc
    · exact go cm ts hc

theorem runS_stops {V} (ops : ValOps V) (r : Runner V) (sched : Sched V) (x : V)
    (P : Chans V → List (Key × V) → Trace V → Prop)
    (hstart : ∀ cm ts, calcNext ops r (initChans r) [(START, x)] = .ok (cm, .tasks ts) → P cm ts [])
    (hstep : ∀ cm cm' tasks tr done ts, P cm tasks tr → runTasks r sched tr.length tasks = .ok done →
      calcNext ops r cm done = .ok (cm', .tasks ts) → P cm' ts (tasks :: tr)) :
    ((runS ops r sched x).trace = [] ∧ ∀ v, (runS ops r sched x).result = .ok v →
        ∃ cm, calcNext ops r (initChans r) [(START, x)] = .ok (cm, .result v)) ∨
    ∃ cm1 tasks1 tr1, P cm1 tasks1 tr1 ∧
      (((runS ops r sched x).trace = tr1.reverse ∧ ∀ v, (runS ops r sched x).result ≠ .ok v) ∨
       ((runS ops r sched x).trace = (tasks1 :: tr1).reverse ∧
          ∀ v, (runS ops r sched x).result = .ok v →
            ∃ done cm2, runTasks r sched tr1.length tasks1 = .ok done ∧
              calcNext ops r cm1 done = .ok (cm2, .result v))) := by
  refine runS_elim ops r sched x (fun e _ => Or.inl ⟨rfl, fun v hv => by cases hv⟩)
    (fun cm w hc => Or.inl ⟨rfl, fun v hv => by cases hv; exact ⟨cm, hc⟩⟩)
    (fun cm ts hc => Or.inr (loop_stops ops r sched P hstep r.fuel cm ts [] (hstart cm ts hc)))

end EinoV.Engine

/-! One traversal of the operations serves every invariant of the form "all channels satisfy `P`" (the
key list, `P := fun _ => True`, comes with it): each lemma asks only for what its operation does
to one channel. -/

namespace EinoV.Interrupt
def AllP {V} (P : Engine.Chan V → Prop) (cm : Engine.Chans V) : Prop := ∀ p ∈ cm, P p.2
end EinoV.Interrupt

namespace EinoV.Engine
open Interrupt (AllP)
variable {V : Type} {P : Chan V → Prop}

def Keeps (P : Chan V → Prop) (cm cm' : Chans V) : Prop :=
  akeys cm' = akeys cm ∧ (AllP P cm → AllP P cm')

theorem Keeps.refl (P : Chan V → Prop) (cm : Chans V) : Keeps P cm cm := ⟨rfl, id⟩

theorem Keeps.trans {a b c : Chans V} (h₁ : Keeps P a b) (h₂ : Keeps P b c) : Keeps P a c :=
  ⟨h₂.1.trans h₁.1, h₂.2 ∘ h₁.2⟩

/-- `f` need keep `P` only when the whole table satisfies it (`skipOne` writes back a channel it
    has looked up in the table) -/
theorem keeps_modChan (cm : Chans V) (k : Key) (f : Chan V → Chan V)
    (hf : AllP P cm → ∀ c, P c → P (f c)) : Keeps P cm (modChan cm k f) := by
  refine ⟨akeys_modChan cm k f, fun h p hp => ?_⟩
  obtain ⟨q, hq, rfl⟩ := List.mem_map.1 hp
  split
  · exact hf h _ (h q hq)
  · exact h q hq

theorem keeps_skipOne {dag : Bool} (hskip : ∀ c k, P c → P (c.reportSkip dag [k]).1)
    (cm : Chans V) (s from_ : Key) : Keeps P cm (skipOne dag cm s from_).1 := by
  rw [skipOne]
  by_cases hd : (!dag) = true
  · rw [if_pos hd]; exact .refl ..
  · rw [if_neg hd]
    split
    · exact .refl ..
    · rename_i c hl
      exact keeps_modChan cm s _ fun h _ _ => hskip c from_ (h (s, c) (mem_of_alookup s c cm hl))

theorem keeps_skipFold {dag : Bool} (hskip : ∀ c k, P c → P (c.reportSkip dag [k]).1) (from_ : Key)
    (l : List Key) (acc : Chans V × List Key) : Keeps P acc.1 (l.foldl (skipStep dag from_) acc).1 :=
  foldl_inv (fun a => Keeps P acc.1 a.1) _ l (fun a ha s _ => ha.trans (keeps_skipOne hskip a.1 s from_))
    acc (.refl ..)

theorem keeps_propagateSkips {r : Runner V} (hskip : ∀ c k, P c → P (c.reportSkip r.dag [k]).1) :
    ∀ (fuel : Nat) (cm : Chans V) (ks : List Key) (cm' : Chans V),
    propagateSkips r fuel cm ks = .ok cm' → Keeps P cm cm' := by
  intro fuel
  induction fuel with
  | zero => intro cm ks cm' h; obtain rfl : cm = cm' := Except.ok.inj h; exact .refl ..
  | succ n ih =>
    intro cm ks cm' h
    cases ks with
    | nil => obtain rfl : cm = cm' := Except.ok.inj h; exact .refl ..
    | cons k rest =>
      simp only [propagateSkips] at h
      split at h
      · cases h
      · exact (keeps_skipFold hskip k _ (cm, [])).trans (ih _ _ _ h)

theorem keeps_reportBranch {r : Runner V} (hskip : ∀ c k, P c → P (c.reportSkip r.dag [k]).1)
    {cm : Chans V} {from_ : Key} {sk : List Key} {cm' : Chans V}
    (h : reportBranch r cm from_ sk = .ok cm') : Keeps P cm cm' :=
  (keeps_skipFold hskip from_ sk (cm, [])).trans (keeps_propagateSkips hskip _ _ _ _ h)

theorem keeps_calcBranch {r : Runner V} (hskip : ∀ c k, P c → P (c.reportSkip r.dag [k]).1)
    {cm : Chans V} {n : Node V} {out : V} {cm' : Chans V} {sel : List Key}
    (h : calcBranch r cm n out = .ok (cm', sel)) : Keeps P cm cm' :=
  keeps_reportBranch hskip (calcBranch_eq_ok.mp h).2

theorem keeps_resolveStep {r : Runner V} (hskip : ∀ c k, P c → P (c.reportSkip r.dag [k]).1)
    {acc res : Resolved V} {t : Done V} (h : resolveStep r acc t = .ok res) : Keeps P acc.cm res.cm := by
  rcases resolveStep_ok h with ⟨_, rfl⟩ | ⟨n, sel, cm', _, _, hrb, rfl⟩
  · exact .refl ..
  · exact keeps_reportBranch hskip hrb

theorem keeps_resolve {r : Runner V} (hskip : ∀ c k, P c → P (c.reportSkip r.dag [k]).1)
    (done : List (Done V)) {acc res : Resolved V} (h : done.foldlM (resolveStep r) acc = .ok res) :
    Keeps P acc.cm res.cm :=
  foldlM_inv (resolveStep r) (fun a => Keeps P acc.cm a.cm)
    (fun _ _ _ ha hs => ha.trans (keeps_resolveStep hskip hs)) done acc res (.refl ..) h

theorem keeps_updateValues (r : Runner V) (cm : Chans V) (ws : List (Key × List (Key × V)))
    (hv : ∀ w ∈ ws, ∀ ins, (∀ kv ∈ ins, kv ∈ w.2) → ∀ c, P c → P (c.reportValues r.dag ins)) :
    Keeps P cm (updateValues r cm ws) :=
  foldl_inv (Keeps P cm) _ ws
    (fun a ha w hw => ha.trans (keeps_modChan a _ _ fun _ c hc =>
      hv w hw _ (fun _ h => (List.mem_filter.mp h).1) c hc)) cm (.refl ..)

theorem keeps_updateDeps (r : Runner V) (cm : Chans V) (d : List (Key × List Key))
    (hd : ∀ c ds, P c → P (c.reportDeps r.dag ds)) : Keeps P cm (updateDeps r cm d) :=
  foldl_inv (Keeps P cm) _ d (fun a ha _ _ => ha.trans (keeps_modChan a _ _ fun _ c hc => hd c _ hc)) cm (.refl ..)

theorem keeps_getReady (ops : ValOps V) (dag : Bool) (cm : Chans V) (hg : ∀ c, P c → P (c.get ops dag).1) :
    Keeps P cm (getReady ops dag cm).1 := by
  rw [getReady_fst]
  refine ⟨by rw [akeys, List.map_map]; rfl, fun h p hp => ?_⟩
  obtain ⟨q, hq, rfl⟩ := List.mem_map.1 hp
  exact hg q.2 (h q hq)

end EinoV.Engine
