/-
  Histories made of START's output and the outputs of submitted tasks: what both run loops (batch
  and eager) need to know about them.  When no key is submitted twice and START never is, such a
  history has one output per key (`outs_functional`), and if every task was started on facts drawn
  from it, it is grounded (`grounded_of_tasks`).  Membership lemmas for the processed history
  `histC` of the eager loop.
-/
import EinoV.Proofs.C02Complete
import EinoV.Proofs.C02Eager

namespace EinoV.Engine
namespace DagRun

theorem key_ne_start {V} (L : List (Key × V)) (noStart : (akeys L).count START = 0) :
    ∀ t, t ∈ L → t.1 ≠ START := by
  intro t ht e
  have : 0 < (akeys L).count START := List.count_pos_iff.mpr (List.mem_map.mpr ⟨t, ht, e⟩)
  omega

theorem outs_functional {V} (r : Runner V) (x : V) (L : List (Key × V)) (H : List (Done V))
    (once : ∀ k, (akeys L).count k ≤ 1) (noStart : (akeys L).count START = 0)
    (hH : ∀ d, d ∈ H → d = (START, x) ∨ ∃ t, t ∈ L ∧ outOf r t = some d) :
    ∀ p o o', (p, o) ∈ H → (p, o') ∈ H → o = o' := by
  have nostart := key_ne_start L noStart
  intro p o o' hm hm'
  rcases hH _ hm with e | ⟨t, ht, ho⟩
  · rcases hH _ hm' with e' | ⟨t', ht', ho'⟩
    · rw [(Prod.mk.inj e).2, (Prod.mk.inj e').2]
    · exact absurd ((outOf_key r t' _ ho').symm.trans (Prod.mk.inj e).1) (nostart t' ht')
  · rcases hH _ hm' with e' | ⟨t', ht', ho'⟩
    · exact absurd ((outOf_key r t _ ho).symm.trans (Prod.mk.inj e').1) (nostart t ht)
    · have : t = t' := unique_by_key L p (once p) t t' ht ht' (outOf_key r t _ ho).symm (outOf_key r t' _ ho').symm
      subst this
      rw [ho] at ho'
      exact (Prod.mk.inj (Option.some.inj ho')).2

theorem outOf_act {V} (r : Runner V) (t : Key × V) (nd : Node V) (d : Done V) (hnd : r.node? t.1 = some nd)
    (ho : outOf r t = some d) : nd.act t.2 = .ok d.2 := by
  unfold outOf collectOne execOne at ho
  simp only [hnd] at ho
  cases ha : nd.act t.2 with
  | error e => simp [ha] at ho
  | ok o' =>
    simp only [ha, Option.some.injEq] at ho
    rw [← ho]

theorem grounded_of_tasks {V} (ops : ValOps V) (r : Runner V) (x : V) (L : List (Key × V)) (H : List (Done V))
    (once : ∀ k, (akeys L).count k ≤ 1) (noStart : (akeys L).count START = 0)
    (hH : ∀ d, d ∈ H → d = (START, x) ∨ ∃ t, t ∈ L ∧ outOf r t = some d)
    (facts : ∀ t, t ∈ L → ∃ H', (∀ d, d ∈ H' → d ∈ H) ∧ StartFacts ops r H' t.1 t.2)
    (nodes : ∀ t, t ∈ L → (r.node? t.1).isSome = true) : Grounded ops r x H := by
  have nostart := key_ne_start L noStart
  refine ⟨outs_functional r x L H once noStart hH, fun o hm => ?_, fun n o hm hns => ?_⟩
  · rcases hH _ hm with e | ⟨t, ht, ho⟩
    · exact (Prod.mk.inj e).2
    · exact absurd (outOf_key r t _ ho).symm (nostart t ht)
  · rcases hH _ hm with e | ⟨t, ht, ho⟩
    · exact absurd (Prod.mk.inj e).1 hns
    · have hk : n = t.1 := outOf_key r t _ ho
      obtain ⟨H', sub, f⟩ := facts t ht
      obtain ⟨nd, hnd⟩ := Option.isSome_iff_exists.mp (nodes t ht)
      exact ⟨t.2, H', sub, hk ▸ f, nd, hk ▸ hnd, outOf_act r t nd _ hnd ho⟩

/-- the channel keys (node keys, then END) are distinct -/
theorem end_not_node {V} (r : Runner V) (wf : DagWF r) : ¬ (r.node? END).isSome = true := by
  intro h
  obtain ⟨nd, hnd⟩ := Option.isSome_iff_exists.mp h
  obtain ⟨hmem, hkey⟩ := node?_some r END nd hnd
  have hnodup := wf.nodup
  rw [akeys_initChans, List.nodup_append] at hnodup
  exact hnodup.2.2 END (List.mem_map.mpr ⟨nd, hmem, hkey⟩) END (by simp) rfl

theorem end_not_started {V} (r : Runner V) (wf : DagWF r) (T : Trace V)
    (h : ∀ t, t ∈ T.flatten → (r.node? t.1).isSome = true) : (keysOfTr T).count END = 0 :=
  List.count_eq_zero.mpr fun hm =>
    let ⟨t, ht, he⟩ := List.mem_map.mp hm
    end_not_node r wf (he ▸ h t ht)

theorem mem_histC {V} (r : Runner V) (x : V) (bs : List (List (Key × V))) (comp : List Key) (d : Done V) :
    d ∈ histC r x bs comp ↔ d = (START, x) ∨ ∃ t, t ∈ bs.flatten ∧ t.1 ∈ comp ∧ outOf r t = some d := by
  simp only [histC, List.mem_cons, List.mem_filterMap, List.mem_filter, List.contains_iff_mem, and_assoc]

theorem histC_nil {V} (r : Runner V) (x : V) (bs : List (List (Key × V))) : histC r x bs [] = histOf r x [] := by
  simp [histC, histOf]

theorem histC_subset {V} (r : Runner V) (x : V) {bs bs' : List (List (Key × V))} {comp comp' : List Key}
    (hb : ∀ t, t ∈ bs.flatten → t ∈ bs'.flatten) (hc : ∀ k, k ∈ comp → k ∈ comp') :
    ∀ d, d ∈ histC r x bs comp → d ∈ histC r x bs' comp' := by
  intro d hd
  rw [mem_histC] at hd ⊢
  rcases hd with h | ⟨t, ht, hk, ho⟩
  · exact Or.inl h
  · exact Or.inr ⟨t, hb t ht, hc _ hk, ho⟩

theorem histC_sub {V} (r : Runner V) (x : V) (bs : List (List (Key × V))) (comp : List Key) :
    ∀ d, d ∈ histC r x bs comp → d ∈ histOf r x bs.reverse := by
  intro d hd
  rw [mem_histOf_reverse]
  rcases (mem_histC r x bs comp d).mp hd with h | ⟨t, ht, _, ho⟩
  · exact Or.inl h
  · exact Or.inr ⟨t, ht, ho⟩

/-- `bs'` is `bs` with the batches submitted meanwhile; they bring no new member, as no key is submitted twice -/
theorem histC_step_mem {V} (r : Runner V) (x : V) (bs bs' : List (List (Key × V))) (comp : List Key)
    (t : Key × V) (d : Done V) (hsub : ∀ u, u ∈ bs.flatten → u ∈ bs'.flatten)
    (once : ∀ k, (keysOfTr bs').count k ≤ 1) (ht : t ∈ bs.flatten) (hout : outOf r t = some d)
    (cok : ∀ k, k ∈ comp → ∃ u, u ∈ bs.flatten ∧ u.1 = k) :
    ∀ e, e ∈ histC r x bs' (comp ++ [t.1]) → e ∈ histC r x bs comp ∨ e ∈ [d] := by
  intro e he
  rcases (mem_histC r x bs' _ e).mp he with h | ⟨u, hu, hmem, ho⟩
  · exact Or.inl ((mem_histC r x bs comp e).mpr (Or.inl h))
  · rcases List.mem_append.mp hmem with h1 | h1
    · obtain ⟨u', hu', hk'⟩ := cok u.1 h1
      have : u = u' := unique_by_key bs'.flatten u.1 (once u.1) u u' hu (hsub u' hu') rfl hk'
      subst this
      exact Or.inl ((mem_histC r x bs comp e).mpr (Or.inr ⟨u, hu', h1, ho⟩))
    · have : u = t := unique_by_key bs'.flatten u.1 (once u.1) u t hu (hsub t ht) rfl (List.mem_singleton.mp h1).symm
      subst this
      rw [hout] at ho
      exact Or.inr (List.mem_singleton.mpr (Option.some.inj ho).symm)

end DagRun
end EinoV.Engine
