/-
  Order-freeness of the type-inference work list: whether `updateToValidateMap` reports an
  error, and which types it infers, do not depend on Go's map iteration order.
-/
import EinoV.Proofs.C20Infer

namespace EinoV.Build

/-! ### types after a `T`-step are a function of the types before and of which nodes are typed now -/

theorem step_ite {x y : Option Ty} {T : Ty} (h : y = x ∨ y = some T) (hm : ∀ t, x = some t → y = some t) :
    y = if x.isSome then x else if y.isSome then some T else none := by
  rcases x with _ | t
  · rcases h with e | e <;> simp [e]
  · simp [hm t rfl]

theorem StepT.tin_ite {b c : Builder} {T : Ty} (h : StepT b c T) (k : Key) :
    c.nodeIn k = if (b.nodeIn k).isSome then b.nodeIn k else if (c.nodeIn k).isSome then some T else none :=
  step_ite (h.tin k) (h.mono.tin k)

theorem StepT.tout_ite {b c : Builder} {T : Ty} (h : StepT b c T) (k : Key) :
    c.nodeOut k = if (b.nodeOut k).isSome then b.nodeOut k else if (c.nodeOut k).isSome then some T else none :=
  step_ite (h.tout k) (h.mono.tout k)

theorem WF.isSome_out {b : Builder} (hw : WF b) (k : Key) : (b.nodeOut k).isSome = (b.nodeIn k).isSome := by
  have := hw.untyped_iff k
  rcases hi : b.nodeIn k with _ | t <;> rcases ho : b.nodeOut k with _ | t' <;> simp_all

theorem WF.in_of_out {b : Builder} (hw : WF b) {k : Key} (h : (b.nodeOut k).isSome = true) :
    (b.nodeIn k).isSome = true := hw.isSome_out k ▸ h

theorem StepT.agree {b b' c c' : Builder} {T : Ty} (h : StepT b c T) (h' : StepT b' c' T) (hw : WF c) (hw' : WF c')
    (hin : ∀ k, b'.nodeIn k = b.nodeIn k) (hout : ∀ k, b'.nodeOut k = b.nodeOut k)
    (hty : ∀ k, (c'.nodeIn k).isSome = true ↔ (c.nodeIn k).isSome = true) :
    (∀ k, c'.nodeIn k = c.nodeIn k) ∧ (∀ k, c'.nodeOut k = c.nodeOut k) := by
  have hsome : ∀ k, (c'.nodeIn k).isSome = (c.nodeIn k).isSome := fun k => Bool.eq_iff_iff.mpr (hty k)
  constructor
  · intro k; rw [h'.tin_ite k, h.tin_ite k, hin k, hsome k]
  · intro k; rw [h'.tout_ite k, h.tout_ite k, hout k, hw'.isSome_out, hw.isSome_out, hsome k]

theorem Frame.buildError {b b' : Builder} (h : Frame b b') : b'.buildError = b.buildError :=
  congrArg (·.2.2.2.2.2.2.2.2.2.2.2.2.2.1) h

def Mism (im : Impl) (b : Builder) (s : Key) (pe : PEdge) : Prop :=
  ∃ A B, b.nodeOut s = some A ∧ b.nodeIn pe.dst = some B ∧ checkAssignable im (some A) (some B) = .mustNot

def Err (im : Impl) (b : Builder) : Prop := ∃ s pe, pe ∈ getSlice b.toValidate s ∧ Mism im b s pe

theorem Mism.mono {im : Impl} {b b' : Builder} {s : Key} {pe : PEdge} (hm : Mono b b') (h : Mism im b s pe) :
    Mism im b' s pe := by
  obtain ⟨A, B, h1, h2, h3⟩ := h
  exact ⟨A, B, hm.tout _ _ h1, hm.tin _ _ h2, h3⟩

theorem typed_after_step {x y : Option Ty} {T A : Ty} (h : y = x ∨ y = some T) (hm : ∀ t, x = some t → y = some t)
    (hy : y = some A) : x = some A ∨ (x = none ∧ A = T) := by
  rcases x with _ | t
  · rcases h with e | e
    · rw [e] at hy; cases hy
    · rw [e] at hy; cases hy; exact Or.inr ⟨rfl, rfl⟩
  · rw [hm t rfl] at hy; exact Or.inl hy

/-- an end typed by the step got the type `T` that `Q` gives the other end, and `T` fits `T` -/
theorem Mism.of_step {im : Impl} {b b1 : Builder} {T : Ty} {s : Key} {pe : PEdge} (hq : Q b T) (hs : StepT b b1 T)
    (hpe : pe ∈ getSlice b.toValidate s) (h : Mism im b1 s pe) : Mism im b s pe := by
  obtain ⟨A, B, ho, hi, hc⟩ := h
  have hTT : checkAssignable im (some T) (some T) ≠ .mustNot := by rw [checkAssignable_same]; exact fun h => nomatch h
  rcases typed_after_step (hs.tout s) (hs.mono.tout s) ho with ho0 | ⟨ho0, rfl⟩ <;>
    rcases typed_after_step (hs.tin pe.dst) (hs.mono.tin pe.dst) hi with hi0 | ⟨hi0, rfl⟩
  · exact ⟨A, B, ho0, hi0, hc⟩
  · rcases (hq s pe hpe).2 hi0 with e | e <;> rw [ho0] at e <;> cases e
    exact absurd hc hTT
  · rcases (hq s pe hpe).1 ho0 with e | e <;> rw [hi0] at e <;> cases e
    exact absurd hc hTT
  · exact absurd hc hTT

theorem Err.of_step {im : Impl} {b b1 : Builder} {T : Ty} (hq : Q b T) (hs : StepT b b1 T)
    (htv : ∀ s pe, pe ∈ getSlice b1.toValidate s → pe ∈ getSlice b.toValidate s) :
    Err im b1 → Err im b :=
  fun ⟨s, pe, hpe, hm⟩ => ⟨s, pe, htv s pe hpe, hm.of_step hq hs (htv s pe hpe)⟩

theorem procEntries_err (im : Impl) (T : Ty) (s : Key) (sTy : Option Ty) :
    ∀ (entries : List PEdge) (b : Builder) (kept : List PEdge) (ch : Bool) (k : ErrKind),
      WF b → Q b T → PN b → (∀ pe ∈ entries, pe ∈ getSlice b.toValidate s) → SOk b s sTy T entries →
      procEntries im s sTy entries b kept ch = .error k → ∃ pe0 ∈ entries, Mism im b s pe0 := by
  intro entries
  induction entries with
  | nil => intro b kept ch k _ _ _ _ _ h; simp [procEntries] at h
  | cons pe rest ih =>
    intro b kept ch k hw hq hp hsub hso hk
    have hsubr : ∀ x ∈ rest, x ∈ getSlice b.toValidate s := fun x hx => hsub x (List.mem_cons_of_mem _ hx)
    rcases procEntries_cons_cases im T s sTy pe rest b kept ch hw hq hp hsub hso with
      ⟨A, B, _, h2, h3, h4, _⟩ | ⟨_, _, heq⟩ | ⟨b1, heq, hw1, hso1, _, _, hst1, _, _, hq1, hp1, hsub1⟩
    · exact ⟨pe, List.mem_cons_self, A, B, h2, h3, h4⟩
    · rw [heq] at hk
      obtain ⟨pe0, h0, hm⟩ := ih b (pe :: kept) ch k hw hq hp hsubr hso.tail hk
      exact ⟨pe0, List.mem_cons_of_mem _ h0, hm⟩
    · rw [heq] at hk
      obtain ⟨pe0, h0, hm⟩ := ih b1 kept true k hw1 hq1 hp1 hsub1 hso1 hk
      exact ⟨pe0, List.mem_cons_of_mem _ h0, hm.of_step hq hst1 (hsubr pe0 h0)⟩

/-- a failing run of the work list has met a mismatching entry of the state it had got to; the steps up to
    there created no mismatch -/
theorem update_err (im : Impl) (ord : Ord) (T : Ty) (b : Builder) (k : ErrKind) (hw : WF b) (hq : Q b T) (hp : PN b)
    (h : update im ord b = .error k) : Err im b := by
  obtain ⟨s, x, hu, hpe⟩ := (updLoop_walk im (Upd.pass hq hp) ord _ b (Upd.refl im hw T)).2 k h
  obtain ⟨pe0, h0, hm⟩ :=
    procEntries_err im T s _ _ x [] false k hu.wf (hu.q hq) (hu.pn hp) (fun _ hx => hx) (Or.inl rfl) hpe
  exact Err.of_step hq hu.step hu.shrink ⟨s, pe0, h0, hm⟩

/-- a mismatching pending entry makes the work list fail: an accepted run would leave the entry pending –
    but its ends are typed – or have resolved it soundly -/
theorem update_fails_of_err (im : Impl) (ord : Ord) (hv : ord.Valid) (T : Ty) (b : Builder)
    (hw : WF b) (hq : Q b T) (hp : PN b) (he : Err im b) : update im ord b = .error .edgeMismatch := by
  cases h : update im ord b with
  | error k => rw [update_errkind im ord b k h]
  | ok b' =>
    obtain ⟨hu, hi2, -⟩ := update_spec im ord hv T b b' hw hq hp h
    obtain ⟨s, pe, hpe, hm⟩ := he
    obtain ⟨A, B, ho, hi, hc⟩ := hm.mono hu.step.mono
    rcases hu.resolved s pe hpe with hpend | hsound
    · rw [(hi2 s pe hpend).1] at ho; cases ho
    · unfold SoundE at hsound; rw [ho, hi, hc] at hsound; exact hsound.elim

/-- **whether `updateToValidateMap` fails is decided by the state it starts from**: it
    returns an error – always the edge type mismatch – iff some pending entry joins two typed
    nodes that cannot be connected; this holds for every iteration order. -/
theorem update_error_iff (im : Impl) (ord : Ord) (hv : ord.Valid) (T : Ty) (b : Builder)
    (hw : WF b) (hq : Q b T) (hp : PN b) :
    (Err im b → update im ord b = .error .edgeMismatch) ∧
    (¬ Err im b → ∃ b', update im ord b = .ok b') := by
  refine ⟨update_fails_of_err im ord hv T b hw hq hp, fun hne => ?_⟩
  cases h : update im ord b with
  | ok b' => exact ⟨b', rfl⟩
  | error k => exact absurd (update_err im ord T b k hw hq hp h) hne


/-! ### which nodes get typed: exactly those connected, through pending entries, to a typed
    node of the state the work list starts from -/

inductive Reach (b0 : Builder) : Key → Prop
  | typed {k : Key} : (b0.nodeIn k).isSome = true → Reach b0 k
  | fwd {s : Key} {pe : PEdge} : pe ∈ getSlice b0.toValidate s → Reach b0 s → Reach b0 pe.dst
  | bwd {s : Key} {pe : PEdge} : pe ∈ getSlice b0.toValidate s → Reach b0 pe.dst → Reach b0 s

def TR (b0 b : Builder) : Prop := ∀ k, (b.nodeIn k).isSome = true → Reach b0 k

theorem Reach.closed {b : Builder} {P : Key → Prop} (ht : ∀ k, (b.nodeIn k).isSome = true → P k)
    (hc : ∀ s x, x ∈ getSlice b.toValidate s → (P s ↔ P x.dst)) {k : Key} (h : Reach b k) : P k := by
  induction h with
  | typed hk => exact ht _ hk
  | fwd hpe _ ih => exact (hc _ _ hpe).mp ih
  | bwd hpe _ ih => exact (hc _ _ hpe).mpr ih

/-- reachability only depends on the types and on the *set* of pending entries -/
theorem Reach.of_sets {b b' : Builder} (ht : ∀ k, (b.nodeIn k).isSome = true → Reach b' k)
    (hp : ∀ s x, x ∈ getSlice b.toValidate s →
        x ∈ getSlice b'.toValidate s ∨ ((b'.nodeIn x.dst).isSome = true ∧ (b'.nodeIn s).isSome = true))
    {k : Key} (h : Reach b k) : Reach b' k :=
  h.closed ht fun s x hx => (hp s x hx).elim (fun r => ⟨Reach.fwd r, Reach.bwd r⟩)
    (fun r => ⟨fun _ => Reach.typed r.1, fun _ => Reach.typed r.2⟩)

theorem Mono.isSome_in {b c : Builder} (hm : Mono b c) {k : Key} (h : (b.nodeIn k).isSome = true) :
    (c.nodeIn k).isSome = true := by
  obtain ⟨t, ht⟩ := Option.isSome_iff_exists.mp h
  rw [hm.tin k t ht]; rfl

theorem I2.closed {b : Builder} (h : I2 b) (hw : WF b) {s : Key} {x : PEdge} (hx : x ∈ getSlice b.toValidate s) :
    (b.nodeIn s).isSome = true ↔ (b.nodeIn x.dst).isSome = true := by
  rw [(h s x hx).2, (hw.untyped_iff s).mpr (h s x hx).1]

theorem I2.reach {b : Builder} (h : I2 b) (hw : WF b) {k : Key} (hr : Reach b k) : (b.nodeIn k).isSome = true :=
  hr.closed (P := fun k => (b.nodeIn k).isSome = true) (fun _ hk => hk) (fun _ _ hx => h.closed hw hx)

theorem procEntries_reach (im : Impl) (T : Ty) (b0 : Builder) (s : Key) (sTy : Option Ty) :
    ∀ (entries : List PEdge) (b : Builder) (kept : List PEdge) (ch : Bool),
      WF b → Q b T → PN b → (∀ pe ∈ entries, pe ∈ getSlice b.toValidate s) → SOk b s sTy T entries →
      (∀ s' x, x ∈ getSlice b.toValidate s' → x ∈ getSlice b0.toValidate s') → TR b0 b →
      ∀ b' kept' ch', procEntries im s sTy entries b kept ch = .ok (b', kept', ch') → TR b0 b' := by
  intro entries
  induction entries with
  | nil =>
    intro b kept ch _ _ _ _ _ _ htr b' kept' ch' h
    cases h
    exact htr
  | cons pe rest ih =>
    intro b kept ch hw hq hp hsub hso h0 htr b' kept' ch' h
    have hsubr : ∀ x ∈ rest, x ∈ getSlice b.toValidate s := fun x hx => hsub x (List.mem_cons_of_mem _ hx)
    rcases procEntries_cons_cases im T s sTy pe rest b kept ch hw hq hp hsub hso with
      ⟨_, _, _, _, _, _, heq⟩ | ⟨_, _, heq⟩ | ⟨b1, heq, hw1, hso1, _, hnew, _, _, htv1, hq1, hp1, hsub1⟩
    · rw [heq] at h; simp at h
    · rw [heq] at h
      exact ih b (pe :: kept) ch hw hq hp hsubr hso.tail h0 htr b' kept' ch' h
    · rw [heq] at h
      have htr1 : TR b0 b1 := by
        intro k hk
        rcases hnew k hk with e | ⟨rfl, e⟩ | ⟨rfl, e⟩
        · exact htr k e
        · exact Reach.fwd (h0 s pe (hsub pe List.mem_cons_self)) (htr s (hw.in_of_out e))
        · exact Reach.bwd (h0 _ pe (hsub pe List.mem_cons_self)) (htr _ e)
      exact ih b1 kept true hw1 hq1 hp1 hsub1 hso1 (fun s' x hx => h0 s' x (htv1 ▸ hx)) htr1 b' kept' ch' h

theorem update_reach (im : Impl) (ord : Ord) (T : Ty) (b0 b' : Builder) (hw : WF b0) (hq : Q b0 T) (hp : PN b0)
    (h : update im ord b0 = .ok b') : TR b0 b' := by
  refine ((updLoop_walk (P := fun x => Upd im b0 x T ∧ TR b0 x) im (fun s x x1 kept ch1 hx hpr => ?_) ord _ b0
    ⟨Upd.refl im hw T, fun _ => Reach.typed⟩).1 b' h).2
  exact ⟨Upd.pass hq hp s x x1 kept ch1 hx.1 hpr,
    procEntries_reach im T b0 s _ _ x [] false hx.1.wf (hx.1.q hq) (hx.1.pn hp) (fun _ h => h) (Or.inl rfl)
      hx.1.shrink hx.2 x1 kept ch1 hpr⟩

theorem Upd.typed_or_pending {im : Impl} {b b' : Builder} {T : Ty} (hu : Upd im b b' T) {s : Key} {x : PEdge}
    (hx : x ∈ getSlice b.toValidate s) :
    x ∈ getSlice b'.toValidate s ∨ ((b'.nodeIn x.dst).isSome = true ∧ (b'.nodeIn s).isSome = true) :=
  (hu.resolved s x hx).imp_right fun r => by
    obtain ⟨A, B, hA, hB⟩ := r.typed
    exact ⟨by rw [hB]; rfl, hu.wf.in_of_out (by rw [hA]; rfl)⟩

/-- **the types `updateToValidateMap` leaves behind are a function of the state it starts
    from** (whatever the iteration order): known types stay; an untyped node ends up typed –
    with `T` – exactly when pending entries connect it to a typed node; the entries that stay
    pending are exactly those joining two nodes that are still untyped. -/
theorem update_types (im : Impl) (ord : Ord) (hv : ord.Valid) (T : Ty) (b0 b' : Builder)
    (hw : WF b0) (hq : Q b0 T) (hp : PN b0) (h : update im ord b0 = .ok b') :
    (∀ k, (b'.nodeIn k).isSome = true ↔ Reach b0 k) ∧
    (∀ k, b'.nodeIn k = if (b0.nodeIn k).isSome then b0.nodeIn k else
            if (b'.nodeIn k).isSome then some T else none) ∧
    (∀ k, b'.nodeOut k = if (b0.nodeOut k).isSome then b0.nodeOut k else
            if (b'.nodeOut k).isSome then some T else none) ∧
    (∀ s x, x ∈ getSlice b'.toValidate s ↔
        (x ∈ getSlice b0.toValidate s ∧ b'.nodeOut s = none ∧ b'.nodeIn x.dst = none)) := by
  obtain ⟨hu, hi2, _⟩ := update_spec im ord hv T b0 b' hw hq hp h
  have hup : TR b0 b' := update_reach im ord T b0 b' hw hq hp h
  have hlow : ∀ k, Reach b0 k → (b'.nodeIn k).isSome = true := fun k hr => by
    refine hr.closed (P := fun k => (b'.nodeIn k).isSome = true) (fun _ => hu.step.mono.isSome_in) (fun s x hx => ?_)
    rcases hu.typed_or_pending hx with r | r
    · exact hi2.closed hu.wf r
    · exact ⟨fun _ => r.1, fun _ => r.2⟩
  refine ⟨fun k => ⟨hup k, hlow k⟩, hu.step.tin_ite, hu.step.tout_ite, fun s x =>
    ⟨fun hx => ⟨hu.shrink s x hx, hi2 s x hx⟩, fun ⟨hx, _, hi⟩ => ?_⟩⟩
  rcases hu.typed_or_pending hx with r | r
  · exact r
  · rw [hi] at r; exact absurd r.1 (fun h => nomatch h)


/-- the fields every check reads directly -/
def Builder.simFrame (b : Builder) :=
  (b.cmp, b.inT, b.outT, b.stateTy, b.controlEdges, b.dataEdges, b.branches, b.fmRecords, b.compiled,
   b.preNode, b.nodes.map (fun n => (n.key, n.passthrough)), b.startNodes.isEmpty, b.endNodes.isEmpty)

theorem simFrame_eq_iff {b b' : Builder} : b'.simFrame = b.simFrame ↔
    b'.cmp = b.cmp ∧ b'.inT = b.inT ∧ b'.outT = b.outT ∧ b'.stateTy = b.stateTy ∧
    b'.controlEdges = b.controlEdges ∧ b'.dataEdges = b.dataEdges ∧ b'.branches = b.branches ∧
    b'.fmRecords = b.fmRecords ∧ b'.compiled = b.compiled ∧ b'.preNode = b.preNode ∧
    b'.nodes.map (fun n => (n.key, n.passthrough)) = b.nodes.map (fun n => (n.key, n.passthrough)) ∧
    b'.startNodes.isEmpty = b.startNodes.isEmpty ∧ b'.endNodes.isEmpty = b.endNodes.isEmpty := by
  simp only [Builder.simFrame, Prod.mk.injEq]

theorem Frame.simFrame {b c : Builder} (h : Frame b c) : c.simFrame = b.simFrame := by
  simp only [Frame, Builder.frame, Prod.mk.injEq] at h
  obtain ⟨h1, h2, h3, h4, h5, h6, h7, h8, h9, h10, h11, h12, h13, h14, h15, h16⟩ := h
  simp only [Builder.simFrame, h1, h2, h3, h4, h5, h6, h7, h8, h9, h10, h13, h15, h16]

/-- same directly-read fields, same type of every node, same *set* of pending entries, no
    stored error: the two states may differ in the order of work-list slices, of the start/end
    node lists and in the recorded run-time checks – nothing a later call's outcome depends on -/
structure Sim (b b' : Builder) : Prop where
  fr : b'.simFrame = b.simFrame
  err : b.buildError = none ∧ b'.buildError = none
  tin : ∀ k, b'.nodeIn k = b.nodeIn k
  tout : ∀ k, b'.nodeOut k = b.nodeOut k
  pend : ∀ s x, x ∈ getSlice b'.toValidate s ↔ x ∈ getSlice b.toValidate s

theorem Sim.keys {b b' : Builder} (h : Sim b b') :
    b'.nodes.map (fun n => (n.key, n.passthrough)) = b.nodes.map (fun n => (n.key, n.passthrough)) :=
  (simFrame_eq_iff.mp h.fr).2.2.2.2.2.2.2.2.2.2.1

theorem Sim.hasNode {b b' : Builder} (h : Sim b b') (k : Key) : b'.hasNode k = b.hasNode k :=
  (findNode_isSome_of_keys h.keys k).1

theorem Sim.isPassthrough {b b' : Builder} (h : Sim b b') (k : Key) :
    EinoV.Build.isPassthrough b' k = EinoV.Build.isPassthrough b k :=
  isPassthrough_of_keys h.keys k

theorem Reach.sim {b b' : Builder} (ht : ∀ k, b'.nodeIn k = b.nodeIn k)
    (hp : ∀ s x, x ∈ getSlice b'.toValidate s ↔ x ∈ getSlice b.toValidate s) {k : Key} (h : Reach b k) :
    Reach b' k :=
  h.of_sets (fun k hk => Reach.typed (by rw [ht]; exact hk)) (fun s x hx => Or.inl ((hp s x).mpr hx))

theorem Sim.reach {b b' : Builder} (h : Sim b b') (k : Key) : Reach b' k ↔ Reach b k :=
  ⟨Reach.sim (fun k => (h.tin k).symm) (fun s x => (h.pend s x).symm),
   Reach.sim h.tin h.pend⟩

theorem Sim.err_iff {im : Impl} {b b' : Builder} (h : Sim b b') : Err im b' ↔ Err im b := by
  simp only [Err, Mism, h.pend, h.tout, h.tin]

theorem Sim.q {b b' : Builder} (h : Sim b b') {T : Ty} (hq : Q b T) : Q b' T := by
  intro s pe hpe
  rw [h.tout, h.tin]
  exact hq s pe ((h.pend s pe).mp hpe)

theorem update_sim (im : Impl) (ord ord' : Ord) (hv : ord.Valid) (hv' : ord'.Valid) (T : Ty)
    (b b' : Builder) (hs : Sim b b') (hw : WF b) (hw' : WF b') (hq : Q b T) (hp : PN b) (hp' : PN b') :
    (update im ord b = .error .edgeMismatch ∧ update im ord' b' = .error .edgeMismatch) ∨
    (∃ c c', update im ord b = .ok c ∧ update im ord' b' = .ok c' ∧ Sim c c') := by
  have hq' : Q b' T := hs.q hq
  by_cases he : Err im b
  · left
    exact ⟨(update_error_iff im ord hv T b hw hq hp).1 he,
           (update_error_iff im ord' hv' T b' hw' hq' hp').1 (hs.err_iff.mpr he)⟩
  · right
    obtain ⟨c, hc⟩ := (update_error_iff im ord hv T b hw hq hp).2 he
    obtain ⟨c', hc'⟩ := (update_error_iff im ord' hv' T b' hw' hq' hp').2 (fun h => he (hs.err_iff.mp h))
    refine ⟨c, c', hc, hc', ?_⟩
    obtain ⟨hu, _, _⟩ := update_spec im ord hv T b c hw hq hp hc
    obtain ⟨hu', _, _⟩ := update_spec im ord' hv' T b' c' hw' hq' hp' hc'
    obtain ⟨t1, _, _, t4⟩ := update_types im ord hv T b c hw hq hp hc
    obtain ⟨t1', _, _, t4'⟩ := update_types im ord' hv' T b' c' hw' hq' hp' hc'
    obtain ⟨hin, hout⟩ := hu.step.agree hu'.step hu.wf hu'.wf hs.tin hs.tout
      (fun k => (t1' k).trans ((hs.reach k).trans (t1 k).symm))
    refine ⟨?_, ?_, hin, hout, ?_⟩
    · rw [hu'.frame.simFrame, hu.frame.simFrame]; exact hs.fr
    · rw [hu.frame.buildError, hu'.frame.buildError]; exact hs.err
    · intro s x
      rw [t4' s x, t4 s x, hs.pend s x, hout s, hin x.dst]

end EinoV.Build
