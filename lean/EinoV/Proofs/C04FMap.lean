import EinoV.Model.C04FMap
import EinoV.Proofs.C04Lazy
/-!
  C04, field mappings (`Model/C04FMap.lean`): converting chunk by chunk and concatenating agrees with
  converting the concatenated map: for one column of values (`column`), one edge
  (`fmap_agree_expected`), several edges into one sink (`fmap_fanin_agree_expected`).
-/
namespace EinoV.C04
open EinoV.Engine

theorem consOk_ok {k : Key} {a : Except Err FVal} {b : Except Err FChunk} {t : FChunk}
    (h : consOk k a b = .ok t) : ∃ v r, a = .ok v ∧ b = .ok r ∧ t = (k, v) :: r := by
  cases a with
  | error e => simp [consOk] at h
  | ok v =>
    cases b with
    | error e => simp [consOk] at h
    | ok r =>
      simp only [consOk, Except.ok.injEq] at h
      exact ⟨v, r, rfl, rfl, h.symm⟩

theorem consOk_error_iff {k : Key} {a : Except Err FVal} {b : Except Err FChunk} :
    (∃ e, consOk k a b = .error e) ↔ (∃ e, a = .error e) ∨ ∃ e, b = .error e := by
  cases a <;> cases b <;> simp [consOk]

theorem consOk_of_ok (k : Key) (v : FVal) (r : FChunk) : consOk k (.ok v) (.ok r) = .ok ((k, v) :: r) := rfl

theorem get_cons_self (k : Key) (v : FVal) (r : FChunk) : FChunk.get ((k, v) :: r) k = v := by
  simp [FChunk.get, List.lookup]

theorem get_cons_ne (k k' : Key) (v : FVal) (r : FChunk) (h : k' ≠ k) :
    FChunk.get ((k, v) :: r) k' = FChunk.get r k' := by
  have : (k' == k) = false := by simpa using h
  simp [FChunk.get, List.lookup, this]

theorem get_nil (k : Key) : FChunk.get [] k = .absent := rfl

theorem checkVal_ok {m : FMapping} {v v' : FVal} (hv : v ≠ .absent) (h : checkVal m v = .ok v') : v' = v := by
  cases v with
  | absent => exact absurd rfl hv
  | nilV =>
    simp only [checkVal] at h
    split at h
    · cases h
    · simpa using h.symm
  | wrong =>
    simp only [checkVal] at h
    split at h
    · cases h
    · simpa using h.symm
  | good s => simpa [checkVal] using h.symm

theorem checkVal_good (m : FMapping) (s : String) : checkVal m (.good s) = .ok (.good s) := rfl

theorem fmChunk_cons (m : FMapping) (ms : List FMapping) (c : FChunk) :
    fmChunk true (m :: ms) c =
      if c.get m.src = .absent then fmChunk true ms c
      else consOk m.dst (checkVal m (c.get m.src)) (fmChunk true ms c) := by
  simp only [fmChunk, Bool.true_or, ↓reduceIte]

theorem fmChunk_get (ms : List FMapping) (c t : FChunk) (h : fmChunk true ms c = .ok t) :
    (∀ k, k ∉ ms.map (·.dst) → t.get k = .absent) ∧
    ((ms.map (·.dst)).Nodup → ∀ m ∈ ms, t.get m.dst = c.get m.src ∧
      (c.get m.src = .absent ∨ checkVal m (c.get m.src) = .ok (c.get m.src))) := by
  induction ms generalizing t with
  | nil => cases h; exact ⟨fun k _ => get_nil k, fun _ m hm => nomatch hm⟩
  | cons m0 ms ih =>
    rw [fmChunk_cons] at h
    by_cases habs : c.get m0.src = .absent
    · rw [if_pos habs] at h
      obtain ⟨ih1, ih2⟩ := ih t h
      refine ⟨fun k hk => ih1 k fun hin => hk (List.mem_cons_of_mem _ hin), fun hnd m hm => ?_⟩
      rw [List.map_cons, List.nodup_cons] at hnd
      rcases List.mem_cons.mp hm with rfl | hm'
      · exact ⟨habs ▸ ih1 _ hnd.1, .inl habs⟩
      · exact ih2 hnd.2 m hm'
    · rw [if_neg habs] at h
      obtain ⟨v, r, hv, hr, rfl⟩ := consOk_ok h
      obtain ⟨ih1, ih2⟩ := ih r hr
      cases checkVal_ok habs hv
      refine ⟨fun k hk => ?_, fun hnd m hm => ?_⟩
      · rw [List.map_cons, List.mem_cons, not_or] at hk
        rw [get_cons_ne _ _ _ _ hk.1]; exact ih1 k hk.2
      · rw [List.map_cons, List.nodup_cons] at hnd
        rcases List.mem_cons.mp hm with rfl | hm'
        · exact ⟨get_cons_self _ _ _, .inr hv⟩
        · have hne : m.dst ≠ m0.dst := fun heq => hnd.1 (heq ▸ List.mem_map_of_mem hm')
          rw [get_cons_ne _ _ _ _ hne]
          exact ih2 hnd.2 m hm'

theorem fmChunk_err (ms : List FMapping) (c : FChunk) (e : Err) (h : fmChunk true ms c = .error e) :
    ∃ m ∈ ms, c.get m.src ≠ .absent ∧ ∃ e', checkVal m (c.get m.src) = .error e' := by
  induction ms generalizing e with
  | nil => cases h
  | cons m0 ms ih =>
    have tail : ∀ e', fmChunk true ms c = .error e' →
        ∃ m ∈ m0 :: ms, c.get m.src ≠ .absent ∧ ∃ e', checkVal m (c.get m.src) = .error e' := fun e' h' =>
      (ih e' h').imp fun m hm => ⟨List.mem_cons_of_mem _ hm.1, hm.2⟩
    rw [fmChunk_cons] at h
    by_cases habs : c.get m0.src = .absent
    · rw [if_pos habs] at h
      exact tail e h
    · rw [if_neg habs] at h
      rcases consOk_error_iff.mp ⟨e, h⟩ with ⟨e', he'⟩ | ⟨e', he'⟩
      · exact ⟨m0, List.mem_cons_self, habs, e', he'⟩
      · exact tail e' he'

/-- the converted chunk as a total function (`[]` where the checker refuses): lets a stream without
    error item be written `cs.map (convOf ms)` (`fmStream_free`) -/
def convOf (ms : List FMapping) (c : FChunk) : FChunk :=
  match fmChunk true ms c with
  | .ok t => t
  | .error _ => []

theorem fmStream_free (ms : List FMapping) (cs : List FChunk) (h : (fmStream true ms cs).err = none) :
    (fmStream true ms cs).chunks = cs.map (convOf ms) ∧ ∀ c ∈ cs, fmChunk true ms c = .ok (convOf ms c) := by
  induction cs with
  | nil => exact ⟨rfl, nofun⟩
  | cons c cs ih =>
    simp only [fmStream] at h ⊢
    split at h
    · simp at h
    · rename_i t ht
      obtain ⟨h1, h2⟩ := ih h
      have hc : convOf ms c = t := by simp [convOf, ht]
      exact ⟨by simp [h1, hc], fun c' hc' => by
        rcases List.mem_cons.mp hc' with rfl | hc''
        · rw [hc]; exact ht
        · exact h2 c' hc''⟩

theorem fmStream_some (ms : List FMapping) (cs : List FChunk) (e : Err) (h : (fmStream true ms cs).err = some e) :
    ∃ c ∈ cs, ∃ e', fmChunk true ms c = .error e' := by
  induction cs with
  | nil => simp [fmStream] at h
  | cons c cs ih =>
    simp only [fmStream] at h
    split at h
    · rename_i e' he'
      exact ⟨c, List.mem_cons_self, e', he'⟩
    · obtain ⟨c', hc', h'⟩ := ih h
      exact ⟨c', List.mem_cons_of_mem _ hc', h'⟩

theorem fmConcat_err {ks : List Key} {s : LStream FChunk} {e : Err} (h : s.err = some e) :
    fmConcat ks s = .error e := by
  rw [fmConcat, s.force_err e h]; rfl

theorem fmConcat_free {ks : List Key} {s : LStream FChunk} (h : s.err = none) (hne : s.chunks ≠ []) :
    fmConcat ks s = concatCols s.chunks ks := by
  obtain ⟨c, cs, hc⟩ := List.exists_cons_of_ne_nil hne
  rw [fmConcat, s.force_ok h, hc]; rfl

theorem occ_cons (k : Key) (c : FChunk) (cs : List FChunk) :
    occ k (c :: cs) = if c.get k = .absent then occ k cs else c.get k :: occ k cs := by
  by_cases h : c.get k = .absent <;> simp [occ, h]

theorem occ_map (k k' : Key) (g : FChunk → FChunk) (cs : List FChunk)
    (h : ∀ c ∈ cs, (g c).get k' = c.get k) : occ k' (cs.map g) = occ k cs := by
  unfold occ
  rw [List.map_map]
  congr 1
  exact List.map_congr_left h

theorem mem_occ {k : Key} {cs : List FChunk} {v : FVal} :
    v ∈ occ k cs ↔ v ≠ .absent ∧ ∃ c ∈ cs, c.get k = v := by
  rw [occ, List.mem_filter, List.mem_map, bne_iff_ne, and_comm]

theorem occ_eq_nil (k : Key) (cs : List FChunk) (h : ∀ c ∈ cs, c.get k = .absent) : occ k cs = [] :=
  List.eq_nil_iff_forall_not_mem.mpr fun _ hv =>
    have ⟨hne, c, hc, hcv⟩ := mem_occ.mp hv
    hne (hcv ▸ h c hc)

theorem occ_transfer (ms : List FMapping) (hnd : (ms.map (·.dst)).Nodup) (m : FMapping) (hm : m ∈ ms)
    (cs : List FChunk) (h : ∀ c ∈ cs, fmChunk true ms c = .ok (convOf ms c)) :
    occ m.dst (cs.map (convOf ms)) = occ m.src cs :=
  occ_map _ _ _ _ fun c hc => ((fmChunk_get ms c _ (h c hc)).2 hnd m hm).1

theorem occ_foreign (ms : List FMapping) (cs : List FChunk)
    (h : ∀ c ∈ cs, fmChunk true ms c = .ok (convOf ms c)) (k : Key) (hk : k ∉ ms.map (·.dst)) :
    occ k (cs.map (convOf ms)) = [] :=
  occ_eq_nil _ _ fun t ht => by
    obtain ⟨c, hc, rfl⟩ := List.mem_map.mp ht
    exact (fmChunk_get ms c _ (h c hc)).1 k hk

theorem filter_notNil_of_allGood (l : List FVal) (h : ∀ v ∈ l, v.isGood = true) :
    l.filter (· != .nilV) = l := by
  rw [List.filter_eq_self]
  intro v hv
  cases v with
  | good s => rfl
  | absent => cases h _ hv
  | nilV => cases h _ hv
  | wrong => cases h _ hv

/-- the one fact the agreement rests on, about values only: no chunks, no streams -/
theorem column (l : List FVal) (hs : SplitOK l) (hne : l ≠ []) :
    ∃ w, concatVals l = .ok w ∧ ((∀ v ∈ l, v ≠ .absent) → w ≠ .absent) ∧ ∀ m : FMapping,
      ((∀ v ∈ l, checkVal m v = .ok v) → checkVal m w = .ok w) ∧
      (∀ v ∈ l, ∀ e, checkVal m v = .error e → checkVal m w = .error e) := by
  match l, hs, hne with
  | [x], _, _ =>
    exact ⟨x, rfl, fun h => h x List.mem_cons_self, fun m => ⟨fun h => h x List.mem_cons_self,
      fun v hv e he => List.mem_singleton.mp hv ▸ he⟩⟩
  | x :: y :: r, hs, _ =>
    have hall : ∀ v ∈ x :: y :: r, v.isGood = true := hs.resolve_right (by simp)
    have hf := filter_notNil_of_allGood _ hall
    have hallb : (x :: y :: r).all FVal.isGood = true := List.all_eq_true.mpr hall
    refine ⟨.good (String.join ((x :: y :: r).map FVal.str)), by simp only [concatVals, hf, hallb, ↓reduceIte],
      fun _ => by simp, fun m => ⟨fun _ => rfl, fun v hv e he => ?_⟩⟩
    have := hall v hv
    cases v with
    | good s' => cases he
    | _ => cases this

theorem concatVals_ok (l : List FVal) (h : SplitOK l) : ∃ v, concatVals l = .ok v :=
  match l with
  | [] => ⟨_, rfl⟩
  | x :: r => (column (x :: r) h (by simp)).imp fun _ hw => hw.1

theorem concatCols_cons_ok {cs : List FChunk} {k : Key} {ks : List Key} {w : FChunk}
    (h : concatCols cs (k :: ks) = .ok w) :
    ∃ v r, concatVals (occ k cs) = .ok v ∧ concatCols cs ks = .ok r ∧ w = (k, v) :: r := consOk_ok h

theorem concatCols_exists (cs : List FChunk) (ks : List Key) (h : ∀ k ∈ ks, ∃ v, concatVals (occ k cs) = .ok v) :
    ∃ w, concatCols cs ks = .ok w := by
  induction ks with
  | nil => exact ⟨[], rfl⟩
  | cons k ks ih =>
    obtain ⟨v, hv⟩ := h k List.mem_cons_self
    obtain ⟨r, hr⟩ := ih (fun k' hk' => h k' (List.mem_cons_of_mem _ hk'))
    exact ⟨(k, v) :: r, by simp only [concatCols, hv, hr, consOk_of_ok]⟩

theorem concatCols_get (cs : List FChunk) (ks : List Key) (w : FChunk) (h : concatCols cs ks = .ok w)
    (k : Key) (hk : k ∈ ks) : concatVals (occ k cs) = .ok (w.get k) := by
  induction ks generalizing w with
  | nil => cases hk
  | cons k0 ks ih =>
    obtain ⟨v, r, hv, hr, rfl⟩ := concatCols_cons_ok h
    by_cases hkk : k = k0
    · subst hkk
      rw [get_cons_self]; exact hv
    · rw [get_cons_ne _ _ _ _ hkk]
      rcases List.mem_cons.mp hk with h' | h'
      · exact absurd h' hkk
      · exact ih r hr h'

theorem concatCols_dsts (ts : List FChunk) (ms : List FMapping) (f : FMapping → FVal)
    (h : ∀ m ∈ ms, concatVals (occ m.dst ts) = .ok (f m)) :
    concatCols ts (ms.map (·.dst)) = .ok (ms.map fun m => (m.dst, f m)) := by
  induction ms with
  | nil => rfl
  | cons m ms ih =>
    simp only [List.map_cons, concatCols, h m List.mem_cons_self,
      ih (fun m' hm' => h m' (List.mem_cons_of_mem _ hm')), consOk_of_ok]

theorem fmValue_ok (ms : List FMapping) (whole : FChunk)
    (h : ∀ m ∈ ms, whole.get m.src ≠ .absent ∧ checkVal m (whole.get m.src) = .ok (whole.get m.src)) :
    fmValue ms whole = .ok (ms.map fun m => (m.dst, whole.get m.src)) := by
  induction ms with
  | nil => rfl
  | cons m ms ih =>
    obtain ⟨h1, h2⟩ := h m List.mem_cons_self
    simp only [fmValue, h1, ↓reduceIte, h2, ih (fun m' hm' => h m' (List.mem_cons_of_mem _ hm')), consOk_of_ok,
      List.map_cons]

theorem fmValue_err (ms : List FMapping) (whole : FChunk) (m : FMapping) (hm : m ∈ ms)
    (h : whole.get m.src = .absent ∨ ∃ e, checkVal m (whole.get m.src) = .error e) :
    ∃ e, fmValue ms whole = .error e := by
  induction ms with
  | nil => cases hm
  | cons m0 ms ih =>
    simp only [fmValue]
    split
    · exact ⟨_, rfl⟩
    · rename_i hpres
      rcases List.mem_cons.mp hm with rfl | hm'
      · exact consOk_error_iff.mpr (.inl (h.resolve_left hpres))
      · exact consOk_error_iff.mpr (.inr (ih hm'))

/-- What the agreement asks of one field-mapped edge: mappings `ms`, the source's chunks `cs`, the keys
    `ks` of the source's map.  `ne`: the empty stream cannot be concatenated; `srcs`: every mapped key
    is a key of the source; `split`: each key is split so that its pieces concatenate back (`SplitOK`);
    `pres`: every mapped key is carried by some chunk, so that value mode does not miss it. -/
structure EdgeOK (ms : List FMapping) (cs : List FChunk) (ks : List Key) : Prop where
  ne : cs ≠ []
  srcs : ∀ m ∈ ms, m.src ∈ ks
  split : ∀ k ∈ ks, SplitOK (occ k cs)
  pres : ∀ m ∈ ms, occ m.src cs ≠ []

theorem EdgeOK.whole {ms : List FMapping} {cs : List FChunk} {ks : List Key} (h : EdgeOK ms cs ks) :
    ∃ whole, concatCols cs ks = .ok whole :=
  concatCols_exists cs ks fun k hk => concatVals_ok _ (h.split k hk)

theorem EdgeOK.column {ms : List FMapping} {cs : List FChunk} {ks : List Key} (h : EdgeOK ms cs ks)
    {whole : FChunk} (hwhole : concatCols cs ks = .ok whole) {m : FMapping} (hm : m ∈ ms) :
    whole.get m.src ≠ .absent ∧
      ((∀ v ∈ occ m.src cs, checkVal m v = .ok v) → checkVal m (whole.get m.src) = .ok (whole.get m.src)) ∧
      (∀ v ∈ occ m.src cs, ∀ e, checkVal m v = .error e → checkVal m (whole.get m.src) = .error e) := by
  obtain ⟨w, hw, hwabs, hchk⟩ := C04.column _ (h.split _ (h.srcs m hm)) (h.pres m hm)
  have hget := concatCols_get cs ks whole hwhole m.src (h.srcs m hm)
  rw [hw] at hget
  cases hget
  exact ⟨hwabs fun v hv => (mem_occ.mp hv).1, hchk m⟩

theorem fmap_fail {ms : List FMapping} {cs : List FChunk} {ks : List Key} (h : EdgeOK ms cs ks)
    (whole : FChunk) (hwhole : concatCols cs ks = .ok whole) (e : Err) (herr : (fmStream true ms cs).err = some e) :
    ∃ e', fmValue ms whole = .error e' := by
  obtain ⟨c, hc, e', hce⟩ := fmStream_some ms cs e herr
  obtain ⟨m, hm, hcv, e'', hchk⟩ := fmChunk_err ms c e' hce
  exact fmValue_err ms whole m hm (.inr ⟨e'', (h.column hwhole hm).2.2 _ (mem_occ.mpr ⟨hcv, c, hc, rfl⟩) _ hchk⟩)

theorem edge_ok {ms : List FMapping} {cs : List FChunk} {ks : List Key} (h : EdgeOK ms cs ks)
    (hnd : (ms.map (·.dst)).Nodup) (whole : FChunk) (hwhole : concatCols cs ks = .ok whole)
    (hfree : ∀ c ∈ cs, fmChunk true ms c = .ok (convOf ms c)) :
    ∃ t, fmValue ms whole = .ok t ∧ concatCols (cs.map (convOf ms)) (ms.map (·.dst)) = .ok t := by
  refine ⟨_, fmValue_ok ms whole fun m hm => ⟨(h.column hwhole hm).1, (h.column hwhole hm).2.1 fun v hv => ?_⟩,
    concatCols_dsts _ ms _ fun m hm => ?_⟩
  · obtain ⟨hvabs, c, hc, rfl⟩ := mem_occ.mp hv
    exact ((fmChunk_get ms c _ (hfree c hc)).2 hnd m hm).2.resolve_left hvabs
  · rw [occ_transfer ms hnd m hm cs hfree]
    exact concatCols_get cs ks whole hwhole m.src (h.srcs m hm)

/-- "expected", here and in `fmap_fanin_agree_expected`: with the source fact
    `fieldCheckerPresentKeysOnly` at its expected value `true`, the Bool argument of `fmStream true`
    (the checker visits only the keys a chunk carries). -/
theorem fmap_agree_expected (ms : List FMapping) (cs : List FChunk) (ks : List Key)
    (hne : cs ≠ []) (hnd : (ms.map (·.dst)).Nodup)
    (hks : ∀ m ∈ ms, m.src ∈ ks)
    (hsplit : ∀ k ∈ ks, SplitOK (occ k cs))
    (hpres : ∀ m ∈ ms, occ m.src cs ≠ []) :
    ∃ whole, concatCols cs ks = .ok whole ∧
      Agree (fmValue ms whole) (fmConcat (ms.map (·.dst)) (fmStream true ms cs)) := by
  have hok : EdgeOK ms cs ks := ⟨hne, hks, hsplit, hpres⟩
  obtain ⟨whole, hwhole⟩ := hok.whole
  refine ⟨whole, hwhole, ?_⟩
  cases herr : (fmStream true ms cs).err with
  | some e =>
    obtain ⟨ev, hev⟩ := fmap_fail hok whole hwhole e herr
    exact Agree.of_error hev (fmConcat_err herr)
  | none =>
    obtain ⟨hch, hfree⟩ := fmStream_free ms cs herr
    obtain ⟨t, hv, hcols⟩ := edge_ok hok hnd whole hwhole hfree
    refine Agree.of_ok hv ?_
    rw [fmConcat_free herr (hch ▸ fun h => hne (List.map_eq_nil_iff.mp h)), hch]
    exact hcols

theorem occ_append (k : Key) (a b : List FChunk) : occ k (a ++ b) = occ k a ++ occ k b := by
  simp [occ]

theorem concatCols_append (cs : List FChunk) (k1 k2 : List Key) (r1 r2 : FChunk)
    (h1 : concatCols cs k1 = .ok r1) (h2 : concatCols cs k2 = .ok r2) :
    concatCols cs (k1 ++ k2) = .ok (r1 ++ r2) := by
  induction k1 generalizing r1 with
  | nil => cases h1; exact h2
  | cons k k1 ih =>
    obtain ⟨v, r, hv, hr, rfl⟩ := concatCols_cons_ok h1
    simp only [List.cons_append, concatCols, hv, ih r hr, consOk_of_ok]

/-- the converted chunks of all edges, edge after edge: what the sink concatenates once the merge of
    the edges' streams has found no error item -/
def allTs (es : List FEdge) : List FChunk := ((es.map fun e => fmStream true e.ms e.cs).map (·.chunks)).flatten

theorem allTs_cons (e : FEdge) (es : List FEdge) :
    allTs (e :: es) = (fmStream true e.ms e.cs).chunks ++ allTs es := by
  simp [allTs]

theorem concatCols_congr (A B : List FChunk) (ks : List Key) (h : ∀ k ∈ ks, occ k A = occ k B) :
    concatCols A ks = concatCols B ks := by
  induction ks with
  | nil => rfl
  | cons k ks ih =>
    simp only [concatCols, h k List.mem_cons_self, ih fun k' hk' => h k' (List.mem_cons_of_mem _ hk')]

theorem concatCols_merge (A B : List FChunk) (ka kb : List Key) (ra rb : FChunk)
    (hA : concatCols A ka = .ok ra) (hB : concatCols B kb = .ok rb)
    (hAB : ∀ k ∈ ka, occ k B = []) (hBA : ∀ k ∈ kb, occ k A = []) :
    concatCols (A ++ B) (ka ++ kb) = .ok (ra ++ rb) :=
  concatCols_append _ _ _ _ _
    (by rw [concatCols_congr (A ++ B) A ka fun k hk => by rw [occ_append, hAB k hk, List.append_nil]]; exact hA)
    (by rw [concatCols_congr (A ++ B) B kb fun k hk => by rw [occ_append, hBA k hk, List.nil_append]]; exact hB)

/-- the last conjunct is there for the induction: it is what `concatCols_merge` asks of the tail -/
theorem fanin_pass (es : List FEdge) (hok : ∀ e ∈ es, EdgeOK e.ms e.cs e.keys)
    (hnd : (es.flatMap FEdge.dsts).Nodup) (hfree : ∀ e ∈ es, (fmStream true e.ms e.cs).err = none) :
    ∃ r, fmInvokeAll es = .ok r ∧ concatCols (allTs es) (es.flatMap FEdge.dsts) = .ok r ∧
      ∀ k, k ∉ es.flatMap FEdge.dsts → occ k (allTs es) = [] := by
  induction es with
  | nil => exact ⟨[], rfl, rfl, fun _ _ => rfl⟩
  | cons e es ih =>
    rw [List.flatMap_cons, List.nodup_append] at hnd
    obtain ⟨hnd0, hnds, hdisj⟩ := hnd
    obtain ⟨r, hr1, hr2, hr3⟩ := ih (fun x hx => hok x (List.mem_cons_of_mem _ hx)) hnds
      (fun x hx => hfree x (List.mem_cons_of_mem _ hx))
    obtain ⟨hch, hfr⟩ := fmStream_free e.ms e.cs (hfree e List.mem_cons_self)
    obtain ⟨whole, hwhole⟩ := (hok e List.mem_cons_self).whole
    obtain ⟨t, hv, hcols⟩ := edge_ok (hok e List.mem_cons_self) hnd0 whole hwhole hfr
    rw [allTs_cons, hch, List.flatMap_cons]
    refine ⟨t ++ r, by simp only [fmInvokeAll, hwhole, hv, hr1], ?_, fun k hk => ?_⟩
    · exact concatCols_merge _ _ _ _ _ _ hcols hr2
        (fun k hk => hr3 k fun hin => hdisj k hk k hin rfl)
        (fun k hk => occ_foreign e.ms e.cs hfr k fun hin => hdisj k hin k hk rfl)
    · rw [List.mem_append, not_or] at hk
      rw [occ_append, occ_foreign e.ms e.cs hfr k hk.1, hr3 k hk.2]; rfl

theorem fmInvokeAll_fail (es : List FEdge) (hok : ∀ e ∈ es, EdgeOK e.ms e.cs e.keys)
    (e : FEdge) (he : e ∈ es) (err : Err) (herr : (fmStream true e.ms e.cs).err = some err) :
    ∃ err', fmInvokeAll es = .error err' := by
  induction es with
  | nil => cases he
  | cons e0 es ih =>
    obtain ⟨whole, hwhole⟩ := (hok e0 List.mem_cons_self).whole
    simp only [fmInvokeAll, hwhole]
    rcases List.mem_cons.mp he with rfl | he'
    · obtain ⟨e', he'⟩ := fmap_fail (hok e List.mem_cons_self) whole hwhole err herr
      rw [he']
      exact ⟨e', by cases fmInvokeAll es <;> rfl⟩
    · obtain ⟨e', he''⟩ := ih (fun x hx => hok x (List.mem_cons_of_mem _ hx)) he'
      rw [he'']
      cases fmValue e0.ms whole with
      | ok t => exact ⟨e', rfl⟩
      | error e2 => exact ⟨e2, rfl⟩

theorem fmap_fanin_agree_expected (es : List FEdge) (hes : es ≠ [])
    (hok : ∀ e ∈ es, EdgeOK e.ms e.cs e.keys) (hnd : (es.flatMap FEdge.dsts).Nodup) :
    Agree (fmInvokeAll es) (fmStreamAll true es) := by
  cases hfs : (es.map fun e => fmStream true e.ms e.cs).findSome? (·.err) with
  | some err0 =>
    obtain ⟨s, hs, hse⟩ := List.exists_of_findSome?_eq_some hfs
    obtain ⟨e, he, rfl⟩ := List.mem_map.mp hs
    obtain ⟨err', hinv⟩ := fmInvokeAll_fail es hok e he err0 hse
    exact Agree.of_error hinv (fmConcat_err hfs : fmStreamAll true es = .error err0)
  | none =>
    have hfree : ∀ e ∈ es, (fmStream true e.ms e.cs).err = none := fun e he =>
      List.findSome?_eq_none_iff.mp hfs _ (List.mem_map_of_mem he)
    obtain ⟨r, hr1, hr2, -⟩ := fanin_pass es hok hnd hfree
    refine Agree.of_ok hr1 ?_
    have hne : allTs es ≠ [] := by
      cases es with
      | nil => exact absurd rfl hes
      | cons e es' =>
        rw [allTs_cons, (fmStream_free _ _ (hfree e List.mem_cons_self)).1]
        exact fun h => (hok e List.mem_cons_self).ne (List.map_eq_nil_iff.mp (List.append_eq_nil_iff.mp h).1)
    exact (fmConcat_free hfs hne).trans hr2

end EinoV.C04
