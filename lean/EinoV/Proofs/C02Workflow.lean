/-
  C02, Workflow part.  Two completions that report no skip commute: `calcCore` on [a] then [b] reaches
  the same channels as on [a, b] (and, up to the order of the reported values, as on [b] then [a]).
  The run-level goal `EagerConfluenceGoal` over `WorkflowDef.WF` is stated, not proved.
-/
import EinoV.Proofs.EngineOps

namespace EinoV.Engine

/-- the completion `d` of node `n` reports no skip: its branches select `sel` and leave no end unselected -/
structure SkipFree {V} (r : Runner V) (n : Node V) (d : Done V) (sel : List Key) : Prop where
  call : r.call? d.1 = some n
  select : selectOf n d.2 = .ok sel
  noSkip : skippedOf n sel = []

theorem skipFree_of_no_branches {V} (r : Runner V) (n : Node V) (d : Done V)
    (hc : r.call? d.1 = some n) (hb : n.branches = []) : SkipFree r n d [] := by
  refine ⟨hc, ?_, ?_⟩
  · simp [selectOf, hb, pure, Except.pure, bind, Except.bind]
  · simp [skippedOf, hb, List.eraseDups]

theorem calcBranch_skipFree {V} (r : Runner V) (n : Node V) (d : Done V) (sel : List Key)
    (h : SkipFree r n d sel) (cm : Chans V) : calcBranch r cm n d.2 = .ok (cm, sel) := by
  unfold calcBranch
  simp only [h.select, h.noSkip, bind, Except.bind, reportBranch, List.foldl_nil, propagateSkips_nil]
  rfl

theorem resolveStep_skipFree {V} (r : Runner V) (n : Node V) (d : Done V) (sel : List Key)
    (h : SkipFree r n d sel) (acc : Resolved V) :
    resolveStep r acc d = .ok
      { cm := acc.cm,
        writes := (sel ++ n.writeTo).foldl (fun ws k => addWrite ws k d.1 d.2) acc.writes,
        deps := (n.controls ++ sel).foldl (fun ds k => addDep ds k d.1) acc.deps } := by
  unfold resolveStep
  simp only [h.call, calcBranch_skipFree r n d sel h, bind, Except.bind, pure, Except.pure, List.foldl_append]

theorem foldlM_resolveStep_skipFree {V} (r : Runner V) (n : Node V) (d : Done V) (sel : List Key)
    (h : SkipFree r n d sel) (acc : Resolved V) (rest : List (Done V)) :
    (d :: rest).foldlM (resolveStep r) acc = rest.foldlM (resolveStep r)
      { cm := acc.cm,
        writes := (sel ++ n.writeTo).foldl (fun ws k => addWrite ws k d.1 d.2) acc.writes,
        deps := (n.controls ++ sel).foldl (fun ds k => addDep ds k d.1) acc.deps } := by
  rw [List.foldlM_cons, resolveStep_skipFree r n d sel h]
  rfl

def valsTo {V} (r : Runner V) (n : Node V) (sel : List Key) (d : Done V) (k : Key) : List (Key × V) :=
  (if (sel ++ n.writeTo).contains k then [(d.1, d.2)] else []).filter
    (fun kv => (lookupList k r.dataPreds).contains kv.1)

/-- the key of `d` once per control edge or selected branch end leading to `k` -/
def depsTo {V} (r : Runner V) (n : Node V) (sel : List Key) (d : Done V) (k : Key) : List Key :=
  (List.replicate ((n.controls ++ sel).count k) d.1).filter (lookupList k r.ctrlPreds).contains

def chanUpd {V} (r : Runner V) (n : Node V) (sel : List Key) (d : Done V) (k : Key) (c : Chan V) : Chan V :=
  (c.reportValues true (valsTo r n sel d k)).reportDeps true (depsTo r n sel d k)

def chansUpd {V} (r : Runner V) (n : Node V) (sel : List Key) (d : Done V) (cm : Chans V) : Chans V :=
  cm.map (fun p => (p.1, chanUpd r n sel d p.1 p.2))

theorem calcCore_of_resolve {V} (ops : ValOps V) (r : Runner V) (hdag : r.dag = true) (cm : Chans V)
    (done : List (Done V)) (res : Resolved V) (h : resolve r cm done = .ok res)
    (hw : (akeys res.writes).Nodup) (hd : (akeys res.deps).Nodup) :
    calcCore ops r cm done = .ok (getReady ops true (res.cm.map (fun p => (p.1,
      (p.2.reportValues true
          ((gl p.1 res.writes).filter (fun kv => (lookupList p.1 r.dataPreds).contains kv.1))).reportDeps true
        ((lookupList p.1 res.deps).filter (lookupList p.1 r.ctrlPreds).contains))))) := by
  unfold calcCore
  rw [h]
  show Except.ok (getReady ops r.dag (updateDeps r (updateValues r res.cm res.writes) res.deps)) = _
  rw [updateValues_map r _ _ hw, updateDeps_map r _ _ hd, List.map_map, hdag]
  rfl

theorem calcCore_single {V} (ops : ValOps V) (r : Runner V) (hdag : r.dag = true) (cm : Chans V)
    (n : Node V) (d : Done V) (sel : List Key) (h : SkipFree r n d sel) :
    calcCore ops r cm [d] = .ok (getReady ops true (chansUpd r n sel d cm)) := by
  rw [calcCore_of_resolve ops r hdag cm [d] _ (foldlM_resolveStep_skipFree r n d sel h ⟨cm, [], []⟩ [])
    (nodup_keys_writesFold d.1 d.2 (sel ++ n.writeTo) [] List.nodup_nil)
    (nodup_keys_depsFold d.1 _ [] List.nodup_nil)]
  refine congrArg (fun x => Except.ok (getReady ops true x)) (List.map_congr_left fun p _ => ?_)
  -- the tables hold the reports of `d` alone
  simp only [gl_targets_fold, lookupList_targets_fold]
  rfl

theorem reportValues_append {V} (c : Chan V) (l1 l2 : List (Key × V)) :
    c.reportValues true (l1 ++ l2) = (c.reportValues true l1).reportValues true l2 := by
  rw [reportValues_eq c (l1 ++ l2), reportValues_eq c l1]
  by_cases h : c.skipped = true
  · simp [h, reportValues_eq]
  · simp only [h, Bool.false_eq_true, ↓reduceIte, List.foldl_append]
    rw [reportValues_eq, foldl_preserves valsF (·.skipped) l1 (fun c kv _ => (valsF_rest c kv).2)]
    simp [h]

theorem reportDeps_append {V} (c : Chan V) (l1 l2 : List Key) :
    c.reportDeps true (l1 ++ l2) = (c.reportDeps true l1).reportDeps true l2 := by
  rw [reportDeps_eq c (l1 ++ l2), reportDeps_eq c l1]
  by_cases h : c.skipped = true
  · simp [h, reportDeps_eq]
  · simp only [h, Bool.false_eq_true, ↓reduceIte, List.foldl_append]
    rw [reportDeps_eq, foldl_preserves depsF (·.skipped) l1 (fun c k _ => (depsF_rest c k).2.1)]
    simp [h]

theorem fd_fv_comm {V} (c : Chan V) (kv : Key × V) (k : Key) : depsF (valsF c kv) k = valsF (depsF c k) kv := by
  unfold depsF valsF
  by_cases h1 : (alookup kv.1 c.data).isSome = true <;> by_cases h2 : (alookup k c.ctrl).isSome = true <;>
    simp [h1, h2]

/-- each step of one fold is a homomorphism of the other -/
theorem foldl_comm {α β γ} (f : α → β → α) (g : α → γ → α) (hc : ∀ a x y, g (f a x) y = f (g a y) x)
    (l : List β) (m : List γ) (a : α) : m.foldl g (l.foldl f a) = l.foldl f (m.foldl g a) :=
  (List.foldl_hom (fun a => m.foldl g a) fun a x => (List.foldl_hom (f · x) fun a y => hc a x y).symm).symm

theorem reportDeps_reportValues_comm {V} (c : Chan V) (l : List (Key × V)) (m : List Key) :
    (c.reportValues true l).reportDeps true m = (c.reportDeps true m).reportValues true l := by
  rw [reportDeps_eq, reportValues_skipped, reportValues_eq (c.reportDeps true m), reportDeps_skipped]
  by_cases h : c.skipped = true
  · simp [h, reportValues_eq, reportDeps_eq]
  · simp only [h, Bool.false_eq_true, ↓reduceIte, reportValues_eq, reportDeps_eq]
    exact foldl_comm valsF depsF fd_fv_comm l m c

theorem chanUpd_pair {V} (r : Runner V) (na nb : Node V) (selA selB : List Key) (a b : Done V) (k : Key) (c : Chan V) :
    (c.reportValues true (valsTo r na selA a k ++ valsTo r nb selB b k)).reportDeps true
        (depsTo r na selA a k ++ depsTo r nb selB b k)
      = chanUpd r nb selB b k (chanUpd r na selA a k c) := by
  unfold chanUpd
  rw [reportValues_append, reportDeps_append, reportDeps_reportValues_comm _ (valsTo r nb selB b k)]

theorem calcCore_pair {V} (ops : ValOps V) (r : Runner V) (hdag : r.dag = true) (cm : Chans V)
    (na nb : Node V) (a b : Done V) (selA selB : List Key)
    (ha : SkipFree r na a selA) (hb : SkipFree r nb b selB) (hne : a.1 ≠ b.1) :
    calcCore ops r cm [a, b] =
      .ok (getReady ops true (chansUpd r nb selB b (chansUpd r na selA a cm))) := by
  rw [calcCore_of_resolve ops r hdag cm [a, b] _
    ((foldlM_resolveStep_skipFree r na a selA ha ⟨cm, [], []⟩ [b]).trans
      (foldlM_resolveStep_skipFree r nb b selB hb _ []))
    (nodup_keys_writesFold b.1 b.2 (selB ++ nb.writeTo) _
      (nodup_keys_writesFold a.1 a.2 (selA ++ na.writeTo) [] List.nodup_nil))
    (nodup_keys_depsFold b.1 _ _ (nodup_keys_depsFold a.1 _ [] List.nodup_nil))]
  unfold chansUpd
  rw [List.map_map]
  refine congrArg (fun x => Except.ok (getReady ops true x)) (List.map_congr_left fun p _ => ?_)
  simp only [Function.comp, gl_targets_fold, lookupList_targets_fold]
  -- `a` and `b` have different keys: the second write does not replace the first
  have hv : ∀ cA cB : Bool,
      (if cB = true then aset b.1 b.2 (if cA = true then aset a.1 a.2 [] else [])
        else if cA = true then aset a.1 a.2 [] else [])
      = (if cA = true then [(a.1, a.2)] else []) ++ (if cB = true then [(b.1, b.2)] else []) := by
    have hab : (a.1 == b.1) = false := by simpa using hne
    intro cA cB
    cases cA <;> cases cB <;> simp [aset, hab]
  have hgl : gl p.1 ([] : List (Key × List (Key × V))) = [] := rfl
  rw [hgl, hv, List.filter_append, List.filter_append]
  exact congrArg (Prod.mk p.1) (chanUpd_pair r na nb selA selB a b p.1 p.2)

theorem reportValues_ctrl {V} (c : Chan V) (l : List (Key × V)) : (c.reportValues true l).ctrl = c.ctrl :=
  reportValues_preserves (·.ctrl) l (fun c kv _ => (valsF_rest c kv).1) c

theorem reportDeps_data {V} (c : Chan V) (l : List Key) : (c.reportDeps true l).data = c.data :=
  reportDeps_preserves (·.data) l (fun c k _ => (depsF_rest c k).1) c

theorem alookup_reportValues_data {V} (c : Chan V) (l : List (Key × V)) (x : Key) (h : ∀ kv ∈ l, x ≠ kv.1) :
    alookup x (c.reportValues true l).data = alookup x c.data :=
  reportValues_preserves (alookup x ·.data) l
    (fun c kv hkv => by rw [valsF_data, alookup_mark, if_neg (h kv hkv)]) c

theorem alookup_reportDeps_ctrl {V} (c : Chan V) (l : List Key) (x : Key) (h : ∀ k ∈ l, x ≠ k) :
    alookup x (c.reportDeps true l).ctrl = alookup x c.ctrl :=
  reportDeps_preserves (alookup x ·.ctrl) l
    (fun c k hk => by rw [depsF_ctrl, alookup_mark, if_neg (h k hk)]) c

theorem akeys_reportValues_data {V} (c : Chan V) (l : List (Key × V)) :
    akeys (c.reportValues true l).data = akeys c.data :=
  reportValues_preserves (akeys ·.data) l (fun c kv _ => by rw [valsF_data, akeys_mark]) c

theorem akeys_reportDeps_ctrl {V} (c : Chan V) (l : List Key) :
    akeys (c.reportDeps true l).ctrl = akeys c.ctrl :=
  reportDeps_preserves (akeys ·.ctrl) l (fun c k _ => by rw [depsF_ctrl, akeys_mark]) c

theorem valsTo_cases {V} (r : Runner V) (n : Node V) (sel : List Key) (d : Done V) (k : Key) :
    valsTo r n sel d k = [] ∨ valsTo r n sel d k = [(d.1, d.2)] := by
  unfold valsTo
  generalize (sel ++ n.writeTo).contains k = c1
  cases c1
  · left; rfl
  · simp only [↓reduceIte, List.filter_cons, List.filter_nil]
    split
    · right; rfl
    · left; rfl

theorem valsTo_keys {V} (r : Runner V) (n : Node V) (sel : List Key) (d : Done V) (k : Key) :
    ∀ kv ∈ valsTo r n sel d k, kv.1 = d.1 := by
  rcases valsTo_cases r n sel d k with h | h <;> simp [h]

theorem depsTo_keys {V} (r : Runner V) (n : Node V) (sel : List Key) (d : Done V) (k : Key) :
    ∀ x ∈ depsTo r n sel d k, x = d.1 := by
  intro x h
  unfold depsTo at h
  exact (List.mem_replicate.mp (List.mem_filter.mp h).1).2

theorem chanUpd_other {V} (r : Runner V) (n : Node V) (sel : List Key) (d : Done V) (k : Key) (c : Chan V)
    (x : Key) (hx : x ≠ d.1) :
    alookup x (chanUpd r n sel d k c).ctrl = alookup x c.ctrl ∧
    alookup x (chanUpd r n sel d k c).data = alookup x c.data := by
  unfold chanUpd
  constructor
  · rw [alookup_reportDeps_ctrl _ _ _ (fun y hy => by rw [depsTo_keys r n sel d k y hy]; exact hx), reportValues_ctrl]
  · rw [reportDeps_data, alookup_reportValues_data _ _ _ (fun kv hkv => by rw [valsTo_keys r n sel d k kv hkv]; exact hx)]

theorem chanUpd_akeys {V} (r : Runner V) (n : Node V) (sel : List Key) (d : Done V) (k : Key) (c : Chan V) :
    akeys (chanUpd r n sel d k c).ctrl = akeys c.ctrl ∧ akeys (chanUpd r n sel d k c).data = akeys c.data := by
  unfold chanUpd
  exact ⟨by rw [akeys_reportDeps_ctrl, reportValues_ctrl], by rw [reportDeps_data, akeys_reportValues_data]⟩

theorem not_triggered_of_ctrl_waiting {V} (c : Chan V) (k : Key) (h : alookup k c.ctrl = some Dep.waiting) :
    c.triggered = false :=
  Bool.eq_false_iff.mpr fun ht => ((triggered_eq_true_iff c).mp ht).2.2.1 _ (mem_of_alookup _ _ _ h) rfl

theorem not_triggered_of_data_false {V} (c : Chan V) (k : Key) (h : alookup k c.data = some false) :
    c.triggered = false :=
  Bool.eq_false_iff.mpr fun ht => nomatch ((triggered_eq_true_iff c).mp ht).2.2.2 _ (mem_of_alookup _ _ _ h)

def readyOf {V} (ops : ValOps V) (p : Key × Chan V) : Option (Key × V) :=
  match (p.2.get ops true).2 with | .ready v => some (p.1, v) | _ => none

def badOf {V} (ops : ValOps V) (p : Key × Chan V) : Bool :=
  match (p.2.get ops true).2 with | .mergeErr => true | _ => false

theorem getReady_dag {V} (ops : ValOps V) (cm : Chans V) :
    getReady ops true cm =
      (cm.map (fun p => (p.1, (p.2.get ops true).1)), cm.filterMap (readyOf ops), cm.any (badOf ops)) :=
  getReady_map ops true cm

theorem filterMap_perm_split {α β} (l : List α) (fa fb fab : α → Option β)
    (h : ∀ x ∈ l, (fa x = fab x ∧ fb x = none) ∨ (fa x = none ∧ fb x = fab x)) :
    (l.filterMap fab).Perm (l.filterMap fa ++ l.filterMap fb) := by
  induction l with
  | nil => simp
  | cons x t ih =>
    have iht := ih (fun y hy => h y (List.mem_cons_of_mem _ hy))
    rcases h x (by simp) with ⟨h1, h2⟩ | ⟨h1, h2⟩
    · cases hf : fab x with
      | none =>
        rw [List.filterMap_cons_none hf, List.filterMap_cons_none (h1 ▸ hf), List.filterMap_cons_none h2]
        exact iht
      | some y =>
        rw [List.filterMap_cons_some hf, List.filterMap_cons_some (h1 ▸ hf), List.filterMap_cons_none h2]
        exact List.Perm.cons y iht
    · cases hf : fab x with
      | none =>
        rw [List.filterMap_cons_none hf, List.filterMap_cons_none h1, List.filterMap_cons_none (h2 ▸ hf)]
        exact iht
      | some y =>
        rw [List.filterMap_cons_some hf, List.filterMap_cons_none h1, List.filterMap_cons_some (h2 ▸ hf)]
        exact (List.Perm.cons y iht).trans List.perm_middle.symm

theorem any_split {α} (l : List α) (fa fb fab : α → Bool) (h : ∀ x ∈ l, fab x = (fa x || fb x)) :
    l.any fab = (l.any fa || l.any fb) := by
  induction l with
  | nil => rfl
  | cons x t ih =>
    simp only [List.any_cons, h x (by simp), ih (fun y hy => h y (List.mem_cons_of_mem _ hy))]
    cases fa x <;> cases fb x <;> cases t.any fa <;> cases t.any fb <;> rfl

/-- the running task `d` has not yet reported to any channel it is going to report to
    (the invariant of a task between its submission and its completion) -/
def Pending {V} (r : Runner V) (n : Node V) (sel : List Key) (d : Done V) (cm : Chans V) : Prop :=
  ∀ p ∈ cm, (valsTo r n sel d p.1 ≠ [] → alookup d.1 p.2.data = some false) ∧
            (depsTo r n sel d p.1 ≠ [] → alookup d.1 p.2.ctrl = some Dep.waiting)

def AllHavePreds {V} (cm : Chans V) : Prop := ∀ p ∈ cm, akeys p.2.ctrl ≠ [] ∨ akeys p.2.data ≠ []

theorem chan_seq_vs_batch {V} (ops : ValOps V) (r : Runner V) (na nb : Node V) (selA selB : List Key)
    (a b : Done V) (hne : a.1 ≠ b.1) (p : Key × Chan V)
    (hpend : (valsTo r nb selB b p.1 ≠ [] → alookup b.1 p.2.data = some false) ∧
             (depsTo r nb selB b p.1 ≠ [] → alookup b.1 p.2.ctrl = some Dep.waiting))
    (hpred : akeys p.2.ctrl ≠ [] ∨ akeys p.2.data ≠ []) :
    let c1 := chanUpd r na selA a p.1 p.2
    let g1 := c1.get ops true
    let g2 := (chanUpd r nb selB b p.1 g1.1).get ops true
    let gb := (chanUpd r nb selB b p.1 c1).get ops true
    g2.1 = gb.1 ∧ ((g1.2 = gb.2 ∧ g2.2 = .notReady) ∨ (g1.2 = .notReady ∧ g2.2 = gb.2)) := by
  intro c1 g1 g2 gb
  by_cases ht : c1.triggered = true
  · -- `a` alone makes the channel ready: then `b` does not report to it
    have hbv : valsTo r nb selB b p.1 = [] := by
      apply Classical.byContradiction
      intro hn
      have h1 := hpend.1 hn
      rw [← (chanUpd_other r na selA a p.1 p.2 b.1 (fun e => hne e.symm)).2] at h1
      rw [not_triggered_of_data_false c1 b.1 h1] at ht
      cases ht
    have hbd : depsTo r nb selB b p.1 = [] := by
      apply Classical.byContradiction
      intro hn
      have h1 := hpend.2 hn
      rw [← (chanUpd_other r na selA a p.1 p.2 b.1 (fun e => hne e.symm)).1] at h1
      rw [not_triggered_of_ctrl_waiting c1 b.1 h1] at ht
      cases ht
    have hid : ∀ c : Chan V, chanUpd r nb selB b p.1 c = c := by
      intro c; unfold chanUpd; rw [hbv, hbd, reportValues_nil, reportDeps_nil]
    have hg1 : g1.1 = c1.reset := (get_fst ops c1).trans (if_pos ht)
    have hk := chanUpd_akeys r na selA a p.1 p.2
    have hnt : c1.reset.triggered = false :=
      reset_not_triggered c1 (by rw [hk.1, hk.2]; exact hpred)
    have hg2 : g2 = (c1.reset, .notReady) := by
      show (chanUpd r nb selB b p.1 g1.1).get ops true = _
      rw [hid, hg1]; exact get_not_triggered ops _ hnt
    have hgb : gb = g1 := by
      show (chanUpd r nb selB b p.1 c1).get ops true = _
      rw [hid]
    refine ⟨by rw [hg2, hgb, hg1], Or.inl ⟨by rw [hgb], by rw [hg2]⟩⟩
  · have ht' : c1.triggered = false := by simpa using ht
    have hg1 : g1 = (c1, .notReady) := get_not_triggered ops c1 ht'
    have h2 : g2 = gb := by
      show (chanUpd r nb selB b p.1 g1.1).get ops true = _
      rw [hg1]
    exact ⟨by rw [h2], Or.inr ⟨by rw [hg1], by rw [h2]⟩⟩

theorem getReady_seq_vs_batch {V} (ops : ValOps V) (r : Runner V) (cm : Chans V)
    (na nb : Node V) (a b : Done V) (selA selB : List Key) (hne : a.1 ≠ b.1)
    (hpend : Pending r nb selB b cm) (hpred : AllHavePreds cm) :
    let gA := getReady ops true (chansUpd r na selA a cm)
    let gB := getReady ops true (chansUpd r nb selB b gA.1)
    let gAB := getReady ops true (chansUpd r nb selB b (chansUpd r na selA a cm))
    gAB.1 = gB.1 ∧ gAB.2.1.Perm (gA.2.1 ++ gB.2.1) ∧ gAB.2.2 = (gA.2.2 || gB.2.2) := by
  have key : ∀ p ∈ cm, _ := fun p hp =>
    chan_seq_vs_batch ops r na nb selA selB a b hne p (hpend p hp) (hpred p hp)
  simp only [getReady_dag, chansUpd, List.map_map, List.filterMap_map, List.any_map]
  refine ⟨List.map_congr_left fun p hp => ?_, filterMap_perm_split _ _ _ _ fun p hp => ?_,
    any_split _ _ _ _ fun p hp => ?_⟩
  · simp only [Function.comp]
    rw [(key p hp).1]
  · simp only [Function.comp, readyOf]
    rcases (key p hp).2 with ⟨h1, h2⟩ | ⟨h1, h2⟩
    · left; rw [h2, h1]; exact ⟨rfl, rfl⟩
    · right; rw [h1, h2]; exact ⟨rfl, rfl⟩
  · simp only [Function.comp, badOf]
    rcases (key p hp).2 with ⟨h1, h2⟩ | ⟨h1, h2⟩
    · rw [h2, ← h1]; cases ((chanUpd r na selA a p.1 p.2).get ops true).2 <;> rfl
    · rw [h1, h2]; cases ((chanUpd r nb selB b p.1 (chanUpd r na selA a p.1 p.2)).get ops true).2 <;> rfl

/-- `a` then `b`, one completion at a time as the eager loop takes them, against `[a, b]` at once as
    `waitAll` delivers them -/
theorem calcCore_seq_eq_batch {V} (ops : ValOps V) (r : Runner V) (hdag : r.dag = true) (cm : Chans V)
    (na nb : Node V) (a b : Done V) (selA selB : List Key)
    (ha : SkipFree r na a selA) (hb : SkipFree r nb b selB) (hne : a.1 ≠ b.1)
    (hpend : Pending r nb selB b cm) (hpred : AllHavePreds cm) :
    ∃ cmA rdA badA cmAB rdB badB rdAB,
      calcCore ops r cm [a] = .ok (cmA, rdA, badA) ∧
      calcCore ops r cmA [b] = .ok (cmAB, rdB, badB) ∧
      calcCore ops r cm [a, b] = .ok (cmAB, rdAB, badA || badB) ∧
      rdAB.Perm (rdA ++ rdB) := by
  have h := getReady_seq_vs_batch ops r cm na nb a b selA selB hne hpend hpred
  refine ⟨_, _, _, _, _, _, _, calcCore_single ops r hdag cm na a selA ha,
    calcCore_single ops r hdag _ nb b selB hb, ?_, h.2.1⟩
  rw [calcCore_pair ops r hdag cm na nb a b selA selB ha hb hne]
  exact congrArg Except.ok (Prod.ext h.1 (Prod.ext rfl h.2.2))

/-- channels that differ only in the order in which their values were reported
    (Go: `dagChannel.Values` is a map — no order at all) -/
structure ChanEquiv {V} (c c' : Chan V) : Prop where
  ctrl : c.ctrl = c'.ctrl
  data : c.data = c'.data
  skipped : c.skipped = c'.skipped
  values : c.values.Perm c'.values

theorem ChanEquiv.refl {V} (c : Chan V) : ChanEquiv c c := ⟨rfl, rfl, rfl, List.Perm.refl _⟩

theorem reset_equiv {V} (c c' : Chan V) (h : ChanEquiv c c') : ChanEquiv c.reset c'.reset :=
  ⟨congrArg (List.map _) h.ctrl, congrArg (List.map _) h.data, h.skipped, .refl _⟩

theorem get_equiv {V} (ops : ValOps V) (hm : MergePerm ops) (c c' : Chan V) (h : ChanEquiv c c') :
    (c.get ops true).2 = (c'.get ops true).2 ∧ ChanEquiv (c.get ops true).1 (c'.get ops true).1 := by
  have ht : c'.triggered = c.triggered := by simp only [Chan.triggered, h.ctrl, h.data, h.skipped]
  have he : c'.values.isEmpty = c.values.isEmpty := by
    rw [Bool.eq_iff_iff, List.isEmpty_iff_length_eq_zero, List.isEmpty_iff_length_eq_zero, h.values.length_eq]
  simp only [Chan.get, ↓reduceIte, ht, he]
  split
  · refine ⟨?_, reset_equiv c c' h⟩
    split
    · rfl
    · exact collect_perm ops hm _ _ (h.values.map _)
  · exact ⟨rfl, h⟩

theorem guarded_comm {α} (R : α → α → Prop) (hR : ∀ a, R a a) (px py : α → Bool) (ux uy : α → α)
    (hxy : ∀ a, py a = true → px (uy a) = px a) (hyx : ∀ a, px a = true → py (ux a) = py a) (a : α)
    (hc : px a = true → py a = true → R (uy (ux a)) (ux (uy a))) :
    R ((fun a => if py a then uy a else a) ((fun a => if px a then ux a else a) a))
      ((fun a => if px a then ux a else a) ((fun a => if py a then uy a else a) a)) := by
  cases hx : px a
  · cases hy : py a
    · simp only [hx, hy, Bool.false_eq_true, ↓reduceIte]; exact hR a
    · simp only [hx, hy, hxy a hy, Bool.false_eq_true, ↓reduceIte]; exact hR _
  · cases hy : py a
    · simp only [hx, hy, hyx a hx, Bool.false_eq_true, ↓reduceIte]; exact hR _
    · simp only [hx, hy, hxy a hy, hyx a hx, ↓reduceIte]; exact hc hx hy

theorem fd_fd_comm {V} (c : Chan V) (x y : Key) : depsF (depsF c x) y = depsF (depsF c y) x := by
  by_cases e : x = y
  · rw [e]
  · exact guarded_comm Eq (fun _ => rfl) (fun c => (alookup x c.ctrl).isSome) (fun c => (alookup y c.ctrl).isSome)
      (fun c => { c with ctrl := aset x Dep.ready c.ctrl }) (fun c => { c with ctrl := aset y Dep.ready c.ctrl })
      (fun c h => isSome_alookup_aset x y _ c.ctrl h) (fun c h => isSome_alookup_aset y x _ c.ctrl h) c
      (fun _ hy => congrArg (fun l => ({ c with ctrl := l } : Chan V))
        ((aset_comm y x _ _ _ (Ne.symm e)).2 (.inl ((alookup_isSome_iff _ _).mp hy))))

theorem reportDeps_comm {V} (c : Chan V) (l m : List Key) :
    (c.reportDeps true l).reportDeps true m = (c.reportDeps true m).reportDeps true l := by
  rw [reportDeps_eq (c.reportDeps true l), reportDeps_eq (c.reportDeps true m), reportDeps_skipped, reportDeps_skipped]
  by_cases h : c.skipped = true
  · simp [h, reportDeps_eq]
  · simp only [h, Bool.false_eq_true, ↓reduceIte, reportDeps_eq]
    exact foldl_comm depsF depsF (fun a x y => fd_fd_comm a x y) l m c

theorem reportDeps_equiv {V} (c c' : Chan V) (h : ChanEquiv c c') (l : List Key) :
    ChanEquiv (c.reportDeps true l) (c'.reportDeps true l) := by
  rw [reportDeps_markAll, reportDeps_markAll, h.skipped, h.ctrl]
  split
  · exact h
  · exact ⟨rfl, h.data, rfl, h.values⟩

theorem fv_fv_equiv {V} (c : Chan V) (x y : Key × V) (hne : x.1 ≠ y.1) :
    ChanEquiv (valsF (valsF c x) y) (valsF (valsF c y) x) :=
  guarded_comm ChanEquiv ChanEquiv.refl (fun c => (alookup x.1 c.data).isSome) (fun c => (alookup y.1 c.data).isSome)
    (fun c => { c with data := aset x.1 true c.data, values := aset x.1 x.2 c.values })
    (fun c => { c with data := aset y.1 true c.data, values := aset y.1 y.2 c.values })
    (fun c h => isSome_alookup_aset x.1 y.1 _ c.data h) (fun c h => isSome_alookup_aset y.1 x.1 _ c.data h) c
    (fun _ hy => ⟨rfl, (aset_comm _ _ _ _ _ (Ne.symm hne)).2 (.inl ((alookup_isSome_iff _ _).mp hy)), rfl,
      (aset_comm _ _ _ _ _ (Ne.symm hne)).1⟩)

theorem reportValues_pair_equiv {V} (r : Runner V) (na nb : Node V) (selA selB : List Key) (a b : Done V)
    (hne : a.1 ≠ b.1) (k : Key) (c : Chan V) :
    ChanEquiv ((c.reportValues true (valsTo r na selA a k)).reportValues true (valsTo r nb selB b k))
              ((c.reportValues true (valsTo r nb selB b k)).reportValues true (valsTo r na selA a k)) := by
  rcases valsTo_cases r na selA a k with h1 | h1 <;> rcases valsTo_cases r nb selB b k with h2 | h2 <;>
    rw [h1, h2]
  · exact ChanEquiv.refl _
  · simp only [reportValues_nil]; exact ChanEquiv.refl _
  · simp only [reportValues_nil]; exact ChanEquiv.refl _
  · simp only [reportValues_eq, List.foldl_cons, List.foldl_nil]
    by_cases hs : c.skipped = true
    · simp only [hs, ↓reduceIte]; exact ChanEquiv.refl _
    · simp only [hs, Bool.false_eq_true, ↓reduceIte, (valsF_rest _ _).2]
      exact fv_fv_equiv c (a.1, a.2) (b.1, b.2) hne

theorem chanUpd_swap {V} (r : Runner V) (na nb : Node V) (selA selB : List Key) (a b : Done V)
    (hne : a.1 ≠ b.1) (k : Key) (c : Chan V) :
    ChanEquiv (chanUpd r nb selB b k (chanUpd r na selA a k c)) (chanUpd r na selA a k (chanUpd r nb selB b k c)) := by
  unfold chanUpd
  rw [← reportDeps_reportValues_comm _ (valsTo r nb selB b k) (depsTo r na selA a k)]
  rw [← reportDeps_reportValues_comm _ (valsTo r na selA a k) (depsTo r nb selB b k)]
  rw [reportDeps_comm _ (depsTo r na selA a k) (depsTo r nb selB b k)]
  exact reportDeps_equiv _ _ (reportDeps_equiv _ _ (reportValues_pair_equiv r na nb selA selB a b hne k c) _) _

def ChansEquiv {V} : Chans V → Chans V → Prop
  | [], [] => True
  | p :: t, p' :: t' => p.1 = p'.1 ∧ ChanEquiv p.2 p'.2 ∧ ChansEquiv t t'
  | _, _ => False

theorem chansEquiv_map {V} (cm : Chans V) (f g : Key × Chan V → Key × Chan V)
    (h : ∀ p, (f p).1 = (g p).1 ∧ ChanEquiv (f p).2 (g p).2) : ChansEquiv (cm.map f) (cm.map g) := by
  induction cm with
  | nil => exact True.intro
  | cons p t ih => exact ⟨(h p).1, (h p).2, ih⟩

theorem getReady_swap {V} (ops : ValOps V) (hm : MergePerm ops) (r : Runner V) (cm : Chans V)
    (na nb : Node V) (a b : Done V) (selA selB : List Key) (hne : a.1 ≠ b.1) :
    let gAB := getReady ops true (chansUpd r nb selB b (chansUpd r na selA a cm))
    let gBA := getReady ops true (chansUpd r na selA a (chansUpd r nb selB b cm))
    ChansEquiv gAB.1 gBA.1 ∧ gAB.2.1 = gBA.2.1 ∧ gAB.2.2 = gBA.2.2 := by
  have key : ∀ p : Key × Chan V, _ := fun p =>
    get_equiv ops hm _ _ (chanUpd_swap r na nb selA selB a b hne p.1 p.2)
  simp only [getReady_dag, chansUpd, List.map_map, List.filterMap_map, List.any_map]
  refine ⟨chansEquiv_map _ _ _ fun p => ⟨rfl, (key p).2⟩,
    congrArg (cm.filterMap ·) (funext fun p => ?_), List.any_congr rfl fun p => ?_⟩
  · simp only [Function.comp, readyOf]
    rw [(key p).1]
  · simp only [Function.comp, badOf]
    rw [(key p).1]

theorem getReady_diamond {V} (ops : ValOps V) (hm : MergePerm ops) (r : Runner V) (cm : Chans V)
    (na nb : Node V) (a b : Done V) (selA selB : List Key) (hne : a.1 ≠ b.1)
    (hpa : Pending r na selA a cm) (hpb : Pending r nb selB b cm) (hpred : AllHavePreds cm) :
    let gA := getReady ops true (chansUpd r na selA a cm)
    let gAB := getReady ops true (chansUpd r nb selB b gA.1)
    let gB := getReady ops true (chansUpd r nb selB b cm)
    let gBA := getReady ops true (chansUpd r na selA a gB.1)
    ChansEquiv gAB.1 gBA.1 ∧ (gA.2.1 ++ gAB.2.1).Perm (gB.2.1 ++ gBA.2.1) ∧
      (gA.2.2 || gAB.2.2) = (gB.2.2 || gBA.2.2) := by
  -- both orders agree with their batch, and the two batches agree
  have hab := getReady_seq_vs_batch ops r cm na nb a b selA selB hne hpb hpred
  have hba := getReady_seq_vs_batch ops r cm nb na b a selB selA (Ne.symm hne) hpa hpred
  have hsw := getReady_swap ops hm r cm na nb a b selA selB hne
  refine ⟨?_, ?_, ?_⟩
  · rw [← hab.1, ← hba.1]; exact hsw.1
  · exact (hab.2.1.symm.trans (.of_eq hsw.2.1)).trans hba.2.1
  · rw [← hab.2.2, ← hba.2.2, hsw.2.2]

theorem calcCore_diamond {V} (ops : ValOps V) (hm : MergePerm ops) (r : Runner V) (hdag : r.dag = true)
    (cm : Chans V) (na nb : Node V) (a b : Done V) (selA selB : List Key)
    (ha : SkipFree r na a selA) (hb : SkipFree r nb b selB) (hne : a.1 ≠ b.1)
    (hpa : Pending r na selA a cm) (hpb : Pending r nb selB b cm) (hpred : AllHavePreds cm) :
    ∃ cmA rdA badA cmAB rdB badB cmB rdB' badB' cmBA rdA' badA',
      calcCore ops r cm [a] = .ok (cmA, rdA, badA) ∧ calcCore ops r cmA [b] = .ok (cmAB, rdB, badB) ∧
      calcCore ops r cm [b] = .ok (cmB, rdB', badB') ∧ calcCore ops r cmB [a] = .ok (cmBA, rdA', badA') ∧
      ChansEquiv cmAB cmBA ∧ (rdA ++ rdB).Perm (rdB' ++ rdA') ∧ (badA || badB) = (badB' || badA') := by
  have h := getReady_diamond ops hm r cm na nb a b selA selB hne hpa hpb hpred
  exact ⟨_, _, _, _, _, _, _, _, _, _, _, _, calcCore_single ops r hdag cm na a selA ha,
    calcCore_single ops r hdag _ nb b selB hb, calcCore_single ops r hdag cm nb b selB hb,
    calcCore_single ops r hdag _ na a selA ha, h⟩

theorem classify_tasks {V} (x : Chans V × List (Key × V) × Bool) (cm : Chans V) (ts : List (Key × V)) :
    classify x = .ok (cm, .tasks ts) ↔ x.1 = cm ∧ x.2.1 = ts ∧ x.2.2 = false ∧ END ∉ akeys x.2.1 := by
  obtain ⟨c, rd, bad⟩ := x
  unfold classify
  cases bad with
  | true => simp
  | false =>
    simp only [Bool.false_eq_true, ↓reduceIte]
    cases hl : alookup END rd with
    | some v =>
      have : END ∈ akeys rd := by
        apply Classical.byContradiction; intro hn
        rw [alookup_none_of_not_mem _ _ hn] at hl; cases hl
      simp [this]
    | none =>
      have : END ∉ akeys rd := (alookup_none_iff END rd).mp hl
      simp [this]

theorem calcNext_tasks_iff {V} (ops : ValOps V) (r : Runner V) (cm : Chans V) (done : List (Done V))
    (cm' : Chans V) (ts : List (Key × V)) :
    calcNext ops r cm done = .ok (cm', .tasks ts) ↔
      calcCore ops r cm done = .ok (cm', ts, false) ∧ END ∉ akeys ts := by
  rw [calcNext_eq_core]
  cases hc : calcCore ops r cm done with
  | error e => simp [Except.bind]
  | ok x =>
    simp only [Except.bind, classify_tasks]
    obtain ⟨c, rd, bad⟩ := x
    simp only [Except.ok.injEq, Prod.mk.injEq]
    constructor
    · rintro ⟨h1, h2, h3, h4⟩; exact ⟨⟨h1, h2, h3⟩, h2 ▸ h4⟩
    · rintro ⟨⟨h1, h2, h3⟩, h4⟩; exact ⟨h1, h2, h3, h2 ▸ h4⟩

/-- `h1`, `h2`: neither step returns a result nor fails — the two completions do not race for END -/
theorem calcNext_diamond {V} (ops : ValOps V) (hm : MergePerm ops) (r : Runner V) (hdag : r.dag = true)
    (cm : Chans V) (na nb : Node V) (a b : Done V) (selA selB : List Key)
    (ha : SkipFree r na a selA) (hb : SkipFree r nb b selB) (hne : a.1 ≠ b.1)
    (hpa : Pending r na selA a cm) (hpb : Pending r nb selB b cm) (hpred : AllHavePreds cm)
    (cmA cmAB : Chans V) (tsA tsB : List (Key × V))
    (h1 : calcNext ops r cm [a] = .ok (cmA, .tasks tsA))
    (h2 : calcNext ops r cmA [b] = .ok (cmAB, .tasks tsB)) :
    (∃ ts, calcNext ops r cm [a, b] = .ok (cmAB, .tasks ts) ∧ ts.Perm (tsA ++ tsB)) ∧
    (∃ cmB cmBA tsB' tsA',
      calcNext ops r cm [b] = .ok (cmB, .tasks tsB') ∧ calcNext ops r cmB [a] = .ok (cmBA, .tasks tsA') ∧
      ChansEquiv cmAB cmBA ∧ (tsA ++ tsB).Perm (tsB' ++ tsA')) := by
  rw [calcNext_tasks_iff] at h1 h2
  have eA := Except.ok.inj ((calcCore_single ops r hdag cm na a selA ha).symm.trans h1.1)
  have eB := Except.ok.inj ((calcCore_single ops r hdag cmA nb b selB hb).symm.trans h2.1)
  have hab := getReady_seq_vs_batch ops r cm na nb a b selA selB hne hpb hpred
  have hd := getReady_diamond ops hm r cm na nb a b selA selB hne hpa hpb hpred
  simp only [eA, eB] at hab hd
  have hEnd : ∀ l : List (Key × V), l.Perm (tsA ++ tsB) → END ∉ akeys l := by
    intro l hl h
    have := (hl.map (·.1)).mem_iff.mp h
    rw [List.map_append] at this
    exact (List.mem_append.mp this).elim h1.2 h2.2
  have hE := hEnd _ hd.2.1.symm
  rw [akeys, List.map_append] at hE
  have hbad := Bool.or_eq_false_iff.mp hd.2.2.symm
  refine ⟨⟨_, ?_, hab.2.1⟩, (getReady ops true (chansUpd r nb selB b cm)).1, _, _, _, ?_, ?_, hd.1, hd.2.1⟩
  · rw [calcNext_tasks_iff, calcCore_pair ops r hdag cm na nb a b selA selB ha hb hne]
    exact ⟨congrArg Except.ok (Prod.ext hab.1 (Prod.ext rfl hab.2.2)), hEnd _ hab.2.1⟩
  · rw [calcNext_tasks_iff, calcCore_single ops r hdag cm nb b selB hb]
    exact ⟨congrArg Except.ok (Prod.ext rfl (Prod.ext rfl hbad.1)), fun h => hE (List.mem_append_left _ h)⟩
  · rw [calcNext_tasks_iff, calcCore_single ops r hdag _ na a selA ha]
    exact ⟨congrArg Except.ok (Prod.ext rfl (Prod.ext rfl hbad.2)), fun h => hE (List.mem_append_right _ h)⟩

inductive CtrlPath {V} (w : WorkflowDef V) : Key → Key → Prop
  | edge {x t : Key} : x ∈ lookupList t w.ctrlPreds → CtrlPath w x t
  | step {x m t : Key} : x ∈ lookupList m w.ctrlPreds → CtrlPath w m t → CtrlPath w x t

/-- well-formed workflows: what `Workflow.compile` accepts, minus the shapes of three findings
    (DESIGN.md §5): a node without a control path to END (`reachesEnd`; C03: abandoned when the
    run returns), a control dependency doubled by a branch end (`noEdgeAndBranch`; C02, repaired in
    /repo: skip and dependency meet on one channel entry — `edge_beats_unselected_branch` in
    Props/C02.lean) and a node without a control predecessor (`hasCtrlPred`; C02, repaired in /repo —
    `node_without_predecessor_never_runs` there). -/
structure WorkflowDef.WF {V} (w : WorkflowDef V) : Prop where
  keysNodup : (w.nodes.map (·.1)).Nodup
  keysNotReserved : ∀ k ∈ w.nodes.map (·.1), k ≠ START ∧ k ≠ END
  depsKnown : ∀ d ∈ w.deps, (d.from_ = START ∨ d.from_ ∈ w.nodes.map (·.1)) ∧ (d.to = END ∨ d.to ∈ w.nodes.map (·.1))
  depsDistinct : ∀ d ∈ w.deps, d.control = true ∨ d.data = true
  branchesKnown : ∀ b ∈ w.branches, (b.1 = START ∨ b.1 ∈ w.nodes.map (·.1)) ∧
    ∀ e ∈ b.2.ends, e = END ∨ e ∈ w.nodes.map (·.1)
  condsInEnds : ∀ b ∈ w.branches, ∀ v ws, b.2.cond v = .ok ws → ∀ e ∈ ws, e ∈ b.2.ends
  acyclic : ∃ rank : Key → Nat, (∀ d ∈ w.deps, rank d.from_ < rank d.to) ∧
    (∀ b ∈ w.branches, ∀ e ∈ b.2.ends, rank b.1 < rank e)
  hasCtrlPred : ∀ k, (k = END ∨ k ∈ w.nodes.map (·.1)) → lookupList k w.ctrlPreds ≠ []
  reachesEnd : ∀ k ∈ w.nodes.map (·.1), CtrlPath w k END
  noEdgeAndBranch : ∀ d ∈ w.deps, d.control = true → ∀ b ∈ w.branches, b.1 = d.from_ → d.to ∉ b.2.ends

/-- **GOAL — eager confluence and agreement with the batch run** (not proved; the two-completion
    diamond `calcNext_diamond` is its induction step for skip-free completions; missing: the
    same step for completions whose branches report skips — commutation of the skip
    propagation work list — and the invariant `Pending ∧ AllHavePreds` along `eagerLoop`).

    For every well-formed workflow, input and pair of completion schedules: if the eager run
    succeeds under one schedule it succeeds under the other with the same result, the same
    node executions on the same inputs, nothing abandoned; and the batch run (`waitAll`, as a
    Graph in all-predecessor mode would run the same runner) returns the same result having
    executed the same nodes on the same inputs. -/
def EagerConfluenceGoal : Prop :=
  ∀ (V : Type) (ops : ValOps V), MergePerm ops → ∀ w : WorkflowDef V, w.WF →
    ∀ (x : V) (pick pick' : Pick V) (v : V),
      (runEager ops (compileW ops w) pick x).result = .ok v →
        (runEager ops (compileW ops w) pick' x).result = .ok v ∧
        (runEager ops (compileW ops w) pick x).submitted.Perm (runEager ops (compileW ops w) pick' x).submitted ∧
        (runEager ops (compileW ops w) pick x).abandoned = [] ∧
        (run ops (compileW ops w) x).result = .ok v ∧
        (run ops (compileW ops w) x).trace.flatten.Perm (runEager ops (compileW ops w) pick x).submitted

end EinoV.Engine
