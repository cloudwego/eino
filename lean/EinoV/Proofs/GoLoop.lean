/-
  The loop forms `gotrans` produces.  Go `for range` is `forIn` in the `Id` monad, which is the structural
  recursion `goLoop f l b` with `f : α → β → ForInStep β`; `break` and `return` are `.done`.  `goLoop_rule` is
  the induction over a loop: an invariant indexed by the elements still to be visited, and a postcondition
  that a `.done` step establishes itself.  A body step is stated as `stepTo Y D (f a b)`, and the `stepTo_*`
  lemmas push it through the `if`s of a generated body.  In front of the loops: what the translated units use
  of Go maps (one entry per key: `KeysNodup`) and of Go slices.
-/
import EinoV.Model.GoSemTab
import EinoV.Proofs.Assoc

namespace EinoV.TransDag
open EinoV.GoSem EinoV.Engine

def KeysNodup {α : Type} (m : GoMap α) : Prop := (m.map (·.1)).Nodup

/-- for `goLoop_visit`: ranging over a map with one entry per key and writing the visited entry back -/
theorem KeysNodup.visit {α : Type} {pre : GoMap α} {k : String} {v : α} {rest : GoMap α}
    (h : KeysNodup (pre ++ (k, v) :: rest)) :
    k ∉ pre.map (·.1) ∧ (∀ w, aset k w (pre ++ (k, v) :: rest) = (pre ++ [(k, w)]) ++ rest) ∧
    ∀ w, KeysNodup ((pre ++ [(k, w)]) ++ rest) := by
  have hk : k ∉ pre.map (·.1) := fun hm =>
    (List.nodup_append.mp (by simpa [KeysNodup] using h)).2.2 k hm k (List.mem_cons_self ..) rfl
  refine ⟨hk, fun w => ?_, fun w => ?_⟩
  · rw [aset_append_cons pre k v w rest hk, List.append_assoc]; rfl
  · unfold KeysNodup at h ⊢; simpa [List.map_append] using h

theorem aset_keys_of_has {α : Type} (m : GoMap α) (k : String) (v : α) (h : m.has k = true) :
    (aset k v m).map (·.1) = m.map (·.1) :=
  akeys_aset_of_mem k v m ((alookup_isSome_iff k m).mp h)

theorem set_keysNodup {α : Type} (m : GoMap α) (k : String) (v : α) (h : m.has k = true)
    (hn : KeysNodup m) : KeysNodup (m.set k v) := by
  unfold KeysNodup GoMap.set; rw [aset_keys_of_has m k v h]; exact hn

end EinoV.TransDag

namespace EinoV.GoSem
open EinoV.Engine

/-! ### Go maps

`GoMap.has`, `get?`, `getD'` and `set` are `alookup` and `aset` of the engine model (lemmas in Proofs/Assoc.lean);
`delete` is `GoMap.erase`. -/

theorem has_of_mem_keys {α} (m : GoMap α) (k : Key) (h : k ∈ m.map (·.1)) : m.has k = true :=
  (alookup_isSome_iff k m).mpr h

theorem get?_of_key_mem {α : Type} {l : GoMap α} {k : Key} (h : k ∈ l.map (·.1)) : ∃ v, l.get? k = some v :=
  Option.isSome_iff_exists.mp (has_of_mem_keys l k h)

theorem has_of_keys {α β} (m : GoMap α) (m' : GoMap β) (h : m'.map (·.1) = m.map (·.1)) (k : Key) :
    m'.has k = m.has k :=
  Bool.eq_iff_iff.mpr (by rw [GoMap.has, GoMap.has, alookup_isSome_iff, alookup_isSome_iff, akeys, akeys, h])

theorem getD'_of_not_has {α} (m : GoMap α) (k : Key) (z : α) (h : m.has k = false) : m.getD' k z = z := by
  unfold GoMap.has at h; unfold GoMap.getD'
  cases hl : alookup k m with
  | none => rfl
  | some v => simp [hl] at h

theorem getD'_of_mem {α} (m : GoMap α) (hn : (akeys m).Nodup) (p : Key × α) (hp : p ∈ m) (z : α) :
    m.getD' p.1 z = p.2 := by
  rw [GoMap.getD', alookup_of_mem_nodup m hn p.1 p.2 hp]; rfl

theorem has_set_same {α} (m : GoMap α) (k : String) (v : α) : (m.set k v).has k = true := by
  simp [GoMap.has, GoMap.set, alookup_aset_same]

theorem has_set_other {α} (m : GoMap α) (k k' : String) (v : α) (h : k' ≠ k) : (m.set k v).has k' = m.has k' := by
  simp [GoMap.has, GoMap.set, alookup_aset_other k k' v m h]

theorem set_set {α} (m : GoMap α) (k : String) (v w : α) : (m.set k v).set k w = m.set k w :=
  aset_aset k v w m

theorem getD'_set_same {α} (m : GoMap α) (k : String) (v z : α) : (m.set k v).getD' k z = v := by
  simp [GoMap.getD', GoMap.set, alookup_aset_same]

theorem getD'_set_other {α} (m : GoMap α) (k k' : String) (v z : α) (h : k' ≠ k) :
    (m.set k v).getD' k' z = m.getD' k' z := by
  simp [GoMap.getD', GoMap.set, alookup_aset_other k k' v m h]

theorem foldl_set_nil {γ β : Type} (key : γ → Key) (f : γ → β) (l : List γ) (hn : (l.map key).Nodup) :
    l.foldl (fun (m : GoMap β) x => m.set (key x) (f x)) [] = l.map (fun x => (key x, f x)) :=
  foldl_aset_fresh key f l [] hn (fun _ _ h => nomatch h)

theorem getD'_map {α β} (g : α → β) (m : GoMap α) (k : Key) (z : α) :
    GoMap.getD' (m.map fun p => (p.1, g p.2)) k (g z) = g (m.getD' k z) := by
  rw [GoMap.getD', GoMap.getD', alookup_map]
  cases alookup k m <;> rfl

theorem akeys_erase {α} (m : GoMap α) (k : Key) : akeys (m.erase k) = (akeys m).filter (fun e => !(e == k)) := by
  rw [akeys, akeys, List.filter_map]; rfl

theorem erase_of_not_has {α} (m : GoMap α) (k : Key) (h : m.has k = false) : m.erase k = m :=
  List.filter_eq_self.mpr fun p hp => by
    simpa using ne_of_alookup_none k m (by simpa [GoMap.has] using h) p hp

theorem akeys_eraseAll {α} (l : List Key) : ∀ (m : GoMap α),
    akeys (l.foldl (fun (m : GoMap α) k => m.erase k) m) = (akeys m).filter (fun e => !l.contains e) := by
  induction l with
  | nil => intro m; exact (List.filter_eq_self.mpr (fun _ _ => rfl)).symm
  | cons k l ih =>
    intro m
    rw [List.foldl_cons, ih, akeys_erase, List.filter_filter]
    congr 1; funext e
    simp only [List.contains_cons, Bool.not_or, Bool.and_comm]

theorem alookup_erase {α} (m : GoMap α) (k k' : Key) :
    alookup k' (m.erase k) = if k' == k then none else alookup k' m := by
  -- a look-up is `find?` by key, and `find?` after a filter is `find?` for both tests
  have hf : ∀ l : GoMap α, alookup k' l = (l.find? (·.1 == k')).map (·.2) := fun l => by
    simpa using alookup_map_key Prod.fst Prod.snd l k'
  rw [hf, hf, GoMap.erase, List.find?_filter]
  by_cases hk : k' = k
  · subst hk
    simp
  · simp only [beq_iff_eq, hk, if_false]
    congr 2; funext a
    by_cases ha : a.1 = k' <;> simp [ha, hk]

theorem goIdx_map {α β} (f : α → β) (l : List α) (n : Int) : goIdx? (l.map f) n = (goIdx? l n).map f := by
  unfold goIdx?; split <;> simp

theorem goIdx_append_self {α} (pre : List α) (c : α) (rest : List α) :
    goIdx? (pre ++ c :: rest) (pre.length : Int) = some c := by
  unfold goIdx?
  have : ¬ ((pre.length : Int) < 0) := by omega
  simp [this]

theorem goInRange_append {α} (pre : List α) (x : α) (rest : List α) :
    goInRange (pre ++ x :: rest) (pre.length : Int) = true := by
  simp [goInRange]; omega

theorem goSetIdx_append {α} (pre : List α) (x y : α) (rest : List α) :
    goSetIdx (pre ++ x :: rest) (pre.length : Int) y = pre ++ y :: rest := by
  simp [goSetIdx]

theorem goIdx_replicate {α} (m : Nat) (out : α) (k : Int) (h0 : 0 ≤ k) (h1 : k < m) :
    goIdx? (List.replicate m out) k = some out := by
  unfold goIdx?
  have : ¬ k < 0 := by omega
  simp only [this, if_false]
  rw [List.getElem?_replicate]
  have : k.toNat < m := by omega
  simp [this]

theorem goInRange_replicate {α} (m : Nat) (out : α) (k : Int) (h0 : 0 ≤ k) (h1 : k < m) :
    goInRange (List.replicate m out) k = true := by
  simp [goInRange, h0, h1]

theorem goSetIdx_replicate {α} (m : Nat) (out : α) (k : Int) :
    goSetIdx (List.replicate m out) k out = List.replicate m out := by
  unfold goSetIdx
  apply List.ext_getElem
  · simp
  · intro i h1 h2; simp

theorem goCopy_make {α : Type} (d : α) (src : List α) : goCopy (goMake (src.length : Int) d) src = src := by
  simp [goCopy, goMake]

theorem goSlice?_take {α : Type} (xs : List α) (hi : Nat) (h : hi ≤ xs.length) :
    goSlice? xs 0 hi = some (xs.take hi) := by
  unfold goSlice?
  rw [if_pos ⟨Int.le_refl 0, Int.natCast_nonneg hi, Int.ofNat_le.mpr h⟩, Int.toNat_natCast]; rfl

theorem goSlice?_drop {α : Type} (xs : List α) (lo : Nat) (h : lo ≤ xs.length) :
    goSlice? xs lo xs.length = some (xs.drop lo) := by
  unfold goSlice?
  rw [if_pos ⟨Int.natCast_nonneg lo, Int.ofNat_le.mpr h, Int.le_refl _⟩, Int.toNat_natCast, Int.toNat_natCast,
    List.take_length]

/-- a callee that is handed `xs[lo:]` and leaves it as it is leaves `xs` as it is -/
theorem goSliceBack_drop {α : Type} (xs : List α) (lo : Nat) : goSliceBack xs lo (xs.drop lo) = xs := by
  unfold goSliceBack
  rw [Int.toNat_natCast, List.take_append_drop, List.drop_of_length_le (by rw [List.length_drop]; omega),
    List.append_nil]

theorem forIn_id {α β : Type} (l : List α) (b : β) (f : α → β → Id (ForInStep β)) :
    (forIn l b f : Id β) = goLoop (fun a b => (f a b).run) l b := by
  induction l generalizing b with
  | nil => rfl
  | cons a l ih =>
    simp only [List.forIn_cons, goLoop]
    show (match (f a b).run with | .done b' => _ | .yield b' => _) = _
    cases h : (f a b).run
    · rfl
    · exact ih _

def stepTo {β : Type} (Y D : β → Prop) : ForInStep β → Prop
  | .yield b => Y b
  | .done b => D b

@[simp] theorem stepTo_yield {β : Type} (Y D : β → Prop) (b : β) : stepTo Y D (.yield b) = Y b := rfl
@[simp] theorem stepTo_done {β : Type} (Y D : β → Prop) (b : β) : stepTo Y D (.done b) = D b := rfl

theorem stepTo_ite {β : Type} (Y D : β → Prop) (c : Prop) [Decidable c] (x y : ForInStep β) :
    stepTo Y D (if c then x else y) ↔ (c → stepTo Y D x) ∧ (¬ c → stepTo Y D y) := by
  by_cases h : c <;> simp [h]

/-- the same where the body still has its generated type `Id (ForInStep β)` -/
theorem stepTo_ite_Id {β : Type} (Y D : β → Prop) (c : Prop) [Decidable c] (x y : Id (ForInStep β)) :
    stepTo Y D (if c then x else y : Id (ForInStep β)) ↔ (c → stepTo Y D x) ∧ (¬ c → stepTo Y D y) :=
  stepTo_ite Y D c x y

theorem stepTo.imp {β : Type} {Y Y' D D' : β → Prop} (hY : ∀ b, Y b → Y' b) (hD : ∀ b, D b → D' b) :
    ∀ {x : ForInStep β}, stepTo Y D x → stepTo Y' D' x
  | .yield b, h => hY b h
  | .done b, h => hD b h

theorem goLoop_rule {α β : Type} {f : α → β → ForInStep β} (I : List α → β → Prop) {Q : β → Prop}
    (step : ∀ a rest b, I (a :: rest) b → stepTo (I rest) Q (f a b))
    (exit : ∀ b, I [] b → Q b) : ∀ (l : List α) (b : β), I l b → Q (goLoop f l b)
  | [], b, h => exit b h
  | a :: rest, b, h => by
    have := step a rest b h
    unfold goLoop
    cases hf : f a b with
    | done b' => rw [hf] at this; exact this
    | yield b' => rw [hf] at this; exact goLoop_rule I step exit rest b' this

theorem goLoop_fold_inv {α β γ : Type} (P : β → Prop) (Q : α → Prop) (h : β → γ) (f : α → β → ForInStep β)
    (g : γ → α → γ)
    (hf : ∀ a b, Q a → P b → ∃ b', f a b = .yield b' ∧ P b' ∧ h b' = g (h b) a)
    (l : List α) (hl : ∀ a ∈ l, Q a) (b : β) (hb : P b) :
    P (goLoop f l b) ∧ h (goLoop f l b) = l.foldl g (h b) :=
  goLoop_rule (f := f) (Q := fun b' => P b' ∧ h b' = l.foldl g (h b))
    (fun rest b' => (∀ a ∈ rest, Q a) ∧ P b' ∧ rest.foldl g (h b') = l.foldl g (h b))
    (fun a rest b' ⟨hq, hp, he⟩ => by
      obtain ⟨b'', e, hp', he'⟩ := hf a b' (hq a List.mem_cons_self) hp
      rw [e]
      exact ⟨fun x hx => hq x (List.mem_cons_of_mem _ hx), hp', by rw [he', ← he]; rfl⟩)
    (fun _ ⟨_, hp, he⟩ => ⟨hp, he⟩) l b ⟨hl, hb, rfl⟩

theorem goLoop_fold {α β γ : Type} (h : β → γ) (f : α → β → ForInStep β) (g : γ → α → γ)
    (hf : ∀ a b, ∃ b', f a b = .yield b' ∧ h b' = g (h b) a) (l : List α) (b : β) :
    h (goLoop f l b) = l.foldl g (h b) :=
  (goLoop_fold_inv (fun _ => True) (fun _ => True) h f g
    (fun a b _ _ => (hf a b).imp fun _ hb => ⟨hb.1, trivial, hb.2⟩) l (fun _ _ => trivial) b trivial).2

theorem goLoop_yield {α β : Type} (g : β → α → β) (l : List α) (b : β) :
    goLoop (fun a s => ForInStep.yield (g s a)) l b = l.foldl g b :=
  goLoop_fold id _ g (fun a b => ⟨g b a, rfl, rfl⟩) l b

/-- a loop that does not `return`, in a function that does somewhere: the state carries the slot for the
    returned value, here left `none` -/
theorem goLoop_noret_inv {α ρ σ γ : Type} (I : σ → Prop) (Q : α → Prop) (h : σ → γ)
    (body : α → Option ρ × σ → ForInStep (Option ρ × σ)) (g : γ → α → γ)
    (hbody : ∀ a s, Q a → I s → ∃ s', body a (none, s) = .yield (none, s') ∧ I s' ∧ h s' = g (h s) a)
    (l : List α) (hl : ∀ a ∈ l, Q a) (s : σ) (hs : I s) :
    ∃ s', goLoop body l (none, s) = (none, s') ∧ I s' ∧ h s' = l.foldl g (h s) := by
  obtain ⟨⟨h1, h2⟩, h3⟩ := goLoop_fold_inv (fun b => b.1 = none ∧ I b.2) Q (fun b => h b.2) body g
    (fun a b hq ⟨ho, hi⟩ => by
      obtain ⟨s', e, hi', he⟩ := hbody a b.2 hq hi
      exact ⟨_, by rw [← e, ← ho], ⟨rfl, hi'⟩, he⟩) l hl (none, s) ⟨rfl, hs⟩
  exact ⟨_, Prod.ext h1 rfl, h2, h3⟩

theorem goLoop_noret {α ρ γ : Type} (body : α → Option ρ × γ → ForInStep (Option ρ × γ)) (g : γ → α → γ)
    (l : List α) (hbody : ∀ x ∈ l, ∀ acc, body x (none, acc) = .yield (none, g acc x)) (acc : γ) :
    goLoop body l (none, acc) = (none, l.foldl g acc) := by
  obtain ⟨_, e, _, rfl⟩ := goLoop_noret_inv (fun _ => True) (· ∈ l) id body g
    (fun x s hx _ => ⟨_, hbody x hx s, trivial, rfl⟩) l (fun _ hx => hx) acc trivial
  exact e

/-- collecting loop: `xs = append(xs, f a)` -/
theorem goLoop_collect {α β : Type} (g : α → β) (l : List α) (acc : List β) :
    goLoop (fun a s => ForInStep.yield (s ++ [g a])) l acc = acc ++ l.map g :=
  goLoop_rule (Q := fun s => s = acc ++ l.map g) (fun rest s => s ++ rest.map g = acc ++ l.map g)
    (fun a rest s h => by show (s ++ [g a]) ++ rest.map g = _; rw [List.append_assoc]; exact h)
    (fun s h => (List.append_nil s).symm.trans h) l acc rfl

theorem goLoop_filter_snd {α γ : Type} (p : α → Bool) (u : α → γ) (l : List α) (b0 : γ) (acc : List α) :
    (goLoop (fun a (s : γ × List α) => if p a = true then ForInStep.yield (u a, s.snd ++ [a]) else ForInStep.yield (u a, s.snd)) l (b0, acc)).snd
      = acc ++ l.filter p :=
  goLoop_rule (Q := fun s => s.snd = acc ++ l.filter p) (fun rest s => s.snd ++ rest.filter p = acc ++ l.filter p)
    (fun a rest s h => by by_cases hp : p a = true <;> simpa [hp] using h)
    (fun s h => by simpa using h) l (b0, acc) rfl

/-- building a map from the entries of a map (one entry per key) that pass a test: `m2[k] = v` -/
theorem goLoop_set_filter {β γ ρ : Type} (p : String × β → Bool) (u : String × β → γ) (l : GoMap β) (b0 : γ)
    (acc : GoMap β) (h : ((acc ++ l).map (·.1)).Nodup) :
    goLoop (fun x (s : Option ρ × γ × GoMap β) =>
        if p x = true then ForInStep.yield (none, u x, s.2.2.set x.1 x.2) else ForInStep.yield (none, u x, s.2.2))
      l (none, b0, acc) = (none, l.foldl (fun _ x => u x) b0, acc ++ l.filter p) := by
  induction l generalizing b0 acc with
  | nil => simp [goLoop]
  | cons a l ih =>
    have hfresh : a.1 ∉ akeys acc := by
      simp only [List.map_append, List.map_cons, List.nodup_append, List.mem_cons] at h
      intro hm; exact (h.2.2 a.1 hm a.1 (Or.inl rfl)) rfl
    by_cases hp : p a = true
    · simp only [goLoop, hp, if_true, List.foldl_cons, List.filter_cons_of_pos hp]
      rw [ih]
      · simp [GoMap.set, aset_append_new _ _ _ hfresh]
      · simp only [GoMap.set, aset_append_new _ _ _ hfresh]
        simpa [List.map_append] using h
    · simp only [goLoop, hp, Bool.false_eq_true, if_false, List.foldl_cons, List.filter_cons_of_neg hp]
      rw [ih]
      simp only [List.map_append, List.map_cons, List.nodup_append, List.mem_cons, List.nodup_cons] at h ⊢
      refine ⟨h.1, h.2.1.2, fun x hx y hy => h.2.2 x hx y (Or.inr hy)⟩

theorem goLoop_map {α β γ : Type} (g : α → β) (f : β → γ → ForInStep γ) (l : List α) (c : γ) :
    goLoop (fun a s => f (g a) s) l c = goLoop f (l.map g) c :=
  goLoop_rule (Q := fun r => r = goLoop f (l.map g) c)
    (fun rest s => goLoop f (rest.map g) s = goLoop f (l.map g) c)
    (fun a rest s h => by cases hf : f (g a) s <;> simpa [goLoop, hf] using h) (fun _ h => h) l c rfl

theorem goLoop_first {α β : Type} {f : α → β → ForInStep β} (p : α → Bool) (hit b : β)
    (hf : ∀ a, f a b = if p a = true then .done hit else .yield b) (l : List α) :
    goLoop f l b = if l.any p then hit else b :=
  goLoop_rule (f := f) (Q := fun r => r = if l.any p then hit else b)
    (fun rest s => s = b ∧ l.any p = rest.any p)
    (fun a rest s ⟨hs, he⟩ => by
      rw [hs, hf, stepTo_ite]
      simp only [stepTo_done, stepTo_yield, List.any_cons] at he ⊢
      exact ⟨fun h => by simp [he, h], fun h => ⟨trivial, by simpa [h] using he⟩⟩)
    (fun s ⟨hs, he⟩ => by simp [hs, he]) l b ⟨rfl, rfl⟩

/-- A search that sets a variable and breaks (`for … { if p(x) { v = hit; break } }`): `do` notation threads `v`,
    and the branch without a hit hands on the state it received (`yield s`). -/
theorem goLoop_search {α β : Type} (p : α → Bool) (hit : β) (l : List α) (b : β) :
    goLoop (fun a s => if p a = true then ForInStep.done hit else ForInStep.yield s) l b
      = if l.any p then hit else b :=
  goLoop_first p hit b (fun _ => rfl) l

/-- The same for a body that only tests and returns (`for … { if p(x) { return … } }`): nothing is threaded, and
    `do` notation yields the constant initial state (`yield b`).  Started in `b` the two loops are equal; the lemmas
    differ in the body that `rw` has to find. -/
theorem goLoop_search' {α β : Type} (p : α → Bool) (hit : β) (l : List α) (b : β) :
    goLoop (fun a _ => if p a = true then ForInStep.done hit else ForInStep.yield b) l b
      = if l.any p then hit else b :=
  goLoop_first p hit b (fun _ => rfl) l

/-- `for i, x := range xs`: the invariant also knows the index -/
theorem goLoop_enum {α β : Type} {f : Int × α → β → ForInStep β} (I : Int → List α → β → Prop) {Q : β → Prop}
    (step : ∀ k a rest b, I k (a :: rest) b → stepTo (I (k + 1) rest) Q (f (k, a) b))
    (exit : ∀ k b, I k [] b → Q b) (l : List α) (k : Int) (b : β) (h : I k l b) :
    Q (goLoop f (goEnumFrom k l) b) :=
  goLoop_rule (fun r b => ∃ k l, r = goEnumFrom k l ∧ I k l b)
    (fun a r b ⟨k, l, e, h⟩ => by
      cases l with
      | nil => cases e
      | cons x l =>
        simp only [goEnumFrom, List.cons.injEq] at e
        obtain ⟨rfl, rfl⟩ := e
        exact (step k x l b h).imp (fun _ h' => ⟨k + 1, l, rfl, h'⟩) (fun _ h' => h'))
    (fun b ⟨k, l, e, h⟩ => by
      cases l with
      | nil => exact exit k b h
      | cons x l => cases e)
    _ b ⟨k, l, rfl, h⟩

/-- `for i, x := range src { dst[i] = g(x) }` into a slice of the same length (the index check of the
    translation never fires) -/
theorem goLoop_setIdx {α γ R : Type} (p : R) (g : γ → α) (src : List γ) (dst : List α)
    (hl : dst.length = src.length) :
    goLoop (fun (x : Int × γ) (s : Option R × List α) =>
        if (!goInRange s.snd x.fst) = true then ForInStep.done (some p, s.snd)
        else ForInStep.yield (none, goSetIdx s.snd x.fst (g x.snd)))
      (goEnum src) (none, dst) = (none, src.map g) := by
  -- `pre` has been written, `todo` is what is left of `dst`
  refine goLoop_enum (Q := (· = _))
    (fun k rest s => ∃ pre todo, k = pre.length ∧ todo.length = rest.length ∧ s = (none, pre ++ todo) ∧
      pre ++ rest.map g = src.map g) ?_ ?_ src 0 _ ⟨[], dst, rfl, hl, rfl, rfl⟩
  · rintro _ a rest _ ⟨pre, todo, rfl, hl, rfl, he⟩
    cases todo with
    | nil => simp at hl
    | cons b todo =>
      simp only [goInRange_append, goSetIdx_append, Bool.not_true, Bool.false_eq_true, if_false, stepTo_yield]
      exact ⟨pre ++ [g a], todo, by simp, by simpa using hl, by simp, by simpa using he⟩
  · rintro _ _ ⟨pre, todo, _, hl, rfl, he⟩
    cases todo with
    | nil => rw [← he]; simp
    | cons _ _ => simp at hl

/-- ranging over a map of the loop state (`m s`, one entry per key) while writing the visited entry back
    (`c.channels[k] = …` inside `for k, ch := range c.channels`): in `J pre rest s` the entries `pre` have
    been visited and stand as they were written, `rest` are to come; the step is told where the write lands -/
theorem goLoop_visit {α σ : Type} {f : String × α → σ → ForInStep σ} (m : σ → GoMap α)
    (J : GoMap α → GoMap α → σ → Prop) {Q : σ → Prop}
    (step : ∀ pre k v rest s, m s = pre ++ (k, v) :: rest → J pre ((k, v) :: rest) s → k ∉ pre.map (·.1) →
      (∀ w, (m s).set k w = pre ++ (k, w) :: rest) →
      stepTo (fun s' => ∃ w, m s' = pre ++ (k, w) :: rest ∧ J (pre ++ [(k, w)]) rest s') Q (f (k, v) s))
    (exit : ∀ s, J (m s) [] s → Q s)
    (rest pre : GoMap α) (s : σ) (hm : m s = pre ++ rest) (hnd : TransDag.KeysNodup (pre ++ rest))
    (hJ : J pre rest s) : Q (goLoop f rest s) := by
  refine goLoop_rule (fun rest s => ∃ pre, m s = pre ++ rest ∧ TransDag.KeysNodup (pre ++ rest) ∧ J pre rest s)
    ?_ ?_ rest s ⟨pre, hm, hnd, hJ⟩
  · rintro ⟨k, v⟩ rest s ⟨pre, hm, hnd, hJ⟩
    obtain ⟨hk, hset, hnd'⟩ := hnd.visit
    have hset' : ∀ w, (m s).set k w = pre ++ (k, w) :: rest := fun w => by
      rw [hm]; exact (hset w).trans (by simp)
    exact (step pre k v rest s hm hJ hk hset').imp
      (fun s' ⟨w, h1, h2⟩ => ⟨pre ++ [(k, w)], by rw [h1]; simp, hnd' w, h2⟩) (fun _ h => h)
  · rintro s ⟨pre, hm, _, hJ⟩
    rw [List.append_nil] at hm
    exact exit s (hm ▸ hJ)

/-- after a translated loop that may `return` (`match __r with | some a => … | none => …`): the
    function is left with the returned value, or carries on -/
def onReturn {α β : Type} (r : Option α) (ret : α → β) (cont : β) : β :=
  match r with
  | some a => ret a
  | none => cont

end EinoV.GoSem
