/-
  Schedule independence of all-predecessor runs, step by step: under two fair completion schedules the
  j-th steps of the two runs start the same tasks (`run_steps_sched_independent`); hence if one schedule
  returns a value, no node fails under any other fair one (`run_ok_other_no_node_failure`).
-/
import EinoV.Proofs.C02Confluence
import EinoV.Proofs.C02EndWaits

namespace EinoV.Engine
namespace DagRun

theorem Enabled.mono {V} {r : Runner V} {H H' : List (Done V)} (hh : ∀ d, d ∈ H → d ∈ H') {n : Key}
    (h : Enabled r H n) : Enabled r H' n := by
  obtain ⟨h1, h2, ⟨p, hp, o, ho, hr⟩, h4⟩ := h
  refine ⟨h1, fun q hq => ?_, ⟨p, hp, o, hh _ ho, hr⟩, fun q hq => ?_⟩
  · rcases h2 q hq with ⟨o', ho'⟩ | hs
    · exact Or.inl ⟨o', hh _ ho'⟩
    · exact Or.inr (hs.mono hh)
  · rcases h4 q hq with ⟨o', ho'⟩ | hs
    · exact Or.inl ⟨o', hh _ ho'⟩
    · exact Or.inr (hs.mono hh)

theorem enabled_of_facts {V} (ops : ValOps V) (r : Runner V) (H : List (Done V)) (n : Key) (v : V)
    (f : StartFacts ops r H n v) : Enabled r H n :=
  ⟨f.hasCtrl, f.ctrlRes, f.routed f.hasCtrl, f.dataRes⟩

theorem histOf_suffix {V} (r : Runner V) (x : V) (pre : Trace V) (step : List (Key × V)) (older : Trace V) :
    ∀ d, d ∈ histOf r x older → d ∈ histOf r x (pre ++ step :: older) := by
  intro d hd
  rw [histOf_mem] at hd ⊢
  rcases hd with h | ⟨t, ht, ho⟩
  · exact Or.inl h
  · refine Or.inr ⟨t, ?_, ho⟩
    simp only [List.flatten_append, List.flatten_cons, List.mem_append]
    exact Or.inr (Or.inr ht)

theorem split_at {α} (L : List α) (j : Nat) (s : α) (h : L[j]? = some s) :
    L.reverse = (L.drop (j + 1)).reverse ++ s :: (L.take j).reverse := by
  obtain ⟨hj, hs⟩ := List.getElem?_eq_some_iff.mp h
  have e : L = L.take j ++ s :: L.drop (j + 1) := by
    rw [← hs]
    exact (List.take_append_drop j L).symm.trans (by rw [List.drop_eq_getElem_cons hj])
  calc L.reverse = (L.take j ++ s :: L.drop (j + 1)).reverse := by rw [← e]
    _ = (L.drop (j + 1)).reverse ++ s :: (L.take j).reverse := by simp

theorem mem_reverse_flatten {α} (L : List (List α)) (t : α) : t ∈ L.reverse.flatten ↔ t ∈ L.flatten := by
  simp only [List.mem_flatten, List.mem_reverse]

inductive SameSteps {V} : Trace V → Trace V → Prop
  | nil : SameSteps [] []
  | cons {a b : List (Key × V)} {la lb : Trace V} (hab : ∀ t, t ∈ a ↔ t ∈ b) (rest : SameSteps la lb) :
      SameSteps (a :: la) (b :: lb)

theorem sameSteps_flatten {V} (LA LB : Trace V) (h : SameSteps LA LB) : ∀ t, t ∈ LA.flatten ↔ t ∈ LB.flatten := by
  induction h with
  | nil => intro t; simp
  | cons hab _ ih =>
    intro t
    simp only [List.flatten_cons, List.mem_append, hab t, ih t]

theorem sameSteps_hist {V} (r : Runner V) (x : V) (LA LB : Trace V) (h : SameSteps LA LB) :
    ∀ d, d ∈ histOf r x LA ↔ d ∈ histOf r x LB := by
  intro d
  rw [histOf_mem, histOf_mem]
  constructor
  · rintro (h' | ⟨t, ht, ho⟩)
    · exact Or.inl h'
    · exact Or.inr ⟨t, (sameSteps_flatten LA LB h t).mp ht, ho⟩
  · rintro (h' | ⟨t, ht, ho⟩)
    · exact Or.inl h'
    · exact Or.inr ⟨t, (sameSteps_flatten LA LB h t).mpr ht, ho⟩

theorem sameSteps_keys {V} (LA LB : Trace V) (h : SameSteps LA LB) : ∀ n, n ∈ keysOfTr LA ↔ n ∈ keysOfTr LB := by
  intro n
  simp only [keysOfTr, List.mem_map]
  constructor
  · rintro ⟨t, ht, e⟩; exact ⟨t, (sameSteps_flatten LA LB h t).mp ht, e⟩
  · rintro ⟨t, ht, e⟩; exact ⟨t, (sameSteps_flatten LA LB h t).mpr ht, e⟩

theorem sameSteps_symm {V} (LA LB : Trace V) (h : SameSteps LA LB) : SameSteps LB LA := by
  induction h with
  | nil => exact SameSteps.nil
  | cons hab _ ih => exact SameSteps.cons (fun t => (hab t).symm) ih

theorem factsTr_suffix {V} (ops : ValOps V) (r : Runner V) (x : V) (pre T : Trace V) (h : FactsTr ops r x (pre ++ T)) :
    FactsTr ops r x T := by
  induction pre with
  | nil => exact h
  | cons _ _ ih => exact ih h.2

theorem once_suffix {V} (pre T : Trace V) (h : ∀ k, (keysOfTr (pre ++ T)).count k ≤ 1) (k : Key) :
    (keysOfTr T).count k ≤ 1 := by
  have := h k
  rw [keysOfTr_append, List.count_append] at this
  omega

/-- **lock step, one step.**  Two runs (steps newest first) whose older steps started the same tasks:
    their newest steps start the same tasks too.  A task of one run is enabled by the older steps of the
    other, so the other has started it (completeness): now, on the same input (the histories are
    grounded), or earlier — but then the first run has started it earlier as well, twice in all. -/
theorem heads_agree {V} (ops : ValOps V) (hm : MergePerm ops) (r : Runner V) (x : V)
    (rank : Key → Nat)
    (hrank : ∀ n p, (p ∈ lookupList n r.ctrlPreds ∨ p ∈ lookupList n r.dataPreds) → rank p < rank n)
    (hstartC : lookupList START r.ctrlPreds = [])
    (HA HB : List (Done V)) (gA : Grounded ops r x HA) (gB : Grounded ops r x HB)
    {stA stB : List (Key × V)} {TA TB : Trace V}
    (subA : ∀ d, d ∈ histOf r x TA → d ∈ HA) (subB : ∀ d, d ∈ histOf r x TB → d ∈ HB)
    (fA : FactsTr ops r x (stA :: TA)) (fB : FactsTr ops r x (stB :: TB))
    (cA : CompTr r x (stA :: TA)) (cB : CompTr r x (stB :: TB))
    (oA : ∀ k, (keysOfTr (stA :: TA)).count k ≤ 1) (oB : ∀ k, (keysOfTr (stB :: TB)).count k ≤ 1)
    (rel : SameSteps TA TB) : ∀ t, t ∈ stA ↔ t ∈ stB := by
  have half : ∀ {st st' : List (Key × V)} {T T' : Trace V} (H H' : List (Done V)),
      Grounded ops r x H → Grounded ops r x H' →
      (∀ d, d ∈ histOf r x T → d ∈ H) → (∀ d, d ∈ histOf r x T' → d ∈ H') →
      FactsTr ops r x (st :: T) → FactsTr ops r x (st' :: T') → CompTr r x (st' :: T') →
      (∀ k, (keysOfTr (st :: T)).count k ≤ 1) → SameSteps T T' → ∀ t, t ∈ st → t ∈ st' := by
    intro st st' T T' H H' g g' sub sub' f f' c' o rel ⟨n, v⟩ ht
    have facts := f.1 n v ht
    have hen : Enabled r (histOf r x T') n :=
      (enabled_of_facts ops r _ n v facts).mono (fun d hd => (sameSteps_hist r x T T' rel d).mp hd)
    have hmem := c'.1 n hen
    rw [keysOfTr_cons, List.mem_append] at hmem
    rcases hmem with hk | hk
    · obtain ⟨v', hv'⟩ := exists_of_mem_akeys _ _ hk
      have : v = v' := grounded_input_agree ops hm r x rank hrank hstartC H H' _ _ g g' sub sub' n v v'
        facts (f'.1 n v' hv')
      rw [this]; exact hv'
    · exfalso
      have := o n
      rw [keysOfTr_cons, List.count_append] at this
      have p1 : 0 < (akeys st).count n := List.count_pos_iff.mpr (mem_akeys_of_mem n v _ ht)
      have p2 : 0 < (keysOfTr T).count n := List.count_pos_iff.mpr ((sameSteps_keys T T' rel n).mpr hk)
      omega
  exact fun t => ⟨half HA HB gA gB subA subB fA fB cB oA rel t,
    half HB HA gB gA subB subA fB fA cA oB (sameSteps_symm _ _ rel) t⟩

theorem sameSteps_take {V} (LA LB : Trace V) (j : Nat) (hA : j ≤ LA.length) (hB : j ≤ LB.length)
    (h : ∀ i s s', i < j → LA[i]? = some s → LB[i]? = some s' → ∀ t, t ∈ s ↔ t ∈ s') :
    SameSteps (LA.take j).reverse (LB.take j).reverse := by
  induction j with
  | zero => rw [List.take_zero, List.take_zero]; exact .nil
  | succ j ih =>
    rw [List.take_succ_eq_append_getElem hA, List.take_succ_eq_append_getElem hB, List.reverse_append,
      List.reverse_append]
    exact .cons (h j _ _ (Nat.lt_succ_self j) (List.getElem?_eq_getElem hA) (List.getElem?_eq_getElem hB))
      (ih (Nat.le_of_lt hA) (Nat.le_of_lt hB) (fun i s s' hi => h i s s' (Nat.lt_succ_of_lt hi)))

theorem steps_agree {V} (ops : ValOps V) (hm : MergePerm ops) (r : Runner V) (x : V)
    (rank : Key → Nat)
    (hrank : ∀ n p, (p ∈ lookupList n r.ctrlPreds ∨ p ∈ lookupList n r.dataPreds) → rank p < rank n)
    (hstartC : lookupList START r.ctrlPreds = [])
    (LA LB : Trace V)
    (fA : FactsTr ops r x LA.reverse) (fB : FactsTr ops r x LB.reverse)
    (cA : CompTr r x LA.reverse) (cB : CompTr r x LB.reverse)
    (oA : ∀ k, (keysOfTr LA.reverse).count k ≤ 1) (oB : ∀ k, (keysOfTr LB.reverse).count k ≤ 1)
    (sA : (keysOfTr LA.reverse).count START = 0) (sB : (keysOfTr LB.reverse).count START = 0)
    (nA : ∀ t, t ∈ LA.reverse.flatten → (r.node? t.1).isSome = true)
    (nB : ∀ t, t ∈ LB.reverse.flatten → (r.node? t.1).isSome = true) :
    ∀ (j : Nat) (stA stB : List (Key × V)), LA[j]? = some stA → LB[j]? = some stB → ∀ t, t ∈ stA ↔ t ∈ stB := by
  have gA := grounded_of_run ops r x LA.reverse fA oA sA nA
  have gB := grounded_of_run ops r x LB.reverse fB oB sB nB
  intro j
  induction j using Nat.strongRecOn with
  | _ j ih =>
    intro stA stB hA hB
    have eA := split_at LA j stA hA
    have eB := split_at LB j stB hB
    have rel := sameSteps_take LA LB j (Nat.le_of_lt (List.getElem?_eq_some_iff.mp hA).1)
      (Nat.le_of_lt (List.getElem?_eq_some_iff.mp hB).1)
      (fun i s s' hi hs hs' => ih i hi s s' hs hs')
    rw [eA] at fA cA oA
    rw [eB] at fB cB oB
    exact heads_agree ops hm r x rank hrank hstartC _ _ gA gB
      (by rw [eA]; exact histOf_suffix r x _ stA _) (by rw [eB]; exact histOf_suffix r x _ stB _)
      (factsTr_suffix ops r x _ _ fA) (factsTr_suffix ops r x _ _ fB) (compTr_suffix r x _ _ cA)
      (compTr_suffix r x _ _ cB) (once_suffix _ _ oA) (once_suffix _ _ oB) rel

theorem run_steps_sched_independent {V} (ops : ValOps V) (hm : MergePerm ops) (r : Runner V)
    (wf : DagWF r) (wf2 : DagWF2 r) (wf3 : DagWF3 r) (sA sB : Sched V) (hfA : sA.Fair) (hfB : sB.Fair) (x : V) :
    ∀ (j : Nat) (stA stB : List (Key × V)), (runS ops r sA x).trace[j]? = some stA →
      (runS ops r sB x).trace[j]? = some stB → ∀ t, t ∈ stA ↔ t ∈ stB := by
  obtain ⟨rank, _, hrank⟩ := wf3.acyclicAll
  have fa := run_facts ops r wf wf2 wf3 sA hfA x
  have fb := run_facts ops r wf wf2 wf3 sB hfB x
  exact steps_agree ops hm r x rank hrank wf3.startNoPreds _ _ fa.facts fb.facts
    (run_complete ops r wf wf2 sA hfA x) (run_complete ops r wf wf2 sB hfB x)
    fa.once fb.once fa.noStart fb.noStart fa.nodes fb.nodes

theorem run_ok_not_outlasted {V} (ops : ValOps V) (hm : MergePerm ops) (r : Runner V)
    (wf : DagWF r) (wf2 : DagWF2 r) (wf3 : DagWF3 r) (sA sB : Sched V) (hfA : sA.Fair) (hfB : sB.Fair) (x v : V)
    (hA : (runS ops r sA x).result = .ok v) :
    (runS ops r sB x).trace.length ≤ (runS ops r sA x).trace.length := by
  apply Classical.byContradiction
  intro hlt
  have hlt : (runS ops r sA x).trace.length < (runS ops r sB x).trace.length := by omega
  generalize hLA : (runS ops r sA x).trace = LA at hlt
  generalize hLB : (runS ops r sB x).trace = LB at hlt
  have fa := run_facts ops r wf wf2 wf3 sA hfA x
  have hEnd := fa.res v hA
  rw [hLA] at hEnd
  -- END is enabled by the completions of A's steps, all of which B has executed by its step |LA|
  have hst : LB[LA.length]? = some LB[LA.length] := List.getElem?_eq_getElem hlt
  have eB := split_at LB LA.length _ hst
  have rel := sameSteps_take LA LB LA.length (Nat.le_refl _) (Nat.le_of_lt hlt) (fun i s s' _ hs hs' =>
    run_steps_sched_independent ops hm r wf wf2 wf3 sA sB hfA hfB x i s s' (by rw [hLA]; exact hs) (by rw [hLB]; exact hs'))
  rw [List.take_length] at rel
  have hsub := fun d => (sameSteps_hist r x _ _ rel d).mp
  have hen : Enabled r (histOf r x (LB.take LA.length).reverse) END :=
    (enabled_of_facts ops r _ END v hEnd).mono hsub
  exact run_end_never_waits ops r wf wf2 sB hfB x _ _ _ (by rw [hLB]; exact eB) hen

theorem runTasks_ok_all {V} (r : Runner V) (sched : Sched V) (hf : sched.Fair) (step : Nat)
    (ts : List (Key × V)) (done : List (Done V)) (h : runTasks r sched step ts = .ok done) :
    ∀ t, t ∈ ts → (outOf r t).isSome = true := fun t ht =>
  let ⟨_, _, h2⟩ := runTasks_out r sched hf step ts done h t ht
  h2 ▸ rfl

theorem run_ok_all_tasks_succeed {V} (ops : ValOps V) (r : Runner V) (sched : Sched V) (hf : sched.Fair) (x v : V)
    (h : (runS ops r sched x).result = .ok v) :
    ∀ t, t ∈ (runS ops r sched x).trace.flatten → (outOf r t).isSome = true := by
  intro t ht
  -- every batch that has been run through succeeded; so did the last one, since the run returned
  rcases runS_stops ops r sched x (fun _ _ tr => ∀ t, t ∈ tr.flatten → (outOf r t).isSome = true)
    (fun _ _ _ _ h => nomatch h)
    (fun _ _ _ _ _ _ h hr _ t ht => (List.mem_append.mp (List.flatten_cons ▸ ht)).elim
      (runTasks_ok_all r sched hf _ _ _ hr t) (h t))
    with ⟨e, _⟩ | ⟨_, tasks1, tr1, h1, ⟨_, hne⟩ | ⟨e, hok⟩⟩
  · rw [e] at ht; cases ht
  · exact absurd h (hne v)
  · obtain ⟨done, _, hr, _⟩ := hok v h
    rw [e, mem_reverse_flatten] at ht
    exact (List.mem_append.mp (List.flatten_cons ▸ ht)).elim (runTasks_ok_all r sched hf _ _ _ hr t) (h1 t)

theorem run_ok_other_no_node_failure {V} (ops : ValOps V) (hm : MergePerm ops) (r : Runner V)
    (wf : DagWF r) (wf2 : DagWF2 r) (wf3 : DagWF3 r) (sA sB : Sched V) (hfA : sA.Fair) (hfB : sB.Fair) (x v : V)
    (hA : (runS ops r sA x).result = .ok v) :
    ∀ t, t ∈ (runS ops r sB x).trace.flatten → (outOf r t).isSome = true := by
  intro t ht
  obtain ⟨s, hs, hts⟩ := List.mem_flatten.mp ht
  obtain ⟨j, hj, rfl⟩ := List.mem_iff_getElem.mp hs
  have hle := run_ok_not_outlasted ops hm r wf wf2 wf3 sA sB hfA hfB x v hA
  have hjA : j < (runS ops r sA x).trace.length := by omega
  have := run_steps_sched_independent ops hm r wf wf2 wf3 sA sB hfA hfB x j _ _
    (List.getElem?_eq_getElem hjA) (List.getElem?_eq_getElem hj) t
  exact run_ok_all_tasks_succeed ops r sA hfA x v hA t
    (List.mem_flatten.mpr ⟨_, List.getElem_mem hjA, this.mpr hts⟩)

end DagRun
end EinoV.Engine
