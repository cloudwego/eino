/-
  C06, family `fault`: lemmas about one call / a history of calls under a store that can fail
  (Model/C06Fault.lean).  The run loop is abstract (`run`); what is used of it are the two
  statements proved for `runI` in Proofs/C05.lean (`runI_interrupt_mem`, `runI_store_mem`).
-/
import EinoV.Model.C06Fault

namespace EinoV.Interrupt.Fault
open EinoV.Engine EinoV.Interrupt

variable {V S X : Type}

/-- what the theorems need of the run loop of a top-level run with an id -/
structure RunOK (run : V ⊕ Checkpoint V S X → Out V S X) : Prop where
  intr : ∀ inp info, Ev.interrupt info ∈ (run inp).evs ↔ ∃ cp, (run inp).res = .interrupted cp info
  store : ∀ inp, Ev.storeSet ∈ (run inp).evs ↔ ∃ cp info, (run inp).res = .interrupted cp info

/-- `callF true` drops from the events of the run exactly those that report the interrupt -/
theorem mem_filter_not_intrRet (evs : List (Ev V S X)) :
    (∀ info, Ev.interrupt info ∉ evs.filter (fun e => !Ev.isIntrRet e)) ∧
    Ev.storeSet ∉ evs.filter (fun e => !Ev.isIntrRet e) :=
  ⟨fun _ h => by simpa [Ev.isIntrRet] using (List.mem_filter.mp h).2,
   fun h => by simpa [Ev.isIntrRet] using (List.mem_filter.mp h).2⟩

theorem interrupted_ran (r : Res V S X) (evs : List (Ev V S X)) :
    FOut.interrupted { res := .ran r, evs := evs } ↔ ∃ cp info, r = .interrupted cp info :=
  ⟨fun ⟨cp, info, h⟩ => ⟨cp, info, FRes.ran.inj h⟩, fun ⟨cp, info, h⟩ => ⟨cp, info, congrArg _ h⟩⟩

/-- what is stored under the id after a call, read off the call's result alone: the checkpoint of
    the interrupt it returned, otherwise what was there before -/
def cpAfter (prev : Option (Checkpoint V S X)) (o : FOut V S X) : Option (Checkpoint V S X) :=
  match o.res with
  | .ran (.interrupted cp _) => some cp
  | _ => prev

/-- `cpAfter` folded along a history of calls, from the content `prev` the store starts with: the
    content after each call as a function of the results the caller saw (`histF_content`) -/
def scanCP (prev : Option (Checkpoint V S X)) : List (FOut V S X) → List (Option (Checkpoint V S X))
  | [] => []
  | o :: rest => cpAfter prev o :: scanCP (cpAfter prev o) rest

theorem cpAfter_spec (prev : Option (Checkpoint V S X)) (o : FOut V S X) :
    (o.interrupted ↔ ∃ cp info, o.res = .ran (.interrupted cp info) ∧ cpAfter prev o = some cp) ∧
    (¬ o.interrupted → cpAfter prev o = prev) := by
  unfold cpAfter
  refine ⟨⟨fun ⟨cp, info, h⟩ => ⟨cp, info, h, by rw [h]⟩, fun ⟨cp, info, h, _⟩ => ⟨cp, info, h⟩⟩, fun hn => ?_⟩
  split
  · exact absurd ⟨_, _, ‹_›⟩ hn
  · rfl

/-- the error of the write being returned, the store's content follows the call's result (with
    `callF false` a failed write returns the interrupt although nothing was stored) -/
theorem callF_content (plan : Plan) (run : V ⊕ Checkpoint V S X → Out V S X) (x : V) (st : Store V S X) :
    (callF true plan run x st).2.content = cpAfter st.content (callF true plan run x st).1 := by
  unfold callF
  cases plan.getFails st.gets with
  | true => rfl
  | false =>
    generalize run (inpOf x st) = o
    obtain ⟨res, evs⟩ := o
    cases res with
    | interrupted cp info => unfold afterRun; cases plan.setFails st.sets <;> rfl
    | _ => rfl

theorem callF_fst (plan : Plan) (run : V ⊕ Checkpoint V S X → Out V S X) (x : V) (st : Store V S X) :
    (plan.getFails st.gets = true ∧ (callF true plan run x st).1 = { res := .readFailed, evs := [] }) ∨
    (plan.getFails st.gets = false ∧
      (plan.setFails st.sets = true → ∀ cp info, (run (inpOf x st)).res ≠ .interrupted cp info) ∧
      (callF true plan run x st).1 = { res := .ran (run (inpOf x st)).res, evs := (run (inpOf x st)).evs }) ∨
    (plan.getFails st.gets = false ∧ plan.setFails st.sets = true ∧
      (∃ cp info, (run (inpOf x st)).res = .interrupted cp info) ∧
      (callF true plan run x st).1 =
        { res := .writeFailed, evs := (run (inpOf x st)).evs.filter (fun e => !Ev.isIntrRet e) }) := by
  unfold callF
  cases hg : plan.getFails st.gets with
  | true => exact .inl ⟨rfl, rfl⟩
  | false =>
    refine .inr ?_
    rw [if_neg Bool.false_ne_true]
    generalize run (inpOf x st) = o
    obtain ⟨res, evs⟩ := o
    cases res with
    | interrupted cp info =>
      unfold afterRun
      cases hs : plan.setFails st.sets with
      | true => exact .inr ⟨rfl, rfl, ⟨cp, info, rfl⟩, rfl⟩
      | false => exact .inl ⟨rfl, fun h => absurd h Bool.false_ne_true, rfl⟩
    | _ => exact .inl ⟨rfl, by rintro _ _ _ ⟨⟩, rfl⟩

theorem callF_exact (plan : Plan) (run : V ⊕ Checkpoint V S X → Out V S X) (h : RunOK run) (x : V) (st : Store V S X) :
    let p := callF true plan run x st
    ((∃ info, Ev.interrupt info ∈ p.1.evs) ↔ p.1.interrupted) ∧
    (Ev.storeSet ∈ p.1.evs ↔ p.1.interrupted) ∧
    (p.1.interrupted ↔ ∃ cp info, p.1.res = .ran (.interrupted cp info) ∧ p.2.content = some cp) ∧
    (¬ p.1.interrupted → p.2.content = st.content) ∧
    (p.1.res = .writeFailed ↔
      (plan.getFails st.gets = false ∧ plan.setFails st.sets = true ∧
        ∃ cp info, (run (inpOf x st)).res = .interrupted cp info)) := by
  intro p
  have hc := cpAfter_spec st.content p.1
  rw [← callF_content] at hc
  rcases callF_fst plan run x st with ⟨hg, he⟩ | ⟨hg, hn, he⟩ | ⟨hg, hs, hr, he⟩ <;>
    rw [show p.1 = _ from he] at hc ⊢
  · have hni : ¬ FOut.interrupted (V := V) (S := S) (X := X) ⟨.readFailed, []⟩ := by rintro ⟨_, _, ⟨⟩⟩
    exact ⟨iff_of_false (fun ⟨_, h⟩ => nomatch h) hni, iff_of_false (fun h => nomatch h) hni, hc.1, hc.2,
      iff_of_false (fun h => nomatch h) (fun ⟨h, _⟩ => Bool.false_ne_true (h.symm.trans hg))⟩
  · have hi := interrupted_ran (run (inpOf x st)).res (run (inpOf x st)).evs
    exact ⟨((exists_congr (h.intr _)).trans exists_comm).trans hi.symm, (h.store _).trans hi.symm, hc.1, hc.2,
      iff_of_false (fun h => nomatch h) (fun ⟨_, hs, cp, info, hr⟩ => hn hs cp info hr)⟩
  · have hni : ¬ FOut.interrupted (V := V) (S := S) (X := X)
        ⟨.writeFailed, (run (inpOf x st)).evs.filter (fun e => !Ev.isIntrRet e)⟩ := by rintro ⟨_, _, ⟨⟩⟩
    have hf := mem_filter_not_intrRet (run (inpOf x st)).evs
    exact ⟨iff_of_false (fun ⟨i, hm⟩ => hf.1 i hm) hni, iff_of_false hf.2 hni, hc.1, hc.2,
      iff_of_true rfl ⟨hg, hs, hr⟩⟩

theorem histF_mem (b : Bool) (plan : Plan) (run : V ⊕ Checkpoint V S X → Out V S X) (x : V) (n : Nat) (st : Store V S X)
    (p : FOut V S X × Store V S X) (hp : p ∈ histF b plan run x n st) :
    ∃ st0, p = callF b plan run x st0 := by
  induction n generalizing st with
  | zero => cases hp
  | succ n ih =>
    simp only [histF] at hp
    split at hp
    · rw [List.mem_singleton] at hp; exact ⟨st, hp⟩
    · rcases List.mem_cons.mp hp with h | h
      · exact ⟨st, h⟩
      · exact ih _ h

theorem histF_content (plan : Plan) (run : V ⊕ Checkpoint V S X → Out V S X) (x : V) (n : Nat) (st : Store V S X) :
    (histF true plan run x n st).map (fun p => p.2.content) =
      scanCP st.content ((histF true plan run x n st).map (fun p => p.1)) := by
  induction n generalizing st with
  | zero => rfl
  | succ n ih =>
    simp only [histF]
    split
    · simp only [List.map_cons, List.map_nil, scanCP, callF_content]
    · simp only [List.map_cons, scanCP, callF_content]
      rw [ih, callF_content]

end EinoV.Interrupt.Fault
