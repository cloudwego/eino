/-
  gotrans, phase 3 — `validateDAG` (compose/graph.go), translated on every run into Gen/TransC20.lean,
  decides exactly what the model's `validateDAG` (Model/C20Builder.lean) decides.

  The translated `Id.run do` block is, by unfolding, the composition of the named loop functions below
  (`validateDAG_eq_clean`, the only place where the generated text is looked at: a change of the Go source that
  changes the translation breaks that proof).  With the Go maps stored in the order of the builder's node list
  (`Tie`) these are the model's `kahnInit`, `kahnRound`, `kahnLoop … Ord.id` (`goValidate_eq`): on counter maps
  Go's map operations are `mGet`/`mSet` when the key is present, which is what the translation's `unspecified`
  guard checks.  Any stored order (`KahnRel`) is reduced to that one by re-ordering the builder's node list
  (`reorder`): `Sched` — and so, by `validateDAG_iff`, the verdict — only depends on the set of node keys.
-/
import EinoV.Gen.TransC20
import EinoV.Proofs.GoLoop
import EinoV.Proofs.Assoc
import EinoV.Proofs.C20Kahn
namespace EinoV.TransKahn
open EinoV.GoSem EinoV.Build
open EinoV.Gen.TransC20 (chanCall GraphBranch const_START const_END)

abbrev Res := Option (GoOutcome (Option GoErr))

def decStep (sub : String) (m : GoMap Int) : ForInStep (Res × GoMap Int) :=
  if (sub == const_END) = true then .yield (none, m)
  else if (!m.has sub) = true then .done (some .unspecified, m)
  else .yield (none, m.set sub (m.getD' sub 0 - 1))

def ctlLoop (xs : List String) (m : GoMap Int) : Res × GoMap Int :=
  goLoop (fun sub s => decStep sub s.2) xs (none, m)

def endLoop (en : GoMap Bool) (m : GoMap Int) : Res × GoMap Int :=
  goLoop (fun (x : String × Bool) s => decStep x.1 s.2) en (none, m)

def brStep {V : Type} (br : GraphBranch V) (m : GoMap Int) : ForInStep (Res × GoMap Int) :=
  match endLoop br.endNodes m with
  | (some r, m') => .done (some r, m')
  | (none, m') => .yield (none, m')

def brLoop {V : Type} (brs : List (GraphBranch V)) (m : GoMap Int) : Res × GoMap Int :=
  goLoop (fun br s => brStep br s.2) brs (none, m)

def nodeStep {V : Type} (chans : GoMap (chanCall V)) (k : String) (m : GoMap Int) (ch : Bool) :
    ForInStep (Res × GoMap Int × Bool) :=
  if (m.getD' k 0 == 0) = true then
    match chans.get? k with
    | none => .done (some .panic, m, true)
    | some p =>
      match ctlLoop p.controls m with
      | (some r, m1) => .done (some r, m1, true)
      | (none, m1) =>
        match brLoop p.writeToBranches m1 with
        | (some r, m2) => .done (some r, m2, true)
        | (none, m2) => .yield (none, m2.set k (-1), true)
  else .yield (none, m, ch)

def roundLoop {V : Type} (chans : GoMap (chanCall V)) (m : GoMap Int) : Res × GoMap Int × Bool :=
  goLoop (fun (x : String × Int) s => nodeStep chans x.1 s.2.1 s.2.2) m (none, m, false)

def outerStep {V : Type} (chans : GoMap (chanCall V)) (s : Res × GoMap Int × Bool) : ForInStep (Res × GoMap Int × Bool) :=
  if (!s.2.2) = true then .done (none, s.2.1, s.2.2)
  else
    match roundLoop chans s.2.1 with
    | (some r, m', ch) => .done (some r, m', ch)
    | (none, m', ch) => .yield (none, m', ch)

def outerLoop {V : Type} (chans : GoMap (chanCall V)) (fuel : Nat) (m : GoMap Int) : Res × GoMap Int × Bool :=
  goLoop (fun (_ : Nat) s => outerStep chans s) (List.range fuel) (none, m, true)

def initBody (k : String) (pre : String) (m : GoMap Int) : ForInStep (GoMap Int) :=
  if (pre == const_START) = true then ForInStep.yield (m.set k (m.getD' k 0 - 1)) else ForInStep.yield m

def initStep (preds : GoMap (List String)) (k : String) (m : GoMap Int) : ForInStep (GoMap Int) :=
  if preds.has k = true then
    .yield (goLoop (initBody k) (preds.getD' k []) (m.set k ((preds.getD' k []).length : Int)))
  else .yield (m.set k 0)

def initLoop {V : Type} (chans : GoMap (chanCall V)) (preds : GoMap (List String)) : GoMap Int :=
  goLoop (fun (x : String × chanCall V) m => initStep preds x.1 m) chans []

def finalLoop (m : GoMap Int) : Res × Unit :=
  goLoop (fun (x : String × Int) (_ : Res × Unit) =>
    if decide (x.2 > 0) = true then
      ForInStep.done (some (GoOutcome.ret (some (GoErr.mk "DAG invalid, node[%s] has loop"))), ())
    else ForInStep.yield (none, ())) m (none, ())

def goValidate {V : Type} (chans : GoMap (chanCall V)) (preds : GoMap (List String)) (fuel : Nat) : GoOutcome (Option GoErr) :=
  match outerLoop chans fuel (initLoop chans preds) with
  | (some r, _, _) => r
  | (none, m, _) =>
    match finalLoop m with
    | (some r, _) => r
    | (none, _) => .ret none

theorem validateDAG_eq_clean {V : Type} [Inhabited V] (ext : Ext V) (fuel : Nat) (chans : GoMap (chanCall V))
    (preds : GoMap (List String)) :
    EinoV.Gen.TransC20.validateDAG ext fuel chans preds = goValidate chans preds fuel := by
  unfold EinoV.Gen.TransC20.validateDAG
  simp only [forIn_id, Id.run, bind, pure]
  -- one node of a round: the generated text looks the node up in `chans` before each of the two loops over
  -- its successors, `nodeStep` once
  generalize hd : (fun (x : String × Int) (__s : Res × GoMap Int × Bool) => _) = d
  have e : d = fun x s => nodeStep chans x.1 s.2.1 s.2.2 := by
    rw [← hd]; funext x s
    unfold nodeStep
    generalize chans.get? x.1 = g
    cases g <;> set_option smartUnfolding false in rfl
  subst e
  -- the rest is the named functions, but for matching on `.fst` of a loop result where they match on the pair:
  -- equal by eta for pairs once the matchers are unfolded, which on a stuck discriminant the unifier only does
  -- with smart unfolding off
  set_option smartUnfolding false in rfl


theorem const_START_eq : const_START = START := rfl
theorem const_END_eq : const_END = END := rfl

theorem alookup_eq_mGet (m : List (Key × Int)) (k : Key) : EinoV.Engine.alookup k m = mGet m k := by
  induction m with
  | nil => rfl
  | cons p m ih =>
    obtain ⟨x, w⟩ := p
    by_cases h : x = k <;> simp [EinoV.Engine.alookup, mGet, h, ih]

theorem aset_eq_mSet (m : List (Key × Int)) (k : Key) (w : Int) (h : k ∈ m.map (·.1)) :
    EinoV.Engine.aset k w m = mSet m k w := by
  induction m with
  | nil => cases h
  | cons p m ih =>
    obtain ⟨x, u⟩ := p
    by_cases hx : x = k
    · simp [EinoV.Engine.aset, mSet, hx]
    · simp [EinoV.Engine.aset, mSet, hx, ih ((List.mem_cons.mp h).resolve_left (Ne.symm hx))]

theorem getD_eq (m : GoMap Int) (k : Key) : m.getD' k 0 = (mGet m k).getD 0 := by
  unfold GoMap.getD'; rw [alookup_eq_mGet]

theorem mGet_none_of_not_mem {m : List (Key × Int)} {k : Key} (h : k ∉ m.map (·.1)) : mGet m k = none := by
  rcases hg : mGet m k with _ | v
  · rfl
  · exact absurd (mGet_some_mem hg) h

/-- `m[sub]--` as the model does it: skip END; a key that is not in `m` would be added while `m` is being
    ranged over -/
theorem decStep_eq (sub : Key) (m : GoMap Int) :
    decStep sub m =
      if sub = END then .yield (none, m)
      else match mGet m sub with
        | none => .done (some .unspecified, m)
        | some v => .yield (none, mSet m sub (v - 1)) := by
  unfold decStep GoMap.has
  rw [const_END_eq, alookup_eq_mGet, getD_eq]
  by_cases h : sub = END
  · simp [h]
  · rcases hg : mGet m sub with _ | v
    · simp [h]
    · simp only [beq_iff_eq, h, if_false, Option.isSome_some, Bool.not_true, Bool.false_eq_true, Option.getD_some]
      rw [GoMap.set, aset_eq_mSet m sub _ (mGet_some_mem hg)]

theorem mSet_comm (m : List (Key × Int)) (x y : Key) (a c : Int) (h : x ≠ y) :
    mSet (mSet m x a) y c = mSet (mSet m y c) x a := by
  induction m with
  | nil => rfl
  | cons p m ih =>
    obtain ⟨k, v⟩ := p
    by_cases h1 : k = x
    · subst h1
      simp [mSet, h]
    · by_cases h2 : k = y
      · subst h2
        simp [mSet, h1]
      · simp [mSet, h1, h2, ih]

/-- one `m[x]--` of the model -/
def dec1 (m : List (Key × Int)) (x : Key) : List (Key × Int) :=
  if x = END then m else match mGet m x with
    | some v => mSet m x (v - 1)
    | none => m

theorem mDecAll_eq_foldl (m : List (Key × Int)) (xs : List Key) : mDecAll m xs = xs.foldl dec1 m := by
  induction xs generalizing m with
  | nil => rfl
  | cons x xs ih =>
    rw [List.foldl_cons, ← ih]
    by_cases hx : x = END
    · simp [mDecAll, dec1, hx]
    · rcases hg : mGet m x with _ | v <;> simp [mDecAll, dec1, hx, hg]

theorem mDecAll_append (m : List (Key × Int)) (xs ys : List Key) :
    mDecAll m (xs ++ ys) = mDecAll (mDecAll m xs) ys := by
  simp only [mDecAll_eq_foldl, List.foldl_append]

theorem dec1_comm (m : List (Key × Int)) (x y : Key) : dec1 (dec1 m x) y = dec1 (dec1 m y) x := by
  by_cases hxy : x = y
  · subst hxy; rfl
  · unfold dec1
    by_cases hx : x = END
    · simp only [hx, if_true]
    · by_cases hy : y = END
      · simp only [hy, if_true]
      · simp only [hx, hy, if_false]
        have h1 : ∀ v, mGet (mSet m x v) y = mGet m y := fun v => mGet_mSet_ne _ _ _ _ (fun e => hxy e.symm)
        have h2 : ∀ v, mGet (mSet m y v) x = mGet m x := fun v => mGet_mSet_ne _ _ _ _ hxy
        rcases hgx : mGet m x with _ | vx <;> rcases hgy : mGet m y with _ | vy <;> simp only [h1, h2, hgx, hgy]
        exact mSet_comm m x y _ _ hxy

/-- the order in which Go walks the successors does not matter -/
theorem mDecAll_perm {xs ys : List Key} (h : xs.Perm ys) (m : List (Key × Int)) : mDecAll m xs = mDecAll m ys := by
  rw [mDecAll_eq_foldl, mDecAll_eq_foldl]
  exact h.foldl_eq' (fun x _ y _ m => dec1_comm m x y) m


theorem ctlLoop_spec (xs : List Key) (m : GoMap Int) (h : ∀ x ∈ xs, x = END ∨ x ∈ m.map (·.1)) :
    ctlLoop xs m = (none, mDecAll m xs) := by
  unfold ctlLoop
  induction xs generalizing m with
  | nil => rfl
  | cons x xs ih =>
    obtain ⟨hx, hr⟩ := List.forall_mem_cons.mp h
    simp only [goLoop, decStep_eq x m, mDecAll]
    by_cases he : x = END
    · simp only [he, if_true]; exact ih m hr
    · obtain ⟨v, hv⟩ := mGet_of_key_mem (hx.resolve_left he)
      simp only [he, if_false, hv]
      exact ih _ (by rw [mSet_keys]; exact hr)

theorem endLoop_eq (en : GoMap Bool) (m : GoMap Int) : endLoop en m = ctlLoop (en.map (·.1)) m := by
  unfold endLoop ctlLoop
  exact goLoop_map (·.1) (fun sub (s : Res × GoMap Int) => decStep sub s.2) en (none, m)

/-- the keys of the end-node maps of a node's branches, in the order Go's translation walks them -/
def flatEnds {V : Type} (brs : List (GraphBranch V)) : List Key := brs.flatMap (fun br => br.endNodes.map (·.1))

theorem brLoop_spec {V : Type} (brs : List (GraphBranch V)) (m : GoMap Int)
    (h : ∀ x ∈ flatEnds brs, x = END ∨ x ∈ m.map (·.1)) : brLoop brs m = (none, mDecAll m (flatEnds brs)) := by
  unfold brLoop
  induction brs generalizing m with
  | nil => rfl
  | cons br brs ih =>
    have hfe : flatEnds (br :: brs) = br.endNodes.map (·.1) ++ flatEnds brs := List.flatMap_cons
    rw [hfe, List.forall_mem_append] at h
    have e1 : endLoop br.endNodes m = (none, mDecAll m (br.endNodes.map (·.1))) := by
      rw [endLoop_eq, ctlLoop_spec _ _ h.1]
    simp only [goLoop, brStep, e1]
    rw [hfe, mDecAll_append]
    exact ih _ (by rw [mDecAll_keys]; exact h.2)

theorem nodeStep_spec {V : Type} (chans : GoMap (chanCall V)) (b : Builder) (k : Key) (m : GoMap Int) (ch : Bool)
    (cc : chanCall V) (hk : k ∈ m.map (·.1)) (hget : chans.get? k = some cc)
    (hperm : (cc.controls ++ flatEnds cc.writeToBranches).Perm (b.ctrlSucc k))
    (hcl : ∀ s ∈ b.ctrlSucc k, s = END ∨ s ∈ m.map (·.1)) :
    nodeStep chans k m ch =
      if mGet m k = some 0 then .yield (none, mSet (mDecAll m (b.ctrlSucc k)) k (-1), true)
      else .yield (none, m, ch) := by
  obtain ⟨v, hv⟩ := mGet_of_key_mem hk
  unfold nodeStep
  rw [getD_eq, hv]
  by_cases hv0 : v = 0
  · subst hv0
    obtain ⟨hc1, hc2⟩ := List.forall_mem_append.mp (fun x hx => hcl x (hperm.mem_iff.mp hx))
    rw [← mDecAll_keys m cc.controls] at hc2
    have hk' : k ∈ (mDecAll m (b.ctrlSucc k)).map (·.1) := by rw [mDecAll_keys]; exact hk
    simp only [Option.getD_some, beq_self_eq_true, if_true, hget, ctlLoop_spec _ _ hc1, brLoop_spec _ _ hc2]
    rw [← mDecAll_append, mDecAll_perm hperm, GoMap.set, aset_eq_mSet _ k _ hk']
  · have : ¬ ((some v : Option Int) = some 0) := by simpa using hv0
    simp [hv0, this]


/-- what ties a builder to the Go arguments, in the order of the Go map -/
structure Tie {V : Type} (b : Builder) (chans : GoMap (chanCall V)) : Prop where
  keys : chans.map (·.1) = b.nodes.map (·.key)
  succ : ∀ k cc, chans.get? k = some cc → (cc.controls ++ flatEnds cc.writeToBranches).Perm (b.ctrlSucc k)
  closed : ∀ k ∈ b.nodes.map (·.key), ∀ s ∈ b.ctrlSucc k, s = END ∨ s ∈ b.nodes.map (·.key)

theorem kahnRound_keys (b : Builder) (ks : List Key) (m : List (Key × Int)) (ch : Bool) :
    (kahnRound b ks m ch).1.map (·.1) = m.map (·.1) := by
  induction ks generalizing m ch with
  | nil => rfl
  | cons k ks ih =>
    simp only [kahnRound]
    split
    · rw [ih, mSet_keys, mDecAll_keys]
    · exact ih m ch

/-- one round over (a part of) the snapshot of `m` -/
theorem roundLoop_spec {V : Type} (chans : GoMap (chanCall V)) (b : Builder) (ht : Tie b chans)
    (l : List (Key × Int)) (m : GoMap Int) (ch : Bool)
    (hl : ∀ x ∈ l, x.1 ∈ b.nodes.map (·.key)) (hm : m.map (·.1) = b.nodes.map (·.key)) :
    goLoop (fun (x : String × Int) (s : Res × GoMap Int × Bool) => nodeStep chans x.1 s.2.1 s.2.2) l (none, m, ch)
      = (none, kahnRound b (l.map (·.1)) m ch) := by
  induction l generalizing m ch with
  | nil => rfl
  | cons x l ih =>
    obtain ⟨hx, hr⟩ := List.forall_mem_cons.mp hl
    obtain ⟨cc, hcc⟩ := get?_of_key_mem (l := chans) (k := x.1) (by rw [ht.keys]; exact hx)
    have hs := nodeStep_spec chans b x.1 m ch cc (by rw [hm]; exact hx) hcc (ht.succ _ _ hcc)
      (by rw [hm]; exact ht.closed _ hx)
    simp only [goLoop, hs, List.map_cons, kahnRound]
    by_cases h0 : mGet m x.1 = some 0
    · simp only [h0, if_true]
      exact ih _ true hr (by rw [mSet_keys, mDecAll_keys]; exact hm)
    · simp only [h0, if_false]
      exact ih m ch hr hm

theorem outerLoop_spec {V : Type} (chans : GoMap (chanCall V)) (b : Builder) (ht : Tie b chans)
    (l : List Nat) (m : GoMap Int) (hm : m.map (·.1) = b.nodes.map (·.key)) :
    ∃ c, goLoop (fun (_ : Nat) s => outerStep chans s) l (none, m, true) = (none, kahnLoop b Ord.id l.length m, c) := by
  induction l generalizing m with
  | nil => exact ⟨true, rfl⟩
  | cons a l ih =>
    have hr : roundLoop chans m = (none, kahnRound b (m.map (·.1)) m false) :=
      roundLoop_spec chans b ht m m false (fun x hx => by rw [← hm]; exact List.mem_map_of_mem hx) hm
    rcases hk : kahnRound b (m.map (·.1)) m false with ⟨m', ch⟩
    rw [hk] at hr
    have hstep : outerStep chans (none, m, true) = .yield (none, m', ch) := by
      simp only [outerStep, Bool.not_true, Bool.false_eq_true, if_false, hr]
    have hm' : m'.map (·.1) = b.nodes.map (·.key) := by
      rw [← hm, ← kahnRound_keys b (m.map (·.1)) m false, hk]
    have hid : Ord.id.kahn m (m.map (·.1)) = m.map (·.1) := rfl
    simp only [goLoop, hstep, List.length_cons, kahnLoop, hid, hk]
    cases ch with
    | true => simpa using ih m' hm'
    | false => exact ⟨false, by cases l <;> simp [goLoop, outerStep]⟩


/-- the counter `validateDAG` starts a node with: its control predecessors other than START -/
def predVal (b : Builder) (k : Key) : Int :=
  ((b.ctrlPred k).length : Int) - ((countP (· = START) (b.ctrlPred k) : Nat) : Int)

theorem kahnInit_keys_map (b : Builder) : kahnInit b = (b.nodes.map (·.key)).map (fun k => (k, predVal b k)) := by
  simp [kahnInit, predVal, List.map_map, Function.comp_def]

/-- `controlPredecessors[k]`: an absent entry means no control predecessor; an entry lists the predecessors
    (START included), in any order -/
def PredsOK (b : Builder) (preds : GoMap (List String)) (k : Key) : Prop :=
  match preds.get? k with
  | none => b.ctrlPred k = []
  | some ps => ps.Perm (b.ctrlPred k)

/-- `m[k]--` for a START predecessor, on a map in which `m[k]` has been written (wherever its entry stands) -/
theorem initBody_spec (m : GoMap Int) (k pre : Key) (v : Int) :
    initBody k pre (m.set k v) = .yield (m.set k (if pre = START then v - 1 else v)) := by
  unfold initBody
  rw [const_START_eq, getD'_set_same, set_set]
  by_cases hp : pre = START <;> simp [hp]

theorem initInner_spec (m : GoMap Int) (k : Key) (ps : List Key) (v : Int) :
    goLoop (initBody k) ps (m.set k v) = m.set k (v - ((countP (· = START) ps : Nat) : Int)) := by
  induction ps generalizing v with
  | nil => simp [goLoop, countP]
  | cons pre ps ih =>
    simp only [goLoop, initBody_spec, ih, countP]
    congr 1
    by_cases hp : pre = START <;> simp [hp]
    omega

theorem initStep_spec (b : Builder) (preds : GoMap (List String)) (k : Key) (m : GoMap Int)
    (hp : PredsOK b preds k) : initStep preds k m = .yield (m.set k (predVal b k)) := by
  unfold initStep GoMap.has GoMap.getD'
  unfold PredsOK GoMap.get? at hp
  rcases hl : EinoV.Engine.alookup k preds with _ | ps
  · rw [hl] at hp
    simp [predVal, hp, countP]
  · rw [hl] at hp
    simp only [Option.isSome_some, if_true, Option.getD_some]
    rw [initInner_spec, predVal, hp.length_eq, countP_eq, countP_eq, hp.countP_eq]

/-- the keys of `chans` are set one after the other, each once: the entries stand in the order of `chans` -/
theorem initLoop_spec {V : Type} (b : Builder) (preds : GoMap (List String)) (chans : GoMap (chanCall V))
    (hnd : (chans.map (·.1)).Nodup) (hp : ∀ x ∈ chans, PredsOK b preds x.1) :
    initLoop chans preds = chans.map (fun x => (x.1, predVal b x.1)) := by
  unfold initLoop
  rw [← foldl_set_nil (·.1) (fun x => predVal b x.1) chans hnd]
  exact (goLoop_fold_inv (fun _ => True) (fun x => PredsOK b preds x.1) id _ _
    (fun x m hx _ => ⟨_, initStep_spec b preds x.1 m hx, trivial, rfl⟩) chans hp [] trivial).2

theorem all_le_eq_not_any_gt (m : List (Key × Int)) :
    m.all (fun p => decide (p.2 ≤ 0)) = !m.any (fun p => decide (p.2 > 0)) := by
  rw [List.all_eq_not_any_not]
  congr 2; funext p; simp only [← Int.not_lt, decide_not, Bool.not_not, gt_iff_lt]

theorem finalLoop_spec (m : GoMap Int) :
    finalLoop m = if m.all (fun p => decide (p.2 ≤ 0)) = true then (none, ())
      else (some (GoOutcome.ret (some (GoErr.mk "DAG invalid, node[%s] has loop"))), ()) := by
  unfold finalLoop
  rw [goLoop_search' (fun (p : String × Int) => decide (p.2 > 0)), all_le_eq_not_any_gt]
  cases m.any (fun p => decide (p.2 > 0)) <;> rfl

/-- once the fixpoint is reached more fuel changes nothing: `nodes + 1` rounds always suffice -/
theorem kahnLoop_fuel_stable (b : Builder) (hk : KeysOK b) (ord : Ord) :
    ∀ (f1 f2 : Nat) (m : List (Key × Int)), KI b m → liveN b m < f1 → f1 ≤ f2 →
      kahnLoop b ord f2 m = kahnLoop b ord f1 m := by
  intro f1
  induction f1 with
  | zero => intro _ _ _ h; omega
  | succ n ih =>
    intro f2 m hi hlt hle
    obtain ⟨n2, rfl⟩ : ∃ n2, f2 = n2 + 1 := ⟨f2 - 1, by omega⟩
    simp only [kahnLoop]
    rcases hr : kahnRound b (ord.kahn m (m.map (·.1))) m false with ⟨m1, ch⟩
    obtain ⟨a1, _, _, a4, _⟩ := kahnRound_spec b hk _ m false m1 ch hi hr
    rw [hr]
    cases ch with
    | false => rfl
    | true => exact ih n2 m1 a1 (by have := a4 rfl rfl; omega) (by omega)

theorem goValidate_eq {V : Type} (chans : GoMap (chanCall V)) (preds : GoMap (List String)) (b : Builder)
    (hk : KeysOK b) (ht : Tie b chans) (hp : ∀ k ∈ b.nodes.map (·.key), PredsOK b preds k)
    (fuel : Nat) (hf : b.nodes.length + 1 ≤ fuel) :
    goValidate chans preds fuel =
      .ret (if validateDAG b Ord.id = true then none else some (GoErr.mk "DAG invalid, node[%s] has loop")) := by
  have hinit : initLoop chans preds = kahnInit b := by
    rw [initLoop_spec b preds chans (by rw [ht.keys]; exact hk.nodup)
      (fun x hx => hp x.1 (by rw [← ht.keys]; exact List.mem_map_of_mem hx))]
    simp [kahnInit_keys_map, ← ht.keys]
  obtain ⟨c, hc⟩ := outerLoop_spec chans b ht (List.range fuel) (kahnInit b) (KI_init b).keys
  have hst := kahnLoop_fuel_stable b hk Ord.id (b.nodes.length + 1) fuel (kahnInit b) (KI_init b)
    (by have := liveN_le b (kahnInit b); omega) hf
  unfold goValidate outerLoop validateDAG
  rw [hinit, hc, List.length_range, hst]
  simp only [finalLoop_spec]
  cases (kahnLoop b Ord.id (b.nodes.length + 1) (kahnInit b)).all (fun p => decide (p.2 ≤ 0)) <;> rfl


/-- **The relation between a builder and the arguments `compile` hands to `validateDAG`.**
    Go maps have no order: nothing is assumed about the order in which `chans`, the `endNodes` maps or the
    predecessor lists are stored.
    * `keys`: `chanSubscribeTo` has one entry per node;
    * `controls`: the `controls` of a node's entry are the targets of its control edges;
    * `branches`: the end nodes of a node's `writeToBranches`, flattened, are the ends of its branches;
    * `preds`: `controlPredecessors[k]` lists the control predecessors of node `k` (START included, with
      multiplicity); an absent entry means there are none (an empty entry is allowed as well; entries under other
      keys, such as END, are not constrained);
    * `closed`: a control successor of a node is END or a node — otherwise `m[subNode]--` would add a key to `m`
      while `m` is being ranged over. -/
structure KahnRel {V : Type} (b : Builder) (chans : GoMap (chanCall V)) (preds : GoMap (List String)) : Prop where
  keys : (chans.map (·.1)).Perm (b.nodes.map (·.key))
  controls : ∀ k cc, chans.get? k = some cc → cc.controls.Perm ((b.controlEdges.filter (·.1 = k)).map (·.2))
  branches : ∀ k cc, chans.get? k = some cc →
    (flatEnds cc.writeToBranches).Perm ((b.branches.filter (·.src = k)).flatMap (·.ends))
  preds : ∀ k ∈ b.nodes.map (·.key), PredsOK b preds k
  closed : ∀ k ∈ b.nodes.map (·.key), ∀ s ∈ b.ctrlSucc k, s = END ∨ s ∈ b.nodes.map (·.key)

/-- the same relation stated over the entries of `chans` (a Go map stores each key once) -/
theorem KahnRel.of_mem {V : Type} {b : Builder} {chans : GoMap (chanCall V)} {preds : GoMap (List String)}
    (keys : (chans.map (·.1)).Perm (b.nodes.map (·.key)))
    (controls : ∀ p ∈ chans, p.2.controls.Perm ((b.controlEdges.filter (·.1 = p.1)).map (·.2)))
    (branches : ∀ p ∈ chans, (flatEnds p.2.writeToBranches).Perm ((b.branches.filter (·.src = p.1)).flatMap (·.ends)))
    (hpreds : ∀ k ∈ b.nodes.map (·.key), PredsOK b preds k)
    (closed : ∀ k ∈ b.nodes.map (·.key), ∀ s ∈ b.ctrlSucc k, s = END ∨ s ∈ b.nodes.map (·.key)) :
    KahnRel b chans preds :=
  ⟨keys, fun _ _ h => controls _ (EinoV.Engine.mem_of_alookup _ _ _ h),
    fun _ _ h => branches _ (EinoV.Engine.mem_of_alookup _ _ _ h), hpreds, closed⟩

/-- the builder with its node list in the order in which the Go map `chans` happens to be stored (only the keys
    of the nodes matter to `validateDAG`) -/
def reorder {V : Type} (b : Builder) (chans : GoMap (chanCall V)) : Builder :=
  { b with nodes := chans.map (fun x => { key := x.1, passthrough := false, inTy := none, outTy := none }) }

theorem const_START_engine : const_START = EinoV.Engine.START := rfl
theorem const_END_engine : const_END = EinoV.Engine.END := rfl

variable {V : Type} [Inhabited V]

theorem validateDAG_go_eq (ext : Ext V) (b : Builder) (chans : GoMap (chanCall V)) (preds : GoMap (List String))
    (fuel : Nat) (ord : Ord) (hv : ord.Valid) (hk : KeysOK b) (hr : KahnRel b chans preds)
    (hf : b.nodes.length + 1 ≤ fuel) :
    EinoV.Gen.TransC20.validateDAG ext fuel chans preds =
      GoOutcome.ret (if validateDAG b ord = true then none else some (GoErr.mk "DAG invalid, node[%s] has loop")) := by
  have hkeys : (reorder b chans).nodes.map (·.key) = chans.map (·.1) := by
    simp [reorder, List.map_map, Function.comp_def]
  have hmem : ∀ k, k ∈ (reorder b chans).nodes.map (·.key) ↔ k ∈ b.nodes.map (·.key) := by
    intro k; rw [hkeys]; exact hr.keys.mem_iff
  have hk' : KeysOK (reorder b chans) := by
    refine ⟨by rw [hkeys]; exact hr.keys.nodup_iff.mpr hk.nodup, fun n hn => ?_⟩
    obtain ⟨n0, hn0, e⟩ := List.mem_map.mp ((hmem n.key).mp (List.mem_map_of_mem hn))
    rw [← e]; exact hk.nores n0 hn0
  have ht : Tie (reorder b chans) chans :=
    ⟨hkeys.symm, fun k cc h => (hr.controls k cc h).append (hr.branches k cc h),
      fun k hkm s hs => (hr.closed k ((hmem k).mp hkm) s hs).imp id (fun h => (hmem s).mpr h)⟩
  have hp' : ∀ k ∈ (reorder b chans).nodes.map (·.key), PredsOK (reorder b chans) preds k :=
    fun k hkm => hr.preds k ((hmem k).mp hkm)
  have hlen : (reorder b chans).nodes.length = b.nodes.length := by
    simpa [reorder] using hr.keys.length_eq
  rw [validateDAG_eq_clean, goValidate_eq chans preds (reorder b chans) hk' ht hp' fuel (by omega)]
  have hS : (∀ k ∈ (reorder b chans).nodes.map (·.key), Sched (reorder b chans) k) ↔
      (∀ k ∈ b.nodes.map (·.key), Sched b k) :=
    ⟨fun h k hkm => (h k ((hmem k).mpr hkm)).transfer (fun k => (hmem k).mp) (fun _ => rfl),
     fun h k hkm => (h k ((hmem k).mp hkm)).transfer (fun k => (hmem k).mpr) (fun _ => rfl)⟩
  rw [Bool.eq_iff_iff.mpr ((validateDAG_iff _ hk' Ord.id (fun _ _ => .refl _)).trans
    (hS.trans (validateDAG_iff b hk ord hv.kahn).symm))]

/-- **The translated `validateDAG` decides what the model decides.**  For every builder with distinct,
    unreserved node keys, every representation of its control graph as Go maps (`KahnRel`: any stored order of
    `chanSubscribeTo`, of every `endNodes` map and of every predecessor list), every fuel ≥ nodes + 1 and every
    iteration order `ord` of the model: the translated text returns (no panic, nothing unspecified), and it
    returns nil exactly when the model's verdict is "valid". -/
theorem validateDAG_go_refines (ext : Ext V) (b : Builder) (chans : GoMap (chanCall V)) (preds : GoMap (List String))
    (fuel : Nat) (ord : Ord) (hv : ord.Valid) (hk : KeysOK b) (hr : KahnRel b chans preds)
    (hf : b.nodes.length + 1 ≤ fuel) :
    ∃ e, EinoV.Gen.TransC20.validateDAG ext fuel chans preds = GoOutcome.ret e ∧
      (e = none ↔ validateDAG b ord = true) := by
  refine ⟨_, validateDAG_go_eq ext b chans preds fuel ord hv hk hr hf, ?_⟩
  cases validateDAG b ord <;> simp

theorem Ord.id_valid : Ord.id.Valid := ⟨fun _ _ => List.Perm.refl _, fun _ _ => List.Perm.refl _, fun _ _ => List.Perm.refl _⟩

/-- **Totality.**  Under the same hypotheses the translated text neither dereferences a nil `*chanCall`
    (`GoOutcome.panic`) nor adds a key to `m` while ranging over it (`GoOutcome.unspecified`), and the Go loop
    `for hasChanged { … }` — which has no fuel — stops within nodes + 1 rounds: every fuel ≥ nodes + 1 gives the
    same result. -/
theorem validateDAG_go_total (ext : Ext V) (b : Builder) (chans : GoMap (chanCall V)) (preds : GoMap (List String))
    (fuel : Nat) (hk : KeysOK b) (hr : KahnRel b chans preds) (hf : b.nodes.length + 1 ≤ fuel) :
    EinoV.Gen.TransC20.validateDAG ext fuel chans preds ≠ GoOutcome.panic ∧
    EinoV.Gen.TransC20.validateDAG ext fuel chans preds ≠ GoOutcome.unspecified ∧
    ∀ fuel', b.nodes.length + 1 ≤ fuel' →
      EinoV.Gen.TransC20.validateDAG ext fuel' chans preds = EinoV.Gen.TransC20.validateDAG ext fuel chans preds := by
  rw [validateDAG_go_eq ext b chans preds fuel Ord.id Ord.id_valid hk hr hf]
  exact ⟨fun e => (by cases e), fun e => (by cases e),
    fun fuel' hf' => validateDAG_go_eq ext b chans preds fuel' Ord.id Ord.id_valid hk hr hf'⟩

/-- **Soundness and completeness of Go's text.**  It returns nil exactly when every node can be scheduled
    (`Sched`: all its control predecessors other than START can, inductively), i.e. when no cycle of control
    edges / branch targets reaches any node. -/
theorem validateDAG_go_sound_complete (ext : Ext V) (b : Builder) (chans : GoMap (chanCall V))
    (preds : GoMap (List String)) (fuel : Nat) (hk : KeysOK b) (hr : KahnRel b chans preds)
    (hf : b.nodes.length + 1 ≤ fuel) :
    ∃ e, EinoV.Gen.TransC20.validateDAG ext fuel chans preds = GoOutcome.ret e ∧
      (e = none ↔ ∀ k ∈ b.nodes.map (·.key), Sched b k) := by
  obtain ⟨e, h1, h2⟩ := validateDAG_go_refines ext b chans preds fuel Ord.id Ord.id_valid hk hr hf
  exact ⟨e, h1, h2.trans (validateDAG_iff b hk Ord.id Ord.id_valid.kahn)⟩

theorem validateDAG_go_rejects_cycles (ext : Ext V) (b : Builder) (chans : GoMap (chanCall V))
    (preds : GoMap (List String)) (fuel : Nat) (hk : KeysOK b) (hr : KahnRel b chans preds)
    (hf : b.nodes.length + 1 ≤ fuel) (k : Key) (hkn : k ∈ b.nodes.map (·.key)) (hc : PredTC b k k) :
    EinoV.Gen.TransC20.validateDAG ext fuel chans preds =
      GoOutcome.ret (some (GoErr.mk "DAG invalid, node[%s] has loop")) := by
  rw [validateDAG_go_eq ext b chans preds fuel Ord.id Ord.id_valid hk hr hf]
  have : validateDAG b Ord.id ≠ true :=
    fun h => ((validateDAG_iff b hk Ord.id Ord.id_valid.kahn).mp h k hkn).no_cycle hc
  simp [this]


/-! ## the hypotheses are needed, and they are satisfiable -/

/-- `closed` is not vacuous: a `controls` entry that names a key outside `chans` makes the translated text add a
    key to `m` while ranging over it — the explicit outcome `GoOutcome.unspecified`.  (`GoOutcome.panic` — a key of
    `m` without an entry in `chans` — cannot be reached from any arguments: the keys of `m` are those of `chans`.) -/
example (ext : Ext Unit) :
    EinoV.Gen.TransC20.validateDAG ext 2 [("a", { writeToBranches := [], controls := ["zz"] })] [] =
      GoOutcome.unspecified := by
  rfl

/-- the same through a branch -/
example (ext : Ext Unit) :
    EinoV.Gen.TransC20.validateDAG ext 2
      [("a", { writeToBranches := [{ endNodes := [("end", true), ("zz", true)] }], controls := [] })] [] =
      GoOutcome.unspecified := by
  rfl

instance (b : Builder) (preds : GoMap (List String)) (k : Key) : Decidable (PredsOK b preds k) := by
  unfold PredsOK; split <;> infer_instance

/-- START → a → b → c → END, a branch at `a` to {c, END} -/
def exAcyclic : Builder :=
  { Builder.new .graph .any .any none with
    nodes := [⟨"a", false, some .any, some .any⟩, ⟨"b", false, some .any, some .any⟩, ⟨"c", false, some .any, some .any⟩]
    controlEdges := [(START, "a"), ("a", "b"), ("b", "c"), ("c", END)]
    branches := [{ src := "a", inTy := .any, ends := ["c", END], noData := false }] }

/-- its Go maps, stored in another order than the node list (and the lists of `c` and END permuted) -/
def exAcyclicChans : GoMap (chanCall Unit) :=
  [("c", { writeToBranches := [], controls := [END] }),
   ("a", { writeToBranches := [{ endNodes := [(END, true), ("c", true)] }], controls := ["b"] }),
   ("b", { writeToBranches := [], controls := ["c"] })]

def exAcyclicPreds : GoMap (List String) :=
  [(END, ["c", "a"]), ("c", ["a", "b"]), ("b", ["a"]), ("a", [START])]

/-- START → c → a ⇄ b → END: `a` and `b` lie on a 2-cycle -/
def exCyclic : Builder :=
  { Builder.new .graph .any .any none with
    nodes := [⟨"a", false, some .any, some .any⟩, ⟨"b", false, some .any, some .any⟩, ⟨"c", false, some .any, some .any⟩]
    controlEdges := [(START, "c"), ("c", "a"), ("a", "b"), ("b", "a"), ("b", END)] }

def exCyclicChans : GoMap (chanCall Unit) :=
  [("b", { writeToBranches := [], controls := [END, "a"] }),
   ("c", { writeToBranches := [], controls := ["a"] }),
   ("a", { writeToBranches := [], controls := ["b"] })]

def exCyclicPreds : GoMap (List String) :=
  [("a", ["b", "c"]), ("b", ["a"]), ("c", [START]), (END, ["b"])]

theorem exAcyclic_ok : KeysOK exAcyclic := ⟨by decide, by decide⟩
theorem exCyclic_ok : KeysOK exCyclic := ⟨by decide, by decide⟩

theorem exAcyclic_rel : KahnRel exAcyclic exAcyclicChans exAcyclicPreds :=
  KahnRel.of_mem (by decide) (by decide) (by decide) (by decide) (by decide)

theorem exCyclic_rel : KahnRel exCyclic exCyclicChans exCyclicPreds :=
  KahnRel.of_mem (by decide) (by decide) (by decide) (by decide) (by decide)

/-- the main theorem on the two graphs: both verdicts occur, for every fuel ≥ 4 and every externals record -/
example (ext : Ext Unit) (fuel : Nat) (hf : 4 ≤ fuel) :
    EinoV.Gen.TransC20.validateDAG ext fuel exAcyclicChans exAcyclicPreds = GoOutcome.ret none ∧
    EinoV.Gen.TransC20.validateDAG ext fuel exCyclicChans exCyclicPreds =
      GoOutcome.ret (some (GoErr.mk "DAG invalid, node[%s] has loop")) := by
  constructor
  · rw [validateDAG_go_eq ext exAcyclic _ _ fuel Ord.id Ord.id_valid exAcyclic_ok exAcyclic_rel hf]
    have : validateDAG exAcyclic Ord.id = true := by decide
    simp [this]
  · exact validateDAG_go_rejects_cycles ext exCyclic _ _ fuel exCyclic_ok exCyclic_rel hf "a" (by decide)
      (PredTC.step (q := "a") (p := "b") (k := "a") (PredTC.base (by decide) (by decide)) (by decide) (by decide))

/-- and the translated text, run directly on these arguments, agrees -/
example (ext : Ext Unit) :
    EinoV.Gen.TransC20.validateDAG ext 4 exAcyclicChans exAcyclicPreds = GoOutcome.ret none ∧
    EinoV.Gen.TransC20.validateDAG ext 4 exCyclicChans exCyclicPreds =
      GoOutcome.ret (some (GoErr.mk "DAG invalid, node[%s] has loop")) := ⟨rfl, rfl⟩

end EinoV.TransKahn
