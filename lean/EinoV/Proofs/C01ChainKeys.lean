/-
  The node keys chain.go generates (`node_i`, `node_i_parallel_j`, `node_i_branch_key`) are
  pairwise distinct and differ from START / END — so the "no duplicate node key" conjunct of
  `Chain.WF` follows from the structural conditions (`stagesOK`).
-/
import EinoV.Model.C01Chain

namespace EinoV.Chain
open EinoV.Engine

theorem nodupB_iff (l : List String) : nodupB l = true ↔ l.Nodup := by
  induction l with
  | nil => simp [nodupB]
  | cons a t ih => simp [nodupB, ih]

theorem distinctKeys_spec (subs : List (String × Fn)) (h : distinctKeys subs = true) :
    subs ≠ [] ∧ (subs.map (·.1)).Nodup := by
  simp only [distinctKeys, Bool.and_eq_true, decide_eq_true_eq] at h
  refine ⟨?_, (nodupB_iff _).mp h.2⟩
  intro e; subst e; simp at h

theorem stagesOK_tail (pm : Bool) (st : Stage) (rest : Chain) (h : stagesOK pm (st :: rest) = true) :
    stagesOK st.multi rest = true := by
  simp only [stagesOK, Bool.and_eq_true] at h; exact h.2

/-- what `AppendParallel` checks -/
theorem stagesOK_parallel {pm : Bool} {subs : List (String × Fn)} {rest : Chain}
    (h : stagesOK pm (.parallel subs :: rest) = true) :
    pm = false ∧ subs ≠ [] ∧ (subs.map (·.1)).Nodup := by
  simp only [stagesOK, Bool.and_eq_true, Bool.not_eq_true'] at h
  exact ⟨h.1.1, distinctKeys_spec subs h.1.2⟩

/-- `AppendBranch` checks the same -/
theorem stagesOK_branch {pm : Bool} {cond : CVal → Except Err String} {subs : List (String × Fn)} {rest : Chain}
    (h : stagesOK pm (.branch cond subs :: rest) = true) :
    pm = false ∧ subs ≠ [] ∧ (subs.map (·.1)).Nodup := by
  simp only [stagesOK, Bool.and_eq_true, Bool.not_eq_true'] at h
  exact ⟨h.1.1, distinctKeys_spec subs h.1.2⟩

theorem stageKeys_branch (i : Nat) (cond : CVal → Except Err String) (subs : List (String × Fn)) :
    stageKeys i (.branch cond subs) = subs.map (fun kf => brKey i kf.1) := by
  simp only [stageKeys, stageNodes, List.map_map, Function.comp_def]

theorem parNodes_keys (i : Nat) (subs : List (String × Fn)) (j : Nat) :
    (parNodes i j subs).map (·.1) = (List.range' j subs.length).map (parKey i) := by
  induction subs generalizing j with
  | nil => rfl
  | cons kf t ih =>
    obtain ⟨k, f⟩ := kf
    rw [List.length_cons, List.range'_succ]
    exact congrArg (parKey i j :: ·) (ih (j + 1))

theorem stageKeys_parallel (i : Nat) (subs : List (String × Fn)) :
    stageKeys i (.parallel subs) = (List.range' 0 subs.length).map (parKey i) :=
  parNodes_keys i subs 0

def pfx : List Char := ['n', 'o', 'd', 'e', '_']

theorem toList_nodeKey (i : Nat) : (nodeKey i).toList = pfx ++ Nat.toDigits 10 i := by
  simp [nodeKey, String.toList_append, pfx]

theorem toList_parKey (i j : Nat) :
    (parKey i j).toList = pfx ++ (Nat.toDigits 10 i ++ '_' :: ("parallel_".toList ++ Nat.toDigits 10 j)) := by
  simp [parKey, String.toList_append, toList_nodeKey]

theorem toList_brKey (i : Nat) (k : String) :
    (brKey i k).toList = pfx ++ (Nat.toDigits 10 i ++ '_' :: ("branch_".toList ++ k.toList)) := by
  simp [brKey, String.toList_append, toList_nodeKey]

/-- the stage number written in a key: the characters after "node_" up to the next '_' -/
def keyIdx (k : Key) : List Char := (k.toList.drop 5).takeWhile (fun c => c != '_')

theorem takeWhile_stop (l tail : List Char) (h : '_' ∉ l) (ht : tail = [] ∨ ∃ r, tail = '_' :: r) :
    (l ++ tail).takeWhile (fun c => c != '_') = l := by
  have hl : ∀ a ∈ l, (a != '_') = true := fun a ha => bne_iff_ne.mpr fun e => h (e ▸ ha)
  rw [List.takeWhile_append_of_pos hl]
  rcases ht with rfl | ⟨r, rfl⟩ <;> exact List.append_nil l

/-- every generated key is spelt "node_", the digits of its stage number, then nothing or a
    suffix beginning with '_' -/
theorem keyIdx_of_spelling (k : Key) (i : Nat) (tail : List Char)
    (h : k.toList = pfx ++ (Nat.toDigits 10 i ++ tail)) (ht : tail = [] ∨ ∃ r, tail = '_' :: r) :
    keyIdx k = Nat.toDigits 10 i ∧ k.toList.head? = some 'n' := by
  rw [keyIdx, h]
  exact ⟨takeWhile_stop _ _ Nat.underscore_not_in_toDigits ht, rfl⟩

theorem toDigits_inj (a b : Nat) (h : Nat.toDigits 10 a = Nat.toDigits 10 b) : a = b := by
  have ha := @Nat.ofDigitChars_ten_toDigits a
  have hb := @Nat.ofDigitChars_ten_toDigits b
  rw [h] at ha
  exact ha.symm.trans hb

theorem repr_inj' (a b : Nat) (h : toString a = toString b) : a = b := by
  apply toDigits_inj
  have := congrArg String.toList h
  simpa using this

theorem parKey_inj (i j j' : Nat) (h : parKey i j = parKey i j') : j = j' := by
  unfold parKey at h
  exact repr_inj' j j' ((String.append_right_inj _).mp h)

theorem brKey_inj (i : Nat) (k k' : String) (h : brKey i k = brKey i k') : k = k' := by
  unfold brKey at h
  exact (String.append_right_inj _).mp h

theorem brKeys_nodup (i : Nat) (subs : List (String × Fn)) (h : (subs.map (·.1)).Nodup) :
    (subs.map (fun kf => brKey i kf.1)).Nodup := by
  have : ((subs.map (·.1)).map (brKey i)).Nodup :=
    List.Pairwise.map (brKey i) (fun a b hab e => hab (brKey_inj i a b e)) h
  rwa [List.map_map] at this

theorem stageKeys_shape (i : Nat) (st : Stage) :
    ∀ k ∈ stageKeys i st, keyIdx k = Nat.toDigits 10 i ∧ k.toList.head? = some 'n' := by
  intro k hk
  have plain : keyIdx (nodeKey i) = Nat.toDigits 10 i ∧ (nodeKey i).toList.head? = some 'n' :=
    keyIdx_of_spelling _ i [] (by rw [toList_nodeKey, List.append_nil]) (Or.inl rfl)
  cases st with
  | parallel subs =>
    rw [stageKeys_parallel] at hk
    obtain ⟨j, _, rfl⟩ := List.mem_map.mp hk
    exact keyIdx_of_spelling _ i _ (toList_parKey i j) (Or.inr ⟨_, rfl⟩)
  | branch cond subs =>
    rw [stageKeys_branch] at hk
    obtain ⟨kf, _, rfl⟩ := List.mem_map.mp hk
    exact keyIdx_of_spelling _ i _ (toList_brKey i kf.1) (Or.inr ⟨_, rfl⟩)
  | _ => rw [List.mem_singleton.mp hk]; exact plain

theorem stageKeys_nodup (pm : Bool) (i : Nat) (st : Stage) (rest : Chain)
    (h : stagesOK pm (st :: rest) = true) : (stageKeys i st).Nodup := by
  cases st with
  | parallel subs =>
    rw [stageKeys_parallel]
    exact List.Pairwise.map _ (fun a b hab e => hab (parKey_inj i a b e)) List.nodup_range'
  | branch cond subs =>
    rw [stageKeys_branch]
    exact brKeys_nodup i subs (stagesOK_branch h).2.2
  | _ => exact List.pairwise_singleton _ _

theorem lowerFrom_keys_shape : ∀ (c : Chain) (i : Nat) (pre : List Key),
    ∀ k ∈ (lowerFrom i pre c).nodes.map (·.1),
      (∃ j, i ≤ j ∧ keyIdx k = Nat.toDigits 10 j) ∧ k.toList.head? = some 'n' := by
  intro c
  induction c with
  | nil => intro i pre k hk; simp [lowerFrom] at hk
  | cons st rest ih =>
    intro i pre k hk
    simp only [lowerFrom, List.map_append, List.mem_append] at hk
    rcases hk with hk | hk
    · have := stageKeys_shape i st k hk
      exact ⟨⟨i, Nat.le_refl _, this.1⟩, this.2⟩
    · obtain ⟨⟨j, h1, h2⟩, h3⟩ := ih (i + 1) (stageKeys i st) k hk
      exact ⟨⟨j, by omega, h2⟩, h3⟩

theorem lowerFrom_keys_nodup : ∀ (c : Chain) (i : Nat) (pre : List Key) (pm : Bool),
    stagesOK pm c = true → ((lowerFrom i pre c).nodes.map (·.1)).Nodup := by
  intro c
  induction c with
  | nil => intros; simp [lowerFrom]
  | cons st rest ih =>
    intro i pre pm hok
    have hok' := stagesOK_tail pm st rest hok
    simp only [lowerFrom, List.map_append]
    rw [List.nodup_append]
    refine ⟨stageKeys_nodup pm i st rest hok, ih (i + 1) (stageKeys i st) st.multi hok', ?_⟩
    intro a ha b hb e
    subst e
    have h1 := (stageKeys_shape i st a ha).1
    obtain ⟨⟨j, hj, h2⟩, _⟩ := lowerFrom_keys_shape rest (i + 1) (stageKeys i st) a hb
    have := toDigits_inj i j (h1.symm.trans h2)
    omega

theorem lowerKeys_nodup (c : Chain) (h : stagesOK false c = true) :
    (START :: (lowerKeys c ++ [END])).Nodup := by
  have hn := lowerFrom_keys_nodup c 0 [START] false h
  have hshape := lowerFrom_keys_shape c 0 [START]
  have hS : START ∉ lowerKeys c := fun hm => by
    have := (hshape START hm).2
    simp [START] at this
  have hE : END ∉ lowerKeys c := fun hm => by
    have := (hshape END hm).2
    simp [END] at this
  refine List.nodup_cons.mpr ⟨fun hm => ?_, List.nodup_append.mpr
    ⟨hn, List.nodup_cons.mpr ⟨List.not_mem_nil, List.nodup_nil⟩, fun a ha b hb e => ?_⟩⟩
  · rcases List.mem_append.mp hm with h | h
    · exact hS h
    · exact absurd (List.mem_singleton.mp h) (by decide)
  · exact hE (List.mem_singleton.mp hb ▸ e ▸ ha)

theorem wf_of_stagesOK (c : Chain) (hne : c ≠ []) (h : stagesOK false c = true) : c.WF :=
  ⟨hne, h, lowerKeys_nodup c h⟩

end EinoV.Chain
