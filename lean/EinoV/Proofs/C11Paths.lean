/-
  C11 — helper lemmas for the node-path model (Model/C11Paths.lean): shape and distinctness
  of the paths of a nest of graph levels, the modifier calls, the Go-slice model of
  `setNodeKey`.
-/
import EinoV.Model.C11Paths

namespace EinoV.C11
variable {S : Type}

mutual
theorem LTree.levels_shape (t : LTree S) (p : List String) :
    ∀ q ∈ (LTree.levels t p).map (·.1), ∃ rest, q = p ++ LTree.key t :: rest := by
  cases t with
  | mk key saved subs =>
    intro q hq
    simp only [LTree.levels, List.map_cons, List.mem_cons] at hq
    rcases hq with rfl | hq
    · exact ⟨[], by simp [childPath, LTree.key]⟩
    · obtain ⟨k, rest, _, rfl⟩ := LTrees.levels_shape subs (childPath p key) q hq
      exact ⟨k :: rest, by simp [childPath, LTree.key]⟩
theorem LTrees.levels_shape (ts : LTrees S) (p : List String) :
    ∀ q ∈ (LTrees.levels ts p).map (·.1), ∃ k rest, k ∈ LTrees.keys ts ∧ q = p ++ k :: rest := by
  cases ts with
  | nil => intro q hq; simp [LTrees.levels] at hq
  | cons t ts =>
    intro q hq
    simp only [LTrees.levels, List.map_append, List.mem_append] at hq
    rcases hq with hq | hq
    · obtain ⟨rest, h⟩ := LTree.levels_shape t p q hq
      exact ⟨LTree.key t, rest, by simp [LTrees.keys], h⟩
    · obtain ⟨k, rest, hk, h⟩ := LTrees.levels_shape ts p q hq
      exact ⟨k, rest, by simp [LTrees.keys, hk], h⟩
end

theorem LTrees.self_not_path (ts : LTrees S) (p : List String) :
    p ∉ (LTrees.levels ts p).map (·.1) := by
  intro hmem
  obtain ⟨k, rest, _, hs⟩ := LTrees.levels_shape ts p p hmem
  simp at hs

mutual
theorem LTree.paths_nodup (t : LTree S) (p : List String) (h : LTree.WF t) :
    ((LTree.levels t p).map (·.1)).Nodup := by
  cases t with
  | mk key saved subs =>
    simp only [LTree.WF] at h
    simp only [LTree.levels, List.map_cons, List.nodup_cons]
    exact ⟨LTrees.self_not_path subs _, LTrees.paths_nodup subs (childPath p key) h.2 h.1⟩
theorem LTrees.paths_nodup (ts : LTrees S) (p : List String) (h : LTrees.WF ts)
    (hk : (LTrees.keys ts).Nodup) : ((LTrees.levels ts p).map (·.1)).Nodup := by
  cases ts with
  | nil => simp [LTrees.levels]
  | cons t ts =>
    simp only [LTrees.WF] at h
    simp only [LTrees.keys, List.nodup_cons] at hk
    simp only [LTrees.levels, List.map_append]
    rw [List.nodup_append]
    refine ⟨LTree.paths_nodup t p h.1, LTrees.paths_nodup ts p h.2 hk.2, ?_⟩
    intro a ha b hb hab
    subst hab
    obtain ⟨r1, h1⟩ := LTree.levels_shape t p a ha
    obtain ⟨k, r2, hkm, h2⟩ := LTrees.levels_shape ts p a hb
    rw [h1] at h2
    have := List.append_cancel_left h2
    simp only [List.cons.injEq] at this
    exact hk.1 (this.1 ▸ hkm)
end

theorem nestLevels_nodup (saved : Option S) (subs : LTrees S)
    (h : LTrees.WF subs) (hk : (LTrees.keys subs).Nodup) :
    ((nestLevels saved subs).map (·.1)).Nodup := by
  simp only [nestLevels, List.map_cons, List.nodup_cons]
  exact ⟨LTrees.self_not_path subs [], LTrees.paths_nodup subs [] h hk⟩

theorem mem_modCalls (lv : List (List String × Option S)) (q : List String) (s : S) :
    (q, s) ∈ modCalls lv ↔ (q, some s) ∈ lv := by
  simp only [modCalls, List.mem_filterMap, Option.map_eq_some_iff, Prod.mk.injEq]
  constructor
  · rintro ⟨⟨q', o⟩, hm, s', rfl, rfl, rfl⟩
    exact hm
  · exact fun hm => ⟨(q, some s), hm, s, rfl, rfl, rfl⟩

theorem modCalls_paths (lv : List (List String × Option S)) :
    (modCalls lv).map (·.1) = (lv.filter (·.2.isSome)).map (·.1) := by
  induction lv with
  | nil => rfl
  | cons x rest ih =>
    obtain ⟨q, o⟩ := x
    cases o <;> simpa [modCalls] using ih

theorem modCalls_paths_sublist (lv : List (List String × Option S)) :
    ((modCalls lv).map (·.1)).Sublist (lv.map (·.1)) :=
  modCalls_paths lv ▸ List.filter_sublist.map _

theorem modCalls_length (lv : List (List String × Option S)) :
    (modCalls lv).length = (lv.filter (·.2.isSome)).length := by
  simpa using congrArg List.length (modCalls_paths lv)

theorem goAlloc_read (h : GoHeap) (xs : List String) (cap : Nat) :
    (goAlloc h xs cap).2.read (goAlloc h xs cap).1 = xs := by
  simp [goAlloc, GoSlice.read]

theorem goAlloc_keeps (h : GoHeap) (xs : List String) (cap : Nat) (s : GoSlice)
    (hs : s.arr < h.length) : s.read (goAlloc h xs cap).1 = s.read h := by
  simp [goAlloc, GoSlice.read, List.getElem?_append_left hs]

end EinoV.C11
