/-
  Schedule independence of success: with an order-insensitive merge (`MergePerm`), if an
  all-predecessor run returns `v` under one fair completion schedule, it returns `v` under every
  other one (`run_success_sched_independent`).
-/
import EinoV.Proofs.C02LockStep

namespace EinoV.Engine
namespace DagRun

/-- the state after resolving the completed tasks and the two update passes of a round -/
structure PreG {V} (r : Runner V) (x : V) (tasks : List (Key × V)) (tr : Trace V) (cm2 : Chans V) : Prop where
  k : K r (histOf r x (tasks :: tr)) cm2
  sh : shapes cm2 = shapes (initChans r)
  j : J (fun n => (keysOfTr (tasks :: tr)).count n)
        (fun p => (keysOfTr (tasks :: tr)).count p + if p = START then 1 else 0) [] [] cm2
  pb : PreB r (histOf r x (tasks :: tr)) (histOf r x (tasks :: tr)) (fun n => (keysOfTr (tasks :: tr)).count n) cm2
  rv : ∀ p o n, (p, o) ∈ histOf r x (tasks :: tr) → RoutesD r p o n →
        RV (fun n => (keysOfTr (tasks :: tr)).count n) cm2 n p
  f0 : (keysOfTr (tasks :: tr)).count START = 0

theorem preG_of_resolve {V} (ops : ValOps V) (r : Runner V) (wf : DagWF r) (wf2 : DagWF2 r) (sched : Sched V)
    (hf : sched.Fair) (x : V) (cm : Chans V) (tasks : List (Key × V)) (tr : Trace V) (done : List (Done V))
    (res : Resolved V) (h : XInv ops r x cm tasks tr) (hr : runTasks r sched tr.length tasks = .ok done)
    (h1 : resolve r cm done = .ok res) :
    PreG r x tasks tr (updateDeps r (updateValues r res.cm res.writes) res.deps) := by
  have hd := wf.dag
  have hK' : K r (histOf r x (tasks :: tr)) cm := K_mono h.c.k.k (histOf_mono r x tasks tr)
  obtain ⟨hdone, hH, _⟩ := histOf_runTasks r sched hf x tasks tr done hr
  have hcall := h.c.call_done hf hr
  obtain ⟨v1, v2⟩ := pre_K r hd wf.succ wf.startKey cm done res hK' h.c.l.sh hdone h1
  have hj := J_congr (F' := fun n => (keysOfTr (tasks :: tr)).count n)
    (Cp' := fun p => (keysOfTr (tasks :: tr)).count p + if p = START then 1 else 0) (fun _ => rfl)
    (fun p => by
      rw [keysOfTr_cons tasks, List.count_append, (runTasks_keys r sched hf _ _ _ hr).count_eq]
      simp only [akeys]; omega)
    (pre_J r hd wf.succ wf.startKey cm done res h.c.l.j h.c.l.sh h1).1
  obtain ⟨m, _, q2, t2⟩ := reports_after_updates (F := fun n => (keysOfTr (tasks :: tr)).count n) r hd wf.succ
    wf2.pc wf2.pd wf.startFresh wf.startKey cm done res hK'.nd hK'.sk h.c.l.sh h.c.rq hcall h1
  have hbound := static_bound_wf r wf _ v2 hj (by intro p; omega) h.c.l.pos
  refine ⟨v1, v2, hj, ⟨fun _ hm => hm, v1, v2, hbound, ?_, ?_, hist_functional r wf x cm tasks tr h.c.l, ?_⟩,
    fun p o n hm => values_after_updates r hd wf.succ wf2.pc wf2.pd wf.startFresh wf.startKey cm done res
      (fun p o => (p, o) ∈ histOf r x tr) hK'.nd hK'.sk h.c.l.sh h.c.rq h.rv hcall h1 p o n (hH p o hm),
    start_not_task r wf h.c.l⟩
  · intro p hp
    rcases hp with ⟨o, ho⟩ | hp
    · rcases hH p o ho with h' | h'
      · exact (h.c.rc p ⟨o, h'⟩).mono m
      · exact t2 (p, o) h'
    · exact q2 p hp
  · exact fun p o hm => (hist_started r x _ p o hm).imp id List.count_pos_iff.mpr
  · intro n hn hne
    obtain ⟨t, ht, rfl⟩ := List.mem_map.mp (List.count_pos_iff.mp hn)
    exact (justTr_all ops r x (tasks :: tr) h.c.k.just t.1 t.2 ht).2.1 hne

theorem triggered_facts {V} (r : Runner V) (wf : DagWF r) (wf3 : DagWF3 r) (x : V) (tasks : List (Key × V))
    (tr : Trace V) (cm2 : Chans V) (g : PreG r x tasks tr cm2) (n : Key) (c : Chan V) (hc : (n, c) ∈ cm2)
    (ht : c.triggered = true) :
    (keysOfTr (tasks :: tr)).count n = 0 ∧ Enabled r (histOf r x (tasks :: tr)) n ∧
    (akeys c.values).Nodup ∧
    (∀ p w, (p, w) ∈ c.values ↔ ((p, w) ∈ histOf r x (tasks :: tr) ∧ RoutesD r p w n)) := by
  obtain ⟨rank, hrank⟩ := wf.acyclic
  have hd := wf.dag
  have t1 := (triggered_unpack c ht).2.2.1
  have ckeys := chan_ctrl_keys r hd cm2 g.sh n c hc
  have hkeys2 := akeys_of_shapes g.sh
  have hstart2 : START ∉ akeys cm2 := by rw [hkeys2]; exact wf.startFresh
  obtain ⟨hcne, hne, ctrlRes, dataRes⟩ := triggered_resolved hd cm2 g.k g.sh wf3.hasCtrl rank hrank n c hc ht
  have budget : ∀ p, ((keysOfTr (tasks :: tr)).count p + if p = START then 1 else 0) + skOf cm2 p ≤ 1 := by
    intro p
    by_cases hp : p = START
    · subst hp
      rw [g.f0, skOf_not_mem hstart2]; simp
    · have := g.pb.bound p
      simp only [hp, ↓reduceIte]; omega
  have hF0 : (keysOfTr (tasks :: tr)).count n = 0 := by
    cases hcc : c.ctrl with
    | nil => exact absurd hcc hcne
    | cons a rest =>
      have hm : (a.1, a.2) ∈ c.ctrl := by rw [hcc]; simp
      have hj := (g.j.at_boundary hc).1 a.1 a.2 hm
      have hp1 := t1 a.1 a.2 hm
      have hb := budget a.1
      omega
  have routed : ∃ p, p ∈ lookupList n r.ctrlPreds ∧ ∃ o, (p, o) ∈ histOf r x (tasks :: tr) ∧ RoutesC r p o n := by
    obtain ⟨p, hm⟩ := g.k.ready_entry hc ht hcne
    exact ⟨p, (ckeys p).mpr (mem_akeys_of_mem p _ _ hm), g.k.rdy n c hc p hm⟩
  exact ⟨hF0, ⟨hne, ctrlRes, routed, dataRes⟩, g.k.vnd n c hc, triggered_values g.k g.pb.fn g.rv hc ht hF0⟩

theorem resolve_ok_select {V} (r : Runner V) (done : List (Done V)) (acc acc' : Resolved V)
    (h : done.foldlM (resolveStep r) acc = .ok acc') :
    ∀ d, d ∈ done → ∀ nd, r.call? d.1 = some nd → ∃ sel, selectOf nd d.2 = .ok sel := by
  intro d hd nd hnd
  obtain ⟨a1, a2, hst⟩ := foldlM_ok_mem _ done acc acc' h d hd
  rcases resolveStep_ok hst with ⟨hc, _⟩ | ⟨n, sel, _, hc, hs, _⟩
  · rw [hnd] at hc; cases hc
  · rw [hnd] at hc; cases hc; exact ⟨sel, hs⟩

theorem propagate_err_flag {V} {r : Runner V} {H : List (Done V)} (hd : r.dag = true) (hs : SuccOK r) :
    ∀ (fuel : Nat) (cm : Chans V) (wl : List Key) (e : Err), K r H cm →
      (∀ s, s ∈ wl → skOf cm s = 1) →
      shapes cm = shapes (initChans r) → propagateSkips r fuel cm wl = .error e →
      ∃ cm'' k, K r H cm'' ∧ shapes cm'' = shapes (initChans r) ∧ skOf cm'' k = 1 ∧ r.node? k = none := by
  exact fun fuel cm wl e hK hw hsh h => (propagate_K hd hs fuel cm wl hK hw hsh).2 e h

theorem flagged_nonnode_is_END {V} (r : Runner V) (cm : Chans V) (hsh : shapes cm = shapes (initChans r))
    (k : Key) (hf : skOf cm k = 1) (hn : r.node? k = none) : k = END := by
  have hk := skOf_one_mem cm k hf
  rw [akeys_of_shapes hsh, akeys_initChans, List.mem_append, List.mem_singleton] at hk
  exact hk.resolve_left fun hm => by obtain ⟨n, h⟩ := node?_exists r k hm; cases hn.symm.trans h

theorem resolve_err_cases {V} {H : List (Done V)} (r : Runner V) (hd : r.dag = true) (hs : SuccOK r)
    (hk : r.start.key = START) (hHC : HasCtrl r) (rank : Key → Nat)
    (hrank : ∀ n cs ds, (n, cs, ds) ∈ shapes (initChans r) → ∀ p, p ∈ cs ∨ p ∈ ds → rank p < rank n)
    (done : List (Done V)) (hdone : ∀ t, t ∈ done → t ∈ H) (cm : Chans V) (hK : K r H cm)
    (hsh : shapes cm = shapes (initChans r)) (e : Err) (h : resolve r cm done = .error e) :
    (∃ d nd e', d ∈ done ∧ r.call? d.1 = some nd ∧ selectOf nd d.2 = .error e') ∨ SkippedS r H END := by
  unfold resolve at h
  obtain ⟨pre, d, post, acc1, e1, e2, e3⟩ := foldlM_error_split _ done _ e h
  have hpre : ∀ t, t ∈ pre → t ∈ H := fun t ht => hdone t (by rw [e1]; simp [ht])
  have hdH : d ∈ H := hdone d (by rw [e1]; simp)
  obtain ⟨hrk, _⟩ := resolve_K r hd hs hk pre hpre { cm := cm, writes := [], deps := [] } acc1
    ⟨hK, hsh, fun _ _ hm => by simp at hm, fun _ _ hm => by simp at hm⟩ e2
  obtain ⟨n, hc, h1 | ⟨selected, h1, h2⟩⟩ := resolveStep_error e3
  · exact Or.inl ⟨d, n, e, by rw [e1]; simp, hc, h1⟩
  · -- the skips did not propagate: they reached a flagged channel that is no node's, which is END's
    obtain ⟨hn, hkey⟩ := call?_some r hk d.1 n hc
    obtain ⟨cm'', k, k1, k2, k3, k4⟩ := (reportBranch_K (r := r) (H := H) hd hs acc1.cm n.key
      (skippedOf n selected)
      (fun s hs' => hs n hn s (skippedOf_sub n selected s hs'))
      (fun s hs' => ⟨d.2, by rw [hkey]; exact hdH, n, selected, by rw [hkey]; exact hc, h1, hs'⟩)
      hrk.k hrk.sh).2 e h2
    have := flagged_nonnode_is_END r cm'' k2 k k3 k4
    subst this
    exact Or.inr (skOf_skippedS hd cm'' k1 k2 hHC rank hrank END k3)

/-- what makes a scheduling round fail, in specification terms: a branch condition of a task that
    just completed fails; END is skipped; or a node that is enabled and not yet started has
    (exactly routed) inputs that do not merge -/
def RoundFails {V} (ops : ValOps V) (r : Runner V) (H : List (Done V)) (started : List Key)
    (done : List (Done V)) : Prop :=
  (∃ d nd e', d ∈ done ∧ r.call? d.1 = some nd ∧ selectOf nd d.2 = .error e') ∨
  SkippedS r H END ∨
  (∃ n vals, n ∉ started ∧ Enabled r H n ∧ (akeys vals).Nodup ∧
     (∀ p w, (p, w) ∈ vals ↔ ((p, w) ∈ H ∧ RoutesD r p w n)) ∧
     collect ops (vals.map (·.2)) = .mergeErr)

theorem round_err {V} (ops : ValOps V) (r : Runner V) (wf : DagWF r) (wf2 : DagWF2 r) (wf3 : DagWF3 r)
    (sched : Sched V) (hf : sched.Fair) (x : V) (cm : Chans V) (tasks : List (Key × V)) (tr : Trace V)
    (done : List (Done V)) (e : Err) (h : XInv ops r x cm tasks tr)
    (hr : runTasks r sched tr.length tasks = .ok done) (hc : calcNext ops r cm done = .error e) :
    RoundFails ops r (histOf r x (tasks :: tr)) (keysOfTr (tasks :: tr)) done := by
  obtain ⟨rank, hrank⟩ := wf.acyclic
  have hK' : K r (histOf r x (tasks :: tr)) cm := K_mono h.c.k.k (histOf_mono r x tasks tr)
  have hdone := (histOf_runTasks r sched hf x tasks tr done hr).1
  rcases calcNext_error hc with h1 | ⟨res, h1, hb2⟩
  · exact (resolve_err_cases r wf.dag wf.succ wf.startKey wf3.hasCtrl rank hrank done hdone cm hK' h.c.l.sh e h1).imp_right
      Or.inl
  · -- a ready channel whose inputs do not merge: it is triggered, so its node is enabled and not yet started
    rw [wf.dag] at hb2
    have g := preG_of_resolve ops r wf wf2 sched hf x cm tasks tr done res h hr h1
    obtain ⟨⟨n, c⟩, hm, hge⟩ := (getReady_mergeErr ops true _).mp hb2
    obtain ⟨ht, hcol⟩ := (get_mergeErr_iff ops c).mp hge
    obtain ⟨f1, f2, f3, f4⟩ := triggered_facts r wf wf3 x tasks tr _ g n c hm ht
    exact Or.inr (Or.inr ⟨n, c.values, fun hin => by have := List.count_pos_iff.mpr hin; omega, f2, f3, f4, hcol⟩)

/-- the converse of `round_err`, for the two reasons that can be read off the round itself ("END is
    skipped" is excluded by the run returning a value later) -/
theorem round_ok {V} (ops : ValOps V) (r : Runner V) (wf : DagWF r) (wf2 : DagWF2 r) (wf3 : DagWF3 r)
    (sched : Sched V) (hf : sched.Fair) (x : V) (cm cm' : Chans V) (tasks : List (Key × V)) (tr : Trace V)
    (done : List (Done V)) (nx : Next V) (h : XInv ops r x cm tasks tr)
    (hr : runTasks r sched tr.length tasks = .ok done) (hc : calcNext ops r cm done = .ok (cm', nx)) :
    (∀ d, d ∈ done → ∀ nd, r.call? d.1 = some nd → ∃ sel, selectOf nd d.2 = .ok sel) ∧
    (∀ n, n ∉ keysOfTr (tasks :: tr) → Enabled r (histOf r x (tasks :: tr)) n →
      ∃ vals : List (Key × V), (akeys vals).Nodup ∧
        (∀ p w, (p, w) ∈ vals ↔ ((p, w) ∈ histOf r x (tasks :: tr) ∧ RoutesD r p w n)) ∧
        collect ops (vals.map (·.2)) ≠ .mergeErr) := by
  obtain ⟨res, ready, h1, hg, _⟩ := calcNext_unpack' ops r wf.dag cm cm' done nx hc
  refine ⟨resolve_ok_select r done _ res h1, fun n hn hen => ?_⟩
  have g := preG_of_resolve ops r wf wf2 sched hf x cm tasks tr done res h hr h1
  have hkeys2 := akeys_of_shapes g.sh
  obtain ⟨c, hm, ht⟩ := triggered_of_enabled wf.dag g.pb (by rw [hkeys2]; exact wf.startFresh)
    (fun n hne => by rw [hkeys2]; exact wf2.p4 n hne) n hen (List.count_eq_zero_of_not_mem hn)
  obtain ⟨_, _, f3, f4⟩ := triggered_facts r wf wf3 x tasks tr _ g n c hm ht
  refine ⟨c.values, f3, f4, fun hcol => ?_⟩
  have := (getReady_mergeErr ops true _).mpr ⟨(n, c), hm, (get_mergeErr_iff ops c).mpr ⟨ht, hcol⟩⟩
  rw [hg] at this; cases this

theorem facts_not_skipped {V} (ops : ValOps V) (hm : MergePerm ops) (r : Runner V) (x : V) (rank : Key → Nat)
    (hrank : ∀ n p, (p ∈ lookupList n r.ctrlPreds ∨ p ∈ lookupList n r.dataPreds) → rank p < rank n)
    (hstartC : lookupList START r.ctrlPreds = [])
    (H : List (Done V)) (g : Grounded ops r x H) (n : Key) (v : V) (f : StartFacts ops r H n v) :
    ¬ SkippedS r H n := by
  intro hs
  cases hs with
  | intro _ hne hpre =>
    obtain ⟨q, hq, oq, hoq, hr⟩ := f.routed hne
    have ag := grounded_agree ops hm r x rank hrank hstartC H H g g
    by_cases hdz : ∃ o'', (q, o'') ∈ H ∧ Deselects r q o'' n
    · obtain ⟨o'', ho'', hd⟩ := hdz
      have := (ag q).1 oq o'' hoq ho''
      subst this
      exact routes_deselects_excl r q oq n hr hd
    · exact (ag q).2.1 oq hoq (hpre q hq hdz)

theorem finv_grounded {V} (ops : ValOps V) (r : Runner V) (wf : DagWF r) (x : V) (cm : Chans V)
    (tasks : List (Key × V)) (tr : Trace V) (h : FInv ops r x cm tasks tr) :
    Grounded ops r x (histOf r x (tasks :: tr)) := by
  obtain ⟨b1, b2⟩ := finv_runfacts ops r wf x cm tasks tr h
  exact grounded_of_run ops r x (tasks :: tr) h.facts b1 b2 h.nodes

theorem loop_end_skipped_fails {V} (ops : ValOps V) (hm : MergePerm ops) (r : Runner V) (wf : DagWF r)
    (wf2 : DagWF2 r) (wf3 : DagWF3 r) (sched : Sched V) (hf : sched.Fair) (x : V) :
    ∀ (fuel : Nat) (cm : Chans V) (tasks : List (Key × V)) (tr : Trace V), FInv ops r x cm tasks tr →
      SkippedS r (histOf r x (tasks :: tr)) END → ∀ v, (loop ops r sched fuel cm tasks tr).result ≠ .ok v := by
  obtain ⟨rank, _, hrank⟩ := wf3.acyclicAll
  intro fuel cm tasks tr h hsk v hres
  obtain ⟨cm1, tasks1, tr1, ⟨h1, hsk1⟩, hstop⟩ := loop_stops ops r sched
    (fun cm tasks tr => FInv ops r x cm tasks tr ∧ SkippedS r (histOf r x (tasks :: tr)) END)
    (fun cm cm' tasks tr done ts h hr hc =>
      ⟨(FInv_step ops r wf wf2 wf3 sched hf x cm cm' tasks tr done _ h.1 hr hc).1 ts rfl,
        h.2.mono (histOf_mono r x ts (tasks :: tr))⟩)
    fuel cm tasks tr ⟨h, hsk⟩
  rcases hstop with ⟨_, hne⟩ | ⟨_, hok⟩
  · exact hne v hres
  · obtain ⟨done, cm2, hr, hc⟩ := hok v hres
    exact facts_not_skipped ops hm r x rank hrank wf3.startNoPreds _ (finv_grounded ops r wf x cm1 tasks1 tr1 h1) END v
      ((FInv_step ops r wf wf2 wf3 sched hf x cm1 cm2 tasks1 tr1 done _ h1 hr hc).2 v rfl) hsk1

theorem runTasks_ok_of_all {V} (r : Runner V) (sched : Sched V) (hf : sched.Fair) (step : Nat)
    (ts : List (Key × V)) (h : ∀ t, t ∈ ts → (outOf r t).isSome = true) :
    ∃ done, runTasks r sched step ts = .ok done := by
  unfold runTasks
  apply mapM_ok_of_forall
  intro e he
  have : e ∈ ts.map (execOne r) := (hf step _).subset he
  obtain ⟨t, ht, rfl⟩ := List.mem_map.mp this
  obtain ⟨d, hd⟩ := Option.isSome_iff_exists.mp (h t ht)
  exact ⟨d, outOf_eq_some_iff.mp hd⟩

theorem next_tasks_agree {V} (ops : ValOps V) (hm : MergePerm ops) (r : Runner V) (wf : DagWF r) (wf3 : DagWF3 r)
    (x : V) (cmA cmB : Chans V) (tsA tsB : List (Key × V)) (LA LB : Trace V)
    (hA : FInv ops r x cmA tsA LA) (hB : FInv ops r x cmB tsB LB) (rel : SameSteps LA LB) : ∀ t, t ∈ tsA ↔ t ∈ tsB := by
  obtain ⟨rank, _, hrank⟩ := wf3.acyclicAll
  exact heads_agree ops hm r x rank hrank wf3.startNoPreds _ _ (finv_grounded ops r wf x _ _ _ hA)
    (finv_grounded ops r wf x _ _ _ hB) (histOf_mono r x tsA LA) (histOf_mono r x tsB LB) hA.facts hB.facts hA.xi.c.comp hB.xi.c.comp
    (finv_runfacts ops r wf x _ _ _ hA).1 (finv_runfacts ops r wf x _ _ _ hB).1 rel

theorem loop_ok_transfers {V} (ops : ValOps V) (hm : MergePerm ops) (r : Runner V) (wf : DagWF r)
    (wf2 : DagWF2 r) (wf3 : DagWF3 r) (sA sB : Sched V) (hfA : sA.Fair) (hfB : sB.Fair) (x : V) :
    ∀ (fuel : Nat) (cmA cmB : Chans V) (tasksA tasksB : List (Key × V)) (trA trB : Trace V) (v : V),
      FInv ops r x cmA tasksA trA → FInv ops r x cmB tasksB trB → SameSteps (tasksA :: trA) (tasksB :: trB) →
      (∀ t, t ∈ (tasksA :: trA).flatten → t.1 ≠ END) → (∀ t, t ∈ (tasksB :: trB).flatten → t.1 ≠ END) →
      (loop ops r sA fuel cmA tasksA trA).result = .ok v →
      ∃ w, (loop ops r sB fuel cmB tasksB trB).result = .ok w := by
  intro fuel
  induction fuel with
  | zero => intro cmA cmB tasksA tasksB trA trB v _ _ _ _ _ h; simp [loop] at h
  | succ f ih =>
    intro cmA cmB tasksA tasksB trA trB v hA hB rel neA neB hres
    have relT : ∀ t, t ∈ tasksA ↔ t ∈ tasksB := by cases rel with | cons hab _ => exact hab
    have hH := sameSteps_hist r x _ _ rel
    have hKeys := sameSteps_keys _ _ rel
    -- A goes on to return a value, so END is not skipped
    have hnsk : ¬ SkippedS r (histOf r x (tasksA :: trA)) END := fun hsk =>
      loop_end_skipped_fails ops hm r wf wf2 wf3 sA hfA x (f + 1) cmA tasksA trA hA hsk v hres
    obtain ⟨doneA, cmA', nxA, hrA, heA, hcA, hnext⟩ := (loop_ok_iff ops r sA f cmA tasksA trA v).mp hres
    obtain ⟨sA1, sA2⟩ := FInv_step ops r wf wf2 wf3 sA hfA x cmA cmA' tasksA trA doneA nxA hA hrA hcA
    obtain ⟨okSel, okMerge⟩ := round_ok ops r wf wf2 wf3 sA hfA x cmA cmA' tasksA trA doneA nxA hA.xi hrA hcA
    -- B's tasks are A's: their bodies succeed, and there is one of them
    obtain ⟨doneB, hrB⟩ := runTasks_ok_of_all r sB hfB trB.length tasksB (fun t ht =>
      runTasks_ok_all r sA hfA _ _ _ hrA t ((relT t).mpr ht))
    have heB : doneB.isEmpty = false := by
      rw [runTasks_isEmpty r sA hfA _ _ _ hrA] at heA
      rw [runTasks_isEmpty r sB hfB _ _ _ hrB]
      cases tasksA with
      | nil => cases heA
      | cons a _ => exact List.isEmpty_eq_false_iff_exists_mem.mpr ⟨a, (relT a).mp List.mem_cons_self⟩
    -- B's round does not fail: what could make it fail would have made A's fail
    obtain ⟨cmB', nxB, hcB⟩ : ∃ cmB' nxB, calcNext ops r cmB doneB = .ok (cmB', nxB) := by
      cases hcB : calcNext ops r cmB doneB with
      | ok res => exact ⟨res.1, res.2, rfl⟩
      | error e =>
        exfalso
        rcases round_err ops r wf wf2 wf3 sB hfB x cmB tasksB trB doneB e hB.xi hrB hcB with
          ⟨d, nd, e', hd, hcall, hsel⟩ | hsk | ⟨n, vals, hns, hen, hnd, hex, hcol⟩
        · -- the same completion is resolved in A
          obtain ⟨t, ht, ho⟩ := runTasks_mem r sB hfB _ _ _ hrB d hd
          obtain ⟨sel, hs⟩ := okSel d (runTasks_all r sA hfA _ _ _ hrA t ((relT t).mpr ht) d ho) nd hcall
          rw [hs] at hsel; cases hsel
        · exact hnsk (hsk.mono (fun d hd => (hH d).mpr hd))
        · -- the same node is enabled in A, on the same values
          obtain ⟨valsA, ndA, exA, colA⟩ := okMerge n (fun h => hns ((hKeys n).mp h)) (hen.mono (fun d hd => (hH d).mpr hd))
          have hperm : valsA.Perm vals :=
            perm_of_same_members valsA vals (nodup_of_nodup_keys _ ndA) (nodup_of_nodup_keys _ hnd)
              (fun a => by
                rw [show a = (a.1, a.2) from rfl, exA a.1 a.2, hex a.1 a.2]
                exact and_congr_left fun _ => hH _)
          rw [collect_perm ops hm _ _ (hperm.map (·.2))] at colA
          exact colA hcol
    have sB1 := (FInv_step ops r wf wf2 wf3 sB hfB x cmB cmB' tasksB trB doneB nxB hB hrB hcB).1
    suffices h : ∃ w, nxB = .result w ∨
        ∃ ts, nxB = .tasks ts ∧ (loop ops r sB f cmB' ts (tasksB :: trB)).result = .ok w from
      h.imp fun w hw => (loop_ok_iff ops r sB f cmB tasksB trB w).mpr ⟨doneB, cmB', nxB, hrB, heB, hcB, hw⟩
    cases nxB with
    | result w => exact ⟨w, Or.inl rfl⟩
    | tasks tsB =>
      have hBn := sB1 tsB rfl
      have neB' := no_end_cons hcB neB
      rcases hnext with rfl | ⟨tsA, rfl, hresA⟩
      · -- END is enabled by what A had completed; B would have started it
        exfalso
        have hen : Enabled r (histOf r x (tasksB :: trB)) END :=
          (enabled_of_facts ops r _ END v (sA2 v rfl)).mono (fun d hd => (hH d).mp hd)
        obtain ⟨t, ht, he⟩ := List.mem_map.mp (hBn.xi.c.comp.1 END hen)
        exact neB' t ht he
      · have hAn := sA1 tsA rfl
        obtain ⟨w, hw⟩ := ih cmA' cmB' tsA tsB (tasksA :: trA) (tasksB :: trB) v hAn hBn
          (SameSteps.cons (next_tasks_agree ops hm r wf wf3 x cmA' cmB' tsA tsB _ _ hAn hBn rel) rel)
          (no_end_cons hcA neA) neB' hresA
        exact ⟨w, Or.inr ⟨tsB, rfl, hw⟩⟩

theorem run_success_sched_independent {V} (ops : ValOps V) (hm : MergePerm ops) (r : Runner V)
    (wf : DagWF r) (wf2 : DagWF2 r) (wf3 : DagWF3 r) (sA sB : Sched V) (hfA : sA.Fair) (hfB : sB.Fair) (x v : V)
    (hA : (runS ops r sA x).result = .ok v) : (runS ops r sB x).result = .ok v := by
  have key : ∃ w, (runS ops r sB x).result = .ok w := by
    unfold runS at hA ⊢
    cases hc : calcNext ops r (initChans r) [(START, x)] with
    | error e => simp [hc] at hA
    | ok res =>
      obtain ⟨cm, nx⟩ := res
      cases nx with
      | result w => exact ⟨w, rfl⟩
      | tasks ts =>
        simp only [hc] at hA ⊢
        obtain ⟨s1, _⟩ := FInv_start ops r wf wf2 wf3 x cm (.tasks ts) hc
        have h0 := s1 ts rfl
        have ne : ∀ t, t ∈ ([ts] : Trace V).flatten → t.1 ≠ END := no_end_cons hc (fun t ht => by cases ht)
        exact loop_ok_transfers ops hm r wf wf2 wf3 sA sB hfA hfB x r.fuel cm cm ts ts [] [] v h0 h0
          (SameSteps.cons (fun _ => Iff.rfl) SameSteps.nil) ne ne hA
  obtain ⟨w, hw⟩ := key
  rw [hw]
  congr 1
  exact (run_result_sched_independent ops hm r wf wf2 wf3 sA sB hfA hfB x v w hA hw).symm

end DagRun
end EinoV.Engine
