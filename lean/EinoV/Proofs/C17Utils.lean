/-
  C17, tools built by `utils` (Model/C17Utils.lean): with a fresh decode object per call the tool list
  does not depend on what was decoded before (earlier messages, the other calls of the message, the
  order in which they decode) and is the pure list the lemmas of C17 speak of.
-/
import EinoV.Model.C17Utils

namespace EinoV.C17

/-- the shape /repo has (`genUFacts_good`, Props/C17.lean): the object the arguments are decoded into is made inside the call -/
def UFacts.Good (UF : UFacts) : Prop := UF.freshPerCall = true

theorem seenReq_fresh {UF : UFacts} (h : UF.Good) (k : ReqKind) (hist : List Args) (x : Args) :
    seenReq UF k hist x = decodeFresh x := by
  unfold seenReq
  rw [h]
  simp

theorem toTool_fresh {UF : UFacts} (h : UF.Good) (parse : String → Args) (hist : List Args)
    (t : UTool) : t.toTool UF parse hist = t.pure parse := by
  unfold UTool.toTool UTool.pure
  simp only [seenReq_fresh h]

theorem mixedTools_fresh {UF : UFacts} (h : UF.Good) (parse : String → Args)
    (prior calls : List Call) (δ : List Nat) (mixed : List (String × MixedTool)) :
    mixedTools UF parse prior calls δ mixed = pureTools parse mixed := by
  unfold mixedTools pureTools
  apply List.map_congr_left
  intro p _
  cases p.2 with
  | inl t => rfl
  | inr u => simp only [toTool_fresh h]

/-- `tuple.indexes[name]` on the configured list -/
def lookupM (mixed : List (String × MixedTool)) (name : String) : Option MixedTool :=
  (mixed.reverse.find? (fun p => p.1 == name)).map (·.2)

def MixedTool.pure (parse : String → Args) : MixedTool → Tool
  | .inl t => t
  | .inr u => u.pure parse

theorem lookup_pureTools (parse : String → Args) (mixed : List (String × MixedTool)) (name : String) :
    lookup (pureTools parse mixed) name = (lookupM mixed name).map (MixedTool.pure parse) := by
  unfold lookup lookupM pureTools
  -- the conversion keeps the names, so it commutes with the search and with the projection
  rw [← List.map_reverse, List.find?_map, Option.map_map, Option.map_map]
  rfl

theorem resolve_utils {parse : String → Args} {mixed : List (String × MixedTool)}
    {handler : Option Handler} {c : Call} {t : UTool} (hl : lookupM mixed c.name = some (.inr t)) :
    resolve (pureTools parse mixed) handler c = some (t.pure parse) := by
  unfold resolve
  rw [lookup_pureTools, hl]
  rfl

theorem answerI_utils_inv {parse : String → Args} {mixed : List (String × MixedTool)}
    {handler : Option Handler} {c : Call} {t : UTool} {f : Req → Out String}
    (hl : lookupM mixed c.name = some (.inr t)) (hf : t.inv = some f) :
    answerI (pureTools parse mixed) handler c = some (f (decodeFresh (parse c.args))) := by
  rw [answerI, resolve_utils hl]
  simp [UTool.pure, packInvoke, hf]

theorem answerS_utils_str {parse : String → Args} {mixed : List (String × MixedTool)}
    {handler : Option Handler} {c : Call} {t : UTool} {g : Req → Out (List String)}
    (hl : lookupM mixed c.name = some (.inr t)) (hg : t.str = some g) :
    answerS (pureTools parse mixed) handler c = some (g (decodeFresh (parse c.args))) := by
  rw [answerS, resolve_utils hl]
  simp [UTool.pure, packStream, hg]

end EinoV.C17
