/-
  C05 / C06, stream paradigms: lemmas about Model/C05Streams.lean — the checkpoint round trip of a
  stream (`concatS` / `restoreS`), the value universe extended by the stream without chunks
  (`emptyV`, `mergeE`), histories with a runner per call (`histLoop`).
-/
import EinoV.Model.C05Streams

namespace EinoV.Interrupt.Streams
open EinoV EinoV.Engine EinoV.Interrupt

variable {V S X : Type}

theorem roundTrip_true (ops : ValOps V) (s cs : Chunks V) (h : roundTrip true ops s = some cs) :
    (s = [] ∧ cs = []) ∨ (∃ v, s = [v] ∧ cs = [v]) ∨
    (∃ v w rest m, s = v :: w :: rest ∧ ops.merge s = some m ∧ cs = [m]) := by
  rcases s with _ | ⟨v, _ | ⟨w, rest⟩⟩
  · cases h; exact .inl ⟨rfl, rfl⟩
  · cases h; exact .inr (.inl ⟨v, rfl, rfl⟩)
  · obtain ⟨_, hc, rfl⟩ := Option.map_eq_some_iff.mp h
    obtain ⟨m, hm, rfl⟩ := Option.map_eq_some_iff.mp hc
    exact .inr (.inr ⟨v, w, rest, m, rfl, hm, rfl⟩)

theorem roundTrip_nil_iff (ops : ValOps V) (s cs : Chunks V) (h : roundTrip true ops s = some cs) :
    cs = [] ↔ s = [] := by
  rcases roundTrip_true ops s cs h with ⟨rfl, rfl⟩ | ⟨v, rfl, rfl⟩ | ⟨v, w, rest, m, rfl, _, rfl⟩ <;> simp

theorem roundTrip_abs (ops : ValOps V) (e : V) (s cs : Chunks V) (h : roundTrip true ops s = some cs) :
    absS ops e cs = absS ops e s := by
  rcases roundTrip_true ops s cs h with ⟨rfl, rfl⟩ | ⟨v, rfl, rfl⟩ | ⟨v, w, rest, m, rfl, hm, rfl⟩
  · rfl
  · rfl
  · simp only [absS, hm]

theorem roundTrip_none_iff (ops : ValOps V) (e : V) (b : Bool) (s : Chunks V) :
    roundTrip b ops s = none ↔ absS ops e s = none := by
  rcases s with _ | ⟨v, _ | ⟨w, rest⟩⟩
  · exact ⟨nofun, nofun⟩
  · exact ⟨nofun, nofun⟩
  · show ((ops.merge (v :: w :: rest)).map some).map restoreS = none ↔ ops.merge (v :: w :: rest) = none
    rw [Option.map_eq_none_iff, Option.map_eq_none_iff]

theorem roundTrip_zero (ops : ValOps V) : roundTrip false ops ([] : Chunks V) = some [ops.zero] := rfl

/-- a second round trip changes nothing any more (a restored stream has at most one chunk) -/
theorem roundTrip_idem (ops : ValOps V) (s cs : Chunks V) (h : roundTrip true ops s = some cs) :
    roundTrip true ops cs = some cs := by
  rcases roundTrip_true ops s cs h with ⟨rfl, rfl⟩ | ⟨v, rfl, rfl⟩ | ⟨v, w, rest, m, rfl, _, rfl⟩ <;> rfl

theorem isE_emptyV : isE emptyV = true := beq_self_eq_true emptyV

theorem mergeE_of_no_empty (vs : List FlatMap) (h : ∀ v ∈ vs, isE v = false) : mergeE vs = FlatMap.merge vs := by
  have hf : vs.filter (fun v => !isE v) = vs := by
    apply List.filter_eq_self.mpr
    intro v hv
    simp [h v hv]
  cases vs with
  | nil => simp [mergeE]
  | cons a t => simp only [mergeE, hf]; simp

theorem mergeE_all_empty (vs : List FlatMap) (hne : vs ≠ []) (h : ∀ v ∈ vs, isE v = true) : mergeE vs = some emptyV := by
  have hf : vs.filter (fun v => !isE v) = [] := by
    apply List.filter_eq_nil_iff.mpr
    intro v hv
    simp [h v hv]
  cases vs with
  | nil => exact absurd rfl hne
  | cons a t => simp only [mergeE, hf]; simp

theorem mergeE_cons_empty (vs : List FlatMap) (h : ∃ v ∈ vs, isE v = false) : mergeE (emptyV :: vs) = mergeE vs := by
  obtain ⟨w, hw, hwe⟩ := h
  have hf : (emptyV :: vs).filter (fun v => !isE v) = vs.filter (fun v => !isE v) :=
    List.filter_cons_of_neg (by simp [isE_emptyV])
  have hne : (vs.filter (fun v => !isE v)).isEmpty = false :=
    List.isEmpty_eq_false_iff_exists_mem.mpr ⟨w, List.mem_filter.mpr ⟨hw, by simp [hwe]⟩⟩
  simp only [mergeE, hf, hne]
  simp

theorem histLoop_const (ops : ValOps V) (cfg : Cfg) (r : IRunner V S X) (sched : ISched V S X) (n i : Nat)
    (inp : V ⊕ Checkpoint V S X) :
    histLoop ops cfg (fun _ => r) sched n i inp = resumeLoop ops cfg r sched n inp := by
  induction n generalizing i inp with
  | zero => rfl
  | succ n ih =>
    have hi : histLoop ops cfg (fun _ => r) sched n (i + 1) = resumeLoop ops cfg r sched n := funext (ih (i + 1))
    rw [histLoop, resumeLoop, hi]
    rfl  -- the `match` of `histLoop` and that of `resumeLoop` unfold to the same `Res.casesOn`

theorem histLoop_congr (ops : ValOps V) (cfg : Cfg) (rOf rOf' : Nat → IRunner V S X) (sched : ISched V S X) (n i : Nat)
    (inp : V ⊕ Checkpoint V S X) (h : ∀ j, i ≤ j → j < i + n → rOf j = rOf' j) :
    histLoop ops cfg rOf sched n i inp = histLoop ops cfg rOf' sched n i inp := by
  induction n generalizing i inp with
  | zero => rfl
  | succ n ih =>
    have hi : histLoop ops cfg rOf sched n (i + 1) = histLoop ops cfg rOf' sched n (i + 1) :=
      funext fun inp => ih (i + 1) inp fun j h1 h2 => h j (Nat.le_of_succ_le h1) (Nat.add_right_comm i 1 n ▸ h2)
    rw [histLoop, histLoop, h i (Nat.le_refl i) (Nat.lt_add_of_pos_right n.succ_pos), hi]

end EinoV.Interrupt.Streams
