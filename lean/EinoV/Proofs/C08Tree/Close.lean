/-
  C08 — `Close` of a reader (`closeAll`) only closes ends (`CloseLE`), only touches nodes the
  reader is built on, and never enlarges the specified sequence of any reader.
-/
import EinoV.Proofs.C08Tree.Basic
import EinoV.Proofs.Monadic
import EinoV.Proofs.C08
namespace EinoV.C08

/-- `NodeLE a b`: `b` is `a` with (possibly) more reading ends closed, which is all that `Close`
    does to a node. It implies `DenLE fut fut id a b` (`NodeLE.denLE`): closing adds nothing to what
    any reader is specified to deliver. `fpipe`: the stream of a forwarder closed by its merged
    reader (`pending`, `stopped`); `Den` has no rule for these states, so nothing is asked of `st`. -/
inductive NodeLE : Node → Node → Prop where
  | refl (a : Node) : NodeLE a a
  | pipe {p q : Pipe} : q.buf = p.buf → q.sendClosed = p.sendClosed → q.cap = p.cap → NodeLE (.pipe p) (.pipe q)
  | parent {s : Nat} {c c' : CopyCore} : c'.log = c.log → c'.eofSeen = c.eofSeen →
      c'.cursors.length = c.cursors.length →
      (∀ i : Nat, c'.cursors[i]? = c.cursors[i]? ∨ c'.cursors[i]? = some none) → NodeLE (.parent s c) (.parent s c')
  | fpipe {s : Nat} {st st' : FwdSt} : st' ≠ .running → st' ≠ .ended → NodeLE (.fpipe s st) (.fpipe s st')

theorem NodeLE.trans {a b c : Node} (h1 : NodeLE a b) (h2 : NodeLE b c) : NodeLE a c := by
  cases h1 with
  | refl => exact h2
  | pipe e1 e2 e3 =>
    cases h2 with
    | refl => exact .pipe e1 e2 e3
    | pipe f1 f2 f3 => exact .pipe (f1.trans e1) (f2.trans e2) (f3.trans e3)
  | parent e1 e2 e3 e4 =>
    cases h2 with
    | refl => exact .parent e1 e2 e3 e4
    | parent f1 f2 f3 f4 =>
      refine .parent (f1.trans e1) (f2.trans e2) (f3.trans e3) fun i => ?_
      rcases f4 i with h | h
      · rw [h]; exact e4 i
      · exact .inr h
  | fpipe e1 e2 =>
    cases h2 with
    | refl => exact .fpipe e1 e2
    | fpipe f1 f2 => exact .fpipe f1 f2

theorem NodeLE.shp {a b : Node} (h : NodeLE a b) : b.shp = a.shp := by
  cases h <;> simp_all [Node.shp]

structure CloseLE (a b : Net) : Prop where
  size : a.nodes.size = b.nodes.size
  readers : b.readers = a.readers
  node : ∀ (k : Nat) (x : Node), a.nodes[k]? = some x → ∃ y, b.nodes[k]? = some y ∧ NodeLE x y

theorem CloseLE.refl (a : Net) : CloseLE a a := ⟨rfl, rfl, fun _ x h => ⟨x, h, .refl x⟩⟩

theorem CloseLE.trans {a b c : Net} (h1 : CloseLE a b) (h2 : CloseLE b c) : CloseLE a c where
  size := h1.size.trans h2.size
  readers := h2.readers.trans h1.readers
  node := fun k x hx => by
    obtain ⟨y, hy, l1⟩ := h1.node k x hx
    obtain ⟨z, hz, l2⟩ := h2.node k y hy
    exact ⟨z, hz, l1.trans l2⟩

theorem CloseLE.back {a b : Net} (h : CloseLE a b) {k : Nat} {y : Node} (hy : b.nodes[k]? = some y) :
    ∃ x, a.nodes[k]? = some x ∧ NodeLE x y := by
  have hlt := get_lt hy
  rw [← h.size] at hlt
  have hx : a.nodes[k]? = some a.nodes[k] := Array.getElem?_eq_getElem hlt
  obtain ⟨y', hy', l⟩ := h.node k _ hx
  rw [hy] at hy'; cases hy'
  exact ⟨_, hx, l⟩

theorem CloseLE.sameShape {a b : Net} (h : CloseLE a b) : SameShape a b := by
  refine ⟨h.size, fun k => ?_⟩
  unfold Net.shp?
  cases hx : a.nodes[k]? with
  | none =>
    have : ¬ k < a.nodes.size := by
      intro hlt; rw [Array.getElem?_eq_getElem hlt] at hx; cases hx
    have : b.nodes[k]? = none := by
      apply Array.getElem?_eq_none; rw [← h.size]; omega
    simp [this]
  | some x =>
    obtain ⟨y, hy, l⟩ := h.node k x hx
    simp [hy, l.shp]

theorem CloseLE.setNode {net : Net} {i : Nat} {x y : Node} (hx : net.nodes[i]? = some x) (l : NodeLE x y) :
    CloseLE net (net.setNode i y) where
  size := by simp
  readers := rfl
  node := fun k z hz => by
    rw [setNode_get_some hx]
    by_cases hk : k = i
    · subst hk; rw [hx] at hz; cases hz; exact ⟨y, by simp, l⟩
    · exact ⟨z, by simp [hk, hz], .refl z⟩

theorem NodeLE.denLE (fut : Nat → List Item) (id : Nat) {x y : Node} (le : NodeLE x y) : DenLE fut fut id x y := by
  cases le with
  | refl => exact .refl fut id x
  | pipe e1 e2 e3 => exact .pipe (by rw [e1, e2])
  | parent e1 e2 _ e4 =>
    refine .parent e1 e2 fun i k hk => ?_
    rcases e4 i with h | h
    · rw [← h]; exact hk
    · rw [hk] at h; cases h
  | fpipe e1 e2 => exact .fpipe e1 e2

theorem CloseLE.den {fut : Nat → List Item} {a b : Net} (h : CloseLE a b) {j : Nat} {l : List Item}
    (hd : Den fut b j l) : Den fut a j l :=
  hd.transfer fun k y _ hy => by
    obtain ⟨x, hx, le⟩ := h.back hy
    exact ⟨x, hx, le.denLE fut k⟩

theorem close_nodeLE (f : CopyFacts) (s : Nat) (c : CopyCore) (idx : Nat) :
    NodeLE (.parent s c) (.parent s (c.close f idx).1) := by
  unfold CopyCore.close
  split
  · refine .parent rfl rfl (by simp) fun i => ?_
    simp only [List.getElem?_set]
    by_cases h : idx = i
    · subst h
      by_cases h2 : idx < c.cursors.length
      · simp [h2]
      · left; simp [h2]
    · simp [h]
  · exact .refl _

/-- the step of the loop that closes the sources of a merged reader -/
def mcloseStep (n : Net) (sid : Nat) : Option Net :=
  match n.nodes[sid]? with
  | some (.pipe p) => (p.closeRecv).map fun p' => n.setNode sid (.pipe p')
  | some (.fpipe src .running) => some (n.setNode sid (.fpipe src .pending))
  | some (.fpipe _ .ended) => some n
  | _ => none

theorem mcloseStep_spec {n n' : Net} {sid : Nat} (h : mcloseStep n sid = some n') :
    CloseLE n n' ∧ ∀ k, k ≠ sid → n'.nodes[k]? = n.nodes[k]? := by
  unfold mcloseStep at h
  split at h
  · rename_i p hp
    simp only [Option.map_eq_some_iff] at h
    obtain ⟨p', hp', rfl⟩ := h
    obtain ⟨_, rfl⟩ := Pipe.closeRecv_some hp'
    exact ⟨CloseLE.setNode hp (.pipe rfl rfl rfl), fun k hk => setNode_get_ne _ hk⟩
  · rename_i src hp
    cases h
    exact ⟨CloseLE.setNode hp (.fpipe (by simp) (by simp)), fun k hk => setNode_get_ne _ hk⟩
  · cases h; exact ⟨.refl _, fun _ _ => rfl⟩
  · cases h

theorem mcloseFold_spec {sts : List Nat} {n n' : Net} (h : sts.foldlM mcloseStep n = some n') :
    CloseLE n n' ∧ ∀ k, k ∉ sts → n'.nodes[k]? = n.nodes[k]? := by
  refine foldlM_some_inv mcloseStep (fun m => CloseLE n m ∧ ∀ k, k ∉ sts → m.nodes[k]? = n.nodes[k]?)
    (fun m s m' hs ⟨l, f⟩ h1 => ?_) ⟨.refl _, fun _ _ => rfl⟩ h
  obtain ⟨l1, f1⟩ := mcloseStep_spec h1
  exact ⟨l.trans l1, fun k hk => (f1 k fun e => hk (e ▸ hs)).trans (f k hk)⟩

theorem closeAll_pipe (F : Facts) (fuel : Nat) {net : Net} {id : Nat} {p : Pipe}
    (hn : net.nodes[id]? = some (.pipe p)) :
    closeAll F (fuel + 1) net id = (p.closeRecv).map fun p' => net.setNode id (.pipe p') := by
  simp only [closeAll, hn]

theorem closeAll_arr (F : Facts) (fuel : Nat) {net : Net} {id : Nat} {rest : List Item}
    (hn : net.nodes[id]? = some (.arr rest)) : closeAll F (fuel + 1) net id = some net := by
  simp only [closeAll, hn]

theorem closeAll_conv (F : Facts) (fuel : Nat) {net : Net} {id src : Nat} {g : ConvSpec}
    (hn : net.nodes[id]? = some (.conv src g)) : closeAll F (fuel + 1) net id = closeAll F fuel net src := by
  simp only [closeAll, hn]

theorem closeAll_child_eq (F : Facts) (fuel : Nat) (net : Net) (j P idx src : Nat) (core : CopyCore)
    (hn : net.nodes[j]? = some (.child P idx)) (hp : net.nodes[P]? = some (.parent src core)) :
    closeAll F (fuel + 1) net j =
      if (core.close F.copy idx).2 then closeAll F fuel (net.setNode P (.parent src (core.close F.copy idx).1)) src
      else some (net.setNode P (.parent src (core.close F.copy idx).1)) := by
  simp only [closeAll, hn, hp]

theorem closeAll_merge_eq (F : Facts) (fuel : Nat) (net : Net) (id : Nat) (sts chosen : List Nat)
    (hn : net.nodes[id]? = some (.merge sts chosen)) :
    closeAll F (fuel + 1) net id = sts.foldlM mcloseStep net := by
  simp only [closeAll, hn]
  rfl

theorem closeAll_cases {F : Facts} {fuel : Nat} {net net' : Net} {id : Nat}
    (h : closeAll F (fuel + 1) net id = some net') :
    (∃ p, net.nodes[id]? = some (.pipe p)) ∨ (∃ rest, net.nodes[id]? = some (.arr rest)) ∨
    (∃ src g, net.nodes[id]? = some (.conv src g)) ∨
    (∃ P idx src core, net.nodes[id]? = some (.child P idx) ∧ net.nodes[P]? = some (.parent src core)) ∨
    (∃ sts ch, net.nodes[id]? = some (.merge sts ch)) := by
  unfold closeAll at h
  split at h
  · exact .inl ⟨_, ‹_›⟩
  · exact .inr (.inl ⟨_, ‹_›⟩)
  · exact .inr (.inr (.inl ⟨_, _, ‹_›⟩))
  · split at h
    · exact .inr (.inr (.inr (.inl ⟨_, _, _, _, ‹_›, ‹_›⟩)))
    · cases h
  · exact .inr (.inr (.inr (.inr ⟨_, _, ‹_›⟩)))
  · cases h

theorem closeAll_spec (F : Facts) (fuel : Nat) : ∀ (net : Net) (id : Nat) (net' : Net),
    closeAll F fuel net id = some net' →
    CloseLE net net' ∧ ∀ k, ¬ Up net id k → net'.nodes[k]? = net.nodes[k]? := by
  induction fuel with
  | zero => intro net id net' h; simp [closeAll] at h
  | succ fuel ih =>
    intro net id net' h
    rcases closeAll_cases h with ⟨p, hn⟩ | ⟨rest, hn⟩ | ⟨src, g, hn⟩ | ⟨P, idx, src, core, hn, hp⟩ | ⟨sts, ch, hn⟩
    · rw [closeAll_pipe F fuel hn, Option.map_eq_some_iff] at h
      obtain ⟨p', hp', rfl⟩ := h
      obtain ⟨_, rfl⟩ := Pipe.closeRecv_some hp'
      exact ⟨CloseLE.setNode hn (.pipe rfl rfl rfl), fun k hk => setNode_get_off (.refl _) hk _⟩
    · rw [closeAll_arr F fuel hn] at h
      cases h; exact ⟨.refl _, fun _ _ => rfl⟩
    · rw [closeAll_conv F fuel hn] at h
      obtain ⟨l, f⟩ := ih net src net' h
      exact ⟨l, fun k hk => f k fun hu => hk (.step (edge_conv hn) hu)⟩
    · rw [closeAll_child_eq F fuel net id P idx src core hn hp] at h
      have l1 : CloseLE net (net.setNode P (.parent src (core.close F.copy idx).1)) :=
        CloseLE.setNode hp (close_nodeLE _ _ _ _)
      have hoff : ∀ k, ¬ Up net id k →
          (net.setNode P (.parent src (core.close F.copy idx).1)).nodes[k]? = net.nodes[k]? :=
        fun k hk => setNode_get_off (.single (edge_child hn)) hk _
      split at h
      · obtain ⟨l2, f2⟩ := ih _ src net' h
        refine ⟨l1.trans l2, fun k hk => ?_⟩
        rw [f2 k, hoff k hk]
        intro hu
        exact hk (.step (edge_child hn) (.step (edge_parent hp) (l1.sameShape.up.mp hu)))
      · cases h
        exact ⟨l1, hoff⟩
    · rw [closeAll_merge_eq F fuel net id sts ch hn] at h
      obtain ⟨l, f⟩ := mcloseFold_spec h
      exact ⟨l, fun k hk => f k fun hm => hk (.single (edge_merge hn hm))⟩

theorem closeAll_fuel_succ (F : Facts) : ∀ (cf : Nat) (net : Net) (j : Nat) (n' : Net),
    closeAll F cf net j = some n' → closeAll F (cf + 1) net j = some n' := by
  intro cf
  induction cf with
  | zero => intro net j n' h; simp [closeAll] at h
  | succ cf ih =>
    intro net j n' h
    rcases closeAll_cases h with ⟨p, hn⟩ | ⟨rest, hn⟩ | ⟨src, g, hn⟩ | ⟨P, idx, src, core, hn, hp⟩ | ⟨sts, ch, hn⟩
    · rw [closeAll_pipe F _ hn] at h ⊢; exact h
    · rw [closeAll_arr F _ hn] at h ⊢; exact h
    · rw [closeAll_conv F _ hn] at h ⊢; exact ih net src n' h
    · rw [closeAll_child_eq F _ net j P idx src core hn hp] at h ⊢
      split at h
      · rename_i hc; rw [if_pos hc]; exact ih _ src n' h
      · rename_i hc; rw [if_neg hc]; exact h
    · rw [closeAll_merge_eq F _ net j sts ch hn] at h ⊢; exact h

theorem closeAll_fuel_mono (F : Facts) {cf cf' : Nat} {net : Net} {j : Nat} {n' : Net}
    (h : closeAll F cf net j = some n') (hle : cf ≤ cf') : closeAll F cf' net j = some n' := by
  induction hle with
  | refl => exact h
  | step _ ih => exact closeAll_fuel_succ F _ net j n' ih

end EinoV.C08
