/-
  C08 — the close invariant is kept by the building operations.
-/
import EinoV.Proofs.C08Tree.CloseExt
import EinoV.Proofs.C08Tree.Delivery
namespace EinoV.C08


theorem closeInv_push_source {net : Net} {H H' : List Nat} (sh : ShInv net) (x : Node)
    (h : FlagInv net H ∧ CellInv net)
    (hx : (∃ p, x = .pipe p ∧ p.recvClosed = false) ∨ ∃ rest, x = .arr rest)
    (hH' : ∀ y, y ∈ H' ↔ y ∈ H ∨ y = net.nodes.size) :
    FlagInv (net.push x).1 H' ∧ CellInv (net.push x).1 := by
  have hn : ∀ u, ¬ NewHolds x u := by
    rintro u (⟨c, hh, _⟩ | ⟨st, hh, _⟩) <;> rcases hx with ⟨_, rfl, _⟩ | ⟨_, rfl⟩ <;> cases hh
  have hget := push_get_self net x
  refine closeInv_push_plain sh x h ?_ ?_ ?_ (fun u hu => absurd hu (hn u)) (fun y hy => ?_)
    ⟨fun _ => (hH' _).mpr (.inr rfl), ?_⟩
  · rcases hx with ⟨_, rfl, _⟩ | ⟨_, rfl⟩ <;> simp
  · rcases hx with ⟨_, rfl, _⟩ | ⟨_, rfl⟩ <;> simp
  · rcases hx with ⟨_, rfl, _⟩ | ⟨_, rfl⟩ <;> simp
  · rw [hH']; simp [hn y]; omega
  · rcases hx with ⟨p, rfl, hp⟩ | ⟨rest, rfl⟩
    · rw [stat_pipe hget]; simp [hp]
    · rw [stat_none (by intro nd hnd; rw [hget] at hnd; cases hnd; simp)]; simp

theorem applyOp_pipe_closeInv {F : Facts} {fuel : Nat} {net net' : Net} {cap : Nat} {cr : List Nat}
    (i : Inv net) (hc : CloseInv net) (h : applyOp F fuel net (.pipe cap) = .ok (net', cr)) : CloseInv net' := by
  simp only [applyOp] at h
  cases h
  exact closeInv_of_nodes (a := (net.push (.pipe (Pipe.new cap))).1) (H := net.readers ++ [net.nodes.size]) rfl
    (closeInv_push_source i.sh _ (closeInvOn_iff.mp hc) (.inl ⟨_, rfl, rfl⟩) (by simp)) (fun y => Iff.rfl)

theorem applyOp_arr_closeInv {F : Facts} {fuel : Nat} {net net' : Net} {items : List Nat} {cr : List Nat}
    (i : Inv net) (hc : CloseInv net) (h : applyOp F fuel net (.arr items) = .ok (net', cr)) : CloseInv net' := by
  simp only [applyOp] at h
  cases h
  exact closeInv_of_nodes (a := (net.push (.arr (items.map fun v => ⟨v, 0⟩))).1)
    (H := net.readers ++ [net.nodes.size]) rfl
    (closeInv_push_source i.sh _ (closeInvOn_iff.mp hc) (.inr ⟨_, rfl⟩) (by simp)) (fun y => Iff.rfl)

theorem applyOp_conv_closeInv {F : Facts} {fuel : Nat} {net net' : Net} {r : Nat} {g : ConvSpec} {cr : List Nat}
    (i : Inv net) (hc : CloseInv net) (h : applyOp F fuel net (.conv r g) = .ok (net', cr)) : CloseInv net' := by
  obtain ⟨hr, rfl⟩ := applyOp_conv_cases h
  refine closeInv_of_nodes (a := (net.push (.conv r g)).1) (H := net.readers.erase r ++ [net.nodes.size]) rfl ?_
    (fun y => Iff.rfl)
  refine closeInv_push_pass i.sh _ (closeInvOn_iff.mp hc) (.inl ⟨r, g, rfl⟩) ?_ ?_ (fun y hy => ?_) (by simp)
  · intro u hu; cases mem_uses_conv.mp hu; exact i.rd.lt hr
  · intro u hu; cases mem_uses_conv.mp hu; exact hr
  · simp only [List.mem_append, List.mem_singleton, Node.shp, mem_uses_conv]
    rw [i.rd.nodup.mem_erase_iff]
    constructor
    · rintro (⟨h1, h2⟩ | h); exact ⟨h2, h1⟩; omega
    · rintro ⟨h1, h2⟩; exact .inl ⟨h2, h1⟩

theorem flag_drop_arr {net : Net} {H H' : List Nat} {r : Nat} {rest : List Item}
    (hr : net.nodes[r]? = some (.arr rest)) (hH' : ∀ y, y ∈ H' ↔ y ∈ H ∧ y ≠ r) (h : FlagInv net H) :
    FlagInv net H' := by
  intro k
  by_cases e : k = r
  · subst e
    exact flag_of_stat_none (stat_noflag hr rfl)
  · -- a root above `k` is not the leaf `r`
    have hcl : Claimed net H' k ↔ Claimed net H k := exists_congr fun j' => and_congr_right fun hu => by
      have : j' ≠ r := fun e2 => e (upP_leaf (e2 ▸ hr) (by simp) (by simp) hu ▸ e2)
      unfold RootClaimed; rw [hH' j', and_iff_left this]
    rw [hcl]; exact h k

theorem cellInv_push_cell {net : Net} (h : CellInv net) (r : Nat) {n : Nat} (hn : 0 < n) :
    CellInv (pushAll (net.push (.parent r (CopyCore.new n))).1 ((List.range n).map (Node.child net.nodes.size))) := by
  have e := Ext.pushAll (net.push (.parent r (CopyCore.new n))).1 ((List.range n).map (Node.child net.nodes.size))
  refine cellInv_ext ((Ext.push net _).trans e) (fun c hc s core hh => ?_) h
  -- the only new cell is the one pushed first: the nodes after it are copies
  by_cases hlt : c < (net.push (.parent r (CopyCore.new n))).1.nodes.size
  · rw [e.old c hlt] at hh
    obtain ⟨rfl, hx⟩ := push_get_new hc hh
    cases hx
    refine ⟨fun idx hidx => ⟨(net.push (.parent r (CopyCore.new n))).1.nodes.size + idx, ?_⟩, ?_, ?_, ?_⟩
    · exact pushAll_get_new _ n _ (CopyCore.new_cursors_length n ▸ hidx)
    · exact (CopyCore.new_count_none n).symm
    · rw [CopyCore.new_count_none, CopyCore.new_cursors_length, if_neg (Nat.ne_of_lt hn)]; rfl
    · rw [CopyCore.new_cursors_length]; exact hn
  · obtain ⟨j, _, _, h0⟩ := pushAll_leaves_new _ n _ (Nat.le_of_not_lt hlt) hh
    cases h0

theorem applyOp_copy_closeInv {F : Facts} {fuel : Nat} {net net' : Net} {r n : Nat} {cr : List Nat}
    (i : Inv net) (hc : CloseInv net) (h : applyOp F fuel net (.copy r n) = .ok (net', cr)) : CloseInv net' := by
  obtain ⟨hr, ⟨_, rfl⟩ | ⟨hn, base, f, hbf, rfl⟩⟩ := applyOp_copy_cases h
  · exact hc
  have hc' := closeInvOn_iff.mp hc
  have herase : ∀ y, y ∈ net.readers.erase r ↔ y ∈ net.readers ∧ y ≠ r := fun y => by
    rw [i.rd.nodup.mem_erase_iff]; exact and_comm
  refine closeInv_of_nodes (a := pushAll base ((List.range n).map f))
    (H := net.readers.erase r ++ List.range' base.nodes.size n) rfl ?_ (fun y => Iff.rfl)
  rcases hbf with ⟨rest, hnr, hb, rfl⟩ | ⟨nd, hnd, rfl, rfl⟩
  · -- array: independent copies, which have no flag
    subst base
    refine ⟨flagInv_pushLeaves i.sh (flag_drop_arr hnr herase hc'.1) n (fun _ _ => .inl ⟨rest, rfl⟩) fun j hj => ?_,
      cellInv_ext (Ext.pushAll net _) (fun c hc s core hh => ?_) hc'.2⟩
    · rw [stat_noflag (pushAll_get_new net n (fun _ => .arr rest) hj) rfl]; nofun
    · obtain ⟨j, _, _, h0⟩ := pushAll_leaves_new net n _ hc hh
      cases h0
  · -- the shared cell takes over `r`; its copies are open
    obtain ⟨shP, _⟩ := i.push_cell hr n
    have h0 : 0 < n := Nat.lt_of_lt_of_le Nat.zero_lt_two hn
    have hholds : ∀ u, NewHolds (.parent r (CopyCore.new n)) u ↔ u = r := fun u =>
      holds_parent.trans (and_iff_left ⟨0, 0, (CopyCore.new_cursors_get n 0).trans (if_pos h0)⟩)
    have fP : FlagInv (net.push (.parent r (CopyCore.new n))).1 (net.readers.erase r) := by
      refine flagInv_push_plain i.sh _ hc'.1 nofun nofun (fun u hu => (hholds u).mp hu ▸ hr)
        (fun y _ => by rw [herase, hholds]) ?_
      rw [stat_noflag (push_get_self net (.parent r (CopyCore.new n))) rfl]
      exact ⟨nofun, nofun⟩
    refine ⟨flagInv_pushLeaves shP fP n (fun j _ => .inr ⟨_, j, rfl⟩) fun j hj => ?_, cellInv_push_cell hc'.2 r h0⟩
    have hP := (pushAll_get_old ((List.range n).map (Node.child net.nodes.size)) _ net.nodes.size
      ((push_size net _).symm ▸ Nat.lt_succ_self _)).trans (push_get_self net (.parent r (CopyCore.new n)))
    rw [stat_child (pushAll_get_new _ n _ hj) hP, CopyCore.new_cursors_get, if_pos hj]
    nofun

theorem flag_kill {net : Net} {H H' : List Nat} {r : Nat} {sts ch : List Nat} (sh : ShInv net)
    (hr : net.nodes[r]? = some (.merge sts ch)) (hfree : Free net r) (hrH : r ∈ H)
    (hH' : ∀ y, y ∈ H' ↔ (y ∈ H ∧ y ≠ r) ∨ y ∈ sts) (h : FlagInv net H ∧ CellInv net) :
    FlagInv (net.setNode r .dead) H' ∧ CellInv (net.setNode r .dead) := by
  have hget : ∀ k, k ≠ r → (net.setNode r .dead).nodes[k]? = net.nodes[k]? := fun k hk => setNode_get_ne _ hk
  -- the dead node has no edge; the other nodes keep theirs, and none of these leads to `r`
  have hpe : ∀ j u, PEdge (net.setNode r .dead) j u → PEdge net j u := by
    intro j u he
    have hj : j ≠ r := by
      rintro rfl
      rcases he with ⟨g, hh⟩ | ⟨s, c, hh, _⟩ <;> (rw [setNode_get_self hr] at hh; cases hh)
    exact (pedge_congr (hget j hj)).mp he
  have hup1 : ∀ j k, UpP (net.setNode r .dead) j k → UpP net j k := fun j k => UpP.mono hpe
  have hup2 : ∀ j k, UpP net j k → j ≠ r → UpP (net.setNode r .dead) j k := fun j k hu =>
    hu.mono_on (S := (· ≠ r)) fun a u ha he => ⟨(pedge_congr (hget a ha)).mpr he, by
      rintro rfl
      obtain ⟨s, hs, hm⟩ := he.edge
      exact hfree a s hs hm⟩
  have hroot : ∀ u, RootClaimed (net.setNode r .dead) H' u ↔ RootClaimed net H' u :=
    rootClaimed_set_plain hr rfl rfl
  refine ⟨fun k => ?_, fun P s core hp idx hidx => ?_, fun P s core hp => h.2.2 P s core (parent_of_setNode (by simp) hp)⟩
  · by_cases e : k = r
    · subst e
      exact flag_of_stat_none (stat_noflag (setNode_get_self hr _) rfl)
    · have hcl : Claimed (net.setNode r .dead) H' k ↔ Claimed net H k := by
        constructor
        · -- a claim from a source of `r` was a claim from `r`
          rintro ⟨j', hu, hc⟩
          have hu' := hup1 _ _ hu
          rcases (hroot j').mp hc with h1 | h1
          · rcases (hH' j').mp h1 with ⟨h2, _⟩ | h2
            · exact ⟨j', hu', .inl h2⟩
            · exact ⟨r, .step ((pedge_merge hr).mpr h2) hu', .inl hrH⟩
          · exact ⟨j', hu', .inr h1⟩
        · -- a claim from `r` is now a claim from the source it went through
          rintro ⟨j', hu, hc⟩
          by_cases e2 : j' = r
          · subst e2
            rcases hu.first with e3 | ⟨b, hb, hbk⟩
            · exact absurd e3.symm e
            · have hbs := (pedge_merge hr).mp hb
              have hbr : b ≠ j' := by
                rintro rfl
                exact hfree b _ (shp?_some hr) (mem_uses_merge.mpr hbs)
              exact ⟨b, hup2 _ _ hbk hbr, (hroot b).mpr (.inl ((hH' b).mpr (.inr hbs)))⟩
          · exact ⟨j', hup2 _ _ hu e2, (hroot j').mpr (hc.imp_left fun h1 => (hH' j').mpr (.inl ⟨h1, e2⟩))⟩
      rw [stat_setNode_ne sh _ hr (by simp) e, hcl]; exact h.1 k
  · obtain ⟨c, hc⟩ := h.2.1 P s core (parent_of_setNode (by simp) hp) idx hidx
    exact ⟨c, by rw [hget c (by rintro rfl; rw [hr] at hc; cases hc)]; exact hc⟩

/-- the readers held in the middle of `mkMerge`: the caller's readers not yet absorbed, and the
    collected sources -/
def Hmid (net0 : Net) (ss dn : List Nat) : List Nat :=
  net0.readers.filter (fun y => !dn.contains y) ++ ss

theorem mem_Hmid {net0 : Net} {ss dn : List Nat} {y : Nat} :
    y ∈ Hmid net0 ss dn ↔ (y ∈ net0.readers ∧ y ∉ dn) ∨ y ∈ ss := by
  simp [Hmid]

def MClose (net0 n : Net) (ss dn : List Nat) : Prop := FlagInv n (Hmid net0 ss dn) ∧ CellInv n

theorem flagInv_mem_congr {net : Net} {H H' : List Nat} (h : ∀ y, y ∈ H' ↔ y ∈ H) (hf : FlagInv net H) :
    FlagInv net H' := by
  intro k; rw [claimed_mem_congr h]; exact hf k

theorem mem_Hmid_step {net0 : Net} {ss ss' dn new : List Nat} {r y : Nat} (hrss : r ∉ ss) (hss : ss' = ss ++ new) :
    y ∈ Hmid net0 ss' (r :: dn) ↔ (y ∈ Hmid net0 ss dn ∧ y ≠ r) ∨ y ∈ new := by
  subst hss
  simp only [mem_Hmid, List.mem_cons, List.mem_append, not_or]
  by_cases e : y = r
  · subst e; simp [hrss]
  · simp [e, or_assoc]

theorem mstep_close {net0 n n' : Net} {ss ss' dn : List Nat} {arr arr' : List Item} {r : Nat}
    (m : MFold net0 n ss dn) (c : MClose net0 n ss dn) (hr : r ∈ net0.readers) (hd : r ∉ dn)
    (h : mstep (n, ss, arr) r = some (n', ss', arr')) : MClose net0 n' ss' (r :: dn) := by
  obtain ⟨hfr, t, ht, hk⟩ := m.held r hr hd
  have hrss : r ∉ ss := fun hm => (m.ssOk r hm).2.2 ⟨hr, hd⟩
  have hrH : r ∈ Hmid net0 ss dn := mem_Hmid.mpr (.inl ⟨hr, hd⟩)
  rcases mstep_cases h with ⟨p, hp, rfl, hss, rfl⟩ | ⟨rest, hp, rfl, hss, rfl⟩ |
    ⟨sts, ch, hp, rfl, hss, rfl⟩ | ⟨_, rfl, hss, rfl⟩
  · -- pipe: held as before, now as a source
    refine ⟨flagInv_mem_congr (fun y => (mem_Hmid_step hrss hss).trans ?_) c.1, c.2⟩
    rw [List.mem_singleton]
    exact ⟨fun h => h.elim And.left (· ▸ hrH), fun h => (Classical.em (y = r)).elim .inr (.inl ⟨h, ·⟩)⟩
  · exact ⟨flag_drop_arr hp (fun y => (mem_Hmid_step hrss (hss.trans (List.append_nil ss).symm)).trans
      (or_iff_left List.not_mem_nil)) c.1, c.2⟩
  · exact flag_kill m.sh hp hfr hrH (fun y => mem_Hmid_step hrss hss) c
  · -- convert or copy: a forwarder that holds it
    have hnh : ∀ u, NewHolds (.fpipe r .running) u ↔ u = r := fun u =>
      holds_fpipe.trans (and_iff_left (.inl rfl))
    refine closeInv_push_plain m.sh _ c nofun nofun nofun
      (fun u hu => by rw [(hnh u).mp hu]; exact hrH) (fun y hy => ?_) ?_
    · rw [mem_Hmid_step hrss hss, hnh, List.mem_singleton]; exact or_iff_left (Nat.ne_of_lt hy)
    · rw [stat_fwd (push_get_self n (.fpipe r .running))]
      exact ⟨fun _ => mem_Hmid.mpr (.inr (hss ▸ List.mem_append_right _ (List.mem_singleton_self _))), nofun⟩

theorem mfold_both {net0 : Net} (rs : List Nat) (n : Net) (ss : List Nat) (arr : List Item) (dn : List Nat)
    {n1 : Net} {ss1 : List Nat} {arr1 : List Item}
    (m : MFold net0 n ss dn) (c : MClose net0 n ss dn) (hrs : ∀ r ∈ rs, r ∈ net0.readers ∧ r ∉ dn)
    (hnd : rs.Nodup) (h : rs.foldlM mstep (n, ss, arr) = some (n1, ss1, arr1)) :
    MFold net0 n1 ss1 (rs.reverse ++ dn) ∧ MClose net0 n1 ss1 (rs.reverse ++ dn) :=
  mfold_induction (P := fun n ss dn => MFold net0 n ss dn ∧ MClose net0 n ss dn)
    (fun mc hr hd h1 => ⟨mstep_inv mc.1 hr hd h1, mstep_close mc.1 mc.2 hr hd h1⟩) rs n ss arr dn ⟨m, c⟩ hrs hnd h

theorem MClose.pushPipe {net0 n : Net} {ss dn : List Nat} (m : MFold net0 n ss dn) (c : MClose net0 n ss dn)
    (p : Pipe) (hp : p.recvClosed = false) :
    MClose net0 (n.push (.pipe p)).1 (ss ++ [n.nodes.size]) dn :=
  closeInv_push_source m.sh _ c (.inl ⟨p, rfl, hp⟩) (fun y => by
    rw [mem_Hmid, mem_Hmid, List.mem_append, List.mem_singleton, or_assoc])

theorem MClose.pushMerge {net0 n : Net} {ss rs : List Nat} (m : MFold net0 n ss rs.reverse)
    (c : MClose net0 n ss rs.reverse) :
    FlagInv (n.push (.merge ss (List.range ss.length))).1
        (net0.readers.filter (fun r => !rs.contains r) ++ [n.nodes.size]) ∧
      CellInv (n.push (.merge ss (List.range ss.length))).1 := by
  refine closeInv_push_pass m.sh _ c (.inr ⟨_, _, rfl⟩) (fun u hu => m.srcLt hu)
    (fun u hu => mem_Hmid.mpr (.inr hu)) (fun y hy => ?_) (List.mem_append_right _ (List.mem_singleton_self _))
  rw [List.mem_append, mem_filter_kept, List.mem_singleton, mem_Hmid]
  constructor
  · rintro (h1 | h1)
    · exact ⟨.inl h1, fun hm => (m.ssOk y hm).2.2 h1⟩
    · exact absurd h1 (Nat.ne_of_lt hy)
  · rintro ⟨h1 | h1, h2⟩
    · exact .inl h1
    · exact absurd h1 h2

theorem applyOp_merge_closeInv {F : Facts} {fuel : Nat} {net net' : Net} {rs : List Nat} {cr : List Nat}
    (i : Inv net) (hc : CloseInv net) (h : applyOp F fuel net (.merge rs) = .ok (net', cr)) : CloseInv net' := by
  rcases applyOp_merge_cases h with rfl | ⟨hnd, hin, n2, id, hm, rfl⟩
  · exact hc
  obtain ⟨n1, ss1, arr1, hf, hfin⟩ := mkMerge_cases hm
  have c0 : MClose net net [] [] := by
    have := closeInvOn_iff.mp hc
    refine ⟨flagInv_mem_congr (fun y => ?_) this.1, this.2⟩
    rw [mem_Hmid]; simp
  obtain ⟨m1, c1⟩ := mfold_both rs net [] [] [] (MFold.init i) c0 (fun r hr => ⟨hin r hr, by simp⟩) hnd hf
  simp only [List.append_nil] at m1 c1
  rcases hfin with ⟨rfl, rfl, rfl⟩ | ⟨rfl, rfl⟩ | ⟨rfl, rfl⟩
  · -- only arrays: one array
    exact closeInv_of_nodes (a := (n1.push (.arr arr1)).1) rfl
      (closeInv_push_source m1.sh _ c1 (.inr ⟨_, rfl⟩) (fun y => by
        rw [List.mem_append, mem_filter_kept, List.mem_singleton, mem_Hmid, or_iff_left List.not_mem_nil]))
      (fun y => Iff.rfl)
  · exact closeInv_of_nodes (a := (n1.push (.merge ss1 (List.range ss1.length))).1) rfl
      (MClose.pushMerge m1 c1) (fun y => Iff.rfl)
  · -- the array items go into a closed pipe of their own, which is one more source
    exact closeInv_of_nodes (a := ((n1.push (.pipe ⟨arr1.length, arr1, true, false⟩)).1.push _).1) rfl
      (MClose.pushMerge (m1.pushPipe _) (MClose.pushPipe m1 c1 ⟨arr1.length, arr1, true, false⟩ rfl))
      (fun y => Iff.rfl)

end EinoV.C08
