/-
  C08 — every operation of the case language keeps the network well formed (`Inv`): sources,
  convert, and what the operations that build nothing do to the network.
-/
import EinoV.Proofs.C08Tree.Build
import EinoV.Proofs.C08
import EinoV.Proofs.Monadic
namespace EinoV.C08


theorem sameShape_with (net : Net) (R W : List Nat) : SameShape net { net with readers := R, writers := W } :=
  ⟨rfl, fun _ => rfl⟩

theorem StInv.with {net : Net} (h : StInv net) (R W : List Nat) : StInv { net with readers := R, writers := W } :=
  ⟨h.cursorLe, h.chosenLt, h.chosenNodup⟩

theorem RdInv.free' {net : Net} (h : RdInv net) {r : Nat} (hr : r ∈ net.readers) : Free net r :=
  fun j s hj => h.free r hr j s hj

theorem RdInv.lt {net : Net} (h : RdInv net) {r : Nat} (hr : r ∈ net.readers) : r < net.nodes.size := by
  obtain ⟨t, ht, _⟩ := h.kind r hr; exact shp?_lt ht

theorem held_up {net : Net} (i : Inv net) {r j : Nat} (hr : r ∈ net.readers) (hu : Up net j r) : j = r := by
  rcases hu.last with e | ⟨b, _, s, hs, he⟩
  · exact e
  · exfalso
    rcases he with he | he
    · exact i.rd.free r hr b s hs he
    · obtain ⟨t, ht, hk⟩ := i.rd.kind r hr
      obtain ⟨src, n, hp⟩ := i.sh.par_cell hs he
      rw [hp] at ht; cases ht; cases hk

theorem nodup_append_new {l : List Nat} {n : Nat} (h : l.Nodup) (hn : n ∉ l) : (l ++ [n]).Nodup := by
  rw [List.nodup_append]
  refine ⟨h, by simp, ?_⟩
  intro a ha b hb
  simp at hb; subst hb
  rintro rfl; exact hn ha

theorem Inv.push_new {net : Net} (sh : ShInv net) (st : StInv net) (x : Node) (hr : x.shp.isReader = true)
    (hpar : x.shp.par? = none) (htyp : Typed net x.shp) (hfree : ∀ u ∈ x.shp.uses, Free net u)
    (hnd : x.shp.uses.Nodup) (hok : NodeOK x) (R W : List Nat) (hR : R.Nodup)
    (hheld : ∀ r ∈ R, r ∉ x.shp.uses ∧ Free net r ∧ ∃ t, net.shp? r = some t ∧ t.isReader = true) :
    Inv { (net.push x).1 with readers := R ++ [net.nodes.size], writers := W } := by
  refine ⟨(sameShape_with _ _ W).shInv (sh.push_nopar x hpar htyp hfree hnd),
    ⟨fun r hr' j s hj => ?_, fun r hr' => ?_, nodup_append_new hR fun hm => ?_⟩, (st.push hok).with _ W⟩
  · change (net.push x).1.shp? j = some s at hj
    rcases List.mem_append.mp hr' with h | h
    · exact (hheld r h).2.1.push x (hheld r h).1 j s hj
    · cases List.mem_singleton.mp h
      exact free_new sh x (fun u hu => htyp.lt (.inl hu)) j s hj
  · change ∃ t, (net.push x).1.shp? r = some t ∧ _
    rcases List.mem_append.mp hr' with h | h
    · obtain ⟨_, _, t, ht, hk⟩ := hheld r h
      exact ⟨t, push_shp?_old x ht, hk⟩
    · cases List.mem_singleton.mp h
      exact ⟨x.shp, by rw [push_shp?]; simp, hr⟩
  · obtain ⟨_, _, t, ht, _⟩ := hheld _ hm
    exact Nat.lt_irrefl _ (shp?_lt ht)

theorem Inv.push_leaf {net : Net} (i : Inv net) (x : Node) (hr : x.shp.isReader = true)
    (hu : x.shp.uses = []) (hpar : x.shp.par? = none) (htyp : Typed net x.shp) (hok : NodeOK x) (W : List Nat) :
    Inv { (net.push x).1 with readers := net.readers ++ [net.nodes.size], writers := W } :=
  Inv.push_new i.sh i.st x hr hpar htyp (by simp [hu]) (by simp [hu]) hok _ W i.rd.nodup
    fun r hr' => ⟨by simp [hu], i.rd.free' hr', i.rd.kind r hr'⟩

theorem applyOp_pipe_inv {F : Facts} {fuel : Nat} {net net' : Net} {cap : Nat} {cr : List Nat}
    (i : Inv net) (h : applyOp F fuel net (.pipe cap) = .ok (net', cr)) : Inv net' := by
  simp only [applyOp] at h
  cases h
  exact i.push_leaf (.pipe (Pipe.new cap)) rfl rfl rfl trivial trivial _

theorem applyOp_arr_inv {F : Facts} {fuel : Nat} {net net' : Net} {items : List Nat} {cr : List Nat}
    (i : Inv net) (h : applyOp F fuel net (.arr items) = .ok (net', cr)) : Inv net' := by
  simp only [applyOp] at h
  cases h
  exact i.push_leaf (.arr _) rfl rfl rfl trivial trivial _

theorem applyOp_conv_cases {F : Facts} {fuel : Nat} {net net' : Net} {r : Nat} {g : ConvSpec} {cr : List Nat}
    (h : applyOp F fuel net (.conv r g) = .ok (net', cr)) :
    r ∈ net.readers ∧
      net' = { (net.push (.conv r g)).1 with readers := net.readers.erase r ++ [net.nodes.size] } := by
  simp only [applyOp] at h
  obtain ⟨hc, h⟩ := of_ite_error_eq_ok h
  cases h
  exact ⟨by simpa using hc, rfl⟩

theorem applyOp_conv_inv {F : Facts} {fuel : Nat} {net net' : Net} {r : Nat} {g : ConvSpec} {cr : List Nat}
    (i : Inv net) (h : applyOp F fuel net (.conv r g) = .ok (net', cr)) : Inv net' := by
  obtain ⟨hr, rfl⟩ := applyOp_conv_cases h
  refine Inv.push_new i.sh i.st (.conv r g) rfl rfl (i.rd.kind r hr) (fun u hu => ?_)
    (List.pairwise_singleton _ r) trivial _ _ (i.rd.nodup.erase r) fun r' hr' => ?_
  · cases mem_uses_conv.mp hu
    exact i.rd.free' hr
  · have := (i.rd.nodup.mem_erase_iff).mp hr'
    exact ⟨mt mem_uses_conv.mp this.1, i.rd.free' this.2, i.rd.kind r' this.2⟩

theorem getPipe_some {net : Net} {p : Nat} {x : Pipe} (h : getPipe net p = some x) :
    net.nodes[p]? = some (.pipe x) := by
  unfold getPipe at h
  split at h
  · rename_i y hy; cases h; exact hy
  · cases h

theorem resolveOne_closeLE {F : Facts} {fuel : Nat} {net net' : Net} {f : Nat}
    (h : resolveOne F fuel net f = some net') : CloseLE net net' := by
  unfold resolveOne at h
  split at h
  · rename_i src hf
    have l1 : CloseLE net (net.setNode f (.fpipe src .stopped)) :=
      CloseLE.setNode hf (.fpipe (by simp) (by simp))
    simp only at h
    split at h
    · exact l1.trans (closeAll_spec F fuel _ _ _ h).1
    · cases h; exact l1
  · cases h; exact .refl _

theorem resolveFold_closeLE {F : Facts} {fuel : Nat} {ps : List Nat} {net net' : Net}
    (h : ps.foldlM (resolveOne F fuel) net = some net') : CloseLE net net' :=
  foldlM_some_inv _ (CloseLE net) (fun _ _ _ _ l h1 => l.trans (resolveOne_closeLE h1)) (.refl _) h

theorem resolveReaching_induction {F : Facts} {fuel : Nat} {φ : Net → Prop}
    (round : ∀ {ps : List Nat} {net n1 : Net}, φ net → ps.foldlM (resolveOne F fuel) net = some n1 → φ n1)
    (r : Nat) : ∀ {net net' : Net} {p : Nat}, φ net → resolveReaching F fuel r net p = some net' → φ net' := by
  induction r with
  | zero => intro net net' p h0 h; simp [resolveReaching] at h; subst h; exact h0
  | succ r ih =>
    intro net net' p h0 h
    unfold resolveReaching at h
    split at h
    · cases h; exact h0
    · split at h
      · cases h; exact h0
      · simp only at h
        split at h
        · cases h; exact h0
        · split at h
          · cases h
          · rename_i n1 hf
            exact ih (round h0 hf) h

theorem resolveReaching_closeLE {F : Facts} {fuel : Nat} (r : Nat) : ∀ {net net' : Net} {p : Nat},
    resolveReaching F fuel r net p = some net' → CloseLE net net' := by
  intro net net' p h
  exact resolveReaching_induction (φ := CloseLE net) (fun l hf => l.trans (resolveFold_closeLE hf)) r (.refl _) h

/-- What `Send` on pipe `p` does. Accepted (`oc = false`): the item joins the buffer, also when the
    buffer is full and a forwarder is known to make room. Reported closed: nothing changes, or the
    forwarders that reach `p` and still have to notice do so. -/
theorem applyOp_send_ok {F : Facts} {fuel : Nat} {net net' : Net} {p : Nat} {it : Item} {oc : Bool}
    {cr : List Nat} (h : applyOp F fuel net (.send p it oc) = .ok (net', cr)) :
    ∃ x, net.nodes[p]? = some (.pipe x) ∧ x.sendClosed = false ∧
      ((oc = false ∧ net' = net.setNode p (.pipe { x with buf := x.buf ++ [it] })) ∨
       (oc = true ∧ (net' = net ∨ resolveReaching F fuel (net.nodes.size + 1) net p = some net'))) := by
  simp only [applyOp] at h
  obtain ⟨-, h⟩ := of_ite_error_eq_ok h
  cases hx : getPipe net p with
  | none => simp only [hx] at h; cases h
  | some x =>
  simp only [hx] at h
  obtain ⟨hsc, h⟩ := of_ite_error_eq_ok h
  refine ⟨x, getPipe_some hx, Bool.eq_false_iff.mpr hsc, ?_⟩
  cases oc with
  | false =>
    refine .inl ⟨rfl, ?_⟩
    rcases x.send_cases it with e | ⟨_, ⟨_, e⟩ | ⟨_, _, e⟩⟩ <;> simp only [e] at h
    · split at h <;> cases h
      rfl
    · cases h
    · cases h; rfl
  | true =>
    refine .inr ⟨rfl, ?_⟩
    rcases x.send_cases it with e | ⟨_, ⟨_, e⟩ | ⟨_, _, e⟩⟩ <;> simp only [e] at h
    rotate_left
    · cases h; exact .inl rfl
    -- reported closed although `x` is open for reading: the forwarders have noticed
    all_goals
      split at h
      · cases h
      · rename_i n1 hr
        split at h
        · split at h <;> cases h
          exact .inr hr
        · cases h

theorem applyOp_send_cases {F : Facts} {fuel : Nat} {net net' : Net} {p : Nat} {it : Item} {oc : Bool}
    {cr : List Nat} (h : applyOp F fuel net (.send p it oc) = .ok (net', cr)) :
    (oc = false ∧ ∃ x, net.nodes[p]? = some (.pipe x) ∧ x.sendClosed = false ∧
        net' = net.setNode p (.pipe { x with buf := x.buf ++ [it] })) ∨
    (oc = true ∧ CloseLE net net') := by
  obtain ⟨x, hx, hs, ⟨ho, e⟩ | ⟨ho, e⟩⟩ := applyOp_send_ok h
  · exact .inl ⟨ho, x, hx, hs, e⟩
  · exact .inr ⟨ho, e.elim (· ▸ .refl _) (resolveReaching_closeLE _)⟩

theorem applyOp_feed_cases {F : Facts} {fuel : Nat} {net net' : Net} {p : Nat} {its : List Item} {cr : List Nat}
    (h : applyOp F fuel net (.feed p its) = .ok (net', cr)) :
    ∃ x, net.nodes[p]? = some (.pipe x) ∧ x.sendClosed = false ∧
      net' = net.setNode p (.pipe { x with buf := x.buf ++ its }) := by
  simp only [applyOp] at h
  split at h
  · cases h
  · rename_i x hx
    obtain ⟨hs, h⟩ := of_ite_error_eq_ok h
    cases h
    exact ⟨x, getPipe_some hx, Bool.eq_false_iff.mpr hs, rfl⟩

theorem applyOp_closeSend_cases {F : Facts} {fuel : Nat} {net net' : Net} {p : Nat} {cr : List Nat}
    (h : applyOp F fuel net (.closeSend p) = .ok (net', cr)) :
    ∃ x, net.nodes[p]? = some (.pipe x) ∧ x.sendClosed = false ∧
      net' = net.setNode p (.pipe { x with sendClosed := true }) := by
  simp only [applyOp] at h
  obtain ⟨-, h⟩ := of_ite_error_eq_ok h
  split at h
  · cases h
  · rename_i x' hb
    cases h
    simp only [Option.bind_eq_some_iff] at hb
    obtain ⟨x, hx, hc⟩ := hb
    rcases x.closeSend_cases with e | ⟨hsc, e⟩ <;> rw [e] at hc <;> cases hc
    exact ⟨x, getPipe_some hx, hsc, rfl⟩

theorem applyOp_close_cases {F : Facts} {fuel : Nat} {net net' : Net} {r : Nat} {cr : List Nat}
    (h : applyOp F fuel net (.close r) = .ok (net', cr)) :
    r ∈ net.readers ∧ ∃ n1, closeAll F fuel net r = some n1 ∧
      net' = { n1 with readers := n1.readers.erase r } := by
  simp only [applyOp] at h
  obtain ⟨hc, h⟩ := of_ite_error_eq_ok h
  split at h
  · cases h
  · rename_i n1 hcl
    cases h
    exact ⟨by simpa using hc, n1, hcl, rfl⟩

theorem applyOp_recv_cases {F : Facts} {fuel : Nat} {net net' : Net} {r : Nat} {obs : Res} {cr : List Nat}
    (h : applyOp F fuel net (.recv r obs) = .ok (net', cr)) :
    r ∈ net.readers ∧ (obs, net') ∈ recvAll F fuel net r := by
  simp only [applyOp] at h
  obtain ⟨hc, h⟩ := of_ite_error_eq_ok h
  split at h
  · rename_i o ho
    cases h
    have he : o.1 = obs := by simpa using List.find?_some ho
    exact ⟨by simpa using hc, he ▸ List.mem_of_find?_eq_some ho⟩
  · split at h
    · cases h
    · split at h
      · cases h
      · split at h <;> cases h

theorem Inv.ofSameShape {net net' : Net} (i : Inv net) (hs : SameShape net net')
    (hr : net'.readers = net.readers) (hst : StInv net') : Inv net' :=
  ⟨hs.shInv i.sh, hs.rdInv hr i.rd, hst⟩

theorem Inv.setPipe {net : Net} (i : Inv net) {p : Nat} {x : Pipe} (hx : net.nodes[p]? = some (.pipe x))
    (y : Pipe) : Inv (net.setNode p (.pipe y)) :=
  i.ofSameShape (setNode_sameShape hx rfl) rfl (i.st.setNode (by trivial) _)

theorem Inv.closeLE {net net' : Net} (i : Inv net) (l : CloseLE net net') : Inv net' :=
  i.ofSameShape l.sameShape l.readers (l.stInv i.st)

theorem Inv.subReaders {net : Net} (i : Inv net) {R : List Nat} (hR : R.Sublist net.readers) (W : List Nat) :
    Inv { net with readers := R, writers := W } :=
  ⟨(sameShape_with net _ W).shInv i.sh,
    ⟨fun r hr => i.rd.free r (hR.subset hr), fun r hr => i.rd.kind r (hR.subset hr), i.rd.nodup.sublist hR⟩,
    i.st.with _ _⟩

theorem Inv.eraseReader {net : Net} (i : Inv net) (r : Nat) (W : List Nat) :
    Inv { net with readers := net.readers.erase r, writers := W } :=
  i.subReaders List.erase_sublist W

end EinoV.C08
