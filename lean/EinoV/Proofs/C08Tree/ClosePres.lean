/-
  C08 — the close invariant is kept by updates that change no closed flag, by a forwarding
  goroutine that exits, by every `Recv`, by forwarders that notice a close, and by `Close` of a
  held reader.
-/
import EinoV.Proofs.C08Tree.Release
set_option linter.unusedVariables false
namespace EinoV.C08


inductive SameStat : Node → Node → Prop where
  | refl (x : Node) : SameStat x x
  | pipe {p q : Pipe} : q.recvClosed = p.recvClosed → SameStat (.pipe p) (.pipe q)
  | arr {a b : List Item} : SameStat (.arr a) (.arr b)
  | merge {sts ch ch' : List Nat} : SameStat (.merge sts ch) (.merge sts ch')
  | parent {s : Nat} {c c' : CopyCore} : c'.cursors.length = c.cursors.length →
      (∀ i : Nat, cursorStat c'.cursors[i]? = cursorStat c.cursors[i]?) →
      c'.closedNum = c.closedNum → c'.srcClosed = c.srcClosed →
      c'.cursors.count none = c.cursors.count none → SameStat (.parent s c) (.parent s c')

theorem SameStat.shp {x y : Node} (h : SameStat x y) : y.shp = x.shp := by
  cases h <;> simp_all [Node.shp]

theorem SameStat.open {s : Nat} {c c' : CopyCore} (h : SameStat (.parent s c) (.parent s c')) :
    OpenCursor c' ↔ OpenCursor c := by
  cases h with
  | refl => exact Iff.rfl
  | parent _ hst _ _ _ =>
    rw [openCursor_stat, openCursor_stat]
    constructor
    · rintro ⟨i, hi⟩; exact ⟨i, by rw [← hst i]; exact hi⟩
    · rintro ⟨i, hi⟩; exact ⟨i, by rw [hst i]; exact hi⟩

theorem SameStat.holds {x y : Node} (h : SameStat x y) (u : Nat) : NewHolds y u ↔ NewHolds x u := by
  cases h with
  | refl => exact Iff.rfl
  | pipe _ | arr | merge => exact ⟨fun h => absurd h (not_holds rfl), fun h => absurd h (not_holds rfl)⟩
  | parent h1 h2 h3 h4 h5 => rw [holds_parent, holds_parent, SameStat.open (s := 0) (.parent h1 h2 h3 h4 h5)]

theorem rootClaimed_set_stat {net : Net} {H : List Nat} {i : Nat} {x y : Node}
    (hx : net.nodes[i]? = some x) (hs : SameStat x y) (u : Nat) :
    RootClaimed (net.setNode i y) H u ↔ RootClaimed net H u :=
  rootClaimed_set_iff hx (hs.holds u)

theorem stat_set_stat {net : Net} (sh : ShInv net) {i : Nat} {x y : Node}
    (hx : net.nodes[i]? = some x) (hs : SameStat x y) (k : Nat) :
    stat (net.setNode i y) k = stat net k := by
  cases hs with
  | refl => rw [setNode_self hx]
  | @pipe p q hpq =>
    by_cases e : k = i
    · subst e; rw [stat_pipe (setNode_get_self hx _), stat_pipe hx, hpq]
    · exact stat_setNode_ne sh _ hx (by simp) e
  | arr | merge =>
    by_cases e : k = i
    · subst e
      rw [stat_noflag (setNode_get_self hx _) rfl, stat_noflag hx rfl]
    · exact stat_setNode_ne sh _ hx (by simp) e
  | parent h1 h2 h3 h4 h5 => exact stat_setNode_cell hx fun idx _ => h2 idx

theorem closeInvOn_set_stat {net : Net} {H : List Nat} {S : Nat → Prop} (sh : ShInv net) {i : Nat} {x y : Node}
    (hx : net.nodes[i]? = some x) (hs : SameStat x y) (h : CloseInvOn net H S) :
    CloseInvOn (net.setNode i y) H S := by
  have hss : SameShape net (net.setNode i y) := setNode_sameShape hx hs.shp
  refine h.of_sameShape hss (fun k hk => ?_) (fun P src core hp => ?_)
  · rw [stat_set_stat sh hx hs k, claimed_congr hss (rootClaimed_set_stat hx hs) k]; exact h.flag k hk
  · rcases setNode_get_cases hp with hp | ⟨rfl, rfl⟩
    · exact .inl hp
    · cases hs with
      | refl => exact .inl hx
      | parent h1 h2 h3 h4 h5 => exact .inr (by rw [h3, h4, h5, h1]; exact h.cellCount P src _ hx)

theorem release_of_some {F : Facts} (g : GoodFacts F) {cf : Nat} {net n' : Net} {H : List Nat} {j : Nat}
    (i : ShInv net) (hH : ∀ r ∈ H, Free net r) (h : RelHyp net H j)
    (hk : ∃ t, net.shp? j = some t ∧ t.isReader = true) (hc : closeAll F cf net j = some n') :
    CloseInvOn n' H (fun _ => True) := by
  obtain ⟨net', hc', hinv⟩ := release g (max cf (j + 1)) net H j i hH (by omega) h hk
  have := closeAll_fuel_mono F hc (Nat.le_max_left cf (j + 1))
  rw [this] at hc'; cases hc'; exact hinv

theorem relHyp_fwd_exit {net : Net} {H : List Nat} {f src : Nat} {st st' : FwdSt}
    (i : ShInv net) (hH : ∀ r ∈ H, Free net r) (hinv : CloseInvOn net H (fun _ => True))
    (hf : net.nodes[f]? = some (.fpipe src st))
    (hs : (st = .running ∧ st' = .ended) ∨ (st = .pending ∧ st' = .stopped)) :
    RelHyp (net.setNode f (.fpipe src st')) H src := by
  have hclaimed : st = .running ∨ st = .pending := by rcases hs with ⟨h, _⟩ | ⟨h, _⟩ <;> simp [h]
  have hexit : ∀ u, ¬ NewHolds (.fpipe src st') u := by
    rcases hs with ⟨_, rfl⟩ | ⟨_, rfl⟩ <;> simp [holds_fpipe]
  refine relHyp_drop (d := f) i hH hinv hf rfl (holds_fpipe.mpr ⟨rfl, hclaimed⟩) hexit (fun _ _ => trivial)
    (fun k hk => stat_setNode_ne i _ hf (by simp) hk) (i.lt f src (edge_fwd hf)) (fun hto => ?_)
    (fun P s c hp => .inl (parent_of_setNode (by simp) hp))
  -- the flag of the forwarder: `ended` says nothing; `stopped` is closed, as `pending` was
  rw [stat_fwd (setNode_get_self hf _)]
  rcases hs with ⟨_, rfl⟩ | ⟨rfl, rfl⟩
  · simp [fwdStat]
  · refine ⟨by simp [fwdStat], fun _ hc => ?_⟩
    exact (hinv.flag f trivial).2 (by rw [stat_fwd hf]; simp [fwdStat]) (hto f hc)

theorem fwd_exit_release {net : Net} {H : List Nat} {f src : Nat} {st st' : FwdSt}
    (i : ShInv net) (hH : ∀ r ∈ H, Free net r) (hinv : CloseInvOn net H (fun _ => True))
    (hf : net.nodes[f]? = some (.fpipe src st))
    (hs : (st = .running ∧ st' = .ended) ∨ (st = .pending ∧ st' = .stopped)) :
    ShInv (net.setNode f (.fpipe src st')) ∧ (∀ r ∈ H, Free (net.setNode f (.fpipe src st')) r) ∧
    RelHyp (net.setNode f (.fpipe src st')) H src ∧
    ∃ t, (net.setNode f (.fpipe src st')).shp? src = some t ∧ t.isReader = true := by
  have hss : SameShape net (net.setNode f (.fpipe src st')) := setNode_sameShape hf rfl
  obtain ⟨t, ht, hk⟩ := i.fwdSrc f src (shp?_some hf)
  exact ⟨hss.shInv i, fun r hr => free_of_sameShape hss (hH r hr), relHyp_fwd_exit i hH hinv hf hs,
    t, (hss.2 src).trans ht, hk⟩

/-- the forwarder exits on `io.EOF` and closes its source -/
theorem fwdEnd_closeInv {F : Facts} (g : GoodFacts F) {cf : Nat} {n1 n' : Net} {H : List Nat} {sid src : Nat}
    (i : ShInv n1) (hH : ∀ r ∈ H, Free n1 r) (hinv : CloseInvOn n1 H (fun _ => True))
    (hf : n1.nodes[sid]? = some (.fpipe src .running)) (h : fwdEnd F cf n1 sid src = some n') :
    CloseInvOn n' H (fun _ => True) := by
  obtain ⟨i1, hH1, hrel, hk⟩ := fwd_exit_release (st' := .ended) i hH hinv hf (.inl ⟨rfl, rfl⟩)
  unfold fwdEnd at h
  rw [g.fwd, if_pos rfl] at h
  exact release_of_some g i1 hH1 hrel hk h

theorem Pipe.recv_recvClosed {p p' : Pipe} {r : Res} (h : p.recv = some (p', r)) : p'.recvClosed = p.recvClosed := by
  rcases Pipe.recv_some h with ⟨x, rest, _, _, rfl⟩ | ⟨_, _, _, rfl⟩ <;> rfl

theorem sameStat_have {src : Nat} {c c' : CopyCore} {idx : Nat} {r : Res}
    (h : c.peekLocal goodCopy idx = .have r c') : SameStat (.parent src c) (.parent src c') := by
  obtain ⟨k, hk, h | h⟩ := peek_have h
  · obtain ⟨it, hit, _, rfl⟩ := h
    exact .parent (by simp) (cursorStat_set_some hk (k + 1)) rfl rfl (count_none_set_some hk)
  · obtain ⟨_, _, _, rfl⟩ := h; exact .refl _

theorem sameStat_fill {src : Nat} {c : CopyCore} {idx k : Nat} (r : Res)
    (h : c.peekLocal goodCopy idx = .fill k) : SameStat (.parent src c) (.parent src (c.fill idx k r)) := by
  obtain ⟨hk, _, _⟩ := peek_fill h
  cases r with
  | eof => exact .parent rfl (fun _ => rfl) rfl rfl rfl
  | item it =>
    exact .parent (fill_length c idx k _) (cursorStat_set_some hk (k + 1)) rfl rfl (count_none_set_some hk)

theorem RecvSet.sameStat {F : Facts} (hF : F.copy = goodCopy) {x y : Node} (h : RecvSet F x y) :
    SameStat x y := by
  cases h with
  | pipe hr => exact .pipe (Pipe.recv_recvClosed hr)
  | arr => exact .arr
  | «have» hk => exact sameStat_have (hF ▸ hk)
  | fill r hk => exact sameStat_fill r (hF ▸ hk)
  | erase sb => exact .merge

theorem Recv.closeInv {F : Facts} (g : GoodFacts F) {net net' : Net} {id : Nat} {r : Res} {tr : List (Nat × Item)}
    (h : Recv F net id r net' tr) {H : List Nat} (i : ShInv net) (hH : ∀ r ∈ H, Free net r)
    (hinv : CloseInvOn net H (fun _ => True)) : CloseInvOn net' H (fun _ => True) :=
  (h.induction (φ := fun n => (∀ r ∈ H, Free n r) ∧ CloseInvOn n H (fun _ => True))
    (fun i h hx hs =>
      have st := hs.sameStat g.copy
      ⟨fun r hr => free_of_sameShape (setNode_sameShape hx st.shp) (h.1 r hr), closeInvOn_set_stat i hx st h.2⟩)
    (fun i h hf hfe =>
      ⟨fun r hr => free_of_sameShape (fwdEnd_spec hf hfe).1 (h.1 r hr), fwdEnd_closeInv g i h.1 h.2 hf hfe⟩)
    i ⟨hH, hinv⟩).2

theorem resolveOne_closeInv {F : Facts} (g : GoodFacts F) {fuel : Nat} {net net' : Net} {H : List Nat} {f : Nat}
    (i : ShInv net) (hH : ∀ r ∈ H, Free net r) (hinv : CloseInvOn net H (fun _ => True))
    (h : resolveOne F fuel net f = some net') : CloseInvOn net' H (fun _ => True) := by
  unfold resolveOne at h
  split at h
  · rename_i src hf
    simp only [g.fwd, if_true] at h
    obtain ⟨i1, hH1, hrel, hk⟩ := fwd_exit_release (st' := .stopped) i hH hinv hf (.inr ⟨rfl, rfl⟩)
    exact release_of_some g i1 hH1 hrel hk h
  · cases h; exact hinv

theorem resolveFold_closeInv {F : Facts} (g : GoodFacts F) {fuel : Nat} {H : List Nat} {ps : List Nat}
    {net net' : Net} (h0 : ShInv net ∧ (∀ r ∈ H, Free net r) ∧ CloseInvOn net H (fun _ => True))
    (h : ps.foldlM (resolveOne F fuel) net = some net') :
    ShInv net' ∧ (∀ r ∈ H, Free net' r) ∧ CloseInvOn net' H (fun _ => True) := by
  refine foldlM_some_inv _ (fun n => ShInv n ∧ (∀ r ∈ H, Free n r) ∧ CloseInvOn n H (fun _ => True))
    (fun n f n' _ ⟨i, hH, hinv⟩ h1 => ?_) h0 h
  have ss := (resolveOne_closeLE h1).sameShape
  exact ⟨ss.shInv i, fun r hr => free_of_sameShape ss (hH r hr), resolveOne_closeInv g i hH hinv h1⟩

theorem resolveReaching_closeInv {F : Facts} (g : GoodFacts F) {fuel : Nat} {H : List Nat} (r : Nat) :
    ∀ {net net' : Net} {p : Nat}, ShInv net → (∀ r ∈ H, Free net r) →
      CloseInvOn net H (fun _ => True) → resolveReaching F fuel r net p = some net' →
      CloseInvOn net' H (fun _ => True) := by
  intro net net' p i hH hinv h
  exact (resolveReaching_induction (resolveFold_closeInv g) r ⟨i, hH, hinv⟩ h).2.2

theorem relHyp_close {net : Net} {r : Nat} (i : Inv net) (hinv : CloseInv net) (hr : r ∈ net.readers) :
    RelHyp net (net.readers.erase r) r := by
  have hnr : r ∉ net.readers.erase r := fun hm => ((i.rd.nodup.mem_erase_iff).mp hm).1 rfl
  have hroot : ∀ u, RootClaimed net (net.readers.erase r) u → RootClaimed net net.readers u :=
    fun u h => h.imp_left List.mem_of_mem_erase
  have hroot' : ∀ u, u ≠ r → RootClaimed net net.readers u → RootClaimed net (net.readers.erase r) u :=
    fun u hu h => h.imp_left (List.mem_erase_of_ne hu).mpr
  refine ⟨⟨fun k hk => ?_, hinv.cellKids, hinv.cellCount⟩, fun k hk => ?_, fun j' hj' => ?_⟩
  · have hfl := hinv.flag k trivial
    refine ⟨fun ho => ?_, fun hcl hc' => hfl.2 hcl ?_⟩
    · obtain ⟨j', hu, hc'⟩ := hfl.1 ho
      exact ⟨j', hu, hroot' j' (by rintro rfl; exact hk hu) hc'⟩
    · obtain ⟨j', hu, hc''⟩ := hc'
      exact ⟨j', hu, hroot j' hc''⟩
  · intro hcl
    exact (hinv.flag k trivial).2 hcl ⟨r, hk, .inl hr⟩
  · obtain rfl := held_up i hr hj'.up
    intro hrc
    rcases rootClaimed_iff.mp hrc with h | ⟨k, x, hk, hx⟩
    · exact hnr h
    · exact i.rd.free j' hr k _ (shp?_some hk) hx.uses

theorem close_closeInv {F : Facts} (g : GoodFacts F) {fuel : Nat} {net n1 : Net} {r : Nat}
    (i : Inv net) (hinv : CloseInv net) (hr : r ∈ net.readers) (hc : closeAll F fuel net r = some n1) :
    CloseInvOn n1 (net.readers.erase r) (fun _ => True) :=
  release_of_some g i.sh (fun r' hr' => i.rd.free' (List.mem_of_mem_erase hr')) (relHyp_close i hinv hr)
    (i.rd.kind r hr) hc

end EinoV.C08
