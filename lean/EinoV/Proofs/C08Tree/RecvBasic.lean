/-
  C08 — `Recv` (relational semantics) keeps the shape and touches only what the reader is built
  on; on a well-formed network it is a sequence of changes of single nodes and of forwarders that
  exit (`Recv.induction`), hence keeps the state invariant; its trace only mentions nodes the
  reader is built on.
-/
import EinoV.Proofs.C08Tree.Close
set_option linter.unusedVariables false
namespace EinoV.C08

theorem setNode_sameShape' {net : Net} {i : Nat} {s : Shp} {x : Node} (h : net.shp? i = some s)
    (hs : x.shp = s) : SameShape net (net.setNode i x) := by
  obtain ⟨nd, hnd, hsh⟩ := shp?_eq_some h
  exact setNode_sameShape hnd (hs.trans hsh.symm)

theorem not_up_of_lt {net : Net} (i : ShInv net) {a b : Nat} (h : a < b) : ¬ Up net a b := fun hu => by
  have := hu.le i; omega

theorem fill_length (c : CopyCore) (idx k : Nat) (r : Res) : (c.fill idx k r).cursors.length = c.cursors.length := by
  cases r <;> simp [CopyCore.fill]

theorem peekLocal_have_length {f : CopyFacts} {c c' : CopyCore} {idx : Nat} {r : Res}
    (h : c.peekLocal f idx = .have r c') : c'.cursors.length = c.cursors.length := by
  unfold CopyCore.peekLocal at h
  split at h <;> try cases h
  split at h <;> try cases h
  split at h
  · cases h; simp
  · split at h <;> cases h
    rfl

theorem merge_erase_sameShape {net : Net} {id : Nat} {sts chosen : List Nat}
    (hn : net.nodes[id]? = some (.merge sts chosen)) (sb : Nat) :
    SameShape net (net.setNode id (.merge sts (chosen.erase sb))) := setNode_sameShape hn rfl

theorem fwdEnd_closeLE {F : Facts} {cf : Nat} {n1 n' : Net} {sid src : Nat}
    (h : fwdEnd F cf n1 sid src = some n') :
    CloseLE (n1.setNode sid (.fpipe src .ended)) n' ∧
      ∀ k, ¬ Up (n1.setNode sid (.fpipe src .ended)) src k →
        n'.nodes[k]? = (n1.setNode sid (.fpipe src .ended)).nodes[k]? := by
  unfold fwdEnd at h
  split at h
  · exact closeAll_spec F cf _ _ _ h
  · cases h; exact ⟨.refl _, fun _ _ => rfl⟩

theorem fwdEnd_spec {F : Facts} {cf : Nat} {n1 n' : Net} {sid src : Nat} {st : FwdSt}
    (hn : n1.nodes[sid]? = some (.fpipe src st)) (h : fwdEnd F cf n1 sid src = some n') :
    SameShape n1 n' ∧ n'.readers = n1.readers :=
  have l := (fwdEnd_closeLE h).1
  ⟨(setNode_sameShape (x := .fpipe src .ended) hn rfl).trans l.sameShape, l.readers⟩

theorem Recv.sameShape {F : Facts} {net net' : Net} {id : Nat} {r : Res} {tr : List (Nat × Item)}
    (h : Recv F net id r net' tr) : SameShape net net' ∧ net'.readers = net.readers := by
  induction h with
  | pipe hn _ => exact ⟨setNode_sameShape hn rfl, rfl⟩
  | arrItem hn => exact ⟨setNode_sameShape hn rfl, rfl⟩
  | arrEof _ => exact ⟨.refl _, rfl⟩
  | convEof _ _ ih => exact ih
  | convItem _ _ _ ih => exact ih
  | convSkip _ _ _ _ ih1 ih2 => exact ⟨ih1.1.trans ih2.1, ih2.2.trans ih1.2⟩
  | childHave hn hp hk =>
    exact ⟨setNode_sameShape hp (shp_parent_congr (peekLocal_have_length hk)), rfl⟩
  | @childFill net n1 id par idx src k core r tr hn hp hk _ ih =>
    have hs : n1.shp? par = some (.parent src core.cursors.length) := by
      rw [ih.1.2]; exact shp?_some hp
    exact ⟨ih.1.trans (setNode_sameShape' hs (shp_parent_congr (fill_length core idx k _))), ih.2⟩
  | mergeEof _ => exact ⟨.refl _, rfl⟩
  | mergePipeItem _ _ _ hp _ => exact ⟨setNode_sameShape hp rfl, rfl⟩
  | mergeFwdItem _ _ _ _ _ ih => exact ih
  | mergeDropPipe hn _ _ _ _ _ ih => exact ⟨(merge_erase_sameShape hn _).trans ih.1, ih.2⟩
  | @mergeDropFwd net n1 n' n2 id sb sid src cf sts chosen r tr1 tr2 hn _ _ hs _ hf _ ih1 ih2 =>
    obtain ⟨st, hnd⟩ := shp?_fpipe (ih1.1.2 sid ▸ shp?_some hs)
    obtain ⟨s2, r2⟩ := fwdEnd_spec hnd hf
    have hm : n'.shp? id = some (.merge sts) := by
      rw [s2.2, ih1.1.2]; exact shp?_some hn
    have s3 : SameShape n' (n'.setNode id (.merge sts (chosen.erase sb))) := setNode_sameShape' hm rfl
    exact ⟨ih1.1.trans (s2.trans (s3.trans ih2.1)), ih2.2.trans (r2.trans ih1.2)⟩
  | mergeDropEnded hn _ _ _ _ ih => exact ⟨(merge_erase_sameShape hn _).trans ih.1, ih.2⟩

theorem fwdEnd_footprint {F : Facts} {cf : Nat} {n1 n' : Net} {sid src : Nat} {st : FwdSt}
    (hn : n1.nodes[sid]? = some (.fpipe src st)) (h : fwdEnd F cf n1 sid src = some n') :
    ∀ k, ¬ Up n1 sid k → n'.nodes[k]? = n1.nodes[k]? := by
  intro k hk
  have s1 : SameShape n1 (n1.setNode sid (.fpipe src .ended)) := setNode_sameShape hn rfl
  rw [(fwdEnd_closeLE h).2 k fun hu => hk (.step (edge_fwd hn) (s1.up.mp hu))]
  exact setNode_get_off (.refl _) hk _

theorem Recv.footprint {F : Facts} {net net' : Net} {id : Nat} {r : Res} {tr : List (Nat × Item)}
    (h : Recv F net id r net' tr) : ∀ k, ¬ Up net id k → net'.nodes[k]? = net.nodes[k]? := by
  induction h with
  | pipe hn _ => intro k hk; exact setNode_get_off (.refl _) hk _
  | arrItem hn => intro k hk; exact setNode_get_off (.refl _) hk _
  | arrEof _ => intro k _; rfl
  | convEof hn _ ih => intro k hk; exact ih k fun hu => hk (.step (edge_conv hn) hu)
  | convItem hn _ _ ih => intro k hk; exact ih k fun hu => hk (.step (edge_conv hn) hu)
  | convSkip hn h1 _ _ ih1 ih2 =>
    intro k hk
    rw [ih2 k fun hu => hk (h1.sameShape.1.up.mp hu), ih1 k fun hu => hk (.step (edge_conv hn) hu)]
  | childHave hn hp hk =>
    intro k hk; exact setNode_get_off (.single (edge_child hn)) hk _
  | childFill hn hp hk _ ih =>
    intro k hk
    rw [setNode_get_off (.single (edge_child hn)) hk _]
    exact ih k fun hu => hk (.step (edge_child hn) (.step (edge_parent hp) hu))
  | mergeEof _ => intro k _; rfl
  | mergePipeItem hn _ hs hp _ =>
    intro k hk
    exact setNode_get_off (.single (edge_merge_get hn hs)) hk _
  | mergeFwdItem hn _ hs hf _ ih =>
    intro k hk
    exact ih k fun hu => hk (.step (edge_merge_get hn hs) (.step (edge_fwd hf) hu))
  | mergeDropPipe hn _ _ _ _ _ ih =>
    intro k hk
    rw [ih k fun hu => hk ((merge_erase_sameShape hn _).up.mp hu)]
    exact setNode_get_off (.refl _) hk _
  | @mergeDropFwd net n1 n' n2 id sb sid src cf sts chosen r tr1 tr2 hn hsb hs hf h1 hfe h2 ih1 ih2 =>
    intro k hk
    obtain ⟨st, hnd⟩ := shp?_fpipe (h1.sameShape.1.2 sid ▸ shp?_some hf)
    -- the second `Recv` starts in a network of the shape of `net`
    have ss := (Recv.mergeDropFwd hn hsb hs hf h1 hfe h2).sameShape.1.trans h2.sameShape.1.symm
    have e1 : Edge net id sid := edge_merge_get hn hs
    rw [ih2 k fun hu => hk (ss.up.mp hu), setNode_get_off (.refl _) hk _,
      fwdEnd_footprint hnd hfe k fun hu => hk (.step e1 (h1.sameShape.1.up.mp hu))]
    exact ih1 k fun hu => hk (.step e1 (.step (edge_fwd hf) hu))
  | mergeDropEnded hn _ _ _ _ ih =>
    intro k hk
    rw [ih k fun hu => hk ((merge_erase_sameShape hn _).up.mp hu)]
    exact setNode_get_off (.refl _) hk _

theorem Recv.fwdEnd_frame {F : Facts} {net n1 n' : Net} {sid src cf : Nat} {r : Res} {tr : List (Nat × Item)}
    (h : Recv F net src r n1 tr) (i : ShInv net) (hf : net.nodes[sid]? = some (.fpipe src .running))
    (hfe : fwdEnd F cf n1 sid src = some n') :
    n1.nodes[sid]? = some (.fpipe src .running) ∧ SameShape net n' ∧
      ∀ k, sid < k → n'.nodes[k]? = net.nodes[k]? := by
  have lt := i.lt _ _ (edge_fwd hf)
  have hf1 := (h.footprint _ (not_up_of_lt i lt)).trans hf
  refine ⟨hf1, h.sameShape.1.trans (fwdEnd_spec hf1 hfe).1, fun k hk => ?_⟩
  rw [fwdEnd_footprint hf1 hfe k (not_up_of_lt (h.sameShape.1.shInv i) hk)]
  exact h.footprint k (not_up_of_lt i (Nat.lt_trans lt hk))

/-- The changes one `Recv` call makes to a single node: a pipe answers (`Pipe.recv`), an array gives
    up its head, the cell of a copy moves a cursor over an element it has (`have`) or records what its
    source returned (`fill`), a merged reader drops a source that ended. A whole call is a sequence
    of these and of forwarders that exit (`Recv.induction`). -/
inductive RecvSet (F : Facts) : Node → Node → Prop where
  | pipe {p p' : Pipe} {r : Res} : p.recv = some (p', r) → RecvSet F (.pipe p) (.pipe p')
  | arr {x : Item} {rest : List Item} : RecvSet F (.arr (x :: rest)) (.arr rest)
  | have {src idx : Nat} {core c' : CopyCore} {r : Res} :
      core.peekLocal F.copy idx = .have r c' → RecvSet F (.parent src core) (.parent src c')
  | fill {src idx k : Nat} {core : CopyCore} (r : Res) :
      core.peekLocal F.copy idx = .fill k → RecvSet F (.parent src core) (.parent src (core.fill idx k r))
  | erase {sts chosen : List Nat} (sb : Nat) : RecvSet F (.merge sts chosen) (.merge sts (chosen.erase sb))

/-- Well-formedness is what makes the cell of a copy, the forwarder and the merged reader still be
    there, unchanged, when the `Recv` on their source returns. -/
theorem Recv.induction {F : Facts} {φ : Net → Prop}
    (set : ∀ {net : Net} {i : Nat} {x y : Node}, ShInv net → φ net → net.nodes[i]? = some x →
      RecvSet F x y → φ (net.setNode i y))
    (fwd : ∀ {n1 n' : Net} {sid src cf : Nat}, ShInv n1 → φ n1 → n1.nodes[sid]? = some (.fpipe src .running) →
      fwdEnd F cf n1 sid src = some n' → φ n')
    {net net' : Net} {id : Nat} {r : Res} {tr : List (Nat × Item)}
    (h : Recv F net id r net' tr) (i : ShInv net) (h0 : φ net) : φ net' := by
  induction h with
  | pipe hn hr => exact set i h0 hn (.pipe hr)
  | arrItem hn => exact set i h0 hn .arr
  | arrEof _ => exact h0
  | convEof _ _ ih => exact ih i h0
  | convItem _ _ _ ih => exact ih i h0
  | convSkip _ h1 _ _ ih1 ih2 => exact ih2 (h1.sameShape.1.shInv i) (ih1 i h0)
  | childHave _ hp hk => exact set i h0 hp (.have hk)
  | childFill _ hp hk hr ih =>
    have hp1 := (hr.footprint _ (not_up_of_lt i (i.lt _ _ (edge_parent hp)))).trans hp
    exact set (hr.sameShape.1.shInv i) (ih i h0) hp1 (.fill _ hk)
  | mergeEof _ => exact h0
  | mergePipeItem _ _ _ hp hr => exact set i h0 hp (.pipe hr)
  | mergeFwdItem _ _ _ _ _ ih => exact ih i h0
  | mergeDropPipe hn _ _ _ _ _ ih =>
    exact ih ((merge_erase_sameShape hn _).shInv i) (set i h0 hn (.erase _))
  | mergeDropFwd hn _ hs hf hr1 hfe _ ih1 ih2 =>
    obtain ⟨hf1, ss, same⟩ := hr1.fwdEnd_frame i hf hfe
    have hn' := (same _ (i.lt _ _ (edge_merge_get hn hs))).trans hn
    have i' := ss.shInv i
    exact ih2 ((merge_erase_sameShape hn' _).shInv i')
      (set i' (fwd (hr1.sameShape.1.shInv i) (ih1 i h0) hf1 hfe) hn' (.erase _))
  | mergeDropEnded hn _ _ _ _ ih =>
    exact ih ((merge_erase_sameShape hn _).shInv i) (set i h0 hn (.erase _))

def NodeOK : Node → Prop
  | .parent _ core => ∀ (i k : Nat), core.cursors[i]? = some (some k) → k ≤ core.log.length
  | .merge sts chosen => (∀ sb ∈ chosen, sb < sts.length) ∧ chosen.Nodup
  | _ => True

theorem stInv_iff {net : Net} : StInv net ↔ ∀ (j : Nat) (nd : Node), net.nodes[j]? = some nd → NodeOK nd := by
  constructor
  · intro h j nd hj
    cases nd with
    | parent src core => exact h.cursorLe j src core hj
    | merge sts chosen => exact ⟨h.chosenLt j sts chosen hj, h.chosenNodup j sts chosen hj⟩
    | _ => trivial
  · intro h
    exact ⟨fun j src core hj => h j _ hj, fun j sts chosen hj => (h j _ hj).1, fun j sts chosen hj => (h j _ hj).2⟩

theorem StInv.setNode {net : Net} (h : StInv net) {x : Node} (hx : NodeOK x) (i : Nat) : StInv (net.setNode i x) := by
  rw [stInv_iff] at h ⊢
  intro j nd hj
  rcases setNode_get_cases hj with hj | ⟨_, rfl⟩
  · exact h j nd hj
  · exact hx

theorem NodeLE.ok {a b : Node} (l : NodeLE a b) (h : NodeOK a) : NodeOK b := by
  cases l with
  | refl => exact h
  | pipe => trivial
  | parent e1 e2 e3 e4 =>
    intro i k hk
    rw [e1]
    rcases e4 i with e | e
    · exact h i k (e ▸ hk)
    · rw [hk] at e; cases e
  | fpipe => trivial

theorem CloseLE.stInv {a b : Net} (l : CloseLE a b) (h : StInv a) : StInv b := by
  rw [stInv_iff] at h ⊢
  intro j nd hj
  obtain ⟨x, hx, le⟩ := l.back hj
  exact le.ok (h j x hx)

theorem peek_have {c c' : CopyCore} {idx : Nat} {r : Res} (h : c.peekLocal goodCopy idx = .have r c') :
    ∃ k, c.cursors[idx]? = some (some k) ∧
      ((∃ it, c.log[k]? = some it ∧ r = .item it ∧ c' = { c with cursors := c.cursors.set idx (some (k + 1)) }) ∨
       (c.log[k]? = none ∧ c.eofSeen = true ∧ r = .eof ∧ c' = c)) := by
  rcases CopyCore.peekLocal_cases (f := goodCopy) rfl c idx with
    ⟨e, _⟩ | ⟨k, hk, ⟨it, hl, e⟩ | ⟨hl, he, e⟩ | ⟨hl, he, e⟩⟩ <;> rw [e] at h <;> cases h
  · exact ⟨k, hk, .inl ⟨it, hl, rfl, rfl⟩⟩
  · exact ⟨k, hk, .inr ⟨hl, he, rfl, rfl⟩⟩

theorem peek_fill {c : CopyCore} {idx k : Nat} (h : c.peekLocal goodCopy idx = .fill k) :
    c.cursors[idx]? = some (some k) ∧ c.log[k]? = none ∧ c.eofSeen = false := by
  rcases CopyCore.peekLocal_cases (f := goodCopy) rfl c idx with
    ⟨e, _⟩ | ⟨k', hk, ⟨it, hl, e⟩ | ⟨hl, he, e⟩ | ⟨hl, he, e⟩⟩ <;> rw [e] at h <;> cases h
  exact ⟨hk, hl, he⟩

theorem peek_cases {c : CopyCore} {idx k : Nat} (h : c.cursors[idx]? = some (some k)) :
    (∃ r c', c.peekLocal goodCopy idx = .have r c') ∨ c.peekLocal goodCopy idx = .fill k := by
  rcases CopyCore.peekLocal_cases (f := goodCopy) rfl c idx with
    ⟨_, hn⟩ | ⟨k', hk', ⟨_, _, e⟩ | ⟨_, _, e⟩ | ⟨_, _, e⟩⟩
  · exact absurd h (hn k)
  · exact .inl ⟨_, _, e⟩
  · exact .inl ⟨_, _, e⟩
  · cases hk'.symm.trans h; exact .inr e

theorem NodeOK.have {src : Nat} {c c' : CopyCore} {idx : Nat} {r : Res}
    (h : c.peekLocal goodCopy idx = .have r c') (ok : NodeOK (.parent src c)) : NodeOK (.parent src c') := by
  obtain ⟨k, hk, h | h⟩ := peek_have h
  · obtain ⟨it, hit, _, rfl⟩ := h
    intro i k' hk'
    simp only [List.getElem?_set] at hk'
    split at hk'
    · split at hk'
      · cases hk'
        rcases List.getElem?_eq_some_iff.mp hit with ⟨hlt, _⟩
        exact hlt
      · cases hk'
    · exact ok i k' hk'
  · obtain ⟨_, _, _, rfl⟩ := h; exact ok

theorem fill_log {c : CopyCore} {idx k : Nat} (hk : c.peekLocal goodCopy idx = .fill k)
    (ok : ∀ (i k : Nat), c.cursors[i]? = some (some k) → k ≤ c.log.length) :
    k = c.log.length := by
  obtain ⟨h1, h2, _⟩ := peek_fill hk
  have := ok idx k h1
  have := List.getElem?_eq_none_iff.mp h2
  omega

def Res.items : Res → List Item
  | .item x => [x]
  | .eof => []

theorem fill_spec {c : CopyCore} {idx k : Nat} (hk : c.peekLocal goodCopy idx = .fill k)
    (ok : ∀ (i k : Nat), c.cursors[i]? = some (some k) → k ≤ c.log.length) (r : Res) :
    (c.fill idx k r).log = c.log ++ r.items ∧ (c.fill idx k r).eofSeen = r.isEof ∧
    ∀ i : Nat, (c.fill idx k r).cursors[i]? =
      if i = idx then some (some (c.log.length + r.items.length)) else c.cursors[i]? := by
  obtain ⟨hc, _, heof⟩ := peek_fill hk
  obtain rfl := fill_log hk ok
  have hidx := (List.getElem?_eq_some_iff.mp hc).1
  cases r with
  | item x =>
    refine ⟨by simp [CopyCore.fill, Res.items], heof, fun i => ?_⟩
    simp only [CopyCore.fill, Res.items, List.getElem?_set]
    by_cases e : i = idx
    · subst e; simp [hidx]
    · simp [e, Ne.symm e]
  | eof =>
    refine ⟨by simp [CopyCore.fill, Res.items], rfl, fun i => ?_⟩
    by_cases e : i = idx
    · subst e; simpa [CopyCore.fill, Res.items] using hc
    · simp [e, CopyCore.fill]

theorem NodeOK.fill {src : Nat} {c : CopyCore} {idx k : Nat} (r : Res)
    (hk : c.peekLocal goodCopy idx = .fill k) (ok : NodeOK (.parent src c)) :
    NodeOK (.parent src (c.fill idx k r)) := by
  obtain ⟨hlog, _, hcur⟩ := fill_spec hk ok r
  intro i k' hk'
  rw [hcur] at hk'
  rw [hlog, List.length_append]
  split at hk'
  · cases hk'; exact Nat.le_refl _
  · exact Nat.le_trans (ok i k' hk') (Nat.le_add_right _ _)

theorem up_parent_not {net : Net} (i : ShInv net) {par src : Nat} {core : CopyCore}
    (hp : net.nodes[par]? = some (.parent src core)) : ¬ Up net src par :=
  not_up_of_lt i (i.lt _ _ (edge_parent hp))

theorem fwdEnd_stInv {F : Facts} {cf : Nat} {n1 n' : Net} {sid src : Nat} {st : FwdSt}
    (hn : n1.nodes[sid]? = some (.fpipe src st)) (h : fwdEnd F cf n1 sid src = some n') (hst : StInv n1) :
    StInv n' :=
  (fwdEnd_closeLE h).1.stInv (hst.setNode (by trivial) _)

theorem NodeOK.erase {sts chosen : List Nat} (sb : Nat) (h : NodeOK (.merge sts chosen)) :
    NodeOK (.merge sts (chosen.erase sb)) :=
  ⟨fun x hx => h.1 x (List.mem_of_mem_erase hx), h.2.erase sb⟩

theorem StInv.eraseChosen {net : Net} (h : StInv net) {id : Nat} {sts chosen : List Nat}
    (hn : net.nodes[id]? = some (.merge sts chosen)) (sb : Nat) :
    StInv (net.setNode id (.merge sts (chosen.erase sb))) :=
  h.setNode (NodeOK.erase sb (stInv_iff.mp h _ _ hn)) _

theorem RecvSet.ok {F : Facts} (hF : F.copy = goodCopy) {x y : Node} (h : RecvSet F x y)
    (ok : NodeOK x) : NodeOK y := by
  cases h with
  | pipe _ => trivial
  | arr => trivial
  | «have» hk => exact NodeOK.have (hF ▸ hk) ok
  | fill r hk => exact NodeOK.fill r (hF ▸ hk) ok
  | erase sb => exact NodeOK.erase sb ok

theorem Recv.stInv {F : Facts} (hF : F.copy = goodCopy) {net net' : Net} {id : Nat} {r : Res}
    {tr : List (Nat × Item)} (h : Recv F net id r net' tr) (hsh : ShInv net) (hst : StInv net) : StInv net' :=
  h.induction (φ := StInv)
    (fun _ hst hx hs => hst.setNode (hs.ok hF (stInv_iff.mp hst _ _ hx)) _)
    (fun _ hst hf hfe => fwdEnd_stInv hf hfe hst) hsh hst

theorem ofSrc_nil_of {k : Nat} {tr : List (Nat × Item)} (h : ∀ e ∈ tr, e.1 ≠ k) : ofSrc k tr = [] := by
  unfold ofSrc
  rw [List.filterMap_eq_nil_iff]
  intro e he
  simp [h e he]

theorem ofSrc_app (k : Nat) (a b : List (Nat × Item)) : ofSrc k (a ++ b) = ofSrc k a ++ ofSrc k b := by
  simp [ofSrc, List.filterMap_append]

theorem ofSrc_tag_self (k : Nat) (r : Res) : ofSrc k (tag k r) = r.items := by
  cases r <;> simp [ofSrc, tag, Res.items]

theorem ofSrc_tag_ne {k j : Nat} (h : j ≠ k) (r : Res) : ofSrc k (tag j r) = [] := by
  cases r <;> simp [ofSrc, tag, h]

theorem mem_tag {e : Nat × Item} {id : Nat} {r : Res} (h : e ∈ tag id r) : e.1 = id := by
  cases r <;> simp [tag] at h
  subst h; rfl

theorem trace_below {net : Net} (hsh : ShInv net) {id v : Nat} (e1 : Edge net id v)
    {a b : List (Nat × Item)} {l : List Item} (ha : ∀ e ∈ a, Up net v e.1)
    (hb : (∀ e ∈ b, Up net id e.1) ∧ ofSrc id b = l) :
    (∀ e ∈ a ++ b, Up net id e.1) ∧ ofSrc id (a ++ b) = l := by
  refine ⟨fun e he => ?_, ?_⟩
  · rcases List.mem_append.mp he with he | he
    · exact .step e1 (ha e he)
    · exact hb.1 e he
  · have h0 : ofSrc id a = [] := ofSrc_nil_of fun e he heq => by
      have := (ha e he).le hsh; have := hsh.lt _ _ e1; omega
    rw [ofSrc_app, h0, hb.2]; rfl

theorem trace_tag (net : Net) (id : Nat) (r : Res) :
    (∀ e ∈ tag id r, Up net id e.1) ∧ ofSrc id (tag id r) = r.items :=
  ⟨fun e he => mem_tag he ▸ .refl _, ofSrc_tag_self id r⟩

theorem Recv.trace {F : Facts} {net net' : Net} {id : Nat} {r : Res} {tr : List (Nat × Item)}
    (h : Recv F net id r net' tr) (hsh : ShInv net) :
    (∀ e ∈ tr, Up net id e.1) ∧ ofSrc id tr = r.items := by
  induction h with
  | pipe _ _ => exact trace_tag _ _ _
  | arrItem _ => exact trace_tag _ _ (.item _)
  | arrEof _ => exact trace_tag _ _ .eof
  | convEof hn _ ih =>
    have h := trace_below hsh (edge_conv hn) (ih hsh).1 (trace_tag _ _ .eof)
    rwa [tag, List.append_nil] at h
  | convItem hn _ _ ih => exact trace_below hsh (edge_conv hn) (ih hsh).1 (trace_tag _ _ (.item _))
  | convSkip hn hr1 _ _ ih1 ih2 =>
    obtain ⟨h3, h4⟩ := ih2 (hr1.sameShape.1.shInv hsh)
    exact trace_below hsh (edge_conv hn) (ih1 hsh).1 ⟨fun e he => hr1.sameShape.1.up.mp (h3 e he), h4⟩
  | childHave _ _ _ => exact trace_tag _ _ _
  | childFill hn hp _ _ ih =>
    exact trace_below hsh (edge_child hn) (fun e he => .step (edge_parent hp) ((ih hsh).1 e he))
      (trace_tag _ _ _)
  | mergeEof _ => exact trace_tag _ _ .eof
  | mergePipeItem hn _ hs _ _ =>
    exact trace_below hsh (edge_merge_get hn hs) (a := [_])
      (List.forall_mem_singleton.mpr (.refl _)) (trace_tag _ _ (.item _))
  | mergeFwdItem hn _ hs hf _ ih =>
    have e1 := edge_merge_get hn hs
    exact trace_below hsh e1 (fun e he => .step (edge_fwd hf) ((ih hsh).1 e he))
      (trace_below hsh e1 (a := [_]) (List.forall_mem_singleton.mpr (.refl _)) (trace_tag _ _ (.item _)))
  | @mergeDropPipe _ _ _ sb _ _ _ _ _ _ _ hn _ _ _ _ _ ih =>
    have ss := merge_erase_sameShape hn sb
    obtain ⟨h1, h2⟩ := ih (ss.shInv hsh)
    exact ⟨fun e he => ss.up.mp (h1 e he), h2⟩
  | mergeDropFwd hn hsb hs hf hr1 hfe hr2 ih1 ih2 =>
    -- the second `Recv` starts in a network of the shape of `net`
    have ss := (Recv.mergeDropFwd hn hsb hs hf hr1 hfe hr2).sameShape.1.trans hr2.sameShape.1.symm
    obtain ⟨h3, h4⟩ := ih2 (ss.shInv hsh)
    exact trace_below hsh (edge_merge_get hn hs)
      (fun e he => .step (edge_fwd hf) ((ih1 hsh).1 e he)) ⟨fun e he => ss.up.mp (h3 e he), h4⟩
  | @mergeDropEnded _ _ _ sb _ _ _ _ _ _ hn _ _ _ _ ih =>
    have ss := merge_erase_sameShape hn sb
    obtain ⟨h1, h2⟩ := ih (ss.shInv hsh)
    exact ⟨fun e he => ss.up.mp (h1 e he), h2⟩

end EinoV.C08
