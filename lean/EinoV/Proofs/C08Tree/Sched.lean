/-
  C08 — schedules: the operations the oracle accepts are enabled operations (`applyOp_step`);
  the three things an operation other than `recv` can do (`applyOp_cases`), from which: every
  enabled operation keeps the network well formed (`Step.inv`), a closed writer stays closed
  (`Step.scm`); what the building operations leave alone.
-/
import EinoV.Proofs.C08Tree.InvMerge
import EinoV.Proofs.C08Tree.Sound
import EinoV.Proofs.C08Tree.RecvDen
set_option linter.unusedVariables false
set_option linter.unusedSimpArgs false
namespace EinoV.C08

theorem GoodFacts.copy' {F : Facts} (g : GoodFacts F) : F.copy = goodCopy := g.copy

theorem Inv.empty : Inv {} := by
  have hs : ∀ j s, ({} : Net).shp? j = some s → False := fun j s h => by simp [Net.shp?] at h
  have hn : ∀ (j : Nat) (nd : Node), ({} : Net).nodes[j]? = some nd → False := fun j nd h => by
    simp [show ({} : Net).nodes = #[] from rfl] at h
  exact ⟨ShInv.ofTyped (fun j s _ h => (hs j s h).elim) (fun j s h => (hs j s h).elim)
      (fun j _ s _ _ h => (hs j s h).elim) (fun j s h => (hs j s h).elim) (fun j _ _ _ h => (hs j _ h).elim),
    ⟨fun _ hr => (nomatch hr), fun _ hr => (nomatch hr), List.nodup_nil⟩,
    ⟨fun j _ _ h => (hn j _ h).elim, fun j _ _ h => (hn j _ h).elim, fun j _ _ h => (hn j _ h).elim⟩⟩

theorem applyOp_step {F : Facts} (g : GoodFacts F) {fuel : Nat} {net net' : Net} {op : Op} {cr : List Nat}
    (h : applyOp F fuel net op = .ok (net', cr)) : Step F fuel net op net' := by
  cases hop : op.isRecv with
  | false => exact .other hop h
  | true =>
    cases op <;> cases hop
    obtain ⟨hr, hm⟩ := applyOp_recv_cases h
    obtain ⟨tr, hrecv⟩ := recvAll_sound g.tbl fuel net _ _ net' hm
    exact .recv hr hrecv

def Op.isBuild : Op → Bool
  | .pipe _ | .arr _ | .conv _ _ | .copy _ _ | .merge _ => true
  | _ => false

theorem Op.acc_of_isBuild {op : Op} (h : op.isBuild = true) (p : Nat) : Op.acc p op = [] := by
  cases op <;> first | rfl | cases h

/-- An operation other than `recv` builds; or it is the writer's side of one pipe (items appended,
    or closed for sending); or it sets closed flags (`CloseLE`) and possibly gives up one reader
    (a `send` that finds the pipe closed, `close`). -/
theorem applyOp_cases {F : Facts} {fuel : Nat} {net net' : Net} {op : Op} {cr : List Nat}
    (h1 : op.isRecv = false) (ha : applyOp F fuel net op = .ok (net', cr)) :
    op.isBuild = true ∨
    (∃ p x y, net.nodes[p]? = some (.pipe x) ∧ x.sendClosed = false ∧ net' = net.setNode p (.pipe y) ∧
      (y = { x with buf := x.buf ++ Op.acc p op } ∨ (y = { x with sendClosed := true } ∧ Op.acc p op = [])) ∧
      ∀ q, q ≠ p → Op.acc q op = []) ∨
    (((∃ p it, op = .send p it true) ∨ ∃ r, op = .close r) ∧
      ∃ n1 R W, CloseLE net n1 ∧ net' = { n1 with readers := R, writers := W } ∧
        R.Sublist net.readers ∧ ∀ q, Op.acc q op = []) := by
  cases op with
  | send p it oc =>
    rcases applyOp_send_cases ha with ⟨rfl, x, hx, hs, rfl⟩ | ⟨rfl, l⟩
    · exact .inr (.inl ⟨p, x, _, hx, hs, rfl, .inl (by simp [Op.acc]), fun q hq => by simp [Op.acc, Ne.symm hq]⟩)
    · exact .inr (.inr ⟨.inl ⟨p, it, rfl⟩, net', _, _, l, rfl, l.readers ▸ .refl _, fun _ => rfl⟩)
  | feed p its =>
    obtain ⟨x, hx, hs, rfl⟩ := applyOp_feed_cases ha
    exact .inr (.inl ⟨p, x, _, hx, hs, rfl, .inl (by simp [Op.acc]), fun q hq => by simp [Op.acc, Ne.symm hq]⟩)
  | closeSend p =>
    obtain ⟨x, hx, hs, rfl⟩ := applyOp_closeSend_cases ha
    exact .inr (.inl ⟨p, x, _, hx, hs, rfl, .inr ⟨rfl, rfl⟩, fun _ _ => rfl⟩)
  | recv r obs => cases h1
  | close r =>
    obtain ⟨_, n1, hc, rfl⟩ := applyOp_close_cases ha
    have l := (closeAll_spec F fuel _ _ _ hc).1
    exact .inr (.inr ⟨.inr ⟨r, rfl⟩, n1, _, _, l, rfl, l.readers ▸ List.erase_sublist, fun _ => rfl⟩)
  | _ => exact .inl rfl

theorem Step.inv {F : Facts} {fuel : Nat} (g : GoodFacts F) {net net' : Net} {op : Op}
    (h : Step F fuel net op net') (i : Inv net) : Inv net' := by
  cases h with
  | recv hr hrecv =>
    exact i.ofSameShape hrecv.sameShape.1 hrecv.sameShape.2 (hrecv.stInv g.copy' i.sh i.st)
  | other h1 ha =>
    rcases applyOp_cases h1 ha with hb | ⟨p, x, y, hx, _, rfl, _⟩ | ⟨_, n1, R, W, l, rfl, hR, _⟩
    · cases op with
      | pipe cap => exact applyOp_pipe_inv i ha
      | arr items => exact applyOp_arr_inv i ha
      | conv r g => exact applyOp_conv_inv i ha
      | copy r n => exact applyOp_copy_inv i ha
      | merge rs => exact applyOp_merge_inv i ha
      | _ => cases hb
    · exact i.setPipe hx _
    · exact (i.closeLE l).subReaders (l.readers ▸ hR) W

theorem Behaves.inv {F : Facts} {fuel : Nat} (g : GoodFacts F) {net net' : Net} {ops : List Op}
    (h : Behaves F fuel net ops net') (i : Inv net) : Inv net' := by
  induction h with
  | nil => exact i
  | cons hs _ ih => exact ih (hs.inv g i)

/-- The conclusion has the shape of `applyOp_build_frame`, whose last disjunct (`P k`: an old node
    that changed) only occurs for `MergeStreamReaders`; an operation that only adds nodes never
    needs it, hence any `P`. -/
theorem Ext.frame {net N : Net} (e : Ext net N) {R news : List Nat} (hR : ∀ r ∈ R, r ∈ net.readers)
    (hn : ∀ r ∈ news, net.nodes.size ≤ r) (P : Nat → Prop) :
    net.nodes.size ≤ N.nodes.size ∧
    (∀ r ∈ R ++ news, r < net.nodes.size → r ∈ net.readers) ∧
    ∀ k, k < net.nodes.size → N.nodes[k]? = net.nodes[k]? ∨ P k := by
  refine ⟨e.size, fun r hr hlt => ?_, fun k hk => .inl (e.old k hk)⟩
  rcases List.mem_append.mp hr with h | h
  · exact hR r h
  · have := hn r h; omega

/-- A building operation only adds nodes, except that `MergeStreamReaders` absorbs the merged
    readers among its arguments; an old node that is held afterwards was held before. -/
theorem applyOp_build_frame {F : Facts} {fuel : Nat} {net net' : Net} {op : Op} {cr : List Nat}
    (hb : op.isBuild = true) (h : applyOp F fuel net op = .ok (net', cr)) :
    net.nodes.size ≤ net'.nodes.size ∧
    (∀ r ∈ net'.readers, r < net.nodes.size → r ∈ net.readers) ∧
    ∀ k, k < net.nodes.size →
      net'.nodes[k]? = net.nodes[k]? ∨ (k ∈ net.readers ∧ k ∉ net'.readers ∧ IsMergeNode net k) := by
  have single : ∀ r ∈ [net.nodes.size], net.nodes.size ≤ r := fun r hr => Nat.le_of_eq (List.mem_singleton.mp hr).symm
  cases op with
  | pipe cap =>
    simp only [applyOp] at h; cases h
    exact (Ext.push net _).frame (fun _ hr => hr) single _
  | arr items =>
    simp only [applyOp] at h; cases h
    exact (Ext.push net _).frame (fun _ hr => hr) single _
  | conv r g =>
    obtain ⟨_, rfl⟩ := applyOp_conv_cases h
    exact (Ext.push net _).frame (fun _ hr => List.mem_of_mem_erase hr) single _
  | copy r n =>
    obtain ⟨_, ⟨_, rfl⟩ | ⟨_, base, f, hbf, rfl⟩⟩ := applyOp_copy_cases h
    · exact ⟨Nat.le_refl _, fun _ hr _ => hr, fun _ _ => .inl rfl⟩
    · have e : Ext net base := by
        rcases hbf with ⟨_, _, rfl, _⟩ | ⟨_, _, rfl, _⟩
        · exact ⟨Nat.le_refl _, fun _ _ => rfl⟩
        · exact Ext.push net _
      exact (e.trans (Ext.pushAll base _)).frame (fun _ hr => List.mem_of_mem_erase hr)
        (fun r hr => Nat.le_trans e.size (List.mem_range'_1.mp hr).1) _
  | merge rs =>
    rcases applyOp_merge_cases h with rfl | ⟨_, hin, n2, id, hm, rfl⟩
    · exact ⟨Nat.le_refl _, fun _ hr _ => hr, fun _ _ => .inl rfl⟩
    obtain ⟨n1, ss1, arr1, hf, e, -, hid⟩ := mkMerge_frame hm
    obtain ⟨hsz, -, hold⟩ := mfold_frame rs net [] [] hf
    have hmem : ∀ r, r ∈ net.readers.filter (fun r => !rs.contains r) ++ [id] → r < net.nodes.size →
        r ∈ net.readers ∧ r ∉ rs := fun r hr hlt =>
      (List.mem_append.mp hr).elim (fun hr => (mem_filter_kept.mp hr).imp_right (· ∘ List.mem_reverse.mpr))
        (fun hr => absurd (List.mem_singleton.mp hr ▸ hlt) (Nat.not_lt.mpr (Nat.le_trans hsz hid)))
    refine ⟨Nat.le_trans hsz e.size, fun r hr hlt => (hmem r hr hlt).1, fun k hk => ?_⟩
    rcases hold k hk with e1 | ⟨hkr, hmn⟩
    · exact .inl ((e.old k (Nat.lt_of_lt_of_le hk hsz)).trans e1)
    · exact .inr ⟨hin k hkr, fun hr => (hmem k hr hk).2 hkr, hmn⟩
  | _ => simp [Op.isBuild] at hb

theorem den_build {fut : Nat → List Item} {F : Facts} {fuel : Nat} {net net' : Net} {op : Op} {cr : List Nat}
    (i : Inv net) (hb : op.isBuild = true) (h : applyOp F fuel net op = .ok (net', cr))
    {r : Nat} (hr : r ∈ net.readers) (hr' : r ∈ net'.readers) {l : List Item}
    (hd : Den fut net' r l) : Den fut net r l := by
  refine hd.congr fun k hk => ?_
  have hle := hk.le i.sh
  have hlt := i.rd.lt hr
  rcases (applyOp_build_frame hb h).2.2 k (by omega) with e | ⟨hkr, hnr, -⟩
  · exact e
  · -- a merged reader the caller held: nothing was built on it, and it is no longer held
    exact absurd (held_up i hkr hk ▸ hr') hnr



/-- "`sendClosed` is monotone" from `a` to `b`: a pipe whose writer has closed is still there with
    its writer closed. The delivery theorem uses it for the rest of a schedule after a writer's
    `Close`: the pipe is still closed at the end, where the future `fut` of a closed pipe is empty. -/
def SCM (a b : Net) : Prop :=
  ∀ (p : Nat) (x : Pipe), a.nodes[p]? = some (.pipe x) → x.sendClosed = true →
    ∃ y, b.nodes[p]? = some (.pipe y) ∧ y.sendClosed = true

theorem SCM.refl (a : Net) : SCM a a := fun p x h1 h2 => ⟨x, h1, h2⟩
theorem SCM.trans {a b c : Net} (h1 : SCM a b) (h2 : SCM b c) : SCM a c := fun p x hx hs => by
  obtain ⟨y, hy, hys⟩ := h1 p x hx hs
  exact h2 p y hy hys

theorem SCM.setPipe {net : Net} {i : Nat} {x y : Pipe} (hx : net.nodes[i]? = some (.pipe x))
    (hs : x.sendClosed = true → y.sendClosed = true) : SCM net (net.setNode i (.pipe y)) := by
  intro p z hz hzs
  by_cases e : p = i
  · subst e; rw [hx] at hz; cases hz
    exact ⟨y, setNode_get_self hx _, hs hzs⟩
  · exact ⟨z, by rw [setNode_get_ne _ e]; exact hz, hzs⟩

theorem SCM.setOther {net : Net} {i : Nat} {s : Shp} (hs : net.shp? i = some s) (hne : s ≠ .pipe) (z : Node) :
    SCM net (net.setNode i z) := by
  intro p x hx hxs
  by_cases e : p = i
  · subst e; rw [shp?_some hx] at hs; cases hs; exact absurd rfl hne
  · exact ⟨x, by rw [setNode_get_ne _ e]; exact hx, hxs⟩

theorem CloseLE.scm {a b : Net} (l : CloseLE a b) : SCM a b := by
  intro p x hx hs
  obtain ⟨y, hy, le⟩ := l.node p _ hx
  cases le with
  | refl => exact ⟨x, hy, hs⟩
  | pipe e1 e2 e3 => exact ⟨_, hy, e2 ▸ hs⟩

theorem fwdEnd_scm {F : Facts} {cf : Nat} {n1 n' : Net} {sid src : Nat} {st : FwdSt}
    (hn : n1.nodes[sid]? = some (.fpipe src st)) (h : fwdEnd F cf n1 sid src = some n') : SCM n1 n' :=
  (SCM.setOther (shp?_some hn) nofun _).trans (fwdEnd_closeLE h).1.scm

theorem RecvSet.scm {F : Facts} {net : Net} {i : Nat} {x y : Node} (hx : net.nodes[i]? = some x)
    (h : RecvSet F x y) : SCM net (net.setNode i y) := by
  cases h with
  | pipe hr =>
    refine SCM.setPipe hx fun hs => ?_
    rcases Pipe.recv_some hr with ⟨_, _, _, _, rfl⟩ | ⟨_, _, _, rfl⟩ <;> exact hs
  | _ => exact SCM.setOther (shp?_some hx) nofun _

theorem Recv.scm {F : Facts} {net net' : Net} {id : Nat} {r : Res} {tr : List (Nat × Item)}
    (h : Recv F net id r net' tr) : SCM net net' := by
  -- not by `Recv.induction`: no well-formedness is assumed, so the cell of a copy and the merged
  -- reader may have changed when the `Recv` on their source returns; their shape has not
  induction h with
  | pipe hn hr => exact RecvSet.scm (F := F) hn (.pipe hr)
  | arrItem hn => exact RecvSet.scm (F := F) hn .arr
  | arrEof _ => exact .refl _
  | convEof _ _ ih => exact ih
  | convItem _ _ _ ih => exact ih
  | convSkip _ _ _ _ ih1 ih2 => exact ih1.trans ih2
  | childHave _ hp hk => exact RecvSet.scm hp (.have hk)
  | @childFill net n1 id par idx src k core r tr _ hp _ hr ih =>
    have hs : n1.shp? par = some (.parent src core.cursors.length) := by
      rw [hr.sameShape.1.2]; exact shp?_some hp
    exact ih.trans (SCM.setOther hs (by simp) _)
  | mergeEof _ => exact .refl _
  | mergePipeItem _ _ _ hp hr => exact RecvSet.scm (F := F) hp (.pipe hr)
  | mergeFwdItem _ _ _ _ _ ih => exact ih
  | mergeDropPipe hn _ _ _ _ _ ih => exact (RecvSet.scm (F := F) hn (.erase _)).trans ih
  | @mergeDropFwd net n1 n' n2 id sb sid src cf sts chosen r tr1 tr2 hn _ _ hf hr1 hfe _ ih1 ih2 =>
    obtain ⟨st, hnd⟩ := shp?_fpipe (hr1.sameShape.1.2 sid ▸ shp?_some hf)
    have hm : n'.shp? id = some (.merge sts) := by
      rw [(fwdEnd_spec hnd hfe).1.2, hr1.sameShape.1.2]; exact shp?_some hn
    exact ih1.trans ((fwdEnd_scm hnd hfe).trans ((SCM.setOther hm (by simp) _).trans ih2))
  | mergeDropEnded hn _ _ _ _ ih => exact (RecvSet.scm (F := F) hn (.erase _)).trans ih

theorem scm_with {a : Net} (R W : List Nat) : SCM a { a with readers := R, writers := W } :=
  fun p x hx hs => ⟨x, hx, hs⟩

theorem Step.scm {F : Facts} {fuel : Nat} {net net' : Net} {op : Op} (i : Inv net)
    (h : Step F fuel net op net') : SCM net net' := by
  cases h with
  | recv hr hrecv => exact hrecv.scm
  | other h1 ha =>
    rcases applyOp_cases h1 ha with hb | ⟨p, x, y, hx, _, rfl, hy, _⟩ | ⟨_, n1, R, W, l, rfl, _⟩
    · intro p x hx hs
      rcases (applyOp_build_frame hb ha).2.2 p (get_lt hx) with e | ⟨_, _, sts, ch, hm⟩
      · exact ⟨x, e ▸ hx, hs⟩
      · rw [hx] at hm; cases hm
    · exact SCM.setPipe hx (by rcases hy with rfl | ⟨rfl, _⟩ <;> simp)
    · exact l.scm.trans (scm_with _ _)

theorem accBy_closed {F : Facts} {fuel : Nat} (g : GoodFacts F) {net net' : Net} {ops : List Op}
    (h : Behaves F fuel net ops net') (i : Inv net) {p : Nat} {x : Pipe}
    (hx : net.nodes[p]? = some (.pipe x)) (hs : x.sendClosed = true) : accBy ops p = [] := by
  induction h generalizing x with
  | nil => rfl
  | @cons net n1 n2 op ops hstep _ ih =>
    obtain ⟨y, hy, hys⟩ := hstep.scm i p x hx hs
    have := ih (hstep.inv g i) hy hys
    simp only [accBy, List.flatMap_cons] at this ⊢
    rw [this, List.append_nil]
    cases hstep with
    | recv _ _ => rfl
    | other h1 ha =>
      rcases applyOp_cases h1 ha with hb | ⟨p', x', _, hx', hs', _, _, hq⟩ | ⟨_, _, _, _, _, _, _, hacc⟩
      · exact Op.acc_of_isBuild hb p
      · -- the pipe written to is open for sending, so it is another one
        exact hq p fun e => by rw [e, hx'] at hx; cases hx; rw [hs] at hs'; cases hs'
      · exact hacc p

end EinoV.C08
