/-
  C08 — close propagation for whole networks: every enabled operation keeps the close invariant
  (`Step.closeInv`); `Close` of a held reader never closes a source twice (`close_succeeds`);
  once every reader is closed and every forwarder has noticed, everything is closed (`all_closed`).
-/
import EinoV.Proofs.C08Tree.CloseOps
namespace EinoV.C08


theorem closeInv_readers_eq {a b : Net} (hn : b.nodes = a.nodes) (hr : b.readers = a.readers) (h : CloseInv a) :
    CloseInv b :=
  closeInv_of_nodes hn (closeInvOn_iff.mp h) (fun y => by rw [hr])

theorem Step.closeInv {F : Facts} {fuel : Nat} (g : GoodFacts F) {net net' : Net} {op : Op}
    (h : Step F fuel net op net') (i : Inv net) (hc : CloseInv net) : CloseInv net' := by
  have hH : ∀ r ∈ net.readers, Free net r := fun r hr => i.rd.free' hr
  cases h with
  | recv hr hrecv =>
    exact (hrecv.closeInv g i.sh hH hc).closeInv hrecv.sameShape.2
  | other h1 ha =>
    rcases applyOp_cases h1 ha with hb | ⟨p, x, y, hx, _, rfl, hy, _⟩ | ⟨hop, _⟩
    · cases op with
      | pipe cap => exact applyOp_pipe_closeInv i hc ha
      | arr items => exact applyOp_arr_closeInv i hc ha
      | conv r g' => exact applyOp_conv_closeInv i hc ha
      | copy r n => exact applyOp_copy_closeInv i hc ha
      | merge rs => exact applyOp_merge_closeInv i hc ha
      | _ => cases hb
    · exact closeInvOn_set_stat i.sh hx (.pipe (by rcases hy with rfl | ⟨rfl, _⟩ <;> rfl)) hc
    · -- here it matters which flags are closed: those of forwarders that notice, of a released reader
      rcases hop with ⟨p, it, rfl⟩ | ⟨r, rfl⟩
      · obtain ⟨_, _, _, ⟨h0, _⟩ | ⟨_, rfl | hr⟩⟩ := applyOp_send_ok ha
        · cases h0
        · exact hc
        · exact (resolveReaching_closeInv g _ i.sh hH hc hr).closeInv (resolveReaching_closeLE _ hr).readers
      · obtain ⟨hr, n1, hcl, rfl⟩ := applyOp_close_cases ha
        have := close_closeInv g i hc hr hcl
        have hrd := (closeAll_spec F fuel _ _ _ hcl).1.readers
        exact closeInv_of_nodes (a := n1) rfl (closeInvOn_iff.mp this) (fun y => by
          change y ∈ n1.readers.erase r ↔ _; rw [hrd])

theorem closeInv_empty : CloseInv {} := by
  unfold CloseInv
  refine ⟨fun k _ => ?_, ?_, ?_⟩
  · exact flag_of_stat_none (stat_none_of_get_none (by simp))
  · intro P s c hp; simp at hp
  · intro P s c hp; simp at hp

theorem Behaves.closeInv {F : Facts} {fuel : Nat} (g : GoodFacts F) {net net' : Net} {ops : List Op}
    (h : Behaves F fuel net ops net') (i : Inv net) (hc : CloseInv net) : CloseInv net' := by
  induction h with
  | nil => exact hc
  | cons hs _ ih => exact ih (hs.inv g i) (hs.closeInv g i hc)

theorem close_succeeds {F : Facts} (g : GoodFacts F) {net : Net} {r fuel : Nat} (i : Inv net) (hinv : CloseInv net)
    (hr : r ∈ net.readers) (hf : r < fuel) : ∃ net', closeAll F fuel net r = some net' := by
  have hH : ∀ r' ∈ net.readers.erase r, Free net r' := fun r' hr' => i.rd.free' (List.mem_of_mem_erase hr')
  obtain ⟨net', h, _⟩ := release g fuel net (net.readers.erase r) r i.sh hH hf (relHyp_close i hinv hr) (i.rd.kind r hr)
  exact ⟨net', h⟩

/-- a forwarder that has to notice a close can do so: its source is not closed a second time -/
theorem resolve_succeeds {F : Facts} (g : GoodFacts F) {net : Net} {f src fuel : Nat} (i : Inv net)
    (hinv : CloseInv net) (hf : net.nodes[f]? = some (.fpipe src .pending)) (hfu : src < fuel) :
    ∃ net', resolveOne F fuel net f = some net' := by
  have hH : ∀ r ∈ net.readers, Free net r := fun r hr => i.rd.free' hr
  obtain ⟨i1, hH1, hrel, hk⟩ := fwd_exit_release (st' := .stopped) i.sh hH hinv hf (.inr ⟨rfl, rfl⟩)
  obtain ⟨net', h, _⟩ := release g fuel _ net.readers src i1 hH1 hfu hrel hk
  exact ⟨net', by simp [resolveOne, hf, g.fwd, h]⟩

theorem pendings_nil {net : Net} (h : pendings net = []) {f src : Nat} :
    net.nodes[f]? ≠ some (.fpipe src .pending) := by
  intro hf
  have hlt := get_lt hf
  have : f ∈ pendings net := by
    unfold pendings
    simp only [List.mem_filter, List.mem_range]
    exact ⟨hlt, by simp [hf]⟩
  rw [h] at this; simp at this

/-- Nobody holds anything once every reader is closed and every forwarder has noticed: a holder of
    `j` would be, or have as a copy, an open node above `j`, whose claim has its root further up. -/
theorem no_root {net : Net} (i : Inv net) (hinv : CloseInvOn net [] (fun _ => True))
    (hp : ∀ (f src : Nat), net.nodes[f]? ≠ some (Node.fpipe src FwdSt.pending)) (j : Nat) :
    ¬ RootClaimed net [] j := by
  induction hn : net.nodes.size - j using Nat.strongRecOn generalizing j with
  | ind n ih =>
    have hopen : ∀ c, j < c → c < net.nodes.size → stat net c ≠ .open := by
      intro c hjc hc hst
      obtain ⟨j', hu, hrc⟩ := (hinv.flag c trivial).1 hst
      have := hu.up.le i.sh
      exact ih (net.nodes.size - j') (by omega) j' rfl hrc
    rintro (h | ⟨P, c, hP, ⟨idx, k0, hk0⟩⟩ | ⟨f, st, hf, hs⟩)
    · simp at h
    · have hidx : idx < c.cursors.length := (List.getElem?_eq_some_iff.mp hk0).1
      obtain ⟨ch, hch⟩ := hinv.cellKids P j c hP idx hidx
      have := i.sh.lt P j (edge_parent hP)
      have := i.sh.lt ch P (edge_child hch)
      exact hopen ch (by omega) (get_lt hch) (by rw [stat_child hch hP, hk0]; rfl)
    · rcases hs with rfl | rfl
      · exact hopen f (i.sh.lt f j (edge_fwd hf)) (get_lt hf) (by rw [stat_fwd hf]; rfl)
      · exact hp f j hf

theorem all_closed {net : Net} (i : Inv net) (hinv : CloseInv net) (hr : net.readers = [])
    (hp : ∀ (f src : Nat), net.nodes[f]? ≠ some (Node.fpipe src FwdSt.pending)) :
    (∀ (k : Nat) (p : Pipe), net.nodes[k]? = some (.pipe p) → p.recvClosed = true) ∧
    (∀ (P src : Nat) (core : CopyCore), net.nodes[P]? = some (.parent src core) →
      core.srcClosed = 1 ∧ ∀ idx, idx < core.cursors.length → core.cursors[idx]? = some none) ∧
    (∀ (f src : Nat) (st : FwdSt), net.nodes[f]? = some (.fpipe src st) → st = .ended ∨ st = .stopped) := by
  have hinv' : CloseInvOn net [] (fun _ => True) := hr ▸ (hinv : CloseInvOn net net.readers _)
  have hnc : ∀ k, ¬ Claimed net [] k := fun k ⟨j, _, hrc⟩ => no_root i hinv' hp j hrc
  refine ⟨fun k p hk => ?_, fun P src core hP => ?_, fun f src st hf => ?_⟩
  · cases hc : p.recvClosed with
    | true => rfl
    | false =>
      have hst : stat net k = .open := by rw [stat_pipe hk]; simp [hc]
      exact absurd ((hinv'.flag k trivial).1 hst) (hnc k)
  · have hall : ∀ idx, idx < core.cursors.length → core.cursors[idx]? = some none := by
      intro idx hidx
      obtain ⟨ch, hch⟩ := hinv'.cellKids P src core hP idx hidx
      cases hv : core.cursors[idx]? with
      | none => rw [List.getElem?_eq_none_iff] at hv; omega
      | some v =>
        cases v with
        | none => rfl
        | some k0 =>
          have hst : stat net ch = .open := by rw [stat_child hch hP, hv]; rfl
          exact absurd ((hinv'.flag ch trivial).1 hst) (hnc ch)
    obtain ⟨_, hsc, _⟩ := hinv'.cellCount P src core hP
    refine ⟨?_, hall⟩
    rw [hsc, if_pos (count_none_eq_length.mpr hall)]
  · cases st with
    | running =>
      have hst : stat net f = .open := by rw [stat_fwd hf]; rfl
      exact absurd ((hinv'.flag f trivial).1 hst) (hnc f)
    | pending => exact absurd hf (hp f src)
    | ended => exact .inl rfl
    | stopped => exact .inr rfl


end EinoV.C08
