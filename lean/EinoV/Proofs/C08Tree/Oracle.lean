/-
  C08 — the traces the oracle accepts (`runOps`) are schedules (`Behaves`): every candidate
  state the oracle tracks is reachable by enabled operations.
-/
import EinoV.Proofs.C08Tree.Delivery
namespace EinoV.C08

theorem dedupNets_sub (l : List Net) : ∀ n ∈ dedupNets l, n ∈ l :=
  foldl_inv (fun acc => ∀ n ∈ acc, n ∈ l) _ l (fun acc hacc x hx => by
    split
    · exact hacc
    · intro n hn
      rcases List.mem_append.mp hn with h | h
      · exact hacc n h
      · exact List.mem_singleton.mp h ▸ hx) [] (fun _ h => nomatch h)

theorem applyOpSet_recv {F : Facts} {fuel : Nat} {nets nets' : List Net} {r : Nat} {obs : Res} {cr : List Nat}
    (h : applyOpSet F fuel nets (.recv r obs) = .ok (nets', cr)) :
    ∀ n' ∈ nets', ∃ n ∈ nets, r ∈ n.readers ∧ (obs, n') ∈ recvAll F fuel n r := by
  intro n' hn'
  simp only [applyOpSet] at h
  obtain ⟨hall, h⟩ := of_ite_error_eq_ok h
  generalize hgood : List.filterMap _ _ = good at h
  by_cases hg : (!good.isEmpty) = true
  · rw [if_pos hg] at h
    obtain ⟨-, h⟩ := of_ite_error_eq_ok h
    cases h
    subst hgood
    obtain ⟨o, ho, hoe⟩ := List.mem_filterMap.mp (dedupNets_sub _ n' hn')
    obtain ⟨net, hnet, hmem⟩ := List.mem_flatMap.mp ho
    split at hoe
    · rename_i heq
      cases hoe
      simp only [Bool.not_eq_true', Bool.not_eq_false, List.all_eq_true, List.contains_iff_mem] at hall
      exact ⟨net, hnet, hall net hnet, by rw [← eq_of_beq heq]; exact hmem⟩
    · cases hoe
  · rw [if_neg hg] at h
    split at h
    · cases h
    · split at h
      · cases h
      · split at h <;> cases h

theorem applyOpSet_other {F : Facts} {fuel : Nat} {nets nets' : List Net} {op : Op} {cr : List Nat}
    (hop : op.isRecv = false) (h : applyOpSet F fuel nets op = .ok (nets', cr)) :
    ∀ n' ∈ nets', ∃ n ∈ nets, ∃ cr', applyOp F fuel n op = .ok (n', cr') := by
  intro n' hn'
  unfold applyOpSet at h
  split at h
  · cases hop
  · dsimp only at h
    split at h
    · cases h
      obtain ⟨y, hy, rfl⟩ := List.mem_map.mp (dedupNets_sub _ n' hn')
      obtain ⟨res, hres, hy⟩ := List.mem_filterMap.mp hy
      obtain ⟨net, hnet, rfl⟩ := List.mem_map.mp hres
      split at hy
      · rename_i z hz
        cases hy
        exact ⟨net, hnet, y.2, hz⟩
      · cases hy
    · split at h <;> cases h

theorem applyOpSet_step {F : Facts} (g : GoodFacts F) {fuel : Nat} {nets nets' : List Net} {op : Op} {cr : List Nat}
    (h : applyOpSet F fuel nets op = .ok (nets', cr)) :
    ∀ n' ∈ nets', ∃ n ∈ nets, Step F fuel n op n' := by
  intro n' hn'
  cases hop : op.isRecv with
  | false =>
    obtain ⟨n, hn, cr', hz⟩ := applyOpSet_other hop h n' hn'
    exact ⟨n, hn, .other hop hz⟩
  | true =>
    cases op <;> cases hop
    obtain ⟨n, hn, hr, hmem⟩ := applyOpSet_recv h n' hn'
    obtain ⟨tr, hrecv⟩ := recvAll_sound g.tbl fuel n _ _ _ hmem
    exact ⟨n, hn, .recv hr hrecv⟩

theorem runOps_behaves {F : Facts} (g : GoodFacts F) {fuel : Nat} : ∀ (ops : List Op) (nets : List Net) (i : Nat)
    {nets' : List Net} {cr : List Nat}, runOps F fuel nets i ops = .ok (nets', cr) →
    ∀ n' ∈ nets', ∃ n ∈ nets, Behaves F fuel n ops n' := by
  intro ops
  induction ops with
  | nil =>
    intro nets i nets' cr h n' hn'
    simp only [runOps] at h
    cases h
    exact ⟨n', hn', .nil _⟩
  | cons op rest ih =>
    intro nets i nets' cr h n' hn'
    cases rest with
    | nil =>
      simp only [runOps] at h
      split at h
      · rename_i r hr
        cases h
        obtain ⟨n, hn, hs⟩ := applyOpSet_step g hr n' hn'
        exact ⟨n, hn, .cons hs (.nil _)⟩
      · cases h
    | cons op2 rest2 =>
      simp only [runOps] at h
      split at h
      · rename_i r hr
        obtain ⟨n1, hn1, hb⟩ := ih r.1 (i + 1) h n' hn'
        obtain ⟨n, hn, hs⟩ := applyOpSet_step g (cr := r.2) hr n1 hn1
        exact ⟨n, hn, .cons hs hb⟩
      · cases h

theorem runOps_init_behaves {F : Facts} (g : GoodFacts F) {fuel : Nat} {ops : List Op} {nets : List Net}
    {cr : List Nat} (h : runOps F fuel [{}] 0 ops = .ok (nets, cr)) : ∀ n ∈ nets, Behaves F fuel {} ops n := by
  intro n hn
  obtain ⟨m, hm, hb⟩ := runOps_behaves g _ _ _ h n hn
  cases List.mem_singleton.mp hm
  exact hb

theorem runOps_two_phase {F : Facts} (g : GoodFacts F) {fuel : Nat} {ops0 ops1 : List Op} {r : Nat}
    {nets0 rest : List Net} {n' : Net} {cr0 cr1 : List Nat}
    (h0 : runOps F fuel [{}] 0 ops0 = .ok (nets0, cr0))
    (hall : nets0.all (fun n => n.readers.contains r) = true)
    (h1 : runOps F fuel nets0 0 ops1 = .ok (n' :: rest, cr1)) :
    ∃ net0, Behaves F fuel {} ops0 net0 ∧ r ∈ net0.readers ∧ Behaves F fuel net0 ops1 n' := by
  obtain ⟨n0, hn0, hb1⟩ := runOps_behaves g _ _ _ h1 n' List.mem_cons_self
  exact ⟨n0, runOps_init_behaves g h0 n0 hn0, by simpa using List.all_eq_true.mp hall n0 hn0, hb1⟩

/-- executable check used by the non-vacuity example of delivery -/
def twoPhaseOK (F : Facts) (fuel : Nat) (ops0 ops1 : List Op) (r : Nat) : Bool :=
  match runOps F fuel [{}] 0 ops0 with
  | .ok (nets0, _) =>
    nets0.all (fun n => n.readers.contains r) &&
    (match runOps F fuel nets0 0 (ops1 ++ [.recv r .eof]) with
     | .ok (_ :: _, _) => true
     | _ => false)
  | _ => false

theorem twoPhaseOK_spec {F : Facts} (g : GoodFacts F) {fuel : Nat} {ops0 ops1 : List Op} {r : Nat}
    (h : twoPhaseOK F fuel ops0 ops1 r = true) :
    ∃ net0 net', Behaves F fuel {} ops0 net0 ∧ r ∈ net0.readers ∧
      Behaves F fuel net0 (ops1 ++ [.recv r .eof]) net' := by
  unfold twoPhaseOK at h
  split at h
  · rename_i nets0 cr0 h0
    simp only [Bool.and_eq_true] at h
    obtain ⟨hall, h1⟩ := h
    split at h1
    · rename_i n' rest cr1 h1'
      obtain ⟨n0, hb0, hr, hb1⟩ := runOps_two_phase g h0 hall h1'
      exact ⟨n0, n', hb0, hr, hb1⟩
    · cases h1
  · cases h

/-- executable check used by the non-vacuity example of close propagation -/
def allClosedOK (F : Facts) (fuel : Nat) (ops : List Op) : Bool :=
  match runOps F fuel [{}] 0 ops with
  | .ok (n :: rest, _) => (n :: rest).all fun m => m.readers.isEmpty && (pendings m).isEmpty
  | _ => false

theorem allClosedOK_spec {F : Facts} (g : GoodFacts F) {fuel : Nat} {ops : List Op}
    (h : allClosedOK F fuel ops = true) :
    ∃ net, Behaves F fuel {} ops net ∧ net.readers = [] ∧ pendings net = [] := by
  unfold allClosedOK at h
  split at h
  · rename_i n rest cr h0
    have := List.all_eq_true.mp h n List.mem_cons_self
    simp only [Bool.and_eq_true, List.isEmpty_iff] at this
    exact ⟨n, runOps_init_behaves g h0 n List.mem_cons_self, this.1, this.2⟩
  · cases h

/-- executable check used by the non-vacuity example of the prefix theorem -/
def heldOK (F : Facts) (fuel : Nat) (ops0 ops1 : List Op) (r : Nat) : Bool :=
  match runOps F fuel [{}] 0 ops0 with
  | .ok (nets0, _) =>
    nets0.all (fun n => n.readers.contains r) &&
    (match runOps F fuel nets0 0 ops1 with
     | .ok (n :: _, _) => n.readers.contains r
     | _ => false)
  | _ => false

theorem heldOK_spec {F : Facts} (g : GoodFacts F) {fuel : Nat} {ops0 ops1 : List Op} {r : Nat}
    (h : heldOK F fuel ops0 ops1 r = true) :
    ∃ net0 net1, Behaves F fuel {} ops0 net0 ∧ r ∈ net0.readers ∧ Behaves F fuel net0 ops1 net1 ∧
      r ∈ net1.readers := by
  unfold heldOK at h
  split at h
  · rename_i nets0 cr0 h0
    simp only [Bool.and_eq_true] at h
    obtain ⟨hall, h1⟩ := h
    split at h1
    · rename_i n' rest cr1 h1'
      obtain ⟨n0, hb0, hr, hb1⟩ := runOps_two_phase g h0 hall h1'
      exact ⟨n0, n', hb0, hr, hb1, by simpa using h1⟩
    · cases h1
  · cases h

end EinoV.C08
