/-
  C08 — basic facts about the shape of networks (`Edge`, `Up`, `SameShape`) and about the
  specified sequence `Den`: inversion, and the one induction that carries it from one network to
  another (`Den.transferB`: node by node `DenLE`, up to a boundary where the transfer is given).
-/
import EinoV.Spec.C08Tree

namespace EinoV.C08

theorem setNode_get (net : Net) (i k : Nat) (x : Node) :
    (net.setNode i x).nodes[k]? =
      if i = k then (if i < net.nodes.size then some x else none) else net.nodes[k]? := by
  simp [Net.setNode, Array.getElem?_setIfInBounds]

theorem get_lt {net : Net} {k : Nat} {x : Node} (h : net.nodes[k]? = some x) : k < net.nodes.size := by
  rcases Array.getElem?_eq_some_iff.mp h with ⟨h1, _⟩; exact h1

theorem setNode_get_some {net : Net} {i : Nat} {y : Node} (h : net.nodes[i]? = some y) (k : Nat) (x : Node) :
    (net.setNode i x).nodes[k]? = if k = i then some x else net.nodes[k]? := by
  have hlt := get_lt h
  rw [setNode_get]
  by_cases hk : i = k
  · subst hk; simp [hlt]
  · have : ¬ k = i := fun e => hk e.symm
    simp [hk, this]

theorem setNode_get_self {net : Net} {i : Nat} {y : Node} (h : net.nodes[i]? = some y) (x : Node) :
    (net.setNode i x).nodes[i]? = some x := by
  rw [setNode_get_some h]; simp

theorem setNode_get_ne {net : Net} {i k : Nat} (x : Node) (hk : k ≠ i) :
    (net.setNode i x).nodes[k]? = net.nodes[k]? := by
  rw [setNode_get]
  have : ¬ i = k := fun e => hk e.symm
  simp [this]

theorem setNode_get_cases {net : Net} {i k : Nat} {y z : Node} (h : (net.setNode i y).nodes[k]? = some z) :
    net.nodes[k]? = some z ∨ (k = i ∧ z = y) := by
  rw [setNode_get] at h
  split at h
  · next e => split at h <;> cases h; exact .inr ⟨e.symm, rfl⟩
  · exact .inl h

theorem setNode_self {net : Net} {i : Nat} {x : Node} (h : net.nodes[i]? = some x) : net.setNode i x = net := by
  have hlt := get_lt h
  cases net with
  | mk nodes readers writers =>
    simp only at h hlt
    simp only [Net.setNode, Net.mk.injEq, and_true]
    apply Array.ext_getElem?
    intro k
    rw [Array.getElem?_setIfInBounds]
    by_cases e : i = k
    · subst e; rw [if_pos rfl, if_pos hlt]; exact h.symm
    · rw [if_neg e]

@[simp] theorem setNode_readers (net : Net) (i : Nat) (x : Node) : (net.setNode i x).readers = net.readers := rfl
@[simp] theorem setNode_writers (net : Net) (i : Nat) (x : Node) : (net.setNode i x).writers = net.writers := rfl
@[simp] theorem setNode_size (net : Net) (i : Nat) (x : Node) : (net.setNode i x).nodes.size = net.nodes.size := by
  simp [Net.setNode]

theorem SameShape.refl (a : Net) : SameShape a a := ⟨rfl, fun _ => rfl⟩

theorem SameShape.trans {a b c : Net} (h1 : SameShape a b) (h2 : SameShape b c) : SameShape a c :=
  ⟨h1.1.trans h2.1, fun k => (h2.2 k).trans (h1.2 k)⟩

theorem SameShape.symm {a b : Net} (h : SameShape a b) : SameShape b a :=
  ⟨h.1.symm, fun k => (h.2 k).symm⟩

theorem setNode_sameShape {net : Net} {i : Nat} {y x : Node} (h : net.nodes[i]? = some y)
    (hs : x.shp = y.shp) : SameShape net (net.setNode i x) := by
  refine ⟨by simp, fun k => ?_⟩
  unfold Net.shp?
  rw [setNode_get_some h]
  by_cases hk : k = i
  · subst hk; simp [h, hs]
  · simp [hk]

theorem shp?_some {net : Net} {j : Nat} {nd : Node} (h : net.nodes[j]? = some nd) :
    net.shp? j = some nd.shp := by simp [Net.shp?, h]

theorem shp?_eq_some {net : Net} {j : Nat} {s : Shp} (h : net.shp? j = some s) :
    ∃ nd, net.nodes[j]? = some nd ∧ nd.shp = s := by
  unfold Net.shp? at h
  cases hn : net.nodes[j]? with
  | none => simp [hn] at h
  | some nd => exact ⟨nd, rfl, by simpa [hn] using h⟩

theorem shp_parent_congr {src : Nat} {c c' : CopyCore} (h : c'.cursors.length = c.cursors.length) :
    (Node.parent src c').shp = (Node.parent src c).shp := congrArg (Shp.parent src) h

theorem shp?_pipe {net : Net} {k : Nat} (h : net.shp? k = some .pipe) : ∃ p, net.nodes[k]? = some (.pipe p) := by
  obtain ⟨nd, hnd, hs⟩ := shp?_eq_some h
  cases nd <;> cases hs
  exact ⟨_, hnd⟩

theorem shp?_fpipe {net : Net} {k src : Nat} (h : net.shp? k = some (.fpipe src)) :
    ∃ st, net.nodes[k]? = some (.fpipe src st) := by
  obtain ⟨nd, hnd, hs⟩ := shp?_eq_some h
  cases nd <;> cases hs
  exact ⟨_, hnd⟩

theorem shp?_parent {net : Net} {k src n : Nat} (h : net.shp? k = some (.parent src n)) :
    ∃ core, net.nodes[k]? = some (.parent src core) ∧ core.cursors.length = n := by
  obtain ⟨nd, hnd, hs⟩ := shp?_eq_some h
  cases nd <;> cases hs
  exact ⟨_, hnd, rfl⟩

theorem shp?_child {net : Net} {k P idx : Nat} (h : net.shp? k = some (.child P idx)) :
    net.nodes[k]? = some (.child P idx) := by
  obtain ⟨nd, hnd, hs⟩ := shp?_eq_some h
  cases nd <;> cases hs
  exact hnd

theorem shp?_merge {net : Net} {k : Nat} {sts : List Nat} (h : net.shp? k = some (.merge sts)) :
    ∃ ch, net.nodes[k]? = some (.merge sts ch) := by
  obtain ⟨nd, hnd, hs⟩ := shp?_eq_some h
  cases nd <;> cases hs
  exact ⟨_, hnd⟩

theorem shp?_conv {net : Net} {k src : Nat} {g : ConvSpec} (h : net.shp? k = some (.conv src g)) :
    net.nodes[k]? = some (.conv src g) := by
  obtain ⟨nd, hnd, hs⟩ := shp?_eq_some h
  cases nd <;> cases hs
  exact hnd

theorem SameShape.edge {a b : Net} (h : SameShape a b) {j u : Nat} : Edge b j u ↔ Edge a j u := by
  unfold Edge; rw [h.2 j]

theorem SameShape.up {a b : Net} (h : SameShape a b) {j k : Nat} : Up b j k ↔ Up a j k := by
  have mp : ∀ {a b : Net}, SameShape a b → Up b j k → Up a j k := fun h hu => by
    induction hu with
    | refl j => exact .refl j
    | step he _ ih => exact .step (h.edge.mp he) ih
  exact ⟨mp h, mp h.symm⟩

theorem SameShape.shInv {a b : Net} (h : SameShape a b) (i : ShInv a) : ShInv b := by
  have e : b.shp? = a.shp? := funext h.2
  exact {
    lt := by unfold Edge; rw [e]; exact i.lt
    usesKind := by rw [e]; exact i.usesKind
    convSrc := by rw [e]; exact i.convSrc
    parSrc := by rw [e]; exact i.parSrc
    childPar := by rw [e]; exact i.childPar
    mergeSrc := by rw [e]; exact i.mergeSrc
    fwdSrc := by rw [e]; exact i.fwdSrc
    lin := by rw [e]; exact i.lin
    usesNodup := by rw [e]; exact i.usesNodup
    childUniq := by rw [e]; exact i.childUniq }

theorem SameShape.rdInv {a b : Net} (h : SameShape a b) (hr : b.readers = a.readers) (i : RdInv a) : RdInv b := by
  have e : b.shp? = a.shp? := funext h.2
  exact {
    free := by rw [e, hr]; exact i.free
    kind := by rw [e, hr]; exact i.kind
    nodup := by rw [hr]; exact i.nodup }

theorem Up.trans {net : Net} {a b c : Nat} (h1 : Up net a b) (h2 : Up net b c) : Up net a c := by
  induction h1 with
  | refl _ => exact h2
  | step he _ ih => exact .step he (ih h2)

theorem Up.single {net : Net} {a b : Nat} (h : Edge net a b) : Up net a b := .step h (.refl b)

theorem Up.tail {net : Net} {a b c : Nat} (h1 : Up net a b) (h2 : Edge net b c) : Up net a c :=
  h1.trans (.single h2)

theorem Up.le {net : Net} (i : ShInv net) {a b : Nat} (h : Up net a b) : b ≤ a := by
  induction h with
  | refl _ => exact Nat.le_refl _
  | step he _ ih => have := i.lt _ _ he; omega

theorem Up.last {net : Net} {a c : Nat} (h : Up net a c) : a = c ∨ ∃ b, Up net a b ∧ Edge net b c := by
  induction h with
  | refl _ => exact .inl rfl
  | @step j u k he _ ih =>
    right
    rcases ih with rfl | ⟨b, hb, hbc⟩
    · exact ⟨j, .refl j, he⟩
    · exact ⟨b, .step he hb, hbc⟩

theorem Up.first {net : Net} {a c : Nat} (h : Up net a c) : a = c ∨ ∃ b, Edge net a b ∧ Up net b c := by
  cases h with
  | refl _ => exact .inl rfl
  | step he hu => exact .inr ⟨_, he, hu⟩

theorem setNode_get_off {net a : Net} {id j k : Nat} (hj : Up a id j) (hk : ¬ Up a id k) (x : Node) :
    (net.setNode j x).nodes[k]? = net.nodes[k]? :=
  setNode_get_ne x (by rintro rfl; exact hk hj)

theorem edge_uses {net : Net} {c u : Nat} {s : Shp} (hc : net.shp? c = some s) (hu : u ∈ s.uses) : Edge net c u :=
  ⟨s, hc, .inl hu⟩

theorem ShInv.par_cell {net : Net} (i : ShInv net) {j u : Nat} {s : Shp} (hs : net.shp? j = some s)
    (hu : s.par? = some u) : ∃ src n, net.shp? u = some (.parent src n) := by
  cases s <;> cases hu
  obtain ⟨src, n, hp, _⟩ := i.childPar j _ _ hs
  exact ⟨src, n, hp⟩

theorem Up.chain {net : Net} (i : ShInv net) {j u c : Nat} {s : Shp} (h : Up net j u) (hne : j ≠ u)
    (hc : net.shp? c = some s) (hu : u ∈ s.uses) : Up net j c := by
  rcases h.last with rfl | ⟨w, hw, s', hs', he⟩
  · exact absurd rfl hne
  · rcases he with he | he
    · have := i.lin w c s' s u hs' hc he hu
      subst this; exact hw
    · -- a consumed reader is not a cell
      obtain ⟨t, ht, hcell⟩ := i.usesKind c s u hc hu
      obtain ⟨src, n, hp⟩ := i.par_cell hs' he
      rw [hp] at ht; cases ht; cases hcell

theorem Up.of_no_edge {net : Net} {j k : Nat} (h : Up net j k) (hn : ∀ u, ¬ Edge net j u) : j = k := by
  cases h with
  | refl _ => rfl
  | step he _ => exact absurd he (hn _)

theorem den_unfold (fut : Nat → List Item) (net : Net) (id : Nat) (l : List Item) :
    Den fut net id l ↔ DenBody fut net id l := by
  constructor
  · intro h
    unfold DenBody
    cases h with
    | pipe h1 => simp [h1]
    | arr h1 => simp [h1]
    | conv h1 h2 => simp only [h1]; exact ⟨_, h2, rfl⟩
    | childOpen h1 h2 h3 h4 h5 => simp only [h1, h2]; exact ⟨_, h3, .inl ⟨h4, _, h5, rfl⟩⟩
    | childEof h1 h2 h3 h4 => simp only [h1, h2]; exact ⟨_, h3, .inr ⟨h4, rfl⟩⟩
    | merge h1 h2 h3 => simp only [h1]; exact ⟨_, h2, h3⟩
    | fwd h1 h2 => simp [h1, h2]
    | fwdEnded h1 => simp [h1]
  · intro h
    unfold DenBody at h
    split at h
    · rename_i p hp; subst h; exact .pipe hp
    · rename_i rest hp; subst h; exact .arr hp
    · rename_i src g hp; obtain ⟨l', h1, rfl⟩ := h; exact .conv hp h1
    · rename_i par idx hp
      split at h
      · rename_i src core hq
        obtain ⟨k, hk, ⟨he, l', h1, rfl⟩ | ⟨he, rfl⟩⟩ := h
        · exact .childOpen hp hq hk he h1
        · exact .childEof hp hq hk he
      · exact h.elim
    · rename_i sts chosen hp; obtain ⟨ls, h1, h2⟩ := h; exact .merge hp h1 h2
    · rename_i src st hp
      rcases h with ⟨rfl, h1⟩ | ⟨rfl, rfl⟩
      · exact .fwd hp h1
      · exact .fwdEnded hp
    · exact h.elim

theorem Den.pipe_inv {fut : Nat → List Item} {net : Net} {id : Nat} {p : Pipe} {l : List Item}
    (hn : net.nodes[id]? = some (.pipe p)) (h : Den fut net id l) :
    l = p.buf ++ if p.sendClosed then [] else fut id := by
  simpa only [DenBody, hn] using (den_unfold fut net id l).mp h

theorem Den.arr_inv {fut : Nat → List Item} {net : Net} {id : Nat} {rest l : List Item}
    (hn : net.nodes[id]? = some (.arr rest)) (h : Den fut net id l) : l = rest := by
  simpa only [DenBody, hn] using (den_unfold fut net id l).mp h

theorem Den.conv_inv {fut : Nat → List Item} {net : Net} {id src : Nat} {g : ConvSpec} {l : List Item}
    (hn : net.nodes[id]? = some (.conv src g)) (h : Den fut net id l) :
    ∃ l', Den fut net src l' ∧ l = l'.filterMap (convItem g.fn) := by
  simpa only [DenBody, hn] using (den_unfold fut net id l).mp h

theorem Den.child_inv {fut : Nat → List Item} {net : Net} {id par idx src : Nat} {core : CopyCore} {l : List Item}
    (hn : net.nodes[id]? = some (.child par idx)) (hp : net.nodes[par]? = some (.parent src core))
    (h : Den fut net id l) :
    ∃ k, core.cursors[idx]? = some (some k) ∧
      ((core.eofSeen = false ∧ ∃ l', Den fut net src l' ∧ l = core.log.drop k ++ l') ∨
       (core.eofSeen = true ∧ l = core.log.drop k)) := by
  simpa only [DenBody, hn, hp] using (den_unfold fut net id l).mp h

theorem Den.merge_inv {fut : Nat → List Item} {net : Net} {id : Nat} {sts chosen : List Nat} {l : List Item}
    (hn : net.nodes[id]? = some (.merge sts chosen)) (h : Den fut net id l) :
    ∃ ls : Nat → List Item, (∀ sb sid, sb ∈ chosen → sts[sb]? = some sid → Den fut net sid (ls sb)) ∧
      Inter chosen ls l := by
  simpa only [DenBody, hn] using (den_unfold fut net id l).mp h

theorem Den.fwd_inv {fut : Nat → List Item} {net : Net} {id src : Nat} {st : FwdSt} {l : List Item}
    (hn : net.nodes[id]? = some (.fpipe src st)) (h : Den fut net id l) :
    (st = .running ∧ Den fut net src l) ∨ (st = .ended ∧ l = []) := by
  simpa only [DenBody, hn] using (den_unfold fut net id l).mp h

theorem Den.parent_inv {fut : Nat → List Item} {net : Net} {id src : Nat} {core : CopyCore} {l : List Item}
    (hn : net.nodes[id]? = some (.parent src core)) (h : Den fut net id l) : False := by
  simpa only [DenBody, hn] using (den_unfold fut net id l).mp h

theorem Den.node {fut : Nat → List Item} {net : Net} {id : Nat} {l : List Item} (h : Den fut net id l) :
    ∃ nd, net.nodes[id]? = some nd := by
  cases h <;> exact ⟨_, by assumption⟩

theorem mem_uses_conv {u src : Nat} {g : ConvSpec} : u ∈ (Shp.conv src g).uses ↔ u = src := List.mem_singleton
theorem mem_uses_parent {u src n : Nat} : u ∈ (Shp.parent src n).uses ↔ u = src := List.mem_singleton
theorem mem_uses_fpipe {u src : Nat} : u ∈ (Shp.fpipe src).uses ↔ u = src := List.mem_singleton
theorem mem_uses_merge {u : Nat} {sts : List Nat} : u ∈ (Shp.merge sts).uses ↔ u ∈ sts := .rfl

theorem edge_conv {net : Net} {id src : Nat} {g : ConvSpec} (h : net.nodes[id]? = some (.conv src g)) : Edge net id src :=
  ⟨_, shp?_some h, .inl (mem_uses_conv.mpr rfl)⟩
theorem edge_child {net : Net} {id par idx : Nat} (h : net.nodes[id]? = some (.child par idx)) : Edge net id par :=
  ⟨_, shp?_some h, .inr rfl⟩
theorem edge_parent {net : Net} {par src : Nat} {core : CopyCore} (h : net.nodes[par]? = some (.parent src core)) : Edge net par src :=
  ⟨_, shp?_some h, .inl (mem_uses_parent.mpr rfl)⟩
theorem edge_merge {net : Net} {id sid : Nat} {sts chosen : List Nat} (h : net.nodes[id]? = some (.merge sts chosen))
    (hs : sid ∈ sts) : Edge net id sid :=
  ⟨_, shp?_some h, .inl (mem_uses_merge.mpr hs)⟩
theorem edge_merge_get {net : Net} {id sb sid : Nat} {sts chosen : List Nat}
    (h : net.nodes[id]? = some (.merge sts chosen)) (hs : sts[sb]? = some sid) : Edge net id sid :=
  edge_merge h (List.mem_of_getElem? hs)
theorem edge_fwd {net : Net} {id src : Nat} {st : FwdSt} (h : net.nodes[id]? = some (.fpipe src st)) : Edge net id src :=
  ⟨_, shp?_some h, .inl (mem_uses_fpipe.mpr rfl)⟩

/-! ## `Den` only looks at the nodes the reader is built on, and at little of each -/

/-- `DenLE fut fut' id x y`: whatever `Den` specifies for node `y` at `id` (pipes fed `fut'`), given
    the sequences of its sources, it specifies for `x` (pipes fed `fut`) too. Not an order on nodes:
    `x` is the node before a change, `y` the one after, and sequences are carried back from `y` to `x`.
    `fpipe` is the vacuous case: `st'` is `pending` or `stopped`, for which `Den` has no rule. -/
inductive DenLE (fut fut' : Nat → List Item) (id : Nat) : Node → Node → Prop where
  | same {x : Node} : (∀ p, x ≠ .pipe p) → DenLE fut fut' id x x
  | pipe {p q : Pipe} :
      (q.buf ++ if q.sendClosed then [] else fut' id) = (p.buf ++ if p.sendClosed then [] else fut id) →
      DenLE fut fut' id (.pipe p) (.pipe q)
  | parent {s : Nat} {c c' : CopyCore} : c'.log = c.log → c'.eofSeen = c.eofSeen →
      (∀ i k : Nat, c'.cursors[i]? = some (some k) → c.cursors[i]? = some (some k)) →
      DenLE fut fut' id (.parent s c) (.parent s c')
  | fpipe {s : Nat} {st st' : FwdSt} : st' ≠ .running → st' ≠ .ended →
      DenLE fut fut' id (.fpipe s st) (.fpipe s st')

theorem DenLE.refl (fut : Nat → List Item) (id : Nat) (x : Node) : DenLE fut fut id x x := by
  cases x with
  | pipe p => exact .pipe rfl
  | _ => exact .same (by simp)

/-- Carries `Den` back from `b` to `a` below `j`. `B` marks the boundary: the nodes where the
    transfer is not derived but given, with `pre k` what `k` delivered in between. Off the boundary
    the hypothesis asks: `k` delivered nothing; nor did any reader `k` consumes (so a boundary source
    is used with empty prefix); the cell of a copy `k` is off the boundary too (the rules for a copy
    read the cell itself, not its `Den`); and `k`'s own node changed within `DenLE`. -/
theorem Den.transferB {fut fut' : Nat → List Item} {a b : Net} {B : Nat → Prop} {pre : Nat → List Item}
    {j : Nat} {l : List Item} (hd : Den fut' b j l)
    (h : ∀ k, Up a j k →
      (B k → ∀ l, Den fut' b k l → Den fut a k (pre k ++ l)) ∧
      (¬ B k → pre k = [] ∧ (∀ x s, a.nodes[k]? = some x → s ∈ x.shp.uses → pre s = []) ∧
        (∀ P idx, b.nodes[k]? = some (.child P idx) → ¬ B P) ∧
        ∀ y, b.nodes[k]? = some y → ∃ x, a.nodes[k]? = some x ∧ DenLE fut fut' k x y)) :
    Den fut a j (pre j ++ l) := by
  suffices H : ∀ id l, Den fut' b id l → Up a j id → ¬ B id → Den fut a id l by
    by_cases hb : B j
    · exact (h j (.refl j)).1 hb l hd
    · rw [((h j (.refl j)).2 hb).1]; exact H j l hd (.refl j) hb
  have node : ∀ {id : Nat} {y : Node}, Up a j id → ¬ B id → b.nodes[id]? = some y →
      ∃ x, a.nodes[id]? = some x ∧ DenLE fut fut' id x y := fun hu hb => ((h _ hu).2 hb).2.2.2 _
  -- a reader `s` that a node off the boundary consumes: given if it is on the boundary, by
  -- induction if not
  have use : ∀ {id s : Nat} {x : Node} {ls : List Item}, Up a j id → ¬ B id → a.nodes[id]? = some x →
      s ∈ x.shp.uses → Den fut' b s ls → (Up a j s → ¬ B s → Den fut a s ls) → Den fut a s ls :=
    fun {id s x ls} hu hb hx hs hd ih => by
      have hus := hu.tail (edge_uses (shp?_some hx) hs)
      by_cases hbs : B s
      · have := (h s hus).1 hbs ls hd
        rwa [((h id hu).2 hb).2.1 x s hx hs] at this
      · exact ih hus hbs
  intro id l hd
  induction hd with
  | @pipe id q h1 =>
    intro hu hb
    obtain ⟨x, hx, le⟩ := node hu hb h1
    cases le with
    | same hne => exact absurd rfl (hne q)
    | pipe e => rw [e]; exact .pipe hx
  | arr h1 =>
    intro hu hb
    obtain ⟨x, hx, le⟩ := node hu hb h1
    cases le; exact .arr hx
  | conv h1 h2 ih =>
    intro hu hb
    obtain ⟨x, hx, le⟩ := node hu hb h1
    cases le
    exact .conv hx (use hu hb hx (.head _) h2 ih)
  | @childOpen id par idx s k core l' h1 h2 h3 h4 h5 ih =>
    intro hu hb
    obtain ⟨x, hx, le⟩ := node hu hb h1
    cases le
    have hup := hu.tail (edge_child hx)
    have hbp := ((h _ hu).2 hb).2.2.1 _ _ h1
    obtain ⟨y, hy, le2⟩ := node hup hbp h2
    cases le2 with
    | same _ => exact .childOpen hx hy h3 h4 (use hup hbp hy (.head _) h5 ih)
    | parent e1 e2 e3 =>
      rw [e1]; exact .childOpen hx hy (e3 _ _ h3) (e2 ▸ h4) (use hup hbp hy (.head _) h5 ih)
  | childEof h1 h2 h3 h4 =>
    intro hu hb
    obtain ⟨x, hx, le⟩ := node hu hb h1
    cases le
    obtain ⟨y, hy, le2⟩ := node (hu.tail (edge_child hx)) (((h _ hu).2 hb).2.2.1 _ _ h1) h2
    cases le2 with
    | same _ => exact .childEof hx hy h3 h4
    | parent e1 e2 e3 => rw [e1]; exact .childEof hx hy (e3 _ _ h3) (e2 ▸ h4)
  | merge h1 h2 h3 ih =>
    intro hu hb
    obtain ⟨x, hx, le⟩ := node hu hb h1
    cases le
    exact .merge hx (fun sb sid hsb hsid =>
      use hu hb hx (List.mem_of_getElem? hsid) (h2 sb sid hsb hsid) (ih sb sid hsb hsid)) h3
  | fwd h1 h2 ih =>
    intro hu hb
    obtain ⟨x, hx, le⟩ := node hu hb h1
    cases le with
    | same _ => exact .fwd hx (use hu hb hx (.head _) h2 ih)
    | fpipe e1 e2 => exact absurd rfl e1
  | fwdEnded h1 =>
    intro hu hb
    obtain ⟨x, hx, le⟩ := node hu hb h1
    cases le with
    | same _ => exact .fwdEnded hx
    | fpipe e1 e2 => exact absurd rfl e2

theorem Den.transfer {fut fut' : Nat → List Item} {a b : Net} {j : Nat} {l : List Item}
    (hd : Den fut' b j l)
    (hs : ∀ k y, Up a j k → b.nodes[k]? = some y → ∃ x, a.nodes[k]? = some x ∧ DenLE fut fut' k x y) :
    Den fut a j l :=
  hd.transferB (B := fun _ => False) (pre := fun _ => []) fun k hk =>
    ⟨False.elim, fun _ => ⟨rfl, fun _ _ _ _ => rfl, fun _ _ _ => id, fun y => hs k y hk⟩⟩

theorem Den.congr {fut : Nat → List Item} {net net' : Net} {j : Nat} {l : List Item}
    (h : Den fut net' j l) (hs : ∀ k, Up net j k → net'.nodes[k]? = net.nodes[k]?) : Den fut net j l :=
  h.transfer fun k y hk hy => ⟨y, (hs k hk).symm.trans hy, .refl fut k y⟩

end EinoV.C08
