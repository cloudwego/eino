/-
  C08 — what `MergeStreamReaders` does to the network (`mstep_cases`, `mkMerge_cases`), what it
  leaves alone; it keeps `Inv`.
-/
import EinoV.Proofs.C08Tree.InvCopy
namespace EinoV.C08


theorem setNode_shp? {net : Net} {r : Nat} (hr : r < net.nodes.size) (x : Node) (k : Nat) :
    (net.setNode r x).shp? k = if k = r then some x.shp else net.shp? k := by
  unfold Net.shp?
  rw [setNode_get]
  by_cases e : r = k
  · subst e; simp [hr]
  · have : ¬ k = r := fun h => e h.symm
    simp [e, this]

theorem ShInv.kill {net : Net} (i : ShInv net) {r : Nat} (hr : r < net.nodes.size) (hfree : Free net r)
    (hcell : ∀ src n, net.shp? r ≠ some (.parent src n)) : ShInv (net.setNode r .dead) := by
  refine i.set (s := .dead) (setNode_shp? hr .dead) ?_ (fun _ h => h.elim nofun nofun) trivial
    nofun List.nodup_nil nofun
  rintro j t u hj - hu rfl
  rcases hu with hu | hu
  · exact hfree j t hj hu
  · obtain ⟨src, n, hp⟩ := i.par_cell hj hu
    exact hcell src n hp

theorem Free.kill {net : Net} {u r : Nat} (hr : r < net.nodes.size) (h : Free net u) : Free (net.setNode r .dead) u := by
  intro j s hj
  rw [setNode_shp? hr] at hj
  split at hj
  · cases hj; exact nofun
  · exact h j s hj

/-- the loop body of `mkMerge` -/
def mstep (acc : Net × List Nat × List Item) (r : Nat) : Option (Net × List Nat × List Item) :=
  match acc.1.nodes[r]? with
  | some (.pipe _) => some (acc.1, acc.2.1 ++ [r], acc.2.2)
  | some (.arr rest) => some (acc.1, acc.2.1, acc.2.2 ++ rest)
  | some (.merge sts _) => some (acc.1.setNode r .dead, acc.2.1 ++ sts, acc.2.2)
  | some (.conv _ _) | some (.child _ _) =>
    let r' := acc.1.push (.fpipe r .running)
    some (r'.1, acc.2.1 ++ [r'.2], acc.2.2)
  | _ => none

theorem mkMerge_eq (net : Net) (rs : List Nat) :
    mkMerge net rs =
      (rs.foldlM mstep (net, [], [])).bind fun (x : Net × List Nat × List Item) =>
        if x.2.1.isEmpty && !x.2.2.isEmpty then some (x.1.push (.arr x.2.2))
        else
          let y : Net × List Nat :=
            if !x.2.2.isEmpty then
              let r := x.1.push (.pipe ⟨x.2.2.length, x.2.2, true, false⟩)
              (r.1, x.2.1 ++ [r.2])
            else (x.1, x.2.1)
          some (y.1.push (.merge y.2 (List.range y.2.length))) := by
  rfl



theorem mstep_cases {n n' : Net} {ss ss' : List Nat} {arr arr' : List Item} {r : Nat}
    (h : mstep (n, ss, arr) r = some (n', ss', arr')) :
    (∃ p, n.nodes[r]? = some (.pipe p) ∧ n' = n ∧ ss' = ss ++ [r] ∧ arr' = arr) ∨
    (∃ rest, n.nodes[r]? = some (.arr rest) ∧ n' = n ∧ ss' = ss ∧ arr' = arr ++ rest) ∨
    (∃ sts ch, n.nodes[r]? = some (.merge sts ch) ∧ n' = n.setNode r .dead ∧ ss' = ss ++ sts ∧ arr' = arr) ∨
    (((∃ s g, n.nodes[r]? = some (.conv s g)) ∨ ∃ P i, n.nodes[r]? = some (.child P i)) ∧
      n' = (n.push (.fpipe r .running)).1 ∧ ss' = ss ++ [n.nodes.size] ∧ arr' = arr) := by
  unfold mstep at h
  simp only at h
  split at h
  · rename_i p hp
    simp at h; obtain ⟨rfl, rfl, rfl⟩ := h
    exact .inl ⟨p, hp, rfl, rfl, rfl⟩
  · rename_i rest hp
    simp at h; obtain ⟨rfl, rfl, rfl⟩ := h
    exact .inr (.inl ⟨rest, hp, rfl, rfl, rfl⟩)
  · rename_i sts ch hp
    simp at h; obtain ⟨rfl, rfl, rfl⟩ := h
    exact .inr (.inr (.inl ⟨sts, ch, hp, rfl, rfl, rfl⟩))
  · rename_i s g hp
    simp at h; obtain ⟨rfl, rfl, rfl⟩ := h
    exact .inr (.inr (.inr ⟨.inl ⟨s, g, hp⟩, rfl, rfl, rfl⟩))
  · rename_i P i hp
    simp at h; obtain ⟨rfl, rfl, rfl⟩ := h
    exact .inr (.inr (.inr ⟨.inr ⟨P, i, hp⟩, rfl, rfl, rfl⟩))
  · cases h

def IsSrcShp (net : Net) (u : Nat) : Prop :=
  net.shp? u = some .pipe ∨ ∃ src, net.shp? u = some (.fpipe src)

/-- invariant of the loop of `mkMerge`: `dn` = the readers dealt with so far, `ss` = the collected sources -/
structure MFold (net0 n : Net) (ss dn : List Nat) : Prop where
  sh : ShInv n
  st : StInv n
  rdrs : n.readers = net0.readers
  held : ∀ r ∈ net0.readers, r ∉ dn → Free n r ∧ ∃ t, n.shp? r = some t ∧ t.isReader = true
  ssOk : ∀ u ∈ ss, IsSrcShp n u ∧ Free n u ∧ ¬ (u ∈ net0.readers ∧ u ∉ dn)
  ssNd : ss.Nodup

theorem MFold.init {net : Net} (i : Inv net) : MFold net net [] [] :=
  ⟨i.sh, i.st, rfl, fun r hr _ => ⟨i.rd.free' hr, i.rd.kind r hr⟩, fun u hu => by simp at hu, List.nodup_nil⟩

theorem MFold.srcLt {net0 n : Net} {ss dn : List Nat} (m : MFold net0 n ss dn) {u : Nat} (hu : u ∈ ss) :
    u < n.nodes.size := by
  rcases (m.ssOk u hu).1 with h | ⟨s, h⟩ <;> exact shp?_lt h

theorem MFold.mono {net0 n : Net} {ss dn dn' : List Nat} (m : MFold net0 n ss dn) (h : ∀ r ∈ dn, r ∈ dn') :
    MFold net0 n ss dn' :=
  ⟨m.sh, m.st, m.rdrs, fun r hr hd => m.held r hr fun hm => hd (h r hm),
    fun u hu => ⟨(m.ssOk u hu).1, (m.ssOk u hu).2.1, fun ⟨a, b⟩ => (m.ssOk u hu).2.2 ⟨a, fun hm => b (h u hm)⟩⟩,
    m.ssNd⟩

theorem MFold.pushSrc {net0 n : Net} {ss dn : List Nat} (m : MFold net0 n ss dn) (x : Node)
    (hsrc : x.shp = .pipe ∨ ∃ s, x.shp = .fpipe s) (hpar : x.shp.par? = none)
    (huse : ∀ u ∈ x.shp.uses, u ∈ dn ∧ u ∉ ss ∧ Free n u) (hnd : x.shp.uses.Nodup)
    (htyp : Typed n x.shp) (hok : NodeOK x) :
    MFold net0 (n.push x).1 (ss ++ [n.nodes.size]) dn := by
  refine ⟨m.sh.push_nopar x hpar htyp (fun u hu => (huse u hu).2.2) hnd, m.st.push hok, by simp [m.rdrs],
    ?_, ?_, ?_⟩
  · intro r hr hd
    obtain ⟨h1, t, ht, hk⟩ := m.held r hr hd
    exact ⟨h1.push x (fun hu => hd (huse r hu).1), t, push_shp?_old x ht, hk⟩
  · intro u hu
    simp at hu
    rcases hu with hu | rfl
    · obtain ⟨h1, h2, h3⟩ := m.ssOk u hu
      refine ⟨?_, h2.push x (fun hx => (huse u hx).2.1 hu), h3⟩
      rcases h1 with h1 | ⟨s, h1⟩
      · exact .inl (push_shp?_old x h1)
      · exact .inr ⟨s, push_shp?_old x h1⟩
    · refine ⟨by simpa [IsSrcShp, push_shp?] using hsrc, free_new m.sh x (fun u hu => htyp.lt (.inl hu)), ?_⟩
      rintro ⟨a, b⟩
      obtain ⟨_, t, ht, _⟩ := m.held _ a b
      have := shp?_lt ht; omega
  · exact nodup_append_new m.ssNd (fun hm => by have := m.srcLt hm; omega)

theorem mstep_inv {net0 n n' : Net} {ss ss' dn : List Nat} {arr arr' : List Item} {r : Nat}
    (m : MFold net0 n ss dn) (hr : r ∈ net0.readers) (hd : r ∉ dn)
    (h : mstep (n, ss, arr) r = some (n', ss', arr')) : MFold net0 n' ss' (r :: dn) := by
  obtain ⟨hfr, t, ht, hk⟩ := m.held r hr hd
  have hlt := shp?_lt ht
  have hrss : r ∉ ss := fun hm => (m.ssOk r hm).2.2 ⟨hr, hd⟩
  have m' : MFold net0 n ss (r :: dn) := m.mono fun _ hm => List.mem_cons_of_mem r hm
  rcases mstep_cases h with ⟨p, hp, rfl, rfl, rfl⟩ | ⟨rest, hp, rfl, rfl, rfl⟩ |
    ⟨sts, ch, hp, rfl, rfl, rfl⟩ | ⟨_, rfl, rfl, rfl⟩
  · -- a pipe becomes a source
    refine ⟨m.sh, m.st, m.rdrs, m'.held, ?_, nodup_append_new m.ssNd hrss⟩
    intro u hu
    simp at hu
    rcases hu with hu | rfl
    · exact m'.ssOk u hu
    · exact ⟨.inl (shp?_some hp), hfr, fun ⟨_, b⟩ => b (by simp)⟩
  · exact m'
  · -- a merged reader is absorbed
    have hsm := shp?_some hp
    have hu : ∀ {u}, u ∈ sts → u ∈ (Node.merge sts ch).shp.uses := mem_uses_merge.mpr
    have keep : ∀ k, k ≠ r → (n.setNode r .dead).shp? k = n.shp? k := by
      intro k hk; rw [setNode_shp? hlt]; simp [hk]
    refine ⟨m.sh.kill hlt hfr (by intro src k; rw [hsm]; simp [Node.shp]), m.st.setNode (by trivial) _, m.rdrs, ?_, ?_, ?_⟩
    · intro r' hr' hd'
      obtain ⟨h1, t', ht', hk'⟩ := m'.held r' hr' hd'
      exact ⟨h1.kill hlt, t', by rw [keep r' (by rintro rfl; simp at hd')]; exact ht', hk'⟩
    · intro u hu'
      simp at hu'
      rcases hu' with hu' | hu'
      · obtain ⟨h1, h2, h3⟩ := m'.ssOk u hu'
        refine ⟨?_, h2.kill hlt, h3⟩
        unfold IsSrcShp; rw [keep u (fun e => hrss (e ▸ hu'))]; exact h1
      · refine ⟨?_, ?_, ?_⟩
        · unfold IsSrcShp; rw [keep u (fun e => hfr r _ hsm (hu (e ▸ hu')))]
          exact m.sh.mergeSrc r sts u hsm hu'
        · intro j s hj hju
          rw [setNode_shp? hlt] at hj
          split at hj
          · cases hj; cases hju
          · rename_i hjr
            exact hjr (m.sh.lin j r s _ u hj hsm hju (hu hu'))
        · rintro ⟨a, b⟩
          exact (m'.held u a b).1 r _ hsm (hu hu')
    · rw [List.nodup_append]
      refine ⟨m.ssNd, m.sh.usesNodup r _ hsm, ?_⟩
      intro a ha b hb e; subst e
      exact (m.ssOk a ha).2.1 r _ hsm (hu hb)
  · -- convert or copy: a forwarder
    refine m'.pushSrc (.fpipe r .running) (.inr ⟨r, rfl⟩) rfl ?_ (List.pairwise_singleton _ r) ⟨t, ht, hk⟩ trivial
    intro u hu
    cases mem_uses_fpipe.mp hu
    exact ⟨by simp, hrss, hfr⟩

theorem mfold_induction {net0 : Net} {P : Net → List Nat → List Nat → Prop}
    (step : ∀ {n n' : Net} {ss ss' dn : List Nat} {arr arr' : List Item} {r : Nat}, P n ss dn →
      r ∈ net0.readers → r ∉ dn → mstep (n, ss, arr) r = some (n', ss', arr') → P n' ss' (r :: dn)) :
    ∀ (rs : List Nat) (n : Net) (ss : List Nat) (arr : List Item) (dn : List Nat)
      {n1 : Net} {ss1 : List Nat} {arr1 : List Item},
    P n ss dn → (∀ r ∈ rs, r ∈ net0.readers ∧ r ∉ dn) → rs.Nodup →
    rs.foldlM mstep (n, ss, arr) = some (n1, ss1, arr1) → P n1 ss1 (rs.reverse ++ dn) := by
  intro rs
  induction rs with
  | nil =>
    intro n ss arr dn n1 ss1 arr1 h0 _ _ h
    simp at h; obtain ⟨rfl, rfl, rfl⟩ := h
    exact h0
  | cons r rest ih =>
    intro n ss arr dn n1 ss1 arr1 h0 hrs hnd h
    simp only [List.foldlM_cons, Option.bind_eq_bind, Option.bind_eq_some_iff] at h
    obtain ⟨⟨n', ss', arr'⟩, h1, h2⟩ := h
    rw [List.nodup_cons] at hnd
    have hr := hrs r (by simp)
    have := ih n' ss' arr' (r :: dn) (step h0 hr.1 hr.2 h1)
      (fun r' hr' => ⟨(hrs r' (by simp [hr'])).1, by
        simp; exact ⟨fun e => hnd.1 (e ▸ hr'), (hrs r' (by simp [hr'])).2⟩⟩) hnd.2 h2
    simpa [List.reverse_cons, List.append_assoc] using this

theorem allDistinct_nodup : ∀ {l : List Nat}, allDistinct l = true → l.Nodup
  | [], _ => List.nodup_nil
  | x :: xs, h => by
    simp [allDistinct] at h
    exact List.nodup_cons.mpr ⟨h.1, allDistinct_nodup h.2⟩

theorem MFold.final {net0 n : Net} {ss dn : List Nat} (m : MFold net0 n ss dn) (x : Node)
    (hxr : x.shp.isReader = true) (hpar : x.shp.par? = none) (huse : ∀ u ∈ x.shp.uses, u ∈ ss)
    (hnd : x.shp.uses.Nodup) (htyp : Typed n x.shp) (hok : NodeOK x)
    (R W : List Nat) (hR : ∀ r ∈ R, r ∈ net0.readers ∧ r ∉ dn) (hRnd : R.Nodup) :
    Inv { (n.push x).1 with readers := R ++ [n.nodes.size], writers := W } :=
  Inv.push_new m.sh m.st x hxr hpar htyp (fun u hu => (m.ssOk u (huse u hu)).2.1) hnd hok R W hRnd fun r hr =>
    ⟨fun hu => (m.ssOk r (huse r hu)).2.2 (hR r hr), m.held r (hR r hr).1 (hR r hr).2⟩

theorem MFold.pushPipe {net0 n : Net} {ss dn : List Nat} (m : MFold net0 n ss dn) (p : Pipe) :
    MFold net0 (n.push (.pipe p)).1 (ss ++ [n.nodes.size]) dn :=
  m.pushSrc (.pipe p) (.inl rfl) rfl nofun List.nodup_nil trivial trivial

theorem MFold.mergeInv {net0 n : Net} {ss dn : List Nat} (m : MFold net0 n ss dn)
    (R W : List Nat) (hR : ∀ r ∈ R, r ∈ net0.readers ∧ r ∉ dn) (hRnd : R.Nodup) :
    Inv { (n.push (.merge ss (List.range ss.length))).1 with readers := R ++ [n.nodes.size], writers := W } := by
  refine m.final (.merge ss (List.range ss.length)) rfl rfl (fun u => mem_uses_merge.mp) m.ssNd ?_ ?_ R W hR hRnd
  · intro sid hs; exact (m.ssOk sid hs).1
  · exact ⟨fun sb hsb => by simpa using hsb, List.nodup_range⟩

def IsMergeNode (net : Net) (k : Nat) : Prop := ∃ sts ch, net.nodes[k]? = some (.merge sts ch)

theorem mstep_frame {n n' : Net} {ss ss' : List Nat} {arr arr' : List Item} {r : Nat}
    (h : mstep (n, ss, arr) r = some (n', ss', arr')) :
    n.nodes.size ≤ n'.nodes.size ∧ n'.readers = n.readers ∧
    ∀ k, k < n.nodes.size → n'.nodes[k]? = n.nodes[k]? ∨ (k = r ∧ IsMergeNode n k) := by
  rcases mstep_cases h with ⟨_, _, rfl, _⟩ | ⟨_, _, rfl, _⟩ | ⟨sts, ch, hp, rfl, _⟩ | ⟨_, rfl, _⟩
  · exact ⟨Nat.le_refl _, rfl, fun k _ => .inl rfl⟩
  · exact ⟨Nat.le_refl _, rfl, fun k _ => .inl rfl⟩
  · refine ⟨by simp, rfl, fun k _ => ?_⟩
    by_cases e : k = r
    · subst e; exact .inr ⟨rfl, sts, ch, hp⟩
    · exact .inl (setNode_get_ne _ e)
  · exact ⟨by simp, rfl, fun k hk => .inl (push_get_old _ hk)⟩

theorem mfold_frame : ∀ (rs : List Nat) (n : Net) (ss : List Nat) (arr : List Item)
    {n1 : Net} {ss1 : List Nat} {arr1 : List Item},
    rs.foldlM mstep (n, ss, arr) = some (n1, ss1, arr1) →
    n.nodes.size ≤ n1.nodes.size ∧ n1.readers = n.readers ∧
    ∀ k, k < n.nodes.size → n1.nodes[k]? = n.nodes[k]? ∨ (k ∈ rs ∧ IsMergeNode n k) := by
  intro rs n ss arr n1 ss1 arr1 h
  refine foldlM_some_inv mstep (fun m => n.nodes.size ≤ m.1.nodes.size ∧ m.1.readers = n.readers ∧
      ∀ k, k < n.nodes.size → m.1.nodes[k]? = n.nodes[k]? ∨ (k ∈ rs ∧ IsMergeNode n k))
    (fun ⟨m, ss, arr⟩ r ⟨m', ss', arr'⟩ hr ⟨s0, r0, o0⟩ h1 => ?_) ⟨Nat.le_refl _, rfl, fun _ _ => .inl rfl⟩ h
  obtain ⟨s1, r1, o1⟩ := mstep_frame h1
  refine ⟨Nat.le_trans s0 s1, r1.trans r0, fun k hk => (o0 k hk).elim (fun e0 => ?_) .inr⟩
  rcases o1 k (Nat.lt_of_lt_of_le hk s0) with e1 | ⟨rfl, sts, ch, hm⟩
  · exact .inl (e1.trans e0)
  · exact .inr ⟨hr, sts, ch, e0 ▸ hm⟩

theorem mfold_old (rs : List Nat) (n : Net) (ss : List Nat) (arr : List Item)
    {n1 : Net} {ss1 : List Nat} {arr1 : List Item}
    (h : rs.foldlM mstep (n, ss, arr) = some (n1, ss1, arr1)) :
    n.nodes.size ≤ n1.nodes.size ∧
    ∀ k, k < n.nodes.size → n1.nodes[k]? = n.nodes[k]? ∨ (k ∈ rs ∧ IsMergeNode n k) :=
  have f := mfold_frame rs n ss arr h
  ⟨f.1, f.2.2⟩

theorem mfold_readers (rs : List Nat) (n : Net) (ss : List Nat) (arr : List Item)
    {n1 : Net} {ss1 : List Nat} {arr1 : List Item}
    (h : rs.foldlM mstep (n, ss, arr) = some (n1, ss1, arr1)) : n1.readers = n.readers :=
  (mfold_frame rs n ss arr h).2.1

/-- the last stage of `mkMerge`: a single array if only arrays were merged; else the merged reader
    over the collected sources, the collected array items first put into a closed pipe of their own -/
theorem mkMerge_cases {net n2 : Net} {rs : List Nat} {id : Nat} (h : mkMerge net rs = some (n2, id)) :
    ∃ n1 ss1 arr1, rs.foldlM mstep (net, [], []) = some (n1, ss1, arr1) ∧
      ((ss1 = [] ∧ n2 = (n1.push (.arr arr1)).1 ∧ id = n1.nodes.size) ∨
       (n2 = (n1.push (.merge ss1 (List.range ss1.length))).1 ∧ id = n1.nodes.size) ∨
       (n2 = ((n1.push (.pipe ⟨arr1.length, arr1, true, false⟩)).1.push
          (.merge (ss1 ++ [n1.nodes.size]) (List.range (ss1 ++ [n1.nodes.size]).length))).1 ∧
        id = (n1.push (.pipe ⟨arr1.length, arr1, true, false⟩)).1.nodes.size)) := by
  rw [mkMerge_eq] at h
  simp only [Option.bind_eq_some_iff] at h
  obtain ⟨⟨n1, ss1, arr1⟩, hf, hfin⟩ := h
  refine ⟨n1, ss1, arr1, hf, ?_⟩
  simp only at hfin
  split at hfin
  · rename_i hemp
    simp at hfin hemp; obtain ⟨rfl, rfl⟩ := hfin
    exact .inl ⟨hemp.1, rfl, rfl⟩
  · simp at hfin
    split at hfin
    · obtain ⟨rfl, rfl⟩ := hfin; exact .inr (.inl ⟨rfl, rfl⟩)
    · obtain ⟨rfl, rfl⟩ := hfin; exact .inr (.inr ⟨rfl, rfl⟩)

theorem mkMerge_frame {net n2 : Net} {rs : List Nat} {id : Nat} (h : mkMerge net rs = some (n2, id)) :
    ∃ n1 ss1 arr1, rs.foldlM mstep (net, [], []) = some (n1, ss1, arr1) ∧
      Ext n1 n2 ∧ n2.readers = n1.readers ∧ n1.nodes.size ≤ id := by
  obtain ⟨n1, ss1, arr1, hf, hfin⟩ := mkMerge_cases h
  refine ⟨n1, ss1, arr1, hf, ?_⟩
  rcases hfin with ⟨_, rfl, rfl⟩ | ⟨rfl, rfl⟩ | ⟨rfl, rfl⟩
  · exact ⟨Ext.push _ _, rfl, Nat.le_refl _⟩
  · exact ⟨Ext.push _ _, rfl, Nat.le_refl _⟩
  · exact ⟨(Ext.push _ _).trans (Ext.push _ _), rfl, (Ext.push _ _).size⟩

theorem mem_filter_kept {R rs : List Nat} {y : Nat} :
    y ∈ R.filter (fun r => !rs.contains r) ↔ y ∈ R ∧ y ∉ rs.reverse := by simp

theorem applyOp_merge_cases {F : Facts} {fuel : Nat} {net net' : Net} {rs : List Nat} {cr : List Nat}
    (h : applyOp F fuel net (.merge rs) = .ok (net', cr)) :
    net' = net ∨
    (rs.Nodup ∧ (∀ r ∈ rs, r ∈ net.readers) ∧ ∃ n2 id, mkMerge net rs = some (n2, id) ∧
      net' = { n2 with readers := net.readers.filter (fun r => !rs.contains r) ++ [id] }) := by
  simp only [applyOp] at h
  split at h
  · cases h; exact .inl rfl
  · split at h
    · cases h
    · rename_i hc
      simp only [Bool.or_eq_true, Bool.not_eq_true', not_or, Bool.not_eq_false] at hc
      obtain ⟨⟨_, hdist⟩, hall⟩ := hc
      split at h
      · cases h
      · rename_i n2 id hm
        cases h
        obtain ⟨n1, _, _, hf, _, hr2, _⟩ := mkMerge_frame hm
        refine .inr ⟨allDistinct_nodup (by simpa using hdist), fun r hr => ?_, n2, id, hm, ?_⟩
        · simpa using List.all_eq_true.mp hall r hr
        · rw [hr2, mfold_readers rs net [] [] hf]

theorem applyOp_merge_inv {F : Facts} {fuel : Nat} {net net' : Net} {rs : List Nat} {cr : List Nat}
    (i : Inv net) (h : applyOp F fuel net (.merge rs) = .ok (net', cr)) : Inv net' := by
  rcases applyOp_merge_cases h with rfl | ⟨hnd, hin, n2, id, hm, rfl⟩
  · exact i
  obtain ⟨n1, ss1, arr1, hf, hfin⟩ := mkMerge_cases hm
  have m1 := mfold_induction (P := MFold net) mstep_inv rs net [] [] [] (MFold.init i)
    (fun r hr => ⟨hin r hr, by simp⟩) hnd hf
  have hR : ∀ r ∈ net.readers.filter (fun r => !rs.contains r), r ∈ net.readers ∧ r ∉ rs.reverse ++ [] :=
    fun r hr => (List.append_nil _).symm ▸ mem_filter_kept.mp hr
  have hRnd : (net.readers.filter (fun r => !rs.contains r)).Nodup := i.rd.nodup.filter _
  rcases hfin with ⟨_, rfl, rfl⟩ | ⟨rfl, rfl⟩ | ⟨rfl, rfl⟩
  · exact m1.final (.arr arr1) rfl rfl nofun List.nodup_nil trivial trivial _ _ hR hRnd
  · exact m1.mergeInv _ _ hR hRnd
  · exact (m1.pushPipe ⟨arr1.length, arr1, true, false⟩).mergeInv _ _ hR hRnd


end EinoV.C08
