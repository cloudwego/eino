/-
  C08 — interleavings (`Inter`) and the effect of a change of a shared `Copy` cell on the
  specified sequences of all readers, the copies of that cell among them (`parent_change`);
  facts about pipes and the sibling sources of a merged reader used by the delivery theorem.
-/
import EinoV.Proofs.C08Tree.RecvBasic
set_option linter.unusedVariables false
namespace EinoV.C08

@[simp] theorem upd_same (f : Nat → List Item) (s : Nat) (v : List Item) : upd f s v s = v := by simp [upd]
theorem upd_ne (f : Nat → List Item) {s t : Nat} (v : List Item) (h : t ≠ s) : upd f s v t = f t := by simp [upd, h]
theorem upd_upd (f : Nat → List Item) (s : Nat) (a b : List Item) : upd (upd f s a) s b = upd f s b := by
  funext t; by_cases h : t = s <;> simp [upd, h]
theorem upd_comm (f : Nat → List Item) {s t : Nat} (a b : List Item) (h : s ≠ t) :
    upd (upd f s a) t b = upd (upd f t b) s a := by
  funext u
  by_cases h1 : u = s
  · subst h1; simp [upd, h]
  · by_cases h2 : u = t
    · subst h2; simp [upd, h1]
    · simp [upd, h1, h2]
theorem upd_self (f : Nat → List Item) (s : Nat) : upd f s (f s) = f := by
  funext t; by_cases h : t = s <;> simp [upd, h]

theorem Inter.push {S : List Nat} {ls : Nat → List Item} {l : List Item} {s : Nat} (x : Item)
    (hs : s ∈ S) (h : Inter S ls l) : Inter S (upd ls s (x :: ls s)) (x :: l) := by
  refine .cons hs (upd_same _ _ _) ?_
  rw [upd_upd, upd_self]; exact h

theorem Inter.add_empty {S : List Nat} {ls : Nat → List Item} {l : List Item} {sb : Nat}
    (hnd : sb ∉ S.erase sb) (h : Inter (S.erase sb) ls l) : Inter S (upd ls sb []) l := by
  induction h with
  | @nil ls h0 =>
    refine .nil fun s hs => ?_
    by_cases e : s = sb
    · subst e; simp
    · rw [upd_ne _ _ e]; exact h0 s ((List.mem_erase_of_ne e).mpr hs)
  | @cons ls s x rest l hs hl _ ih =>
    have hne : s ≠ sb := by rintro rfl; exact hnd hs
    refine .cons (List.mem_of_mem_erase hs) (by rw [upd_ne _ _ hne]; exact hl) ?_
    rw [upd_comm _ _ _ (Ne.symm hne)]; exact ih

theorem Inter.congr {S : List Nat} {ls ls' : Nat → List Item} {l : List Item}
    (h : Inter S ls l) (he : ∀ s ∈ S, ls' s = ls s) : Inter S ls' l := by
  induction h generalizing ls' with
  | nil h0 => exact .nil fun s hs => (he s hs).trans (h0 s hs)
  | @cons ls s x rest l hs hl _ ih =>
    refine .cons hs ((he s hs).trans hl) (ih fun t ht => ?_)
    by_cases e : t = s
    · subst e; simp
    · rw [upd_ne _ _ e, upd_ne _ _ e]; exact he t ht

theorem Inter.empty (S : List Nat) : Inter S (fun _ => []) [] := .nil fun _ _ => rfl

theorem edge_of_child {net : Net} {j par idx b : Nat} (hj : net.nodes[j]? = some (.child par idx))
    (he : Edge net j b) : b = par := by
  obtain ⟨s, hs, h⟩ := he
  rw [shp?_some hj] at hs
  cases hs
  rcases h with h | h
  · cases h
  · exact (Option.some.inj h).symm

theorem dom_src {net : Net} (hsh : ShInv net) {id src j : Nat} {s : Shp} (hs : net.shp? id = some s)
    (hu : src ∈ s.uses) (hj : ¬ Up net j id) : j = src ∨ ¬ Up net j src := by
  by_cases e : j = src
  · exact .inl e
  · exact .inr fun h => hj (h.chain hsh e hs hu)

theorem den_off {fut : Nat → List Item} {net net' : Net} {id j : Nat} {l : List Item}
    (hget : ∀ k, k ≠ id → net'.nodes[k]? = net.nodes[k]?) (hj : ¬ Up net j id)
    (hd : Den fut net' j l) : Den fut net j l :=
  hd.congr fun k hk => hget k (by rintro rfl; exact hj hk)

theorem den_off_set {fut : Nat → List Item} {net : Net} {id j : Nat} {x : Node} {l : List Item}
    (hj : ¬ Up net j id) (hd : Den fut (net.setNode id x) j l) : Den fut net j l :=
  den_off (fun k hk => setNode_get_ne _ hk) hj hd

theorem parent_change {fut : Nat → List Item} {net n1 : Net} {par src idx cid : Nat} {core c' : CopyCore}
    {pre : Nat → List Item}
    (hsh : ShInv net)
    (hok : ∀ (i k : Nat), core.cursors[i]? = some (some k) → k ≤ core.log.length)
    (hcid : net.nodes[cid]? = some (.child par idx))
    (hp : net.nodes[par]? = some (.parent src core))
    (hfoot : ∀ k, ¬ Up net src k → n1.nodes[k]? = net.nodes[k]?)
    (hss : SameShape net n1)
    (H1 : ∀ j l, (j = src ∨ ¬ Up net j src) → Den fut n1 j l → Den fut net j (pre j ++ l))
    (hpre : ∀ j, ¬ Up net src j → j ≠ cid → pre j = [])
    (hcur : ∀ i : Nat, i ≠ idx → c'.cursors[i]? = core.cursors[i]?)
    (hcase : (c'.log = core.log ++ pre src ∧ c'.eofSeen = core.eofSeen ∧ (core.eofSeen = true → pre src = [])) ∨
             (c'.log = core.log ∧ pre src = [] ∧ c'.eofSeen = true ∧ core.eofSeen = false ∧ Den fut net src []))
    {j : Nat} {l : List Item}
    (hself : j = cid → ∀ k', c'.cursors[idx]? = some (some k') →
      ∃ k, core.cursors[idx]? = some (some k) ∧ core.log.drop k ++ pre src = pre cid ++ c'.log.drop k')
    (hd : Den fut (n1.setNode par (.parent src c')) j l) (hj : j = cid ∨ ¬ Up net j cid) :
    Den fut net j (pre j ++ l) := by
  have hlt := hsh.lt _ _ (edge_parent hp)
  have hp1 : n1.nodes[par]? = some (.parent src core) := (hfoot par (up_parent_not hsh hp)).trans hp
  have getN : ∀ k, k ≠ par → (n1.setNode par (.parent src c')).nodes[k]? = n1.nodes[k]? :=
    fun k hk => setNode_get_ne _ hk
  have getNpar : (n1.setNode par (.parent src c')).nodes[par]? = some (.parent src c') := setNode_get_self hp1 _
  have notUpSrc : ∀ j, Up net j par → ¬ Up net src j := fun j h1 h2 => by
    have := h1.le hsh; have := h2.le hsh; omega
  have nodeEq : ∀ j, Up net j par → j ≠ par → (n1.setNode par (.parent src c')).nodes[j]? = net.nodes[j]? :=
    fun j h1 h2 => (getN j h2).trans (hfoot j (notUpSrc j h1))
  have offpar : ∀ j l, Den fut (n1.setNode par (.parent src c')) j l → ¬ Up net j par →
      Den fut net j (pre j ++ l) := fun j l hd hup =>
    H1 j l (dom_src hsh (shp?_some hp) (.head _) hup) (den_off getN (fun h => hup (hss.up.mp h)) hd)
  have hlog : c'.log = core.log ++ pre src := by
    rcases hcase with ⟨h, _⟩ | ⟨h, hz, _⟩
    · exact h
    · rw [hz, List.append_nil]; exact h
  -- the boundary: what is off `par`, `par` itself, the copies of `par`
  refine hd.transferB (fut := fut)
    (B := fun k => ¬ Up net k par ∨ k = par ∨ ∃ i, net.nodes[k]? = some (.child par i))
    fun k hjk => ⟨?_, fun hb => ?_⟩
  · rintro (hup | rfl | ⟨idx2, hk⟩) l hd
    · exact offpar _ _ hd hup
    · exact (Den.parent_inv getNpar hd).elim
    · have hkne : k ≠ par := fun e => by rw [e, hp] at hk; cases hk
      have hupk : Up net k par := .single (edge_child hk)
      obtain ⟨k0, h3, hcs⟩ := Den.child_inv ((nodeEq k hupk hkne).trans hk) getNpar hd
      -- where the copy stood in the shared list: where it stands now (`hcur`), unless it is the one
      -- that read (`hself`)
      obtain ⟨k1, hk1, hgot⟩ : ∃ k1, core.cursors[idx2]? = some (some k1) ∧
          core.log.drop k1 ++ pre src = pre k ++ c'.log.drop k0 := by
        by_cases hidx : idx2 = idx
        · subst hidx
          obtain rfl := hsh.childUniq k cid par idx2 (shp?_some hk) (shp?_some hcid)
          exact hself (hj.resolve_right fun h => h hjk) k0 h3
        · have hk0 : core.cursors[idx2]? = some (some k0) := (hcur idx2 hidx).symm.trans h3
          refine ⟨k0, hk0, ?_⟩
          rw [hpre k (notUpSrc k hupk) fun e => by subst e; rw [hcid] at hk; cases hk; exact hidx rfl,
            hlog, List.drop_append_of_le_length (hok idx2 k0 hk0), List.nil_append]
      -- the shared list and what the source delivers after it make up the same sequence as before
      have atSrc := fun l' (hl' : Den fut _ src l') => offpar _ _ hl' (up_parent_not hsh hp)
      rcases hcs with ⟨h4, l', hl', rfl⟩ | ⟨h4, rfl⟩
      · rw [← List.append_assoc, ← hgot, List.append_assoc]
        rcases hcase with ⟨_, he, _⟩ | ⟨_, _, he, _, _⟩
        · exact .childOpen hk hp hk1 (he ▸ h4) (atSrc _ hl')
        · rw [he] at h4; cases h4
      · rw [← hgot]
        rcases hcase with ⟨_, he, hz⟩ | ⟨_, hps, _, he, hden⟩
        · rw [hz (he ▸ h4), List.append_nil]
          exact .childEof hk hp hk1 (he ▸ h4)
        · rw [hps]
          exact .childOpen hk hp hk1 he hden
  · -- the other nodes above `par` are the same in both networks, with no prefix around them
    have hup : Up net k par := Classical.byContradiction fun h => hb (.inl h)
    have hne : k ≠ par := fun e => hb (.inr (.inl e))
    have hnc : ∀ i, net.nodes[k]? ≠ some (.child par i) := fun i h => hb (.inr (.inr ⟨i, h⟩))
    have hget := nodeEq k hup hne
    refine ⟨hpre k (notUpSrc k hup) fun e => hnc idx (e ▸ hcid), fun x s hx hu => ?_, fun P i hc => ?_,
      fun y hy => ⟨y, hget.symm.trans hy, .refl fut k y⟩⟩
    · -- a reader that `k` consumes: off the source of the cell, and not the copy that read
      refine hpre s (fun h => ?_) ?_
      · by_cases e : src = s
        · subst e; exact hne (hsh.lin k par _ _ src (shp?_some hx) (shp?_some hp) hu (.head _))
        · exact notUpSrc k hup (h.chain hsh e (shp?_some hx) hu)
      rintro rfl
      have he := edge_uses (shp?_some hx) hu
      rcases hj with rfl | hj
      · have := hjk.le hsh; have := hsh.lt _ _ he; omega
      · exact hj (hjk.tail he)
    · -- the cell of a copy above `par` that is no copy of `par` lies above `par` too
      rw [hget] at hc
      rintro (h | rfl | ⟨i2, h⟩)
      · rcases hup.first with rfl | ⟨b, he, hb⟩
        · exact hne rfl
        · exact h (edge_of_child hc he ▸ hb)
      · exact hnc i hc
      · obtain ⟨s2, n, hps, _⟩ := hsh.childPar k P i (shp?_some hc)
        rw [shp?_some h] at hps; cases hps

theorem Pipe.recv_item {p p' : Pipe} {x : Item} (h : p.recv = some (p', .item x)) :
    p.buf = x :: p'.buf ∧ p'.sendClosed = p.sendClosed := by
  rcases Pipe.recv_some h with ⟨y, rest, hb, hr, rfl⟩ | ⟨_, _, hr, _⟩
  · cases hr; exact ⟨hb, rfl⟩
  · cases hr

theorem Pipe.recv_eof {p p' : Pipe} (h : p.recv = some (p', .eof)) :
    p.buf = [] ∧ p.sendClosed = true ∧ p' = p := by
  rcases Pipe.recv_some h with ⟨_, _, _, hr, _⟩ | ⟨hb, hs, _, rfl⟩
  · cases hr
  · exact ⟨hb, hs, rfl⟩

theorem ofSrc_tag_other {j id : Nat} (r : Res) (h : j ≠ id) : ofSrc j (tag id r) = [] :=
  ofSrc_tag_ne (Ne.symm h) r

theorem Recv.den_pipe {fut : Nat → List Item} {net : Net} {id : Nat} {p p' : Pipe} {r : Res}
    (hn : net.nodes[id]? = some (.pipe p)) (hr : p.recv = some (p', r)) :
    (r = .eof → Den fut net id []) ∧
    (∀ j l, (j = id ∨ ¬ Up net j id) → Den fut (net.setNode id (.pipe p')) j l →
      Den fut net j (ofSrc j (tag id r) ++ l)) := by
  constructor
  · rintro rfl
    obtain ⟨hb, hs, _⟩ := Pipe.recv_eof hr
    have := Den.pipe (fut := fut) hn
    simpa [hb, hs] using this
  · intro j l hj hd
    by_cases e : j = id
    · subst e
      have hl := Den.pipe_inv (setNode_get_self hn _) hd
      rw [ofSrc_tag_self]
      cases r with
      | item x =>
        obtain ⟨hb, hs⟩ := Pipe.recv_item hr
        have := Den.pipe (fut := fut) hn
        rw [hb, ← hs] at this
        rw [hl]; simpa [Res.items] using this
      | eof =>
        obtain ⟨_, _, rfl⟩ := Pipe.recv_eof hr
        rw [hl]; simpa [Res.items] using Den.pipe (fut := fut) hn
    · have hj' : ¬ Up net j id := by rcases hj with h | h; exact absurd h e; exact h
      rw [ofSrc_tag_other r e]
      exact den_off_set hj' hd

theorem merge_sib {net : Net} (hsh : ShInv net) {id sb sid b s : Nat} {sts chosen : List Nat}
    (hn : net.nodes[id]? = some (.merge sts chosen)) (hs : sts[sb]? = some sid) (hb : sts[b]? = some s)
    (hne : b ≠ sb) : s ≠ sid ∧ ¬ Up net s sid := by
  have hnd : sts.Nodup := hsh.usesNodup id _ (shp?_some hn)
  have h1 : s ≠ sid := by
    rintro rfl
    exact hne ((List.getElem?_inj (List.getElem?_eq_some_iff.mp hb).1 hnd).mp (hb.trans hs.symm))
  refine ⟨h1, fun hu => ?_⟩
  have := (hu.chain hsh h1 (shp?_some hn) (mem_uses_merge.mpr (List.mem_of_getElem? hs))).le hsh
  have := hsh.lt _ _ (edge_merge_get hn hb)
  omega

theorem merge_sib_fwd {net : Net} (hsh : ShInv net) {id sb sid b s src : Nat} {sts chosen : List Nat} {st : FwdSt}
    (hn : net.nodes[id]? = some (.merge sts chosen)) (hs : sts[sb]? = some sid) (hb : sts[b]? = some s)
    (hne : b ≠ sb) (hf : net.nodes[sid]? = some (.fpipe src st)) : ¬ Up net s src ∧ ¬ Up net src s := by
  obtain ⟨h1, h2⟩ := merge_sib hsh hn hs hb hne
  have hms : s ∈ (Node.merge sts chosen).shp.uses := mem_uses_merge.mpr (List.mem_of_getElem? hb)
  have hfs : src ∈ (Node.fpipe src st).shp.uses := mem_uses_fpipe.mpr rfl
  have hne2 : s ≠ src := by
    rintro rfl
    have := hsh.lin id sid _ _ s (shp?_some hn) (shp?_some hf) hms hfs
    have := hsh.lt _ _ (edge_merge_get hn hs)
    omega
  constructor
  · intro hu
    exact h2 (hu.chain hsh hne2 (shp?_some hf) hfs)
  · intro hu
    have := (hu.chain hsh (Ne.symm hne2) (shp?_some hn) hms).le hsh
    have := hsh.lt _ _ (edge_merge_get hn hs)
    have := hsh.lt _ _ (edge_fwd hf)
    omega

def DenStep (fut : Nat → List Item) (net net' : Net) (id : Nat) (r : Res) (tr : List (Nat × Item)) : Prop :=
  (r = .eof → Den fut net id []) ∧
  (∀ j l, (j = id ∨ ¬ Up net j id) → Den fut net' j l → Den fut net j (ofSrc j tr ++ l))

theorem not_up_of_dom {net : Net} {j id : Nat} (h : j = id ∨ ¬ Up net j id) (e : j ≠ id) : ¬ Up net j id :=
  h.resolve_left e

end EinoV.C08
