/-
  C08 — the closed flag `stat`; who holds the reading end of a node after one node was replaced
  (`rootClaimed_iff`, `rootClaimed_set_iff`); the hypotheses (`RelHyp`) under which closing a reader
  restores the close invariant.
-/
import EinoV.Proofs.C08Tree.Claim
namespace EinoV.C08

theorem stat_pipe {net : Net} {k : Nat} {p : Pipe} (h : net.nodes[k]? = some (.pipe p)) :
    stat net k = if p.recvClosed then .closed else .open := by simp [stat, h]

theorem stat_child {net : Net} {c P idx src : Nat} {core : CopyCore} (h : net.nodes[c]? = some (.child P idx))
    (hp : net.nodes[P]? = some (.parent src core)) : stat net c = cursorStat core.cursors[idx]? := by
  unfold stat; rw [h]; simp only; rw [hp]

theorem stat_fwd {net : Net} {f src : Nat} {st : FwdSt} (h : net.nodes[f]? = some (.fpipe src st)) :
    stat net f = fwdStat st := by
  unfold stat; rw [h]

theorem stat_none {net : Net} {k : Nat} (h : ∀ nd, net.nodes[k]? = some nd →
    (∀ p, nd ≠ .pipe p) ∧ (∀ P idx, nd ≠ .child P idx) ∧ (∀ s st, nd ≠ .fpipe s st)) :
    stat net k = .none := by
  unfold stat
  cases hn : net.nodes[k]? with
  | none => rfl
  | some nd =>
    obtain ⟨h1, h2, h3⟩ := h nd hn
    cases nd with
    | pipe p => exact absurd rfl (h1 p)
    | child P idx => exact absurd rfl (h2 P idx)
    | fpipe s st => exact absurd rfl (h3 s st)
    | _ => rfl

def Node.hasFlag : Node → Bool
  | .pipe _ | .child _ _ | .fpipe _ _ => true
  | _ => false

theorem stat_noflag {net : Net} {k : Nat} {x : Node} (h : net.nodes[k]? = some x) (hx : x.hasFlag = false) :
    stat net k = .none := by
  unfold stat; rw [h]
  cases x <;> first | rfl | cases hx

theorem flag_of_stat_none {net : Net} {H : List Nat} {k : Nat} (h : stat net k = .none) :
    (stat net k = .open → Claimed net H k) ∧ (stat net k = .closed → ¬ Claimed net H k) := by
  rw [h]; exact ⟨nofun, nofun⟩

theorem stat_congr {a b : Net} {k : Nat} (h1 : b.nodes[k]? = a.nodes[k]?)
    (h2 : ∀ P idx, a.nodes[k]? = some (.child P idx) → b.nodes[P]? = a.nodes[P]?) : stat b k = stat a k := by
  unfold stat
  rw [h1]
  cases hn : a.nodes[k]? with
  | none => rfl
  | some nd =>
    cases nd with
    | child P idx => simp only; rw [h2 P idx hn]
    | _ => rfl

theorem cursorStat_open_iff (v : Option (Option Nat)) : cursorStat v = .open ↔ ∃ k, v = some (some k) := by
  cases v with
  | none => simp [cursorStat]
  | some w => cases w <;> simp [cursorStat]

theorem cursorStat_ne_closed {v : Option (Option Nat)} (h : cursorStat v ≠ .closed) : ∃ k, v = some (some k) :=
  match v, h with
  | some (some k), _ => ⟨k, rfl⟩
  | some none, h | none, h => absurd rfl h

theorem cursorStat_set_some {l : List (Option Nat)} {idx k : Nat} (hk : l[idx]? = some (some k)) (v i : Nat) :
    cursorStat (l.set idx (some v))[i]? = cursorStat l[i]? := by
  rw [List.getElem?_set]
  by_cases e : idx = i
  · subst e
    rw [if_pos rfl, if_pos (List.getElem?_eq_some_iff.mp hk).1, hk]; rfl
  · rw [if_neg e]

theorem openCursor_stat (c : CopyCore) : OpenCursor c ↔ ∃ i : Nat, cursorStat c.cursors[i]? = .open := by
  unfold OpenCursor
  constructor
  · rintro ⟨i, k, h⟩; exact ⟨i, (cursorStat_open_iff _).mpr ⟨k, h⟩⟩
  · rintro ⟨i, h⟩; obtain ⟨k, hk⟩ := (cursorStat_open_iff _).mp h; exact ⟨i, k, hk⟩

/-- node `x` holds the reading end of `u`: a `Copy` cell on `u` with an open copy, or a forwarding
    goroutine of `u` that has not exited -/
def NewHolds (x : Node) (u : Nat) : Prop :=
  (∃ core, x = .parent u core ∧ OpenCursor core) ∨ (∃ st, x = .fpipe u st ∧ (st = .running ∨ st = .pending))

theorem holds_parent {s u : Nat} {core : CopyCore} : NewHolds (Node.parent s core) u ↔ u = s ∧ OpenCursor core := by
  simp only [NewHolds, Node.parent.injEq, reduceCtorEq, false_and, exists_false, or_false]
  exact ⟨fun ⟨c, ⟨h1, h2⟩, h3⟩ => ⟨h1.symm, h2 ▸ h3⟩, fun ⟨h1, h2⟩ => ⟨core, ⟨h1.symm, rfl⟩, h2⟩⟩

theorem holds_fpipe {s u : Nat} {st : FwdSt} :
    NewHolds (Node.fpipe s st) u ↔ u = s ∧ (st = .running ∨ st = .pending) := by
  simp only [NewHolds, Node.fpipe.injEq, reduceCtorEq, false_and, exists_false, false_or]
  exact ⟨fun ⟨c, ⟨h1, h2⟩, h3⟩ => ⟨h1.symm, h2 ▸ h3⟩, fun ⟨h1, h2⟩ => ⟨st, ⟨h1.symm, rfl⟩, h2⟩⟩

theorem NewHolds.uses {x : Node} {u : Nat} (h : NewHolds x u) : u ∈ x.shp.uses := by
  rcases h with ⟨core, rfl, _⟩ | ⟨st, rfl, _⟩ <;> exact .head _

def Node.isHolder : Node → Bool
  | .parent _ _ => true
  | .fpipe _ _ => true
  | _ => false

theorem not_holds {x : Node} {u : Nat} (h : x.isHolder = false) : ¬ NewHolds x u := by
  rintro (⟨c, rfl, _⟩ | ⟨st, rfl, _⟩) <;> cases h

theorem rootClaimed_iff {net : Net} {H : List Nat} {u : Nat} :
    RootClaimed net H u ↔ u ∈ H ∨ ∃ (k : Nat) (x : Node), net.nodes[k]? = some x ∧ NewHolds x u := by
  constructor
  · rintro (h | ⟨P, core, hp, ho⟩ | ⟨f, st, hf, hs⟩)
    · exact .inl h
    · exact .inr ⟨P, _, hp, .inl ⟨core, rfl, ho⟩⟩
    · exact .inr ⟨f, _, hf, .inr ⟨st, rfl, hs⟩⟩
  · rintro (h | ⟨k, x, hk, ⟨core, rfl, ho⟩ | ⟨st, rfl, hs⟩⟩)
    · exact .inl h
    · exact .inr (.inl ⟨k, core, hk, ho⟩)
    · exact .inr (.inr ⟨k, st, hk, hs⟩)

theorem rootClaimed_consumer {net : Net} {H : List Nat} (i : ShInv net) {c u : Nat} {y : Node}
    (hc : net.nodes[c]? = some y) (hu : u ∈ y.shp.uses) (h : RootClaimed net H u) : u ∈ H ∨ NewHolds y u := by
  rcases rootClaimed_iff.mp h with hh | ⟨k, x, hk, hx⟩
  · exact .inl hh
  · have := i.lin k c _ _ u (shp?_some hk) (shp?_some hc) hx.uses hu
    subst this
    rw [hc] at hk; cases hk
    exact .inr hx

theorem RootClaimed.mono {a b : Net} {H : List Nat} {u : Nat}
    (h : ∀ (k : Nat) (x : Node), a.nodes[k]? = some x → NewHolds x u → ∃ y : Node, b.nodes[k]? = some y ∧ NewHolds y u)
    (hc : RootClaimed a H u) : RootClaimed b H u := by
  rcases rootClaimed_iff.mp hc with hc | ⟨k, x, hk, hx⟩
  · exact .inl hc
  · obtain ⟨y, hy, hh⟩ := h k x hk hx
    exact rootClaimed_iff.mpr (.inr ⟨k, y, hy, hh⟩)

theorem rootClaimed_set_of {net : Net} {H : List Nat} {i u : Nat} {x y : Node} (hx : net.nodes[i]? = some x)
    (h : NewHolds x u → NewHolds y u) (hc : RootClaimed net H u) : RootClaimed (net.setNode i y) H u :=
  RootClaimed.mono (a := net) (fun k z hz hh => by
    by_cases e : k = i
    · subst e; rw [hx] at hz; cases hz; exact ⟨y, setNode_get_self hx _, h hh⟩
    · exact ⟨z, (setNode_get_ne _ e).trans hz, hh⟩) hc

theorem rootClaimed_of_set {net : Net} {H : List Nat} {i u : Nat} {x y : Node} (hx : net.nodes[i]? = some x)
    (h : NewHolds y u → NewHolds x u) (hc : RootClaimed (net.setNode i y) H u) : RootClaimed net H u :=
  RootClaimed.mono (b := net) (fun k z hz hh => by
    by_cases e : k = i
    · subst e; rw [setNode_get_self hx] at hz; cases hz; exact ⟨x, hx, h hh⟩
    · exact ⟨z, (setNode_get_ne _ e).symm.trans hz, hh⟩) hc

theorem rootClaimed_set_iff {net : Net} {H : List Nat} {i u : Nat} {x y : Node} (hx : net.nodes[i]? = some x)
    (h : NewHolds y u ↔ NewHolds x u) : RootClaimed (net.setNode i y) H u ↔ RootClaimed net H u :=
  ⟨rootClaimed_of_set hx h.mp, rootClaimed_set_of hx h.mpr⟩

theorem claimed_set_drop {net : Net} {H : List Nat} {c src : Nat} {x y : Node} (hx : net.nodes[c]? = some x)
    (hs : y.shp = x.shp) (hto : ∀ u, NewHolds y u → NewHolds x u) (hfrom : ∀ u, NewHolds x u → u = src) (k : Nat) :
    (Claimed (net.setNode c y) H k → Claimed net H k) ∧
    (¬ UpP net src k → Claimed net H k → Claimed (net.setNode c y) H k) := by
  have hss : SameShape net (net.setNode c y) := setNode_sameShape hx hs
  constructor
  · rintro ⟨j', hu, hc⟩
    exact ⟨j', hss.upP.mp hu, rootClaimed_of_set hx (hto j') hc⟩
  · rintro hk ⟨j', hu, hc⟩
    exact ⟨j', hss.upP.mpr hu, rootClaimed_set_of hx (fun hh => absurd hu (hfrom j' hh ▸ hk)) hc⟩

theorem noClaim_of_consumer {net : Net} {H : List Nat} (i : ShInv net) (hH : ∀ r ∈ H, Free net r)
    {c src : Nat} {y : Node} (hc : net.nodes[c]? = some y) (hsrc : src ∈ y.shp.uses)
    (hnp : ¬ PEdge net c src) (hy : ¬ NewHolds y src) : ∀ j', UpP net j' src → ¬ RootClaimed net H j' := by
  intro j' hj' hrc
  have := hj'.stop i (shp?_some hc) hsrc hnp
  subst this
  rcases rootClaimed_consumer i hc hsrc hrc with hh | hh
  · exact hH j' hh c _ (shp?_some hc) hsrc
  · exact hy hh

theorem Free.not_mem {net : Net} {u c : Nat} {s : Shp} (h : Free net u) (hc : net.shp? c = some s) : u ∉ s.uses :=
  h c s hc

theorem rootClaimed_not_passed {net : Net} {H : List Nat} (i : ShInv net) (hH : ∀ r ∈ H, Free net r)
    {x u : Nat} (he : PEdge net x u) : ¬ RootClaimed net H u := by
  obtain ⟨s, hs, hu⟩ := he.edge
  obtain ⟨y, hy, rfl⟩ := shp?_eq_some hs
  intro hrc
  rcases rootClaimed_consumer i hy hu hrc with h | h
  · exact hH u h x _ hs hu
  · -- the consumer of `u` is a convert or a merged reader, which holds nothing
    refine not_holds ?_ h
    rcases he with ⟨g, hg⟩ | ⟨sts, ch, hg, _⟩ <;> (rw [hy] at hg; cases hg; rfl)

theorem UpP.compare {net : Net} (i : ShInv net) {a b k : Nat} (ha : UpP net a k) (hb : UpP net b k) :
    UpP net a b ∨ UpP net b a := by
  induction ha with
  | refl _ => exact .inr hb
  | @step a u k he _ ih =>
    rcases ih hb with h | h
    · exact .inl (.step he h)
    · by_cases e : b = u
      · subst e; exact .inl (.step he (.refl _))
      · exact .inr (h.chain i e he)

structure RelHyp (net : Net) (H : List Nat) (j : Nat) : Prop where
  inv : CloseInvOn net H (fun k => ¬ UpP net j k)
  opn : ∀ k, UpP net j k → stat net k ≠ .closed
  noClaim : ∀ j', UpP net j' j → ¬ RootClaimed net H j'

theorem RelHyp.unclaimed {net : Net} {H : List Nat} {j : Nat} (h : RelHyp net H j) (i : ShInv net)
    (hH : ∀ r ∈ H, Free net r) {k : Nat} (hk : UpP net j k) : ¬ Claimed net H k := by
  rintro ⟨j', hj', hc⟩
  rcases UpP.compare i hj' hk with h1 | h1
  · exact h.noClaim j' h1 hc
  · rcases h1.last with rfl | ⟨x, _, he⟩
    · exact h.noClaim _ (.refl _) hc
    · exact rootClaimed_not_passed i hH he hc

/-- no hypothesis on the copies of a cell: that every cell has all its copies is a matter of shape -/
theorem CloseInvOn.of_sameShape {a b : Net} {H H' : List Nat} {S S' : Nat → Prop} (h : CloseInvOn a H S)
    (hs : SameShape a b)
    (hflag : ∀ k, S' k → (stat b k = .open → Claimed b H' k) ∧ (stat b k = .closed → ¬ Claimed b H' k))
    (hcell : ∀ (P src : Nat) (core : CopyCore), b.nodes[P]? = some (.parent src core) →
      a.nodes[P]? = some (.parent src core) ∨
      (core.closedNum = core.cursors.count none ∧
       core.srcClosed = (if core.cursors.count none = core.cursors.length then 1 else 0) ∧
       0 < core.cursors.length)) :
    CloseInvOn b H' S' := by
  refine ⟨hflag, fun P src core hp i hi => ?_, fun P src core hp => ?_⟩
  · obtain ⟨c0, hp0, hl⟩ := shp?_parent ((hs.2 P).symm.trans (shp?_some hp))
    obtain ⟨c, hc⟩ := h.cellKids P src c0 hp0 i (hl ▸ hi)
    exact ⟨c, shp?_child ((hs.2 c).trans (shp?_some hc))⟩
  · rcases hcell P src core hp with h0 | h0
    · exact h.cellCount P src core h0
    · exact h0

theorem closeInv_of_release {net net' : Net} {H : List Nat} {j : Nat}
    (hcl : ∀ k, Claimed net' H k ↔ Claimed net H k)
    (hsame : ∀ k, ¬ UpP net j k → stat net' k = stat net k)
    (hclosed : ∀ k, UpP net j k → stat net' k ≠ .open)
    (hun : ∀ k, UpP net j k → ¬ Claimed net H k)
    (inv : CloseInvOn net H (fun k => ¬ UpP net j k))
    (hkids : ∀ (P src : Nat) (core : CopyCore), net'.nodes[P]? = some (.parent src core) →
      ∀ i : Nat, i < core.cursors.length → ∃ c : Nat, net'.nodes[c]? = some (Node.child P i))
    (hcount : ∀ (P src : Nat) (core : CopyCore), net'.nodes[P]? = some (.parent src core) →
      core.closedNum = core.cursors.count none ∧
      core.srcClosed = (if core.cursors.count none = core.cursors.length then 1 else 0) ∧
      0 < core.cursors.length) :
    CloseInvOn net' H (fun _ => True) := by
  refine ⟨fun k _ => ?_, hkids, hcount⟩
  by_cases hk : UpP net j k
  · exact ⟨fun h => absurd h (hclosed k hk), fun _ hc => hun k hk ((hcl k).mp hc)⟩
  · rw [hsame k hk, hcl k]; exact inv.flag k hk

theorem closeInv_of_relHyp {net net' : Net} {H : List Nat} {j : Nat} (i : ShInv net) (hH : ∀ r ∈ H, Free net r)
    (h : RelHyp net H j) (hss : SameShape net net')
    (hroot : ∀ u, RootClaimed net' H u ↔ RootClaimed net H u)
    (hsame : ∀ k, ¬ UpP net j k → stat net' k = stat net k)
    (hclosed : ∀ k, UpP net j k → stat net' k ≠ .open)
    (hcell : ∀ (P src : Nat) (core : CopyCore), net'.nodes[P]? = some (.parent src core) →
      net.nodes[P]? = some (.parent src core) ∨
      (core.closedNum = core.cursors.count none ∧
       core.srcClosed = (if core.cursors.count none = core.cursors.length then 1 else 0) ∧
       0 < core.cursors.length)) :
    CloseInvOn net' H (fun _ => True) :=
  have c := h.inv.of_sameShape (H' := H) (S' := fun _ => False) hss (fun _ hf => hf.elim) hcell
  closeInv_of_release (claimed_congr hss hroot) hsame hclosed (fun _ hk => h.unclaimed i hH hk) h.inv
    c.cellKids c.cellCount

/-- Node `c` is a cell whose last copy closes or a forwarder that exits; `d` is the one node whose
    closed flag changes. -/
theorem relHyp_drop {net : Net} {H : List Nat} {S : Nat → Prop} {c src d : Nat} {x y : Node}
    (i : ShInv net) (hH : ∀ r ∈ H, Free net r) (inv : CloseInvOn net H S)
    (hx : net.nodes[c]? = some x) (hs : y.shp = x.shp) (hold : NewHolds x src) (hy : ∀ u, ¬ NewHolds y u)
    (hS : ∀ k, k ≠ d → S k) (hstat : ∀ k, k ≠ d → stat (net.setNode c y) k = stat net k) (hd : src < d)
    (hflagd : (∀ k, Claimed (net.setNode c y) H k → Claimed net H k) →
      (stat (net.setNode c y) d = .open → Claimed (net.setNode c y) H d) ∧
      (stat (net.setNode c y) d = .closed → ¬ Claimed (net.setNode c y) H d))
    (hcell : ∀ (P s : Nat) (core : CopyCore), (net.setNode c y).nodes[P]? = some (.parent s core) →
      net.nodes[P]? = some (.parent s core) ∨
      (core.closedNum = core.cursors.count none ∧
       core.srcClosed = (if core.cursors.count none = core.cursors.length then 1 else 0) ∧
       0 < core.cursors.length)) :
    RelHyp (net.setNode c y) H src := by
  have hss : SameShape net (net.setNode c y) := setNode_sameShape hx hs
  have hy1 : (net.setNode c y).nodes[c]? = some y := setNode_get_self hx _
  have hsrc := hold.uses
  have hkind : (∀ u, NewHolds x u → u = src) ∧ (∀ s g, x.shp ≠ .conv s g) ∧ (∀ sts, x.shp ≠ .merge sts) := by
    rcases hold with ⟨core, rfl, _⟩ | ⟨st, rfl, _⟩
    · exact ⟨fun u hh => (holds_parent.mp hh).1, nofun, nofun⟩
    · exact ⟨fun u hh => (holds_fpipe.mp hh).1, nofun, nofun⟩
  obtain ⟨hfrom, hk1, hk2⟩ := hkind
  have hdrop := claimed_set_drop (H := H) hx hs (fun u hh => absurd hh (hy u)) hfrom
  have hnp : ¬ PEdge (net.setNode c y) c src := by
    rw [pedge_iff, shp?_some hy1, hs]
    rintro (⟨g, hh⟩ | ⟨sts, hh, _⟩)
    · exact hk1 _ _ (Option.some.inj hh)
    · exact hk2 _ (Option.some.inj hh)
  refine ⟨inv.of_sameShape hss (fun k hk => ?_) hcell, fun k hk => ?_,
    noClaim_of_consumer (hss.shInv i) (fun r hr j s hj => hH r hr j s (hss.2 j ▸ hj)) hy1 (hs ▸ hsrc) hnp (hy src)⟩
  · by_cases e : k = d
    · subst e; exact hflagd fun k => (hdrop k).1
    · rw [hstat k e]
      have hf := inv.flag k (hS k e)
      exact ⟨fun ho => (hdrop k).2 (fun hu => hk (hss.upP.mpr hu)) (hf.1 ho), fun hc hcl => hf.2 hc ((hdrop k).1 hcl)⟩
  · have hk' := hss.upP.mp hk
    have hle := hk'.up.le i
    have hkd : k ≠ d := by omega
    rw [hstat k hkd]
    exact fun hc => (inv.flag k (hS k hkd)).2 hc ⟨src, hk', rootClaimed_iff.mpr (.inr ⟨c, x, hx, hold⟩)⟩

end EinoV.C08
