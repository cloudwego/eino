/-
  C08 — the delivery lemma for one `Recv` call: whatever a reader is specified to deliver after
  the call, prefixed by what it delivered during the call, it was specified to deliver before
  (`Recv.den`), for the reader itself and for every reader that is not built on it.
-/
import EinoV.Proofs.C08Tree.Cell
namespace EinoV.C08

theorem ofSrc_off_trace {net : Net} {src j : Nat} {tr : List (Nat × Item)}
    (ht : ∀ e ∈ tr, Up net src e.1) (hj : ¬ Up net src j) : ofSrc j tr = [] :=
  ofSrc_nil_of fun e he heq => hj (heq ▸ ht e he)

theorem ofSrc_sub_nil {net : Net} (hsh : ShInv net) {id src : Nat} {tr : List (Nat × Item)}
    (ht : ∀ e ∈ tr, Up net src e.1) (hlt : src < id) : ofSrc id tr = [] :=
  ofSrc_off_trace ht (not_up_of_lt hsh hlt)

theorem den_conv_back {fut : Nat → List Item} {F : Facts} {net n1 : Net} {id src : Nat} {g : ConvSpec}
    {r : Res} {tr : List (Nat × Item)} (hsh : ShInv net)
    (hn : net.nodes[id]? = some (.conv src g)) (hr : Recv F net src r n1 tr)
    (ih : DenStep fut net n1 src r tr) {l : List Item} (hd : Den fut n1 id l) :
    Den fut net id (r.items.filterMap (convItem g.fn) ++ l) := by
  have hn1 := (hr.footprint id (not_up_of_lt hsh (hsh.lt _ _ (edge_conv hn)))).trans hn
  obtain ⟨l', hl', rfl⟩ := Den.conv_inv hn1 hd
  have := ih.2 src l' (.inl rfl) hl'
  rw [(hr.trace hsh).2] at this
  rw [← List.filterMap_append]
  exact Den.conv hn this

theorem den_conv_eof {fut : Nat → List Item} {F : Facts} {net n1 : Net} {id src : Nat} {g : ConvSpec}
    {tr : List (Nat × Item)} (hsh : ShInv net)
    (hn : net.nodes[id]? = some (.conv src g)) (hr : Recv F net src .eof n1 tr)
    (ih : DenStep fut net n1 src .eof tr) : DenStep fut net n1 id .eof tr := by
  constructor
  · intro _; simpa using Den.conv hn (ih.1 rfl)
  · intro j l hj hd
    by_cases e : j = id
    · subst e
      rw [ofSrc_sub_nil hsh (hr.trace hsh).1 (hsh.lt _ _ (edge_conv hn))]
      exact den_conv_back hsh hn hr ih hd
    · exact ih.2 j l (dom_src hsh (shp?_some hn) (mem_uses_conv.mpr rfl) (not_up_of_dom hj e)) hd

theorem den_conv_item {fut : Nat → List Item} {F : Facts} {net n1 : Net} {id src : Nat} {g : ConvSpec}
    {it y : Item} {tr : List (Nat × Item)} (hsh : ShInv net)
    (hn : net.nodes[id]? = some (.conv src g)) (hr : Recv F net src (.item it) n1 tr)
    (hc : convItem g.fn it = some y)
    (ih : DenStep fut net n1 src (.item it) tr) : DenStep fut net n1 id (.item y) (tr ++ [(id, y)]) := by
  constructor
  · intro h; cases h
  · intro j l hj hd
    rw [ofSrc_app]
    by_cases e : j = id
    · subst e
      rw [ofSrc_sub_nil hsh (hr.trace hsh).1 (hsh.lt _ _ (edge_conv hn))]
      simpa [Res.items, ofSrc, hc] using den_conv_back hsh hn hr ih hd
    · have := ih.2 j l (dom_src hsh (shp?_some hn) (mem_uses_conv.mpr rfl) (not_up_of_dom hj e)) hd
      have hz : ofSrc j [(id, y)] = [] := ofSrc_tag_other (.item y) e
      rw [hz, List.append_nil]; exact this

/-- The shape shared by the `Recv`s of `id` that first change `net` into `netM` without returning
    anything (a convert drops an item, a merged reader drops a source that has ended), `tr1` being
    delivered below `id` meanwhile, and then go on as a `Recv` of `id` in `netM`. -/
theorem den_after_silent {fut : Nat → List Item} {net netM n2 : Net} {id : Nat} {r : Res}
    {tr1 tr2 : List (Nat × Item)}
    (dropT : ∀ l, Den fut netM id l → Den fut net id l)
    (offT : ∀ j l, j ≠ id → ¬ Up net j id → Den fut netM j l → Den fut net j (ofSrc j tr1 ++ l))
    (hz1 : ofSrc id tr1 = []) (hup : ∀ j, Up netM j id → Up net j id)
    (ih : DenStep fut netM n2 id r tr2) : DenStep fut net n2 id r (tr1 ++ tr2) := by
  constructor
  · intro h; exact dropT _ (ih.1 h)
  · intro j l hj hd
    rw [ofSrc_app, List.append_assoc]
    by_cases e : j = id
    · subst e
      rw [hz1]
      exact dropT _ (ih.2 j l (.inl rfl) hd)
    · have hj' := not_up_of_dom hj e
      exact offT j _ e hj' (ih.2 j l (.inr fun hu => hj' (hup j hu)) hd)

theorem den_conv_skip {fut : Nat → List Item} {F : Facts} {net n1 n2 : Net} {id src : Nat} {g : ConvSpec}
    {it : Item} {r : Res} {tr1 tr2 : List (Nat × Item)} (hsh : ShInv net)
    (hn : net.nodes[id]? = some (.conv src g)) (hr1 : Recv F net src (.item it) n1 tr1)
    (hc : convItem g.fn it = none)
    (ih1 : DenStep fut net n1 src (.item it) tr1) (ih2 : DenStep fut n1 n2 id r tr2) :
    DenStep fut net n2 id r (tr1 ++ tr2) := by
  refine den_after_silent (fun l' hd => ?_)
    (fun j l _ hj' hd => ih1.2 j l (dom_src hsh (shp?_some hn) (mem_uses_conv.mpr rfl) hj') hd)
    (ofSrc_sub_nil hsh (hr1.trace hsh).1 (hsh.lt _ _ (edge_conv hn))) (fun j hu => hr1.sameShape.1.up.mp hu) ih2
  simpa [Res.items, hc] using den_conv_back hsh hn hr1 ih1 hd

theorem den_child_have {fut : Nat → List Item} {net : Net} {id par idx src : Nat}
    {core c' : CopyCore} {r : Res} (hsh : ShInv net) (hst : StInv net)
    (hn : net.nodes[id]? = some (.child par idx)) (hp : net.nodes[par]? = some (.parent src core))
    (hk : core.peekLocal goodCopy idx = .have r c') :
    DenStep fut net (net.setNode par (.parent src c')) id r (tag id r) := by
  obtain ⟨k, hc, ⟨it, hit, rfl, rfl⟩ | ⟨hnone, heof, rfl, rfl⟩⟩ := peek_have hk
  · -- an item of the shared list: the cell changes only in the cursor of the copy that read,
    -- `parent_change` with nothing new from the source
    have e1 := edge_child hn
    have e2 := edge_parent hp
    have hsi : src < id := Nat.lt_trans (hsh.lt _ _ e2) (hsh.lt _ _ e1)
    have hsrc0 : ofSrc src (tag id (.item it)) = [] := ofSrc_tag_other _ (Nat.ne_of_lt hsi)
    refine ⟨nofun, fun j l hj hd => ?_⟩
    refine parent_change (fut := fut) (pre := fun j => ofSrc j (tag id (.item it)))
      (c' := { core with cursors := core.cursors.set idx (some (k + 1)) }) hsh
      (hst.cursorLe par src core hp) hn hp (fun _ _ => rfl) (.refl net) (fun j l hjs h => ?_)
      (fun j _ e => ofSrc_tag_other _ e) (fun i hi => List.getElem?_set_ne (Ne.symm hi))
      (.inl ⟨by simp only [hsrc0, List.append_nil], rfl, fun _ => hsrc0⟩) (fun _ k' hk' => ⟨k, hc, ?_⟩) hd hj
    · have e : j ≠ id := fun ej =>
        hjs.elim (fun h => Nat.ne_of_lt hsi (h.symm.trans ej)) fun h => h (ej ▸ .step e1 (.step e2 (.refl _)))
      rw [ofSrc_tag_other _ e]; exact h
    · cases (List.getElem?_set_self (List.getElem?_eq_some_iff.mp hc).1).symm.trans hk'
      obtain ⟨hklt, hget⟩ := List.getElem?_eq_some_iff.mp hit
      rw [hsrc0, ofSrc_tag_self, List.append_nil, List.drop_eq_getElem_cons hklt, hget]
      rfl
  · -- the end was already seen: nothing changes
    rw [setNode_self hp]
    refine ⟨fun _ => ?_, fun j l _ hd => hd⟩
    have := Den.childEof (fut := fut) hn hp hc heof
    rwa [List.drop_eq_nil_of_le (List.getElem?_eq_none_iff.mp hnone)] at this

theorem den_child_fill {fut : Nat → List Item} {F : Facts} {net n1 : Net} {id par idx src k : Nat}
    {core : CopyCore} {r : Res} {tr : List (Nat × Item)} (hsh : ShInv net) (hst : StInv net)
    (hn : net.nodes[id]? = some (.child par idx)) (hp : net.nodes[par]? = some (.parent src core))
    (hk : core.peekLocal goodCopy idx = .fill k) (hr : Recv F net src r n1 tr)
    (ih : DenStep fut net n1 src r tr) :
    DenStep fut net (n1.setNode par (.parent src (core.fill idx k r))) id r (tr ++ tag id r) := by
  have e1 := edge_child hn
  have e2 := edge_parent hp
  have hsi : src < id := Nat.lt_trans (hsh.lt _ _ e2) (hsh.lt _ _ e1)
  have hok := hst.cursorLe par src core hp
  obtain ⟨hc, -, heof⟩ := peek_fill hk
  have hdrop : core.log.drop k = [] := List.drop_eq_nil_of_le (Nat.le_of_eq (fill_log hk hok).symm)
  obtain ⟨hflog, hfeof, hfcur⟩ := fill_spec hk hok r
  obtain ⟨ht, hts⟩ := hr.trace hsh
  have hpre : ∀ j, ¬ Up net src j → ofSrc j tr = [] := fun j => ofSrc_off_trace ht
  have psrc : ofSrc src (tr ++ tag id r) = r.items := by
    rw [ofSrc_app, hts, ofSrc_tag_other r (Nat.ne_of_lt hsi), List.append_nil]
  have pid : ofSrc id (tr ++ tag id r) = r.items := by
    rw [ofSrc_app, hpre id (not_up_of_lt hsh hsi), ofSrc_tag_self, List.nil_append]
  have H1 : ∀ j l, (j = src ∨ ¬ Up net j src) → Den fut n1 j l →
      Den fut net j (ofSrc j (tr ++ tag id r) ++ l) := by
    intro j l hjs h
    have e : j ≠ id := fun ej =>
      hjs.elim (fun h => Nat.ne_of_lt hsi (h.symm.trans ej)) fun h => h (ej ▸ .step e1 (.step e2 (.refl _)))
    rw [ofSrc_app, ofSrc_tag_other r e, List.append_nil]; exact ih.2 j l hjs h
  refine ⟨fun h => ?_, fun j l hj hd => ?_⟩
  · subst h
    have := Den.childOpen hn hp hc heof (ih.1 rfl)
    rwa [hdrop] at this
  · refine parent_change (fut := fut) (pre := fun j => ofSrc j (tr ++ tag id r)) hsh hok hn hp hr.footprint
      hr.sameShape.1 H1 (fun j h e => by rw [ofSrc_app, hpre j h, ofSrc_tag_other r e]; rfl)
      (fun i hi => by rw [hfcur, if_neg hi]) ?_ (fun _ k' hk' => ⟨k, hc, ?_⟩) hd hj
    · -- the shared list grows by what the source delivered, or the end is now seen
      simp only [psrc]
      cases r with
      | item x => exact .inl ⟨hflog, hfeof.trans heof.symm, fun h => by rw [heof] at h; cases h⟩
      | eof => exact .inr ⟨hflog.trans (List.append_nil _), rfl, hfeof, heof, ih.1 rfl⟩
    · -- the copy that read has stepped over what the source delivered
      rw [hfcur, if_pos rfl] at hk'
      cases hk'
      rw [psrc, pid, hdrop, hflog, List.drop_eq_nil_of_le (by simp)]
      simp

theorem den_merge_eof {fut : Nat → List Item} {net : Net} {id : Nat} {sts : List Nat}
    (hn : net.nodes[id]? = some (.merge sts [])) : DenStep fut net net id .eof [] := by
  constructor
  · intro _
    exact Den.merge (ls := fun _ => []) hn (fun sb sid h _ => by simp at h) (Inter.empty _)
  · exact fun j l _ hd => hd

theorem den_merge_item {fut : Nat → List Item} {net net' : Net} {id sb sid : Nat} {sts chosen : List Nat}
    {x : Item} {tr : List (Nat × Item)} (hsh : ShInv net)
    (hn : net.nodes[id]? = some (.merge sts chosen)) (hsb : sb ∈ chosen) (hs : sts[sb]? = some sid)
    (hn' : net'.nodes[id]? = some (.merge sts chosen)) (hid : ofSrc id tr = []) (hsid : ofSrc sid tr = [])
    (srcT : ∀ l, Den fut net' sid l → Den fut net sid (x :: l))
    (sibT : ∀ b s, b ≠ sb → sts[b]? = some s → ∀ l, Den fut net' s l → Den fut net s l)
    (offT : ∀ j l, ¬ Up net j sid → Den fut net' j l → Den fut net j (ofSrc j tr ++ l)) :
    DenStep fut net net' id (.item x) (tr ++ [(sid, x), (id, x)]) := by
  have hm := List.mem_of_getElem? hs
  have hne : sid ≠ id := Nat.ne_of_lt (hsh.lt _ _ (edge_merge hn hm))
  refine ⟨nofun, fun j l hj hd => ?_⟩
  rw [ofSrc_app]
  by_cases e : j = id
  · subst e
    obtain ⟨ls, hls, hint⟩ := Den.merge_inv hn' hd
    have hof : ofSrc j [(sid, x), (j, x)] = [x] := by simp [ofSrc, hne]
    rw [hof, hid]
    refine Den.merge (ls := upd ls sb (x :: ls sb)) hn (fun b s hb hs' => ?_) (hint.push x hsb)
    by_cases eb : b = sb
    · subst eb
      rw [hs] at hs'; cases hs'
      rw [upd_same]
      exact srcT _ (hls b sid hb hs)
    · rw [upd_ne _ _ eb]
      exact sibT b s eb hs' _ (hls b s hb hs')
  · by_cases e2 : j = sid
    · subst e2
      have hof : ofSrc j [(j, x), (id, x)] = [x] := by simp [ofSrc, Ne.symm hne]
      rw [hof, hsid]
      exact srcT _ hd
    · have hof : ofSrc j [(sid, x), (id, x)] = [] := by simp [ofSrc, Ne.symm e, Ne.symm e2]
      rw [hof, List.append_nil]
      refine offT j l (fun hu => not_up_of_dom hj e ?_) hd
      exact hu.chain hsh e2 (shp?_some hn) (mem_uses_merge.mpr hm)

theorem den_merge_pipe_item {fut : Nat → List Item} {net : Net} {id sb sid : Nat} {sts chosen : List Nat}
    {p p' : Pipe} {x : Item} (hsh : ShInv net)
    (hn : net.nodes[id]? = some (.merge sts chosen)) (hsb : sb ∈ chosen) (hs : sts[sb]? = some sid)
    (hp : net.nodes[sid]? = some (.pipe p)) (hr : p.recv = some (p', .item x)) :
    DenStep fut net (net.setNode sid (.pipe p')) id (.item x) [(sid, x), (id, x)] := by
  have hne : id ≠ sid := Nat.ne_of_gt (hsh.lt _ _ (edge_merge_get hn hs))
  exact den_merge_item (tr := []) hsh hn hsb hs ((setNode_get_ne _ hne).trans hn) rfl rfl
    (fun l hd => by
      simpa [ofSrc_tag_self, Res.items] using (Recv.den_pipe (fut := fut) hp hr).2 sid l (.inl rfl) hd)
    (fun b s eb hs' l hd => den_off_set (merge_sib hsh hn hs hs' eb).2 hd)
    (fun j l => den_off_set)

theorem den_merge_fwd_item {fut : Nat → List Item} {F : Facts} {net n1 : Net} {id sb sid src : Nat}
    {sts chosen : List Nat} {x : Item} {tr : List (Nat × Item)} (hsh : ShInv net)
    (hn : net.nodes[id]? = some (.merge sts chosen)) (hsb : sb ∈ chosen) (hs : sts[sb]? = some sid)
    (hf : net.nodes[sid]? = some (.fpipe src .running)) (hr : Recv F net src (.item x) n1 tr)
    (ih : DenStep fut net n1 src (.item x) tr) :
    DenStep fut net n1 id (.item x) (tr ++ [(sid, x), (id, x)]) := by
  have hlt1 := hsh.lt _ _ (edge_merge_get hn hs)
  have hlt2 := hsh.lt _ _ (edge_fwd hf)
  obtain ⟨ht, hts⟩ := hr.trace hsh
  have hn1 := (hr.footprint id (not_up_of_lt hsh (Nat.lt_trans hlt2 hlt1))).trans hn
  have hf1 := (hr.footprint sid (not_up_of_lt hsh hlt2)).trans hf
  have hpre : ∀ j, ¬ Up net src j → ofSrc j tr = [] := fun j => ofSrc_off_trace ht
  refine den_merge_item hsh hn hsb hs hn1 (hpre id (not_up_of_lt hsh (Nat.lt_trans hlt2 hlt1)))
    (hpre sid (not_up_of_lt hsh hlt2)) (fun l' hd => ?_) (fun b s eb hs' l hd => ?_) (fun j l h3 hd => ?_)
  · rcases Den.fwd_inv hf1 hd with ⟨_, h⟩ | ⟨h, _⟩
    · have := ih.2 src l' (.inl rfl) h
      rw [hts] at this
      exact Den.fwd hf (by simpa [Res.items] using this)
    · cases h
  · obtain ⟨h1, h2⟩ := merge_sib_fwd hsh hn hs hs' eb hf
    have := ih.2 s _ (.inr h1) hd
    rwa [hpre s h2] at this
  · exact ih.2 j l (dom_src hsh (shp?_some hf) (mem_uses_fpipe.mpr rfl) h3) hd

theorem den_merge_drop_core {fut : Nat → List Item} {net netM : Net} {id sb sid : Nat} {sts chosen : List Nat}
    (hn : net.nodes[id]? = some (.merge sts chosen)) (hnd : chosen.Nodup) (hs : sts[sb]? = some sid)
    (hM : netM.nodes[id]? = some (.merge sts (chosen.erase sb)))
    (hz : Den fut net sid [])
    (T : ∀ b s, b ≠ sb → sts[b]? = some s → ∀ l, Den fut netM s l → Den fut net s l) :
    ∀ l, Den fut netM id l → Den fut net id l := by
  intro l hd
  obtain ⟨ls, hls, hint⟩ := Den.merge_inv hM hd
  have hni : sb ∉ chosen.erase sb := fun h => ((hnd.mem_erase_iff).mp h).1 rfl
  refine Den.merge (ls := upd ls sb []) hn (fun b s hb hs' => ?_) (hint.add_empty hni)
  by_cases eb : b = sb
  · subst eb
    rw [hs] at hs'; cases hs'
    rw [upd_same]; exact hz
  · rw [upd_ne _ _ eb]
    exact T b s eb hs' _ (hls b s ((List.mem_erase_of_ne eb).mpr hb) hs')

theorem den_merge_drop_simple {fut : Nat → List Item} {net n2 : Net} {id sb sid : Nat}
    {sts chosen : List Nat} {r : Res} {tr : List (Nat × Item)} (hsh : ShInv net) (hst : StInv net)
    (hn : net.nodes[id]? = some (.merge sts chosen)) (hs : sts[sb]? = some sid)
    (hz : Den fut net sid [])
    (ih : DenStep fut (net.setNode id (.merge sts (chosen.erase sb))) n2 id r tr) :
    DenStep fut net n2 id r tr := by
  have hnd := hst.chosenNodup id sts chosen hn
  have ss := merge_erase_sameShape hn sb
  have offT : ∀ j l, j ≠ id → ¬ Up net j id →
      Den fut (net.setNode id (.merge sts (chosen.erase sb))) j l → Den fut net j (ofSrc j [] ++ l) :=
    fun j l _ => den_off_set
  have dropT := den_merge_drop_core (fut := fut) hn hnd hs (setNode_get_self hn _) hz
    (fun b s eb hs' l =>
      den_off_set (not_up_of_lt hsh (hsh.lt _ _ (edge_merge_get hn hs'))))
  have := den_after_silent (tr1 := []) dropT offT rfl (fun j hu => ss.up.mp hu) ih
  simpa using this

theorem den_merge_drop_fwd {fut : Nat → List Item} {F : Facts} {net n1 n' n2 : Net} {id sb sid src cf : Nat}
    {sts chosen : List Nat} {r : Res} {tr1 tr2 : List (Nat × Item)} (hsh : ShInv net) (hst : StInv net)
    (hn : net.nodes[id]? = some (.merge sts chosen)) (hs : sts[sb]? = some sid)
    (hf : net.nodes[sid]? = some (.fpipe src .running)) (hr1 : Recv F net src .eof n1 tr1)
    (hfe : fwdEnd F cf n1 sid src = some n')
    (ih1 : DenStep fut net n1 src .eof tr1)
    (ih2 : DenStep fut (n'.setNode id (.merge sts (chosen.erase sb))) n2 id r tr2) :
    DenStep fut net n2 id r (tr1 ++ tr2) := by
  have hnd := hst.chosenNodup id sts chosen hn
  have hm := List.mem_of_getElem? hs
  have hlt1 := hsh.lt _ _ (edge_merge hn hm)
  have hlt2 := hsh.lt _ _ (edge_fwd hf)
  have hss1 := hr1.sameShape.1
  obtain ⟨hf1, ss, same⟩ := hr1.fwdEnd_frame hsh hf hfe
  have hn' := (same id hlt1).trans hn
  have ssM := ss.trans (merge_erase_sameShape hn' sb)
  have hmu : sid ∈ (Node.merge sts chosen).shp.uses := mem_uses_merge.mpr hm
  have hfu : src ∈ (Node.fpipe src .running).shp.uses := mem_uses_fpipe.mpr rfl
  have hpre : ∀ j, ¬ Up net src j → ofSrc j tr1 = [] := fun j => ofSrc_off_trace (hr1.trace hsh).1
  have hz : Den fut net sid [] := Den.fwd hf (ih1.1 rfl)
  have offT : ∀ j l, j ≠ id → ¬ Up net j id →
      Den fut (n'.setNode id (.merge sts (chosen.erase sb))) j l → Den fut net j (ofSrc j tr1 ++ l) := by
    intro j l e hj hd
    have hd1 : Den fut n' j l := den_off_set (fun hu => hj (ss.up.mp hu)) hd
    have hd2 := (fwdEnd_closeLE hfe).1.den hd1
    by_cases e2 : j = sid
    · subst e2
      rcases Den.fwd_inv (setNode_get_self hf1 _) hd2 with ⟨h, _⟩ | ⟨_, rfl⟩
      · cases h
      · rw [hpre j (not_up_of_lt hsh hlt2)]; exact hz
    · have h3 : ¬ Up net j sid := fun hu => hj (hu.chain hsh e2 (shp?_some hn) hmu)
      have hd3 : Den fut n1 j l := den_off_set (fun hu => h3 (hss1.up.mp hu)) hd2
      exact ih1.2 j l (dom_src hsh (shp?_some hf) hfu h3) hd3
  have dropT := den_merge_drop_core (fut := fut) hn hnd hs (setNode_get_self hn' _) hz
    (fun b s eb hs' l hd => by
      have hlt := hsh.lt _ _ (edge_merge_get hn hs')
      have := offT s l (Nat.ne_of_lt hlt) (not_up_of_lt hsh hlt) hd
      rwa [hpre s (merge_sib_fwd hsh hn hs hs' eb hf).2] at this)
  exact den_after_silent dropT offT (hpre id (not_up_of_lt hsh (Nat.lt_trans hlt2 hlt1)))
    (fun j hu => ssM.up.mp hu) ih2

theorem Recv.den {fut : Nat → List Item} {F : Facts} (hF : F.copy = goodCopy) {net net' : Net}
    {id : Nat} {r : Res} {tr : List (Nat × Item)} (h : Recv F net id r net' tr)
    (hsh : ShInv net) (hst : StInv net) : DenStep fut net net' id r tr := by
  induction h with
  | pipe hn hr => exact Recv.den_pipe hn hr
  | @arrItem net id x rest hn =>
    constructor
    · intro h; cases h
    · intro j l hj hd
      by_cases e : j = id
      · subst e
        have := Den.arr_inv (setNode_get_self hn _) hd
        subst this
        simpa [ofSrc] using Den.arr (fut := fut) hn
      · have hof : ofSrc j [(id, x)] = [] := ofSrc_tag_other (.item x) e
        rw [hof]
        exact den_off_set (not_up_of_dom hj e) hd
  | arrEof hn =>
    constructor
    · intro _; exact Den.arr hn
    · exact fun j l _ hd => hd
  | convEof hn hr ih => exact den_conv_eof hsh hn hr (ih hsh hst)
  | convItem hn hr hc ih => exact den_conv_item hsh hn hr hc (ih hsh hst)
  | convSkip hn hr1 hc hr2 ih1 ih2 =>
    exact den_conv_skip hsh hn hr1 hc (ih1 hsh hst)
      (ih2 (hr1.sameShape.1.shInv hsh) (hr1.stInv hF hsh hst))
  | childHave hn hp hk => rw [hF] at hk; exact den_child_have hsh hst hn hp hk
  | childFill hn hp hk hr ih => rw [hF] at hk; exact den_child_fill hsh hst hn hp hk hr (ih hsh hst)
  | mergeEof hn => exact den_merge_eof hn
  | mergePipeItem hn hsb hs hp hr => exact den_merge_pipe_item hsh hn hsb hs hp hr
  | mergeFwdItem hn hsb hs hf hr ih => exact den_merge_fwd_item hsh hn hsb hs hf hr (ih hsh hst)
  | @mergeDropPipe net n2 id sb sid sts chosen p p' r tr hn hsb hs hp hr hr2 ih =>
    exact den_merge_drop_simple hsh hst hn hs ((Recv.den_pipe hp hr).1 rfl)
      (ih ((merge_erase_sameShape hn sb).shInv hsh) (hst.eraseChosen hn sb))
  | mergeDropFwd hn hsb hs hf hr1 hfe hr2 ih1 ih2 =>
    -- the second `Recv` starts in a network of the shape of `net`
    have ss := (Recv.mergeDropFwd hn hsb hs hf hr1 hfe hr2).sameShape.1.trans hr2.sameShape.1.symm
    refine den_merge_drop_fwd hsh hst hn hs hf hr1 hfe (ih1 hsh hst) (ih2 (ss.shInv hsh) ?_)
    exact ((fwdEnd_closeLE hfe).1.stInv ((hr1.stInv hF hsh hst).setNode (by trivial) _)).setNode
      (NodeOK.erase _ ((stInv_iff.mp hst) _ _ hn)) _
  | @mergeDropEnded net n2 id sb sid src sts chosen r tr hn hsb hs hfe hr2 ih =>
    exact den_merge_drop_simple hsh hst hn hs (Den.fwdEnded hfe)
      (ih ((merge_erase_sameShape hn sb).shInv hsh) (hst.eraseChosen hn sb))

end EinoV.C08
