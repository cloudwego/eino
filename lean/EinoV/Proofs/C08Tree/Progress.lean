/-
  C08 — progress for whole networks (partial): with every writer closed, in a network whose
  converts drop nothing, every claimed reader can take a `Recv` step (relational semantics).
-/
import EinoV.Proofs.C08Tree.ClosePropagate
namespace EinoV.C08


def AllSendClosed (net : Net) : Prop := ∀ (k : Nat) (p : Pipe), net.nodes[k]? = some (.pipe p) → p.sendClosed = true

def NoSkip (net : Net) : Prop := ∀ (k src : Nat) (g : ConvSpec), net.nodes[k]? = some (.conv src g) → g.skipMod = 0

theorem noSkip_convItem {g : ConvSpec} (h : g.skipMod = 0) (it : Item) : ∃ y, convItem g.fn it = some y := by
  unfold convItem
  split
  · exact ⟨_, rfl⟩
  · have : g.fn it.chunk ≠ .skip := by
      unfold ConvSpec.fn; simp [h]
      split <;> simp
    cases hf : g.fn it.chunk with
    | val v => exact ⟨_, rfl⟩
    | skip => exact absurd hf this
    | fail c e => exact ⟨_, rfl⟩

theorem SameShape.noSkip {a b : Net} (h : SameShape a b) (hn : NoSkip a) : NoSkip b := by
  intro k src g hk
  exact hn k _ _ (shp?_conv ((h.2 k).symm.trans (shp?_some hk)))

theorem allSendClosed_of {a b : Net} (h : SameShape a b) (hs : SCM a b) (ha : AllSendClosed a) : AllSendClosed b := by
  intro k q hk
  obtain ⟨p, hnd⟩ := shp?_pipe ((h.2 k).symm.trans (shp?_some hk))
  obtain ⟨y, hy, hys⟩ := hs k p hnd (ha k p hnd)
  rw [hk] at hy; cases hy; exact hys

theorem Pipe.recv_closed {p : Pipe} (h : p.sendClosed = true) : ∃ p' r, p.recv = some (p', r) := by
  unfold Pipe.recv
  cases p.buf with
  | nil => simp [h]
  | cons x rest => exact ⟨_, _, rfl⟩

theorem claimed_of_same_above {a b : Net} {H : List Nat} (hs : SameShape a b) {j : Nat}
    (hab : ∀ k, j < k → b.nodes[k]? = a.nodes[k]?) (sh : ShInv a) (h : Claimed a H j) : Claimed b H j := by
  obtain ⟨r, hu, hc⟩ := h
  have hle := hu.up.le sh
  exact ⟨r, hs.upP.mpr hu, hc.mono fun k x hk hx => by
    have := sh.lt k r ⟨x.shp, shp?_some hk, .inl hx.uses⟩
    exact ⟨x, (hab k (by omega)).trans hk, hx⟩⟩



structure PHyp (net : Net) (H : List Nat) : Prop where
  sh : ShInv net
  st : StInv net
  hH : ∀ r ∈ H, Free net r
  ci : CloseInvOn net H (fun _ => True)
  asc : AllSendClosed net
  ns : NoSkip net

theorem PHyp.of_sameShape {net net' : Net} {H : List Nat} (p : PHyp net H) (ss : SameShape net net')
    (scm : SCM net net') (st : StInv net') (ci : CloseInvOn net' H (fun _ => True)) : PHyp net' H :=
  ⟨ss.shInv p.sh, st, fun r hr => free_of_sameShape ss (p.hH r hr), ci, allSendClosed_of ss scm p.asc,
    ss.noSkip p.ns⟩

theorem PHyp.recv {F : Facts} (g : GoodFacts F) {net net' : Net} {H : List Nat} {id : Nat} {r : Res}
    {tr : List (Nat × Item)} (h : Recv F net id r net' tr) (p : PHyp net H) : PHyp net' H :=
  p.of_sameShape h.sameShape.1 h.scm (h.stInv g.copy p.sh p.st) (h.closeInv g p.sh p.hH p.ci)

theorem PHyp.setMerge {net : Net} {H : List Nat} {j sb : Nat} {sts chosen : List Nat} (p : PHyp net H)
    (hn : net.nodes[j]? = some (.merge sts chosen)) : PHyp (net.setNode j (.merge sts (chosen.erase sb))) H :=
  p.of_sameShape (merge_erase_sameShape hn sb) (SCM.setOther (shp?_some hn) nofun _)
    (p.st.eraseChosen hn sb) (closeInvOn_set_stat p.sh hn .merge p.ci)

theorem PHyp.fwdEnd {F : Facts} (g : GoodFacts F) {cf : Nat} {n1 n' : Net} {H : List Nat} {sid src : Nat}
    (p : PHyp n1 H) (hf : n1.nodes[sid]? = some (.fpipe src .running)) (h : fwdEnd F cf n1 sid src = some n') :
    PHyp n' H :=
  p.of_sameShape (fwdEnd_spec hf h).1 (fwdEnd_scm hf h) (fwdEnd_stInv hf h p.st)
    (fwdEnd_closeInv g p.sh p.hH p.ci hf h)

theorem fwdEnd_succeeds {F : Facts} (g : GoodFacts F) {n1 : Net} {H : List Nat} {sid src : Nat}
    (p : PHyp n1 H) (hf : n1.nodes[sid]? = some (.fpipe src .running)) :
    ∃ n', fwdEnd F (src + 1) n1 sid src = some n' := by
  obtain ⟨i1, hH1, hrel, hk⟩ := fwd_exit_release (st' := .ended) p.sh p.hH p.ci hf (.inl ⟨rfl, rfl⟩)
  obtain ⟨n', h, _⟩ := release g (src + 1) _ H src i1 hH1 (Nat.lt_succ_self _) hrel hk
  exact ⟨n', by simp [fwdEnd, g.fwd, h]⟩

/-- the statement of progress for one node, for all networks -/
def CanRecv (F : Facts) (j : Nat) : Prop :=
  ∀ (net : Net) (H : List Nat), PHyp net H → Claimed net H j →
    (∃ t, net.shp? j = some t ∧ (t.isReader = true ∨ ∃ s, t = .fpipe s)) →
    ∃ res net' tr, Recv F net j res net' tr



theorem claimed_stat_ne_closed {net : Net} {H : List Nat} (ci : CloseInvOn net H (fun _ => True)) {k : Nat}
    (h : Claimed net H k) : stat net k ≠ .closed := fun hc => (ci.flag k trivial).2 hc h

theorem claimed_child {net : Net} {H : List Nat} {j P idx : Nat} (sh : ShInv net)
    (ci : CloseInvOn net H (fun _ => True)) (hcl : Claimed net H j)
    (hn : net.nodes[j]? = some (.child P idx)) :
    ∃ src core k0, net.nodes[P]? = some (.parent src core) ∧ core.cursors[idx]? = some (some k0) ∧
      src < j ∧ Claimed net H src ∧ ∃ t, net.shp? src = some t ∧ t.isReader = true := by
  obtain ⟨src', nn, hpS, _⟩ := sh.childPar j P idx (shp?_some hn)
  obtain ⟨core, hp, _⟩ := shp?_parent hpS
  obtain ⟨k0, hc⟩ := cursorStat_ne_closed (stat_child hn hp ▸ claimed_stat_ne_closed ci hcl)
  have hltP := sh.lt j P (edge_child hn)
  have hltS := sh.lt P src' (edge_parent hp)
  exact ⟨src', core, k0, hp, hc, by omega, .of_root (.inr (.inl ⟨P, core, hp, idx, k0, hc⟩)),
    sh.parSrc P src' _ (shp?_some hp)⟩

theorem claimed_merge_src {net : Net} {H : List Nat} {j sid : Nat} {sts chosen : List Nat} (sh : ShInv net)
    (ci : CloseInvOn net H (fun _ => True)) (hcl : Claimed net H j)
    (hn : net.nodes[j]? = some (.merge sts chosen)) (hmem : sid ∈ sts) :
    (∃ p, net.nodes[sid]? = some (.pipe p)) ∨ (∃ s, net.nodes[sid]? = some (.fpipe s .ended)) ∨
    ∃ s, net.nodes[sid]? = some (.fpipe s .running) ∧ s < sid ∧ Claimed net H s ∧
      ∃ t, net.shp? s = some t ∧ t.isReader = true := by
  rcases sh.mergeSrc j sts sid (shp?_some hn) hmem with hp | ⟨s, hp⟩
  · exact .inl (shp?_pipe hp)
  · obtain ⟨st, hnd⟩ := shp?_fpipe hp
    have hst := claimed_stat_ne_closed ci (hcl.pass ((pedge_merge hn).mpr hmem))
    rw [stat_fwd hnd] at hst
    cases st with
    | pending => simp [fwdStat] at hst
    | stopped => simp [fwdStat] at hst
    | ended => exact .inr (.inl ⟨s, hnd⟩)
    | running =>
      exact .inr (.inr ⟨s, hnd, sh.lt sid s (edge_fwd hnd), .of_root (.inr (.inr ⟨sid, _, hnd, .inl rfl⟩)),
        sh.fwdSrc sid s (shp?_some hnd)⟩)

theorem merge_enabled {F : Facts} (g : GoodFacts F) {H : List Nat} {j : Nat} {sts : List Nat}
    (ih : ∀ j', j' < j → ∀ (net : Net), PHyp net H → Claimed net H j' →
      (∃ t, net.shp? j' = some t ∧ t.isReader = true) → ∃ res net' tr, Recv F net j' res net' tr) :
    ∀ (chosen : List Nat) (net : Net), PHyp net H → net.nodes[j]? = some (.merge sts chosen) →
      Claimed net H j → ∃ res net' tr, Recv F net j res net' tr := by
  intro chosen
  induction chosen with
  | nil => intro net p hn _; exact ⟨_, _, _, .mergeEof hn⟩
  | cons sb rest ihm =>
    intro net p hn hcl
    have hsb : sb ∈ sb :: rest := by simp
    have hlt := p.st.chosenLt j sts _ hn sb hsb
    have hsid : sts[sb]? = some sts[sb] := List.getElem?_eq_getElem hlt
    generalize hsidv : sts[sb] = sid at hsid
    have hmem : sid ∈ sts := List.mem_of_getElem? hsid
    have hjs := p.sh.lt j sid (edge_merge hn hmem)
    -- the recursive step after a drop that leaves the nodes after `j` alone
    have drop : ∀ (n'' : Net), PHyp n'' H → SameShape net n'' →
        n''.nodes[j]? = some (.merge sts (sb :: rest)) → (∀ k, j < k → n''.nodes[k]? = net.nodes[k]?) →
        ∃ res net' tr, Recv F (n''.setNode j (.merge sts ((sb :: rest).erase sb))) j res net' tr := by
      intro n'' p'' ss hn'' hab
      have ss2 := merge_erase_sameShape hn'' sb
      rw [List.erase_cons_head] at ss2 ⊢
      refine ihm _ (List.erase_cons_head sb rest ▸ p''.setMerge (sb := sb) hn'') (setNode_get_self hn'' _) ?_
      refine claimed_of_same_above (ss.trans ss2) (fun k hk => ?_) p.sh hcl
      rw [setNode_get_ne _ (Nat.ne_of_gt hk), hab k hk]
    rcases claimed_merge_src p.sh p.ci hcl hn hmem with ⟨pp, hnd⟩ | ⟨s, hnd⟩ | ⟨s, hnd, hss, hclsrc, hrd⟩
    · obtain ⟨p', r, hr⟩ := Pipe.recv_closed (p.asc sid pp hnd)
      cases r with
      | item x => exact ⟨_, _, _, .mergePipeItem hn hsb hsid hnd hr⟩
      | eof =>
        obtain ⟨res, net', tr, hrec⟩ := drop net p (.refl _) hn (fun _ _ => rfl)
        exact ⟨_, _, _, .mergeDropPipe hn hsb hsid hnd hr hrec⟩
    · obtain ⟨res, net', tr, hrec⟩ := drop net p (.refl _) hn (fun _ _ => rfl)
      exact ⟨_, _, _, .mergeDropEnded hn hsb hsid hnd hrec⟩
    · obtain ⟨res1, n1, tr1, hr1⟩ := ih s (Nat.lt_trans hss hjs) net p hclsrc hrd
      cases res1 with
      | item x => exact ⟨_, _, _, .mergeFwdItem hn hsb hsid hnd hr1⟩
      | eof =>
      have p1 := p.recv g hr1
      have hf1 := (hr1.footprint sid (not_up_of_lt p.sh hss)).trans hnd
      obtain ⟨n', hfe⟩ := fwdEnd_succeeds g p1 hf1
      obtain ⟨_, ss, same⟩ := hr1.fwdEnd_frame p.sh hnd hfe
      obtain ⟨res, net', tr, hrec⟩ := drop n' (p1.fwdEnd g hf1 hfe) ss ((same j hjs).trans hn)
        (fun k hk => same k (Nat.lt_trans hjs hk))
      exact ⟨_, _, _, .mergeDropFwd hn hsb hsid hnd hr1 hfe hrec⟩

theorem recv_enabled {F : Facts} (g : GoodFacts F) (H : List Nat) : ∀ (n j : Nat), j < n →
    ∀ (net : Net), PHyp net H → Claimed net H j → (∃ t, net.shp? j = some t ∧ t.isReader = true) →
    ∃ res net' tr, Recv F net j res net' tr := by
  rintro n j -
  induction j using Nat.strongRecOn with
  | ind j ih =>
    intro net p hcl ⟨t, ht, hk⟩
    obtain ⟨nd, hn, rfl⟩ := shp?_eq_some ht
    cases nd with
    | pipe pp =>
      obtain ⟨p', r, hr⟩ := Pipe.recv_closed (p.asc j pp hn)
      exact ⟨_, _, _, .pipe hn hr⟩
    | arr rest =>
      cases rest with
      | nil => exact ⟨_, _, _, .arrEof hn⟩
      | cons x r => exact ⟨_, _, _, .arrItem hn⟩
    | conv src gg =>
      have hlt := p.sh.lt j src (edge_conv hn)
      have hcs : Claimed net H src := hcl.pass (.inl ⟨gg, hn⟩)
      obtain ⟨res1, n1, tr1, hr1⟩ := ih src hlt net p hcs (p.sh.convSrc j src gg (shp?_some hn))
      cases res1 with
      | eof => exact ⟨_, _, _, .convEof hn hr1⟩
      | item it =>
        obtain ⟨y, hy⟩ := noSkip_convItem (p.ns j src gg hn) it
        exact ⟨_, _, _, .convItem hn hr1 hy⟩
    | child P idx =>
      obtain ⟨src', core, k0, hp, hk0, hlt, hcs, hrd⟩ := claimed_child p.sh p.ci hcl hn
      have hgc : F.copy = goodCopy := g.copy
      rcases peek_cases hk0 with ⟨r, c', hpk⟩ | hpk
      · exact ⟨_, _, _, .childHave hn hp (by rw [hgc]; exact hpk)⟩
      · obtain ⟨res1, n1, tr1, hr1⟩ := ih src' hlt net p hcs hrd
        exact ⟨_, _, _, .childFill hn hp (by rw [hgc]; exact hpk) hr1⟩
    | merge sts chosen => exact merge_enabled g ih chosen net p hn hcl
    | parent _ _ | fpipe _ _ | dead => cases hk

def allSendClosedB (net : Net) : Bool :=
  net.nodes.toList.all fun nd => match nd with | .pipe p => p.sendClosed | _ => true

def noSkipB (net : Net) : Bool :=
  net.nodes.toList.all fun nd => match nd with | .conv _ g => g.skipMod == 0 | _ => true

theorem allSendClosedB_spec {net : Net} (h : allSendClosedB net = true) : AllSendClosed net := by
  intro k p hk
  have hm : Node.pipe p ∈ net.nodes.toList := by
    rw [Array.mem_toList_iff]; exact Array.mem_of_getElem? hk
  have := List.all_eq_true.mp h _ hm
  simpa using this

theorem noSkipB_spec {net : Net} (h : noSkipB net = true) : NoSkip net := by
  intro k src g hk
  have hm : Node.conv src g ∈ net.nodes.toList := by
    rw [Array.mem_toList_iff]; exact Array.mem_of_getElem? hk
  have := List.all_eq_true.mp h _ hm
  simpa using this

end EinoV.C08
