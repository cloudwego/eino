/-
  C08 — `Close` of a reader whose claim was withdrawn restores the close invariant (`release`):
  the cases pipe, array, convert, merged reader.
-/
import EinoV.Proofs.C08Tree.ReleaseFrame
set_option linter.unusedVariables false
set_option linter.unusedSimpArgs false
namespace EinoV.C08


theorem rootClaimed_set_plain {net : Net} {H : List Nat} {i : Nat} {x y : Node}
    (hx : net.nodes[i]? = some x) (h1 : x.isHolder = false) (h2 : y.isHolder = false) (u : Nat) :
    RootClaimed (net.setNode i y) H u ↔ RootClaimed net H u :=
  rootClaimed_set_iff hx ⟨fun h => absurd h (not_holds h2), fun h => absurd h (not_holds h1)⟩

theorem upP_leaf {net : Net} {j k : Nat} {nd : Node} (hn : net.nodes[j]? = some nd)
    (h1 : ∀ src g, nd ≠ .conv src g) (h2 : ∀ sts ch, nd ≠ .merge sts ch) (h : UpP net j k) : j = k :=
  h.of_leaf (no_pedge hn h1 h2)

theorem not_child_of {net : Net} (i : ShInv net) {k P idx j : Nat} {nd : Node}
    (hk : net.nodes[k]? = some (.child P idx)) (hj : net.nodes[j]? = some nd)
    (hnp : ∀ src core, nd ≠ .parent src core) : P ≠ j := by
  rintro rfl
  obtain ⟨src, n, hp, _⟩ := i.childPar k P idx (shp?_some hk)
  obtain ⟨core, hc, _⟩ := shp?_parent hp
  exact hnp _ _ (Option.some.inj (hj.symm.trans hc))

theorem stat_setNode_ne {net : Net} (sh : ShInv net) {i k : Nat} {x : Node} (y : Node)
    (hx : net.nodes[i]? = some x) (hnp : ∀ src core, x ≠ .parent src core) (hk : k ≠ i) :
    stat (net.setNode i y) k = stat net k :=
  stat_congr (setNode_get_ne _ hk) (fun P idx hc => setNode_get_ne _ (not_child_of sh hc hx hnp))

theorem stat_setNode_cell {net : Net} {P src k : Nat} {core core' : CopyCore}
    (hp : net.nodes[P]? = some (.parent src core))
    (h : ∀ idx, net.nodes[k]? = some (.child P idx) →
      cursorStat core'.cursors[idx]? = cursorStat core.cursors[idx]?) :
    stat (net.setNode P (.parent src core')) k = stat net k := by
  by_cases e : k = P
  · subst e
    rw [stat_noflag (setNode_get_self hp _) rfl,
      stat_noflag hp rfl]
  · cases hkn : net.nodes[k]? with
    | none => exact stat_congr (setNode_get_ne _ e) (fun P' idx hc => by rw [hkn] at hc; cases hc)
    | some knd =>
      cases knd with
      | child P' idx =>
        by_cases hP : P' = P
        · subst hP
          rw [stat_child ((setNode_get_ne _ e).trans hkn) (setNode_get_self hp _), stat_child hkn hp, h idx hkn]
        · exact stat_congr (setNode_get_ne _ e) (fun P'' idx'' hc => by
            rw [hkn] at hc; cases hc; exact setNode_get_ne _ hP)
      | _ => exact stat_congr (setNode_get_ne _ e) (fun P' idx hc => by rw [hkn] at hc; cases hc)

theorem stat_close_copy {net : Net} (sh : ShInv net) {j P idx src : Nat} {core core' : CopyCore}
    (hn : net.nodes[j]? = some (.child P idx)) (hp : net.nodes[P]? = some (.parent src core))
    (hidx : idx < core.cursors.length) (hc : core'.cursors = core.cursors.set idx none) (k : Nat) :
    stat (net.setNode P (.parent src core')) k = if k = j then .closed else stat net k := by
  split
  · next e =>
    subst e
    have hne : k ≠ P := Nat.ne_of_gt (sh.lt k P (edge_child hn))
    rw [stat_child ((setNode_get_ne _ hne).trans hn) (setNode_get_self hp _), hc]
    simp [List.getElem?_set, hidx, cursorStat]
  · next e =>
    refine stat_setNode_cell hp fun idx' hkn => ?_
    have hidx' : idx ≠ idx' := by
      rintro rfl; exact e (sh.childUniq k j P idx (shp?_some hkn) (shp?_some hn))
    rw [hc, List.getElem?_set_ne hidx']

theorem parent_of_setNode {net : Net} {i P src : Nat} {y : Node} {core : CopyCore}
    (hy : ∀ s c, y ≠ .parent s c) (hp : (net.setNode i y).nodes[P]? = some (.parent src core)) : net.nodes[P]? = some (.parent src core) :=
  (setNode_get_cases hp).resolve_right fun h => hy _ _ h.2.symm

theorem release_pipe {F : Facts} {fuel : Nat} {net : Net} {H : List Nat} {j : Nat} {p : Pipe}
    (i : ShInv net) (hH : ∀ r ∈ H, Free net r) (h : RelHyp net H j)
    (hn : net.nodes[j]? = some (.pipe p)) :
    ∃ net', closeAll F (fuel + 1) net j = some net' ∧ CloseInvOn net' H (fun _ => True) := by
  have hopen : p.recvClosed = false := by
    have := h.opn j (.refl j)
    rw [stat_pipe hn] at this
    cases hc : p.recvClosed <;> simp [hc] at this ⊢
  refine ⟨net.setNode j (.pipe { p with recvClosed := true }), ?_, ?_⟩
  · rw [closeAll_pipe F fuel hn]; simp [Pipe.closeRecv, hopen]
  · refine closeInv_of_relHyp i hH h (setNode_sameShape hn rfl) (rootClaimed_set_plain hn rfl rfl)
      (fun k hk => stat_setNode_ne i _ hn (by simp) (by rintro rfl; exact hk (.refl _))) (fun k hk => ?_)
      (fun P src core hp => .inl (parent_of_setNode (by simp) hp))
    rw [← upP_leaf hn (by simp) (by simp) hk, stat_pipe (setNode_get_self hn _)]; simp

theorem release_arr {F : Facts} {fuel : Nat} {net : Net} {H : List Nat} {j : Nat} {rest : List Item}
    (i : ShInv net) (hH : ∀ r ∈ H, Free net r) (h : RelHyp net H j)
    (hn : net.nodes[j]? = some (.arr rest)) :
    ∃ net', closeAll F (fuel + 1) net j = some net' ∧ CloseInvOn net' H (fun _ => True) := by
  refine ⟨net, closeAll_arr F fuel hn, ?_⟩
  refine closeInv_of_relHyp i hH h (.refl _) (fun _ => Iff.rfl) (fun _ _ => rfl) (fun k hk => ?_)
    (fun P src core hp => .inl hp)
  rw [← upP_leaf hn (by simp) (by simp) hk, stat_noflag hn rfl]; simp

/-- closing a convert = closing what it reads from -/
theorem relHyp_conv {net : Net} {H : List Nat} {j src : Nat} {g : ConvSpec}
    (i : ShInv net) (hH : ∀ r ∈ H, Free net r) (h : RelHyp net H j)
    (hn : net.nodes[j]? = some (.conv src g)) : RelHyp net H src := by
  have he : PEdge net j src := .inl ⟨g, hn⟩
  refine ⟨⟨fun k hk => ?_, h.inv.cellKids, h.inv.cellCount⟩, fun k hk => h.opn k (.step he hk), ?_⟩
  · by_cases hj : UpP net j k
    · have : k = j := by
        rcases hj.first with e | ⟨b, hb, hbk⟩
        · exact e.symm
        · rw [(pedge_conv hn).mp hb] at hbk; exact absurd hbk hk
      subst this
      exact flag_of_stat_none (stat_noflag hn rfl)
    · exact h.inv.flag k hj
  · intro j' hj'
    by_cases e : j' = src
    · subst e; exact rootClaimed_not_passed i hH he
    · exact h.noClaim j' (hj'.chain i e he)



/-- what the close of a merged reader does to one of its sources -/
def closeSrc : Node → Node
  | .pipe p => .pipe { p with recvClosed := true }
  | .fpipe s .running => .fpipe s .pending
  | x => x

/-- a source that the close of its merged reader can close: an open pipe, or a forwarder whose
    stream the merged reader has not closed -/
def Node.srcReady : Node → Bool
  | .pipe p => !p.recvClosed
  | .fpipe _ .running | .fpipe _ .ended => true
  | _ => false

theorem mcloseStep_ok {net : Net} {sid : Nat} {x : Node} (hx : net.nodes[sid]? = some x)
    (h : x.srcReady = true) : mcloseStep net sid = some (net.setNode sid (closeSrc x)) := by
  cases x with
  | pipe p =>
    have ho : p.recvClosed = false := by simpa [Node.srcReady] using h
    simp [mcloseStep, hx, Pipe.closeRecv, ho, closeSrc]
  | fpipe s st =>
    cases st with
    | running => simp [mcloseStep, hx, closeSrc]
    | ended => simp only [mcloseStep, hx, closeSrc]; rw [setNode_self hx]
    | _ => cases h
  | _ => cases h

theorem closeSrc_shp (x : Node) : (closeSrc x).shp = x.shp := by
  cases x with
  | fpipe s st => cases st <;> rfl
  | _ => rfl

theorem closeSrc_holds (x : Node) (u : Nat) : NewHolds (closeSrc x) u ↔ NewHolds x u := by
  cases x with
  | pipe p => simp [closeSrc, NewHolds]
  | fpipe s st =>
    cases st with
    | running => simp [closeSrc, holds_fpipe]
    | _ => exact Iff.rfl
  | _ => exact Iff.rfl

theorem closeSrc_parent {x : Node} {s : Nat} {c : CopyCore} (h : closeSrc x = .parent s c) : x = .parent s c := by
  cases x with
  | pipe p => cases h
  | fpipe s' st => cases st <;> cases h
  | _ => exact h

theorem stat_closeSrc {net : Net} {s : Nat} {x : Node} (h : x.srcReady = true)
    (hy : net.nodes[s]? = some (closeSrc x)) : stat net s ≠ .open := by
  cases x with
  | pipe p => rw [stat_pipe hy]; simp
  | fpipe a st =>
    cases st with
    | running => rw [stat_fwd hy]; simp [fwdStat]
    | ended => rw [stat_fwd hy]; simp [fwdStat]
    | _ => cases h
  | _ => cases h

/-- The loop that closes the sources of a merged reader, source by source: the flags are right except
    at the sources still to be closed, and those are ready and unclaimed. -/
theorem mcloseFold_release {H : List Nat} : ∀ (rest : List Nat) (m : Net), ShInv m → rest.Nodup →
    CloseInvOn m H (fun k => k ∉ rest) →
    (∀ s ∈ rest, (∃ x, m.nodes[s]? = some x ∧ x.srcReady = true) ∧ ¬ Claimed m H s) →
    ∃ net', rest.foldlM mcloseStep m = some net' ∧ CloseInvOn net' H (fun _ => True) := by
  intro rest
  induction rest with
  | nil =>
    intro m _ _ inv _
    exact ⟨m, rfl, fun k _ => inv.flag k List.not_mem_nil, inv.cellKids, inv.cellCount⟩
  | cons s rest ih =>
    intro m sh hnd inv hr
    rw [List.nodup_cons] at hnd
    obtain ⟨⟨x, hx, hrx⟩, hun⟩ := hr s List.mem_cons_self
    have hxp : ∀ a c, x ≠ .parent a c := by rintro a c rfl; cases hrx
    have hss : SameShape m (m.setNode s (closeSrc x)) := setNode_sameShape hx (closeSrc_shp x)
    have hcl : ∀ k, Claimed (m.setNode s (closeSrc x)) H k ↔ Claimed m H k :=
      claimed_congr hss fun u => rootClaimed_set_iff hx (closeSrc_holds x u)
    have hstat : ∀ k, k ≠ s → stat (m.setNode s (closeSrc x)) k = stat m k :=
      fun k hk => stat_setNode_ne sh _ hx hxp hk
    have inv' : CloseInvOn (m.setNode s (closeSrc x)) H (fun k => k ∉ rest) := by
      refine inv.of_sameShape hss (fun k hk => ?_)
        fun P a c hp => .inl (parent_of_setNode (fun a c e => hxp a c (closeSrc_parent e)) hp)
      by_cases e : k = s
      · -- the source just closed was unclaimed
        subst e
        exact ⟨fun ho => absurd ho (stat_closeSrc hrx (setNode_get_self hx _)), fun _ hc => hun ((hcl k).mp hc)⟩
      · rw [hstat k e, hcl k]; exact inv.flag k (by simp [e, hk])
    obtain ⟨net', hf, hinv⟩ := ih _ (hss.shInv sh) hnd.2 inv' fun k hk => by
      have e : k ≠ s := by rintro rfl; exact hnd.1 hk
      obtain ⟨hk1, hk2⟩ := hr k (List.mem_cons_of_mem _ hk)
      exact ⟨by rw [setNode_get_ne _ e]; exact hk1, fun hc => hk2 ((hcl k).mp hc)⟩
    exact ⟨net', by simp [List.foldlM_cons, mcloseStep_ok hx hrx, hf], hinv⟩

theorem release_merge {F : Facts} {fuel : Nat} {net : Net} {H : List Nat} {j : Nat} {sts ch : List Nat}
    (i : ShInv net) (hH : ∀ r ∈ H, Free net r) (h : RelHyp net H j)
    (hn : net.nodes[j]? = some (.merge sts ch)) :
    ∃ net', closeAll F (fuel + 1) net j = some net' ∧ CloseInvOn net' H (fun _ => True) := by
  have hup : ∀ sid ∈ sts, UpP net j sid := fun sid hs => .step ((pedge_merge hn).mpr hs) (.refl _)
  have hready : ∀ sid ∈ sts, ∃ x, net.nodes[sid]? = some x ∧ x.srcReady = true := by
    intro sid hs
    have hst := h.opn sid (hup sid hs)
    rcases i.mergeSrc j sts sid (shp?_some hn) hs with hp | ⟨src, hp⟩
    · obtain ⟨p, hnd⟩ := shp?_pipe hp
      rw [stat_pipe hnd] at hst
      exact ⟨_, hnd, by cases hc : p.recvClosed <;> simp [hc, Node.srcReady] at hst ⊢⟩
    · obtain ⟨st, hnd⟩ := shp?_fpipe hp
      rw [stat_fwd hnd] at hst
      exact ⟨_, hnd, by cases st <;> first | rfl | exact absurd rfl hst⟩
  -- the sources are pipes and forwarders, hence leaves: below `j` there are only its sources
  have hregion : ∀ k, UpP net j k → k = j ∨ k ∈ sts := by
    intro k hk
    rcases hk.first with e | ⟨b, hb, hbk⟩
    · exact .inl e.symm
    · have hbs := (pedge_merge hn).mp hb
      obtain ⟨x, hx, hrx⟩ := hready b hbs
      have : b = k := upP_leaf hx (by rintro s g rfl; cases hrx) (by rintro s c rfl; cases hrx) hbk
      exact .inr (this ▸ hbs)
  rw [closeAll_merge_eq F fuel net j sts ch hn]
  refine mcloseFold_release sts net i (i.usesNodup j _ (shp?_some hn))
    ⟨fun k hk => ?_, h.inv.cellKids, h.inv.cellCount⟩ fun s hs => ⟨hready s hs, h.unclaimed i hH (hup s hs)⟩
  by_cases hu : UpP net j k
  · obtain rfl : k = j := (hregion k hu).resolve_right hk
    exact flag_of_stat_none (stat_noflag hn rfl)
  · exact h.inv.flag k hu

end EinoV.C08
