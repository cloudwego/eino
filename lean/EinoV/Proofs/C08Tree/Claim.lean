/-
  C08 — pass-through edges (`PEdge`, `UpP`) and claims (`Claimed`): basic facts.
-/
import EinoV.Spec.C08Close
import EinoV.Proofs.C08Tree.Sched
namespace EinoV.C08

theorem pedge_congr {a b : Net} {j : Nat} (h : b.nodes[j]? = a.nodes[j]?) {u : Nat} : PEdge b j u ↔ PEdge a j u := by
  unfold PEdge; rw [h]

theorem pedge_iff {net : Net} {j u : Nat} :
    PEdge net j u ↔ (∃ g, net.shp? j = some (.conv u g)) ∨ (∃ sts, net.shp? j = some (.merge sts) ∧ u ∈ sts) := by
  constructor
  · rintro (⟨g, h⟩ | ⟨sts, ch, h, hu⟩)
    · exact .inl ⟨g, shp?_some h⟩
    · exact .inr ⟨sts, shp?_some h, hu⟩
  · rintro (⟨g, h⟩ | ⟨sts, h, hu⟩)
    · exact .inl ⟨g, shp?_conv h⟩
    · obtain ⟨ch, hnd⟩ := shp?_merge h
      exact .inr ⟨sts, ch, hnd, hu⟩

theorem PEdge.edge {net : Net} {j u : Nat} (h : PEdge net j u) : ∃ s, net.shp? j = some s ∧ u ∈ s.uses := by
  rcases pedge_iff.mp h with ⟨g, h⟩ | ⟨sts, h, hu⟩
  · exact ⟨_, h, mem_uses_conv.mpr rfl⟩
  · exact ⟨_, h, mem_uses_merge.mpr hu⟩

theorem SameShape.pedge {a b : Net} (h : SameShape a b) {j u : Nat} : PEdge b j u ↔ PEdge a j u := by
  rw [pedge_iff, pedge_iff, h.2]

theorem UpP.mono_on {a b : Net} {S : Nat → Prop} (h : ∀ j u, S j → PEdge a j u → PEdge b j u ∧ S u)
    {j k : Nat} (hu : UpP a j k) (hj : S j) : UpP b j k := by
  induction hu with
  | refl _ => exact .refl _
  | step he _ ih => exact .step (h _ _ hj he).1 (ih (h _ _ hj he).2)

theorem UpP.mono {a b : Net} (h : ∀ j u, PEdge a j u → PEdge b j u) {j k : Nat} (hu : UpP a j k) : UpP b j k :=
  hu.mono_on (S := fun _ => True) (fun j u _ he => ⟨h j u he, trivial⟩) trivial

theorem SameShape.upP {a b : Net} (h : SameShape a b) {j k : Nat} : UpP b j k ↔ UpP a j k :=
  ⟨UpP.mono fun _ _ => h.pedge.mp, UpP.mono fun _ _ => h.pedge.mpr⟩

theorem UpP.up {net : Net} {j k : Nat} (h : UpP net j k) : Up net j k := by
  induction h with
  | refl j => exact .refl j
  | step he _ ih =>
    obtain ⟨s, hs, hu⟩ := he.edge
    exact .step ⟨s, hs, .inl hu⟩ ih

theorem UpP.trans {net : Net} {a b c : Nat} (h1 : UpP net a b) (h2 : UpP net b c) : UpP net a c := by
  induction h1 with
  | refl _ => exact h2
  | step he _ ih => exact .step he (ih h2)

theorem UpP.last {net : Net} {a c : Nat} (h : UpP net a c) : a = c ∨ ∃ b, UpP net a b ∧ PEdge net b c := by
  induction h with
  | refl _ => exact .inl rfl
  | @step j u k he _ ih =>
    right
    rcases ih with rfl | ⟨b, hb, hbc⟩
    · exact ⟨j, .refl j, he⟩
    · exact ⟨b, .step he hb, hbc⟩

theorem UpP.first {net : Net} {a c : Nat} (h : UpP net a c) : a = c ∨ ∃ b, PEdge net a b ∧ UpP net b c := by
  cases h with
  | refl _ => exact .inl rfl
  | step he hu => exact .inr ⟨_, he, hu⟩

theorem UpP.chain {net : Net} (i : ShInv net) {j u c : Nat} (h : UpP net j u) (hne : j ≠ u)
    (hc : PEdge net c u) : UpP net j c := by
  rcases h.last with rfl | ⟨w, hw, he⟩
  · exact absurd rfl hne
  · obtain ⟨s, hs, hu⟩ := he.edge
    obtain ⟨s', hs', hu'⟩ := hc.edge
    have := i.lin w c s s' u hs hs' hu hu'
    subst this; exact hw

theorem UpP.stop {net : Net} (i : ShInv net) {j u c : Nat} {s : Shp} (h : UpP net j u)
    (hc : net.shp? c = some s) (hu : u ∈ s.uses) (hnp : ¬ PEdge net c u) : j = u := by
  rcases h.last with rfl | ⟨w, hw, he⟩
  · rfl
  · obtain ⟨s', hs', hu'⟩ := he.edge
    have := i.lin w c s' s u hs' hc hu' hu
    subst this; exact absurd he hnp

theorem UpP.of_leaf {net : Net} {j k : Nat} (h : UpP net j k) (hl : ∀ u, ¬ PEdge net j u) : j = k := by
  cases h with
  | refl _ => rfl
  | step he _ => exact absurd he (hl _)

theorem pedge_conv {net : Net} {j src u : Nat} {g : ConvSpec} (hn : net.nodes[j]? = some (.conv src g)) :
    PEdge net j u ↔ u = src := by
  constructor
  · rintro (⟨g', h⟩ | ⟨sts, ch, h, _⟩)
    · rw [hn] at h; cases h; rfl
    · rw [hn] at h; cases h
  · rintro rfl; exact .inl ⟨g, hn⟩

theorem pedge_merge {net : Net} {j u : Nat} {sts ch : List Nat} (hn : net.nodes[j]? = some (.merge sts ch)) :
    PEdge net j u ↔ u ∈ sts := by
  constructor
  · rintro (⟨g', h⟩ | ⟨sts', ch', h, hu⟩)
    · rw [hn] at h; cases h
    · rw [hn] at h; cases h; exact hu
  · intro hu; exact .inr ⟨sts, ch, hn, hu⟩

theorem no_pedge {net : Net} {j : Nat} {nd : Node} (hn : net.nodes[j]? = some nd)
    (h1 : ∀ src g, nd ≠ .conv src g) (h2 : ∀ sts ch, nd ≠ .merge sts ch) : ∀ u, ¬ PEdge net j u := by
  rintro u (⟨g, h⟩ | ⟨sts, ch, h, _⟩)
  · rw [hn] at h; cases h; exact h1 _ _ rfl
  · rw [hn] at h; cases h; exact h2 _ _ rfl

theorem Claimed.of_root {net : Net} {H : List Nat} {j : Nat} (h : RootClaimed net H j) : Claimed net H j :=
  ⟨j, .refl j, h⟩

theorem Claimed.pass {net : Net} {H : List Nat} {j u : Nat} (he : PEdge net j u) (h : Claimed net H j) :
    Claimed net H u := by
  obtain ⟨r, hr, hc⟩ := h
  exact ⟨r, hr.trans (.step he (.refl u)), hc⟩

theorem claimed_congr {a b : Net} {H H' : List Nat} (hs : SameShape a b)
    (hr : ∀ j, RootClaimed b H' j ↔ RootClaimed a H j) (k : Nat) : Claimed b H' k ↔ Claimed a H k := by
  constructor
  · rintro ⟨j, hu, hc⟩; exact ⟨j, hs.upP.mp hu, (hr j).mp hc⟩
  · rintro ⟨j, hu, hc⟩; exact ⟨j, hs.upP.mpr hu, (hr j).mpr hc⟩

end EinoV.C08
