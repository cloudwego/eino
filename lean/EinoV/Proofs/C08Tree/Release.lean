/-
  C08 — `Close` of a reader whose claim was withdrawn succeeds and restores the close invariant
  (`release`): closing a copy, and the induction over the tree.
-/
import EinoV.Proofs.C08Tree.ReleaseKinds
import EinoV.Proofs.C08
namespace EinoV.C08


theorem closedCore_spec {core : CopyCore} {idx k0 : Nat} (hk0 : core.cursors[idx]? = some (some k0))
    (hc : core.closedNum = core.cursors.count none ∧
      core.srcClosed = (if core.cursors.count none = core.cursors.length then 1 else 0) ∧
      0 < core.cursors.length) :
    ((closedCore core idx).closedNum = (closedCore core idx).cursors.count none ∧
      (closedCore core idx).srcClosed =
        (if (closedCore core idx).cursors.count none = (closedCore core idx).cursors.length then 1 else 0) ∧
      0 < (closedCore core idx).cursors.length) ∧
    (OpenCursor (closedCore core idx) ↔ (core.closedNum + 1 == core.cursors.length) = false) := by
  obtain ⟨hcn, hsc, hpos⟩ := hc
  have hcnt := count_none_set hk0
  have hclt := count_none_lt hk0
  have hsc0 : core.srcClosed = 0 := by rw [hsc, if_neg (by omega)]
  simp only [closedCore, OpenCursor, openCursor_iff, hcnt, List.length_set, hsc0, hcn]
  refine ⟨⟨trivial, ?_, hpos⟩, by simp⟩
  by_cases e : core.cursors.count none + 1 = core.cursors.length <;> simp [e]

theorem rootClaimed_set_parent {net : Net} {H : List Nat} {P src : Nat} {core core' : CopyCore}
    (hp : net.nodes[P]? = some (.parent src core)) (ho : OpenCursor core' ↔ OpenCursor core) (u : Nat) :
    RootClaimed (net.setNode P (.parent src core')) H u ↔ RootClaimed net H u :=
  rootClaimed_set_iff hp (by rw [holds_parent, holds_parent, ho])

theorem free_of_sameShape {a b : Net} (h : SameShape a b) {u : Nat} (hf : Free a u) : Free b u := by
  intro j s hj; rw [h.2] at hj; exact hf j s hj

theorem release {F : Facts} (g : GoodFacts F) : ∀ (fuel : Nat) (net : Net) (H : List Nat) (j : Nat),
    ShInv net → (∀ r ∈ H, Free net r) → j < fuel → RelHyp net H j →
    (∃ t, net.shp? j = some t ∧ t.isReader = true) →
    ∃ net', closeAll F fuel net j = some net' ∧ CloseInvOn net' H (fun _ => True) := by
  intro fuel
  induction fuel with
  | zero => intro net H j _ _ hlt; omega
  | succ fuel ih =>
    intro net H j i hH hlt h ⟨t, ht, hk⟩
    obtain ⟨nd, hn, rfl⟩ := shp?_eq_some ht
    cases nd with
    | pipe p => exact release_pipe i hH h hn
    | arr rest => exact release_arr i hH h hn
    | merge sts ch => exact release_merge i hH h hn
    | conv src gg =>
      have hlt' := i.lt j src (edge_conv hn)
      rw [closeAll_conv F fuel hn]
      exact ih net H src i hH (Nat.lt_of_lt_of_le hlt' (Nat.le_of_lt_succ hlt)) (relHyp_conv i hH h hn)
        (i.convSrc j src gg (shp?_some hn))
    | child P idx =>
      obtain ⟨src, n, hpS, -⟩ := i.childPar j P idx (shp?_some hn)
      obtain ⟨core, hp, -⟩ := shp?_parent hpS
      have hsj : src < j := Nat.lt_trans (i.lt P src (edge_parent hp)) (i.lt j P (edge_child hn))
      have hleaf : ∀ k, UpP net j k → k = j := fun k hk => (upP_leaf hn (by simp) (by simp) hk).symm
      obtain ⟨k0, hk0⟩ := cursorStat_ne_closed (stat_child hn hp ▸ h.opn j (.refl j))
      have hopen : OpenCursor core := ⟨idx, k0, hk0⟩
      obtain ⟨hcount', hopen'⟩ := closedCore_spec hk0 (h.inv.cellCount P src core hp)
      have hc'cur : (closedCore core idx).cursors = core.cursors.set idx none := rfl
      rw [closeAll_child_eq F fuel net j P idx src core hn hp, show F.copy = goodCopy from g.copy, CopyCore.close_open hk0]
      simp only
      generalize closedCore core idx = core' at hcount' hopen' hc'cur ⊢
      have hsh' : (Node.parent src core').shp = (Node.parent src core).shp :=
        shp_parent_congr (by rw [hc'cur, List.length_set])
      have hss : SameShape net (net.setNode P (.parent src core')) := setNode_sameShape hp hsh'
      have hstat := stat_close_copy i hn hp (List.getElem?_eq_some_iff.mp hk0).1 hc'cur
      cases hlast : (core.closedNum + 1 == core.cursors.length)
      case true =>
        -- the last copy: the cell no longer claims its source, which is released
        rw [hlast] at hopen'
        simp only [↓reduceIte]
        have hrel : RelHyp (net.setNode P (.parent src core')) H src :=
          relHyp_drop (d := j) i hH h.inv hp hsh' (holds_parent.mpr ⟨rfl, hopen⟩)
            (fun u hh => Bool.noConfusion (hopen'.mp (holds_parent.mp hh).2)) (fun k e hu => e (hleaf k hu))
            (fun k e => by rw [hstat, if_neg e]) hsj
            (fun hto => by
              rw [hstat, if_pos rfl]
              exact ⟨by simp, fun _ hc => h.unclaimed i hH (.refl _) (hto _ hc)⟩)
            fun P' s' c' hp' => (setNode_get_cases hp').imp_right fun e => by cases e.2; exact hcount'
        obtain ⟨tS, htS, hkS⟩ := i.parSrc P src _ (shp?_some hp)
        exact ih _ H src (hss.shInv i) (fun r hr => free_of_sameShape hss (hH r hr))
          (Nat.lt_of_lt_of_le hsj (Nat.le_of_lt_succ hlt)) hrel
          ⟨tS, by rw [hss.2]; exact htS, hkS⟩
      case false =>
        -- other copies are still open: the cell keeps its claim
        simp only [Bool.false_eq_true, ↓reduceIte]
        refine ⟨_, rfl, closeInv_of_relHyp i hH h hss
          (rootClaimed_set_parent hp ⟨fun _ => hopen, fun _ => hopen'.mpr hlast⟩)
          (fun k hk => by rw [hstat, if_neg (by rintro rfl; exact hk (.refl _))])
          (fun k hk => by rw [hstat, if_pos (hleaf k hk)]; simp)
          fun P' s' c' hp' => (setNode_get_cases hp').imp_right fun e => by cases e.2; exact hcount'⟩
    | parent _ _ | fpipe _ _ | dead => cases hk


end EinoV.C08
