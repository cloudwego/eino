/-
  C08 — the close invariant when nodes are added (`Ext net N`): the old nodes keep their flags, and
  keep their claims if what the new nodes hold or consume was held by the caller and is handed over.
-/
import EinoV.Proofs.C08Tree.ClosePres
set_option linter.unusedVariables false
namespace EinoV.C08


def FlagInv (net : Net) (H : List Nat) : Prop :=
  ∀ k : Nat, (stat net k = .open → Claimed net H k) ∧ (stat net k = .closed → ¬ Claimed net H k)

def CellInv (net : Net) : Prop :=
  (∀ (P src : Nat) (core : CopyCore), net.nodes[P]? = some (.parent src core) →
    ∀ i : Nat, i < core.cursors.length → ∃ c : Nat, net.nodes[c]? = some (Node.child P i)) ∧
  (∀ (P src : Nat) (core : CopyCore), net.nodes[P]? = some (.parent src core) →
    core.closedNum = core.cursors.count none ∧
    core.srcClosed = (if core.cursors.count none = core.cursors.length then 1 else 0) ∧
    0 < core.cursors.length)

theorem closeInvOn_iff {net : Net} {H : List Nat} :
    CloseInvOn net H (fun _ => True) ↔ FlagInv net H ∧ CellInv net :=
  ⟨fun h => ⟨fun k => h.flag k trivial, h.cellKids, h.cellCount⟩, fun h => ⟨fun k _ => h.1 k, h.2.1, h.2.2⟩⟩

/-! ## the close invariant only looks at the nodes -/

theorem stat_nodes_eq {a b : Net} (h : b.nodes = a.nodes) (k : Nat) : stat b k = stat a k := by
  unfold stat; rw [h]

theorem claimed_mem_congr {net : Net} {H H' : List Nat} (h : ∀ y, y ∈ H' ↔ y ∈ H) (k : Nat) :
    Claimed net H' k ↔ Claimed net H k :=
  claimed_congr (.refl net) (fun j => by unfold RootClaimed; rw [h]) k

theorem CloseInvOn.closeInv {net : Net} {H : List Nat} (h : CloseInvOn net H (fun _ => True))
    (hr : net.readers = H) : CloseInv net := by
  subst hr; exact h

theorem closeInv_of_nodes {a b : Net} (hn : b.nodes = a.nodes) {H : List Nat}
    (h : FlagInv a H ∧ CellInv a) (hr : ∀ y, y ∈ b.readers ↔ y ∈ H) : CloseInv b := by
  unfold CloseInv
  rw [closeInvOn_iff]
  refine ⟨fun k => ?_, ?_⟩
  · have hs : SameShape a b := ⟨by rw [hn], fun j => by unfold Net.shp?; rw [hn]⟩
    rw [stat_nodes_eq hn, claimed_congr (H := H) hs (fun j => by unfold RootClaimed; rw [hn, hr]) k]
    exact h.1 k
  · unfold CellInv; rw [hn]; exact h.2

theorem stat_none_of_get_none {net : Net} {k : Nat} (h : net.nodes[k]? = none) : stat net k = .none := by
  apply stat_none; intro nd hnd; rw [h] at hnd; cases hnd

theorem upP_of_get_none {net : Net} {j k : Nat} (hn : net.nodes[j]? = none) (h : UpP net j k) : j = k :=
  h.of_leaf (by rintro u (⟨g, hh⟩ | ⟨sts, ch, hh, _⟩) <;> (rw [hn] at hh; cases hh))

theorem root_lt {net : Net} {H : List Nat} (sh : ShInv net) {j k : Nat} (hu : UpP net j k)
    (hk : k < net.nodes.size) (hc : RootClaimed net H j) : j < net.nodes.size := by
  rcases rootClaimed_iff.mp hc with h | ⟨c, x, hx, hh⟩
  · apply Nat.lt_of_not_le; intro hge
    have := upP_of_get_none (Array.getElem?_eq_none hge) hu
    omega
  · have := sh.lt c j (edge_uses (shp?_some hx) hh.uses); have := get_lt hx; omega

theorem Ext.pedge_old {net N : Net} (e : Ext net N) {j u : Nat} (hj : j < net.nodes.size) :
    PEdge N j u ↔ PEdge net j u :=
  pedge_congr (e.old j hj)

theorem Ext.upP_old {net N : Net} (e : Ext net N) (sh : ShInv net) {j k : Nat} (hj : j < net.nodes.size) :
    UpP N j k ↔ UpP net j k := by
  -- a chain from an old node stays among the old nodes, where the two networks agree
  have lt : ∀ a u, a < net.nodes.size → PEdge net a u → u < net.nodes.size := fun a u ha he => by
    obtain ⟨s, hs, hu⟩ := he.edge
    have := sh.lt a u ⟨s, hs, .inl hu⟩; omega
  exact ⟨fun h => h.mono_on (S := (· < net.nodes.size))
      (fun a u ha he => have he' := (e.pedge_old ha).mp he; ⟨he', lt a u ha he'⟩) hj,
    fun h => h.mono_on (S := (· < net.nodes.size))
      (fun a u ha he => ⟨(e.pedge_old ha).mpr he, lt a u ha he⟩) hj⟩

theorem upP_old_lt {net : Net} (sh : ShInv net) {j k : Nat} (h : UpP net j k) (hj : j < net.nodes.size) :
    k < net.nodes.size := by
  have := h.up.le sh; omega

theorem Ext.stat_old {net N : Net} (e : Ext net N) (sh : ShInv net) {k : Nat} (hk : k < net.nodes.size) :
    stat N k = stat net k := by
  refine stat_congr (e.old k hk) (fun P idx hc => e.old P ?_)
  have := sh.lt k P (edge_child hc); omega

def NewHoldsN (net N : Net) (u : Nat) : Prop :=
  ∃ c : Nat, net.nodes.size ≤ c ∧ ∃ x : Node, N.nodes[c]? = some x ∧ NewHolds x u

theorem Ext.rootClaimed {net N : Net} (e : Ext net N) (H' : List Nat) (u : Nat) :
    RootClaimed N H' u ↔ RootClaimed net H' u ∨ NewHoldsN net N u := by
  rw [rootClaimed_iff, rootClaimed_iff]
  constructor
  · rintro (h | ⟨k, x, hk, hx⟩)
    · exact .inl (.inl h)
    · by_cases hlt : k < net.nodes.size
      · exact .inl (.inr ⟨k, x, (e.old k hlt).symm.trans hk, hx⟩)
      · exact .inr ⟨k, by omega, x, hk, hx⟩
  · rintro ((h | ⟨k, x, hk, hx⟩) | ⟨c, _, x, hc, hx⟩)
    · exact .inl h
    · exact .inr ⟨k, x, (e.old k (get_lt hk)).trans hk, hx⟩
    · exact .inr ⟨c, x, hc, hx⟩

/-- A claim reaches an old node `k` from an old root, or from a new root one pass-through edge above
    an old node (`hpe`: the new converts and merged readers read old nodes): hence the shape of `hroot`. -/
theorem claimed_ext {net N : Net} {H H' : List Nat} (sh : ShInv net) (e : Ext net N)
    (hpe : ∀ c u, net.nodes.size ≤ c → PEdge N c u → u < net.nodes.size)
    {k : Nat} (hk : k < net.nodes.size)
    (hroot : ∀ b, b < net.nodes.size → UpP net b k →
      ((RootClaimed N H' b ∨ ∃ c, net.nodes.size ≤ c ∧ PEdge N c b ∧ RootClaimed N H' c) ↔ RootClaimed net H b)) :
    Claimed N H' k ↔ Claimed net H k := by
  constructor
  · rintro ⟨j, hu, hc⟩
    by_cases hj : j < net.nodes.size
    · have hu' := (e.upP_old sh hj).mp hu
      exact ⟨j, hu', (hroot j hj hu').mp (.inl hc)⟩
    · rcases hu.first with rfl | ⟨b, hb, hbk⟩
      · exact absurd hk hj
      · have hb' := hpe j b (by omega) hb
        have hu' := (e.upP_old sh hb').mp hbk
        exact ⟨b, hu', (hroot b hb' hu').mp (.inr ⟨j, by omega, hb, hc⟩)⟩
  · rintro ⟨j, hu, hc⟩
    have hj := root_lt sh hu hk hc
    have hu' := (e.upP_old sh hj).mpr hu
    rcases (hroot j hj hu).mpr hc with h | ⟨c, _, hcj, h⟩
    · exact ⟨j, hu', h⟩
    · exact ⟨c, .step hcj hu', h⟩

/-- `D`: held leaves without a closed flag (arrays) that the caller gives up -/
theorem claimed_ext_nopass {net N : Net} {H H' D : List Nat} (sh : ShInv net) (e : Ext net N)
    (hnp : ∀ c, net.nodes.size ≤ c → ∀ u, ¬ PEdge N c u)
    (ha : ∀ u, NewHoldsN net N u → u ∈ H)
    (hb : ∀ y, y < net.nodes.size → (y ∈ H' ↔ y ∈ H ∧ ¬ NewHoldsN net N y ∧ y ∉ D))
    (hD : ∀ d ∈ D, ∀ u, ¬ PEdge net d u)
    {k : Nat} (hk : k < net.nodes.size) (hkD : k ∉ D) : Claimed N H' k ↔ Claimed net H k :=
  claimed_ext sh e (fun c u hc hp => absurd hp (hnp c hc u)) hk fun b hlt hbk => by
    have hbD : b ∉ D := fun hd => hkD (hbk.of_leaf (hD b hd) ▸ hd)
    rw [e.rootClaimed]
    constructor
    · rintro ((h | h) | ⟨c, hc, hp, _⟩)
      · exact h.imp_left fun h => ((hb b hlt).mp h).1
      · exact .inl (ha b h)
      · exact absurd hp (hnp c hc b)
    · intro h
      by_cases hn : NewHoldsN net N b
      · exact .inl (.inr hn)
      · exact .inl (.inl (h.imp_left fun h => (hb b hlt).mpr ⟨h, hn, hbD⟩))

theorem cellInv_ext {net N : Net} (e : Ext net N)
    (hnew : ∀ c, net.nodes.size ≤ c → ∀ s core, N.nodes[c]? = some (.parent s core) →
      (∀ i : Nat, i < core.cursors.length → ∃ k : Nat, N.nodes[k]? = some (Node.child c i)) ∧
      core.closedNum = core.cursors.count none ∧
      core.srcClosed = (if core.cursors.count none = core.cursors.length then 1 else 0) ∧
      0 < core.cursors.length)
    (h : CellInv net) : CellInv N := by
  have hold : ∀ (P s : Nat) (core : CopyCore), N.nodes[P]? = some (Node.parent s core) → P < net.nodes.size →
      net.nodes[P]? = some (Node.parent s core) := fun P s core hp hP => by rw [← e.old P hP]; exact hp
  refine ⟨fun P s core hp idx hidx => ?_, fun P s core hp => ?_⟩
  · by_cases hP : P < net.nodes.size
    · obtain ⟨c, hc⟩ := h.1 P s core (hold P s core hp hP) idx hidx
      exact ⟨c, by rw [e.old c (get_lt hc)]; exact hc⟩
    · exact (hnew P (by omega) s core hp).1 idx hidx
  · by_cases hP : P < net.nodes.size
    · exact h.2 P s core (hold P s core hp hP)
    · exact (hnew P (by omega) s core hp).2

theorem flagInv_ext_stat {net N : Net} {H H' : List Nat} (sh : ShInv net) (e : Ext net N) (h : FlagInv net H)
    (hold : ∀ k, k < net.nodes.size → stat net k ≠ .none → (Claimed N H' k ↔ Claimed net H k))
    (hnew : ∀ c, net.nodes.size ≤ c →
      (stat N c = .open → Claimed N H' c) ∧ (stat N c = .closed → ¬ Claimed N H' c)) : FlagInv N H' := by
  intro k
  by_cases hk : k < net.nodes.size
  · rw [e.stat_old sh hk]
    by_cases hs : stat net k = .none
    · rw [hs]; exact ⟨nofun, nofun⟩
    · rw [hold k hk hs]; exact h k
  · exact hnew k (by omega)

theorem flagInv_ext {net N : Net} {H H' D : List Nat} (sh : ShInv net) (e : Ext net N) (h : FlagInv net H)
    (hcl : ∀ k, k < net.nodes.size → k ∉ D → (Claimed N H' k ↔ Claimed net H k))
    (hDs : ∀ d ∈ D, stat net d = .none)
    (hnew : ∀ c, net.nodes.size ≤ c → (stat N c = .open → c ∈ H') ∧ stat N c ≠ .closed) : FlagInv N H' :=
  flagInv_ext_stat sh e h (fun k hk hs => hcl k hk fun hd => hs (hDs k hd)) fun c hc =>
    ⟨fun ho => ⟨c, .refl c, .inl ((hnew c hc).1 ho)⟩, fun hcl' => absurd hcl' (hnew c hc).2⟩

theorem flagInv_pushLeaves {base : Net} {H : List Nat} (sh : ShInv base) (h : FlagInv base H) (n : Nat)
    {f : Nat → Node} (hleaf : ∀ i < n, (∃ rest, f i = .arr rest) ∨ ∃ P idx, f i = .child P idx)
    (hopen : ∀ i < n, stat (pushAll base ((List.range n).map f)) (base.nodes.size + i) ≠ .closed) :
    FlagInv (pushAll base ((List.range n).map f)) (H ++ List.range' base.nodes.size n) := by
  have e := Ext.pushAll base ((List.range n).map f)
  have hnew := fun c hc nd => pushAll_leaves_new base n f (c := c) (nd := nd) hc
  generalize pushAll base ((List.range n).map f) = N at e hnew hopen ⊢
  have hkind : ∀ c, base.nodes.size ≤ c → ∀ nd, N.nodes[c]? = some nd →
      (∃ rest, nd = .arr rest) ∨ ∃ P idx, nd = .child P idx := fun c hc nd hnd => by
    obtain ⟨i, hi, -, rfl⟩ := hnew c hc nd hnd; exact hleaf i hi
  have hnp : ∀ c, base.nodes.size ≤ c → ∀ u, ¬ PEdge N c u := by
    rintro c hc u (⟨g, hh⟩ | ⟨sts, ch, hh, _⟩) <;> rcases hkind c hc _ hh with ⟨_, h0⟩ | ⟨_, _, h0⟩ <;> cases h0
  have hnh : ∀ u, ¬ NewHoldsN base N u := by
    rintro u ⟨c, hc, x, hx, hh⟩
    rcases hkind c hc x hx with ⟨_, rfl⟩ | ⟨_, _, rfl⟩ <;> rcases hh with ⟨_, h0, _⟩ | ⟨_, h0, _⟩ <;> cases h0
  refine flagInv_ext (D := []) sh e h (fun k hk _ => ?_) nofun (fun c hc => ?_)
  · refine claimed_ext_nopass (D := []) sh e hnp (fun u hu => absurd hu (hnh u)) (fun y hy => ?_) nofun hk nofun
    simp only [List.mem_append, hnh y, not_false_eq_true, List.not_mem_nil, and_true]
    exact ⟨fun h' => h'.elim id (fun h'' => absurd hy (Nat.not_lt.mpr (List.mem_range'_1.mp h'').1)), .inl⟩
  · cases hcn : N.nodes[c]? with
    | none => rw [stat_none_of_get_none hcn]; exact ⟨nofun, nofun⟩
    | some nd =>
      obtain ⟨i, hi, rfl, _⟩ := hnew c hc nd hcn
      exact ⟨fun _ => List.mem_append.mpr (.inr (List.mem_range'_1.mpr ⟨hc, Nat.add_lt_add_left hi _⟩)), hopen i hi⟩

theorem push_get_new {net : Net} {x nd : Node} {c : Nat} (hc : net.nodes.size ≤ c)
    (h : (net.push x).1.nodes[c]? = some nd) : c = net.nodes.size ∧ nd = x := by
  have := get_lt h
  rw [push_size] at this
  obtain rfl : c = net.nodes.size := by omega
  rw [push_get, if_pos rfl] at h
  exact ⟨rfl, (Option.some.inj h).symm⟩

theorem newHoldsN_push_iff {net : Net} (x : Node) (u : Nat) :
    NewHoldsN net (net.push x).1 u ↔ NewHolds x u := by
  constructor
  · rintro ⟨c, hc, y, hy, h⟩
    exact (push_get_new hc hy).2 ▸ h
  · intro h
    exact ⟨net.nodes.size, Nat.le_refl _, x, push_get_self net x, h⟩

theorem pedge_push_new_iff {net : Net} (x : Node) (u : Nat) :
    PEdge (net.push x).1 net.nodes.size u ↔ (∃ g, x = .conv u g) ∨ (∃ sts ch, x = .merge sts ch ∧ u ∈ sts) := by
  unfold PEdge
  rw [push_get]; simp

theorem no_pedge_push_ge {net : Net} {x : Node} (h1 : ∀ src g, x ≠ .conv src g) (h2 : ∀ sts ch, x ≠ .merge sts ch) :
    ∀ c, net.nodes.size ≤ c → ∀ u, ¬ PEdge (net.push x).1 c u := by
  rintro c hc u (⟨g, hh⟩ | ⟨sts, ch, hh, _⟩)
  · exact h1 u g (push_get_new hc hh).2.symm
  · exact h2 sts ch (push_get_new hc hh).2.symm

theorem no_pedge_push_new {net : Net} {x : Node} (h1 : ∀ src g, x ≠ .conv src g) (h2 : ∀ sts ch, x ≠ .merge sts ch) :
    ∀ u, ¬ PEdge (net.push x).1 net.nodes.size u :=
  no_pedge_push_ge h1 h2 _ (Nat.le_refl _)

theorem flagInv_push {net : Net} {H H' : List Nat} (sh : ShInv net) (x : Node) (h : FlagInv net H)
    (hold : ∀ k, k < net.nodes.size → stat net k ≠ .none →
      (Claimed (net.push x).1 H' k ↔ Claimed net H k))
    (hnew : (stat (net.push x).1 net.nodes.size = .open → Claimed (net.push x).1 H' net.nodes.size) ∧
      (stat (net.push x).1 net.nodes.size = .closed → ¬ Claimed (net.push x).1 H' net.nodes.size)) :
    FlagInv (net.push x).1 H' :=
  flagInv_ext_stat sh (Ext.push net x) h hold fun c hc => by
    by_cases ec : c = net.nodes.size
    · exact ec ▸ hnew
    · exact flag_of_stat_none (stat_none fun nd hnd => absurd (push_get_new hc hnd).1 ec)

theorem claimed_push_nopass {net : Net} {H H' : List Nat} (sh : ShInv net) (x : Node)
    (h1 : ∀ src g, x ≠ .conv src g) (h2 : ∀ sts ch, x ≠ .merge sts ch)
    (ha : ∀ u, NewHolds x u → u ∈ H)
    (hb : ∀ y, y < net.nodes.size → (y ∈ H' ↔ y ∈ H ∧ ¬ NewHolds x y))
    {k : Nat} (hk : k < net.nodes.size) : Claimed (net.push x).1 H' k ↔ Claimed net H k :=
  claimed_ext_nopass (D := []) sh (Ext.push net x) (no_pedge_push_ge h1 h2)
    (fun u hu => ha u ((newHoldsN_push_iff x u).mp hu))
    (fun y hy => by rw [hb y hy, newHoldsN_push_iff]; simp) (by simp) hk (by simp)

theorem flagInv_push_plain {net : Net} {H H' : List Nat} (sh : ShInv net) (x : Node) (h : FlagInv net H)
    (h1 : ∀ src g, x ≠ .conv src g) (h2 : ∀ sts ch, x ≠ .merge sts ch)
    (ha : ∀ u, NewHolds x u → u ∈ H)
    (hb : ∀ y, y < net.nodes.size → (y ∈ H' ↔ y ∈ H ∧ ¬ NewHolds x y))
    (hnew : (stat (net.push x).1 net.nodes.size = .open → net.nodes.size ∈ H') ∧
      stat (net.push x).1 net.nodes.size ≠ .closed) :
    FlagInv (net.push x).1 H' :=
  flagInv_push sh x h (fun k hk _ => claimed_push_nopass sh x h1 h2 ha hb hk)
    ⟨fun ho => .of_root (.inl (hnew.1 ho)), fun hc => absurd hc hnew.2⟩

theorem closeInv_push_plain {net : Net} {H H' : List Nat} (sh : ShInv net) (x : Node)
    (h : FlagInv net H ∧ CellInv net)
    (h1 : ∀ src g, x ≠ .conv src g) (h2 : ∀ sts ch, x ≠ .merge sts ch) (h3 : ∀ s core, x ≠ .parent s core)
    (ha : ∀ u, NewHolds x u → u ∈ H)
    (hb : ∀ y, y < net.nodes.size → (y ∈ H' ↔ y ∈ H ∧ ¬ NewHolds x y))
    (hnew : (stat (net.push x).1 net.nodes.size = .open → net.nodes.size ∈ H') ∧
      stat (net.push x).1 net.nodes.size ≠ .closed) :
    FlagInv (net.push x).1 H' ∧ CellInv (net.push x).1 :=
  ⟨flagInv_push_plain sh x h.1 h1 h2 ha hb hnew,
    cellInv_ext (Ext.push net x) (fun c hc s core hh => absurd (push_get_new hc hh).2.symm (h3 s core)) h.2⟩

theorem claimed_push_pass {net : Net} {H H' : List Nat} (sh : ShInv net) (x : Node)
    (hx : ∀ u ∈ x.shp.uses, u < net.nodes.size)
    (hp : ∀ u, PEdge (net.push x).1 net.nodes.size u ↔ u ∈ x.shp.uses)
    (hnh : ∀ u, ¬ NewHolds x u)
    (ha : ∀ u ∈ x.shp.uses, u ∈ H)
    (hb : ∀ y, y < net.nodes.size → (y ∈ H' ↔ y ∈ H ∧ y ∉ x.shp.uses))
    (hn : net.nodes.size ∈ H')
    {k : Nat} (hk : k < net.nodes.size) : Claimed (net.push x).1 H' k ↔ Claimed net H k := by
  have e := Ext.push net x
  have hnew : ∀ c u, net.nodes.size ≤ c → PEdge (net.push x).1 c u → u ∈ x.shp.uses := by
    intro c u hc hcu
    obtain ⟨s, hs, _⟩ := hcu.edge
    have := shp?_lt hs
    rw [push_size] at this
    obtain rfl : c = net.nodes.size := by omega
    exact (hp u).mp hcu
  refine claimed_ext sh e (fun c u hc hcu => hx u (hnew c u hc hcu)) hk fun b hlt _ => ?_
  rw [e.rootClaimed, newHoldsN_push_iff, or_iff_left (hnh b)]
  constructor
  · rintro (h | ⟨c, hc, hcb, _⟩)
    · exact h.imp_left fun h => ((hb b hlt).mp h).1
    · exact .inl (ha b (hnew c b hc hcb))
  · intro h
    by_cases hu : b ∈ x.shp.uses
    · exact .inr ⟨net.nodes.size, Nat.le_refl _, (hp b).mpr hu, .inl hn⟩
    · exact .inl (h.imp_left fun h => (hb b hlt).mpr ⟨h, hu⟩)

theorem closeInv_push_pass {net : Net} {H H' : List Nat} (sh : ShInv net) (x : Node)
    (h : FlagInv net H ∧ CellInv net)
    (hkind : (∃ src g, x = .conv src g) ∨ ∃ sts ch, x = .merge sts ch)
    (hx : ∀ u ∈ x.shp.uses, u < net.nodes.size)
    (ha : ∀ u ∈ x.shp.uses, u ∈ H)
    (hb : ∀ y, y < net.nodes.size → (y ∈ H' ↔ y ∈ H ∧ y ∉ x.shp.uses))
    (hn : net.nodes.size ∈ H') :
    FlagInv (net.push x).1 H' ∧ CellInv (net.push x).1 := by
  have e := Ext.push net x
  have hp : ∀ u, PEdge (net.push x).1 net.nodes.size u ↔ u ∈ x.shp.uses := by
    intro u
    rcases hkind with ⟨src, g, rfl⟩ | ⟨sts, ch, rfl⟩
    · exact (pedge_conv (push_get_self net _)).trans List.mem_singleton.symm
    · exact pedge_merge (push_get_self net _)
  have hnh : ∀ u, ¬ NewHolds x u := by
    rintro u (⟨c, hh, _⟩ | ⟨st, hh, _⟩) <;> rcases hkind with ⟨_, _, rfl⟩ | ⟨_, _, rfl⟩ <;> cases hh
  refine ⟨flagInv_push sh x h.1 (fun k hk _ => claimed_push_pass sh x hx hp hnh ha hb hn hk)
    (flag_of_stat_none (stat_noflag (push_get_self net x) ?_)), cellInv_ext e (fun c hc s core hh => ?_) h.2⟩
  · rcases hkind with ⟨_, _, rfl⟩ | ⟨_, _, rfl⟩ <;> rfl
  · have := (push_get_new hc hh).2
    rcases hkind with ⟨_, _, rfl⟩ | ⟨_, _, rfl⟩ <;> cases this


end EinoV.C08
