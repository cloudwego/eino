/-
  C08 — delivery at every moment: every claimed reader has a specified remaining sequence
  (`den_exists`), and what a held reader was handed so far is a prefix of a sequence specified for
  it (`delivery_prefix`).
-/
import EinoV.Proofs.C08Tree.Progress
namespace EinoV.C08


theorem Inter.prepend {S : List Nat} {ls : Nat → List Item} {l : List Item} {s : Nat} (hs : s ∈ S)
    (h : Inter S ls l) : ∀ pre : List Item, Inter S (upd ls s (pre ++ ls s)) (pre ++ l) := by
  intro pre
  induction pre with
  | nil => simpa [upd_self] using h
  | cons x rest ih =>
    have := ih.push x hs
    simp only [upd_same, upd_upd] at this
    exact this

theorem inter_exists (ls : Nat → List Item) : ∀ S : List Nat, S.Nodup → ∃ l, Inter S ls l := by
  intro S
  induction S with
  | nil => intro _; exact ⟨[], .nil (by simp)⟩
  | cons s rest ih =>
    intro hnd
    rw [List.nodup_cons] at hnd
    obtain ⟨l, hl⟩ := ih hnd.2
    have h1 : Inter (s :: rest) (upd ls s []) l := by
      have : (s :: rest).erase s = rest := by simp
      exact Inter.add_empty (S := s :: rest) (by rw [this]; exact hnd.1) (by rw [this]; exact hl)
    have h2 := h1.prepend (s := s) (by simp) (ls s)
    simp only [upd_same, upd_upd, List.append_nil, upd_self] at h2
    exact ⟨_, h2⟩

theorem den_exists {fut : Nat → List Item} {H : List Nat} {net : Net} (sh : ShInv net) (st : StInv net)
    (ci : CloseInvOn net H (fun _ => True)) : ∀ (j : Nat), Claimed net H j →
    (∃ t, net.shp? j = some t ∧ t.isReader = true) → ∃ l, Den fut net j l := by
  intro j
  induction j using Nat.strongRecOn with
  | ind j ih =>
    intro hcl ⟨t, ht, hk⟩
    obtain ⟨nd, hn, rfl⟩ := shp?_eq_some ht
    cases nd with
    | pipe p => exact ⟨_, .pipe hn⟩
    | arr rest => exact ⟨_, .arr hn⟩
    | conv src g =>
      obtain ⟨l, hl⟩ := ih src (sh.lt j src (edge_conv hn)) (hcl.pass (.inl ⟨g, hn⟩)) (sh.convSrc j src g (shp?_some hn))
      exact ⟨_, .conv hn hl⟩
    | child P idx =>
      obtain ⟨src', core, k0, hp, hk0, hlt, hcs, hrd⟩ := claimed_child sh ci hcl hn
      cases he : core.eofSeen with
      | true => exact ⟨_, .childEof hn hp hk0 he⟩
      | false =>
        obtain ⟨l, hl⟩ := ih src' hlt hcs hrd
        exact ⟨_, .childOpen hn hp hk0 he hl⟩
    | merge sts chosen =>
      have hsrc : ∀ sb, ∃ l, sb ∈ chosen → ∀ sid, sts[sb]? = some sid → Den fut net sid l := fun sb => by
        refine if hsb : sb ∈ chosen then ?_ else ⟨[], fun h => absurd h hsb⟩
        have hlt := st.chosenLt j sts chosen hn sb hsb
        have hmem : sts[sb] ∈ sts := List.getElem_mem hlt
        have hjs := sh.lt j sts[sb] (edge_merge hn hmem)
        suffices key : ∃ l, Den fut net sts[sb] l from key.imp fun l hl _ sid hsid => by
          rw [List.getElem?_eq_getElem hlt] at hsid; cases hsid; exact hl
        rcases claimed_merge_src sh ci hcl hn hmem with ⟨pp, hnd⟩ | ⟨s, hnd⟩ | ⟨s, hnd, hss, hcs, hrd⟩
        · exact ⟨_, .pipe hnd⟩
        · exact ⟨_, .fwdEnded hnd⟩
        · obtain ⟨l, hl⟩ := ih s (Nat.lt_trans hss hjs) hcs hrd
          exact ⟨_, .fwd hnd hl⟩
      obtain ⟨ls, hls⟩ := Classical.skolem.mp hsrc
      obtain ⟨l, hl⟩ := inter_exists ls chosen (st.chosenNodup j sts chosen hn)
      exact ⟨l, .merge hn (fun sb sid hsb hsid => hls sb hsb sid hsid) hl⟩
    | parent _ _ | fpipe _ _ | dead => cases hk

theorem delivery_prefix {F : Facts} {fuel : Nat} (g : GoodFacts F) (ops : List Op) (net net1 : Net) (r : Nat)
    (i : Inv net) (hc : CloseInv net) (hr : r ∈ net.readers) (h : Behaves F fuel net ops net1)
    (hr1 : r ∈ net1.readers) : ∃ l, Den (accBy ops) net r (gotBy r ops ++ l) := by
  have i1 := h.inv g i
  have hc1 := h.closeInv g i hc
  obtain ⟨l, hl⟩ := den_exists (fut := fun _ => []) i1.sh i1.st hc1 r (.of_root (.inl hr1)) (i1.rd.kind r hr1)
  refine ⟨l, ?_⟩
  have := delivery_general g ops net net1 r (fun _ => []) l i hr h hr1 (fun _ _ _ _ => rfl) hl
  simpa using this

end EinoV.C08
