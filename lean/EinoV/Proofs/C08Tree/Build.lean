/-
  C08 — building networks: `push`, typing of references, freshness.
-/
import EinoV.Proofs.C08Tree.RecvBasic
set_option linter.unusedVariables false
namespace EinoV.C08

theorem push_get (net : Net) (x : Node) (k : Nat) :
    (net.push x).1.nodes[k]? = if k = net.nodes.size then some x else net.nodes[k]? := by
  simp [Net.push, Array.getElem?_push]

theorem push_get_self (net : Net) (x : Node) : (net.push x).1.nodes[net.nodes.size]? = some x :=
  (push_get net x _).trans (if_pos rfl)

@[simp] theorem push_id (net : Net) (x : Node) : (net.push x).2 = net.nodes.size := rfl
@[simp] theorem push_readers (net : Net) (x : Node) : (net.push x).1.readers = net.readers := rfl
@[simp] theorem push_writers (net : Net) (x : Node) : (net.push x).1.writers = net.writers := rfl
@[simp] theorem push_size (net : Net) (x : Node) : (net.push x).1.nodes.size = net.nodes.size + 1 := by
  simp [Net.push]

theorem shp?_lt {net : Net} {k : Nat} {s : Shp} (h : net.shp? k = some s) : k < net.nodes.size := by
  obtain ⟨nd, hnd, _⟩ := shp?_eq_some h; exact get_lt hnd

theorem push_shp? (net : Net) (x : Node) (k : Nat) :
    (net.push x).1.shp? k = if k = net.nodes.size then some x.shp else net.shp? k := by
  unfold Net.shp?; rw [push_get]; split <;> simp

theorem push_shp?_old {net : Net} (x : Node) {k : Nat} {s : Shp} (h : net.shp? k = some s) :
    (net.push x).1.shp? k = some s := by
  rw [push_shp?]; have := shp?_lt h
  have : ¬ k = net.nodes.size := by omega
  simp [this, h]

theorem push_get_old {net : Net} (x : Node) {k : Nat} (h : k < net.nodes.size) :
    (net.push x).1.nodes[k]? = net.nodes[k]? := by
  rw [push_get]; have : ¬ k = net.nodes.size := by omega
  simp [this]

/-- `N` is `net` with nodes added at the end and no old node changed: what every building operation
    except `MergeStreamReaders` on merged readers does. Facts that look only at old nodes pass from
    `net` to `N` through `old`. -/
structure Ext (net N : Net) : Prop where
  size : net.nodes.size ≤ N.nodes.size
  old : ∀ k, k < net.nodes.size → N.nodes[k]? = net.nodes[k]?

theorem Ext.push (net : Net) (x : Node) : Ext net (net.push x).1 := ⟨by simp, fun k hk => push_get_old x hk⟩

theorem Ext.trans {a b c : Net} (h1 : Ext a b) (h2 : Ext b c) : Ext a c :=
  ⟨Nat.le_trans h1.size h2.size, fun k hk => by rw [h2.old k (by have := h1.size; omega), h1.old k hk]⟩

theorem Ext.shp?_old {net N : Net} (e : Ext net N) {k : Nat} (hk : k < net.nodes.size) : N.shp? k = net.shp? k := by
  unfold Net.shp?; rw [e.old k hk]

/-- What `ShInv` asks of the references of ONE node of shape `s` (its clauses `convSrc`, `parSrc`,
    `childPar`, `mergeSrc`, `fwdSrc` for that node): each points at a node of the right kind. The
    obligation on a node about to be pushed (`ShInv.push`). -/
def Typed (net : Net) : Shp → Prop
  | .conv src _ => ∃ t, net.shp? src = some t ∧ t.isReader = true
  | .parent src _ => ∃ t, net.shp? src = some t ∧ t.isReader = true
  | .child par idx => ∃ src n, net.shp? par = some (.parent src n) ∧ idx < n
  | .merge sts => ∀ sid ∈ sts, net.shp? sid = some .pipe ∨ ∃ src, net.shp? sid = some (.fpipe src)
  | .fpipe src => ∃ t, net.shp? src = some t ∧ t.isReader = true
  | _ => True

theorem Typed.mono {net net' : Net} {s : Shp} (h : Typed net s)
    (hm : ∀ k, (k ∈ s.uses ∨ s.par? = some k) → net'.shp? k = net.shp? k) : Typed net' s := by
  cases s with
  | conv src g | parent src n | fpipe src =>
    obtain ⟨t, ht, hr⟩ := h
    exact ⟨t, by rw [hm src (.inl (.head _))]; exact ht, hr⟩
  | child par idx =>
    obtain ⟨src, n, ht, hr⟩ := h
    exact ⟨src, n, by rw [hm par (.inr rfl)]; exact ht, hr⟩
  | merge sts =>
    intro sid hs
    rw [hm sid (.inl hs)]
    exact h sid hs
  | pipe | arr | dead => trivial

theorem reader_not_cell {t : Shp} (h : t.isReader = true) : t.isCell = false := by
  cases t <;> simp_all [Shp.isReader, Shp.isCell]

theorem Typed.usesKind {net : Net} {s : Shp} (h : Typed net s) {u : Nat} (hu : u ∈ s.uses) :
    ∃ t, net.shp? u = some t ∧ t.isCell = false := by
  cases s with
  | conv src g | parent src n | fpipe src =>
    cases List.mem_singleton.mp hu
    obtain ⟨t, ht, hr⟩ := h; exact ⟨t, ht, reader_not_cell hr⟩
  | merge sts =>
    rcases h u hu with h | ⟨src, h⟩
    · exact ⟨_, h, rfl⟩
    · exact ⟨_, h, rfl⟩
  | child par idx | pipe | arr | dead => cases hu

theorem Typed.lt {net : Net} {s : Shp} (h : Typed net s) {u : Nat} (hu : u ∈ s.uses ∨ s.par? = some u) :
    u < net.nodes.size := by
  rcases hu with hu | hu
  · obtain ⟨t, ht, _⟩ := h.usesKind hu; exact shp?_lt ht
  · cases s <;> cases hu
    obtain ⟨src, n, hp, _⟩ := h; exact shp?_lt hp

theorem ShInv.typed {net : Net} (i : ShInv net) {j : Nat} {s : Shp} (h : net.shp? j = some s) : Typed net s := by
  cases s with
  | conv src g => exact i.convSrc j src g h
  | parent src n => exact i.parSrc j src n h
  | child par idx => exact i.childPar j par idx h
  | merge sts => exact fun sid hs => i.mergeSrc j sts sid h hs
  | fpipe src => exact i.fwdSrc j src h
  | pipe | arr | dead => trivial

theorem ShInv.ofTyped {net : Net}
    (lt : ∀ j s u, net.shp? j = some s → (u ∈ s.uses ∨ s.par? = some u) → u < j)
    (typed : ∀ j s, net.shp? j = some s → Typed net s)
    (lin : ∀ j j' s s' u, net.shp? j = some s → net.shp? j' = some s' → u ∈ s.uses → u ∈ s'.uses → j = j')
    (usesNodup : ∀ j s, net.shp? j = some s → s.uses.Nodup)
    (childUniq : ∀ j j' par idx, net.shp? j = some (.child par idx) → net.shp? j' = some (.child par idx) → j = j') :
    ShInv net where
  lt := fun j u ⟨s, hs, h⟩ => lt j s u hs h
  usesKind := fun j s u hj hu => (typed j s hj).usesKind hu
  convSrc := fun j src g hj => typed j _ hj
  parSrc := fun j src n hj => typed j _ hj
  childPar := fun j par idx hj => typed j _ hj
  mergeSrc := fun j sts sid hj hs => typed j _ hj sid hs
  fwdSrc := fun j src hj => typed j _ hj
  lin := lin
  usesNodup := usesNodup
  childUniq := childUniq

/-- No node of `net` consumes reader `u` yet. A new node may only consume free readers: this is what
    keeps `ShInv.lin` (every reader has at most one consumer) when it is pushed. -/
def Free (net : Net) (u : Nat) : Prop := ∀ j s, net.shp? j = some s → u ∉ s.uses

theorem ShInv.set {net N : Net} (i : ShInv net) {r : Nat} {s : Shp}
    (hN : ∀ k, N.shp? k = if k = r then some s else net.shp? k)
    (hold : ∀ j t u, net.shp? j = some t → j ≠ r → (u ∈ t.uses ∨ t.par? = some u) → u ≠ r)
    (hlt : ∀ u, (u ∈ s.uses ∨ s.par? = some u) → u < r)
    (htyp : Typed net s)
    (hfree : ∀ u ∈ s.uses, Free net u)
    (hnd : s.uses.Nodup)
    (hch : ∀ par idx, s = .child par idx → ∀ j, net.shp? j ≠ some (.child par idx)) :
    ShInv N := by
  have old : ∀ {j t}, N.shp? j = some t → j ≠ r → net.shp? j = some t := by
    intro j t h hne; rw [hN] at h; simpa [hne] using h
  have new : ∀ {t}, N.shp? r = some t → t = s := by
    intro t h; rw [hN] at h; simpa using h.symm
  have keep : ∀ k, k ≠ r → N.shp? k = net.shp? k := by
    intro k hk; rw [hN]; simp [hk]
  refine ShInv.ofTyped ?_ ?_ ?_ ?_ ?_
  · intro j t u hj hu
    by_cases e : j = r
    · subst e; rw [new hj] at hu; exact hlt u hu
    · exact i.lt j u ⟨t, old hj e, hu⟩
  · intro j t hj
    by_cases e : j = r
    · subst e; rw [new hj]
      exact htyp.mono fun k hk => keep k (Nat.ne_of_lt (hlt k hk))
    · exact (i.typed (old hj e)).mono fun k hk => keep k (hold j t k (old hj e) e hk)
  · intro j j' t t' u hj hj' hu hu'
    by_cases e : j = r
    · by_cases e' : j' = r
      · rw [e, e']
      · subst e; rw [new hj] at hu
        exact absurd hu' (hfree u hu j' t' (old hj' e'))
    · by_cases e' : j' = r
      · subst e'; rw [new hj'] at hu'
        exact absurd hu (hfree u hu' j t (old hj e))
      · exact i.lin j j' t t' u (old hj e) (old hj' e') hu hu'
  · intro j t hj
    by_cases e : j = r
    · subst e; rw [new hj]; exact hnd
    · exact i.usesNodup j t (old hj e)
  · intro j j' par idx hj hj'
    by_cases e : j = r
    · by_cases e' : j' = r
      · rw [e, e']
      · subst e
        exact absurd (old hj' e') (hch par idx (new hj).symm j')
    · by_cases e' : j' = r
      · subst e'
        exact absurd (old hj e) (hch par idx (new hj').symm j)
      · exact i.childUniq j j' par idx (old hj e) (old hj' e')

theorem ShInv.push {net : Net} (i : ShInv net) (x : Node)
    (hlt : ∀ u, (u ∈ x.shp.uses ∨ x.shp.par? = some u) → u < net.nodes.size)
    (htyp : Typed net x.shp)
    (hfree : ∀ u ∈ x.shp.uses, Free net u)
    (hnd : x.shp.uses.Nodup)
    (hch : ∀ par idx, x.shp = .child par idx → ∀ j, net.shp? j ≠ some (.child par idx)) :
    ShInv (net.push x).1 :=
  i.set (push_shp? net x)
    (fun j t u hj _ hu => by have := i.lt j u ⟨t, hj, hu⟩; have := shp?_lt hj; omega) hlt htyp hfree hnd hch

theorem ShInv.push_nopar {net : Net} (i : ShInv net) (x : Node) (hpar : x.shp.par? = none)
    (htyp : Typed net x.shp) (hfree : ∀ u ∈ x.shp.uses, Free net u) (hnd : x.shp.uses.Nodup) :
    ShInv (net.push x).1 :=
  i.push x (fun _ => htyp.lt) htyp hfree hnd
    fun par idx e => by rw [e] at hpar; cases hpar

theorem Free.push {net : Net} {u : Nat} (h : Free net u) (x : Node) (hx : u ∉ x.shp.uses) :
    Free (net.push x).1 u := by
  intro j s hj
  rw [push_shp?] at hj
  split at hj
  · cases hj; exact hx
  · exact h j s hj

theorem free_new {net : Net} (i : ShInv net) (x : Node)
    (hlt : ∀ u ∈ x.shp.uses, u < net.nodes.size) : Free (net.push x).1 net.nodes.size := by
  intro j s hj hu
  rw [push_shp?] at hj
  split at hj
  · cases hj; have := hlt _ hu; omega
  · have := i.lt j _ ⟨s, hj, .inl hu⟩; have := shp?_lt hj; omega

theorem StInv.push {net : Net} (h : StInv net) {x : Node} (hx : NodeOK x) : StInv (net.push x).1 := by
  rw [stInv_iff] at h ⊢
  intro j nd hj
  rw [push_get] at hj
  split at hj
  · cases hj; exact hx
  · exact h j nd hj

end EinoV.C08
