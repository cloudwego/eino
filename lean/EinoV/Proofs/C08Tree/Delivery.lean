/-
  C08 — whole-network delivery: in every network built by the operations of the case language,
  under every schedule, what a held reader is still specified to deliver at the end, prefixed by
  what it was handed, it was specified to deliver at the start (`delivery_general`); a reader that
  reads to `io.EOF` has received exactly a sequence its specification `Den` allows (`delivery_core`).
-/
import EinoV.Proofs.C08Tree.Sched
set_option linter.unusedVariables false
namespace EinoV.C08


theorem den_setPipe {fut fut' : Nat → List Item} {net : Net} {p : Nat} {x y : Pipe}
    (hx : net.nodes[p]? = some (.pipe x))
    (hrel : (y.buf ++ if y.sendClosed then [] else fut p) = (x.buf ++ if x.sendClosed then [] else fut' p))
    (hoth : ∀ q, q ≠ p → fut q = fut' q) {j : Nat} {l : List Item}
    (hd : Den fut (net.setNode p (.pipe y)) j l) : Den fut' net j l :=
  hd.transfer fun k z _ hz => by
    by_cases e : k = p
    · subst e
      rw [setNode_get_self hx] at hz; cases hz
      exact ⟨_, hx, .pipe hrel⟩
    · rw [setNode_get_ne _ e] at hz
      refine ⟨z, hz, ?_⟩
      cases z with
      | pipe q => exact .pipe (by rw [hoth k e])
      | _ => exact .same (by simp)

theorem Den.of_nodes_eq {fut : Nat → List Item} {a b : Net} (hn : b.nodes = a.nodes) {j : Nat} {l : List Item}
    (hd : Den fut b j l) : Den fut a j l :=
  hd.congr fun k _ => by rw [hn]

/-- a reader that is held later was held all along (new readers get new identifiers) -/
theorem Step.readers_back {F : Facts} {fuel : Nat} {net net' : Net} {op : Op}
    (h : Step F fuel net op net') (i : Inv net) :
    net.nodes.size ≤ net'.nodes.size ∧ ∀ r, r ∈ net'.readers → r < net.nodes.size → r ∈ net.readers := by
  cases h with
  | recv hr hrecv => exact ⟨Nat.le_of_eq hrecv.sameShape.1.1, fun r hr' _ => hrecv.sameShape.2 ▸ hr'⟩
  | other h1 ha =>
    rcases applyOp_cases h1 ha with hb | ⟨p, x, y, hx, _, rfl, _⟩ | ⟨_, n1, R, W, l, rfl, hR, _⟩
    · exact ⟨(applyOp_build_frame hb ha).1, (applyOp_build_frame hb ha).2.1⟩
    · exact ⟨by simp, fun r hr' _ => hr'⟩
    · exact ⟨Nat.le_of_eq l.size, fun r hr' _ => hR.subset hr'⟩

theorem Behaves.readers_back {F : Facts} {fuel : Nat} (g : GoodFacts F) {net net' : Net} {ops : List Op}
    (h : Behaves F fuel net ops net') (i : Inv net) :
    net.nodes.size ≤ net'.nodes.size ∧ ∀ r, r ∈ net'.readers → r < net.nodes.size → r ∈ net.readers := by
  induction h with
  | nil => exact ⟨Nat.le_refl _, fun r hr _ => hr⟩
  | cons hs _ ih =>
    obtain ⟨s1, b1⟩ := hs.readers_back i
    obtain ⟨s2, b2⟩ := ih (hs.inv g i)
    exact ⟨by omega, fun r hr hlt => b1 r (b2 r hr (by omega)) hlt⟩

theorem Behaves.split {F : Facts} {fuel : Nat} {a c : Net} (o1 o2 : List Op)
    (h : Behaves F fuel a (o1 ++ o2) c) : ∃ b, Behaves F fuel a o1 b ∧ Behaves F fuel b o2 c := by
  induction o1 generalizing a with
  | nil => exact ⟨a, .nil _, h⟩
  | cons o rest ih =>
    cases h with
    | cons hs hr =>
      obtain ⟨b, h1, h2⟩ := ih hr
      exact ⟨b, .cons hs h1, h2⟩

theorem Behaves.append {F : Facts} {fuel : Nat} {a b c : Net} {o1 o2 : List Op}
    (h1 : Behaves F fuel a o1 b) (h2 : Behaves F fuel b o2 c) : Behaves F fuel a (o1 ++ o2) c := by
  induction h1 with
  | nil => exact h2
  | cons hs _ ih => exact .cons hs (ih h2)

theorem accBy_cons (op : Op) (ops : List Op) : accBy (op :: ops) = fun p => Op.acc p op ++ accBy ops p := by
  funext p; simp [accBy]

theorem gotBy_cons (r : Nat) (op : Op) (ops : List Op) : gotBy r (op :: ops) = Op.got r op ++ gotBy r ops := by
  simp [gotBy]

theorem accBy_append (o1 o2 : List Op) (p : Nat) : accBy (o1 ++ o2) p = accBy o1 p ++ accBy o2 p := by
  simp [accBy]

theorem accBy_of_acc_nil {op : Op} {ops : List Op} (h : ∀ p, Op.acc p op = []) : accBy (op :: ops) = accBy ops := by
  rw [accBy_cons]; funext p; simp [h]

theorem got_recv_self (r : Nat) (obs : Res) : Op.got r (.recv r obs) = obs.items := by
  cases obs <;> simp [Op.got, Res.items]

theorem got_recv_ne {r r' : Nat} (h : r' ≠ r) (obs : Res) : Op.got r (.recv r' obs) = [] := by
  cases obs <;> simp [Op.got, h]

theorem Op.got_of_not_recv {op : Op} (h : op.isRecv = false) (r : Nat) : Op.got r op = [] := by
  cases op <;> first | rfl | cases h

theorem Behaves.scm {F : Facts} {fuel : Nat} (g : GoodFacts F) {net net' : Net} {ops : List Op}
    (h : Behaves F fuel net ops net') (i : Inv net) : SCM net net' := by
  induction h with
  | nil => exact .refl _
  | cons hs _ ih => exact (hs.scm i).trans (ih (hs.inv g i))

/-- Backward induction over the schedule, with an arbitrary continuation `l`. -/
theorem delivery_general {F : Facts} {fuel : Nat} (g : GoodFacts F) :
    ∀ (ops : List Op) (net net1 : Net) (r : Nat) (fut : Nat → List Item) (l : List Item),
      Inv net → r ∈ net.readers → Behaves F fuel net ops net1 → r ∈ net1.readers →
      (∀ (p : Nat) (x : Pipe), net1.nodes[p]? = some (.pipe x) → x.sendClosed = true → fut p = []) →
      Den fut net1 r l → Den (fun p => accBy ops p ++ fut p) net r (gotBy r ops ++ l) := by
  intro ops
  induction ops with
  | nil =>
    intro net net1 r fut l i hr h hr1 hfut hd
    cases h
    simpa [accBy, gotBy] using hd
  | cons op ops ih =>
    intro net net1 r fut l i hr h hr1' hfut hd
    cases h with
    | cons hstep hrest =>
      rename_i n1
      have i1 := hstep.inv g i
      have hr1 : r ∈ n1.readers :=
        (hrest.readers_back g i1).2 r hr1' (by have := (hstep.readers_back i).1; have := i.rd.lt hr; omega)
      have IH := ih n1 net1 r fut l i1 hr1 hrest hr1' hfut hd
      rw [gotBy_cons, List.append_assoc]
      cases hstep with
      | @recv _ r' obs tr hr' hrecv =>
        rw [accBy_of_acc_nil fun _ => rfl]
        have D := hrecv.den (fut := fun p => accBy ops p ++ fut p) g.copy' i.sh i.st
        obtain ⟨ht, hts⟩ := hrecv.trace i.sh
        by_cases e : r' = r
        · subst e
          rw [got_recv_self, ← hts]
          exact D.2 r' _ (.inl rfl) IH
        · rw [got_recv_ne e]
          have hn : ¬ Up net r r' := fun hu => e (held_up i hr' hu).symm
          have := D.2 r _ (.inr hn) IH
          rwa [ofSrc_nil_of (fun ev hev heq => e (held_up i hr (by rw [← heq]; exact ht ev hev)))] at this
      | other h1 ha =>
        rw [Op.got_of_not_recv h1, List.nil_append]
        rcases applyOp_cases h1 ha with hb | ⟨p, x, y, hx, hs, rfl, hy, hq⟩ | ⟨_, n1', R, W, lcl, rfl, _, hacc⟩
        · rw [accBy_of_acc_nil (Op.acc_of_isBuild hb)]
          exact den_build i hb ha hr hr1 IH
        · refine den_setPipe (fut := fun p => accBy ops p ++ fut p) hx ?_
            (fun q hq' => by rw [accBy_cons]; simp [hq q hq']) IH
          rcases hy with rfl | ⟨rfl, h0⟩
          · rw [accBy_cons]; simp [hs]
          · -- closed for sending: nothing is accepted afterwards
            have hz : accBy ops p = [] := accBy_closed g hrest i1 (setNode_get_self hx _) rfl
            obtain ⟨y, hy, hys⟩ := hrest.scm g i1 p _ (setNode_get_self hx _) rfl
            rw [accBy_cons]; simp [hs, hz, hfut p y hy hys, h0]
        · rw [accBy_of_acc_nil hacc]
          exact lcl.den (IH.congr fun k _ => rfl)

theorem delivery_core {F : Facts} {fuel : Nat} (g : GoodFacts F) :
    ∀ (ops : List Op) (net net' : Net) (r : Nat), Inv net → r ∈ net.readers →
      Behaves F fuel net (ops ++ [.recv r .eof]) net' → Den (accBy ops) net r (gotBy r ops) := by
  intro ops net net' r i hr h
  obtain ⟨nk, hb, hlast⟩ := h.split ops [.recv r .eof]
  have ik := hb.inv g i
  obtain _ | ⟨hstep, hnil⟩ := hlast
  cases hnil
  cases hstep with
  | other h1 _ => cases h1
  | recv hrk hrecv =>
    have hz := (hrecv.den (fut := fun _ => []) g.copy' ik.sh ik.st).1 rfl
    simpa using delivery_general g ops net nk r (fun _ => []) [] i hr hb hrk (fun _ _ _ _ => rfl) hz


end EinoV.C08
