/-
  C08 — the executable `recvAll` of the network model refines the relational semantics `Recv`
  (`recvAll_sound`): every outcome the oracle enumerates is a derivation of `Recv`.
-/
import EinoV.Proofs.C08Tree.RecvBasic
import EinoV.Proofs.C08
namespace EinoV.C08

/-- status of source `sid` of a merged reader, reported under the name `sb` -/
def nodeStat (F : Facts) (fuel : Nat) (net : Net) (sid sb : Nat) : Option (Nat × SrcStatus) :=
  match net.nodes[sid]? with
  | some (.pipe p) =>
    match p.recv with
    | none => some (sb, .blocked)
    | some (p', .item x) => some (sb, .items [(x, net.setNode sid (.pipe p'))])
    | some (_, .eof) => some (sb, .closed net)
  | some (.fpipe src .running) =>
    let outs := recvAll F fuel net src
    match outs.find? (fun o => o.1.isEof) with
    | some o =>
      match fwdEnd F fuel o.2 sid src with
      | some n' => some (sb, .closed n')
      | none => none
    | none =>
      if outs.isEmpty then some (sb, .blocked)
      else some (sb, .items (outs.filterMap fun o => o.1.item?.map (·, o.2)))
  | some (.fpipe _ .ended) => some (sb, .closed net)
  | _ => none

/-- status of one select case of a merged reader (the body of the `filterMap` in `recvAll`) -/
def srcStat (F : Facts) (fuel : Nat) (net : Net) (sts chosen : List Nat) (ab : Nat × Nat) : Option (Nat × SrcStatus) :=
  match chosen[ab.1]?, chosen[ab.2]? with
  | some sa, some sb =>
    match sts[sa]? with
    | none => none
    | some sid => nodeStat F fuel net sid sb
  | _, _ => none

theorem recvAll_merge_eq (F : Facts) (fuel : Nat) (net : Net) (id : Nat) (sts chosen : List Nat)
    (hn : net.nodes[id]? = some (.merge sts chosen)) :
    recvAll F (fuel + 1) net id =
      if chosen.isEmpty then [(.eof, net)] else
      let stats := (selCases F.tbl F.maxSel chosen.length).filterMap (srcStat F fuel net sts chosen)
      match stats.findSome? (fun s => match s.2 with | .closed n' => some (s.1, n') | _ => none) with
      | some (sb, n') => recvAll F fuel (n'.setNode id (.merge sts (chosen.erase sb))) id
      | none => stats.flatMap fun s =>
          match s.2 with
          | .items outs => outs.map fun o => (Res.item o.1, o.2)
          | _ => [] := by
  rw [recvAll, hn]
  -- `nodeStat` says `fwdEnd` where `recvAll` spells it out
  obtain ⟨_, _, _, c⟩ := F
  cases c <;> rfl


theorem res_isEof {r : Res} (h : r.isEof = true) : r = .eof := by
  cases r <;> simp [Res.isEof] at h ⊢

/-- what a status reported for the source named `sb` of the merged reader `id` stands for: a source
    found closed makes every `Recv` of `id` without `sb` a `Recv` of `id`; every item on offer is a
    `Recv` of `id` -/
def StatOK (F : Facts) (net : Net) (id : Nat) (sts chosen : List Nat) (sb : Nat) : SrcStatus → Prop
  | .blocked => True
  | .closed n' => ∀ r n2 tr, Recv F (n'.setNode id (.merge sts (chosen.erase sb))) id r n2 tr →
      ∃ tr', Recv F net id r n2 tr'
  | .items outs => ∀ x n'', (x, n'') ∈ outs → ∃ tr, Recv F net id (.item x) n'' tr

theorem nodeStat_sound {F : Facts} {fuel : Nat}
    (ih : ∀ net id res net', (res, net') ∈ recvAll F fuel net id → ∃ tr, Recv F net id res net' tr)
    {net : Net} {id sb sid sb' : Nat} {sts chosen : List Nat} {st : SrcStatus}
    (hn : net.nodes[id]? = some (.merge sts chosen)) (hsb : sb ∈ chosen) (hsid : sts[sb]? = some sid)
    (h : nodeStat F fuel net sid sb = some (sb', st)) : sb' = sb ∧ StatOK F net id sts chosen sb st := by
  unfold nodeStat at h
  split at h
  · rename_i p hp
    split at h
    · cases h; exact ⟨rfl, trivial⟩
    · rename_i p' y hr
      cases h
      refine ⟨rfl, fun x n'' ho => ?_⟩
      cases List.mem_singleton.mp ho
      exact ⟨_, .mergePipeItem hn hsb hsid hp hr⟩
    · rename_i p' hr
      cases h
      exact ⟨rfl, fun r n2 tr h2 => ⟨_, .mergeDropPipe hn hsb hsid hp hr h2⟩⟩
  · rename_i src hp
    dsimp only at h
    split at h
    · -- the forwarder sees the end of its source and exits
      rename_i o ho
      obtain ⟨tr1, hr1⟩ := ih _ _ _ _ (List.mem_of_find?_eq_some ho)
      rw [res_isEof (List.find?_some (p := fun (o : Res × Net) => o.1.isEof) ho)] at hr1
      split at h
      · rename_i n' hfe
        cases h
        exact ⟨rfl, fun r n2 tr h2 => ⟨_, .mergeDropFwd hn hsb hsid hp hr1 hfe h2⟩⟩
      · cases h
    · split at h
      · cases h; exact ⟨rfl, trivial⟩
      · cases h
        refine ⟨rfl, fun x n'' ho => ?_⟩
        obtain ⟨⟨r, nn⟩, hom, hoe⟩ := List.mem_filterMap.mp ho
        cases r with
        | eof => cases hoe
        | item y =>
          cases hoe
          obtain ⟨tr, hr⟩ := ih _ _ _ _ hom
          exact ⟨_, .mergeFwdItem hn hsb hsid hp hr⟩
  · rename_i src hp
    cases h
    exact ⟨rfl, fun r n2 tr h2 => ⟨_, .mergeDropEnded hn hsb hsid hp h2⟩⟩
  · cases h

theorem stats_sound {F : Facts} (ht : tblOK F.tbl F.maxSel = true) {fuel : Nat}
    (ih : ∀ net id res net', (res, net') ∈ recvAll F fuel net id → ∃ tr, Recv F net id res net' tr)
    {net : Net} {id sb : Nat} {sts chosen : List Nat} {st : SrcStatus}
    (hn : net.nodes[id]? = some (.merge sts chosen))
    (hs : (sb, st) ∈ (selCases F.tbl F.maxSel chosen.length).filterMap (srcStat F fuel net sts chosen)) :
    StatOK F net id sts chosen sb st := by
  obtain ⟨⟨a, b⟩, hab, h⟩ := List.mem_filterMap.mp hs
  obtain ⟨j, hj⟩ := List.getElem?_of_mem hab
  obtain ⟨rfl, rfl, _⟩ := selCases_get ht hj
  unfold srcStat at h
  simp only at h
  split at h
  · rename_i sa sb' hsa hsb'
    rw [hsa] at hsb'; cases hsb'
    split at h
    · cases h
    · rename_i sid hsid
      obtain ⟨rfl, hok⟩ := nodeStat_sound ih hn (List.mem_of_getElem? hsa) hsid h
      exact hok
  · cases h

theorem recvAll_sound {F : Facts} (ht : tblOK F.tbl F.maxSel = true) (fuel : Nat) :
    ∀ (net : Net) (id : Nat) (res : Res) (net' : Net), (res, net') ∈ recvAll F fuel net id →
      ∃ tr, Recv F net id res net' tr := by
  induction fuel with
  | zero => intro net id res net' h; simp [recvAll] at h
  | succ fuel ih =>
    intro net id res net' h
    cases hn : net.nodes[id]? with
    | none => simp [recvAll, hn] at h
    | some nd =>
      cases nd with
      | pipe p =>
        simp only [recvAll, hn] at h
        split at h
        · rename_i p' r hr
          cases List.mem_singleton.mp h
          exact ⟨_, .pipe hn hr⟩
        · simp at h
      | arr rest =>
        simp only [recvAll, hn] at h
        split at h
        · cases List.mem_singleton.mp h
          exact ⟨_, .arrItem hn⟩
        · cases List.mem_singleton.mp h
          exact ⟨_, .arrEof hn⟩
      | conv src g =>
        simp only [recvAll, hn, List.mem_flatMap] at h
        obtain ⟨⟨r1, n1⟩, ho, h⟩ := h
        obtain ⟨tr, hr⟩ := ih _ _ _ _ ho
        cases r1 with
        | eof =>
          cases List.mem_singleton.mp h
          exact ⟨_, .convEof hn hr⟩
        | item it =>
          simp only at h
          split at h
          · rename_i y hy
            cases List.mem_singleton.mp h
            exact ⟨_, .convItem hn hr hy⟩
          · rename_i hy
            obtain ⟨tr2, hr2⟩ := ih _ _ _ _ h
            exact ⟨_, .convSkip hn hr hy hr2⟩
      | child par idx =>
        simp only [recvAll, hn] at h
        split at h
        · rename_i src core hp
          split at h
          · simp at h
          · rename_i r c' hk
            cases List.mem_singleton.mp h
            exact ⟨_, .childHave hn hp hk⟩
          · rename_i k hk
            obtain ⟨⟨r1, n1⟩, ho, h⟩ := List.mem_map.mp h
            cases h
            obtain ⟨tr, hr⟩ := ih _ _ _ _ ho
            exact ⟨_, .childFill hn hp hk hr⟩
        · simp at h
      | merge sts chosen =>
        rw [recvAll_merge_eq F fuel net id sts chosen hn] at h
        split at h
        · rename_i hc
          cases List.mem_singleton.mp h
          rw [List.isEmpty_iff.mp hc] at hn
          exact ⟨_, .mergeEof hn⟩
        · simp only at h
          split at h
          · -- a source found closed and drained is dropped
            rename_i sb n' hf
            obtain ⟨⟨sb', st⟩, hs, hse⟩ := List.exists_of_findSome?_eq_some hf
            obtain ⟨tr2, hr2⟩ := ih _ _ _ _ h
            cases st with
            | closed n'' =>
              cases hse
              exact stats_sound ht ih hn hs _ _ _ hr2
            | _ => cases hse
          · obtain ⟨⟨sb', st⟩, hs, h⟩ := List.mem_flatMap.mp h
            cases st with
            | items outs =>
              obtain ⟨⟨x, n''⟩, ho, h⟩ := List.mem_map.mp h
              cases h
              exact stats_sound ht ih hn hs x n'' ho
            | _ => simp at h
      | _ => simp [recvAll, hn] at h

end EinoV.C08
