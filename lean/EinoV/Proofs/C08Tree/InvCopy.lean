/-
  C08 — pushing several nodes (`pushAll`); what `Copy` does to the network; it keeps `Inv`.
-/
import EinoV.Proofs.C08Tree.InvOps
import EinoV.Proofs.ListFacts
namespace EinoV.C08


def pushAll (net : Net) (xs : List Node) : Net := xs.foldl (fun n x => (n.push x).1) net

theorem pushAll_append (net : Net) (xs : List Node) (x : Node) :
    pushAll net (xs ++ [x]) = ((pushAll net xs).push x).1 := by
  simp [pushAll, List.foldl_append]

theorem pushAll_nodes (xs : List Node) : ∀ net : Net, (pushAll net xs).nodes = net.nodes ++ xs.toArray := by
  induction xs with
  | nil => intro net; simp [pushAll]
  | cons x rest ih =>
    intro net
    simp only [pushAll, List.foldl_cons]
    exact (ih _).trans (by simp [Net.push])

@[simp] theorem pushAll_readers (xs : List Node) : ∀ (m : Net), (pushAll m xs).readers = m.readers :=
  foldl_preserves _ Net.readers xs fun _ _ _ => rfl

@[simp] theorem pushAll_size (net : Net) (xs : List Node) : (pushAll net xs).nodes.size = net.nodes.size + xs.length := by
  simp [pushAll_nodes]

theorem pushAll_get (xs : List Node) (net : Net) (k : Nat) :
    (pushAll net xs).nodes[k]? = if k < net.nodes.size then net.nodes[k]? else xs[k - net.nodes.size]? := by
  rw [pushAll_nodes, Array.getElem?_append]; simp

theorem pushAll_get_old (xs : List Node) : ∀ (net : Net) (k : Nat), k < net.nodes.size →
    (pushAll net xs).nodes[k]? = net.nodes[k]? := by
  intro net k hk
  rw [pushAll_get, if_pos hk]

theorem Ext.pushAll (net : Net) (xs : List Node) : Ext net (pushAll net xs) :=
  ⟨by simp, pushAll_get_old xs net⟩

theorem pushAll_get_new (net : Net) (n : Nat) (f : Nat → Node) {i : Nat} (hi : i < n) :
    (pushAll net ((List.range n).map f)).nodes[net.nodes.size + i]? = some (f i) := by
  rw [pushAll_get, if_neg (by omega)]
  simp [hi]

theorem pushAll_leaves_new (net : Net) (n : Nat) (f : Nat → Node) {c : Nat} {nd : Node}
    (hc : net.nodes.size ≤ c) (h : (pushAll net ((List.range n).map f)).nodes[c]? = some nd) :
    ∃ j, j < n ∧ c = net.nodes.size + j ∧ nd = f j := by
  rw [pushAll_get, if_neg (by omega)] at h
  simp only [List.getElem?_map, Option.map_eq_some_iff] at h
  obtain ⟨a, ha, rfl⟩ := h
  obtain ⟨hlt, heq⟩ := List.getElem?_eq_some_iff.mp ha
  simp only [List.length_range] at hlt
  simp only [List.getElem_range] at heq
  exact ⟨a, by omega, by omega, rfl⟩

theorem pushMany_gen (xs : List Node) : ∀ (net : Net) (ids : List Nat),
    xs.foldl (fun (acc : Net × List Nat) x => let r := acc.1.push x; (r.1, acc.2 ++ [r.2])) (net, ids) =
      (pushAll net xs, ids ++ List.range' net.nodes.size xs.length) := by
  induction xs with
  | nil => intro net ids; simp [pushAll]
  | cons x rest ih =>
    intro net ids
    simp only [List.foldl_cons]
    rw [ih]
    simp [pushAll, List.range'_succ]

theorem pushMany_eq (net : Net) (xs : List Node) :
    pushMany net xs = (pushAll net xs, List.range' net.nodes.size xs.length) := by
  unfold pushMany
  rw [pushMany_gen]; simp

theorem applyOp_copy_cases {F : Facts} {fuel : Nat} {net net' : Net} {r n : Nat} {cr : List Nat}
    (h : applyOp F fuel net (.copy r n) = .ok (net', cr)) :
    r ∈ net.readers ∧
    ((n < 2 ∧ net' = net) ∨
     (2 ≤ n ∧ ∃ (base : Net) (f : Nat → Node),
        ((∃ rest, net.nodes[r]? = some (.arr rest) ∧ base = net ∧ f = fun _ => .arr rest) ∨
         (∃ nd, net.nodes[r]? = some nd ∧ base = (net.push (.parent r (CopyCore.new n))).1 ∧
            f = Node.child net.nodes.size)) ∧
        net' = { pushAll base ((List.range n).map f) with
                  readers := net.readers.erase r ++ List.range' base.nodes.size n })) := by
  simp only [applyOp] at h
  obtain ⟨hc, h⟩ := of_ite_error_eq_ok h
  refine ⟨by simpa using hc, ?_⟩
  split at h
  · rename_i hn; cases h; exact .inl ⟨hn, rfl⟩
  · rename_i hn
    refine .inr ⟨Nat.le_of_not_lt hn, ?_⟩
    split at h
    · rename_i rest hr
      cases h
      refine ⟨net, fun _ => .arr rest, .inl ⟨rest, hr, rfl, rfl⟩, ?_⟩
      rw [pushMany_eq, List.map_const', List.length_range]; simp
    · rename_i nd _ hr
      cases h
      refine ⟨_, _, .inr ⟨nd, hr, rfl, rfl⟩, ?_⟩
      rw [pushMany_eq]; simp
    · cases h

theorem pushLeaves {net : Net} (sh : ShInv net) (st : StInv net) (n : Nat) (f : Nat → Node)
    (huse : ∀ i < n, (f i).shp.uses = []) (hok : ∀ i < n, NodeOK (f i))
    (htyp : ∀ i < n, Typed net (f i).shp)
    (hch : ∀ i < n, ∀ par idx, (f i).shp = .child par idx →
      (∀ j, net.shp? j ≠ some (.child par idx)) ∧ ∀ i' < n, (f i').shp = .child par idx → i' = i) :
    ∀ m, m ≤ n →
      ShInv (pushAll net ((List.range m).map f)) ∧ StInv (pushAll net ((List.range m).map f)) := by
  intro m
  induction m with
  | zero => intro _; exact ⟨sh, st⟩
  | succ m ih =>
    intro (hm : m < n)
    obtain ⟨sh', st'⟩ := ih (Nat.le_of_lt hm)
    have e := Ext.pushAll net ((List.range m).map f)
    have hu := huse m hm
    rw [List.range_succ, List.map_append, List.map_singleton, pushAll_append]
    refine ⟨sh'.push (f m) ?_ ?_ ?_ ?_ ?_, st'.push (hok m hm)⟩
    · exact fun u hu' => Nat.lt_of_lt_of_le ((htyp m hm).lt hu') e.size
    · exact (htyp m hm).mono fun k hk => e.shp?_old ((htyp m hm).lt hk)
    · intro u hu'; rw [hu] at hu'; cases hu'
    · rw [hu]; exact List.nodup_nil
    · -- a copy of the same cell with the same index is neither among the old nodes nor an earlier leaf
      intro par idx he j hj
      obtain ⟨h1, h2⟩ := hch m hm par idx he
      by_cases hk : j < net.nodes.size
      · rw [e.shp?_old hk] at hj; exact h1 j hj
      · obtain ⟨nd, hnd, hs⟩ := shp?_eq_some hj
        obtain ⟨i', hi', rfl, rfl⟩ := pushAll_leaves_new net m f (Nat.le_of_not_lt hk) hnd
        exact Nat.ne_of_lt hi' (h2 i' (Nat.lt_trans hi' hm) hs)

@[simp] theorem shp?_mk (ns : Array Node) (R W : List Nat) (j : Nat) :
    Net.shp? ⟨ns, R, W⟩ j = (ns[j]?).map Node.shp := rfl

theorem rdInv_afterLeaves {base : Net} (sh : ShInv base) {n : Nat} {f : Nat → Node} {R0 W : List Nat}
    (huse : ∀ i < n, (f i).shp.uses = []) (hreader : ∀ i < n, (f i).shp.isReader = true)
    (hR0 : R0.Nodup)
    (hfree : ∀ r' ∈ R0, Free base r' ∧ ∃ t, base.shp? r' = some t ∧ t.isReader = true) :
    RdInv { pushAll base ((List.range n).map f) with
      readers := R0 ++ List.range' base.nodes.size n, writers := W } := by
  have e := Ext.pushAll base ((List.range n).map f)
  have hold : ∀ r ∈ R0, r < base.nodes.size := fun r hr => by
    obtain ⟨t, ht, _⟩ := (hfree r hr).2; exact shp?_lt ht
  have hnew : ∀ r ∈ List.range' base.nodes.size n, ∃ i < n, r = base.nodes.size + i := fun r hr => by
    obtain ⟨i, hi, rfl⟩ := List.mem_range'.mp hr; exact ⟨i, hi, by rw [Nat.one_mul]⟩
  refine ⟨fun r hr j s hj => ?_, fun r hr => ?_, List.nodup_append.mpr ⟨hR0, List.nodup_range', fun a ha b hb => ?_⟩⟩
  · change (pushAll base ((List.range n).map f)).shp? j = some s at hj
    by_cases hk : j < base.nodes.size
    · rw [e.shp?_old hk] at hj
      rcases List.mem_append.mp hr with hr | hr
      · exact (hfree r hr).1 j s hj
      · -- a new node is consumed by no old one
        obtain ⟨i, _, rfl⟩ := hnew r hr
        intro hu
        have := sh.lt j _ ⟨s, hj, .inl hu⟩
        omega
    · obtain ⟨nd, hnd, rfl⟩ := shp?_eq_some hj
      obtain ⟨i, hi, -, rfl⟩ := pushAll_leaves_new base n f (Nat.le_of_not_lt hk) hnd
      rw [huse i hi]; exact List.not_mem_nil
  · change ∃ t, (pushAll base ((List.range n).map f)).shp? r = some t ∧ _
    rcases List.mem_append.mp hr with hr | hr
    · obtain ⟨t, ht, hk⟩ := (hfree r hr).2
      exact ⟨t, (e.shp?_old (shp?_lt ht)).trans ht, hk⟩
    · obtain ⟨i, hi, rfl⟩ := hnew r hr
      exact ⟨_, shp?_some (pushAll_get_new base n f hi), hreader i hi⟩
  · obtain ⟨i, _, rfl⟩ := hnew b hb
    have := hold a ha
    omega

theorem Inv.push_cell {net : Net} (i : Inv net) {r : Nat} (hr : r ∈ net.readers) (n : Nat) :
    ShInv (net.push (.parent r (CopyCore.new n))).1 ∧ StInv (net.push (.parent r (CopyCore.new n))).1 := by
  obtain ⟨t, ht, hk⟩ := i.rd.kind r hr
  constructor
  · refine i.sh.push_nopar _ rfl ⟨t, ht, hk⟩ (fun u hu => ?_) (List.pairwise_singleton _ r)
    cases mem_uses_parent.mp hu
    exact i.rd.free' hr
  · refine i.st.push ?_
    intro i' k hk
    simp [CopyCore.new] at hk ⊢
    rcases List.getElem?_eq_some_iff.mp hk with ⟨_, h2⟩
    simp at h2; omega

theorem applyOp_copy_inv {F : Facts} {fuel : Nat} {net net' : Net} {r n : Nat} {cr : List Nat}
    (i : Inv net) (h : applyOp F fuel net (.copy r n) = .ok (net', cr)) : Inv net' := by
  obtain ⟨hr, ⟨_, rfl⟩ | ⟨hn, base, f, hbf, rfl⟩⟩ := applyOp_copy_cases h
  · exact i
  have hfree0 : ∀ r' ∈ net.readers.erase r, Free net r' ∧ ∃ t, net.shp? r' = some t ∧ t.isReader = true :=
    fun r' hr' => ⟨i.rd.free' (List.mem_of_mem_erase hr'), i.rd.kind r' (List.mem_of_mem_erase hr')⟩
  suffices hb : ShInv base ∧ StInv base ∧
      (∀ i < n, (f i).shp.uses = [] ∧ NodeOK (f i) ∧ (f i).shp.isReader = true ∧ Typed base (f i).shp ∧
        ∀ par idx, (f i).shp = .child par idx →
          (∀ j, base.shp? j ≠ some (.child par idx)) ∧ ∀ i' < n, (f i').shp = .child par idx → i' = i) ∧
      ∀ r' ∈ net.readers.erase r, Free base r' ∧ ∃ t, base.shp? r' = some t ∧ t.isReader = true by
    obtain ⟨shB, stB, hf, hfreeB⟩ := hb
    obtain ⟨sh', st'⟩ := pushLeaves shB stB n f (fun i hi => (hf i hi).1) (fun i hi => (hf i hi).2.1)
      (fun i hi => (hf i hi).2.2.2.1) (fun i hi => (hf i hi).2.2.2.2) n (Nat.le_refl _)
    exact ⟨(sameShape_with _ _ _).shInv sh',
      rdInv_afterLeaves shB (fun i hi => (hf i hi).1) (fun i hi => (hf i hi).2.2.1) (i.rd.nodup.erase r) hfreeB,
      st'.with _ _⟩
  rcases hbf with ⟨rest, hnr, rfl, rfl⟩ | ⟨nd, hnd, rfl, rfl⟩
  · exact ⟨i.sh, i.st, fun _ _ => ⟨rfl, trivial, rfl, trivial, fun par idx he => nomatch he⟩, hfree0⟩
  · obtain ⟨shP, stP⟩ := i.push_cell hr n
    have hPshp : (net.push (.parent r (CopyCore.new n))).1.shp? net.nodes.size = some (.parent r n) := by
      rw [push_shp?]; simp [Node.shp, CopyCore.new]
    refine ⟨shP, stP, fun i hi => ⟨rfl, trivial, rfl, ⟨r, n, hPshp, hi⟩, fun par idx he => ?_⟩, fun r' hr' => ?_⟩
    · cases he
      refine ⟨fun j hj => ?_, fun i' _ he' => (Shp.child.inj he').2⟩
      have := shP.lt j net.nodes.size ⟨_, hj, .inr rfl⟩
      have := shp?_lt hj
      simp at this; omega
    · have hne : r' ≠ r := ((i.rd.nodup.mem_erase_iff).mp hr').1
      obtain ⟨hf, t', ht', hk'⟩ := hfree0 r' hr'
      exact ⟨hf.push _ (mt mem_uses_parent.mp hne), t', push_shp?_old _ ht', hk'⟩


end EinoV.C08
