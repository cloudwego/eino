/-
  gotrans phase 8 — restoring channels from a checkpoint.  `(*dagChannel).load`, `(*pregelChannel).load` and
  `(*channelManager).loadChannels` (translated on every run of C05 into Gen/TransCp.lean) compute the model's
  `loadChans` (Model/C05.lean): every channel of the manager that the checkpoint has is replaced by the
  checkpoint's, the others are kept; a channel of the other kind is the load error.
-/
import EinoV.Gen.TransCp
import EinoV.Proofs.TransMgr
import EinoV.Model.C05
namespace EinoV.TransCp
open EinoV.GoSem EinoV.Engine EinoV.Gen.TransC02 EinoV.Gen.TransC01 EinoV.Gen.TransMgr EinoV.Gen.TransCp EinoV.TransMgr
open TransDag (KeysNodup)
variable {V : Type} [Inhabited V]
set_option linter.unusedSectionVars false

theorem dag_load_dag (ext : Ext V) (mext : MgrExt V) (x y : dagChannel V) :
    dagChannel_load ext mext x (.of_dagChannel y) = (y, none) := by
  cases y; rfl

theorem dag_load_pregel (ext : Ext V) (mext : MgrExt V) (x : dagChannel V) (y : pregelChannel V) :
    dagChannel_load ext mext x (.of_pregelChannel y)
      = (x, some (GoErr.mk "load dag channel fail, got %T, want *dagChannel")) := rfl

theorem pregel_load_pregel (ext : Ext V) (mext : MgrExt V) (x y : pregelChannel V) :
    pregelChannel_load ext mext x (.of_pregelChannel y) = (y, none) := by
  cases y; rfl

theorem pregel_load_dag (ext : Ext V) (mext : MgrExt V) (x : pregelChannel V) (y : dagChannel V) :
    pregelChannel_load ext mext x (.of_dagChannel y)
      = (x, some (GoErr.mk "load pregel channel fail, got %T, want *pregelChannel")) := rfl

theorem channel_load_spec (ext : Ext V) (mext : MgrExt V) (ch n : channel V) :
    (isDag n = isDag ch → channel_load ext mext ch n = (n, none)) ∧
    (isDag n ≠ isDag ch → (channel_load ext mext ch n).2.isSome = true) := by
  cases ch <;> cases n <;>
    simp [channel_load, isDag, dag_load_dag, dag_load_pregel, pregel_load_pregel, pregel_load_dag]

def mismatch (cp : GoMap (channel V)) (p : String × channel V) : Bool :=
  match alookup p.1 cp with
  | some n => isDag n != isDag p.2
  | none => false

/-- what `loadChannels` puts under a key -/
def loaded (cp : GoMap (channel V)) (p : String × channel V) : String × channel V :=
  (p.1, (alookup p.1 cp).getD p.2)

theorem loadChannels_run (ext : Ext V) (mext : MgrExt V) (c : channelManager V) (cp : GoMap (channel V))
    (hnd : KeysNodup c.channels) :
    (c.channels.any (mismatch cp) = false →
      channelManager_loadChannels ext mext c cp = .ret ({ c with channels := c.channels.map (loaded cp) }, none)) ∧
    (c.channels.any (mismatch cp) = true →
      ∃ c', channelManager_loadChannels ext mext c cp = .ret (c', some (GoErr.mk "load channel[%s] fail: %w"))) := by
  unfold channelManager_loadChannels
  simp only [forIn_id, Id.run, bind, pure]
  generalize hb : (fun (x : String × channel V) __s => _) = body
  -- what has been visited is `loaded`; a mismatch among what is to come is a mismatch of the whole map
  have key := goLoop_visit (f := body) (fun s => s.2.channels)
    (fun pre rest s => s.1 = none ∧ s.2 = { c with channels := s.2.channels } ∧
      pre ++ rest.map (loaded cp) = c.channels.map (loaded cp) ∧ rest.any (mismatch cp) = c.channels.any (mismatch cp))
    (Q := fun s => (c.channels.any (mismatch cp) = false → s = (none, { c with channels := c.channels.map (loaded cp) })) ∧
      (c.channels.any (mismatch cp) = true → ∃ cm', s.1 = some (MayPanic.ret (cm', some (GoErr.mk "load channel[%s] fail: %w")))))
    ?_ ?_ c.channels [] (none, c) rfl hnd ⟨rfl, rfl, rfl, rfl⟩
  · refine ⟨fun h => ?_, fun h => ?_⟩
    · rw [key.1 h]
    · obtain ⟨cm', e⟩ := key.2 h
      rw [e]
      exact ⟨cm', rfl⟩
  · rintro pre k ch rest ⟨o, cm⟩ hm ⟨ho, hc, hl, hany⟩ _ hset
    simp only at hm ho hc hl hany hset; subst ho
    rw [← hb]
    simp only [GoMap.has, GoMap.get?]
    simp only [List.map_cons, loaded, List.any_cons, mismatch] at hl hany
    cases hcp : alookup k cp with
    | none =>
      simp only [hcp, Option.isSome_none, Bool.false_eq_true, if_false, stepTo_yield, Option.getD_none, Bool.false_or] at hl hany ⊢
      exact ⟨ch, hm, trivial, hc, by simpa using hl, hany⟩
    | some n =>
      obtain ⟨s1, s2⟩ := channel_load_spec ext mext ch n
      simp only [hcp, Option.isSome_some, if_true, Option.getD_some] at hl hany ⊢
      by_cases hkind : isDag n = isDag ch
      · simp only [s1 hkind, Option.isSome_none, Bool.false_eq_true, if_false, stepTo_yield, hkind, bne_self_eq_false,
          Bool.false_or] at hany ⊢
        exact ⟨n, hset n, trivial, by rw [hc], by simpa using hl, hany⟩
      · have hne : (isDag n != isDag ch) = true := by simp [bne, hkind]
        simp only [s2 hkind, if_true, stepTo_done, hne, Bool.true_or] at hany ⊢
        exact ⟨fun h => (by rw [h] at hany; cases hany), fun _ => ⟨_, rfl⟩⟩
  · rintro ⟨o, cm⟩ ⟨ho, hc, hl, hany⟩
    simp only [List.map_nil, List.append_nil, List.any_nil] at ho hc hl hany
    subst ho
    exact ⟨fun _ => (by rw [hc, hl]), fun h => (by rw [h] at hany; cases hany)⟩

structure CpOK (dag : Bool) (cp : GoMap (channel V)) : Prop where
  mode : ∀ p ∈ cp, isDag p.2 = dag
  wf : ∀ p ∈ cp, ChWF p.2

theorem keys_loaded (cp m : GoMap (channel V)) : (m.map (loaded cp)).map (·.1) = m.map (·.1) := by
  simp [List.map_map, Function.comp_def, loaded]

theorem loaded_all {cp m : GoMap (channel V)} (P : channel V → Prop) (hm : ∀ p ∈ m, P p.2) (hcp : ∀ p ∈ cp, P p.2) :
    ∀ q ∈ m.map (loaded cp), P q.2 := by
  intro q hq
  obtain ⟨p, hp, rfl⟩ := List.mem_map.mp hq
  simp only [loaded]
  cases hl : alookup p.1 cp with
  | none => exact hm p hp
  | some n => exact hcp _ (mem_of_alookup p.1 n cp hl)

/-- **`loadChannels` refines `loadChans`**: no error, the model's restored channels, the manager's static tables
    and key set unchanged, one well-formed channel of the manager's kind per key -/
theorem loadChannels_refines (ext : Ext V) (mext : MgrExt V) (dag : Bool) (c : channelManager V)
    (cp : GoMap (channel V)) (hok : ChansOK dag c.channels) (hcp : CpOK dag cp) :
    ∃ c', channelManager_loadChannels ext mext c cp = .ret (c', none) ∧
      toChans c'.channels = EinoV.Interrupt.loadChans (toChans c.channels) (toChans cp) ∧
      Frame c c' ∧ ChansOK dag c'.channels := by
  have hno : c.channels.any (mismatch cp) = false := by
    rw [List.any_eq_false]
    intro p hp
    unfold mismatch
    cases hl : alookup p.1 cp with
    | none => simp
    | some n =>
      have h1 := hcp.mode _ (mem_of_alookup p.1 n cp hl)
      have h2 := hok.mode p hp
      simp only at h1
      simp [h1, h2]
  refine ⟨_, (loadChannels_run ext mext c cp hok.nd).1 hno, ?_, ⟨rfl, rfl, rfl, rfl, ?_⟩,
    ⟨?_, loaded_all (isDag · = dag) hok.mode hcp.mode, loaded_all ChWF hok.wf hcp.wf⟩⟩
  · simp only [toChans, EinoV.Interrupt.loadChans, List.map_map, Function.comp_def, loaded]
    refine List.map_congr_left fun p _ => ?_
    rw [alookup_map chanOf]
    cases alookup p.1 cp <;> rfl
  · exact keys_loaded cp c.channels
  · unfold KeysNodup; rw [keys_loaded]; exact hok.nd

theorem loadChannels_kind_mismatch (ext : Ext V) (mext : MgrExt V) (c : channelManager V)
    (cp : GoMap (channel V)) (hnd : KeysNodup c.channels) (hbad : c.channels.any (mismatch cp) = true) :
    ∃ c', channelManager_loadChannels ext mext c cp = .ret (c', some (GoErr.mk "load channel[%s] fail: %w")) :=
  (loadChannels_run ext mext c cp hnd).2 hbad

end EinoV.TransCp
