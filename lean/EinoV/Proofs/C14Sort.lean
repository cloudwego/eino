/-
  C14 — the final sort of `concatToolCalls` (Model/C14.lean: `tcLess`, `sortStable`, `finalSort`,
  `concatTCGo`): the stable sort of (calls without an index) ++ (one call per index in ANY order) is
  `TCState.out`, so the code-level function is the specification-level `concatTC` for every
  iteration order of the Go map.
-/
import EinoV.Model.C14
import EinoV.Proofs.C14

namespace EinoV.C14

theorem tcLess_none_right (y n : TC) (hn : n.index = none) : tcLess y n = false := by
  unfold tcLess; rw [hn]; cases y.index <;> rfl

theorem tcLess_asymm (a b : TC) (h : tcLess a b = true) : tcLess b a = false := by
  unfold tcLess at *
  cases ha : a.index <;> cases hb : b.index <;> simp_all
  omega

theorem tcLess_negtrans (a y x : TC) (h1 : tcLess a y = false) (h2 : tcLess y x = false) :
    tcLess a x = false := by
  unfold tcLess at *
  cases ha : a.index <;> cases hy : y.index <;> cases hx : x.index <;> simp_all
  omega

theorem tcLess_some (a b : TC) (i j : Int) (ha : a.index = some i) (hb : b.index = some j) :
    tcLess a b = decide (i < j) := by
  unfold tcLess; rw [ha, hb]

theorem insStable_none (n : TC) (hn : n.index = none) (l : List TC) : insStable n l = n :: l := by
  cases l with
  | nil => rfl
  | cons y ys => simp [insStable, tcLess_none_right y n hn]

theorem insStable_perm (x : TC) (l : List TC) : (insStable x l).Perm (x :: l) := by
  induction l with
  | nil => exact List.Perm.refl _
  | cons y ys ih =>
    unfold insStable
    split
    · exact (List.Perm.cons y ih).trans (List.Perm.swap x y ys)
    · exact List.Perm.refl _

theorem sortStable_cons (x : TC) (xs : List TC) : sortStable (x :: xs) = insStable x (sortStable xs) := rfl

theorem sortStable_perm (xs : List TC) : (sortStable xs).Perm xs := by
  induction xs with
  | nil => exact List.Perm.refl _
  | cons x xs ih =>
    rw [sortStable_cons]
    exact (insStable_perm x _).trans (List.Perm.cons x ih)

theorem insStable_sorted (x : TC) (l : List TC) (h : l.Pairwise (fun a b => tcLess b a = false)) :
    (insStable x l).Pairwise (fun a b => tcLess b a = false) := by
  induction l with
  | nil => simp [insStable]
  | cons y ys ih =>
    rw [List.pairwise_cons] at h
    unfold insStable
    split
    · rename_i hlt
      rw [List.pairwise_cons]
      refine ⟨?_, ih h.2⟩
      intro a ha
      rcases ((insStable_perm x ys).mem_iff.mp ha) with _ | ⟨_, ha'⟩
      · exact tcLess_asymm y x hlt
      · exact h.1 a ha'
    · rename_i hnlt
      have hyx : tcLess y x = false := by simpa using hnlt
      rw [List.pairwise_cons]
      refine ⟨?_, List.pairwise_cons.mpr h⟩
      intro a ha
      rcases List.mem_cons.mp ha with rfl | ha'
      · exact hyx
      · exact tcLess_negtrans a y x (h.1 a ha') hyx

theorem sortStable_sorted (xs : List TC) : (sortStable xs).Pairwise (fun a b => tcLess b a = false) := by
  induction xs with
  | nil => simp [sortStable]
  | cons x xs ih => rw [sortStable_cons]; exact insStable_sorted x _ ih

theorem insStable_filter_none (x : TC) (l : List TC) :
    (insStable x l).filter (fun c => c.index.isNone) = (x :: l).filter (fun c => c.index.isNone) := by
  cases hx : x.index with
  | none => rw [insStable_none x hx]
  | some i =>
    induction l with
    | nil => rfl
    | cons y ys ih =>
      unfold insStable
      split
      · rw [List.filter_cons, ih]
        simp [List.filter_cons, hx]
      · rfl

theorem sortStable_filter_none (xs : List TC) :
    (sortStable xs).filter (fun c => c.index.isNone) = xs.filter (fun c => c.index.isNone) := by
  induction xs with
  | nil => rfl
  | cons x xs ih =>
    rw [sortStable_cons, insStable_filter_none, List.filter_cons, List.filter_cons, ih]

theorem sortStable_nils_append (ns xs : List TC) (hn : ∀ c ∈ ns, c.index = none) :
    sortStable (ns ++ xs) = ns ++ sortStable xs := by
  induction ns with
  | nil => rfl
  | cons n ns ih =>
    rw [List.cons_append, sortStable_cons, ih (fun c hc => hn c (by simp [hc])),
      insStable_none n (hn n (by simp))]
    rfl

theorem groups_sorted (gs : List (Int × TC)) (hi : GInv gs) :
    (gs.map (·.2)).Pairwise (fun a b => tcLess b a = false) := by
  rw [List.pairwise_map]
  refine List.Pairwise.imp_of_mem ?_ (gsorted_pairwise gs hi.1)
  intro p q hp hq hlt
  rw [tcLess_some q.2 p.2 q.1 p.1 (hi.2 q hq) (hi.2 p hp)]
  simp only [decide_eq_false_iff_not]
  omega

theorem sortStable_groups (gs gs' : List (Int × TC)) (hi : GInv gs) (hp : gs'.Perm gs) :
    sortStable (gs'.map (·.2)) = gs.map (·.2) := by
  have hperm : (sortStable (gs'.map (·.2))).Perm (gs.map (·.2)) :=
    (sortStable_perm _).trans (hp.map _)
  refine List.Perm.eq_of_pairwise (le := fun a b => tcLess b a = false) ?_ (sortStable_sorted _) (groups_sorted gs hi) hperm
  intro a b ha hb hab hba
  have ha' : a ∈ gs.map (·.2) := hperm.mem_iff.mp ha
  obtain ⟨p, hp', rfl⟩ := List.mem_map.mp ha'
  obtain ⟨q, hq', rfl⟩ := List.mem_map.mp hb
  rw [tcLess_some q.2 p.2 q.1 p.1 (hi.2 q hq') (hi.2 p hp')] at hab
  rw [tcLess_some p.2 q.2 p.1 q.1 (hi.2 p hp') (hi.2 q hq')] at hba
  simp only [decide_eq_false_iff_not] at hab hba
  have hk : p.1 = q.1 := by omega
  rw [key_inj gs (gsorted_pairwise gs hi.1) p hp' q hq' hk]

theorem sortStable_merged (s : TCState) (hi : SInv s) (gs' : List (Int × TC)) (hp : gs'.Perm s.groups) :
    sortStable (s.nils ++ gs'.map (·.2)) = s.out := by
  rw [sortStable_nils_append _ _ hi.1, sortStable_groups s.groups gs' hi.2 hp]
  rfl

/-- with a stable final sort the code-level function is the specification-level one, for
    every iteration order of the map of index groups -/
theorem concatTCGo_eq (cfg : Cfg) (hst : cfg.tcSortStable = true)
    (ord : List (Int × TC) → List (Int × TC)) (hord : ∀ l, (ord l).Perm l) (cs : List TC) :
    concatTCGo cfg ord cs = concatTC cfg cs := by
  unfold concatTCGo concatTC
  cases hx : cs.foldlM (stepTC cfg) ⟨[], []⟩ with
  | error e => rfl
  | ok s =>
    have hi := foldlM_stepTC_inv cfg cs _ _ sinv_init hx
    simp only [bind, Except.bind, pure, Except.pure, finalSort, hst, if_true]
    rw [sortStable_merged s hi _ (hord _)]

end EinoV.C14
