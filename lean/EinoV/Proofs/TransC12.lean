/-
  gotrans phase 7 — `GenericRegister` (internal/serialization/serialization.go, translated on every run into
  Gen/TransC12.lean) computes the model's `regStep` (Model/C12Reg.lean) with all three guards, on the two Go
  maps as explicit state, and never leaves the translated semantics.
  This file imports no other translated unit.
-/
import EinoV.Gen.TransC12
import EinoV.Model.C12Reg
import EinoV.Proofs.C12Reg
import EinoV.Proofs.GoLoop
import EinoV.Proofs.GoMapK
import EinoV.Proofs.Assoc
namespace EinoV.TransC12
open EinoV.GoSem EinoV.Gen.TransC12 EinoV.C12
open EinoV.Engine (alookup aset)
variable {V : Type} [Inhabited V]

/-- the model's Go types as `reflect.Type`s: pointers are pointers, every other type is a base type named by
    `code` (an injective naming of the types) -/
def enc (code : GoTy → Nat) : GoTy → GoRType
  | .ptr t => .ptr (enc code t)
  | t => .base (code t)

def stripR : GoRType → GoRType
  | .ptr t => stripR t
  | t => t

def depthR : GoRType → Nat
  | .ptr t => depthR t + 1
  | _ => 0

theorem enc_strip (code : GoTy → Nat) : ∀ t : GoTy, stripR (enc code t) = enc code t.strip
  | .ptr t => enc_strip code t
  | .basic _ | .named _ _ | .struct _ | .iface | .slice _ | .map _ _ => rfl

theorem enc_depth (code : GoTy → Nat) : ∀ t : GoTy, depthR (enc code t) = t.depth
  | .ptr t => congrArg (· + 1) (enc_depth code t)
  | .basic _ | .named _ _ | .struct _ | .iface | .slice _ | .map _ _ => rfl

theorem enc_nonptr (code : GoTy → Nat) (a : GoTy) (h : ∀ t, a ≠ .ptr t) : enc code a = .base (code a) := by
  cases a <;> first | rfl | exact absurd rfl (h _)

theorem strip_ne_ptr (t u : GoTy) : t.strip ≠ .ptr u := by
  induction t with
  | ptr t ih => exact ih
  | _ => exact GoTy.noConfusion

/-- a type is its pointer depth and what is under the pointers (`ptrN_depth_strip`); `enc` keeps the one
    (`enc_depth`) and names the other by `code` (`enc_strip`) -/
theorem enc_inj (code : GoTy → Nat) (hc : ∀ a b, code a = code b → a = b) :
    ∀ a b, enc code a = enc code b → a = b := by
  intro a b h
  have hd : a.depth = b.depth := by rw [← enc_depth code a, ← enc_depth code b, h]
  have hs : enc code a.strip = enc code b.strip := by rw [← enc_strip, ← enc_strip, h]
  rw [enc_nonptr code _ (strip_ne_ptr a), enc_nonptr code _ (strip_ne_ptr b)] at hs
  rw [← ptrN_depth_strip a, ← ptrN_depth_strip b, hd, hc _ _ (GoRType.base.inj hs)]

/-- the body of `for t.Kind() == reflect.Ptr { t = t.Elem() }` as it is generated -/
def stripStep {R α : Type} (p : R) (_ : α) (__s : Option R × GoRType) : ForInStep (Option R × GoRType) :=
  if (!__s.snd.kind == GoKind.ptr) = true then ForInStep.done (none, __s.snd)
  else
    match __s.snd.elem? with
    | some __e1 => ForInStep.yield (none, __e1)
    | _ => ForInStep.done (some p, __s.snd)

theorem stripStep_ptr {R α : Type} (p : R) (a : α) (t : GoRType) :
    stripStep p a (none, .ptr t) = ForInStep.yield (none, t) := rfl

theorem stripStep_base {R α : Type} (p : R) (a : α) (i : Nat) :
    stripStep p a (none, .base i) = ForInStep.done (none, .base i) := rfl

theorem strip_loop {R α : Type} (p : R) (l : List α) : ∀ (t : GoRType), depthR t ≤ l.length →
    goLoop (stripStep p) l (none, t) = (none, stripR t) := by
  induction l with
  | nil =>
    intro t h
    cases t with
    | base i => rfl
    | ptr t => simp [depthR] at h
  | cons a l ih =>
    intro t h
    cases t with
    | base i => simp only [goLoop, stripStep_base, stripR]
    | ptr t =>
      simp only [goLoop, stripStep_ptr, stripR]
      simp only [depthR, List.length_cons] at h
      exact ih t (by omega)

/-- the registry: `m[key]` is the type of the newest entry of the log under the key, `rm[t]` the key of the
    newest entry for the type (what the two Go maps hold after every store so far, overwrites included) -/
def RegRel (code : GoTy → Nat) (m : GoMap GoRType) (rm : GoMapK GoRType String) (r : Reg) : Prop :=
  (∀ k, alookup k m = (r.find? (fun e => e.1 == k)).map (fun e => enc code e.2)) ∧
  (∀ t, GoMapK.lookup (enc code t) rm = (r.find? (fun e => e.2 == t)).map (·.1))

/-- `m[key] = t; rm[t] = key` is consing the pair to the log -/
theorem regRel_store (code : GoTy → Nat) (hc : ∀ a b, code a = code b → a = b)
    {m : GoMap GoRType} {rm : GoMapK GoRType String} {r : Reg} (h : RegRel code m rm r) (key : Name) (t : GoTy) :
    RegRel code (m.set key (enc code t)) (rm.set (enc code t) key) ((key, t) :: r) := by
  refine ⟨fun k => ?_, fun t' => ?_⟩
  · simp only [GoMap.set, List.find?_cons]
    by_cases hkk : (key == k) = true
    · cases beq_iff_eq.mp hkk
      simp [EinoV.Engine.alookup_aset_same]
    · have hne : k ≠ key := fun e => hkk (by simp [e])
      simp only [hkk]
      rw [EinoV.Engine.alookup_aset_other key k _ m hne]
      exact h.1 k
  · simp only [List.find?_cons]
    by_cases htt : (t == t') = true
    · cases beq_iff_eq.mp htt
      simp [lookupK_set_same]
    · have hne : ¬ enc code t = enc code t' := fun e => htt (by simp [enc_inj code hc _ _ e])
      simp only [htt]
      rw [lookupK_set_other _ _ _ _ hne]
      exact h.2 t'

/-- the error a call returns, by class (the three format strings of the source) -/
def errOf : RegOutcome → Option GoErr
  | .accepted => none
  | .emptyKey => some (GoErr.mk "type[%s] cannot be registered with an empty key")
  | .keyTaken => some (GoErr.mk "key[%s] already registered to %s")
  | .typeTaken => some (GoErr.mk "type[%s] already registered to %s")

/-- **`GenericRegister` refines `regStep`** (all three guards): with fuel at least the pointer depth of `T`,
    the translated function returns the model's outcome (by class), leaves both maps unchanged when it refuses
    and otherwise stores the pair in both — the maps stay the model's log -/
theorem GenericRegister_refines (ext : Ext V) (code : GoTy → Nat) (hc : ∀ a b, code a = code b → a = b)
    (m : GoMap GoRType) (rm : GoMapK GoRType String) (r : Reg) (h : RegRel code m rm r)
    (op : RegOp) (fuel : Nat) (hf : op.ty.depth ≤ fuel) :
    ∃ m' rm', GenericRegister ext fuel op.key (enc code op.ty) m rm
        = .ret (m', rm', errOf (regStep RFall r op).1) ∧
      RegRel code m' rm' (regStep RFall r op).2 ∧
      ((regStep RFall r op).1 ≠ .accepted → m' = m ∧ rm' = rm) := by
  unfold GenericRegister
  simp only [forIn_id, Id.run, bind, pure]
  generalize hb : (fun (x : Nat) (__s : Option (GoOutcome (GoMap GoRType × GoMapK GoRType String × Option GoErr)) × GoRType) => _) = body
  have hb' : stripStep GoOutcome.panic = body := by rw [← hb]; rfl
  have hl := strip_loop (R := GoOutcome (GoMap GoRType × GoMapK GoRType String × Option GoErr)) (α := Nat) GoOutcome.panic
    (List.range fuel) (enc code op.ty) (by rw [enc_depth, List.length_range]; exact hf)
  rw [hb'] at hl
  rw [hl, enc_strip]
  simp only
  have hk : m.has op.key = r.hasKey op.key := by
    unfold Reg.hasKey GoMap.has; rw [← List.isSome_find?, h.1]; simp
  have ht : rm.has (enc code op.ty.strip) = r.hasTy op.ty.strip := by
    unfold Reg.hasTy GoMapK.has; rw [← List.isSome_find?, h.2]; simp
  unfold regStep RFall
  simp only [Bool.true_and, hk, ht]
  by_cases h1 : (op.key == "") = true
  · simp only [h1, if_true]
    exact ⟨m, rm, rfl, h, fun _ => ⟨rfl, rfl⟩⟩
  · simp only [h1, Bool.false_eq_true, if_false]
    by_cases h2 : r.hasKey op.key = true
    · simp only [h2, if_true]
      exact ⟨m, rm, rfl, h, fun _ => ⟨rfl, rfl⟩⟩
    · simp only [h2, Bool.false_eq_true, if_false]
      by_cases h3 : r.hasTy op.ty.strip = true
      · simp only [h3, if_true]
        exact ⟨m, rm, rfl, h, fun _ => ⟨rfl, rfl⟩⟩
      · simp only [h3, Bool.false_eq_true, if_false]
        exact ⟨_, _, rfl, regRel_store code hc h op.key op.ty.strip, fun hne => absurd rfl hne⟩

/-- the translated function never leaves the translated semantics (`t.Elem()` is only reached on pointer types) -/
theorem GenericRegister_total (ext : Ext V) (code : GoTy → Nat) (hc : ∀ a b, code a = code b → a = b)
    (m : GoMap GoRType) (rm : GoMapK GoRType String) (r : Reg) (h : RegRel code m rm r)
    (op : RegOp) (fuel : Nat) (hf : op.ty.depth ≤ fuel) :
    ∃ res, GenericRegister ext fuel op.key (enc code op.ty) m rm = .ret res := by
  obtain ⟨m', rm', e, _⟩ := GenericRegister_refines ext code hc m rm r h op fuel hf
  exact ⟨_, e⟩

theorem regRel_nil (code : GoTy → Nat) : RegRel code [] [] [] := ⟨fun _ => rfl, fun _ => rfl⟩

end EinoV.TransC12
