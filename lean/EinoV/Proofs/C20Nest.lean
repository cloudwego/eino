/- C20: graphs compiled as nodes are frozen (Model/C20Nest.lean). -/
import EinoV.Model.C20Nest
import EinoV.Proofs.C20
import EinoV.Proofs.C20Wf

namespace EinoV.Build

theorem Decl.first_eq (E : Env) (d : Decl) (co : COpts) : Decl.first E d co = (Decl.firstB E d co).2 := by
  cases d; simp [Decl.first, Decl.firstB]

theorem compileN_ok (f : Facts) (ord : Ord) (b : Builder) (o : COpts) (kids : List Outcome)
    (h : (compileN f ord b o kids).2.1 = .ok) :
    b.buildError = none ∧ (∀ k ∈ kids, k.isOk = true) ∧
    (compileN f ord b o kids).1.compiled = true ∧ (compileN f ord b o kids).1.buildError = none := by
  have ha := compileN_accepted (by rw [h]; rfl)
  rw [compileN_of_all_ok ha.2.2.1] at h ⊢
  have := compile_ok_flags f ord b o h
  exact ⟨ha.1, ha.2.2.1, this.1, this.2.1⟩

theorem attempt_ok (E : Env) (b : Builder) (calls : List Op) (guard : Option Outcome) (o : COpts)
    (kids : List Outcome) (hg : guard ≠ some .ok) (h : (attempt E b calls guard o kids).2 = .ok) :
    guard = none ∧ (∀ k ∈ kids, k.isOk = true) ∧
    (attempt E b calls guard o kids).1.compiled = true ∧
    (attempt E b calls guard o kids).1.buildError = none := by
  rcases attempt_cases E b calls guard o kids with ⟨k, _, e⟩ | ⟨oc, hoc, e⟩ | ⟨_, hgn, e⟩ <;> rw [e] at h ⊢
  · cases h
  · cases h; exact absurd hoc hg
  · have := compileN_ok E.f E.ord (runK E b calls) o kids h
    exact ⟨hgn, this.2.1, this.2.2.1, this.2.2.2⟩

theorem stepK_compiled (E : Env) (hf : E.f.Guarded) (hc : E.inCtl = true) (b : Builder)
    (he : b.buildError = none) (hcm : b.compiled = true) (op : Op) (hop : op.isCompile = false) :
    stepK E b op = (b, .compiled, none) := by
  rw [stepK_true E hc]; exact step_compiled E.f hf E.im E.ord b he hcm op hop

end EinoV.Build
