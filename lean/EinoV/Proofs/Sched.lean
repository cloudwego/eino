/-
  Machines run by a schedule of thread indices (`exec (j :: rest) st = exec rest (step st j)`).  `inv_exec`,
  an induction of its own: what every step keeps holds after every schedule (the machine invariants of
  `C09*.lean` are its instances).  `countdown`, and `proj_exec` from it: what only thread `t` moves depends
  only on how often `t` was scheduled; the "run `t` is not interfered with" statements of C09, C10 and C18
  are instances of these two.
-/
namespace EinoV.Sched

variable {σ α : Type} (step : σ → Nat → σ) (exec : List Nat → σ → σ)
  (hnil : ∀ st, exec [] st = st) (hcons : ∀ j rest st, exec (j :: rest) st = exec rest (step st j))
include hnil hcons

theorem inv_exec (I : σ → Prop) (hI : ∀ st j, I st → I (step st j)) (sched : List Nat) :
    ∀ st, I st → I (exec sched st) := by
  induction sched with
  | nil => intro st h; rw [hnil]; exact h
  | cons j rest ih => intro st h; rw [hcons]; exact ih _ (hI st j h)

/-- `R k st`: "`k` more turns of thread `t` are owed". -/
theorem countdown (t : Nat) (R : Nat → σ → Prop) (own : ∀ st k, R (k + 1) st → R k (step st t))
    (other : ∀ st j k, j ≠ t → R k st → R k (step st j)) (sched : List Nat) :
    ∀ st, R (sched.count t) st → R 0 (exec sched st) := by
  induction sched with
  | nil => intro st h; rw [hnil]; exact h
  | cons j rest ih =>
    intro st h
    rw [hcons]
    by_cases e : j = t
    · subst e; rw [List.count_cons_self] at h; exact ih _ (own st _ h)
    · rw [List.count_cons_of_ne e] at h; exact ih _ (other st j _ e h)

/-- `g n`: what `n` turns of thread `t`, running alone, do to the component `v` of the state. -/
theorem proj_exec (I : σ → Prop) (hI : ∀ st j, I st → I (step st j)) (t : Nat) (v : σ → α)
    (g : Nat → α → α) (zero : ∀ st, I st → g 0 (v st) = v st)
    (own : ∀ st n, I st → g n (v (step st t)) = g (n + 1) (v st))
    (other : ∀ st j, I st → j ≠ t → v (step st j) = v st) (sched : List Nat) (st : σ) (h : I st) :
    v (exec sched st) = g (sched.count t) (v st) := by
  have := countdown step exec hnil hcons t (fun k s => I s ∧ g k (v s) = g (sched.count t) (v st))
    (fun s k ⟨hs, e⟩ => ⟨hI s t hs, (own s k hs).trans e⟩)
    (fun s j k ne ⟨hs, e⟩ => ⟨hI s j hs, by rw [other s j hs ne]; exact e⟩) sched st ⟨h, rfl⟩
  rw [← this.2, zero _ this.1]

end EinoV.Sched
