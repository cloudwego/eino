/-
  C19 — lemmas about the merged-reader model (Model/C19Merge.lean): the invariant of every run of
  `recv` picks and what `close` does under each loop shape.
-/
import EinoV.Model.C19Merge

namespace EinoV.C19.Merge

/-- What every run of `recv` picks from `init srcs` keeps (`inv_init`, `inv_run`), as `close` needs it.
    `sub`: `chosenList` only loses entries, hence has no repetition and stays below the number of
    sources (`chosen_nodup`, `chosen_lt`).  `done`: a source that has left `chosenList` was read to
    its end, so its sender is released without a signal (`released_close`).  `sig`: no `closeRecv`
    before `close`, so a source that `close` misses stays unsignalled (`positions_miss`). -/
structure Inv (srcs : List Src) (s : St) : Prop where
  srcs_eq : s.srcs = srcs
  sub : s.chosen.Sublist (List.range srcs.length)
  done : ∀ i, i < srcs.length → i ∉ s.chosen → s.gotOf i = s.lenOf i
  sig : s.signalled = []

theorem inv_init (srcs : List Src) : Inv srcs (init srcs) where
  srcs_eq := rfl
  sub := List.Sublist.refl _
  done := by
    intro i hi hn
    exact absurd (List.mem_range.mpr hi) hn
  sig := rfl

theorem gotOf_set_ne (s : St) (i j v : Nat) (h : j ≠ i) :
    ({ s with got := s.got.set i v } : St).gotOf j = s.gotOf j := by
  simp only [St.gotOf, List.getD_eq_getElem?_getD]
  rw [List.getElem?_set_ne (Ne.symm h)]

theorem inv_step {srcs : List Src} {s s' : St} (e : Ev) (hi : Inv srcs s) (h : step s e = some s') :
    Inv srcs s' := by
  cases e with
  | chunk i =>
    simp only [step] at h
    split at h
    · rename_i hc
      cases h
      refine ⟨hi.srcs_eq, hi.sub, ?_, hi.sig⟩
      intro j hj hn
      have hne : j ≠ i := fun hji => hn (hji ▸ hc.1)
      rw [gotOf_set_ne s i j _ hne]
      exact hi.done j hj hn
    · cases h
  | ended i =>
    simp only [step] at h
    split at h
    · rename_i hc
      cases h
      refine ⟨hi.srcs_eq, (List.erase_sublist).trans hi.sub, ?_, hi.sig⟩
      intro j hj hn
      by_cases hji : j = i
      · subst hji; exact hc.2
      · have : j ∉ s.chosen := fun hm => hn ((List.mem_erase_of_ne hji).mpr hm)
        exact hi.done j hj this
    · cases h

theorem inv_run {srcs : List Src} : ∀ (evs : List Ev) {s s' : St}, Inv srcs s → run s evs = some s' → Inv srcs s'
  | [], s, s', hi, h => by
    simp only [run, Option.some.injEq] at h
    exact h ▸ hi
  | e :: es, s, s', hi, h => by
    simp only [run] at h
    split at h
    · rename_i s1 h1
      exact inv_run es (inv_step e hi h1) h
    · cases h

theorem chosen_nodup {srcs : List Src} {s : St} (hi : Inv srcs s) : s.chosen.Nodup :=
  hi.sub.nodup List.nodup_range

theorem chosen_lt {srcs : List Src} {s : St} (hi : Inv srcs s) {i : Nat} (h : i ∈ s.chosen) : i < srcs.length :=
  List.mem_range.mp (hi.sub.subset h)

theorem closeTargets_nodup {srcs : List Src} {s : St} (hi : Inv srcs s) (sh : CloseShape) :
    (closeTargets sh s).Nodup := by
  cases sh with
  | allSources => exact List.nodup_range
  | openValues => exact chosen_nodup hi
  | openPositions => exact List.nodup_range
  | other => exact List.nodup_nil

theorem open_mem_closeTargets {srcs : List Src} {s : St} (hi : Inv srcs s) (sh : CloseShape) (hs : sh.sound = true)
    {i : Nat} (h : i ∈ s.chosen) : i ∈ closeTargets sh s := by
  cases sh with
  | allSources =>
    simp only [closeTargets, hi.srcs_eq]
    exact List.mem_range.mpr (chosen_lt hi h)
  | openValues => exact h
  | openPositions => cases hs
  | other => cases hs

theorem released_close {srcs : List Src} {s : St} (hi : Inv srcs s) (sh : CloseShape) (hs : sh.sound = true)
    {i : Nat} (hlt : i < srcs.length) : (close sh s).released i = true := by
  by_cases hc : i ∈ s.chosen
  · have hm := open_mem_closeTargets hi sh hs hc
    simp only [St.released, close, Bool.or_eq_true, List.contains_eq_mem, List.mem_append, decide_eq_true_eq]
    exact Or.inr (Or.inr hm)
  · have hd := hi.done i hlt hc
    simp only [St.released, close, Bool.or_eq_true, beq_iff_eq]
    exact Or.inl (Or.inr hd)

theorem positions_miss {srcs : List Src} {s : St} (hi : Inv srcs s) {i : Nat}
    (hge : s.chosen.length ≤ i) (hgot : s.gotOf i ≠ s.lenOf i) (hpre : s.preOf i = false) :
    (close .openPositions s).released i = false := by
  have hnm : i ∉ List.range s.chosen.length := fun h => by
    have := List.mem_range.mp h
    omega
  simp only [St.released, close, closeTargets, hi.sig, List.nil_append, Bool.or_eq_false_iff,
    beq_eq_false_iff_ne, ne_eq, List.contains_eq_mem, decide_eq_false_iff_not]
  exact ⟨⟨hpre, hgot⟩, hnm⟩

end EinoV.C19.Merge
