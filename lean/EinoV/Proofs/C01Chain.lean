/-
  C01, last clause: a compiled chain computes the composition of its stages. The engine run is
  `Spec.run` (`run_pregel`); a runner that is `Wired` takes one superstep per stage and so computes
  `semFrom` (`spec_from`); `compile slack (lower c)` is wired (`wired_lower`).
-/
import EinoV.Model.C01Chain
import EinoV.Spec.Superstep
import EinoV.Proofs.Assoc
import EinoV.Proofs.C01Refine
import EinoV.Proofs.C01ChainKeys
import EinoV.Proofs.C02CompileWF

namespace EinoV.Chain
open EinoV.Engine EinoV.Spec

theorem foldl_mergeTwo_none (l : List CVal) :
    l.foldl (fun acc x => acc.bind (fun m => mergeTwo m x)) none = none := by
  induction l with
  | nil => rfl
  | cons a t ih => simpa using ih

theorem mergeTwo_single (acc : List (String × CVal)) (kv : String × CVal)
    (h : kv.1 ∉ acc.map (·.1)) :
    mergeTwo (.map acc) (single kv.1 kv.2) = some (.map (acc ++ [kv])) := by
  have hnot : acc.any (fun x => x.1 == kv.1) = false := by
    rw [List.any_eq_false]
    intro x hx e
    exact h (List.mem_map.mpr ⟨x, hx, by simpa using e⟩)
  simp only [single, mergeTwo, List.any_cons, List.any_nil, Bool.or_false, hnot, Bool.false_eq_true,
    ↓reduceIte]

theorem foldl_merge_singles (rest acc : List (String × CVal))
    (h : ((acc ++ rest).map (·.1)).Nodup) :
    (rest.map (fun kv => single kv.1 kv.2)).foldl (fun a x => a.bind (fun m => mergeTwo m x)) (some (.map acc))
      = some (.map (acc ++ rest)) := by
  induction rest generalizing acc with
  | nil => rw [List.append_nil]; rfl
  | cons kv t ih =>
    have hk : kv.1 ∉ acc.map (·.1) := by
      rw [List.map_append, List.nodup_append] at h
      exact fun hm => h.2.2 _ hm _ (List.mem_map.mpr ⟨kv, List.mem_cons_self, rfl⟩) rfl
    rw [List.append_cons] at h ⊢
    rw [List.map_cons, List.foldl_cons, Option.bind_some, mergeTwo_single acc kv hk, ih _ h]

theorem merge_singles (kvs : List (String × CVal)) (hne : kvs ≠ []) (h : (kvs.map (·.1)).Nodup) :
    merge (kvs.map (fun kv => single kv.1 kv.2)) = some (.map kvs) := by
  match kvs, hne with
  | kv :: t, _ => exact foldl_merge_singles t [kv] h

theorem collect_singles (kvs : List (String × CVal)) (hne : kvs ≠ [])
    (h : (kvs.map (·.1)).Nodup) :
    collect cvalOps (kvs.map (fun kv => single kv.1 kv.2)) = .ready (.map kvs) := by
  match kvs, hne with
  | [kv], _ => rfl
  | kv :: kv2 :: t, _ =>
    have hm := merge_singles (kv :: kv2 :: t) (List.cons_ne_nil _ _) h
    simp only [List.map_cons] at hm
    simp only [List.map_cons, collect, cvalOps, hm]

theorem compile_node {V} (slack : Nat) (g : GraphDef V) (hn : (g.nodes.map (·.1)).Nodup)
    (k : Key) (act : V → Except Err V) (hm : (k, act) ∈ g.nodes) :
    ∃ n, (compile slack g).node? k = some n ∧ n.act = act := by
  obtain ⟨n, hf⟩ := node?_exists (compile slack g) k (List.mem_map.mpr ⟨_, List.mem_map.mpr ⟨_, hm, rfl⟩, rfl⟩)
  obtain ⟨hmem, hk⟩ := node?_some _ k n hf
  obtain ⟨⟨k', a⟩, hp, rfl⟩ := List.mem_map.mp hmem
  cases hk
  exact ⟨_, hf, mem_unique hn hp hm⟩

theorem compile_call {V} (slack : Nat) (g : GraphDef V) (p : Key) (hp : p = START ∨ ∃ act, (p, act) ∈ g.nodes) :
    ∃ n, (compile slack g).call? p = some n ∧
      n.writeTo = (g.edges.filter (fun e => e.1 == p)).map (·.2) ∧
      n.branches = (g.branches.filter (fun b => b.1 == p)).map (·.2) := by
  obtain ⟨n, hn⟩ := call?_exists (compile slack g) p
    (hp.imp_right fun ⟨act, h⟩ => List.mem_map.mpr ⟨_, List.mem_map.mpr ⟨_, h, rfl⟩, rfl⟩)
  exact ⟨n, hn, (DagRun.compile_call slack g p n hn).1, (DagRun.compile_call slack g p n hn).2.2⟩

theorem keys_compile {V} (slack : Nat) (g : GraphDef V) :
    keys (compile slack g) = g.nodes.map (·.1) ++ [END] := by
  simp [keys, compile, List.map_map, Function.comp]

def firstKeys (i : Nat) : Chain → List Key
  | [] => [END]
  | st :: _ => stageKeys i st

def OutOK (n : Node CVal) (i : Nat) (rest : Chain) : Prop :=
  match rest with
  | .branch cond subs :: _ => n.branches = [lowerBranch i cond subs] ∧ n.writeTo = []
  | _ => n.branches = [] ∧ ∀ t, n.writeTo.contains t = (firstKeys i rest).contains t

def Link (r : Runner CVal) (i : Nat) (pre : List Key) (rest : Chain) : Prop :=
  (∀ p ∈ pre, ∃ n, r.call? p = some n ∧ OutOK n i rest) ∧
  (∀ p ∈ pre, ∀ t ∈ firstKeys i rest, (lookupList t r.dataPreds).contains p = true) ∧
  (firstKeys i rest).Sublist (keys r) ∧
  (match rest with | .branch _ _ :: _ => ∃ p, pre = [p] | _ => True)

def NodesOK (r : Runner CVal) (i : Nat) (st : Stage) : Prop :=
  ∀ ka ∈ stageNodes i st, ka.1 ≠ END ∧ ∃ n, r.node? ka.1 = some n ∧ n.act = ka.2

def StageOK : Stage → Prop
  | .parallel subs => subs ≠ [] ∧ (subs.map (·.1)).Nodup
  | _ => True

/-- the runner contains the lowering of the chain suffix `rest` (stage numbers from `i`),
    connected to the nodes `pre` -/
def Wired (r : Runner CVal) : Nat → List Key → Chain → Prop
  | i, pre, [] => Link r i pre []
  | i, pre, st :: rest =>
    Link r i pre (st :: rest) ∧ NodesOK r i st ∧ StageOK st ∧ Wired r (i + 1) (stageKeys i st) rest

def DoneOK (pre : List Key) (done : List (Done CVal)) (w : CVal) : Prop :=
  done ≠ [] ∧ (∀ d ∈ done, d.1 ∈ pre) ∧ (done.map (·.1)).Nodup ∧
  collect cvalOps (done.map (·.2)) = .ready w

def nextOf (i : Nat) (rest : Chain) (w : CVal) : Except Err (Next CVal) :=
  match rest with
  | [] => .ok (.result w)
  | .branch cond subs :: _ =>
    match cond w with
    | .error e => .error e
    | .ok k =>
      match alookup k subs with
      | some _ => .ok (.tasks [(brKey i k, w)])
      | none => .error { cls := .badBranchEnd }
  | st :: _ => .ok (.tasks ((stageKeys i st).map (fun k => (k, w))))

theorem filter_contains_of_sublist (T L : List Key) (hs : T.Sublist L) (hn : L.Nodup) :
    L.filter (fun t => T.contains t) = T := by
  induction hs with
  | slnil => rfl
  | cons a hs ih =>
    obtain ⟨ha, hn⟩ := List.nodup_cons.mp hn
    rw [List.filter_cons_of_neg (by simpa using fun h => ha (hs.subset h)), ih hn]
  | cons_cons a hs ih =>
    obtain ⟨ha, hn⟩ := List.nodup_cons.mp hn
    rw [List.filter_cons_of_pos (by simp)]
    refine congrArg _ ((List.filter_congr fun x hx => ?_).trans (ih hn))
    rw [List.contains_cons, beq_false_of_ne (fun e => ha (e ▸ hx) : x ≠ a), Bool.false_or]

theorem ready_of (F : Key × GetResult CVal → Option (Key × CVal))
    (hF1 : ∀ k v, F (k, .ready v) = some (k, v)) (hF2 : ∀ k, F (k, .notReady) = none)
    (L T : List Key) (w : CVal) :
    (L.map (fun t => (t, (if T.contains t then GetResult.ready w else GetResult.notReady)))).filterMap F
      = (L.filter (fun t => T.contains t)).map (fun t => (t, w)) := by
  induction L with
  | nil => rfl
  | cons a t ih =>
    by_cases h : T.contains a = true
    · simp only [List.map_cons, h, ↓reduceIte, List.filter_cons, List.filterMap_cons, ih, hF1]
    · simp only [List.map_cons, h, Bool.false_eq_true, ↓reduceIte, List.filter_cons, List.filterMap_cons, ih, hF2]

theorem no_mergeErr (G : Key × GetResult CVal → Bool)
    (hG1 : ∀ k v, G (k, .ready v) = false) (hG2 : ∀ k, G (k, .notReady) = false)
    (L T : List Key) (w : CVal) :
    (L.map (fun t => (t, (if T.contains t then GetResult.ready w else GetResult.notReady)))).any G = false := by
  induction L with
  | nil => rfl
  | cons a t ih =>
    by_cases h : T.contains a = true
    · simp only [List.map_cons, List.any_cons, ih, Bool.or_false, h, ↓reduceIte, hG1]
    · simp only [List.map_cons, List.any_cons, ih, Bool.or_false, h, Bool.false_eq_true, ↓reduceIte, hG2]

theorem alookup_map_const (T : List Key) (w : CVal) (k : Key) :
    alookup k (T.map (fun t => (t, w))) = if T.contains k then some w else none := by
  induction T with
  | nil => rfl
  | cons a t ih =>
    rw [List.map_cons, alookup, List.contains_cons, ih]
    by_cases h : a = k
    · subst h
      simp only [beq_self_eq_true, ↓reduceIte, Bool.true_or]
    · rw [beq_false_of_ne h, beq_false_of_ne (Ne.symm h)]
      simp only [Bool.false_eq_true, ↓reduceIte, Bool.false_or]

theorem sentOf_plain (r : Runner CVal) (d : Done CVal) (n : Node CVal)
    (hc : r.call? d.1 = some n) (hb : n.branches = []) :
    sentOf r d = .ok (d.1, d.2, n.writeTo) := by
  simp only [sentOf, hc, selectOf, hb, List.mapM_nil, bind, Except.bind, pure, Except.pure,
    List.flatten_nil, List.nil_append]

theorem mapM_sentOf_uniform (r : Runner CVal) (T : List Key) (done : List (Done CVal))
    (h : ∀ d ∈ done, ∃ sel, sentOf r d = .ok (d.1, d.2, sel) ∧ ∀ t, sel.contains t = T.contains t)
    (hp : ∀ d ∈ done, ∀ t ∈ T, (lookupList t r.dataPreds).contains d.1 = true) :
    ∃ sent, done.mapM (sentOf r) = .ok sent ∧
      ∀ t, inbox r sent t = if T.contains t then done else [] := by
  induction done with
  | nil => exact ⟨[], rfl, fun t => by simp [inbox]⟩
  | cons d rest ih =>
    obtain ⟨sel, hs, hw⟩ := h d List.mem_cons_self
    obtain ⟨sent', hs', hin'⟩ := ih (fun d' hd' => h d' (List.mem_cons_of_mem _ hd'))
      (fun d' hd' => hp d' (List.mem_cons_of_mem _ hd'))
    refine ⟨(d.1, d.2, sel) :: sent', ?_, ?_⟩
    · simp only [List.mapM_cons, hs, hs', bind, Except.bind, pure, Except.pure]
    · intro t
      rw [inbox_cons, hin' t]
      simp only [hw t]
      by_cases ht : T.contains t = true
      · have := hp d List.mem_cons_self t (List.contains_iff_mem.mp ht)
        simp only [ht, this, Bool.and_self, ↓reduceIte]
      · simp only [ht, Bool.false_and, Bool.false_eq_true, ↓reduceIte]

theorem next_uniform (r : Runner CVal) (hnd : (keys r).Nodup) (T : List Key) (hsub : T.Sublist (keys r))
    (done : List (Done CVal)) (w : CVal) (hc : collect cvalOps (done.map (·.2)) = .ready w)
    (h : ∀ d ∈ done, ∃ sel, sentOf r d = .ok (d.1, d.2, sel) ∧ ∀ t, sel.contains t = T.contains t)
    (hp : ∀ d ∈ done, ∀ t ∈ T, (lookupList t r.dataPreds).contains d.1 = true) :
    Spec.next cvalOps r done
      = .ok (if T.contains END then Next.result w else Next.tasks (T.map (fun t => (t, w)))) := by
  obtain ⟨sent, hs, hin⟩ := mapM_sentOf_uniform r T done h hp
  have hcol : ∀ t, collect cvalOps ((inbox r sent t).map (·.2))
      = if T.contains t then GetResult.ready w else GetResult.notReady := fun t => by
    rw [hin t]
    by_cases ht : T.contains t = true
    · rw [if_pos ht, if_pos ht]; exact hc
    · rw [if_neg ht, if_neg ht]; rfl
  unfold Spec.next
  simp only [hs, bind, Except.bind, hcol]
  rw [no_mergeErr _ (fun _ _ => rfl) (fun _ => rfl), ready_of _ (fun _ _ => rfl) (fun _ => rfl),
    filter_contains_of_sublist T (keys r) hsub hnd, alookup_map_const]
  cases T.contains END <;> rfl

theorem next_error (r : Runner CVal) (done : List (Done CVal)) (e : Err)
    (h : done.mapM (sentOf r) = .error e) : Spec.next cvalOps r done = .error e := by
  unfold Spec.next
  rw [h]; rfl

theorem doneOK_single (p : Key) (done : List (Done CVal)) (w : CVal) (h : DoneOK [p] done w) :
    done = [(p, w)] := by
  obtain ⟨hne, hin, hnd, hc⟩ := h
  cases done with
  | nil => exact absurd rfl hne
  | cons d1 t =>
    have h1 : d1.1 = p := List.mem_singleton.mp (hin d1 List.mem_cons_self)
    cases t with
    | nil =>
      have h2 : d1.2 = w := GetResult.ready.inj hc
      rw [← h1, ← h2]
    | cons d2 t' =>
      have h2 : d2.1 = p := List.mem_singleton.mp (hin d2 (List.mem_cons_of_mem _ List.mem_cons_self))
      exact absurd (List.mem_map.mpr ⟨d2, List.mem_cons_self, h2.trans h1.symm⟩) (List.nodup_cons.mp hnd).1

theorem brNode_mem (i : Nat) (cond : CVal → Except Err String) (subs : List (String × Fn)) (k : String) (f : Fn)
    (hk : alookup k subs = some f) : (brKey i k, f) ∈ stageNodes i (.branch cond subs) :=
  List.mem_map.mpr ⟨(k, f), mem_of_alookup k f subs hk, rfl⟩

theorem brKey_mem (i : Nat) (cond : CVal → Except Err String) (subs : List (String × Fn)) (k : String) (f : Fn)
    (hk : alookup k subs = some f) : brKey i k ∈ stageKeys i (.branch cond subs) :=
  List.mem_map_of_mem (brNode_mem i cond subs k f hk)

/-- the three readings of a branch stage on the input `w` — the condition `AppendBranch` installs,
    the superstep in front of the stage, the stage's meaning — fail together, with the same error,
    or pick the same member -/
theorem branch_eval (i : Nat) (cond : CVal → Except Err String) (subs : List (String × Fn)) (rest : Chain)
    (w : CVal) :
    (∃ e, lowerCond i cond subs w = .error e ∧ nextOf i (.branch cond subs :: rest) w = .error e ∧
      Stage.sem i (.branch cond subs) w = .error e) ∨
    ∃ k f, alookup k subs = some f ∧ lowerCond i cond subs w = .ok [brKey i k] ∧
      nextOf i (.branch cond subs :: rest) w = .ok (.tasks [(brKey i k, w)]) ∧
      Stage.sem i (.branch cond subs) w = atNode (brKey i k) f w := by
  simp only [lowerCond, nextOf, Stage.sem, bind, Except.bind]
  cases cond w with
  | error e => exact .inl ⟨e, rfl, rfl, rfl⟩
  | ok k =>
    dsimp only
    cases hk : alookup k subs with
    | none => exact .inl ⟨_, rfl, rfl, rfl⟩
    | some f => exact .inr ⟨k, f, hk, rfl, rfl, rfl⟩

theorem selectOf_lowerBranch (n : Node CVal) (i : Nat) (cond : CVal → Except Err String)
    (subs : List (String × Fn)) (w : CVal) (hb : n.branches = [lowerBranch i cond subs]) :
    selectOf n w = lowerCond i cond subs w := by
  unfold selectOf
  rw [hb]
  simp only [List.mapM_cons, List.mapM_nil, lowerBranch, bind, Except.bind, pure, Except.pure]
  rcases branch_eval i cond subs [] w with ⟨e, hl, -, -⟩ | ⟨k, f, hk, hl, -, -⟩
  · rw [hl]
  · have hc : (subs.map fun kf => brKey i kf.1).contains (brKey i k) = true :=
      List.contains_iff_mem.mpr (stageKeys_branch i cond subs ▸ brKey_mem i cond subs k f hk)
    rw [hl]
    simp only [List.all_cons, List.all_nil, Bool.and_true, hc, ↓reduceIte, List.flatten_cons, List.flatten_nil,
      List.append_nil]

theorem sentOf_branch (r : Runner CVal) (p : Key) (w : CVal) (n : Node CVal) (i : Nat)
    (cond : CVal → Except Err String) (subs : List (String × Fn))
    (hc : r.call? p = some n) (hb : n.branches = [lowerBranch i cond subs]) (hw : n.writeTo = []) :
    sentOf r (p, w) = (lowerCond i cond subs w).map (fun sel => (p, w, sel)) := by
  simp only [sentOf, hc, selectOf_lowerBranch n i cond subs w hb, hw, List.append_nil]
  rfl

theorem next_of (r : Runner CVal) (hnd : (keys r).Nodup) (i : Nat) (pre : List Key) (rest : Chain)
    (hl : Link r i pre rest) (hne : ∀ st rest', rest = st :: rest' → END ∉ stageKeys i st)
    (done : List (Done CVal)) (w : CVal) (hd : DoneOK pre done w) :
    Spec.next cvalOps r done = nextOf i rest w := by
  obtain ⟨hout, hpreds, hsub, hbr⟩ := hl
  have uniform := fun T (hT : T.Sublist (firstKeys i rest)) =>
    next_uniform r hnd T (hT.trans hsub) done w hd.2.2.2
  have plain : (∀ p ∈ pre, ∃ n, r.call? p = some n ∧ n.branches = [] ∧
        ∀ t, n.writeTo.contains t = (firstKeys i rest).contains t) →
      Spec.next cvalOps r done = .ok (if (firstKeys i rest).contains END then Next.result w
        else Next.tasks ((firstKeys i rest).map (fun t => (t, w)))) := by
    intro hp
    refine uniform _ (List.Sublist.refl _) (fun d hd' => ?_) (fun d hd' => hpreds d.1 (hd.2.1 d hd'))
    obtain ⟨n, hc, hb, hw⟩ := hp d.1 (hd.2.1 d hd')
    exact ⟨n.writeTo, sentOf_plain r d n hc hb, hw⟩
  cases rest with
  | nil => exact plain hout
  | cons st rest' =>
  have hE : ¬ (stageKeys i st).contains END = true := fun h => hne _ _ rfl (List.contains_iff_mem.mp h)
  cases st with
  | branch cond subs =>
    obtain ⟨p, rfl⟩ := hbr
    obtain rfl := doneOK_single p done w hd
    obtain ⟨n, hc, hb, hw⟩ := hout p List.mem_cons_self
    have hsent := sentOf_branch r p w n i cond subs hc hb hw
    rcases branch_eval i cond subs rest' w with ⟨e, hl, hnx, _⟩ | ⟨k, f, hk, hl, hnx, _⟩
    · rw [hnx]; rw [hl] at hsent
      exact next_error r [(p, w)] e (by rw [List.mapM_cons, hsent]; rfl)
    · rw [hnx]; rw [hl] at hsent
      have hmem := brKey_mem i cond subs k f hk
      rw [uniform [brKey i k] (List.singleton_sublist.mpr hmem)
        (fun d hd' => by rw [List.mem_singleton.mp hd']; exact ⟨_, hsent, fun _ => rfl⟩)
        (fun d hd' t ht => hpreds d.1 (hd.2.1 d hd') t (List.mem_singleton.mp ht ▸ hmem))]
      have hE : ¬ [brKey i k].contains END = true := fun h =>
        hne _ _ rfl ((List.mem_singleton.mp (List.contains_iff_mem.mp h) : END = brKey i k) ▸ hmem)
      exact congrArg _ (if_neg hE)
  | _ => rw [plain hout]; exact congrArg _ (if_neg hE)

theorem collect_exec (r : Runner CVal) (k : Key) (w : CVal) (n : Node CVal) (f : Fn)
    (hn : r.node? k = some n) (ha : n.act = f) :
    collectOne (execOne r (k, w)) = (atNode k f w).map (fun o => (k, o)) := by
  simp only [execOne, hn, ha, collectOne, atNode]
  cases f w <;> rfl

theorem runTasks_nodes (r : Runner CVal) (w : CVal) (step : Nat) (nodes : List (Key × Fn))
    (hn : ∀ ka ∈ nodes, ∃ n, r.node? ka.1 = some n ∧ n.act = ka.2) :
    runTasks r Sched.id step ((nodes.map (·.1)).map (fun k => (k, w)))
      = nodes.mapM (fun ka => (atNode ka.1 ka.2 w).map (fun o => (ka.1, o))) := by
  unfold runTasks Sched.id
  induction nodes with
  | nil => rfl
  | cons ka t ih =>
    obtain ⟨n, h1, h2⟩ := hn ka List.mem_cons_self
    rw [List.map_cons, List.map_cons, List.map_cons, List.mapM_cons, List.mapM_cons,
      collect_exec r ka.1 w n ka.2 h1 h2, ih (fun ka' h => hn ka' (List.mem_cons_of_mem _ h))]

theorem atNode_keyed (k : Key) (k' : String) (f : Fn) (w : CVal) :
    atNode k (keyed k' f) w = (atNode k f w).map (single k') := by
  simp only [atNode, keyed]
  cases f w <;> rfl

theorem par_exec (i : Nat) (w : CVal) (subs : List (String × Fn)) (j : Nat) :
    match parSem i j subs w with
    | .error e => (parNodes i j subs).mapM (fun ka => (atNode ka.1 ka.2 w).map (fun o => (ka.1, o))) = .error e
    | .ok os => ∃ done', (parNodes i j subs).mapM (fun ka => (atNode ka.1 ka.2 w).map (fun o => (ka.1, o))) = .ok done' ∧
        done'.map (·.1) = (parNodes i j subs).map (·.1) ∧
        done'.map (·.2) = os.map (fun kv => single kv.1 kv.2) ∧
        os.map (·.1) = subs.map (·.1) := by
  induction subs generalizing j with
  | nil => exact ⟨[], rfl, rfl, rfl, rfl⟩
  | cons kf rest ih =>
    obtain ⟨k, f⟩ := kf
    have hrest := ih (j + 1)
    simp only [parNodes, List.mapM_cons, parSem, atNode_keyed, bind, Except.bind]
    cases atNode (parKey i j) f w with
    | error e => rfl
    | ok o =>
      cases hp : parSem i (j + 1) rest w with
      | error e =>
        rw [hp] at hrest
        rw [hrest]; rfl
      | ok os =>
        rw [hp] at hrest
        obtain ⟨done', h1, h2, h3, h4⟩ := hrest
        refine ⟨(parKey i j, single k o) :: done', ?_, ?_, ?_, ?_⟩
        · rw [h1]; rfl
        · rw [List.map_cons, List.map_cons, h2]
        · rw [List.map_cons, List.map_cons, h3]
        · rw [List.map_cons, List.map_cons, h4]

theorem nextOf_cons (i : Nat) (st : Stage) (rest : Chain) (w : CVal) :
    (∃ e, nextOf i (st :: rest) w = .error e ∧ st.sem i w = .error e) ∨
      ∃ ts, nextOf i (st :: rest) w = .ok (.tasks ts) := by
  cases st with
  | lambda f => exact Or.inr ⟨_, rfl⟩
  | passthrough => exact Or.inr ⟨_, rfl⟩
  | parallel subs => exact Or.inr ⟨_, rfl⟩
  | branch cond subs =>
    rcases branch_eval i cond subs rest w with ⟨e, _, hnx, hs⟩ | ⟨k, f, _, _, hnx, _⟩
    · exact .inl ⟨e, hnx, hs⟩
    · exact .inr ⟨_, hnx⟩

theorem single_exec (r : Runner CVal) (i : Nat) (st : Stage) (hn : NodesOK r i st) (k : Key) (f : Fn)
    (hm : (k, f) ∈ stageNodes i st) (w : CVal) (step : Nat) :
    match runTasks r Sched.id step [(k, w)] with
    | .error e => atNode k f w = .error e
    | .ok done' => ∃ o, atNode k f w = .ok o ∧ DoneOK (stageKeys i st) done' o := by
  obtain ⟨_, n, hn1, ha⟩ := hn (k, f) hm
  simp only [runTasks, Sched.id, List.map_cons, List.map_nil, List.mapM_cons, List.mapM_nil,
    collect_exec r k w n f hn1 ha]
  cases atNode k f w with
  | error e => rfl
  | ok o =>
    refine ⟨o, rfl, List.cons_ne_nil _ _, fun d hd => ?_, by simp, rfl⟩
    rw [List.mem_singleton.mp hd]; exact List.mem_map.mpr ⟨(k, f), hm, rfl⟩

theorem stage_exec (r : Runner CVal) (i : Nat) (st : Stage) (rest : Chain)
    (hn : NodesOK r i st) (hs : StageOK st) (hnd : (stageKeys i st).Nodup)
    (w : CVal) (ts : List (Key × CVal)) (step : Nat)
    (ht : nextOf i (st :: rest) w = .ok (.tasks ts)) :
    match runTasks r Sched.id step ts with
    | .error e => st.sem i w = .error e
    | .ok done' => ∃ o, st.sem i w = .ok o ∧ DoneOK (stageKeys i st) done' o := by
  cases st with
  | lambda f =>
    obtain rfl : [(nodeKey i, w)] = ts := Next.tasks.inj (Except.ok.inj ht)
    exact single_exec r i _ hn (nodeKey i) f List.mem_cons_self w step
  | passthrough =>
    obtain rfl : [(nodeKey i, w)] = ts := Next.tasks.inj (Except.ok.inj ht)
    exact single_exec r i _ hn (nodeKey i) (fun v => .ok v) List.mem_cons_self w step
  | branch cond subs =>
    rcases branch_eval i cond subs rest w with ⟨e, _, hnx, _⟩ | ⟨k, f, hk, _, hnx, hsem⟩
    · rw [hnx] at ht; cases ht
    · obtain rfl : [(brKey i k, w)] = ts := Next.tasks.inj (Except.ok.inj (hnx.symm.trans ht))
      rw [hsem]
      exact single_exec r i _ hn (brKey i k) f (brNode_mem i cond subs k f hk) w step
  | parallel subs =>
    obtain rfl : (stageKeys i (.parallel subs)).map (fun k => (k, w)) = ts :=
      Next.tasks.inj (Except.ok.inj ht)
    rw [stageKeys, stageNodes, runTasks_nodes r w step (parNodes i 0 subs) (fun ka hka => (hn ka hka).2)]
    have hpar := par_exec i w subs 0
    cases hp : parSem i 0 subs w with
    | error e =>
      rw [hp] at hpar
      rw [hpar]
      simp only [Stage.sem, hp, bind, Except.bind]
    | ok os =>
      rw [hp] at hpar
      obtain ⟨done', h1, h2, h3, h4⟩ := hpar
      rw [h1]
      obtain ⟨hne, hnd'⟩ := hs
      have hos : os ≠ [] := fun e => hne (List.map_eq_nil_iff.mp (by rw [← h4, e]; rfl))
      refine ⟨.map os, by simp only [Stage.sem, hp, bind, Except.bind]; rfl, ?_, ?_, ?_, ?_⟩
      · exact fun e => hos (List.map_eq_nil_iff.mp (by rw [← h3, e]; rfl))
      · intro d hd
        rw [← h2]
        exact List.mem_map.mpr ⟨d, hd, rfl⟩
      · rw [h2]; exact hnd
      · rw [h3]
        exact collect_singles os hos (by rw [h4]; exact hnd')

def specResult (r : Runner CVal) (fuel : Nat) (tr : Trace CVal) : Except Err (Next CVal) → Except Err CVal
  | .error e => .error e
  | .ok (.result v) => .ok v
  | .ok (.tasks ts) => (Spec.loop cvalOps r Sched.id fuel ts tr).result

theorem spec_from (r : Runner CVal) (hnd : (keys r).Nodup) :
    ∀ (rest : Chain) (i : Nat) (pre : List Key) (done : List (Done CVal)) (w : CVal) (fuel : Nat)
      (tr : Trace CVal),
      Wired r i pre rest → DoneOK pre done w → rest.length ≤ fuel →
      specResult r fuel tr (Spec.next cvalOps r done) = semFrom i rest w := by
  intro rest
  induction rest with
  | nil =>
    intro i pre done w fuel tr hw hd _
    rw [next_of r hnd i pre [] hw (by intro st rest' h; cases h) done w hd]
    rfl
  | cons st rest' ih =>
    intro i pre done w fuel tr hw hd hlen
    obtain ⟨hl, hn, hs, hw'⟩ := hw
    have hE : END ∉ stageKeys i st := by
      intro hm
      obtain ⟨ka, hka, e⟩ := List.mem_map.mp hm
      exact (hn ka hka).1 e
    have hndk : (stageKeys i st).Nodup := hl.2.2.1.nodup hnd
    rw [next_of r hnd i pre (st :: rest') hl
      (by intro st' r' h; cases h; exact hE) done w hd]
    rcases nextOf_cons i st rest' w with ⟨e, hnx, hse⟩ | ⟨ts, hnx⟩
    · simp [hnx, specResult, semFrom, hse, bind, Except.bind]
    · rw [hnx]
      cases fuel with
      | zero => simp at hlen
      | succ fuel' =>
        have hx := stage_exec r i st rest' hn hs hndk w ts tr.length hnx
        simp only [specResult]
        unfold Spec.loop
        simp only
        cases hr : runTasks r Sched.id tr.length ts with
        | error e =>
          rw [hr] at hx
          simp [semFrom, hx, bind, Except.bind]
        | ok done' =>
          rw [hr] at hx
          obtain ⟨o, hso, hdo⟩ := hx
          have hne' : done'.isEmpty = false := List.isEmpty_eq_false_iff.mpr hdo.1
          have ih' := ih (i + 1) (stageKeys i st) done' o fuel' (ts :: tr) hw' hdo
            (by simp at hlen; omega)
          simp only [hne', Bool.false_eq_true, ↓reduceIte, semFrom, hso, bind, Except.bind]
          rw [← ih']
          unfold specResult
          cases Spec.next cvalOps r done' with
          | error e => rfl
          | ok nx' => cases nx' <;> rfl

theorem parNodes_ne_nil (i j : Nat) (subs : List (String × Fn)) (h : subs ≠ []) : parNodes i j subs ≠ [] := by
  cases subs with
  | nil => exact absurd rfl h
  | cons kf t => obtain ⟨k, f⟩ := kf; simp [parNodes]

theorem stageNodes_ne_nil (pm : Bool) (i : Nat) (st : Stage) (rest : Chain)
    (h : stagesOK pm (st :: rest) = true) : stageNodes i st ≠ [] := by
  cases st with
  | parallel subs => exact parNodes_ne_nil i 0 subs (stagesOK_parallel h).2.1
  | branch cond subs => exact mt List.map_eq_nil_iff.mp (stagesOK_branch h).2.1
  | _ => exact List.cons_ne_nil _ _

theorem stageKeys_ne_nil (pm : Bool) (i : Nat) (st : Stage) (rest : Chain)
    (h : stagesOK pm (st :: rest) = true) : stageKeys i st ≠ [] :=
  mt List.map_eq_nil_iff.mp (stageNodes_ne_nil pm i st rest h)

theorem headD_mem (pre : List Key) (h : pre ≠ []) : pre.headD START ∈ pre := by
  cases pre with
  | nil => exact absurd rfl h
  | cons a t => simp

def headEdges (i : Nat) (pre : List Key) : Chain → List (Key × Key)
  | [] => pre.map (fun p => (p, END))
  | st :: _ => stageEdges i pre st

def headBranches (i : Nat) (pre : List Key) : Chain → List (Key × Branch CVal)
  | [] => []
  | st :: _ => stageBranches i pre st

theorem headEdges_src (i : Nat) (pre : List Key) (rest : Chain) (hpre : pre ≠ []) :
    ∀ e ∈ headEdges i pre rest, e.1 ∈ pre := by
  intro e he
  cases rest with
  | nil => obtain ⟨p, hp, rfl⟩ := List.mem_map.mp he; exact hp
  | cons st _ =>
    cases st with
    | parallel subs => obtain ⟨p, _, rfl⟩ := List.mem_map.mp he; exact headD_mem pre hpre
    | branch cond subs => cases he
    | _ => obtain ⟨p, hp, rfl⟩ := List.mem_map.mp he; exact hp

theorem headBranches_src (i : Nat) (pre : List Key) (rest : Chain) (hpre : pre ≠ []) :
    ∀ b ∈ headBranches i pre rest, b.1 ∈ pre := by
  intro b hb
  cases rest with
  | nil => cases hb
  | cons st _ =>
    cases st with
    | branch cond subs => rw [List.mem_singleton.mp hb]; exact headD_mem pre hpre
    | _ => cases hb

theorem src_append {β} {H T : List (Key × β)} {pre K N : List Key} (hH : ∀ e ∈ H, e.1 ∈ pre)
    (hT : ∀ e ∈ T, e.1 ∈ K ∨ e.1 ∈ N) : ∀ e ∈ H ++ T, e.1 ∈ pre ∨ e.1 ∈ K ++ N := fun e he =>
  (List.mem_append.mp he).elim (fun h => .inl (hH e h)) (fun h => .inr (List.mem_append.mpr (hT e h)))

theorem lowerFrom_src : ∀ (rest : Chain) (i : Nat) (pre : List Key) (pm : Bool),
    stagesOK pm rest = true → pre ≠ [] →
    (∀ e ∈ (lowerFrom i pre rest).edges, e.1 ∈ pre ∨ e.1 ∈ (lowerFrom i pre rest).nodes.map (·.1)) ∧
    (∀ b ∈ (lowerFrom i pre rest).branches, b.1 ∈ pre ∨ b.1 ∈ (lowerFrom i pre rest).nodes.map (·.1)) := by
  intro rest
  induction rest with
  | nil =>
    intro i pre pm _ hpre
    exact ⟨fun e he => .inl (headEdges_src i pre [] hpre e he), nofun⟩
  | cons st rest' ih =>
    intro i pre pm hok hpre
    have hk := stageKeys_ne_nil pm i st rest' hok
    have hok' := stagesOK_tail pm st rest' hok
    obtain ⟨ihe, ihb⟩ := ih (i + 1) (stageKeys i st) st.multi hok' hk
    simp only [lowerFrom, List.map_append]
    exact ⟨src_append (headEdges_src i pre (st :: rest') hpre) ihe,
      src_append (headBranches_src i pre (st :: rest') hpre) ihb⟩

theorem filter_src_nil {β} (l : List (Key × β)) (p : Key) (h : ∀ e ∈ l, e.1 ≠ p) :
    l.filter (fun e => e.1 == p) = [] := by
  rw [List.filter_eq_nil_iff]
  intro e he
  simpa using h e he

theorem filter_src_left {β} {G H T : List (Key × β)} {p : Key}
    (hG : G.filter (fun e => e.1 == p) = (H ++ T).filter (fun e => e.1 == p)) (hT : ∀ e ∈ T, e.1 ≠ p) :
    G.filter (fun e => e.1 == p) = H.filter (fun e => e.1 == p) := by
  rw [hG, List.filter_append, filter_src_nil T p hT, List.append_nil]

theorem filter_src_right {β} {G H T : List (Key × β)} {p : Key}
    (hG : G.filter (fun e => e.1 == p) = (H ++ T).filter (fun e => e.1 == p)) (hH : ∀ e ∈ H, e.1 ≠ p) :
    G.filter (fun e => e.1 == p) = T.filter (fun e => e.1 == p) := by
  rw [hG, List.filter_append, filter_src_nil H p hH, List.nil_append]

theorem mem_outs (l : List (Key × Key)) (p t : Key) :
    t ∈ (l.filter (fun e => e.1 == p)).map (·.2) ↔ (p, t) ∈ l := by
  simp

theorem mem_map_pair_left (pre : List Key) (k p t : Key) (hp : p ∈ pre) :
    (p, t) ∈ pre.map (fun p => (p, k)) ↔ t ∈ [k] := by
  rw [List.mem_map, List.mem_singleton]
  constructor
  · rintro ⟨_, _, e⟩; exact (Prod.mk.inj e).2.symm
  · rintro rfl; exact ⟨p, hp, rfl⟩

theorem mem_map_pair_right (T : List Key) (p t : Key) :
    (p, t) ∈ T.map (fun k => (p, k)) ↔ t ∈ T := by
  simp

theorem outs_of_iff (n : Node CVal) (E : List (Key × Key)) (T : List Key) (p : Key)
    (hE : ∀ t, (p, t) ∈ E ↔ t ∈ T) (hw : n.writeTo = (E.filter (·.1 == p)).map (·.2)) (t : Key) :
    n.writeTo.contains t = T.contains t := by
  have : t ∈ n.writeTo ↔ t ∈ T := hw ▸ (mem_outs E p t).trans (hE t)
  simp [this]

/-- `OutOK` at the level of the graph definition, before `compile`, seen from one previous node `p` -/
theorem heads_from (i : Nat) (pre : List Key) (rest : Chain)
    (hone : ∀ st rest', rest = st :: rest' → st.multi = true → ∃ p, pre = [p]) (p : Key) (hp : p ∈ pre) :
    (∀ n : Node CVal,
      n.writeTo = ((headEdges i pre rest).filter (·.1 == p)).map (·.2) →
      n.branches = ((headBranches i pre rest).filter (·.1 == p)).map (·.2) → OutOK n i rest) ∧
    ∀ t ∈ firstKeys i rest, (p, t) ∈ headEdges i pre rest ∨
      ∃ b ∈ headBranches i pre rest, b.2.noData = false ∧ b.1 = p ∧ t ∈ b.2.ends := by
  have one := fun k t => mem_map_pair_left pre k p t hp
  match rest with
  | [] => exact ⟨fun n hw hb => ⟨hb, outs_of_iff n _ _ p (one END) hw⟩, fun t ht => .inl ((one END t).mpr ht)⟩
  | .lambda f :: _ => exact ⟨fun n hw hb => ⟨hb, outs_of_iff n _ _ p (one _) hw⟩, fun t ht => .inl ((one _ t).mpr ht)⟩
  | .passthrough :: _ => exact ⟨fun n hw hb => ⟨hb, outs_of_iff n _ _ p (one _) hw⟩, fun t ht => .inl ((one _ t).mpr ht)⟩
  | .parallel subs :: _ =>
    obtain ⟨p0, rfl⟩ := hone _ _ rfl rfl
    obtain rfl := List.mem_singleton.mp hp
    exact ⟨fun n hw hb => ⟨hb, outs_of_iff n _ _ p (mem_map_pair_right _ p) hw⟩,
      fun t ht => .inl ((mem_map_pair_right _ p t).mpr ht)⟩
  | .branch cond subs :: _ =>
    obtain ⟨p0, rfl⟩ := hone _ _ rfl rfl
    obtain rfl := List.mem_singleton.mp hp
    refine ⟨fun n hw hb => ⟨?_, hw⟩, fun t ht => .inr ⟨(p, lowerBranch i cond subs), List.mem_cons_self, rfl, rfl, ?_⟩⟩
    · rw [hb]
      simp only [headBranches, stageBranches, List.headD_cons, List.filter_cons, BEq.rfl, ↓reduceIte,
        List.filter_nil, List.map_cons, List.map_nil]
    · rw [firstKeys, stageKeys_branch] at ht
      exact ht

theorem mem_of_filter_src {β} (G L : List (Key × β)) (e : Key × β)
    (h : G.filter (fun x => x.1 == e.1) = L.filter (fun x => x.1 == e.1)) (he : e ∈ L) : e ∈ G :=
  (List.mem_filter.mp (h ▸ List.mem_filter.mpr ⟨he, beq_self_eq_true e.1⟩ :
    e ∈ G.filter (fun x => x.1 == e.1))).1

theorem link_of (slack : Nat) (g : GraphDef CVal) (i : Nat) (pre : List Key) (rest : Chain)
    (hcall : ∀ p ∈ pre, p = START ∨ ∃ act, (p, act) ∈ g.nodes)
    (hE : ∀ p ∈ pre, g.edges.filter (fun e => e.1 == p) = (headEdges i pre rest).filter (fun e => e.1 == p))
    (hB : ∀ p ∈ pre, g.branches.filter (fun b => b.1 == p) = (headBranches i pre rest).filter (fun b => b.1 == p))
    (hsub : (firstKeys i rest).Sublist (keys (compile slack g)))
    (hone : (∀ st rest', rest = st :: rest' → st.multi = true → ∃ p, pre = [p])) :
    Link (compile slack g) i pre rest := by
  refine ⟨fun p hp => ?_, fun p hp t ht => ?_, hsub, ?_⟩
  · obtain ⟨n, hc, hw, hb⟩ := compile_call slack g p (hcall p hp)
    exact ⟨n, hc, (heads_from i pre rest hone p hp).1 n (hw.trans (congrArg _ (hE p hp))) (hb.trans (congrArg _ (hB p hp)))⟩
  · refine List.contains_iff_mem.mpr ((compile_dataPreds slack g t p).mpr ?_)
    rcases (heads_from i pre rest hone p hp).2 t ht with he | ⟨b, hb, hd, rfl, hm⟩
    · exact .inl (mem_of_filter_src _ _ (p, t) (hE p hp) he)
    · exact .inr ⟨b, mem_of_filter_src _ _ b (hB b.1 hp) hb, hd, rfl, hm⟩
  · split
    · exact hone _ _ rfl rfl
    · trivial

theorem single_of_not_multi (i : Nat) (st : Stage) (h : st.multi = false) : ∃ p, stageKeys i st = [p] := by
  cases st with
  | lambda f => exact ⟨_, rfl⟩
  | passthrough => exact ⟨_, rfl⟩
  | _ => cases h

theorem multi_needs_single (pm : Bool) (st : Stage) (rest : Chain) (h : stagesOK pm (st :: rest) = true)
    (hm : st.multi = true) : pm = false := by
  cases st with
  | parallel subs => exact (stagesOK_parallel h).1
  | branch cond subs => exact (stagesOK_branch h).1
  | _ => cases hm

theorem stageOK_of (pm : Bool) (st : Stage) (rest : Chain) (h : stagesOK pm (st :: rest) = true) : StageOK st := by
  cases st with
  | parallel subs => exact (stagesOK_parallel h).2
  | _ => trivial

theorem wired_suffix (slack : Nat) (g : GraphDef CVal)
    (hgn : (g.nodes.map (·.1)).Nodup) (hEnd : END ∉ g.nodes.map (·.1)) :
    ∀ (rest : Chain) (i : Nat) (pre : List Key) (pm : Bool),
      (lowerFrom i pre rest).nodes.Sublist g.nodes →
      (∀ p, p ∈ pre ∨ p ∈ (lowerFrom i pre rest).nodes.map (·.1) →
        g.edges.filter (fun e => e.1 == p) = (lowerFrom i pre rest).edges.filter (fun e => e.1 == p)) →
      (∀ p, p ∈ pre ∨ p ∈ (lowerFrom i pre rest).nodes.map (·.1) →
        g.branches.filter (fun b => b.1 == p)
          = (lowerFrom i pre rest).branches.filter (fun b => b.1 == p)) →
      (∀ p ∈ pre, p ∉ (lowerFrom i pre rest).nodes.map (·.1)) →
      (∀ p ∈ pre, p = START ∨ ∃ act, (p, act) ∈ g.nodes) →
      pre ≠ [] → (pm = false → ∃ p, pre = [p]) → stagesOK pm rest = true →
      Wired (compile slack g) i pre rest := by
  intro rest
  induction rest with
  | nil =>
    intro i pre pm hN hE hB hpre hcall hne hpm hok
    show Link (compile slack g) i pre []
    apply link_of slack g i pre [] hcall
    · intro p hp; exact hE p (Or.inl hp)
    · intro p hp; exact hB p (Or.inl hp)
    · rw [keys_compile]; exact List.sublist_append_right _ _
    · intro st rest' h; cases h
  | cons st rest' ih =>
    intro i pre pm hN hE hB hpre hcall hne hpm hok
    have hk := stageKeys_ne_nil pm i st rest' hok
    have hok' := stagesOK_tail pm st rest' hok
    obtain ⟨hsrcE, hsrcB⟩ := lowerFrom_src rest' (i + 1) (stageKeys i st) st.multi hok' hk
    simp only [lowerFrom] at hN hE hB hpre
    let tail := lowerFrom (i + 1) (stageKeys i st) rest'
    have hLK : ∀ k, k ∈ stageKeys i st ∨ k ∈ tail.nodes.map (·.1) →
        k ∈ (stageNodes i st ++ tail.nodes).map (·.1) :=
      fun k h => List.map_append ▸ List.mem_append.mpr h
    have hstage_mem : ∀ ka ∈ stageNodes i st, ka ∈ g.nodes :=
      fun ka hka => hN.subset (List.mem_append_left _ hka)
    refine ⟨?_, ?_, stageOK_of pm st rest' hok, ?_⟩
    · apply link_of slack g i pre (st :: rest') hcall
      -- from a previous node only the stage's own connections start
      · exact fun p hp => filter_src_left (hE p (.inl hp)) fun e he x => hpre p hp (hLK p (x ▸ hsrcE e he))
      · exact fun p hp => filter_src_left (hB p (.inl hp)) fun b hb x => hpre p hp (hLK p (x ▸ hsrcB b hb))
      · rw [keys_compile]
        exact (((List.sublist_append_left _ _).trans hN).map _).trans (List.sublist_append_left _ _)
      · intro st' r' h hm
        cases h
        exact hpm (multi_needs_single pm st rest' hok hm)
    · intro ka hka
      have hm := hstage_mem ka hka
      refine ⟨?_, ?_⟩
      · intro e
        exact hEnd (e ▸ List.mem_map.mpr ⟨ka, hm, rfl⟩)
      · exact compile_node slack g hgn ka.1 ka.2 hm
    · apply ih (i + 1) (stageKeys i st) st.multi
      · exact (List.sublist_append_right _ _).trans hN
      -- from a node of the suffix none of the stage's own connections start
      · exact fun p hp => filter_src_right (hE p (.inr (hLK p hp))) fun e he x =>
          hpre e.1 (headEdges_src i pre (st :: rest') hne e he) (x ▸ hLK p hp)
      · exact fun p hp => filter_src_right (hB p (.inr (hLK p hp))) fun b hb x =>
          hpre b.1 (headBranches_src i pre (st :: rest') hne b hb) (x ▸ hLK p hp)
      · intro p hp
        have hnd := (hN.map (·.1)).nodup hgn
        rw [List.map_append, List.nodup_append] at hnd
        exact fun hin => hnd.2.2 p hp p hin rfl
      · intro p hp
        obtain ⟨ka, hka, rfl⟩ := List.mem_map.mp hp
        exact Or.inr ⟨ka.2, hstage_mem ka hka⟩
      · exact hk
      · intro hm; exact single_of_not_multi i st hm
      · exact hok'

theorem wired_lower (slack : Nat) (c : Chain) (h : c.WF) : Wired (c.runner slack) 0 [START] c := by
  obtain ⟨_, hok, hnd⟩ := h
  simp only [List.nodup_cons, List.mem_append, List.mem_singleton, not_or] at hnd
  obtain ⟨⟨hS, _⟩, hnd⟩ := hnd
  rw [List.nodup_append] at hnd
  obtain ⟨hn, _, hdis⟩ := hnd
  have hEnd : END ∉ lowerKeys c := fun hm => hdis END hm END (by simp) rfl
  apply wired_suffix slack (lower c) hn hEnd c 0 [START] false
  · exact List.Sublist.refl _
  · intro p _; rfl
  · intro p _; rfl
  · intro p hp
    have : p = START := by simpa using hp
    subst this; exact hS
  · intro p hp; exact Or.inl (by simpa using hp)
  · simp
  · intro _; exact ⟨START, rfl⟩
  · exact hok

theorem stages_le_nodes : ∀ (c : Chain) (i : Nat) (pre : List Key) (pm : Bool), stagesOK pm c = true →
    c.length ≤ (lowerFrom i pre c).nodes.length := by
  intro c
  induction c with
  | nil => intros; simp
  | cons st rest ih =>
    intro i pre pm hok
    have := ih (i + 1) (stageKeys i st) st.multi (stagesOK_tail pm st rest hok)
    have h1 : 0 < (stageNodes i st).length := List.length_pos_iff.mpr (stageNodes_ne_nil pm i st rest hok)
    simp only [lowerFrom, List.length_cons, List.length_append]
    omega

/-- a legal chain never hits the step limit: the limit of the compiled chain (default
    `len(nodes) + slack`) is at least the number of stages, and a chain runs one superstep per
    stage -/
theorem chain_stages_le_limit (slack : Nat) (c : Chain) (h : c.WF) :
    c.length ≤ (c.runner slack).maxSteps := by
  have := stages_le_nodes c 0 [START] false h.2.1
  simp only [Chain.runner, compile, lower]
  simp
  omega

theorem chain_is_composition (slack : Nat) (c : Chain) (h : c.WF) (x : CVal) :
    c.exec slack x = c.sem x := by
  have hk : (keys (c.runner slack)).Nodup := by
    have := h.2.2
    rw [Chain.runner, keys_compile]
    exact (List.nodup_cons.mp this).2
  have hrun := run_pregel cvalOps (c.runner slack) rfl hk Sched.id (fun _ _ => List.Perm.refl _) x
  have hw := wired_lower slack c h
  have hd : DoneOK [START] [(START, x)] x := ⟨by simp, by simp, by simp, rfl⟩
  have hs := spec_from (c.runner slack) hk c 0 [START] [(START, x)] x (c.runner slack).maxSteps []
    hw hd (chain_stages_le_limit slack c h)
  unfold Chain.exec Engine.run
  rw [hrun, Chain.sem, ← hs]
  unfold Spec.run specResult
  cases Spec.next cvalOps (c.runner slack) [(START, x)] with
  | error e => rfl
  | ok nx => cases nx <;> rfl

/-- a compiled chain used as a stage of another chain (`AppendGraph(chain)`) is the stage
    whose function is the inner chain's meaning -/
theorem chain_as_stage (slack : Nat) (c' : Chain) (h : c'.WF) :
    Stage.lambda (c'.exec slack) = Stage.lambda c'.sem := by
  congr
  funext x
  exact chain_is_composition slack c' h x

end EinoV.Chain
