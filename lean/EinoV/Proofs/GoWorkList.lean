/-
  Go's work list of `channelManager.reportBranch` against the model's (`propagateSkips`).

  The Go loop appends a key to `nKeys` every time `reportSkip` returns true, i.e. also when the channel
  was skipped already; the model (`skipOne`) appends a key only when the channel *becomes* skipped.
  This file defines Go's work list on the model's channels (`goSkipOne`, `goSkipStep`, `goWL`,
  `goReportBranch`) and proves that the two work lists have the same outcome (`goReportBranch_eq`):
  a key Go pops in addition has passed its skip on to all its successors already (`Told`), and
  reporting a skip a second time changes nothing (`told1_noop`); the model's own fuel `(n+2)²` is
  never exhausted (`mu`: every pop of the model's list turns one more channel skipped).

  Independent of the generated code (Proofs/TransMgr.lean ties the translated `reportBranch` to `goWL`).
-/
import EinoV.Model.Engine
import EinoV.Proofs.Assoc
import EinoV.Proofs.EngineOps
namespace EinoV.GoWorkList
open EinoV.Engine
variable {V : Type}

def allSk (c : Chan V) : Bool := c.ctrl.all (fun p => p.2 == Dep.skipped)

/-- the report of `k` is already on the channel: a further `reportSkip([k])` changes nothing -/
def Told1 (c : Chan V) (k : Key) : Prop :=
  (alookup k c.ctrl = none ∨ alookup k c.ctrl = some Dep.skipped) ∧
  (alookup k c.data = none ∨ alookup k c.data = some true) ∧
  c.skipped = allSk c

theorem told1_noop (c : Chan V) (k : Key) (h : Told1 c k) : c.reportSkip true [k] = (c, c.skipped) := by
  rw [reportSkip_eq, mark_noop _ _ _ h.1, mark_noop _ _ _ h.2.1]
  have : c.skipped = c.ctrl.all (fun p => p.2 == Dep.skipped) := h.2.2
  rw [← this]

theorem mark_told {α} (k k' : Key) (v : α) (m : List (Key × α))
    (h : k = k' ∨ alookup k m = none ∨ alookup k m = some v) :
    alookup k (mark k' v m) = none ∨ alookup k (mark k' v m) = some v := by
  rw [alookup_mark]
  by_cases e : k = k'
  · subst e; rw [if_pos rfl]; cases alookup k m <;> simp
  · rw [if_neg e]; exact h.resolve_left e

theorem told1_after (c : Chan V) (k k' : Key) (h : k = k' ∨ Told1 c k) :
    Told1 (c.reportSkip true [k']).1 k := by
  rw [reportSkip_eq]
  exact ⟨mark_told k k' _ _ (h.imp_right (·.1)), mark_told k k' _ _ (h.imp_right (·.2.1)), rfl⟩

/-- a skipped channel has all its control predecessors skipped (true of every channel a run produces:
    `Skipped` is only ever set by `reportSkip`, to "all skipped", and the marks of a skipped channel are frozen) -/
def SkImp (c : Chan V) : Prop := c.skipped = true → allSk c = true

theorem skimp_out (c : Chan V) (k : Key) : SkImp (c.reportSkip true [k]).1 := by
  rw [reportSkip_eq]; intro h; exact h

theorem skimp_stays (c : Chan V) (k : Key) (h : SkImp c) (hs : c.skipped = true) :
    (c.reportSkip true [k]).2 = true := by
  rw [reportSkip_eq]
  simp only [mark]
  split
  · refine List.all_eq_true.mpr fun p hp => ?_
    rcases mem_aset k _ _ p hp with rfl | hp
    · rfl
    · exact List.all_eq_true.mp (h hs) p hp
  · exact h hs

/-- one `c.channels[s].reportSkip([]string{k})` as Go does it: the channels are the model's `skipOne`, the
    returned flag is what `reportSkip` returns (also when `s` was skipped before — the model's flag is
    "became skipped") -/
def goSkipOne (dag : Bool) (cm : Chans V) (s k : Key) : Chans V × Bool :=
  ((skipOne dag cm s k).1, match alookup s cm with
    | some ch => (ch.reportSkip dag [k]).2
    | none => false)

/-- Go's `if skipped { nKeys = append(nKeys, s) }` -/
def goSkipStep (dag : Bool) (k : Key) (acc : Chans V × List Key) (s : Key) : Chans V × List Key :=
  ((goSkipOne dag acc.1 s k).1, if (goSkipOne dag acc.1 s k).2 then acc.2 ++ [s] else acc.2)

def skIn (cm : Chans V) (s : Key) : Bool :=
  match alookup s cm with
  | some c => c.skipped
  | none => false

theorem skipOne_none {cm : Chans V} {s : Key} (k : Key) (h : alookup s cm = none) :
    skipOne true cm s k = (cm, false) := by
  simp only [skipOne, h, Bool.not_true, Bool.false_eq_true, if_false]

theorem skipOne_some {cm : Chans V} {s : Key} {c : Chan V} (k : Key) (h : alookup s cm = some c) :
    skipOne true cm s k =
      (modChan cm s (fun _ => (c.reportSkip true [k]).1), (c.reportSkip true [k]).2 && !c.skipped) := by
  simp only [skipOne, h, Bool.not_true, Bool.false_eq_true, if_false]

theorem alookup_skipOne (cm : Chans V) (s k s' : Key) :
    alookup s' (skipOne true cm s k).1 =
      if s' = s then (alookup s cm).map (fun c => (c.reportSkip true [k]).1) else alookup s' cm := by
  cases hl : alookup s cm with
  | none => rw [skipOne_none k hl]; by_cases e : s' = s <;> simp [e, hl]
  | some c => rw [skipOne_some k hl, alookup_modChan]; by_cases e : s' = s <;> simp [e, hl]

theorem alookup_skipOne_some {cm : Chans V} {s k t : Key} {c' : Chan V}
    (h : alookup t (skipOne true cm s k).1 = some c') :
    (t ≠ s ∧ alookup t cm = some c') ∨
      (t = s ∧ ∃ c, alookup s cm = some c ∧ c' = (c.reportSkip true [k]).1) := by
  rw [alookup_skipOne] at h
  by_cases e : t = s
  · rw [if_pos e] at h
    obtain ⟨c, hc, rfl⟩ := Option.map_eq_some_iff.mp h
    exact Or.inr ⟨e, c, hc, rfl⟩
  · rw [if_neg e] at h; exact Or.inl ⟨e, h⟩

theorem skipOne_flag (cm : Chans V) (s k : Key) :
    (skipOne true cm s k).2 = ((goSkipOne true cm s k).2 && !skIn cm s) := by
  unfold skipOne goSkipOne skIn
  cases alookup s cm <;> simp

/-- the skip of `k` has been reported to every successor of `k` (popping `k` again changes nothing) -/
def Told (r : Runner V) (cm : Chans V) (k : Key) : Prop :=
  ∃ n, r.node? k = some n ∧ ∀ s ∈ n.successors, ∀ c, alookup s cm = some c → Told1 c k

theorem Told.step {r : Runner V} {cm : Chans V} {x : Key} (h : Told r cm x) (s k : Key) :
    Told r (skipOne true cm s k).1 x := by
  obtain ⟨n, hn, ht⟩ := h
  refine ⟨n, hn, fun t hts c' hc' => ?_⟩
  rcases alookup_skipOne_some hc' with ⟨_, h⟩ | ⟨rfl, c, h, rfl⟩
  · exact ht t hts c' h
  · exact told1_after c x k (Or.inr (ht t hts c h))

def GC (r : Runner V) (cm : Chans V) (P : List Key) : Prop :=
  ∀ s, skIn cm s = true → s ∈ P ∨ Told r cm s

def AllSkImp (cm : Chans V) : Prop := ∀ s c, alookup s cm = some c → SkImp c

theorem AllSkImp.step {cm : Chans V} (h : AllSkImp cm) (s k : Key) : AllSkImp (skipOne true cm s k).1 := by
  intro t c' hc'
  rcases alookup_skipOne_some hc' with ⟨_, h'⟩ | ⟨rfl, c, _, rfl⟩
  · exact h t c' h'
  · exact skimp_out c k

theorem skIn_skipOne (cm : Chans V) (s k t : Key) :
    skIn (skipOne true cm s k).1 t = if t = s then (goSkipOne true cm s k).2 else skIn cm t := by
  unfold skIn goSkipOne
  rw [alookup_skipOne]
  by_cases e : t = s
  · subst e
    simp only [if_true]
    cases hl : alookup t cm with
    | none => rfl
    | some c => simp only [Option.map_some]; rw [reportSkip_eq]
  · simp [e]

theorem GC.step {r : Runner V} {cm : Chans V} {P : List Key} (h : GC r cm P) (s k : Key) :
    GC r (skipOne true cm s k).1 (if (skipOne true cm s k).2 then P ++ [s] else P) := by
  intro t ht
  rw [skIn_skipOne] at ht
  by_cases hold : skIn cm t = true
  · refine (h t hold).imp (fun h1 => ?_) (·.step s k)
    split
    · exact List.mem_append_left _ h1
    · exact h1
  · -- `t` was not skipped before: it is `s`, and the model's flag is set
    by_cases e : t = s
    · subst e; rw [if_pos rfl] at ht; left; simp [skipOne_flag, ht, hold]
    · rw [if_neg e] at ht; exact absurd ht hold

theorem akeys_skipOne (dag : Bool) (cm : Chans V) (s k : Key) : akeys (skipOne dag cm s k).1 = akeys cm :=
  (keeps_skipOne (P := fun _ => True) (fun _ _ _ => trivial) cm s k).1

/-- popping a key whose skip has been passed on already changes no channel; Go appends every successor
    that is skipped once more -/
theorem told_pop (cm : Chans V) (x : Key) (hnd : (akeys cm).Nodup)
    (ss : List Key) (ht : ∀ s ∈ ss, ∀ c, alookup s cm = some c → Told1 c x) (q : List Key) :
    ss.foldl (goSkipStep true x) (cm, q) = (cm, q ++ ss.filter (skIn cm)) := by
  induction ss generalizing q with
  | nil => simp
  | cons s ss ih =>
    have h1 : goSkipOne true cm s x = (cm, skIn cm s) := by
      rw [goSkipOne, skIn]
      cases hl : alookup s cm with
      | none => rw [skipOne_none x hl]
      | some c =>
        have := told1_noop c x (ht s (List.mem_cons_self ..) c hl)
        simp only [skipOne_some x hl, this, modChan_self cm s c hnd hl]
    simp only [List.foldl_cons, goSkipStep, h1]
    rw [ih (fun t hts => ht t (List.mem_cons_of_mem _ hts))]
    by_cases hs : skIn cm s = true
    · simp [hs]
    · simp [hs]

theorem told1_fold (k : Key) (ss : List Key) (cm : Chans V) (a : List Key) (t : Key)
    (h : t ∈ ss ∨ ∀ c, alookup t cm = some c → Told1 c k) :
    ∀ c, alookup t (ss.foldl (skipStep true k) (cm, a)).1 = some c → Told1 c k := by
  -- the step at `t` makes it true, and no step undoes it
  have step : ∀ (b : Chans V × List Key) s, (s = t ∨ ∀ c, alookup t b.1 = some c → Told1 c k) →
      ∀ c, alookup t (skipStep true k b s).1 = some c → Told1 c k := by
    intro b s hs c' hc'
    rcases alookup_skipOne_some hc' with ⟨e, h'⟩ | ⟨rfl, c, _, rfl⟩
    · exact hs.resolve_left (Ne.symm e) c' h'
    · exact told1_after c k k (Or.inl rfl)
  rcases h with h | h
  · obtain ⟨pre, post, rfl⟩ := List.append_of_mem h
    rw [List.foldl_append, List.foldl_cons]
    exact foldl_inv (fun b => ∀ c, alookup t b.1 = some c → Told1 c k) _ post
      (fun b hb s _ => step b s (Or.inr hb)) _ (step _ t (Or.inl rfl))
  · exact foldl_inv (fun b => ∀ c, alookup t b.1 = some c → Told1 c k) _ ss
      (fun b hb s _ => step b s (Or.inr hb)) (cm, a) h

def mu (cm : Chans V) : Nat := (cm.filter (fun p => !p.2.skipped)).length

theorem mu_modChan (cm : Chans V) (s : Key) (c c' : Chan V) (hnd : (akeys cm).Nodup)
    (hl : alookup s cm = some c) :
    mu (modChan cm s (fun _ => c')) + (if c.skipped then 0 else 1) = mu cm + (if c'.skipped then 0 else 1) := by
  obtain ⟨pre, post, e, hm, _⟩ := modChan_split cm s c (fun _ => c') hnd hl
  rw [hm, e]
  simp only [mu, List.filter_append, List.filter_cons, List.length_append]
  cases c.skipped <;> cases c'.skipped <;> simp <;> omega

/-- a step that pushes a key turns one more channel skipped -/
theorem mu_skipStep (a : Chans V × List Key) (s k : Key) (hnd : (akeys a.1).Nodup) (hsk : AllSkImp a.1) :
    mu (skipStep true k a s).1 + (skipStep true k a s).2.length = mu a.1 + a.2.length := by
  rw [skipStep_eq]
  cases hl : alookup s a.1 with
  | none => rw [skipOne_none k hl]; rfl
  | some c =>
    rw [skipOne_some k hl]
    have hm := mu_modChan a.1 s c (c.reportSkip true [k]).1 hnd hl
    have hout : (c.reportSkip true [k]).1.skipped = (c.reportSkip true [k]).2 := by rw [reportSkip_eq]
    rw [hout] at hm
    by_cases hs : c.skipped = true
    · have := skimp_stays c k (hsk s c hl) hs
      simp only [hs, this, if_true, Bool.not_true, Bool.and_false, Bool.false_eq_true, if_false] at hm ⊢
      omega
    · have hs' : c.skipped = false := by simpa using hs
      simp only [hs', Bool.false_eq_true, if_false, Bool.not_false, Bool.and_true] at hm ⊢
      cases h2 : (c.reportSkip true [k]).2 <;> simp [h2] at hm ⊢ <;> omega

/-- Go's work list `qG` against the model's `qM`: the same keys in the same order, except that `qG` may
    contain further keys — keys that will have been popped before (they are in `P` or precede in `qM`), or
    whose skip has been passed on already (`Told`): popping those changes nothing -/
inductive Sim (r : Runner V) (cm : Chans V) : List Key → List Key → List Key → Prop where
  | nil (P : List Key) : Sim r cm P [] []
  | keep (P : List Key) (k : Key) (qG qM : List Key) : Sim r cm (k :: P) qG qM → Sim r cm P (k :: qG) (k :: qM)
  | red (P : List Key) (x : Key) (qG qM : List Key) : (x ∈ P ∨ Told r cm x) → Sim r cm P qG qM →
      Sim r cm P (x :: qG) qM

def TMono (r : Runner V) (cm cm' : Chans V) : Prop := ∀ x, Told r cm x → Told r cm' x

theorem Sim.weaken {r : Runner V} {cm cm' : Chans V} {P P' qG qM : List Key} (h : Sim r cm P qG qM)
    (hm : TMono r cm cm') (hp : ∀ x, x ∈ P → x ∈ P' ∨ Told r cm' x) : Sim r cm' P' qG qM := by
  induction h generalizing P' with
  | nil P => exact Sim.nil _
  | keep P k qG qM _ ih =>
    refine Sim.keep _ _ _ _ (ih (fun x hx => ?_))
    rcases List.mem_cons.mp hx with rfl | hx
    · exact Or.inl (List.mem_cons_self ..)
    · rcases hp x hx with h1 | h1
      · exact Or.inl (List.mem_cons_of_mem _ h1)
      · exact Or.inr h1
  | red P x qG qM hx _ ih =>
    refine Sim.red _ _ _ _ ?_ (ih hp)
    rcases hx with hx | hx
    · exact hp x hx
    · exact Or.inr (hm x hx)

theorem Sim.append {r : Runner V} {cm : Chans V} {P q1G q1M q2G q2M : List Key} (h1 : Sim r cm P q1G q1M)
    (h2 : Sim r cm (P ++ q1M) q2G q2M) : Sim r cm P (q1G ++ q2G) (q1M ++ q2M) := by
  induction h1 with
  | nil P => simpa using h2
  | keep P k qG qM _ ih =>
    refine Sim.keep _ _ _ _ (ih (h2.weaken (fun _ h => h) (fun x hx => Or.inl ?_)))
    simp only [List.mem_append, List.mem_cons] at hx ⊢
    rcases hx with hx | hx | hx
    · exact Or.inl (Or.inr hx)
    · exact Or.inl (Or.inl hx)
    · exact Or.inr hx
  | red P x qG qM hx _ ih => exact Sim.red _ _ _ _ hx (ih h2)

theorem Sim.snoc_keep {r : Runner V} {cm : Chans V} {P qG qM : List Key} (h : Sim r cm P qG qM) (s : Key) :
    Sim r cm P (qG ++ [s]) (qM ++ [s]) :=
  h.append (Sim.keep _ _ _ _ (Sim.nil _))

theorem Sim.snoc_red {r : Runner V} {cm : Chans V} {P qG qM : List Key} (h : Sim r cm P qG qM) (s : Key)
    (hs : s ∈ P ++ qM ∨ Told r cm s) : Sim r cm P (qG ++ [s]) qM := by
  have := h.append (Sim.red _ s [] [] hs (Sim.nil _))
  simpa using this

theorem Sim.all_red {r : Runner V} {cm : Chans V} {P : List Key} (l : List Key)
    (h : ∀ t ∈ l, t ∈ P ∨ Told r cm t) : Sim r cm P l [] := by
  induction l with
  | nil => exact Sim.nil _
  | cons t l ih =>
    exact Sim.red _ _ _ _ (h t (List.mem_cons_self ..)) (ih (fun u hu => h u (List.mem_cons_of_mem _ hu)))

theorem TMono.refl (r : Runner V) (cm : Chans V) : TMono r cm cm := fun _ h => h

theorem TMono.skipOne (r : Runner V) (cm : Chans V) (s k : Key) : TMono r cm (skipOne true cm s k).1 :=
  fun _ h => h.step s k

theorem skipFold_mu (k : Key) (ss : List Key) (acc : Chans V × List Key)
    (hnd : (akeys acc.1).Nodup) (hsk : AllSkImp acc.1) :
    (akeys (ss.foldl (skipStep true k) acc).1).Nodup ∧ AllSkImp (ss.foldl (skipStep true k) acc).1 ∧
    mu (ss.foldl (skipStep true k) acc).1 + (ss.foldl (skipStep true k) acc).2.length = mu acc.1 + acc.2.length := by
  refine foldl_inv (fun a => (akeys a.1).Nodup ∧ AllSkImp a.1 ∧ mu a.1 + a.2.length = mu acc.1 + acc.2.length) _ ss
    ?_ acc ⟨hnd, hsk, rfl⟩
  rintro a ⟨h1, h2, h3⟩ s -
  exact ⟨by rw [skipStep, akeys_skipOne]; exact h1, h2.step s k, (mu_skipStep a s k h1 h2).trans h3⟩

theorem fold_sim (r : Runner V) (k : Key) (Pb : List Key) (ss : List Key) :
    ∀ (cm : Chans V) (aG aM : List Key), GC r cm (Pb ++ aM) → Sim r cm Pb aG aM →
      (ss.foldl (goSkipStep true k) (cm, aG)).1 = (ss.foldl (skipStep true k) (cm, aM)).1 ∧
      GC r (ss.foldl (skipStep true k) (cm, aM)).1 (Pb ++ (ss.foldl (skipStep true k) (cm, aM)).2) ∧
      Sim r (ss.foldl (skipStep true k) (cm, aM)).1 Pb (ss.foldl (goSkipStep true k) (cm, aG)).2
        (ss.foldl (skipStep true k) (cm, aM)).2 ∧
      TMono r cm (ss.foldl (skipStep true k) (cm, aM)).1 := by
  induction ss with
  | nil => intro cm aG aM hgc hsim; exact ⟨rfl, hgc, hsim, TMono.refl _ _⟩
  | cons s ss ih =>
    intro cm aG aM hgc hsim
    have hsim0 : Sim r (skipOne true cm s k).1 Pb aG aM :=
      hsim.weaken (TMono.skipOne r cm s k) (fun _ h => Or.inl h)
    -- Go appends `s` whenever `reportSkip` returns true, the model only if `s` was not skipped before
    have hsim' : Sim r (skipOne true cm s k).1 Pb (if (goSkipOne true cm s k).2 then aG ++ [s] else aG)
        (if (skipOne true cm s k).2 then aM ++ [s] else aM) := by
      rw [skipOne_flag]
      cases hg : (goSkipOne true cm s k).2
      · exact hsim0
      · cases hold : skIn cm s
        · exact hsim0.snoc_keep s
        · exact hsim0.snoc_red s ((hgc s hold).imp_right (·.step s k))
    have hgc' : GC r (skipOne true cm s k).1 (Pb ++ if (skipOne true cm s k).2 then aM ++ [s] else aM) := by
      cases hf : (skipOne true cm s k).2 <;> simpa [hf] using hgc.step s k
    obtain ⟨i1, i2, i3, i4⟩ := ih _ _ _ hgc' hsim'
    exact ⟨i1, i2, i3, fun x hx => i4 x (hx.step s k)⟩

/-- Go's work list with the pending keys as a queue -/
def goQ (r : Runner V) : Nat → Chans V → List Key → Option (Except Err (Chans V))
  | _, cm, [] => some (.ok cm)
  | 0, _, _ :: _ => none
  | fuel + 1, cm, k :: rest =>
    match r.node? k with
    | none => some (.error { cls := .endSkipped })
    | some n =>
      goQ r fuel (n.successors.foldl (goSkipStep r.dag k) (cm, [])).1
        (rest ++ (n.successors.foldl (goSkipStep r.dag k) (cm, [])).2)

/-- `mu cm + qM.length` bounds the number of pops of the model's list -/
theorem sim_main (r : Runner V) (hd : r.dag = true) (fuelG : Nat) (cm : Chans V) (qG : List Key) :
    ∀ (qM : List Key) (R : Except Err (Chans V)),
      (akeys cm).Nodup → AllSkImp cm → GC r cm qM → Sim r cm [] qG qM →
      goQ r fuelG cm qG = some R →
      ∀ fuelM, mu cm + qM.length ≤ fuelM → propagateSkips r fuelM cm qM = R ∧
        ∀ cm', R = .ok cm' → (akeys cm').Nodup ∧ AllSkImp cm' ∧ GC r cm' [] := by
  induction fuelG, cm, qG using goQ.induct r with
  | case1 fuelG cm =>
    -- Go's list is empty: so is the model's
    intro qM R hnd hsk hgc hsim hgo fuelM _
    cases hsim
    obtain rfl : Except.ok cm = R := by cases fuelG <;> simpa [goQ] using hgo
    exact ⟨propagateSkips_nil r fuelM cm, fun cm' h => by cases h; exact ⟨hnd, hsk, hgc⟩⟩
  | case2 cm x qG' => intro qM R _ _ _ _ hgo; simp [goQ] at hgo
  | case3 f cm x qG' hn =>
    intro qM R hnd hsk hgc hsim hgo fuelM hf
    cases hsim with
    | keep _ _ _ qM' hsim' =>
      obtain ⟨m, rfl⟩ := Nat.exists_eq_add_one_of_ne_zero (n := fuelM) (by rw [List.length_cons] at hf; omega)
      simp only [goQ, propagateSkips, hn, Option.some.injEq] at hgo ⊢
      exact ⟨hgo, fun cm' h => by rw [← hgo] at h; cases h⟩
    | red _ _ _ _ hx hsim' =>
      obtain ⟨n, hn', _⟩ : Told r cm x := hx.resolve_left List.not_mem_nil
      rw [hn] at hn'; cases hn'
  | case4 f cm x qG' n hn ih =>
    intro qM R hnd hsk hgc hsim hgo fuelM hf
    simp only [goQ, hn, hd] at hgo
    rw [hd] at ih
    cases hsim with
    | keep _ _ _ qM' hsim' =>
      -- both pop x
      obtain ⟨m, rfl⟩ := Nat.exists_eq_add_one_of_ne_zero (n := fuelM) (by rw [List.length_cons] at hf; omega)
      simp only [propagateSkips, hd, hn]
      obtain ⟨e1, e4, e5, e6⟩ := fold_sim r x (x :: qM') n.successors cm [] [] (by simpa using hgc) (Sim.nil _)
      obtain ⟨e2, e3, e7⟩ := skipFold_mu x n.successors (cm, []) hnd hsk
      have htold : Told r (n.successors.foldl (skipStep true x) (cm, [])).1 x :=
        ⟨n, hn, fun s hs c hc => told1_fold x n.successors cm [] s (Or.inl hs) c hc⟩
      -- so `x` need not stay pending
      have hp : ∀ (P : List Key) y, y ∈ x :: P →
          y ∈ P ∨ Told r (n.successors.foldl (skipStep true x) (cm, [])).1 y := fun P y hy =>
        (List.mem_cons.mp hy).elim (fun e => Or.inr (by rw [e]; exact htold)) Or.inl
      rw [e1] at hgo ih
      refine ih _ R e2 e3 (fun s hs => (e4 s hs).elim (hp (qM' ++ _) s) Or.inr)
        ((hsim'.weaken e6 (hp [])).append (e5.weaken (TMono.refl _ _) (hp qM'))) hgo m ?_
      simp only [List.length_append, List.length_cons, List.length_nil] at e7 hf ⊢
      omega
    | red _ _ _ _ hx hsim' =>
      -- Go pops a key whose skip has been passed on: nothing changes
      obtain ⟨n', hn', ht⟩ : Told r cm x := hx.resolve_left List.not_mem_nil
      obtain rfl : n' = n := by rw [hn] at hn'; exact (Option.some.inj hn').symm
      rw [told_pop cm x hnd n'.successors ht [], List.nil_append] at hgo ih
      refine ih qM R hnd hsk hgc ?_ hgo fuelM hf
      simpa using hsim'.append
        (Sim.all_red (P := [] ++ qM) _ fun t ht' => hgc t (List.mem_filter.mp ht').2)

/-- Go's work list of `reportBranch` on the model's channels as the code has it: `nKeys` grows at its end,
    `i` is the next key to pop, a key is appended whenever `reportSkip` returns true.  `none`: the fuel ran
    out before the list was exhausted (the Go loop, which has no fuel, has not finished yet). -/
def goWL (r : Runner V) : Nat → Chans V → List Key → Nat → Option (Except Err (Chans V))
  | 0, cm, nKeys, i => if i < nKeys.length then none else some (.ok cm)
  | fuel + 1, cm, nKeys, i =>
    if i < nKeys.length then
      match r.node? (nKeys.getD i "") with
      | none => some (.error { cls := .endSkipped })
      | some n =>
        goWL r fuel (n.successors.foldl (goSkipStep r.dag (nKeys.getD i "")) (cm, nKeys)).1
          (n.successors.foldl (goSkipStep r.dag (nKeys.getD i "")) (cm, nKeys)).2 (i + 1)
    else some (.ok cm)

theorem goSkip_fold_acc (dag : Bool) (k : Key) (ss : List Key) (cm : Chans V) (q q' : List Key) :
    ss.foldl (goSkipStep dag k) (cm, q ++ q') =
      ((ss.foldl (goSkipStep dag k) (cm, q')).1, q ++ (ss.foldl (goSkipStep dag k) (cm, q')).2) := by
  induction ss generalizing cm q' with
  | nil => rfl
  | cons s ss ih =>
    simp only [List.foldl_cons, goSkipStep]
    by_cases h : (goSkipOne dag cm s k).2 = true
    · simp only [h, if_true, List.append_assoc]; exact ih _ _
    · simp only [h, Bool.false_eq_true, if_false]; exact ih _ _

theorem goWL_done (r : Runner V) (fuel : Nat) (cm : Chans V) {nKeys : List Key} {i : Nat} (h : nKeys.length ≤ i) :
    goWL r fuel cm nKeys i = some (.ok cm) := by
  cases fuel <;> rw [goWL, if_neg (Nat.not_lt.mpr h)]

theorem goWL_eq_goQ (r : Runner V) (fuel : Nat) (cm : Chans V) (nKeys : List Key) (i : Nat) :
    goWL r fuel cm nKeys i = goQ r fuel cm (nKeys.drop i) := by
  induction fuel generalizing cm nKeys i with
  | zero =>
    rcases Nat.lt_or_ge i nKeys.length with h | h
    · rw [goWL, if_pos h, List.drop_eq_getElem_cons h, goQ]
    · rw [goWL_done r 0 cm h, List.drop_eq_nil_iff.mpr h, goQ]
  | succ f ih =>
    rcases Nat.lt_or_ge i nKeys.length with h | h
    · rw [goWL, if_pos h, List.drop_eq_getElem_cons h, goQ, List.getD_eq_getElem?_getD, List.getElem?_eq_getElem h,
        Option.getD_some]
      cases r.node? nKeys[i] with
      | none => rfl
      | some n =>
        -- the fold appends to `nKeys` what it appends to the empty list
        have hacc := goSkip_fold_acc r.dag nKeys[i] n.successors cm nKeys []
        rw [List.append_nil] at hacc
        simp only [hacc]
        rw [ih, List.drop_append_of_le_length (by omega)]
    · rw [goWL_done r (f + 1) cm h, List.drop_eq_nil_iff.mpr h, goQ]

/-- Go's `reportBranch` on the model's channels: the first loop, then the work list -/
def goReportBranch (r : Runner V) (fuel : Nat) (cm : Chans V) (from_ : Key) (sk : List Key) :
    Option (Except Err (Chans V)) :=
  goWL r fuel (sk.foldl (goSkipStep r.dag from_) (cm, [])).1 (sk.foldl (goSkipStep r.dag from_) (cm, [])).2 0

/-- every skipped channel has passed its skip on to its successors (in particular END is not skipped):
    true before the first `reportBranch` of a run, and kept by `reportBranch` itself (`goReportBranch_eq`) -/
def SkipClosed (r : Runner V) (cm : Chans V) : Prop := GC r cm []

theorem pregel_never_pushes (k : Key) (ss : List Key) (cm : Chans V) (q : List Key) :
    ss.foldl (goSkipStep false k) (cm, q) = (cm, q) := by
  have h1 : ∀ s, goSkipStep false k (cm, q) s = (cm, q) := fun s => by
    simp only [goSkipStep, goSkipOne, skipOne, Bool.not_false, if_true]
    cases alookup s cm <;> simp [Chan.reportSkip]
  exact foldl_inv (· = (cm, q)) _ ss (fun _ e s _ => e ▸ h1 s) _ rfl

/-- any-predecessor mode: `reportSkip` always returns false, nothing is appended, nothing changes -/
theorem goReportBranch_pregel (r : Runner V) (hd : r.dag = false) (fuel : Nat) (cm : Chans V) (from_ : Key)
    (sk : List Key) : goReportBranch r fuel cm from_ sk = some (.ok cm) := by
  rw [goReportBranch, hd, pregel_never_pushes from_ sk cm []]
  exact goWL_done r fuel cm (Nat.le_refl _)

/-- **Go's work list and the model's work list compute the same.**  Whenever Go's loop (which pushes a key
    every time `reportSkip` returns true) runs to completion with the given fuel, its outcome is that of the
    model's `reportBranch` (which pushes a key only when it becomes skipped, with its own fuel
    `(n+2)²`): the same channels, or the same "unknown node" error. -/
theorem goReportBranch_eq (r : Runner V) (fuel : Nat) (cm : Chans V) (from_ : Key) (sk : List Key)
    (R : Except Err (Chans V)) (hnd : (akeys cm).Nodup) (hsk : AllSkImp cm) (hcl : SkipClosed r cm)
    (hlen : cm.length ≤ (r.nodes.length + 2) * (r.nodes.length + 2))
    (hgo : goReportBranch r fuel cm from_ sk = some R) :
    reportBranch r cm from_ sk = R ∧
      ∀ cm', R = .ok cm' → r.dag = true → (akeys cm').Nodup ∧ AllSkImp cm' ∧ SkipClosed r cm' := by
  cases hd : r.dag with
  | false =>
    rw [goReportBranch_pregel r hd] at hgo
    cases hgo
    exact ⟨reportBranch_pregel r hd cm from_ sk, fun _ _ h => by cases h⟩
  | true =>
    rw [goReportBranch, hd] at hgo
    rw [reportBranch, hd]
    obtain ⟨e1, e4, e5, _⟩ := fold_sim r from_ [] sk cm [] [] (by simpa [SkipClosed] using hcl) (Sim.nil _)
    obtain ⟨e2, e3, e7⟩ := skipFold_mu from_ sk (cm, []) hnd hsk
    rw [goWL_eq_goQ, List.drop_zero, e1] at hgo
    have := sim_main r hd fuel _ _ _ R e2 e3 (by simpa using e4) e5 hgo
      ((r.nodes.length + 2) * (r.nodes.length + 2)) ?_
    · exact ⟨this.1, fun cm' h _ => this.2 cm' h⟩
    have hmu : mu cm ≤ cm.length := by unfold mu; exact List.length_filter_le _ _
    simp only [List.length_nil] at e7
    omega

def succOf (r : Runner V) (k : Key) : List Key := ((r.node? k).map Node.successors).getD []

/-- a bound on the number of pops that popping `k` can cause, for paths of at most `d` further edges:
    Go's list pops a key once per path that reaches it -/
def W (r : Runner V) : Nat → Key → Nat
  | 0, _ => 1
  | d + 1, k => 1 + ((succOf r k).map (W r d)).sum

/-- the potential of Go's queue: a bound on the number of pops still to come -/
def Psi (r : Runner V) (rank : Key → Nat) (D : Nat) (q : List Key) : Nat :=
  (q.map (fun k => W r (D - rank k) k)).sum

theorem sum_map_le {α} (l : List α) (f g : α → Nat) (h : ∀ x ∈ l, f x ≤ g x) : (l.map f).sum ≤ (l.map g).sum := by
  induction l with
  | nil => simp
  | cons a l ih =>
    simp only [List.map_cons, List.sum_cons]
    have := h a (List.mem_cons_self ..)
    have := ih (fun x hx => h x (List.mem_cons_of_mem _ hx))
    omega

theorem sum_map_sublist {α} (l l' : List α) (f : α → Nat) (h : l.Sublist l') : (l.map f).sum ≤ (l'.map f).sum := by
  induction h with
  | slnil => simp
  | cons a _ ih => simp only [List.map_cons, List.sum_cons]; omega
  | cons_cons a _ ih => simp only [List.map_cons, List.sum_cons]; omega

theorem W_pos (r : Runner V) (d : Nat) (k : Key) : 1 ≤ W r d k := by
  cases d <;> simp [W] <;> omega

theorem W_mono (r : Runner V) : ∀ {d d' : Nat} (k : Key), d ≤ d' → W r d k ≤ W r d' k
  | 0, d', k, _ => W_pos r d' k
  | d + 1, d' + 1, k, h => by
    have := sum_map_le (succOf r k) (W r d) (W r d') fun s _ => W_mono r s (Nat.le_of_succ_le_succ h)
    simp only [W]
    omega

theorem pushes_sublist (dag : Bool) (k : Key) (ss : List Key) (cm : Chans V) (q : List Key) :
    ∃ pushed, (ss.foldl (goSkipStep dag k) (cm, q)).2 = q ++ pushed ∧ pushed.Sublist ss ∧
      (∀ s ∈ pushed, s ∈ akeys cm) ∧ akeys (ss.foldl (goSkipStep dag k) (cm, q)).1 = akeys cm := by
  induction ss generalizing cm q with
  | nil => exact ⟨[], by simp, List.Sublist.refl _, by simp, rfl⟩
  | cons s ss ih =>
    have hk : akeys (goSkipOne dag cm s k).1 = akeys cm := akeys_skipOne dag cm s k
    obtain ⟨p, e1, e2, e3, e4⟩ :=
      ih (goSkipOne dag cm s k).1 (if (goSkipOne dag cm s k).2 then q ++ [s] else q)
    rw [hk] at e3 e4
    by_cases hf : (goSkipOne dag cm s k).2 = true
    · have hs : s ∈ akeys cm := (alookup_isSome_iff s cm).mp (by
        unfold goSkipOne at hf; cases hl : alookup s cm <;> simp [hl] at hf ⊢)
      exact ⟨s :: p, e1.trans (by simp [hf]), e2.cons_cons s, List.forall_mem_cons.mpr ⟨hs, e3⟩, e4⟩
    · exact ⟨p, e1.trans (by simp [hf]), e2.cons s, e3, e4⟩

/-- popping `k` pays for whatever it pushes: successors of `k`, each at most once, all of them deeper -/
theorem Psi_pop (r : Runner V) (rank : Key → Nat) (D : Nat) {k : Key} {n : Node V} (hn : r.node? k = some n)
    {pushed : List Key} (hsub : pushed.Sublist n.successors)
    (hlt : ∀ s ∈ pushed, rank k < rank s ∧ rank s ≤ D) : Psi r rank D pushed + 1 ≤ W r (D - rank k) k := by
  cases hd : D - rank k with
  | zero =>
    cases pushed with
    | nil => simp [Psi, W]
    | cons s ps => have := hlt s (List.mem_cons_self ..); omega
  | succ d =>
    have h1 : Psi r rank D pushed ≤ (pushed.map (W r d)).sum :=
      sum_map_le _ _ _ fun s hs => W_mono r s (by have := hlt s hs; omega)
    have h2 := sum_map_sublist pushed n.successors (W r d) hsub
    simp only [W, succOf, hn, Option.map_some, Option.getD_some]
    omega

theorem goQ_terminates (r : Runner V) (rank : Key → Nat) (D : Nat)
    (hacyc : ∀ n ∈ r.nodes, ∀ s ∈ n.successors, rank n.key < rank s) :
    ∀ (fuel : Nat) (cm : Chans V) (q : List Key), (∀ k ∈ q, k ∈ akeys cm) → (∀ k ∈ akeys cm, rank k ≤ D) →
      Psi r rank D q ≤ fuel → ∃ R, goQ r fuel cm q = some R := by
  intro fuel cm q
  induction fuel, cm, q using goQ.induct r with
  | case1 fuel cm => intro _ _ _; exact ⟨_, by rw [goQ]⟩
  | case2 cm k rest =>
    intro _ _ hf
    have := W_pos r (D - rank k) k
    simp only [Psi, List.map_cons, List.sum_cons] at hf
    omega
  | case3 f cm k rest hn => intro _ _ _; exact ⟨_, by rw [goQ, hn]⟩
  | case4 f cm k rest n hn ih =>
    intro hq hD hf
    obtain ⟨hmem, hkey⟩ := node?_some r k n hn
    obtain ⟨pushed, e1, e2, e3, e4⟩ := pushes_sublist r.dag k n.successors cm []
    simp only [goQ, hn]
    rw [e1, List.nil_append] at ih ⊢
    rw [e4] at ih
    refine ih (fun t ht => (List.mem_append.mp ht).elim (fun h => hq t (List.mem_cons_of_mem _ h)) (e3 t)) hD ?_
    have := Psi_pop r rank D hn e2 fun s hs => ⟨hkey ▸ hacyc n hmem s (e2.subset hs), hD s (e3 s hs)⟩
    simp only [Psi, List.map_cons, List.sum_cons, List.map_append, List.sum_append] at hf this ⊢
    omega

/-- **the Go loop of `reportBranch` terminates** when the successor relation is acyclic (what `validateDAG`
    enforces in all-predecessor mode; in any-predecessor mode nothing is ever appended): there is a fuel
    from which on Go's work list is exhausted -/
theorem goReportBranch_terminates (r : Runner V) (rank : Key → Nat)
    (hacyc : r.dag = true → ∀ n ∈ r.nodes, ∀ s ∈ n.successors, rank n.key < rank s)
    (cm : Chans V) (from_ : Key) (sk : List Key) :
    ∃ N, ∀ fuel, N ≤ fuel → ∃ R, goReportBranch r fuel cm from_ sk = some R := by
  cases hd : r.dag with
  | false => exact ⟨0, fun fuel _ => ⟨_, goReportBranch_pregel r hd fuel cm from_ sk⟩⟩
  | true =>
    obtain ⟨D, hD⟩ : ∃ D, ∀ k ∈ akeys cm, rank k ≤ D :=
      ⟨_, fun k hk => List.le_max?_getD_of_mem (k := 0) (List.mem_map_of_mem (f := rank) hk)⟩
    obtain ⟨pushed, e1, _, e3, e4⟩ := pushes_sublist r.dag from_ sk cm []
    refine ⟨Psi r rank D pushed, fun fuel hf => ?_⟩
    unfold goReportBranch
    rw [goWL_eq_goQ, List.drop_zero, e1]
    simp only [List.nil_append]
    exact goQ_terminates r rank D (hacyc hd) fuel _ pushed (fun k hk => by rw [e4]; exact e3 k hk)
      (by rw [e4]; exact hD) hf

end EinoV.GoWorkList
