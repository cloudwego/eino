/-
  Refinement: the code translated from compose/dag.go (Gen/TransC02.lean, regenerated from /repo
  on every run) computes what the hand-written channel model of `Model/Engine.lean` computes.
  Everything proved about `Chan.reportValues / reportDeps / reportSkip / get` in all-predecessor
  mode (and, through them, about whole runs) is thereby a statement about the translated text.
-/
import EinoV.Gen.TransC02
import EinoV.Proofs.GoLoop
import EinoV.Proofs.Assoc
import EinoV.Proofs.EngineOps
namespace EinoV.TransDag
open EinoV.GoSem EinoV.Engine EinoV.Gen.TransC02

variable {V : Type} [Inhabited V]

/-- the translated struct is the model's channel, field by field -/
def toChan (c : dagChannel V) : Chan V :=
  { values := c.Values, ctrl := c.ControlPredecessors, data := c.DataPredecessors, skipped := c.Skipped }

def ofChan (c : Chan V) : dagChannel V :=
  { Values := c.values, ControlPredecessors := c.ctrl, DataPredecessors := c.data, Skipped := c.skipped }

theorem toChan_ofChan (c : Chan V) : toChan (ofChan c) = c := rfl
theorem ofChan_toChan (c : dagChannel V) : ofChan (toChan c) = c := rfl
theorem toChan_skipped (c : dagChannel V) : (toChan c).skipped = c.Skipped := rfl

def extOf (ops : ValOps V) (emptyStream : V) : Ext V :=
  { zeroValue := ops.zero, emptyStream := emptyStream,
    mergeValues := fun vs => match ops.merge vs with
      | some v => (v, none)
      | none => (default, some (GoErr.mk "merge")) }

theorem reportValues_refines (ext : Ext V) (ch : dagChannel V) (ins : GoMap V) :
    toChan (dagChannel_reportValues ext ch ins).1 = (toChan ch).reportValues true ins ∧
    (dagChannel_reportValues ext ch ins).2 = none := by
  unfold dagChannel_reportValues Chan.reportValues
  simp only [forIn_id, Id.run, if_true, bind, pure, toChan_skipped]
  by_cases hs : ch.Skipped = true
  · simp [hs]
  · simp only [hs, Bool.false_eq_true, if_false, and_true]
    refine goLoop_fold toChan _ _ ?_ ins ch
    intro kv c
    by_cases hk : (alookup kv.fst c.DataPredecessors).isSome = true <;>
      simp [hk, GoMap.has, GoMap.set, toChan]

theorem reportDependencies_refines (ext : Ext V) (ch : dagChannel V) (deps : List String) :
    toChan (dagChannel_reportDependencies ext ch deps) = (toChan ch).reportDeps true deps := by
  unfold dagChannel_reportDependencies Chan.reportDeps
  simp only [forIn_id, Id.run, if_true, bind, pure, toChan_skipped]
  by_cases hs : ch.Skipped = true
  · simp [hs]
  · simp only [hs, Bool.false_eq_true, if_false]
    refine goLoop_fold toChan _ _ ?_ deps ch
    intro k c
    by_cases hk : (alookup k c.ControlPredecessors).isSome = true <;>
      simp [hk, GoMap.has, GoMap.set, toChan]


theorem all_skipped_eq (l : GoMap Dep) :
    (if l.any (fun x => x.snd != Dep.skipped) then false else true) = l.all (fun p => p.2 == Dep.skipped) := by
  rw [List.all_eq_not_any_not]
  show (if l.any (fun x => !(x.snd == Dep.skipped)) then false else true) = _
  cases l.any (fun x => !(x.snd == Dep.skipped)) <;> rfl

theorem reportSkip_refines (ext : Ext V) (ch : dagChannel V) (keys : List String) :
    (toChan (dagChannel_reportSkip ext ch keys).1, (dagChannel_reportSkip ext ch keys).2)
      = (toChan ch).reportSkip true keys := by
  unfold dagChannel_reportSkip Chan.reportSkip
  simp only [forIn_id, Id.run, if_true, bind, pure]
  generalize hc1 : goLoop _ keys ch = c1
  have h1 : toChan c1 = keys.foldl (fun (c : Chan V) k =>
      let c := if (alookup k c.ctrl).isSome then { c with ctrl := aset k Dep.skipped c.ctrl } else c
      if (alookup k c.data).isSome then { c with data := aset k true c.data } else c) (toChan ch) := by
    rw [← hc1]
    refine goLoop_fold toChan _ _ ?_ keys ch
    intro k c
    by_cases h1 : (alookup k c.ControlPredecessors).isSome = true <;>
    by_cases h2 : (alookup k c.DataPredecessors).isSome = true <;>
      simp [h1, h2, GoMap.has, GoMap.set, toChan]
  rw [← h1, goLoop_search (fun x => x.snd != Dep.skipped) false c1.ControlPredecessors true, all_skipped_eq]
  simp [toChan]


theorem foldl_aset_all {α : Type} (w : α) (pre l : GoMap α) (h : KeysNodup (pre ++ l)) :
    l.foldl (fun m (x : String × α) => aset x.1 w m) (pre ++ l) = pre ++ l.map (fun p => (p.1, w)) := by
  induction l generalizing pre with
  | nil => simp
  | cons a l ih =>
    obtain ⟨k, v⟩ := a
    obtain ⟨_, hset, hnd⟩ := h.visit
    rw [List.foldl_cons, hset w, ih _ (hnd w)]
    simp [List.append_assoc]

theorem foldl_aset_all' {α : Type} (w : α) (l : GoMap α) (h : KeysNodup l) :
    l.foldl (fun m (x : String × α) => aset x.1 w m) l = l.map (fun p => (p.1, w)) := by
  simpa using foldl_aset_all w [] l (by simpa using h)

/-- well-formed channel: one entry per predecessor (what `dagChannelBuilder` builds from Go maps) -/
def WF (c : dagChannel V) : Prop := KeysNodup c.ControlPredecessors ∧ KeysNodup c.DataPredecessors

theorem ctrl_fold {α : Type} (w : Dep) (l : List (String × α)) (s : dagChannel V) :
    l.foldl (fun (s : dagChannel V) x => { s with ControlPredecessors := s.ControlPredecessors.set x.1 w }) s
      = { s with ControlPredecessors := l.foldl (fun m x => aset x.1 w m) s.ControlPredecessors } :=
  List.foldl_hom (fun m => ({ s with ControlPredecessors := m } : dagChannel V)) (fun _ _ => rfl)

theorem data_fold {α : Type} (w : Bool) (l : List (String × α)) (s : dagChannel V) :
    l.foldl (fun (s : dagChannel V) x => { s with DataPredecessors := s.DataPredecessors.set x.1 w }) s
      = { s with DataPredecessors := l.foldl (fun m x => aset x.1 w m) s.DataPredecessors } :=
  List.foldl_hom (fun m => ({ s with DataPredecessors := m } : dagChannel V)) (fun _ _ => rfl)

theorem defer_refines (ext : Ext V) (ch : dagChannel V) (h : WF ch) :
    toChan (dagChannel_get__defer ext ch) = (toChan ch).reset := by
  unfold dagChannel_get__defer Chan.reset
  simp only [forIn_id, Id.run, bind, pure]
  have e1 := goLoop_yield (fun (s : dagChannel V) (x : String × Dep) =>
      { s with ControlPredecessors := s.ControlPredecessors.set x.1 Dep.waiting }) ch.ControlPredecessors
      { ch with Values := [] }
  have e2 := fun (s : dagChannel V) (l : GoMap Bool) => goLoop_yield (fun (s : dagChannel V) (x : String × Bool) =>
      { s with DataPredecessors := s.DataPredecessors.set x.1 false }) l s
  rw [e1, e2, ctrl_fold, data_fold]
  simp only [toChan, foldl_aset_all' _ _ h.1, foldl_aset_all' _ _ h.2]


/-- what the three Go results mean for the caller (`getFromReadyChannels`): an error, a ready
    value, or not ready -/
def getResult (r : V × Bool × Option GoErr) : GetResult V :=
  if r.2.2.isSome then .mergeErr else if r.2.1 then .ready r.1 else .notReady

/-- the model's value operations as seen by `get(isStream)`: in stream mode the value handed out
    when nothing arrived is the empty stream -/
def opsFor (ops : ValOps V) (es : V) (isStream : Bool) : ValOps V :=
  { ops with zero := if isStream then es else ops.zero }

theorem get_refines (ops : ValOps V) (es : V) (ch : dagChannel V) (isStream : Bool) (h : WF ch) :
    toChan (dagChannel_get (extOf ops es) ch isStream).1 = ((toChan ch).get (opsFor ops es isStream) true).1 ∧
    getResult (dagChannel_get (extOf ops es) ch isStream).2 = ((toChan ch).get (opsFor ops es isStream) true).2 := by
  unfold dagChannel_get Chan.get
  simp only [forIn_id, Id.run, if_true, bind, pure, goLoop_collect, List.nil_append]
  rw [goLoop_search' (fun (x : String × Dep) => x.snd == Dep.waiting), goLoop_search' (fun (x : String × Bool) => !x.snd)]
  -- the four early returns test the four conjuncts of `triggered`, in Go's spelling
  have he : ∀ {α : Type} (l : List α), (l.length == 0) = l.isEmpty := fun l => by cases l <;> rfl
  have ht : (toChan ch).triggered =
      (!ch.Skipped && !(ch.ControlPredecessors.length == 0 && ch.DataPredecessors.length == 0) &&
        !(ch.ControlPredecessors.any fun x => x.snd == Dep.waiting) && !(ch.DataPredecessors.any fun x => !x.snd)) := by
    simp [Chan.triggered, toChan, he]
  rw [ht]
  cases ch.Skipped
  case true => simp [getResult]
  cases (ch.ControlPredecessors.length == 0 && ch.DataPredecessors.length == 0)
  case true => simp [getResult]
  cases (ch.ControlPredecessors.any fun x => x.snd == Dep.waiting)
  case true => simp [getResult]
  cases (ch.DataPredecessors.any fun x => !x.snd)
  case true => simp [getResult]
  -- triggered: the deferred reset has run, and the value goes by the number of reported values
  have hd := fun ext => defer_refines (V := V) ext ch h
  have hva : (toChan ch).values = ch.Values := rfl
  rcases hv : ch.Values with _ | ⟨a, _ | ⟨b, rest⟩⟩
  · cases isStream <;> simp [hd, hva, hv, getResult, opsFor, extOf]
  · simp [hd, hva, hv, getResult, collect]
  · simp only [hva, hv, List.map_cons, List.length_cons, extOf]
    cases hmm : ops.merge (a.snd :: b.snd :: List.map Prod.snd rest) <;>
      simp [hd, getResult, collect, opsFor, hmm]


theorem mem_keys_has {α : Type} (m : GoMap α) (x : String × α) (hx : x ∈ m) : m.has x.1 = true :=
  has_of_mem_keys m x.1 (List.mem_map_of_mem hx)

/-- `WF` read on the model's channel: the model's operations only mark entries (Proofs/EngineOps.lean), and the
    translated ones compute them -/
theorem wf_iff (c : dagChannel V) : WF c ↔ (akeys (toChan c).ctrl).Nodup ∧ (akeys (toChan c).data).Nodup := Iff.rfl

theorem reportValues_wf (ext : Ext V) (ch : dagChannel V) (ins : GoMap V) (h : WF ch) :
    WF (dagChannel_reportValues ext ch ins).1 := by
  rw [wf_iff] at h ⊢
  rw [(reportValues_refines ext ch ins).1, reportValues_markAll]
  split
  · exact h
  · exact ⟨h.1, by simpa only [akeys_markAll] using h.2⟩

theorem reportDependencies_wf (ext : Ext V) (ch : dagChannel V) (deps : List String) (h : WF ch) :
    WF (dagChannel_reportDependencies ext ch deps) := by
  rw [wf_iff] at h ⊢
  rw [reportDependencies_refines, reportDeps_markAll]
  split
  · exact h
  · exact ⟨by simpa only [akeys_markAll] using h.1, h.2⟩

theorem reportSkip_wf (ext : Ext V) (ch : dagChannel V) (keys : List String) (h : WF ch) :
    WF (dagChannel_reportSkip ext ch keys).1 := by
  rw [wf_iff] at h ⊢
  rw [show toChan (dagChannel_reportSkip ext ch keys).1 = _ from congrArg Prod.fst (reportSkip_refines ext ch keys),
    reportSkip_markAll]
  exact ⟨by simpa only [akeys_markAll] using h.1, by simpa only [akeys_markAll] using h.2⟩

theorem get_wf (ops : ValOps V) (es : V) (ch : dagChannel V) (isStream : Bool) (h : WF ch) :
    WF (dagChannel_get (extOf ops es) ch isStream).1 := by
  have e := (get_refines ops es ch isStream h).1
  rw [wf_iff] at h ⊢
  rw [e, get_fst]
  split
  · simp only [Chan.reset, akeys_map_mk Prod.fst]
    exact h
  · exact h

/-- what `dagChannelBuilder` builds (one `waiting` / `false` entry per distinct predecessor) is
    well formed; `Chan.init` is that builder in the model -/
theorem init_wf (ctrlPreds dataPreds : List Key) :
    WF (ofChan (Chan.init (V := V) true ctrlPreds dataPreds)) := by
  rw [wf_iff, toChan_ofChan, Chan.init]
  simp only [if_true, akeys_map_mk (fun k => k), List.map_id']
  exact ⟨nodup_eraseDups _, nodup_eraseDups _⟩

end EinoV.TransDag
