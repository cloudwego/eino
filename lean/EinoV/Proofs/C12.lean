/-
  C12 — helper lemmas for the serialisation round trip (property statements are in
  EinoV/Props/C12.lean).  In file order:
  from `bind_ok`, small facts on pointer counting (`ptrN`, `wrap`), the nil interface and the registry
  (`reg_inv`);  from `encP_basic`, success of the encoder unfolded, one `↔` per `GoVal` constructor and
  per cons case of the list encoders;  `encP_total` (mutual with its list forms), the totality twin of
  the round trip: every `encodable` value is accepted, whatever the `Facts`;  from `Fall`, the vocabulary
  of the round trip: `R a b` relates a decoded value `a` to the original `b` (equal up to nil/empty
  containers, same dynamic type, nil interface on both sides or on neither), `RelVals` / `RelKVs` /
  `RelMap` lift it to lists of children;  from `place_ok`, the decoder's assembly steps (`place`,
  `placeVals`, `placeKVs`, `buildFields`) succeed on children `R`-related to elements that fit their slot;
  `child_dec`, then `encP_dec` (mutual with its list forms), the round-trip lemma, for `Fall`;  from
  `encP_not_absent`, the step from `dec` to `unmarshalTop`, ending in `enc_unmarshalTop`, the form
  Props/C12.lean uses;  last `encP_regd` (an accepted value names registered types only).
-/
import EinoV.Model.C12
import EinoV.Proofs.Monadic

namespace EinoV.C12

theorem bind_ok {ε α β : Type} {x : Except ε α} {f : α → Except ε β} {b : β} :
    (x >>= f) = .ok b ↔ ∃ a, x = .ok a ∧ f a = .ok b :=
  bind_eq_ok

theorem ptrN_ptr (n : Nat) (t : GoTy) : ptrN n (.ptr t) = .ptr (ptrN n t) := by
  induction n generalizing t with
  | zero => rfl
  | succ n ih => simp only [ptrN]; exact ih (.ptr t)

theorem ptrN_depth_strip (t : GoTy) : ptrN t.depth t.strip = t := by
  induction t with
  | ptr t ih => simp only [GoTy.depth, GoTy.strip, ptrN, ptrN_ptr, ih]
  | _ => rfl

theorem typeOf_wrap (n : Nat) (v : GoVal) : (wrap n v).typeOf = ptrN n v.typeOf := by
  induction n generalizing v with
  | zero => rfl
  | succ n ih => simp only [wrap, ptrN]; exact ih (.ptr v)

theorem norm_wrap (n : Nat) (v : GoVal) : (wrap n v).norm = wrap n v.norm := by
  induction n generalizing v with
  | zero => rfl
  | succ n ih => simp only [wrap]; rw [ih]; simp only [GoVal.norm]

theorem wrap_inj {n : Nat} {a b : GoVal} (h : wrap n a = wrap n b) : a = b := by
  induction n generalizing a b with
  | zero => exact h
  | succ n ih => simp only [wrap] at h; have := ih h; cases this; rfl

theorem isINil_eq_true {v : GoVal} (h : v.isINil = true) : v = .inil := by
  cases v <;> simp [GoVal.isINil] at h; rfl

theorem wt_not_inil {ctx : Ctx} {v : GoVal} (h : v.wt ctx = true) : v.isINil = false := by
  cases v <;> simp [GoVal.isINil, GoVal.wt] at h ⊢

theorem keyOfE_ok {ctx : Ctx} {t : GoTy} {k : Name} : keyOfE ctx t = .ok k ↔ keyOf ctx t = some k := by
  unfold keyOfE; split <;> simp_all

theorem tyOfKeyE_ok {ctx : Ctx} {k : Name} {t : GoTy} : tyOfKeyE ctx k = .ok t ↔ tyOfKey ctx k = some t := by
  unfold tyOfKeyE; split <;> simp_all

theorem tyOfKeyE_of {ctx : Ctx} {k : Name} {t : GoTy} (h : tyOfKey ctx k = some t) : tyOfKeyE ctx k = .ok t :=
  tyOfKeyE_ok.mpr h

theorem reg_inv {ctx : Ctx} (hc : ctx.ok = true) {t : GoTy} {k : Name} (h : keyOf ctx t = some k) :
    tyOfKey ctx k = some t ∧ k ≠ "" := by
  obtain ⟨e, hf, rfl⟩ := Option.map_eq_some_iff.mp h
  have he := List.all_eq_true.mp (Bool.and_eq_true_iff.mp hc).1 e (List.mem_of_find?_eq_some hf)
  simp only [Bool.and_eq_true, bne_iff_ne, ne_eq, beq_iff_eq] at he
  cases beq_iff_eq.mp (List.find?_some (p := fun x : Name × GoTy => x.2 == t) hf)
  exact ⟨he.1.2, he.1.1⟩

theorem decl_nodup {ctx : Ctx} (hc : ctx.ok = true) {n : Name} {decl : List (Name × GoTy)}
    (h : declOf ctx n = some decl) : (decl.map (·.1)).Nodup := by
  obtain ⟨e, hf, rfl⟩ := Option.map_eq_some_iff.mp h
  exact of_decide_eq_true
    (List.all_eq_true.mp (Bool.and_eq_true_iff.mp hc).2 e (List.mem_of_find?_eq_some hf))

section
variable {ctx : Ctx} {J : JLayer} {F : Facts} {k : Nat}

theorem encP_basic {t : GoTy} {p : Payload} {is : IS} : encP ctx J F k (.basic t p) = .ok is ↔
    ∃ key, keyOf ctx t = some key ∧ ∃ js, J.encode t p = .ok js ∧ IS.basicN k 0 key js = is := by
  simp only [encP, bind_ok, keyOfE_ok, pure, Except.pure, Except.ok.injEq]

theorem encP_nilptr {t : GoTy} {is : IS} : encP ctx J F k (.nilptr t) = .ok is ↔
    ∃ key, keyOf ctx t.strip = some key ∧
      IS.basicN (k + 1) (if F.nilChain then t.depth else 0) key "null" = is := by
  simp only [encP, bind_ok, keyOfE_ok, pure, Except.pure, Except.ok.injEq]

theorem encP_slice {et : GoTy} {n : Bool} {vs : GoVals} {is : IS} : encP ctx J F k (.slice et n vs) = .ok is ↔
    ∃ key, keyOf ctx et.strip = some key ∧ ∃ xs, encVals ctx J F vs = .ok xs ∧ IS.sliceN k et.depth key xs = is := by
  simp only [encP, bind_ok, keyOfE_ok, pure, Except.pure, Except.ok.injEq]

theorem encP_struct {n : Name} {fs : GoKVs} {is : IS} : encP ctx J F k (.struct n fs) = .ok is ↔
    ∃ key, keyOf ctx (.struct n) = some key ∧ ∃ xs, encFields ctx J F fs = .ok xs ∧ IS.structN k key xs = is := by
  simp only [encP, bind_ok, keyOfE_ok, pure, Except.pure, Except.ok.injEq]

theorem encP_ptr {v : GoVal} {is : IS} : encP ctx J F k (.ptr v) = .ok is ↔
    v.isINil = false ∧ encP ctx J F (k + 1) v = .ok is := by
  cases h : v.isINil <;> simp [encP, h]

theorem encP_map {kt vt : GoTy} {n : Bool} {kvs : GoKVs} {is : IS} : encP ctx J F k (.map kt vt n kvs) = .ok is ↔
    kt.keyable = true ∧ ∃ kk, keyOf ctx kt.strip = some kk ∧ ∃ vk, keyOf ctx vt.strip = some vk ∧
      ∃ xs, encMapKVs ctx J F kt kvs = .ok xs ∧ IS.mapN k kt.depth kk vt.depth vk xs = is := by
  cases h : kt.keyable with
  | false => simp [encP, h, bind, Except.bind, throw, throwThe, MonadExceptOf.throw]
  | true =>
    simp only [encP, h, Bool.not_true, Bool.false_eq_true, ↓reduceIte, bind_ok, keyOfE_ok, pure, Except.pure,
      Except.ok.injEq, true_and]

theorem encVals_cons {v : GoVal} {r : GoVals} {iss : ISs} : encVals ctx J F (.cons v r) = .ok iss ↔
    ∃ i, encP ctx J F 0 v = .ok i ∧ ∃ xs, encVals ctx J F r = .ok xs ∧ .cons i xs = iss := by
  simp only [encVals, bind_ok, pure, Except.pure, Except.ok.injEq]
theorem encMapKVs_cons {kt : GoTy} {kb : String} {v : GoVal} {r : GoKVs} {iss : ISKVs} :
    encMapKVs ctx J F kt (.cons kb v r) = .ok iss ↔ ∃ i, encP ctx J F 0 v = .ok i ∧
      ∃ ks, J.encode kt kb = .ok ks ∧ ∃ xs, encMapKVs ctx J F kt r = .ok xs ∧ .cons ks i xs = iss := by
  simp only [encMapKVs, bind_ok, pure, Except.pure, Except.ok.injEq]
theorem encFields_cons {f : String} {v : GoVal} {r : GoKVs} {iss : ISKVs} : encFields ctx J F (.cons f v r) = .ok iss ↔
    ∃ i, encP ctx J F 0 v = .ok i ∧ ∃ xs, encFields ctx J F r = .ok xs ∧ .cons f i xs = iss := by
  simp only [encFields, bind_ok, pure, Except.pure, Except.ok.injEq]

end

mutual
theorem encP_total (ctx : Ctx) (J : JLayer) (F : Facts) (hJ : J.OK) :
    ∀ (v : GoVal) (k : Nat), v.encodable ctx J = true → ∃ is, encP ctx J F k v = .ok is
  | .inil, _, _ => ⟨_, rfl⟩
  | .basic t p, k, h => by
    simp only [GoVal.encodable, Bool.and_eq_true, Option.isSome_iff_exists] at h
    obtain ⟨⟨key, hk⟩, hv⟩ := h
    obtain ⟨s, hs⟩ := hJ.total t p hv
    exact ⟨_, encP_basic.mpr ⟨key, hk, s, hs, rfl⟩⟩
  | .nilptr t, k, h => by
    simp only [GoVal.encodable, Option.isSome_iff_exists] at h
    obtain ⟨key, hk⟩ := h
    exact ⟨_, encP_nilptr.mpr ⟨key, hk, rfl⟩⟩
  | .ptr v, k, h => by
    simp only [GoVal.encodable, Bool.and_eq_true, Bool.not_eq_true'] at h
    obtain ⟨is, his⟩ := encP_total ctx J F hJ v (k + 1) h.2
    exact ⟨is, encP_ptr.mpr ⟨h.1, his⟩⟩
  | .slice et _ vs, k, h => by
    simp only [GoVal.encodable, Bool.and_eq_true, Option.isSome_iff_exists] at h
    obtain ⟨⟨key, hk⟩, hv⟩ := h
    obtain ⟨xs, hxs⟩ := encVals_total ctx J F hJ vs hv
    exact ⟨_, encP_slice.mpr ⟨key, hk, xs, hxs, rfl⟩⟩
  | .map kt vt _ kvs, k, h => by
    simp only [GoVal.encodable, Bool.and_eq_true, Option.isSome_iff_exists] at h
    obtain ⟨⟨⟨hl, ⟨kk, hkk⟩⟩, ⟨vk, hvk⟩⟩, hv⟩ := h
    obtain ⟨xs, hxs⟩ := encMapKVs_total ctx J F hJ kt kvs hv
    exact ⟨_, encP_map.mpr ⟨hl, kk, hkk, vk, hvk, xs, hxs, rfl⟩⟩
  | .struct n fs, k, h => by
    simp only [GoVal.encodable, Bool.and_eq_true, Option.isSome_iff_exists] at h
    obtain ⟨⟨key, hk⟩, hv⟩ := h
    obtain ⟨xs, hxs⟩ := encFields_total ctx J F hJ fs hv
    exact ⟨_, encP_struct.mpr ⟨key, hk, xs, hxs, rfl⟩⟩
theorem encVals_total (ctx : Ctx) (J : JLayer) (F : Facts) (hJ : J.OK) :
    ∀ (vs : GoVals), vs.encodable ctx J = true → ∃ xs, encVals ctx J F vs = .ok xs
  | .nil, _ => ⟨_, rfl⟩
  | .cons v r, h => by
    simp only [GoVals.encodable, Bool.and_eq_true] at h
    obtain ⟨i, hi⟩ := encP_total ctx J F hJ v 0 h.1
    obtain ⟨xs, hxs⟩ := encVals_total ctx J F hJ r h.2
    exact ⟨_, encVals_cons.mpr ⟨i, hi, xs, hxs, rfl⟩⟩
theorem encMapKVs_total (ctx : Ctx) (J : JLayer) (F : Facts) (hJ : J.OK) (kt : GoTy) :
    ∀ (kvs : GoKVs), kvs.encodableMap ctx J kt = true → ∃ xs, encMapKVs ctx J F kt kvs = .ok xs
  | .nil, _ => ⟨_, rfl⟩
  | .cons k v r, h => by
    simp only [GoKVs.encodableMap, Bool.and_eq_true] at h
    obtain ⟨i, hi⟩ := encP_total ctx J F hJ v 0 h.1.2
    obtain ⟨s, hs⟩ := hJ.total kt k h.1.1
    obtain ⟨xs, hxs⟩ := encMapKVs_total ctx J F hJ kt r h.2
    exact ⟨_, encMapKVs_cons.mpr ⟨i, hi, s, hs, xs, hxs, rfl⟩⟩
theorem encFields_total (ctx : Ctx) (J : JLayer) (F : Facts) (hJ : J.OK) :
    ∀ (fs : GoKVs), fs.encodableFields ctx J = true → ∃ xs, encFields ctx J F fs = .ok xs
  | .nil, _ => ⟨_, rfl⟩
  | .cons f v r, h => by
    simp only [GoKVs.encodableFields, Bool.and_eq_true] at h
    obtain ⟨i, hi⟩ := encP_total ctx J F hJ v 0 h.1
    obtain ⟨xs, hxs⟩ := encFields_total ctx J F hJ r h.2
    exact ⟨_, encFields_cons.mpr ⟨i, hi, xs, hxs, rfl⟩⟩
end

/-- The `Facts` record with every field `true`: each of the four decode branches applies
    `resolvePointerNum(v.PointerNum, …)` and a nil pointer inside a chain is recorded (`NilElemPointerNum`).
    The value the round trip is proved for; the facts regenerated from /repo equal it (`srcFacts_all`,
    Props/C12.lean).  The source lines `ptrMap` / `ptrSlice` resp. `nilChain` stand for are those of
    /verif/fixes/C12-container-pointernum.diff resp. /verif/fixes/C12-nil-in-pointer-chain.diff. -/
def Fall : Facts := ⟨true, true, true, true, true⟩
@[simp] theorem Fall_ptrBasic : Fall.ptrBasic = true := rfl
@[simp] theorem Fall_ptrStruct : Fall.ptrStruct = true := rfl
@[simp] theorem Fall_ptrMap : Fall.ptrMap = true := rfl
@[simp] theorem Fall_ptrSlice : Fall.ptrSlice = true := rfl
@[simp] theorem Fall_nilChain : Fall.nilChain = true := rfl

/-- What `dec` gives back (`a`) against the value given to the encoder (`b`), the conclusion of `encP_dec`: same `norm`
    (the `≈` of the property: nil and empty containers identified), identical dynamic type, and a nil
    interface on both sides or on neither.  The last clause is what `place_ok` reads to know that
    `place` takes the same branch (zero value of the slot, or store) as it would for the original. -/
def R (a b : GoVal) : Prop := a.norm = b.norm ∧ a.typeOf = b.typeOf ∧ a.isINil = b.isINil

/-- `R` in step on the decoded children of a slice (left) and the original elements (right); lists of
    different length are unrelated. -/
def RelVals : GoVals → GoVals → Prop
  | .nil, .nil => True
  | .cons a r, .cons b s => R a b ∧ RelVals r s
  | _, _ => False

/-- `R` in step on the decoded entries of a struct node and the original fields: same field name, in the
    same order (`encFields` writes the name as the key and `decKVs` keeps it). -/
def RelKVs : GoKVs → GoKVs → Prop
  | .nil, .nil => True
  | .cons ka a r, .cons kb b s => ka = kb ∧ R a b ∧ RelKVs r s
  | _, _ => False

/-- `R` in step on the decoded entries of a map node and the original entries.  The decoded side still
    carries the key TEXT `ka` that `sonic.MarshalString` wrote (`J.encode kt kb`), the original the key `kb`
    itself; `placeKVs` decodes the text afterwards, and `placeKVs_ok` gets `kb` back from `JLayer.OK.rt`. -/
def RelMap (J : JLayer) (kt : GoTy) : GoKVs → GoKVs → Prop
  | .nil, .nil => True
  | .cons ka a r, .cons kb b s => J.encode kt kb = .ok ka ∧ R a b ∧ RelMap J kt r s
  | _, _ => False

/-- the element condition used by `fit` / `fitDecl` -/
def fitsAt (ctx : Ctx) (t : GoTy) (v : GoVal) : Bool :=
  if v.isINil then t == .iface else v.wt ctx && (t == .iface || v.typeOf == t)

/-- Every element is the nil interface or well typed: what remains of `fit` / `fitDecl` when the static
    element type is forgotten (`fit_allWT`, …).  It is the hypothesis of the list forms of `encP_dec`,
    which do not know the slot type; per child it is the case split of `child_dec`. -/
def GoVals.allWT (ctx : Ctx) : GoVals → Bool
  | .nil => true
  | .cons v r => (v.isINil || v.wt ctx) && r.allWT ctx
/-- `GoVals.allWT` for the values of map entries and struct fields (keys are not looked at). -/
def GoKVs.allWT (ctx : Ctx) : GoKVs → Bool
  | .nil => true
  | .cons _ v r => (v.isINil || v.wt ctx) && r.allWT ctx

theorem fitsAt_allWT {ctx : Ctx} {t : GoTy} {v : GoVal} (h : fitsAt ctx t v = true) :
    (v.isINil || v.wt ctx) = true := by
  unfold fitsAt at h
  cases hv : v.isINil <;> simp_all

theorem fit_allWT {ctx : Ctx} {et : GoTy} : ∀ {vs : GoVals}, vs.fit ctx et = true → vs.allWT ctx = true
  | .nil, _ => rfl
  | .cons v r, h => by
    simp only [GoVals.fit, Bool.and_eq_true] at h
    simp only [GoVals.allWT, Bool.and_eq_true]
    exact ⟨fitsAt_allWT (t := et) h.1, fit_allWT h.2⟩

theorem fitKVs_allWT {ctx : Ctx} {vt : GoTy} : ∀ {kvs : GoKVs}, kvs.fit ctx vt = true → kvs.allWT ctx = true
  | .nil, _ => rfl
  | .cons _ v r, h => by
    simp only [GoKVs.fit, Bool.and_eq_true] at h
    simp only [GoKVs.allWT, Bool.and_eq_true]
    exact ⟨fitsAt_allWT (t := vt) h.1, fitKVs_allWT h.2⟩

theorem fitDecl_allWT {ctx : Ctx} : ∀ {decl : List (Name × GoTy)} {fs : GoKVs}, fs.fitDecl ctx decl = true → fs.allWT ctx = true
  | [], .nil, _ => rfl
  | (_, t) :: ds, .cons _ v r, h => by
    simp only [GoKVs.fitDecl, Bool.and_eq_true] at h
    simp only [GoKVs.allWT, Bool.and_eq_true]
    exact ⟨fitsAt_allWT (t := t) h.1.2, fitDecl_allWT h.2⟩
  | [], .cons _ _ _, h => nomatch h
  | _ :: _, .nil, h => nomatch h

/-- `field.Set` / `SetMapIndex` / `Append` of a decoded child that corresponds to an
    original element fitting the static type: no panic, the element (≈) is stored. -/
theorem place_ok (ctx : Ctx) (J : JLayer) {t : GoTy} {a b : GoVal} (hr : R a b) (hf : fitsAt ctx t b = true) :
    ∃ v', place J t a = .ok v' ∧ v'.norm = b.norm := by
  obtain ⟨hn, ht, hi⟩ := hr
  unfold fitsAt at hf
  unfold place
  cases hb : b.isINil with
  | true =>
    simp only [hb, ↓reduceIte, beq_iff_eq] at hf
    have hb' := isINil_eq_true hb
    have ha' : a = .inil := isINil_eq_true (hi.trans hb)
    subst hf; subst hb'; subst ha'
    exact ⟨.inil, by simp [GoVal.isINil, zeroOf], rfl⟩
  | false =>
    simp only [hb, Bool.false_eq_true, ↓reduceIte, Bool.and_eq_true, Bool.or_eq_true, beq_iff_eq] at hf
    simp only [hi, hb, Bool.false_eq_true, ↓reduceIte, ht]
    rcases hf.2 with h | h
    · simp [h, hn]
    · simp [h, hn]

theorem placeVals_ok (ctx : Ctx) (J : JLayer) (et : GoTy) :
    ∀ (as bs : GoVals), RelVals as bs → bs.fit ctx et = true →
      ∃ vs', placeVals J et as = .ok vs' ∧ vs'.norm = bs.norm
  | .nil, .nil, _, _ => ⟨.nil, rfl, rfl⟩
  | .cons a r, .cons b s, hr, hf => by
    simp only [RelVals] at hr
    simp only [GoVals.fit, Bool.and_eq_true] at hf
    obtain ⟨v', hv', hn⟩ := place_ok ctx J (t := et) hr.1 hf.1
    obtain ⟨vs', hvs', hns⟩ := placeVals_ok ctx J et r s hr.2 hf.2
    exact ⟨.cons v' vs', by simp [placeVals, hv', hvs', bind, Except.bind, pure, Except.pure],
      by simp [GoVals.norm, hn, hns]⟩
  | .nil, .cons _ _, hr, _ => hr.elim
  | .cons _ _, .nil, hr, _ => hr.elim

theorem placeKVs_ok (ctx : Ctx) (J : JLayer) (hJ : J.OK) (kt vt : GoTy) :
    ∀ (as bs : GoKVs), RelMap J kt as bs → bs.fit ctx vt = true →
      ∃ kvs', placeKVs J kt vt as = .ok kvs' ∧ kvs'.norm = bs.norm
  | .nil, .nil, _, _ => ⟨.nil, rfl, rfl⟩
  | .cons ka a r, .cons kb b s, hr, hf => by
    simp only [RelMap] at hr
    simp only [GoKVs.fit, Bool.and_eq_true] at hf
    obtain ⟨v', hv', hn⟩ := place_ok ctx J (t := vt) hr.2.1 hf.1
    obtain ⟨vs', hvs', hns⟩ := placeKVs_ok ctx J hJ kt vt r s hr.2.2 hf.2
    have hk := (hJ.rt kt kb ka hr.1).2
    exact ⟨.cons kb v' vs', by simp [placeKVs, hk, hv', hvs', bind, Except.bind, pure, Except.pure],
      by simp [GoKVs.norm, hn, hns]⟩
  | .nil, .cons _ _ _, hr, _ => hr.elim
  | .cons _ _ _, .nil, hr, _ => hr.elim

theorem lookupKV_cons_self (k : String) (v : GoVal) (r : GoKVs) : lookupKV k (.cons k v r) = some v := by
  simp [lookupKV]

theorem lookupKV_cons_ne {k f : String} (h : k ≠ f) (v : GoVal) (r : GoKVs) :
    lookupKV f (.cons k v r) = lookupKV f r := by
  simp [lookupKV, h]

theorem fitDecl_rel_ind {ctx : Ctx} {P : List (Name × GoTy) → GoKVs → GoKVs → Prop} (nil : P [] .nil .nil)
    (cons : ∀ f t ds a b r s, R a b → fitsAt ctx t b = true → RelKVs r s → s.fitDecl ctx ds = true → P ds r s →
      P ((f, t) :: ds) (.cons f a r) (.cons f b s)) :
    ∀ (decl : List (Name × GoTy)) (as bs : GoKVs), RelKVs as bs → bs.fitDecl ctx decl = true → P decl as bs
  | [], .nil, .nil, _, _ => nil
  | (f, t) :: ds, .cons ka a r, .cons kb b s, hr, hf => by
    simp only [RelKVs] at hr
    simp only [GoKVs.fitDecl, Bool.and_eq_true, beq_iff_eq] at hf
    obtain ⟨rfl, hrab, hrs⟩ := hr
    obtain ⟨⟨rfl, hfit⟩, hfd⟩ := hf
    exact cons _ t ds a b r s hrab hfit hrs hfd (fitDecl_rel_ind nil cons ds r s hrs hfd)
  | _, .cons _ _ _, .nil, hr, _ => hr.elim
  | _, .nil, .cons _ _ _, hr, _ => hr.elim
  | [], .cons _ _ _, .cons _ _ _, _, hf => nomatch hf
  | _ :: _, .nil, .nil, _, hf => nomatch hf

theorem buildFields_ok (ctx : Ctx) (J : JLayer) (whole : GoKVs) :
    ∀ (decl : List (Name × GoTy)) (as bs : GoKVs), RelKVs as bs → bs.fitDecl ctx decl = true →
      (decl.map (·.1)).Nodup → (∀ f, f ∈ decl.map (·.1) → lookupKV f whole = lookupKV f as) →
      ∃ fs', buildFields J whole decl = .ok fs' ∧ fs'.norm = bs.norm := by
  refine fitDecl_rel_ind (fun _ _ => ⟨.nil, rfl, rfl⟩) fun f t ds a b r s hrab hfit _ _ ih hnd hl => ?_
  simp only [List.map_cons, List.nodup_cons] at hnd
  have hlook : lookupKV f whole = some a := (hl f List.mem_cons_self).trans (lookupKV_cons_self f a r)
  obtain ⟨v', hv', hn⟩ := place_ok ctx J (t := t) hrab hfit
  obtain ⟨fs', hfs', hns⟩ := ih hnd.2 fun g hg =>
    (hl g (List.mem_cons_of_mem _ hg)).trans (lookupKV_cons_ne (fun h : f = g => hnd.1 (h ▸ hg)) a r)
  exact ⟨.cons f v' fs', by simp [buildFields, hlook, hv', hfs', bind, Except.bind, pure, Except.pure],
    by simp [GoKVs.norm, hn, hns]⟩

theorem allDeclared_ok (ctx : Ctx) (whole : List (Name × GoTy)) :
    ∀ (decl : List (Name × GoTy)) (as bs : GoKVs), (∀ d, d ∈ decl → d ∈ whole) → RelKVs as bs →
      bs.fitDecl ctx decl = true → allDeclared whole as = true := fun decl as bs hsub hr hf =>
  fitDecl_rel_ind (P := fun decl as _ => (∀ d, d ∈ decl → d ∈ whole) → allDeclared whole as = true) (fun _ => rfl)
    (fun f t ds a b r s _ _ _ _ ih hsub => by
      simp only [allDeclared, Bool.and_eq_true, List.any_eq_true, beq_iff_eq]
      exact ⟨⟨(f, t), hsub _ List.mem_cons_self, rfl⟩, ih fun d hd => hsub d (List.mem_cons_of_mem _ hd)⟩)
    decl as bs hr hf hsub

theorem R_refl_inil : R .inil .inil := ⟨rfl, rfl, rfl⟩

theorem ok_inj {ε α : Type} {a b : α} (h : (Except.ok a : Except ε α) = .ok b) : a = b := by cases h; rfl

/-- a container child: the nil interface is written as "no value" and read back as itself, any other
    child goes through the round trip `ih` of the value -/
theorem child_dec {ctx : Ctx} {J : JLayer} {v : GoVal} {i : IS}
    (ih : v.wt ctx = true → ∃ v', dec ctx J Fall i = .ok (wrap 0 v') ∧ R v' v)
    (hw : (v.isINil || v.wt ctx) = true) (hi : encP ctx J Fall 0 v = .ok i) :
    ∃ v', dec ctx J Fall i = .ok v' ∧ R v' v := by
  rcases Bool.or_eq_true_iff.mp hw with hnil | hwt
  · cases isINil_eq_true hnil
    cases hi
    exact ⟨.inil, rfl, R_refl_inil⟩
  · exact ih hwt

mutual
/-- The round trip of eino's checkpoint serializer below the top level, for `Fall`: whatever
    `internalMarshal` writes for a well-typed value, entered with `k` pointer levels already counted,
    `internalUnmarshal` decodes without error into those `k` non-nil pointer levels around a value that is
    `R` to the original (deeply equal up to nil/empty containers, identical dynamic type).  `ctx.ok` makes
    the registry lookups invert (`reg_inv`); `J.OK` reads basic payloads and map key texts back. -/
theorem encP_dec (ctx : Ctx) (J : JLayer) (hc : ctx.ok = true) (hJ : J.OK) :
    ∀ (v : GoVal) (k : Nat) (is : IS), v.wt ctx = true → encP ctx J Fall k v = .ok is →
      ∃ v', dec ctx J Fall is = .ok (wrap k v') ∧ R v' v
  | .inil, _, _, hw, _ => by simp [GoVal.wt] at hw
  | .basic t p, k, is, hw, he => by
    simp only [GoVal.wt] at hw
    obtain ⟨key, hk, js, hjs, rfl⟩ := encP_basic.mp he
    obtain ⟨hty, hne⟩ := reg_inv hc hk
    obtain ⟨hnull, hdec⟩ := hJ.rt t p js hjs
    refine ⟨.basic t p, ?_, rfl, rfl, rfl⟩
    simp [IS.basicN, dec, hne, decBasic, tyOfKeyE_of hty, hnull, hw, hdec, bind, Except.bind, pure, Except.pure]
  | .nilptr t, k, is, _, he => by
    obtain ⟨key, hk, rfl⟩ := encP_nilptr.mp he
    obtain ⟨hty, hne⟩ := reg_inv hc hk
    refine ⟨.nilptr t, ?_, rfl, rfl, rfl⟩
    simp [IS.basicN, dec, hne, decBasic, tyOfKeyE_of hty, ptrN_depth_strip, bind, Except.bind, pure, Except.pure]
  | .ptr v, k, is, hw, he => by
    simp only [GoVal.wt] at hw
    obtain ⟨v', hd, hn, ht, hi⟩ := encP_dec ctx J hc hJ v (k + 1) is hw (encP_ptr.mp he).2
    refine ⟨.ptr v', by simpa [wrap] using hd, ?_, ?_, rfl⟩
    · simp [GoVal.norm, hn]
    · simp [GoVal.typeOf, ht]
  | .slice et n vs, k, is, hw, he => by
    simp only [GoVal.wt] at hw
    obtain ⟨key, hk, xs, hxs, rfl⟩ := encP_slice.mp he
    obtain ⟨hty, hne⟩ := reg_inv hc hk
    obtain ⟨as, hdv, hrel⟩ := encVals_dec ctx J hc hJ vs xs (fit_allWT hw) hxs
    obtain ⟨vs', hpl, hnorm⟩ := placeVals_ok ctx J et as vs hrel hw
    refine ⟨.slice et vs'.isEmpty vs', ?_, ?_, rfl, rfl⟩
    · simp [IS.sliceN, dec, hdv, assembleSlice, tyOfKeyE_of hty, ptrN_depth_strip, hpl, bind, Except.bind, pure, Except.pure]
    · simp [GoVal.norm, hnorm]
  | .map kt vt n kvs, k, is, hw, he => by
    simp only [GoVal.wt, Bool.and_eq_true] at hw
    obtain ⟨_, kk, hkk, vk, hvk, xs, hxs, rfl⟩ := encP_map.mp he
    obtain ⟨hkty, hkne⟩ := reg_inv hc hkk
    obtain ⟨hvty, _⟩ := reg_inv hc hvk
    obtain ⟨as, hdv, hrel⟩ := encMapKVs_dec ctx J hc hJ kt kvs xs (fitKVs_allWT hw.2) hxs
    obtain ⟨kvs', hpl, hnorm⟩ := placeKVs_ok ctx J hJ kt vt as kvs hrel hw.2
    refine ⟨.map kt vt false kvs', ?_, ?_, rfl, rfl⟩
    · simp [IS.mapN, dec, hkne, hdv, assembleMap, tyOfKeyE_of hkty, tyOfKeyE_of hvty, ptrN_depth_strip, hw.1, hpl,
        bind, Except.bind, pure, Except.pure]
    · simp [GoVal.norm, hnorm]
  | .struct n fs, k, is, hw, he => by
    simp only [GoVal.wt] at hw
    cases hd : declOf ctx n with
    | none => simp [hd] at hw
    | some decl =>
      simp only [hd] at hw
      obtain ⟨key, hk, xs, hxs, rfl⟩ := encP_struct.mp he
      obtain ⟨hty, hne⟩ := reg_inv hc hk
      obtain ⟨as, hdv, hrel⟩ := encFields_dec ctx J hc hJ fs xs (fitDecl_allWT hw) hxs
      have hall := allDeclared_ok ctx decl decl as fs (fun _ h => h) hrel hw
      obtain ⟨fs', hb, hnorm⟩ := buildFields_ok ctx J as decl as fs hrel hw (decl_nodup hc hd) (fun _ _ => rfl)
      refine ⟨.struct n fs', ?_, ?_, rfl, rfl⟩
      · simp [IS.structN, dec, hne, hdv, assembleStruct, tyOfKeyE_of hty, hd, hall, hb, bind, Except.bind, pure, Except.pure]
      · simp [GoVal.norm, hnorm]
theorem encVals_dec (ctx : Ctx) (J : JLayer) (hc : ctx.ok = true) (hJ : J.OK) :
    ∀ (vs : GoVals) (iss : ISs), vs.allWT ctx = true → encVals ctx J Fall vs = .ok iss →
      ∃ as, decVals ctx J Fall iss = .ok as ∧ RelVals as vs
  | .nil, iss, _, he => by
    cases he
    exact ⟨.nil, rfl, trivial⟩
  | .cons v r, iss, hw, he => by
    simp only [GoVals.allWT, Bool.and_eq_true] at hw
    obtain ⟨i, hi, xs, hxs, rfl⟩ := encVals_cons.mp he
    obtain ⟨as, hdv, hrel⟩ := encVals_dec ctx J hc hJ r xs hw.2 hxs
    obtain ⟨v', hd, hr⟩ := child_dec (fun hwt => encP_dec ctx J hc hJ v 0 i hwt hi) hw.1 hi
    exact ⟨.cons v' as, by simp [decVals, hd, hdv, bind, Except.bind, pure, Except.pure], hr, hrel⟩
theorem encMapKVs_dec (ctx : Ctx) (J : JLayer) (hc : ctx.ok = true) (hJ : J.OK) (kt : GoTy) :
    ∀ (kvs : GoKVs) (iss : ISKVs), kvs.allWT ctx = true → encMapKVs ctx J Fall kt kvs = .ok iss →
      ∃ as, decKVs ctx J Fall iss = .ok as ∧ RelMap J kt as kvs
  | .nil, iss, _, he => by
    cases he
    exact ⟨.nil, rfl, trivial⟩
  | .cons kb v r, iss, hw, he => by
    simp only [GoKVs.allWT, Bool.and_eq_true] at hw
    obtain ⟨i, hi, ks, hks, xs, hxs, rfl⟩ := encMapKVs_cons.mp he
    obtain ⟨as, hdv, hrel⟩ := encMapKVs_dec ctx J hc hJ kt r xs hw.2 hxs
    obtain ⟨v', hd, hr⟩ := child_dec (fun hwt => encP_dec ctx J hc hJ v 0 i hwt hi) hw.1 hi
    exact ⟨.cons ks v' as, by simp [decKVs, hd, hdv, bind, Except.bind, pure, Except.pure], hks, hr, hrel⟩
theorem encFields_dec (ctx : Ctx) (J : JLayer) (hc : ctx.ok = true) (hJ : J.OK) :
    ∀ (fs : GoKVs) (iss : ISKVs), fs.allWT ctx = true → encFields ctx J Fall fs = .ok iss →
      ∃ as, decKVs ctx J Fall iss = .ok as ∧ RelKVs as fs
  | .nil, iss, _, he => by
    cases he
    exact ⟨.nil, rfl, trivial⟩
  | .cons f v r, iss, hw, he => by
    simp only [GoKVs.allWT, Bool.and_eq_true] at hw
    obtain ⟨i, hi, xs, hxs, rfl⟩ := encFields_cons.mp he
    obtain ⟨as, hdv, hrel⟩ := encFields_dec ctx J hc hJ r xs hw.2 hxs
    obtain ⟨v', hd, hr⟩ := child_dec (fun hwt => encP_dec ctx J hc hJ v 0 i hwt hi) hw.1 hi
    exact ⟨.cons f v' as, by simp [decKVs, hd, hdv, bind, Except.bind, pure, Except.pure], rfl, hr, hrel⟩
end

theorem encP_not_absent (ctx : Ctx) (J : JLayer) (F : Facts) :
    ∀ (v : GoVal) (k : Nat) (is : IS), v.isINil = false → encP ctx J F k v = .ok is → is ≠ .absent
  | .inil, _, _, h, _ => by simp [GoVal.isINil] at h
  | .basic t p, k, is, _, he => by
    obtain ⟨_, _, _, _, rfl⟩ := encP_basic.mp he
    simp [IS.basicN]
  | .nilptr t, k, is, _, he => by
    obtain ⟨_, _, rfl⟩ := encP_nilptr.mp he
    simp [IS.basicN]
  | .ptr v, k, is, _, he => encP_not_absent ctx J F v (k + 1) is (encP_ptr.mp he).1 (encP_ptr.mp he).2
  | .slice et n vs, k, is, _, he => by
    obtain ⟨_, _, _, _, rfl⟩ := encP_slice.mp he
    simp [IS.sliceN]
  | .map kt vt n kvs, k, is, _, he => by
    obtain ⟨_, _, _, _, _, _, _, rfl⟩ := encP_map.mp he
    simp [IS.mapN]
  | .struct n fs, k, is, _, he => by
    obtain ⟨_, _, _, _, rfl⟩ := encP_struct.mp he
    simp [IS.structN]

theorem unmarshalTop_of_ne {ctx : Ctx} {J : JLayer} {F : Facts} {is : IS} (h : is ≠ .absent) :
    unmarshalTop ctx J F is = dec ctx J F is := by
  cases is with
  | absent => exact absurd rfl h
  | mk => rfl

/-- The round trip at top level, the form the property theorems take it in (`roundtrip_partial`, `loud`,
    `written_is_readable`): `encP_dec` at `k = 0` with `dec` replaced by `unmarshalTop`.  The two differ
    on the tree `absent` only, which is never written for a well-typed value (`encP_not_absent`). -/
theorem enc_unmarshalTop {ctx : Ctx} {J : JLayer} (hc : ctx.ok = true) (hJ : J.OK) {v : GoVal} {is : IS}
    (hw : v.wt ctx = true) (he : enc ctx J Fall v = .ok is) :
    ∃ v', unmarshalTop ctx J Fall is = .ok v' ∧ v' ≈ v ∧ v'.typeOf = v.typeOf := by
  obtain ⟨v', hd, hn, ht, _⟩ := encP_dec ctx J hc hJ v 0 is hw he
  rw [unmarshalTop_of_ne (encP_not_absent ctx J Fall v 0 is (wt_not_inil hw) he)]
  exact ⟨v', hd, hn, ht⟩

mutual
theorem encP_regd (ctx : Ctx) (J : JLayer) (F : Facts) :
    ∀ (v : GoVal) (k : Nat) (is : IS), encP ctx J F k v = .ok is → v.regd ctx = true
  | .inil, _, _, _ => rfl
  | .basic t p, k, is, he => by
    obtain ⟨key, hk, _⟩ := encP_basic.mp he
    simp [GoVal.regd, hk]
  | .nilptr t, k, is, he => by
    obtain ⟨key, hk, _⟩ := encP_nilptr.mp he
    simp [GoVal.regd, hk]
  | .ptr v, k, is, he => encP_regd ctx J F v (k + 1) is (encP_ptr.mp he).2
  | .slice et n vs, k, is, he => by
    obtain ⟨key, hk, xs, hxs, _⟩ := encP_slice.mp he
    simp [GoVal.regd, hk, encVals_regd ctx J F vs xs hxs]
  | .map kt vt n kvs, k, is, he => by
    obtain ⟨_, kk, hkk, vk, hvk, xs, hxs, _⟩ := encP_map.mp he
    simp [GoVal.regd, hkk, hvk, encMapKVs_regd ctx J F kt kvs xs hxs]
  | .struct n fs, k, is, he => by
    obtain ⟨key, hk, xs, hxs, _⟩ := encP_struct.mp he
    simp [GoVal.regd, hk, encFields_regd ctx J F fs xs hxs]
theorem encVals_regd (ctx : Ctx) (J : JLayer) (F : Facts) :
    ∀ (vs : GoVals) (iss : ISs), encVals ctx J F vs = .ok iss → vs.regd ctx = true
  | .nil, _, _ => rfl
  | .cons v r, iss, he => by
    obtain ⟨i, hi, xs, hxs, _⟩ := encVals_cons.mp he
    simp [GoVals.regd, encP_regd ctx J F v 0 i hi, encVals_regd ctx J F r xs hxs]
theorem encMapKVs_regd (ctx : Ctx) (J : JLayer) (F : Facts) (kt : GoTy) :
    ∀ (kvs : GoKVs) (iss : ISKVs), encMapKVs ctx J F kt kvs = .ok iss → kvs.regd ctx = true
  | .nil, _, _ => rfl
  | .cons kb v r, iss, he => by
    obtain ⟨i, hi, ks, _, xs, hxs, _⟩ := encMapKVs_cons.mp he
    simp [GoKVs.regd, encP_regd ctx J F v 0 i hi, encMapKVs_regd ctx J F kt r xs hxs]
theorem encFields_regd (ctx : Ctx) (J : JLayer) (F : Facts) :
    ∀ (fs : GoKVs) (iss : ISKVs), encFields ctx J F fs = .ok iss → fs.regd ctx = true
  | .nil, _, _ => rfl
  | .cons f v r, iss, he => by
    obtain ⟨i, hi, xs, hxs, _⟩ := encFields_cons.mp he
    simp [GoKVs.regd, encP_regd ctx J F v 0 i hi, encFields_regd ctx J F r xs hxs]
end

theorem encP_absent_inil (ctx : Ctx) (J : JLayer) (F : Facts) (v : GoVal) (k : Nat)
    (h : encP ctx J F k v = .ok .absent) : v = .inil := by
  cases hv : v.isINil with
  | true => exact isINil_eq_true hv
  | false => exact absurd rfl (encP_not_absent ctx J F v k .absent hv h)

end EinoV.C12
