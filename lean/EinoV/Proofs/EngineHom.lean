/-
  Engine homomorphism: a map `h : A → B` of value types that commutes with the node functions, the branch
  conditions and the fan-in merge, on the values satisfying an invariant `P` that these keep, commutes with
  whole runs of the engine (result, error, per-step trace).  C04 (`Proofs/C04Graph.lean`) takes A = chunk
  lists (stream mode), B = values (value mode), h = concatenation.
-/
import EinoV.Model.Engine
import EinoV.Proofs.Assoc
import EinoV.Proofs.EngineOps

namespace EinoV.Engine
variable {A B : Type}

structure BranchOK (h : A → B) (P : A → Prop) (b : Branch A) (b' : Branch B) : Prop where
  ends : b'.ends = b.ends
  noData : b'.noData = b.noData
  cond : ∀ a, P a → b'.cond (h a) = b.cond a

structure NodeOK (h : A → B) (P : A → Prop) (tb : Branch A → Branch B) (n : Node A) (n' : Node B) : Prop where
  key : n'.key = n.key
  writeTo : n'.writeTo = n.writeTo
  controls : n'.controls = n.controls
  branches : n'.branches = n.branches.map tb
  act : ∀ a, P a → n'.act (h a) = (n.act a).map h
  keeps : ∀ a a', P a → n.act a = .ok a' → P a'

def Runner.mapNodes (r : Runner A) (tn : Node A → Node B) : Runner B :=
  { nodes := r.nodes.map tn, start := tn r.start, dataPreds := r.dataPreds, ctrlPreds := r.ctrlPreds,
    maxSteps := r.maxSteps, dag := r.dag, eager := r.eager }

structure OpsOK (h : A → B) (P : A → Prop) (oA : ValOps A) (oB : ValOps B) : Prop where
  merge : ∀ l, (∀ a ∈ l, P a) → oB.merge (l.map h) = (oA.merge l).map h
  mergeKeeps : ∀ l m, (∀ a ∈ l, P a) → oA.merge l = some m → P m
  zero : h oA.zero = oB.zero

/-- what the engine really needs of the two fan-ins: `merge` is only called with two or more
    values (`collect`), the zero value is only handed out in all-predecessor mode -/
structure FanInOK (dag : Bool) (h : A → B) (P : A → Prop) (oA : ValOps A) (oB : ValOps B) : Prop where
  merge : ∀ l, 2 ≤ l.length → (∀ a ∈ l, P a) → oB.merge (l.map h) = (oA.merge l).map h
  mergeKeeps : ∀ l m, 2 ≤ l.length → (∀ a ∈ l, P a) → oA.merge l = some m → P m
  zero : dag = true → P oA.zero ∧ h oA.zero = oB.zero

theorem OpsOK.fanIn {h : A → B} {P : A → Prop} {oA : ValOps A} {oB : ValOps B} (hops : OpsOK h P oA oB)
    (dag : Bool) (hz : dag = true → P oA.zero) : FanInOK dag h P oA oB where
  merge := fun l _ hl => hops.merge l hl
  mergeKeeps := fun l m _ hl hm => hops.mergeKeeps l m hl hm
  zero := fun hd => ⟨hz hd, hops.zero⟩

def Runner.Has (r : Runner A) (n : Node A) : Prop := n = r.start ∨ n ∈ r.nodes

theorem Runner.has_of_node? (r : Runner A) (k : Key) (n : Node A) (hn : r.node? k = some n) : r.Has n :=
  Or.inr (List.mem_of_find?_eq_some hn)

theorem Runner.has_of_call? (r : Runner A) (k : Key) (n : Node A) (hn : r.call? k = some n) : r.Has n :=
  (call?_mem r k n hn).symm

def Chan.mapV (h : A → B) (c : Chan A) : Chan B :=
  { values := c.values.map (fun kv => (kv.1, h kv.2)), ctrl := c.ctrl, data := c.data, skipped := c.skipped }

def mapCM (h : A → B) (cm : Chans A) : Chans B := cm.map (fun p => (p.1, p.2.mapV h))

theorem reportSkip_mapV (h : A → B) (dag : Bool) (c : Chan A) (keys : List Key) :
    (c.mapV h).reportSkip dag keys = ((c.reportSkip dag keys).1.mapV h, (c.reportSkip dag keys).2) := by
  cases dag with
  | false => rfl
  | true =>
    rw [reportSkip_foldl, reportSkip_foldl,
      show keys.foldl skipF (c.mapV h) = (keys.foldl skipF c).mapV h from
        List.foldl_hom (Chan.mapV h) fun _ _ => rfl]
    rfl

theorem modChan_mapCM (h : A → B) (cm : Chans A) (k : Key) (f : Chan A → Chan A) (g : Chan B → Chan B)
    (hfg : ∀ c, g (c.mapV h) = (f c).mapV h) :
    modChan (mapCM h cm) k g = mapCM h (modChan cm k f) := by
  unfold modChan mapCM
  rw [List.map_map, List.map_map]
  apply List.map_congr_left
  intro p _
  simp only [Function.comp]
  by_cases hk : (p.1 == k) = true <;> simp [hk, hfg]

theorem alookup_mapCM (h : A → B) (cm : Chans A) (k : Key) :
    alookup k (mapCM h cm) = (alookup k cm).map (Chan.mapV h) := by
  unfold mapCM; exact alookup_map (Chan.mapV h) k cm

theorem skipOne_mapCM (h : A → B) (dag : Bool) (cm : Chans A) (k f : Key) :
    skipOne dag (mapCM h cm) k f = (mapCM h (skipOne dag cm k f).1, (skipOne dag cm k f).2) := by
  unfold skipOne
  cases dag with
  | false => rfl
  | true =>
    simp only [Bool.not_true, Bool.false_eq_true, ↓reduceIte, alookup_mapCM]
    cases hl : alookup k cm with
    | none => rfl
    | some c =>
      simp only [Option.map_some, reportSkip_mapV]
      have hsk : (c.mapV h).skipped = c.skipped := rfl
      rw [hsk, modChan_mapCM h cm k (fun _ => (c.reportSkip true [f]).1) (fun _ => ((c.reportSkip true [f]).1).mapV h) (fun _ => rfl)]

theorem skipStep_mapCM (h : A → B) (dag : Bool) (f : Key) (acc : Chans A × List Key) (s : Key) :
    skipStep dag f (mapCM h acc.1, acc.2) s = (mapCM h (skipStep dag f acc s).1, (skipStep dag f acc s).2) := by
  unfold skipStep
  simp only [skipOne_mapCM]

theorem foldl_skipStep_mapCM (h : A → B) (dag : Bool) (f : Key) (l : List Key) (acc : Chans A × List Key) :
    l.foldl (skipStep dag f) (mapCM h acc.1, acc.2)
      = (mapCM h (l.foldl (skipStep dag f) acc).1, (l.foldl (skipStep dag f) acc).2) :=
  List.foldl_hom (fun acc : Chans A × List Key => (mapCM h acc.1, acc.2)) (skipStep_mapCM h dag f)

theorem flatMap_ends_map (tb : Branch A → Branch B) (l : List (Branch A)) (hl : ∀ b ∈ l, (tb b).ends = b.ends) :
    (l.map tb).flatMap (·.ends) = l.flatMap (·.ends) := by
  induction l with
  | nil => rfl
  | cons b t ih =>
    simp [List.flatMap_cons, hl b (by simp), ih (fun c hc => hl c (by simp [hc]))]

section
variable (h : A → B) (P : A → Prop) (tb : Branch A → Branch B) (tn : Node A → Node B) (r : Runner A)
variable (htb : ∀ n, r.Has n → ∀ b ∈ n.branches, BranchOK h P b (tb b)) (htn : ∀ n, r.Has n → NodeOK h P tb n (tn n))
include htb htn

omit htb in
theorem node?_mapNodes (k : Key) :
    (r.mapNodes tn).node? k = (r.node? k).map tn :=
  find?_map_key tn (·.key) (·.key) k r.nodes (fun n hn => (htn n (Or.inr hn)).key)

omit htb in
theorem call?_mapNodes (k : Key) :
    (r.mapNodes tn).call? k = (r.call? k).map tn := by
  unfold Runner.call?
  by_cases hk : (k == START) = true
  · simp [hk, Runner.mapNodes]
  · simp only [hk, Bool.false_eq_true, ↓reduceIte]
    exact node?_mapNodes h P tb tn r htn k

theorem successors_tn (n : Node A) (hn : r.Has n) : (tn n).successors = n.successors := by
  unfold Node.successors
  rw [(htn n hn).writeTo, (htn n hn).controls, (htn n hn).branches,
    flatMap_ends_map tb n.branches (fun b hb => (htb n hn b hb).ends)]

theorem propagateSkips_mapCM (fuel : Nat) (cm : Chans A) (ks : List Key) :
    propagateSkips (r.mapNodes tn) fuel (mapCM h cm) ks = (propagateSkips r fuel cm ks).map (mapCM h) := by
  induction fuel generalizing cm ks with
  | zero => rfl
  | succ n ih =>
    cases ks with
    | nil => rfl
    | cons k rest =>
      simp only [propagateSkips, node?_mapNodes h P tb tn r htn]
      cases hn : r.node? k with
      | none => rfl
      | some nd =>
        simp only [Option.map_some, successors_tn h P tb tn r htb htn nd (r.has_of_node? k nd hn)]
        have : (r.mapNodes tn).dag = r.dag := rfl
        rw [this, foldl_skipStep_mapCM h r.dag k nd.successors (cm, [])]
        exact ih _ _

theorem reportBranch_mapCM (cm : Chans A) (f : Key) (sk : List Key) :
    reportBranch (r.mapNodes tn) (mapCM h cm) f sk = (reportBranch r cm f sk).map (mapCM h) := by
  unfold reportBranch
  have hd : (r.mapNodes tn).dag = r.dag := rfl
  have hl : (r.mapNodes tn).nodes.length = r.nodes.length := by simp [Runner.mapNodes]
  rw [hd, hl, foldl_skipStep_mapCM h r.dag f sk (cm, [])]
  exact propagateSkips_mapCM h P tb tn r htb htn _ _ _

end

def ChanP (P : A → Prop) (c : Chan A) : Prop := ∀ kv ∈ c.values, P kv.2
def ValsP (P : A → Prop) (cm : Chans A) : Prop := ∀ p ∈ cm, ChanP P p.2
def ListP (P : A → Prop) (l : List (Key × A)) : Prop := ∀ kv ∈ l, P kv.2
def WritesP (P : A → Prop) (ws : List (Key × List (Key × A))) : Prop := ∀ w ∈ ws, ListP P w.2

def mapL (h : A → B) (l : List (Key × A)) : List (Key × B) := l.map (fun kv => (kv.1, h kv.2))
def mapW (h : A → B) (ws : List (Key × List (Key × A))) : List (Key × List (Key × B)) :=
  ws.map (fun p => (p.1, mapL h p.2))

theorem addWrite_mapW (h : A → B) (ws : List (Key × List (Key × A))) (to f : Key) (v : A) :
    addWrite (mapW h ws) to f (h v) = mapW h (addWrite ws to f v) := by
  unfold addWrite mapW
  rw [alookup_map (mapL h) to ws]
  have : aset f (h v) ((Option.map (mapL h) (alookup to ws)).getD []) = mapL h (aset f v ((alookup to ws).getD [])) := by
    cases alookup to ws with
    | none => rfl
    | some l => exact aset_map h f v l
  rw [this]
  exact aset_map (mapL h) to _ ws

theorem foldl_addWrite_mapW (h : A → B) (tg : List Key) (f : Key) (v : A) (ws : List (Key × List (Key × A))) :
    tg.foldl (fun ws k => addWrite ws k f (h v)) (mapW h ws)
      = mapW h (tg.foldl (fun ws k => addWrite ws k f v) ws) :=
  List.foldl_hom (mapW h) (fun ws k => addWrite_mapW h ws k f v)

def Resolved.mapR (h : A → B) (x : Resolved A) : Resolved B :=
  { cm := mapCM h x.cm, writes := mapW h x.writes, deps := x.deps }

theorem mapM_cond_map (h : A → B) (P : A → Prop) (tb : Branch A → Branch B) (l : List (Branch A))
    (hl : ∀ b ∈ l, BranchOK h P b (tb b)) (a : A) (ha : P a) :
    (l.map tb).mapM (fun b => do
        let ws ← b.cond (h a)
        if ws.all b.ends.contains then pure ws else throw ({ cls := .badBranchEnd } : Err))
      = l.mapM (fun b => do
        let ws ← b.cond a
        if ws.all b.ends.contains then pure ws else throw ({ cls := .badBranchEnd } : Err)) := by
  induction l with
  | nil => rfl
  | cons b t ih =>
    simp only [List.map_cons, List.mapM_cons, (hl b (by simp)).cond a ha, (hl b (by simp)).ends,
      ih (fun c hc => hl c (by simp [hc]))]

section
variable (h : A → B) (P : A → Prop) (tb : Branch A → Branch B) (tn : Node A → Node B) (r : Runner A)
variable (htb : ∀ n, r.Has n → ∀ b ∈ n.branches, BranchOK h P b (tb b)) (htn : ∀ n, r.Has n → NodeOK h P tb n (tn n))
include htb htn

theorem selectOf_tn (n : Node A) (hn : r.Has n) (a : A) (ha : P a) : selectOf (tn n) (h a) = selectOf n a := by
  unfold selectOf
  rw [(htn n hn).branches, mapM_cond_map h P tb n.branches (htb n hn) a ha]

theorem skippedOf_tn (n : Node A) (hn : r.Has n) (sel : List Key) : skippedOf (tn n) sel = skippedOf n sel := by
  unfold skippedOf
  rw [(htn n hn).branches, (htn n hn).controls,
    flatMap_ends_map tb n.branches (fun b hb => (htb n hn b hb).ends)]

theorem calcBranch_hom (cm : Chans A) (n : Node A) (hn : r.Has n) (a : A) (ha : P a) :
    calcBranch (r.mapNodes tn) (mapCM h cm) (tn n) (h a)
      = (calcBranch r cm n a).map (fun x => (mapCM h x.1, x.2)) := by
  unfold calcBranch
  rw [selectOf_tn h P tb tn r htb htn n hn a ha]
  cases hs : selectOf n a with
  | error e => rfl
  | ok sel =>
    simp only [bind, Except.bind, skippedOf_tn h P tb tn r htb htn n hn, (htn n hn).key,
      reportBranch_mapCM h P tb tn r htb htn]
    cases reportBranch r cm n.key (skippedOf n sel) <;> rfl

theorem resolveStep_hom (acc : Resolved A) (t : Done A) (ht : P t.2) :
    resolveStep (r.mapNodes tn) (acc.mapR h) (t.1, h t.2) = (resolveStep r acc t).map (Resolved.mapR h) := by
  unfold resolveStep
  simp only [call?_mapNodes h P tb tn r htn]
  cases hc : r.call? t.1 with
  | none => rfl
  | some n =>
    have hn : r.Has n := r.has_of_call? t.1 n hc
    simp only [Option.map_some, Resolved.mapR, calcBranch_hom h P tb tn r htb htn acc.cm n hn t.2 ht]
    cases hb : calcBranch r acc.cm n t.2 with
    | error e => rfl
    | ok x =>
      obtain ⟨cm', sel⟩ := x
      simp only [Except.map, bind, Except.bind, pure, Except.pure, (htn n hn).writeTo, (htn n hn).controls,
        foldl_addWrite_mapW, Resolved.mapR]

theorem foldlM_resolveStep_hom (done : List (Done A)) (hd : ListP P done) (acc : Resolved A) :
    (done.map (fun d => (d.1, h d.2))).foldlM (resolveStep (r.mapNodes tn)) (acc.mapR h)
      = (done.foldlM (resolveStep r) acc).map (Resolved.mapR h) := by
  induction done generalizing acc with
  | nil => rfl
  | cons d rest ih =>
    simp only [List.map_cons, List.foldlM_cons]
    rw [resolveStep_hom h P tb tn r htb htn acc d (hd d (by simp))]
    cases resolveStep r acc d with
    | error e => rfl
    | ok acc' => simp only [Except.map, bind, Except.bind]; exact ih (fun x hx => hd x (by simp [hx])) acc'

theorem resolve_hom (cm : Chans A) (done : List (Done A)) (hd : ListP P done) :
    resolve (r.mapNodes tn) (mapCM h cm) (done.map (fun d => (d.1, h d.2)))
      = (resolve r cm done).map (Resolved.mapR h) :=
  foldlM_resolveStep_hom h P tb tn r htb htn done hd { cm := cm, writes := [], deps := [] }

end

def valueKeyP {V} (c : Chan V) (kv : Key × V) : Chan V := { c with values := aset kv.1 kv.2 c.values }

theorem reportValues_ite {V} (dag : Bool) (c : Chan V) (ins : List (Key × V)) :
    c.reportValues dag ins =
      if dag then (if c.skipped then c else ins.foldl valsF c) else ins.foldl valueKeyP c := rfl

theorem valueKey_mapV (h : A → B) (c : Chan A) (kv : Key × A) :
    valsF (c.mapV h) (kv.1, h kv.2) = (valsF c kv).mapV h := by
  unfold valsF Chan.mapV
  by_cases h1 : (alookup kv.1 c.data).isSome = true <;> simp [h1, aset_map h]

theorem valueKeyP_mapV (h : A → B) (c : Chan A) (kv : Key × A) :
    valueKeyP (c.mapV h) (kv.1, h kv.2) = (valueKeyP c kv).mapV h := by
  simp [valueKeyP, Chan.mapV, aset_map h]

theorem foldl_valueKey_mapV (h : A → B) (ins : List (Key × A)) (c : Chan A) :
    (mapL h ins).foldl valsF (c.mapV h) = (ins.foldl valsF c).mapV h := by
  rw [mapL, List.foldl_map]; exact List.foldl_hom (Chan.mapV h) (valueKey_mapV h)

theorem foldl_valueKeyP_mapV (h : A → B) (ins : List (Key × A)) (c : Chan A) :
    (mapL h ins).foldl valueKeyP (c.mapV h) = (ins.foldl valueKeyP c).mapV h := by
  rw [mapL, List.foldl_map]; exact List.foldl_hom (Chan.mapV h) (valueKeyP_mapV h)

theorem reportValues_mapV (h : A → B) (dag : Bool) (c : Chan A) (ins : List (Key × A)) :
    (c.mapV h).reportValues dag (mapL h ins) = (c.reportValues dag ins).mapV h := by
  rw [reportValues_ite, reportValues_ite, apply_ite (Chan.mapV h), apply_ite (Chan.mapV h),
    ← foldl_valueKey_mapV, ← foldl_valueKeyP_mapV]
  rfl

theorem filter_mapL (h : A → B) (l : List (Key × A)) (p : Key → Bool) :
    (mapL h l).filter (fun kv => p kv.1) = mapL h (l.filter (fun kv => p kv.1)) :=
  List.filter_map

theorem updateValues_hom (h : A → B) (tn : Node A → Node B) (r : Runner A) (cm : Chans A)
    (ws : List (Key × List (Key × A))) :
    updateValues (r.mapNodes tn) (mapCM h cm) (mapW h ws) = mapCM h (updateValues r cm ws) := by
  unfold updateValues
  rw [mapW, List.foldl_map]
  exact List.foldl_hom (mapCM h) fun cm w =>
    modChan_mapCM h cm w.1 _ _ fun c =>
      (congrArg _ (filter_mapL h w.2 (fun k => (lookupList w.1 r.dataPreds).contains k))).trans
        (reportValues_mapV h r.dag c _)

theorem reportDeps_mapV (h : A → B) (dag : Bool) (c : Chan A) (deps : List Key) :
    (c.mapV h).reportDeps dag deps = (c.reportDeps dag deps).mapV h := by
  cases dag with
  | false => rfl
  | true =>
    rw [reportDeps_markAll, reportDeps_markAll, apply_ite (Chan.mapV h)]
    rfl

theorem updateDeps_hom (h : A → B) (tn : Node A → Node B) (r : Runner A) (cm : Chans A)
    (ds : List (Key × List Key)) :
    updateDeps (r.mapNodes tn) (mapCM h cm) ds = mapCM h (updateDeps r cm ds) :=
  List.foldl_hom (mapCM h) fun cm d =>
    modChan_mapCM h cm d.1 _ _ fun c => reportDeps_mapV h r.dag c _

def GetResult.mapG (h : A → B) : GetResult A → GetResult B
  | .notReady => .notReady
  | .ready v => .ready (h v)
  | .mergeErr => .mergeErr

section
variable (dag : Bool) (h : A → B) (P : A → Prop) (oA : ValOps A) (oB : ValOps B) (hops : FanInOK dag h P oA oB)
include hops

theorem collect_hom (l : List A) (hl : ∀ a ∈ l, P a) : collect oB (l.map h) = (collect oA l).mapG h := by
  match l, hl with
  | [], _ => rfl
  | [v], _ => rfl
  | a :: b :: t, hl =>
    simp only [List.map_cons, collect]
    have := hops.merge (a :: b :: t) (by simp) hl
    simp only [List.map_cons] at this
    rw [this]
    cases oA.merge (a :: b :: t) <;> rfl

theorem collect_keeps (l : List A) (hl : ∀ a ∈ l, P a) (v : A) (hv : collect oA l = .ready v) : P v := by
  match l, hl with
  | [], _ => cases hv
  | [w], hl => cases hv; exact hl v List.mem_cons_self
  | a :: b :: t, hl =>
    simp only [collect] at hv
    cases hm : oA.merge (a :: b :: t) with
    | none => rw [hm] at hv; cases hv
    | some m => rw [hm] at hv; cases hv; exact hops.mergeKeeps _ _ (by simp) hl hm

theorem get_hom (c : Chan A) (hc : ChanP P c) :
    (c.mapV h).get oB dag = ((c.get oA dag).1.mapV h, ((c.get oA dag).2).mapG h) := by
  have hcol : collect oB ((c.mapV h).values.map (·.2)) = (collect oA (c.values.map (·.2))).mapG h := by
    rw [← collect_hom dag h P oA oB hops _ (List.forall_mem_map.mpr hc)]
    simp only [Chan.mapV, List.map_map]; rfl
  have hemp : (c.mapV h).values.isEmpty = c.values.isEmpty := List.isEmpty_map
  have ht : (c.mapV h).triggered = c.triggered := rfl
  unfold Chan.get
  rw [hcol, hemp, ht]
  cases dag
  · by_cases he : c.values.isEmpty = true
    · rw [if_neg Bool.false_ne_true, if_neg Bool.false_ne_true, if_pos he, if_pos he]; rfl
    · rw [if_neg Bool.false_ne_true, if_neg Bool.false_ne_true, if_neg he, if_neg he]; rfl
  · by_cases htr : c.triggered = true
    · rw [if_pos rfl, if_pos rfl, if_pos htr, if_pos htr, ← (hops.zero rfl).2]
      exact Prod.ext rfl (apply_ite (GetResult.mapG h) _ (.ready oA.zero) _).symm
    · rw [if_pos rfl, if_pos rfl, if_neg htr, if_neg htr]; rfl

theorem get_keeps (c : Chan A) (hc : ChanP P c) (v : A)
    (hv : (c.get oA dag).2 = .ready v) : P v := by
  have hvals : ∀ a ∈ c.values.map (·.2), P a := List.forall_mem_map.mpr hc
  unfold Chan.get at hv
  cases dag
  · rw [if_neg Bool.false_ne_true] at hv
    by_cases he : c.values.isEmpty = true
    · rw [if_pos he] at hv; cases hv
    · rw [if_neg he] at hv; exact collect_keeps false h P oA oB hops _ hvals v hv
  · rw [if_pos rfl] at hv
    by_cases htr : c.triggered = true
    · rw [if_pos htr] at hv
      by_cases he : c.values.isEmpty = true
      · rw [if_pos he] at hv; cases hv; exact (hops.zero rfl).1
      · rw [if_neg he] at hv; exact collect_keeps true h P oA oB hops _ hvals v hv
    · rw [if_neg htr] at hv; cases hv

end

theorem get_chanP (P : A → Prop) (oA : ValOps A) (dag : Bool) (c : Chan A) (hc : ChanP P c) :
    ChanP P (c.get oA dag).1 := by
  unfold Chan.get
  cases dag
  · rw [if_neg Bool.false_ne_true]
    by_cases he : c.values.isEmpty = true
    · rw [if_pos he]; exact hc
    · rw [if_neg he]; exact fun _ hkv => nomatch hkv
  · rw [if_pos rfl]
    by_cases htr : c.triggered = true
    · rw [if_pos htr]; exact fun _ hkv => nomatch hkv
    · rw [if_neg htr]; exact hc

section
variable (dag : Bool) (h : A → B) (P : A → Prop) (oA : ValOps A) (oB : ValOps B) (hops : FanInOK dag h P oA oB)
include hops

theorem getReady_hom (cm : Chans A) (hcm : ValsP P cm) :
    getReady oB dag (mapCM h cm) =
      (mapCM h (getReady oA dag cm).1, mapL h (getReady oA dag cm).2.1, (getReady oA dag cm).2.2) := by
  induction cm with
  | nil => rfl
  | cons p t ih =>
    obtain ⟨k, c⟩ := p
    have hc : ChanP P c := hcm (k, c) (by simp)
    have ht : ValsP P t := fun q hq => hcm q (by simp [hq])
    simp only [mapCM, List.map_cons, getReady]
    have := ih ht
    simp only [mapCM] at this
    rw [this, get_hom dag h P oA oB hops c hc]
    cases hg : (c.get oA dag).2 <;> simp [GetResult.mapG, mapL]

theorem getReady_keeps (cm : Chans A) (hcm : ValsP P cm) :
    ValsP P (getReady oA dag cm).1 ∧ ListP P (getReady oA dag cm).2.1 := by
  refine ⟨(keeps_getReady (P := ChanP P) oA dag cm fun c hc => get_chanP P oA dag c hc).2 hcm, fun kv hkv => ?_⟩
  obtain ⟨c, hc, hg⟩ := (mem_getReady_ready oA dag cm kv.1 kv.2).mp hkv
  exact get_keeps dag h P oA oB hops c (hcm (kv.1, c) hc) kv.2 hg

end

theorem valsP_reportBranch (P : A → Prop) (r : Runner A) (cm : Chans A) (f : Key) (sk : List Key)
    (hcm : ValsP P cm) (cm' : Chans A) (hr : reportBranch r cm f sk = .ok cm') : ValsP P cm' :=
  (keeps_reportBranch (P := ChanP P) (fun c k hc => by rwa [ChanP, reportSkip_values]) hr).2 hcm

theorem writesP_iff (P : A → Prop) (ws : List (Key × List (Key × A))) :
    WritesP P ws ↔ WritesAll (fun _ _ v => P v) ws :=
  ⟨fun h to l hm p v hp => h (to, l) hm (p, v) hp, fun h w hw kv hkv => h w.1 w.2 hw kv.1 kv.2 hkv⟩

theorem resolveStep_keeps (P : A → Prop) (r : Runner A) (acc : Resolved A) (t : Done A)
    (hcm : ValsP P acc.cm) (hws : WritesP P acc.writes) (ht : P t.2)
    (acc' : Resolved A) (hr : resolveStep r acc t = .ok acc') : ValsP P acc'.cm ∧ WritesP P acc'.writes := by
  rcases resolveStep_ok hr with ⟨_, rfl⟩ | ⟨n, sel, cm', _, _, hb, rfl⟩
  · exact ⟨hcm, hws⟩
  · exact ⟨valsP_reportBranch P r acc.cm n.key _ hcm cm' hb,
      (writesP_iff P _).mpr (foldl_addWrite_all t.1 t.2 _ (fun _ _ => ht) _ ((writesP_iff P _).mp hws))⟩

theorem foldlM_resolveStep_keeps (P : A → Prop) (r : Runner A) (done : List (Done A)) (hd : ListP P done)
    (acc : Resolved A) (h1 : ValsP P acc.cm) (h2 : WritesP P acc.writes)
    (res : Resolved A) (hr : done.foldlM (resolveStep r) acc = .ok res) :
    ValsP P res.cm ∧ WritesP P res.writes :=
  foldlM_inv_mem (resolveStep r) (fun a => ValsP P a.cm ∧ WritesP P a.writes) done
    (fun a d hm a' ha hs => resolveStep_keeps P r a d ha.1 ha.2 (hd d hm) a' hs) acc res ⟨h1, h2⟩ hr

theorem resolve_keeps (P : A → Prop) (r : Runner A) (cm : Chans A) (done : List (Done A))
    (hcm : ValsP P cm) (hd : ListP P done) (res : Resolved A) (hr : resolve r cm done = .ok res) :
    ValsP P res.cm ∧ WritesP P res.writes :=
  foldlM_resolveStep_keeps P r done hd _ hcm (by intro w hw; simp at hw) res hr

theorem valsP_updateValues (P : A → Prop) (r : Runner A) (cm : Chans A) (ws : List (Key × List (Key × A)))
    (hcm : ValsP P cm) (hws : WritesP P ws) : ValsP P (updateValues r cm ws) :=
  (keeps_updateValues r cm ws fun w hw ins hi c hc kv hkv =>
    (mem_values_reportValues hkv).elim (hc kv) fun h => hws w hw kv (hi kv h)).2 hcm

theorem valsP_updateDeps (P : A → Prop) (r : Runner A) (cm : Chans A) (ds : List (Key × List Key))
    (hcm : ValsP P cm) : ValsP P (updateDeps r cm ds) :=
  (keeps_updateDeps (P := ChanP P) r cm ds fun c _ hc => by rwa [ChanP, reportDeps_values]).2 hcm

def Next.mapN (h : A → B) : Next A → Next B
  | .result v => .result (h v)
  | .tasks ts => .tasks (mapL h ts)

def NextP (P : A → Prop) : Next A → Prop
  | .result v => P v
  | .tasks ts => ListP P ts

theorem alookup_mapL (h : A → B) (k : Key) (l : List (Key × A)) :
    alookup k (mapL h l) = (alookup k l).map h := alookup_map h k l

section
variable (h : A → B) (P : A → Prop) (tb : Branch A → Branch B) (tn : Node A → Node B) (r : Runner A)
variable (htb : ∀ n, r.Has n → ∀ b ∈ n.branches, BranchOK h P b (tb b)) (htn : ∀ n, r.Has n → NodeOK h P tb n (tn n))
variable (oA : ValOps A) (oB : ValOps B) (hops : FanInOK r.dag h P oA oB)
include htb htn hops

theorem calcNext_hom (cm : Chans A) (hcm : ValsP P cm)
    (done : List (Done A)) (hd : ListP P done) :
    calcNext oB (r.mapNodes tn) (mapCM h cm) (mapL h done)
      = (calcNext oA r cm done).map (fun x => (mapCM h x.1, x.2.mapN h)) ∧
    (∀ cm' nx, calcNext oA r cm done = .ok (cm', nx) → ValsP P cm' ∧ NextP P nx) := by
  unfold calcNext
  have hres := resolve_hom h P tb tn r htb htn cm done hd
  simp only [mapL] at hres ⊢
  rw [hres]
  cases hr : resolve r cm done with
  | error e => exact ⟨rfl, by intro cm' nx hc; simp [bind, Except.bind] at hc⟩
  | ok res =>
    obtain ⟨k1, k2⟩ := resolve_keeps P r cm done hcm hd res hr
    have k3 := valsP_updateValues P r res.cm res.writes k1 k2
    have k4 := valsP_updateDeps P r _ res.deps k3
    have hd' : (r.mapNodes tn).dag = r.dag := rfl
    simp only [Except.map, bind, Except.bind, Resolved.mapR, updateValues_hom, updateDeps_hom, hd',
      getReady_hom r.dag h P oA oB hops _ k4]
    obtain ⟨g1, g2⟩ := getReady_keeps r.dag h P oA oB hops _ k4
    generalize getReady oA r.dag (updateDeps r (updateValues r res.cm res.writes) res.deps) = gr at g1 g2 ⊢
    obtain ⟨cm3, ready, bad⟩ := gr
    simp only at g1 g2 ⊢
    cases bad with
    | true => exact ⟨rfl, by intro cm' nx hc; simp [throw, throwThe, MonadExceptOf.throw] at hc⟩
    | false =>
      simp only [Bool.false_eq_true, ↓reduceIte, alookup_mapL]
      cases he : alookup END ready with
      | some v =>
        refine ⟨rfl, fun cm' nx hc => ?_⟩
        cases hc
        exact ⟨g1, g2 _ (mem_of_alookup END v ready he)⟩
      | none =>
        refine ⟨rfl, fun cm' nx hc => ?_⟩
        cases hc
        exact ⟨g1, g2⟩

end

def mapRes (h : A → B) (t : Key × Except Err A) : Key × Except Err B := (t.1, t.2.map h)

/-- the two runs collect the tasks of a step in corresponding orders -/
def SchedHom (h : A → B) (sA : Sched A) (sB : Sched B) : Prop :=
  ∀ n l, sB n (l.map (mapRes h)) = (sA n l).map (mapRes h)

def SchedSub (sA : Sched A) : Prop := ∀ n l x, x ∈ sA n l → x ∈ l

def Outcome.mapO (h : A → B) (o : Outcome A) : Outcome B :=
  { result := o.result.map h, trace := o.trace.map (mapL h) }

theorem mapM_collectOne_hom (h : A → B) (l : List (Key × Except Err A)) :
    (l.map (mapRes h)).mapM collectOne = (l.mapM collectOne).map (mapL h) := by
  induction l with
  | nil => rfl
  | cons a t ih =>
    rw [List.map_cons, List.mapM_cons, List.mapM_cons, ih]
    obtain ⟨k, e | v⟩ := a
    · rfl
    · cases List.mapM collectOne t <;> rfl

theorem mapM_collectOne_mem (l : List (Key × Except Err A)) (done : List (Done A))
    (hd0 : l.mapM collectOne = .ok done) (d : Done A) (hd1 : d ∈ done) :
    (d.1, (Except.ok d.2 : Except Err A)) ∈ l := by
  obtain ⟨⟨k, e | v⟩, hx, hc⟩ := mapM_mem_ok collectOne l done hd0 d hd1
  · cases hc
  · cases hc; exact hx

section
variable (h : A → B) (P : A → Prop) (tb : Branch A → Branch B) (tn : Node A → Node B) (r : Runner A)
variable (htn : ∀ n, r.Has n → NodeOK h P tb n (tn n))
include htn

theorem execOne_hom (t : Key × A) (ht : P t.2) :
    execOne (r.mapNodes tn) (t.1, h t.2) = mapRes h (execOne r t) := by
  unfold execOne mapRes
  simp only [node?_mapNodes h P tb tn r htn]
  cases hn : r.node? t.1 with
  | none => rfl
  | some n => simp [(htn n (r.has_of_node? t.1 n hn)).act t.2 ht]

theorem execOne_keeps (t : Key × A) (ht : P t.2) (v : A) (hv : (execOne r t).2 = .ok v) : P v := by
  unfold execOne at hv
  cases hn : r.node? t.1 with
  | none => simp [hn] at hv; subst hv; exact ht
  | some n => simp only [hn] at hv; exact (htn n (r.has_of_node? t.1 n hn)).keeps t.2 v ht hv

theorem runTasks_hom (sA : Sched A) (sB : Sched B) (hs : SchedHom h sA sB) (hsub : SchedSub sA)
    (step : Nat) (ts : List (Key × A)) (hts : ListP P ts) :
    runTasks (r.mapNodes tn) sB step (mapL h ts) = (runTasks r sA step ts).map (mapL h) ∧
    (∀ done, runTasks r sA step ts = .ok done → ListP P done) := by
  unfold runTasks
  have hmap : (mapL h ts).map (execOne (r.mapNodes tn)) = (ts.map (execOne r)).map (mapRes h) := by
    unfold mapL
    rw [List.map_map, List.map_map]
    apply List.map_congr_left
    intro t ht
    exact execOne_hom h P tb tn r htn t (hts t ht)
  rw [hmap, hs, mapM_collectOne_hom h]
  refine ⟨rfl, ?_⟩
  intro done hdone d hd
  have hin := mapM_collectOne_mem _ done hdone d hd
  have hin2 := hsub step _ _ hin
  simp only [List.mem_map] at hin2
  obtain ⟨t, ht, he⟩ := hin2
  have h2 : (execOne r t).2 = .ok d.2 := by rw [he]
  exact execOne_keeps h P tb tn r htn t (hts t ht) d.2 h2

end

section
variable (h : A → B) (P : A → Prop) (tb : Branch A → Branch B) (tn : Node A → Node B) (r : Runner A)
variable (htb : ∀ n, r.Has n → ∀ b ∈ n.branches, BranchOK h P b (tb b)) (htn : ∀ n, r.Has n → NodeOK h P tb n (tn n))
variable (oA : ValOps A) (oB : ValOps B) (hops : FanInOK r.dag h P oA oB)
include htb htn hops

theorem loop_hom (sA : Sched A) (sB : Sched B)
    (hs : SchedHom h sA sB) (hsub : SchedSub sA) :
    ∀ (fuel : Nat) (cm : Chans A) (tasks : List (Key × A)) (tr : Trace A),
      ValsP P cm → ListP P tasks →
      loop oB (r.mapNodes tn) sB fuel (mapCM h cm) (mapL h tasks) (tr.map (mapL h))
        = (loop oA r sA fuel cm tasks tr).mapO h ∧
      (∀ v, (loop oA r sA fuel cm tasks tr).result = .ok v → P v) := by
  intro fuel
  induction fuel with
  | zero =>
    intro cm tasks tr _ _
    refine ⟨?_, ?_⟩
    · simp only [loop, Outcome.mapO, Except.map, List.map_reverse]
      rfl
    · intro v hv; simp [loop] at hv
  | succ n ih =>
    intro cm tasks tr hcm hts
    unfold loop
    simp only [List.length_map]
    obtain ⟨r1, r2⟩ := runTasks_hom h P tb tn r htn sA sB hs hsub tr.length tasks hts
    rw [r1]
    cases hr : runTasks r sA tr.length tasks with
    | error e => exact ⟨by simp [Except.map, Outcome.mapO, List.map_reverse], by intro v hv; simp at hv⟩
    | ok done =>
      simp only [Except.map]
      have hemp : (mapL h done).isEmpty = done.isEmpty := by cases done <;> rfl
      rw [hemp]
      by_cases he : done.isEmpty = true
      · exact ⟨by simp [he, Outcome.mapO, Except.map, List.map_reverse], by intro v hv; simp [he] at hv⟩
      · simp only [he, Bool.false_eq_true, ↓reduceIte]
        obtain ⟨c1, c2⟩ := calcNext_hom h P tb tn r htb htn oA oB hops cm hcm done (r2 done hr)
        rw [c1]
        cases hc : calcNext oA r cm done with
        | error e => exact ⟨by simp [Except.map, Outcome.mapO, List.map_reverse], by intro v hv; simp at hv⟩
        | ok res =>
          obtain ⟨cm', nx⟩ := res
          obtain ⟨k1, k2⟩ := c2 cm' nx hc
          cases nx with
          | result v =>
            exact ⟨by simp [Except.map, Outcome.mapO, Next.mapN, List.map_reverse],
              fun w hw => Except.ok.inj hw ▸ k2⟩
          | tasks ts =>
            simp only [Except.map, Next.mapN]
            have := ih cm' ts (tasks :: tr) k1 k2
            exact ⟨by simpa using this.1, this.2⟩

/-- The node and branch hypotheses are asked only of the nodes of `r` (`Runner.Has`: `r.start`, the members
    of `r.nodes`) and their branches, the fan-in hypothesis only of what the engine does (`FanInOK`). -/
theorem run_hom_keeps_on (sA : Sched A) (sB : Sched B)
    (hs : SchedHom h sA sB) (hsub : SchedSub sA) (x : A) (hx : P x) :
    runS oB (r.mapNodes tn) sB (h x) = (runS oA r sA x).mapO h ∧
    (∀ v, (runS oA r sA x).result = .ok v → P v) := by
  unfold runS
  have hci : ∀ (dag : Bool) (cp dp : List Key), (Chan.init dag cp dp : Chan B) = (Chan.init dag cp dp : Chan A).mapV h := by
    intro dag cp dp; cases dag <;> rfl
  have hinit : initChans (r.mapNodes tn) = mapCM h (initChans r) := by
    simp only [initChans, Runner.mapNodes, mapCM, List.map_append, List.map_map, List.map_cons, List.map_nil, hci]
    congr 1
    apply List.map_congr_left
    intro n hn
    simp [Function.comp, (htn n (Or.inr hn)).key]
  have hP0 : ValsP P (initChans r) := by
    intro p hp kv hkv
    simp only [initChans, List.mem_append, List.mem_map, List.mem_singleton] at hp
    rcases hp with ⟨n, _, rfl⟩ | rfl <;> (simp only [Chan.init] at hkv; split at hkv <;> simp at hkv)
  obtain ⟨c1, c2⟩ := calcNext_hom h P tb tn r htb htn oA oB hops (initChans r) hP0 [(START, x)]
    (by intro d hd; simp at hd; subst hd; exact hx)
  simp only [mapL, List.map_cons, List.map_nil] at c1
  rw [hinit, c1]
  cases hc : calcNext oA r (initChans r) [(START, x)] with
  | error e => exact ⟨by simp [Except.map, Outcome.mapO], by intro v hv; simp at hv⟩
  | ok res =>
    obtain ⟨cm', nx⟩ := res
    obtain ⟨k1, k2⟩ := c2 cm' nx hc
    cases nx with
    | result v =>
      exact ⟨by simp [Except.map, Outcome.mapO, Next.mapN], fun w hw => Except.ok.inj hw ▸ k2⟩
    | tasks ts =>
      simp only [Except.map, Next.mapN]
      have hf : (r.mapNodes tn).fuel = r.fuel := by simp [Runner.fuel, Runner.mapNodes]
      rw [hf]
      have := loop_hom h P tb tn r htb htn oA oB hops sA sB hs hsub r.fuel cm' ts [] k1 k2
      exact ⟨by simpa using this.1, this.2⟩

theorem run_hom_on (sA : Sched A) (sB : Sched B)
    (hs : SchedHom h sA sB) (hsub : SchedSub sA) (x : A) (hx : P x) :
    runS oB (r.mapNodes tn) sB (h x) = (runS oA r sA x).mapO h :=
  (run_hom_keeps_on h P tb tn r htb htn oA oB hops sA sB hs hsub x hx).1

theorem run_keeps_on (sA : Sched A) (sB : Sched B)
    (hs : SchedHom h sA sB) (hsub : SchedSub sA) (x : A) (hx : P x) (v : A)
    (hv : (runS oA r sA x).result = .ok v) : P v :=
  (run_hom_keeps_on h P tb tn r htb htn oA oB hops sA sB hs hsub x hx).2 v hv

end

theorem run_hom (h : A → B) (P : A → Prop) (tb : Branch A → Branch B) (tn : Node A → Node B)
    (htb : ∀ b, BranchOK h P b (tb b)) (htn : ∀ n, NodeOK h P tb n (tn n))
    (oA : ValOps A) (oB : ValOps B) (hops : OpsOK h P oA oB)
    (r : Runner A) (hz : r.dag = true → P oA.zero) (sA : Sched A) (sB : Sched B)
    (hs : SchedHom h sA sB) (hsub : SchedSub sA) (x : A) (hx : P x) :
    runS oB (r.mapNodes tn) sB (h x) = (runS oA r sA x).mapO h :=
  run_hom_on h P tb tn r (fun _ _ b _ => htb b) (fun n _ => htn n) oA oB (hops.fanIn r.dag hz) sA sB hs hsub x hx

end EinoV.Engine
