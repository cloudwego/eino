/-
  C05 — facts about the engine's channel manager needed by the resume proofs:
  every operation of a superstep keeps the set (and order) of channel keys, so loading a saved
  channel map into a fresh manager gives back exactly the saved map; and right after a superstep
  no channel is ready, so the second `calculateNextTasks` of the interrupt path changes nothing.
-/
import EinoV.Model.C05
import EinoV.Proofs.Assoc
import EinoV.Proofs.EngineOps

namespace EinoV.Interrupt
open EinoV.Engine

variable {V : Type}

structure OpsPreserve (P : Chan V → Prop) : Prop where
  values : ∀ dag c (ins : List (Key × V)), P c → P (c.reportValues dag ins)
  deps : ∀ dag c ds, P c → P (c.reportDeps dag ds)
  skip : ∀ dag c ks, P c → P (c.reportSkip dag ks).1
  get : ∀ (ops : ValOps V) dag c, P c → P (c.get ops dag).1

theorem opsPreserve_true : OpsPreserve (fun _ : Chan V => True) :=
  ⟨fun _ _ _ _ => trivial, fun _ _ _ _ => trivial, fun _ _ _ _ => trivial, fun _ _ _ _ => trivial⟩

theorem modChan_keys (cm : Chans V) (k : Key) (f : Chan V → Chan V) : akeys (modChan cm k f) = akeys cm :=
  akeys_modChan cm k f

/-! The walk itself (`Keeps`, one lemma per operation) is in `EngineOps`; here it is at an `OpsPreserve P`. -/

theorem foldlM_resolve_keeps {P : Chan V → Prop} (hP : OpsPreserve P) (r : Runner V) (done : List (Done V))
    (acc res : Resolved V) (h : done.foldlM (resolveStep r) acc = .ok res) : Keeps P acc.cm res.cm :=
  keeps_resolve (fun c k => hP.skip r.dag c [k]) done h

theorem updateValues_keeps {P : Chan V → Prop} (hP : OpsPreserve P) (r : Runner V) (cm : Chans V)
    (w : List (Key × List (Key × V))) : Keeps P cm (updateValues r cm w) :=
  keeps_updateValues r cm w fun _ _ ins _ c => hP.values r.dag c ins

theorem updateDeps_keeps {P : Chan V → Prop} (hP : OpsPreserve P) (r : Runner V) (cm : Chans V)
    (d : List (Key × List Key)) : Keeps P cm (updateDeps r cm d) :=
  keeps_updateDeps r cm d fun c => hP.deps r.dag c

theorem getReady_notReady (ops : ValOps V) (dag : Bool) (cm : Chans V)
    (h : ∀ p ∈ cm, p.2.get ops dag = (p.2, .notReady)) : getReady ops dag cm = (cm, [], false) := by
  induction cm with
  | nil => rfl
  | cons q rest ih =>
    rw [getReady, h q (List.mem_cons_self ..), ih fun p hp => h p (List.mem_cons_of_mem _ hp)]

theorem calcNext_chans {ops : ValOps V} {r : Runner V} {cm : Chans V} {done : List (Done V)}
    {cm' : Chans V} {nx : Next V} (h : calcNext ops r cm done = .ok (cm', nx)) :
    ∃ res, resolve r cm done = .ok res ∧
      cm' = (getReady ops r.dag (updateDeps r (updateValues r res.cm res.writes) res.deps)).1 ∧
      ∀ ts, nx = .tasks ts →
        ts = (getReady ops r.dag (updateDeps r (updateValues r res.cm res.writes) res.deps)).2.1 := by
  obtain ⟨res, ready, hres, hg, hnx⟩ := calcNext_ok h
  refine ⟨res, hres, by rw [hg], fun ts e => ?_⟩
  rcases hnx with ⟨_, _, rfl⟩ | ⟨_, rfl⟩
  · cases e
  · rw [hg]; exact (Next.tasks.inj e).symm

theorem calcNext_keeps {P : Chan V → Prop} (hP : OpsPreserve P) {ops : ValOps V} {r : Runner V}
    {cm : Chans V} {done : List (Done V)} {cm' : Chans V} {nx : Next V}
    (h : calcNext ops r cm done = .ok (cm', nx)) : Keeps P cm cm' := by
  obtain ⟨res, hres, rfl, -⟩ := calcNext_chans h
  exact (((foldlM_resolve_keeps hP r done _ res hres).trans (updateValues_keeps hP r _ _)).trans
    (updateDeps_keeps hP r _ _)).trans (keeps_getReady ops r.dag _ (hP.get ops r.dag))

theorem reportBranch_keys (r : Runner V) (cm : Chans V) (from_ : Key) (sk : List Key) (cm' : Chans V)
    (h : reportBranch r cm from_ sk = .ok cm') : akeys cm' = akeys cm :=
  (keeps_reportBranch (P := fun _ => True) (fun _ _ _ => trivial) h).1

theorem calcBranch_keys (r : Runner V) (cm : Chans V) (n : Node V) (out : V) (cm' : Chans V) (sel : List Key)
    (h : calcBranch r cm n out = .ok (cm', sel)) : akeys cm' = akeys cm :=
  (keeps_calcBranch (P := fun _ => True) (fun _ _ _ => trivial) h).1

theorem resolve_keys (r : Runner V) (cm : Chans V) (done : List (Done V)) (res : Resolved V)
    (h : resolve r cm done = .ok res) : akeys res.cm = akeys cm :=
  (foldlM_resolve_keeps opsPreserve_true r done _ res h).1

theorem updateValues_keys (r : Runner V) (cm : Chans V) (w : List (Key × List (Key × V))) :
    akeys (updateValues r cm w) = akeys cm :=
  (updateValues_keeps opsPreserve_true r cm w).1

theorem updateDeps_keys (r : Runner V) (cm : Chans V) (d : List (Key × List Key)) :
    akeys (updateDeps r cm d) = akeys cm :=
  (updateDeps_keeps opsPreserve_true r cm d).1

theorem getReady_keys (ops : ValOps V) (dag : Bool) : ∀ (cm : Chans V), akeys (getReady ops dag cm).1 = akeys cm :=
  akeys_getReady ops dag

theorem calcNext_keys (ops : ValOps V) (r : Runner V) (cm : Chans V) (done : List (Done V)) (cm' : Chans V) (nx : Next V)
    (h : calcNext ops r cm done = .ok (cm', nx)) : akeys cm' = akeys cm :=
  (calcNext_keeps opsPreserve_true h).1

theorem calcNext_allP (P : Chan V → Prop) (hP : OpsPreserve P) (ops : ValOps V) (r : Runner V) (cm : Chans V)
    (done : List (Done V)) (cm' : Chans V) (nx : Next V)
    (h : calcNext ops r cm done = .ok (cm', nx)) (hp : AllP P cm) : AllP P cm' :=
  (calcNext_keeps hP h).2 hp

theorem loadChans_same : ∀ (init cm : Chans V), akeys cm = akeys init → (akeys init).Nodup → loadChans init cm = cm := by
  intro init
  induction init with
  | nil => intro cm h _; exact (List.map_eq_nil_iff.1 h).symm
  | cons p rest ih =>
    intro cm h hnd
    cases cm with
    | nil => cases h
    | cons q rest' =>
      obtain ⟨k, c⟩ := q
      obtain ⟨hk, hrest⟩ : k = p.1 ∧ akeys rest' = akeys rest := List.cons.inj h
      obtain ⟨hp, hnd⟩ := List.nodup_cons.1 hnd
      -- the head's key is found at the head, and no later key of `init` is the head's
      have hhd : alookup p.1 ((k, c) :: rest') = some c := by rw [alookup, if_pos (beq_iff_eq.2 hk)]
      have htl : ∀ x ∈ rest, alookup x.1 ((k, c) :: rest') = alookup x.1 rest' := fun x hx => by
        rw [alookup, if_neg]
        intro e
        exact hp (List.mem_map.2 ⟨x, hx, (beq_iff_eq.1 e).symm.trans hk⟩)
      show (p.1, (alookup p.1 ((k, c) :: rest')).getD p.2) :: loadChans rest ((k, c) :: rest') = (k, c) :: rest'
      rw [hhd, show loadChans rest ((k, c) :: rest') = loadChans rest rest' from
        List.map_congr_left fun x hx => congrArg (fun o => (x.1, o.getD x.2)) (htl x hx),
        ih rest' hrest hnd, ← hk]
      rfl

theorem get_pregel_values (ops : ValOps V) (c : Chan V) : ((c.get ops false).1).values = [] :=
  (get_pregel ops c).2

theorem getReady_pregel_values (ops : ValOps V) (cm : Chans V) :
    ∀ p ∈ (getReady ops false cm).1, p.2.values = [] := by
  rw [getReady_fst]
  intro p hp
  obtain ⟨q, _, rfl⟩ := List.mem_map.1 hp
  exact get_pregel_values ops q.2

theorem getReady_pregel_quiet (ops : ValOps V) : ∀ (cm : Chans V), (∀ p ∈ cm, p.2.values = []) →
    getReady ops false cm = (cm, [], false) :=
  fun cm h => getReady_notReady ops false cm fun p hp => by rw [Chan.get, h p hp]; rfl

theorem calcNext_nil (ops : ValOps V) (r : Runner V) (cm : Chans V) (h : getReady ops r.dag cm = (cm, [], false)) :
    calcNext ops r cm [] = .ok (cm, .tasks []) := by
  unfold calcNext
  simp only [resolve, List.foldlM_nil, pure, Except.pure, bind, Except.bind, updateValues, updateDeps, List.foldl_nil, h]
  simp [alookup]

/-- in any-predecessor mode the second `calculateNextTasks` of the interrupt path is a no-op -/
theorem pregel_quiet (ops : ValOps V) (r : Runner V) (hdag : r.dag = false) (cm : Chans V) (done : List (Done V))
    (cm' : Chans V) (ts : List (Key × V)) (h : calcNext ops r cm done = .ok (cm', .tasks ts)) :
    calcNext ops r cm' [] = .ok (cm', .tasks []) := by
  obtain ⟨res, -, rfl, -⟩ := calcNext_chans h
  apply calcNext_nil
  rw [hdag]
  exact getReady_pregel_quiet ops _ (getReady_pregel_values ops _)

def HasPred (c : Chan V) : Prop := c.ctrl ≠ [] ∨ c.data ≠ []

/-- executable form (for concrete runners) -/
theorem allP_hasPred_of_all (cm : Chans V)
    (h : cm.all (fun p => !p.2.ctrl.isEmpty || !p.2.data.isEmpty) = true) : AllP HasPred cm := by
  intro p hp
  have := List.all_eq_true.1 h p hp
  simp only [Bool.or_eq_true, Bool.not_eq_true', List.isEmpty_eq_false_iff] at this
  exact this

theorem hasPred_reset (c : Chan V) (h : HasPred c) : HasPred c.reset :=
  h.imp (fun hc e => hc (List.map_eq_nil_iff.1 e)) (fun hd e => hd (List.map_eq_nil_iff.1 e))

theorem hasPred_ite {b b' : Chan V} {p : Prop} [Decidable p] (h : HasPred b) (h' : HasPred b') :
    HasPred (if p then b' else b) := by
  by_cases hp : p
  · rw [if_pos hp]; exact h'
  · rw [if_neg hp]; exact h

/-- no channel operation empties a predecessor table: entries are overwritten (`aset`) or, in
    `reset`, mapped over -/
theorem hasPred_ops : OpsPreserve (HasPred (V := V)) where
  values := fun dag c ins h => by
    rw [Chan.reportValues]
    refine hasPred_ite (foldl_inv HasPred _ ins (fun b hb _ _ => ?_) c h)
      (hasPred_ite (foldl_inv HasPred _ ins (fun b hb kv _ => ?_) c h) h)
    · exact hb
    · exact hasPred_ite hb (Or.inr (aset_ne_nil _ _ _))
  deps := fun dag c ds h => by
    rw [Chan.reportDeps]
    refine hasPred_ite h (hasPred_ite (foldl_inv HasPred _ ds (fun b hb a _ => ?_) c h) h)
    exact hasPred_ite hb (Or.inl (aset_ne_nil _ _ _))
  skip := fun dag c ks h => by
    rw [Chan.reportSkip]
    cases dag
    · exact h
    · -- after the fold only `skipped` is set
      refine foldl_inv HasPred _ ks (fun b hb a _ => ?_) c h
      exact hasPred_ite (hasPred_ite hb (Or.inl (aset_ne_nil _ _ _))) (Or.inr (aset_ne_nil _ _ _))
  get := fun ops dag c h => by
    rw [Chan.get]
    simp only [apply_ite Prod.fst]
    exact hasPred_ite (hasPred_ite h h) (hasPred_ite h (hasPred_reset c h))

theorem reset_not_triggered (c : Chan V) (h : HasPred c) (_ht : c.triggered = true) : c.reset.triggered = false :=
  Engine.reset_not_triggered c (h.imp (mt List.map_eq_nil_iff.mp) (mt List.map_eq_nil_iff.mp))

/-- after `get` the channel is not triggered (it was not, or it has been reset), so a second `get`
    finds it not ready -/
theorem get_dag_quiet (ops : ValOps V) (c : Chan V) (h : HasPred c) :
    ((c.get ops true).1).get ops true = ((c.get ops true).1, .notReady) := by
  apply get_not_triggered
  rw [get_fst]
  split
  · exact reset_not_triggered c h ‹_›
  · exact Bool.eq_false_iff.2 ‹_›

theorem getReady_dag_quiet (ops : ValOps V) : ∀ (cm : Chans V), AllP HasPred cm →
    getReady ops true (getReady ops true cm).1 = ((getReady ops true cm).1, [], false) := by
  intro cm h
  apply getReady_notReady
  rw [getReady_fst]
  intro p hp
  obtain ⟨q, hq, rfl⟩ := List.mem_map.1 hp
  exact get_dag_quiet ops q.2 (h q hq)

/-- all-predecessor mode: on channels that all have a predecessor, the second `calculateNextTasks`
    of the interrupt path is a no-op, and the invariant is kept -/
theorem dag_quiet (ops : ValOps V) (r : Runner V) (hdag : r.dag = true) (cm : Chans V) (done : List (Done V))
    (cm' : Chans V) (ts : List (Key × V)) (hinv : AllP HasPred cm)
    (h : calcNext ops r cm done = .ok (cm', .tasks ts)) :
    AllP HasPred cm' ∧ calcNext ops r cm' [] = .ok (cm', .tasks []) := by
  refine ⟨calcNext_allP HasPred hasPred_ops ops r cm done cm' _ h hinv, ?_⟩
  obtain ⟨res, hres, rfl, -⟩ := calcNext_chans h
  apply calcNext_nil
  rw [hdag]
  exact getReady_dag_quiet ops _ ((((foldlM_resolve_keeps hasPred_ops r done _ res hres).trans
    (updateValues_keeps hasPred_ops r _ _)).trans (updateDeps_keeps hasPred_ops r _ _)).2 hinv)

end EinoV.Interrupt
