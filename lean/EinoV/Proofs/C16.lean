/-
  C16 — helper lemmas about the option-distribution model (no property statements here;
  those are in EinoV/Props/C16.lean).  The stretches of the file, in order, each by its first declaration:
  `mapE_eq_mapM`: the early-return loop `mapE` as `List.mapM`.  `mem_itemsFor`: membership in the log.
  `optEntries_ok`: inversions of `optEntries` / `extract` (the log of an accepted level; which path rejects one).
  `find_some`: `Nodes.find`, and what `wf` adds (`wf_find`, `wf_child`).  `mem_undesignatedFor_val`: what the
  undesignated block and `pathEntry` append, summed up for one level by `level_vals` / `level_opts`.
  `nodeAt_ne_nil`: one level against `EntrySpec`: `SubOf` (what a graph node hands down), `sub_vals` /
  `sub_handlers` (`Covers` one level up), `handlers_of_entry` / `vals_of_entry` (what Props/C16.lean reads off an
  entry), and `entrySpec_comp` / `_graph` / `_nested`, the steps of the soundness induction of Proofs/C16Resume.lean.
  `level_then_ok`: when a sequenced run is accepted (Proofs/C16Resume.lean uses it too); `Node.induct`.
  `pathErr_congr`: `pathErr` level by level (`pathErr_step`, `sub_err`, `DeepErr`, `level_err`) up to `run_err`
  (`designation_errors_iff` of Props/C16.lean); `pathErr_at`, `pathErr_below`, `pathErr_unknown` serve `bad_paths`.
  `storeAfterAux_copies`: sequences of calls (`no_leak`).  `BInv`: the builder heap `BState` under `bstep`, up to
  `builtPaths_copies` (`designate_paths_exact`).  `run_ok`, last: an accepted `run` split into its level and its
  chain; `run_entries` and `option_reaches_iff` of Props/C16.lean open with it.
-/
import EinoV.Spec.C16
import EinoV.Proofs.Monadic

namespace EinoV.C16

theorem mapE_eq_mapM {α β ε : Type} (f : α → Except ε β) (l : List α) : mapE f l = l.mapM f := by
  induction l with
  | nil => rfl
  | cons a as ih =>
    rw [List.mapM_cons, mapE, ih]
    cases f a with
    | error e => rfl
    | ok b => cases as.mapM f <;> rfl

theorem mapE_cons_ok {α β ε : Type} {f : α → Except ε β} {a : α} {as : List α} {r : List β} :
    mapE f (a :: as) = .ok r ↔ ∃ b bs, f a = .ok b ∧ mapE f as = .ok bs ∧ r = b :: bs := by
  rw [mapE_eq_mapM, mapE_eq_mapM]; exact mapM_cons_ok

theorem mapE_ok_mem {α β ε : Type} {f : α → Except ε β} {l : List α} {r : List β}
    (h : mapE f l = .ok r) (b : β) : b ∈ r ↔ ∃ a ∈ l, f a = .ok b := by
  rw [mapE_eq_mapM] at h
  refine ⟨mapM_mem_ok f l r h b, fun ⟨a, ha, hb⟩ => ?_⟩
  obtain ⟨b', hb', hab'⟩ := mapM_ok_of_mem f l r h a ha
  cases hab'.symm.trans hb
  exact hb'

theorem mapE_error_iff {α β ε : Type} {f : α → Except ε β} {l : List α} :
    (∃ e, mapE f l = .error e) ↔ ∃ a ∈ l, ∃ e, f a = .error e := by
  rw [mapE_eq_mapM]
  exact ⟨fun ⟨e, h⟩ => let ⟨a, ha, hf⟩ := mapM_error_mem f l e h; ⟨a, ha, e, hf⟩,
    fun ⟨a, ha, e, hf⟩ => mapM_error_of_mem f l a ha e hf⟩

theorem mapE_ok_all {α β ε : Type} {f : α → Except ε β} {l : List α} {r : List β}
    (h : mapE f l = .ok r) : ∀ a ∈ l, ∃ b, f a = .ok b ∧ b ∈ r := fun a ha =>
  let ⟨b, hb, hf⟩ := mapM_ok_of_mem f l r (mapE_eq_mapM f l ▸ h) a ha
  ⟨b, hf, hb⟩

theorem mapE_flatten_mem {α β ε : Type} {f : α → Except ε (List β)} {l : List α} {ls : List (List β)}
    (h : mapE f l = .ok ls) (x : β) : x ∈ ls.flatten ↔ ∃ a ∈ l, ∃ r, f a = .ok r ∧ x ∈ r := by
  simp only [List.mem_flatten, mapE_ok_mem h]
  exact ⟨fun ⟨r, ⟨a, ha, hr⟩, hx⟩ => ⟨a, ha, r, hr, hx⟩, fun ⟨a, ha, r, hr, hx⟩ => ⟨r, ⟨a, ha, hr⟩, hx⟩⟩

theorem mem_filterMap_inv {α β : Type} {f : α → Option β} {g : β → α} (h : ∀ a b, f a = some b ↔ a = g b)
    {l : List α} {b : β} : b ∈ l.filterMap f ↔ g b ∈ l := by
  simp only [List.mem_filterMap, h, exists_eq_right]

theorem mem_filterMap_key {κ α : Type} [DecidableEq κ] {l : List (κ × α)} {k : κ} {x : α} :
    x ∈ l.filterMap (fun e => if e.1 = k then some e.2 else none) ↔ (k, x) ∈ l :=
  mem_filterMap_inv fun e x => by
    obtain ⟨k', y⟩ := e
    by_cases hk : k' = k <;> simp [hk]

theorem mem_itemsFor {log : Log} {k : Key} {it : Item} : it ∈ itemsFor log k ↔ (k, it) ∈ log :=
  mem_filterMap_key

theorem itemsFor_append (a b : Log) (k : Key) : itemsFor (a ++ b) k = itemsFor a k ++ itemsFor b k := by
  simp [itemsFor]

theorem mem_valsOf {items : List Item} {v : Nat} : v ∈ valsOf items ↔ Item.val v ∈ items :=
  mem_filterMap_inv fun it v => by cases it <;> simp

theorem mem_optsOf {items : List Item} {o : Opt} : o ∈ optsOf items ↔ Item.opt o ∈ items :=
  mem_filterMap_inv fun it o => by cases it <;> simp

theorem mem_vals_log {log : Log} {k : Key} {v : Nat} :
    v ∈ valsOf (itemsFor log k) ↔ (k, Item.val v) ∈ log := by
  rw [mem_valsOf, mem_itemsFor]

theorem mem_opts_log {log : Log} {k : Key} {o : Opt} :
    o ∈ optsOf (itemsFor log k) ↔ (k, Item.opt o) ∈ log := by
  rw [mem_optsOf, mem_itemsFor]

theorem optEntries_ok {F : Facts} {nodes : Nodes} {o : Opt} {l : Log} (h : optEntries F nodes o = .ok l) :
    ∃ ds, mapE (pathEntry F nodes o) o.paths = .ok ds ∧ l = undesignatedEntries F nodes o ++ ds.flatten := by
  unfold optEntries at h
  split at h
  · cases h
  · cases h; exact ⟨_, ‹_›, rfl⟩

theorem optEntries_ok_mem {F : Facts} {nodes : Nodes} {o : Opt} {l : Log}
    (h : optEntries F nodes o = .ok l) (x : Key × Item) :
    x ∈ l ↔ x ∈ undesignatedEntries F nodes o ∨
      ∃ p ∈ o.paths, ∃ lp, pathEntry F nodes o p = .ok lp ∧ x ∈ lp := by
  obtain ⟨ds, hds, rfl⟩ := optEntries_ok h
  rw [List.mem_append, mapE_flatten_mem hds]

theorem optEntries_ok_paths {F : Facts} {nodes : Nodes} {o : Opt} {l : Log}
    (h : optEntries F nodes o = .ok l) : ∀ p ∈ o.paths, ∃ lp, pathEntry F nodes o p = .ok lp := by
  obtain ⟨ds, hds, _⟩ := optEntries_ok h
  intro p hp
  obtain ⟨lp, h1, _⟩ := mapE_ok_all hds p hp
  exact ⟨lp, h1⟩

theorem optEntries_error_iff {F : Facts} {nodes : Nodes} {o : Opt} :
    (∃ e, optEntries F nodes o = .error e) ↔ ∃ p ∈ o.paths, ∃ e, pathEntry F nodes o p = .error e := by
  rw [← mapE_error_iff]
  unfold optEntries
  cases mapE (pathEntry F nodes o) o.paths with
  | error e => simp
  | ok ds => simp

theorem extract_ok {F : Facts} {nodes : Nodes} {opts : List Opt} {log : Log} (h : extract F nodes opts = .ok log) :
    ∃ ls, mapE (optEntries F nodes) opts = .ok ls ∧ log = ls.flatten := by
  unfold extract at h
  split at h
  · cases h
  · cases h; exact ⟨_, ‹_›, rfl⟩

theorem extract_ok_mem {F : Facts} {nodes : Nodes} {opts : List Opt} {log : Log}
    (h : extract F nodes opts = .ok log) (x : Key × Item) :
    x ∈ log ↔ ∃ o ∈ opts, x ∈ undesignatedEntries F nodes o ∨
      ∃ p ∈ o.paths, ∃ lp, pathEntry F nodes o p = .ok lp ∧ x ∈ lp := by
  obtain ⟨ls, hls, rfl⟩ := extract_ok h
  rw [mapE_flatten_mem hls]
  constructor
  · rintro ⟨o, ho, l, hoe, hx⟩
    exact ⟨o, ho, (optEntries_ok_mem hoe x).mp hx⟩
  · rintro ⟨o, ho, hx⟩
    obtain ⟨l, hoe, _⟩ := mapE_ok_all hls o ho
    exact ⟨o, ho, l, hoe, (optEntries_ok_mem hoe x).mpr hx⟩

theorem extract_ok_paths {F : Facts} {nodes : Nodes} {opts : List Opt} {log : Log}
    (h : extract F nodes opts = .ok log) :
    ∀ o ∈ opts, ∀ p ∈ o.paths, ∃ lp, pathEntry F nodes o p = .ok lp := by
  obtain ⟨ls, hls, _⟩ := extract_ok h
  intro o ho
  obtain ⟨l, hoe, _⟩ := mapE_ok_all hls o ho
  exact optEntries_ok_paths hoe

theorem extract_error_iff {F : Facts} {nodes : Nodes} {opts : List Opt} :
    (∃ e, extract F nodes opts = .error e) ↔
      ∃ o ∈ opts, ∃ p ∈ o.paths, ∃ e, pathEntry F nodes o p = .error e := by
  have : (∃ e, extract F nodes opts = .error e) ↔ ∃ e, mapE (optEntries F nodes) opts = .error e := by
    unfold extract
    cases mapE (optEntries F nodes) opts with
    | error e => simp
    | ok ds => simp
  rw [this, mapE_error_iff]
  constructor
  · rintro ⟨o, ho, he⟩; exact ⟨o, ho, optEntries_error_iff.mp he⟩
  · rintro ⟨o, ho, he⟩; exact ⟨o, ho, optEntries_error_iff.mpr he⟩

theorem find_some {nodes : Nodes} {k : Key} {n : Node} (h : nodes.find k = some n) :
    n ∈ nodes.toList ∧ n.key = k := by
  unfold Nodes.find at h
  have h1 := List.mem_of_find?_eq_some h
  have h2 := List.find?_some h
  exact ⟨h1, by simpa using h2⟩

theorem find_none {nodes : Nodes} {k : Key} (h : nodes.find k = none) :
    ∀ n ∈ nodes.toList, n.key ≠ k := by
  unfold Nodes.find at h
  intro n hn
  have := List.find?_eq_none.mp h n hn
  simpa using this

theorem find_cons (n : Node) (ns : Nodes) (k : Key) :
    (Nodes.cons n ns).find k = if n.key = k then some n else ns.find k := by
  unfold Nodes.find
  simp only [Nodes.toList, List.find?_cons]
  by_cases h : n.key = k
  · simp [h]
  · have : (n.key == k) = false := by simp [h]
    simp [this, h]

theorem wf_find {nodes : Nodes} (hwf : nodes.wf = true) {n : Node} (hn : n ∈ nodes.toList) :
    nodes.find n.key = some n := by
  cases nodes with
  | nil => simp [Nodes.toList] at hn
  | cons m ms =>
    simp only [Nodes.wf, Bool.and_eq_true, Bool.not_eq_true', List.any_eq_false, beq_iff_eq] at hwf
    obtain ⟨⟨_, hms⟩, hdist⟩ := hwf
    simp only [Nodes.toList, List.mem_cons] at hn
    rw [find_cons]
    rcases hn with rfl | hn
    · exact if_pos rfl
    · rw [if_neg (fun h => hdist n hn h.symm)]
      exact wf_find hms hn

theorem wf_child {nodes : Nodes} (hwf : nodes.wf = true) {k : Key} {ch : Nodes}
    (hn : Node.graph k ch ∈ nodes.toList) : ch.wf = true := by
  cases nodes with
  | nil => simp [Nodes.toList] at hn
  | cons m ms =>
    simp only [Nodes.wf, Bool.and_eq_true] at hwf
    obtain ⟨⟨hm, hms⟩, _⟩ := hwf
    simp only [Nodes.toList, List.mem_cons] at hn
    rcases hn with rfl | hn
    · simpa [Node.wf] using hm
    · exact wf_child hms hn

/-- with the source's test (`==` / `!=` on `reflect.Type`s) matching is identity of the tags -/
theorem tyMatch_id {F : Facts} (hI : F.typeCmpImplements = false) (a b : Nat) :
    tyMatch F a b = (a == b) := by
  simp [tyMatch, hI]

theorem not_tyMatch_id {F : Facts} (hI : F.typeCmpImplements = false) (a b : Nat) :
    (!tyMatch F a b) = (a != b) := by
  simp [tyMatch, hI, bne]

theorem mem_undesignatedFor_val {F : Facts} (hT : F.typeCmpIdentity = true)
    (hI : F.typeCmpImplements = false) {o : Opt} {n : Node}
    {k : Key} {v : Nat} :
    (k, Item.val v) ∈ undesignatedFor F o n ↔ ∃ ty, n = .comp k ty ∧ ty = o.ty ∧ v ∈ o.vals := by
  cases n with
  | comp k' ty' =>
    simp only [undesignatedFor, hT, tyMatch_id hI, Bool.not_true, Bool.false_or, beq_iff_eq]
    split
    · rename_i hty
      simp only [List.mem_map, Prod.mk.injEq, Item.val.injEq, Node.comp.injEq]
      constructor
      · rintro ⟨v', hv', rfl, rfl⟩; exact ⟨ty', ⟨rfl, rfl⟩, hty, hv'⟩
      · rintro ⟨ty, ⟨rfl, rfl⟩, _, hv⟩; exact ⟨v, hv, rfl, rfl⟩
    · rename_i hty
      simp only [List.not_mem_nil, Node.comp.injEq, false_iff, not_exists, not_and]
      rintro ty ⟨_, rfl⟩ h; exact absurd h hty
  | pass k' => simp [undesignatedFor]
  | graph k' ch => simp [undesignatedFor]

theorem mem_undesignatedFor_opt {F : Facts} {o o' : Opt} {n : Node} {k : Key} :
    (k, Item.opt o') ∈ undesignatedFor F o n ↔
      ((n = .pass k ∨ ∃ ch, n = .graph k ch) ∧ o' = o) := by
  cases n with
  | comp k' ty' =>
    simp only [undesignatedFor]
    split <;> simp
  | pass k' =>
    simp only [undesignatedFor, List.mem_singleton, Prod.mk.injEq, Item.opt.injEq, Node.pass.injEq,
      reduceCtorEq, exists_false, or_false]
    constructor <;> rintro ⟨rfl, rfl⟩ <;> exact ⟨rfl, rfl⟩
  | graph k' ch =>
    simp only [undesignatedFor, List.mem_singleton, Prod.mk.injEq, Item.opt.injEq, reduceCtorEq,
      Node.graph.injEq, false_or]
    constructor
    · rintro ⟨rfl, rfl⟩; exact ⟨⟨ch, rfl, rfl⟩, rfl⟩
    · rintro ⟨⟨ch', rfl, _⟩, rfl⟩; exact ⟨rfl, rfl⟩

theorem mem_undesignatedEntries {F : Facts} {nodes : Nodes} {o : Opt} {x : Key × Item} :
    x ∈ undesignatedEntries F nodes o ↔
      o.paths = [] ∧ o.vals ≠ [] ∧ ∃ n ∈ nodes.toList, x ∈ undesignatedFor F o n := by
  unfold undesignatedEntries
  split
  · rename_i h; simp [List.mem_flatMap, h.1, h.2]
  · rename_i h
    simp only [List.not_mem_nil, false_iff]
    rintro ⟨h1, h2, _⟩; exact h ⟨h1, h2⟩



theorem pathEntry_ok {F : Facts} {nodes : Nodes} {o : Opt} {p : Path} {lp : Log}
    (h : pathEntry F nodes o p = .ok lp) :
    ∃ k rest n, p = k :: rest ∧ nodes.find k = some n ∧
      ((rest = [] ∧ o.vals = [] ∧ lp = []) ∨
       (rest = [] ∧ o.vals ≠ [] ∧ ∃ k' ty, n = .comp k' ty ∧
          (F.typeCmpIdentity && !tyMatch F ty o.ty) = false ∧ lp = o.vals.map (fun v => (k, .val v))) ∨
       (rest = [] ∧ o.vals ≠ [] ∧ (∀ k' ty, n ≠ .comp k' ty) ∧ lp = [(k, .opt { o with paths := [] })]) ∨
       (rest ≠ [] ∧ (∀ k' ty, n ≠ .comp k' ty) ∧
          lp = [(k, .opt { o with paths := [(k :: rest).drop F.strip] })])) := by
  cases p with
  | nil => cases h
  | cons k rest =>
    rw [pathEntry] at h
    cases hf : nodes.find k with
    | none => rw [hf] at h; cases h
    | some n =>
      rw [hf] at h
      refine ⟨k, rest, n, rfl, hf, ?_⟩
      by_cases hr : rest = []
      · simp only [if_pos hr] at h
        by_cases hv : o.vals = []
        · rw [if_pos hv] at h; cases h; exact .inl ⟨hr, hv, rfl⟩
        · rw [if_neg hv] at h
          cases n with
          | comp k' ty =>
            by_cases hc : (F.typeCmpIdentity && !tyMatch F ty o.ty) = true
            · simp only [if_pos hc] at h; cases h
            · simp only [if_neg hc] at h; cases h
              exact .inr (.inl ⟨hr, hv, k', ty, rfl, Bool.eq_false_iff.mpr hc, rfl⟩)
          | pass k' => cases h; exact .inr (.inr (.inl ⟨hr, hv, nofun, rfl⟩))
          | graph k' ch => cases h; exact .inr (.inr (.inl ⟨hr, hv, nofun, rfl⟩))
      · simp only [if_neg hr] at h
        cases n with
        | comp k' ty => cases h
        | pass k' =>
          by_cases hp : F.passSubPathIsError = true
          · simp only [if_pos hp] at h; cases h
          · simp only [if_neg hp] at h; cases h; exact .inr (.inr (.inr ⟨hr, nofun, rfl⟩))
        | graph k' ch => cases h; exact .inr (.inr (.inr ⟨hr, nofun, rfl⟩))

theorem pathEntry_ok_val {F : Facts} (hT : F.typeCmpIdentity = true)
    (hI : F.typeCmpImplements = false) {nodes : Nodes} {o : Opt}
    {p : Path} {lp : Log} (h : pathEntry F nodes o p = .ok lp) (k : Key) (v : Nat) :
    (k, Item.val v) ∈ lp ↔
      p = [k] ∧ v ∈ o.vals ∧ ∃ k' ty, nodes.find k = some (.comp k' ty) ∧ ty = o.ty := by
  obtain ⟨k0, rest, n, rfl, hf, hs⟩ := pathEntry_ok h
  rcases hs with ⟨rfl, hv, rfl⟩ | ⟨rfl, _, k', ty, rfl, hc, rfl⟩ | ⟨rfl, _, hn, rfl⟩ | ⟨hr, _, rfl⟩
  · simp [hv]
  · have hty : ty = o.ty := by simpa [hT, tyMatch_id hI] using hc
    simp only [List.mem_map, Prod.mk.injEq, Item.val.injEq, List.cons.injEq, and_true]
    constructor
    · rintro ⟨v', hv', rfl, rfl⟩; exact ⟨rfl, hv', k', ty, hf, hty⟩
    · rintro ⟨rfl, hv', _⟩; exact ⟨v, hv', rfl, rfl⟩
  · simp only [List.mem_singleton, Prod.mk.injEq, reduceCtorEq, and_false, false_iff]
    rintro ⟨hp, _, k', ty, hf', _⟩
    cases hp; rw [hf] at hf'; cases hf'; exact hn _ _ rfl
  · simp [hr]

theorem pathEntry_ok_opt {F : Facts} (hS : F.strip = 1) {nodes : Nodes} {o : Opt}
    {p : Path} {lp : Log} (h : pathEntry F nodes o p = .ok lp) (k : Key) (o' : Opt) :
    (k, Item.opt o') ∈ lp ↔ ∃ n, nodes.find k = some n ∧ (∀ k' ty, n ≠ .comp k' ty) ∧
      ((p = [k] ∧ o.vals ≠ [] ∧ o' = { o with paths := [] }) ∨
       (∃ rest, rest ≠ [] ∧ p = k :: rest ∧ o' = { o with paths := [rest] })) := by
  obtain ⟨k0, rest, n, rfl, hf, hs⟩ := pathEntry_ok h
  have hd : List.drop F.strip (k0 :: rest) = rest := by rw [hS]; rfl
  constructor
  · intro hm
    rcases hs with ⟨rfl, _, rfl⟩ | ⟨rfl, _, _, _, rfl, _, rfl⟩ | ⟨rfl, hv, hn, rfl⟩ | ⟨hr, hn, rfl⟩
    · cases hm
    · obtain ⟨_, _, hx⟩ := List.mem_map.mp hm; cases hx
    · cases List.mem_singleton.mp hm; exact ⟨n, hf, hn, .inl ⟨rfl, hv, rfl⟩⟩
    · cases List.mem_singleton.mp hm; exact ⟨n, hf, hn, .inr ⟨rest, hr, rfl, by rw [hd]⟩⟩
  · rintro ⟨n', hf', hn', (⟨hp, hv', rfl⟩ | ⟨r, hr', hp, rfl⟩)⟩ <;> (cases hp; rw [hf] at hf'; cases hf')
    · rcases hs with ⟨_, hv, _⟩ | ⟨_, _, k', ty, rfl, _, _⟩ | ⟨_, _, _, rfl⟩ | ⟨hr, _⟩
      · exact absurd hv hv'
      · exact absurd rfl (hn' k' ty)
      · exact List.mem_singleton.mpr rfl
      · exact absurd rfl hr
    · rcases hs with ⟨rfl, _⟩ | ⟨rfl, _⟩ | ⟨rfl, _⟩ | ⟨_, _, rfl⟩
      · exact absurd rfl hr'
      · exact absurd rfl hr'
      · exact absurd rfl hr'
      · rw [hd]; exact List.mem_singleton.mpr rfl

theorem level_vals {F : Facts} (hT : F.typeCmpIdentity = true)
    (hI : F.typeCmpImplements = false) {nodes : Nodes} {opts : List Opt}
    {log : Log} (hwf : nodes.wf = true) (he : extract F nodes opts = .ok log) {k : Key} {ty : Nat}
    (hn : Node.comp k ty ∈ nodes.toList) (v : Nat) :
    (k, Item.val v) ∈ log ↔
      ∃ o ∈ opts, v ∈ o.vals ∧ ty = o.ty ∧ (o.paths = [] ∨ [k] ∈ o.paths) := by
  have hfind : nodes.find k = some (.comp k ty) := wf_find hwf hn
  rw [extract_ok_mem he]
  constructor
  · rintro ⟨o, ho, (hu | ⟨p, hp, lp, hpe, hx⟩)⟩
    · obtain ⟨h1, _, n', hn', hx⟩ := mem_undesignatedEntries.mp hu
      obtain ⟨ty', rfl, hty, hv⟩ := (mem_undesignatedFor_val hT hI).mp hx
      have := wf_find hwf hn'
      simp only [Node.key] at this
      rw [hfind] at this; cases this
      exact ⟨o, ho, hv, hty, Or.inl h1⟩
    · obtain ⟨rfl, hv, k', ty', hf, hty⟩ := (pathEntry_ok_val hT hI hpe k v).mp hx
      rw [hfind] at hf; cases hf
      exact ⟨o, ho, hv, hty, Or.inr hp⟩
  · rintro ⟨o, ho, hv, hty, (h1 | hk)⟩
    · refine ⟨o, ho, Or.inl (mem_undesignatedEntries.mpr ⟨h1, ?_, _, hn, ?_⟩)⟩
      · intro h; rw [h] at hv; cases hv
      · exact (mem_undesignatedFor_val hT hI).mpr ⟨ty, rfl, hty, hv⟩
    · obtain ⟨lp, hpe⟩ := extract_ok_paths he o ho _ hk
      exact ⟨o, ho, Or.inr ⟨_, hk, lp, hpe,
        (pathEntry_ok_val hT hI hpe k v).mpr ⟨rfl, hv, k, ty, hfind, hty⟩⟩⟩

theorem level_opts {F : Facts} (hS : F.strip = 1) {nodes : Nodes} {opts : List Opt}
    {log : Log} (hwf : nodes.wf = true) (he : extract F nodes opts = .ok log) {k : Key} {ch : Nodes}
    (hn : Node.graph k ch ∈ nodes.toList) (o' : Opt) :
    (k, Item.opt o') ∈ log ↔ ∃ o ∈ opts,
      (o.paths = [] ∧ o.vals ≠ [] ∧ o' = o) ∨
      ([k] ∈ o.paths ∧ o.vals ≠ [] ∧ o' = { o with paths := [] }) ∨
      (∃ rest, rest ≠ [] ∧ k :: rest ∈ o.paths ∧ o' = { o with paths := [rest] }) := by
  have hfind : nodes.find k = some (.graph k ch) := wf_find hwf hn
  rw [extract_ok_mem he]
  constructor
  · rintro ⟨o, ho, (hu | ⟨p, hp, lp, hpe, hx⟩)⟩
    · obtain ⟨h1, h2, n', _, hx⟩ := mem_undesignatedEntries.mp hu
      obtain ⟨_, rfl⟩ := mem_undesignatedFor_opt.mp hx
      exact ⟨o', ho, Or.inl ⟨h1, h2, rfl⟩⟩
    · obtain ⟨n, _, _, (⟨rfl, hv, rfl⟩ | ⟨rest, hr, rfl, rfl⟩)⟩ := (pathEntry_ok_opt hS hpe k o').mp hx
      · exact ⟨o, ho, Or.inr (Or.inl ⟨hp, hv, rfl⟩)⟩
      · exact ⟨o, ho, Or.inr (Or.inr ⟨rest, hr, hp, rfl⟩)⟩
  · rintro ⟨o, ho, (⟨h1, h2, rfl⟩ | ⟨hk, hv, rfl⟩ | ⟨rest, hr, hk, rfl⟩)⟩
    · exact ⟨o', ho, Or.inl (mem_undesignatedEntries.mpr ⟨h1, h2, _, hn,
        mem_undesignatedFor_opt.mpr ⟨Or.inr ⟨ch, rfl⟩, rfl⟩⟩)⟩
    · obtain ⟨lp, hpe⟩ := extract_ok_paths he o ho _ hk
      exact ⟨o, ho, Or.inr ⟨_, hk, lp, hpe,
        (pathEntry_ok_opt hS hpe k _).mpr ⟨_, hfind, by simp, Or.inl ⟨rfl, hv, rfl⟩⟩⟩⟩
    · obtain ⟨lp, hpe⟩ := extract_ok_paths he o ho _ hk
      exact ⟨o, ho, Or.inr ⟨_, hk, lp, hpe,
        (pathEntry_ok_opt hS hpe k _).mpr ⟨_, hfind, by simp, Or.inr ⟨rest, hr, rfl, rfl⟩⟩⟩⟩



theorem nodeAt_ne_nil {ns : Nodes} {p : Path} {n : Node} (h : nodeAt ns p = some n) : p ≠ [] := by
  cases p with
  | nil => simp [nodeAt] at h
  | cons => simp

theorem prefix_singleton {q : Path} {k : Key} (hne : q ≠ []) : q <+: [k] ↔ q = [k] := by
  cases q with
  | nil => exact absurd rfl hne
  | cons a as => rw [List.cons_prefix_cons, List.prefix_nil, List.cons.injEq]

theorem coversD_singleton {o : Opt} {k : Key} : CoversD o [k] ↔ [k] ∈ o.paths := by
  unfold CoversD
  constructor
  · rintro ⟨q, hq, hne, hp⟩; rw [(prefix_singleton hne).mp hp] at hq; exact hq
  · intro h; exact ⟨[k], h, by simp, List.prefix_refl _⟩

theorem coversD_nil {o : Opt} : ¬ CoversD o [] := by
  rintro ⟨q, _, hne, hp⟩; exact hne (List.prefix_nil.mp hp)

theorem mem_flatMap_ite {α β : Type} {P : α → Prop} [DecidablePred P] {f : α → List β} {l : List α} {b : β} :
    b ∈ l.flatMap (fun a => if P a then f a else []) ↔ ∃ a ∈ l, P a ∧ b ∈ f a := by
  simp only [List.mem_flatMap]
  refine exists_congr fun a => and_congr_right fun _ => ?_
  split <;> simp [*]

theorem mem_graphHandlers {opts : List Opt} {h : Nat} :
    h ∈ graphHandlers opts ↔ ∃ o ∈ opts, o.paths = [] ∧ h ∈ o.handlers :=
  mem_flatMap_ite

theorem mem_nodeHandlers {opts : List Opt} {k : Key} {h : Nat} :
    h ∈ nodeHandlers opts k ↔ ∃ o ∈ opts, [k] ∈ o.paths ∧ h ∈ o.handlers :=
  mem_flatMap_ite

/-- the Options a graph node hands to its nested run, in terms of the enclosing run's -/
def SubOf (opts sub : List Opt) (k : Key) : Prop :=
  ∀ o', o' ∈ sub ↔ ∃ o ∈ opts,
      (o.paths = [] ∧ o.vals ≠ [] ∧ o' = o) ∨
      ([k] ∈ o.paths ∧ o.vals ≠ [] ∧ o' = { o with paths := [] }) ∨
      (∃ rest, rest ≠ [] ∧ k :: rest ∈ o.paths ∧ o' = { o with paths := [rest] })

theorem sub_vals {opts sub : List Opt} {k : Key} (hsub : SubOf opts sub k) (rel' : Path)
    (v ty : Nat) :
    (∃ o' ∈ sub, v ∈ o'.vals ∧ ty = o'.ty ∧ Covers o' rel') ↔
    (∃ o ∈ opts, v ∈ o.vals ∧ ty = o.ty ∧ Covers o (k :: rel')) := by
  constructor
  · rintro ⟨o', ho', hv, hty, hc⟩
    obtain ⟨o, ho, (⟨h1, _, rfl⟩ | ⟨hk, _, rfl⟩ | ⟨rest, hr, hk, rfl⟩)⟩ := (hsub o').mp ho'
    · exact ⟨o', ho, hv, hty, Or.inl h1⟩
    · exact ⟨o, ho, hv, hty, Or.inr ⟨[k], hk, by simp, by simp [List.cons_prefix_cons]⟩⟩
    · rcases hc with hc | ⟨q, hq, hne, hp⟩
      · simp at hc
      · simp only [List.mem_singleton] at hq; subst hq
        exact ⟨o, ho, hv, hty, Or.inr ⟨k :: q, hk, by simp, List.cons_prefix_cons.mpr ⟨rfl, hp⟩⟩⟩
  · rintro ⟨o, ho, hv, hty, hc⟩
    have hvne : o.vals ≠ [] := by intro h; rw [h] at hv; cases hv
    rcases hc with h1 | ⟨q, hq, hne, hp⟩
    · exact ⟨o, (hsub o).mpr ⟨o, ho, Or.inl ⟨h1, hvne, rfl⟩⟩, hv, hty, Or.inl h1⟩
    · cases q with
      | nil => exact absurd rfl hne
      | cons k0 rest0 =>
        obtain ⟨rfl, hp'⟩ := List.cons_prefix_cons.mp hp
        by_cases hr : rest0 = []
        · subst hr
          exact ⟨{ o with paths := [] }, (hsub _).mpr ⟨o, ho, Or.inr (Or.inl ⟨hq, hvne, rfl⟩)⟩,
            hv, hty, Or.inl rfl⟩
        · exact ⟨{ o with paths := [rest0] },
            (hsub _).mpr ⟨o, ho, Or.inr (Or.inr ⟨rest0, hr, hq, rfl⟩)⟩,
            hv, hty, Or.inr ⟨rest0, by simp, hr, hp'⟩⟩

theorem sub_handlers {opts sub : List Opt} {k : Key} (hsub : SubOf opts sub k) {gH : List Nat}
    (hG : ∀ h ∈ graphHandlers opts, h ∈ gH) (rel' : Path) (h : Nat) :
    (h ∈ (gH ++ nodeHandlers opts k) ++ graphHandlers sub ∨
        ∃ o' ∈ sub, h ∈ o'.handlers ∧ CoversD o' rel') ↔
    (h ∈ gH ∨ ∃ o ∈ opts, h ∈ o.handlers ∧ CoversD o (k :: rel')) := by
  constructor
  · rintro (hm | ⟨o', ho', hh, q, hq, hne, hp⟩)
    · simp only [List.mem_append] at hm
      rcases hm with (hm | hm) | hm
      · exact Or.inl hm
      · obtain ⟨o, ho, hk, hh⟩ := mem_nodeHandlers.mp hm
        exact Or.inr ⟨o, ho, hh, [k], hk, by simp, by simp [List.cons_prefix_cons]⟩
      · obtain ⟨o', ho', hp', hh⟩ := mem_graphHandlers.mp hm
        obtain ⟨o, ho, (⟨h1, _, rfl⟩ | ⟨hk, _, rfl⟩ | ⟨rest, hr, hk, rfl⟩)⟩ := (hsub o').mp ho'
        · exact Or.inl (hG h (mem_graphHandlers.mpr ⟨o', ho, h1, hh⟩))
        · exact Or.inr ⟨o, ho, hh, [k], hk, by simp, by simp [List.cons_prefix_cons]⟩
        · simp at hp'
    · obtain ⟨o, ho, (⟨h1, _, rfl⟩ | ⟨hk, _, rfl⟩ | ⟨rest, hr, hk, rfl⟩)⟩ := (hsub o').mp ho'
      · rw [h1] at hq; cases hq
      · cases hq
      · simp only [List.mem_singleton] at hq; subst hq
        exact Or.inr ⟨o, ho, hh, k :: q, hk, by simp, List.cons_prefix_cons.mpr ⟨rfl, hp⟩⟩
  · rintro (hm | ⟨o, ho, hh, q, hq, hne, hp⟩)
    · exact Or.inl (by simp [hm])
    · cases q with
      | nil => exact absurd rfl hne
      | cons k0 rest0 =>
        obtain ⟨rfl, hp'⟩ := List.cons_prefix_cons.mp hp
        by_cases hr : rest0 = []
        · subst hr
          left
          simp only [List.mem_append]
          exact Or.inl (Or.inr (mem_nodeHandlers.mpr ⟨o, ho, hq, hh⟩))
        · exact Or.inr ⟨{ o with paths := [rest0] },
            (hsub _).mpr ⟨o, ho, Or.inr (Or.inr ⟨rest0, hr, hq, rfl⟩)⟩, hh, rest0, by simp, hr, hp'⟩



theorem nodeAt_singleton {all : Nodes} {k : Key} {n : Node} (h : all.find k = some n) :
    nodeAt all [k] = some n := by
  simp [nodeAt, h]

theorem nodeAt_cons {all ch : Nodes} {k : Key} {rel : Path} (h : all.find k = some (.graph k ch))
    (hr : rel ≠ []) : nodeAt all (k :: rel) = nodeAt ch rel := by
  simp [nodeAt, h, hr]

theorem nodeAt_cons_some {g : Nodes} {k : Key} {rest : Path} {n : Node} :
    nodeAt g (k :: rest) = some n ↔
      (rest = [] ∧ g.find k = some n) ∨
      (rest ≠ [] ∧ ∃ k' ch, g.find k = some (.graph k' ch) ∧ nodeAt ch rest = some n) := by
  simp only [nodeAt]
  cases g.find k with
  | none => simp
  | some m =>
    by_cases hr : rest = []
    · simp [hr]
    · cases m <;> simp [hr, and_assoc]

theorem handlers_of_entry {g : Nodes} {opts : List Opt} {e : Entry}
    (hent : (e.path = [] ∧ e.isGraph = true ∧ e.vals = [] ∧ e.handlers = graphHandlers opts) ∨
      EntrySpec g [] (graphHandlers opts) opts e) (h : Nat) :
    h ∈ e.handlers ↔
      ∃ o ∈ opts, h ∈ o.handlers ∧ (o.paths = [] ∨ ∃ q ∈ o.paths, q ≠ [] ∧ q <+: e.path) := by
  rcases hent with ⟨h0, _, _, hh⟩ | ⟨rel, hrel, _, hh⟩
  · rw [hh, h0, mem_graphHandlers]
    constructor
    · rintro ⟨o, ho, hp, hm⟩; exact ⟨o, ho, hm, Or.inl hp⟩
    · rintro ⟨o, ho, hm, (hp | ⟨q, _, hne, hq⟩)⟩
      · exact ⟨o, ho, hp, hm⟩
      · exact absurd (List.prefix_nil.mp hq) hne
  · simp only [List.nil_append] at hrel
    subst hrel
    rw [hh h, mem_graphHandlers]
    constructor
    · rintro (⟨o, ho, hp, hm⟩ | ⟨o, ho, hm, hc⟩)
      · exact ⟨o, ho, hm, Or.inl hp⟩
      · exact ⟨o, ho, hm, Or.inr hc⟩
    · rintro ⟨o, ho, hm, (hp | hc)⟩
      · exact Or.inl ⟨o, ho, hp, hm⟩
      · exact Or.inr ⟨o, ho, hm, hc⟩

theorem vals_of_entry {g : Nodes} {opts : List Opt} {e : Entry}
    (hent : (e.path = [] ∧ e.isGraph = true ∧ e.vals = [] ∧ e.handlers = graphHandlers opts) ∨
      EntrySpec g [] (graphHandlers opts) opts e) {p : Path} (hp : e.path = p) {k : Key} {ty : Nat}
    (hnode : nodeAt g p = some (.comp k ty)) (v : Nat) :
    v ∈ e.vals ↔ ∃ o ∈ opts, v ∈ o.vals ∧ ty = o.ty ∧
      (o.paths = [] ∨ ∃ q ∈ o.paths, q ≠ [] ∧ q <+: p) := by
  rcases hent with ⟨h0, _⟩ | ⟨rel, hrel, ⟨n, hn, hkind⟩, _⟩
  · rw [h0] at hp; subst hp; simp [nodeAt] at hnode
  · simp only [List.nil_append] at hrel
    rw [hp] at hrel; subst hrel
    rw [hnode] at hn; cases hn
    rcases hkind with ⟨_, k', ty', heq, hv⟩ | ⟨_, k', ch, heq, _⟩
    · cases heq; exact hv v
    · cases heq

theorem subOf_of_extract {F : Facts} (hS : F.strip = 1) {all : Nodes} {opts : List Opt} {log : Log}
    (hwf : all.wf = true) (he : extract F all opts = .ok log) {k : Key} {ch : Nodes}
    (hn : Node.graph k ch ∈ all.toList) : SubOf opts (optsOf (itemsFor log k)) k := by
  intro o'
  rw [mem_opts_log]
  exact level_opts hS hwf he hn o'

theorem entrySpec_comp {F : Facts} (hT : F.typeCmpIdentity = true) (hI : F.typeCmpImplements = false)
    {all : Nodes} {opts : List Opt} {log : Log} (hwf : all.wf = true) (he : extract F all opts = .ok log)
    {k : Key} {ty : Nat} (hn : Node.comp k ty ∈ all.toList) (pre : Path) (gH : List Nat) :
    EntrySpec all pre gH opts ⟨pre ++ [k], false, valsOf (itemsFor log k), gH ++ nodeHandlers opts k⟩ := by
  have hfind : all.find k = some (.comp k ty) := wf_find hwf hn
  refine ⟨[k], rfl, ⟨_, nodeAt_singleton hfind, Or.inl ⟨rfl, k, ty, rfl, fun v => ?_⟩⟩, fun h => ?_⟩
  · simp only [mem_vals_log, level_vals hT hI hwf he hn v, Covers, coversD_singleton]
  · simp only [List.mem_append, mem_nodeHandlers, coversD_singleton]
    exact or_congr_right (exists_congr fun o => and_congr_right fun _ => and_comm)

theorem entrySpec_graph {F : Facts} (hS : F.strip = 1) {all : Nodes} {opts : List Opt} {log : Log}
    (hwf : all.wf = true) (he : extract F all opts = .ok log) {k : Key} {ch : Nodes}
    (hn : Node.graph k ch ∈ all.toList) (pre : Path) {gH : List Nat}
    (hG : ∀ h ∈ graphHandlers opts, h ∈ gH) :
    EntrySpec all pre gH opts
      ⟨pre ++ [k], true, [], (gH ++ nodeHandlers opts k) ++ graphHandlers (optsOf (itemsFor log k))⟩ := by
  have hfind : all.find k = some (.graph k ch) := wf_find hwf hn
  refine ⟨[k], rfl, ⟨_, nodeAt_singleton hfind, Or.inr ⟨rfl, k, ch, rfl, rfl⟩⟩, fun h => ?_⟩
  have := sub_handlers (subOf_of_extract hS hwf he hn) hG [] h
  simp only [coversD_nil, and_false, exists_false, or_false] at this
  exact this

theorem entrySpec_nested {F : Facts} (hS : F.strip = 1) {all : Nodes} {opts : List Opt} {log : Log}
    (hwf : all.wf = true) (he : extract F all opts = .ok log) {k : Key} {ch : Nodes}
    (hn : Node.graph k ch ∈ all.toList) {pre : Path} {gH : List Nat}
    (hG : ∀ h ∈ graphHandlers opts, h ∈ gH) {e : Entry}
    (hspec : EntrySpec ch (pre ++ [k]) ((gH ++ nodeHandlers opts k) ++ graphHandlers (optsOf (itemsFor log k)))
      (optsOf (itemsFor log k)) e) :
    EntrySpec all pre gH opts e := by
  have hsub := subOf_of_extract hS hwf he hn
  have hfind : all.find k = some (.graph k ch) := wf_find hwf hn
  obtain ⟨rel', hpath, ⟨n', hn', hkind⟩, hh⟩ := hspec
  refine ⟨k :: rel', by simp [hpath],
    ⟨n', by rw [nodeAt_cons hfind (nodeAt_ne_nil hn')]; exact hn', ?_⟩, fun h => ?_⟩
  · rcases hkind with ⟨hg, k', ty, rfl, hv⟩ | hgr
    · exact Or.inl ⟨hg, k', ty, rfl, fun v => (hv v).trans (sub_vals hsub rel' v ty)⟩
    · exact Or.inr hgr
  · exact (hh h).trans (sub_handlers hsub hG rel' h)

/-! A run is sequenced in two ways: a graph (the outermost one, or a graph node) extracts its level, then runs
    its chain behind its own entry; a chain runs its first node, then the rest.  When such a sequence is
    accepted is said once, for the shape of the `match`es of `run`, `runNode`, `runNodes` and of their versions
    with keys and parts; for these result types and not for any, since a `match` of another declaration
    unifies with the model's only if its auxiliary matcher takes the same arguments. -/

theorem level_then_ok {x : Except Err Log} {p : Path} {e0 : Entry} {f : Log → Except RunErr (List Entry)}
    {out : List Entry} :
    (match x with
      | .error e => (.error (p, e) : Except RunErr (List Entry))
      | .ok log => match f log with | .error e => .error e | .ok es => .ok (e0 :: es)) = Except.ok out ↔
      ∃ log es, x = .ok log ∧ f log = .ok es ∧ out = e0 :: es := by
  constructor
  · intro h
    split at h
    · cases h
    · rename_i log
      split at h
      · cases h
      · rename_i es hes
        cases h
        exact ⟨log, es, rfl, hes, rfl⟩
  · rintro ⟨log, es, rfl, hes, rfl⟩
    simp only [hes]

theorem run_then_ok {x y : Except RunErr (List Entry)} {out : List Entry} :
    (match x with
      | .error e => (.error e : Except RunErr (List Entry))
      | .ok a => match y with | .error e => .error e | .ok b => .ok (a ++ b)) = Except.ok out ↔
      ∃ a b, x = .ok a ∧ y = .ok b ∧ out = a ++ b := by
  cases x with
  | error e => exact ⟨nofun, fun ⟨_, _, h, _⟩ => nomatch h⟩
  | ok a =>
    cases y with
    | error e => exact ⟨nofun, fun ⟨_, _, _, h, _⟩ => nomatch h⟩
    | ok b =>
      exact ⟨fun h => ⟨a, b, rfl, rfl, by cases h; rfl⟩, fun ⟨_, _, h1, h2, h3⟩ => by cases h1; cases h2; rw [h3]⟩

theorem runNode_graph_ok {F : Facts} {pre : Path} {gH : List Nat} {opts : List Opt} {log : Log}
    {k : Key} {ch : Nodes} {out : List Entry} :
    runNode F pre gH opts log (.graph k ch) = .ok out ↔
      ∃ log' es, extract F ch (optsOf (itemsFor log k)) = .ok log' ∧
        runNodes F (pre ++ [k]) ((gH ++ nodeHandlers opts k) ++ graphHandlers (optsOf (itemsFor log k)))
          (optsOf (itemsFor log k)) log' ch = .ok es ∧
        out = ⟨pre ++ [k], true, [],
          (gH ++ nodeHandlers opts k) ++ graphHandlers (optsOf (itemsFor log k))⟩ :: es := by
  simp only [runNode]
  exact level_then_ok

theorem runNodes_cons_ok {F : Facts} {pre : Path} {gH : List Nat} {opts : List Opt} {log : Log}
    {n : Node} {ns : Nodes} {out : List Entry} :
    runNodes F pre gH opts log (.cons n ns) = .ok out ↔
      ∃ a b, runNode F pre gH opts log n = .ok a ∧ runNodes F pre gH opts log ns = .ok b ∧ out = a ++ b := by
  simp only [runNodes]
  exact run_then_ok

theorem Node.induct {P : Node → Prop} {Q : Nodes → Prop}
    (comp : ∀ k ty, P (.comp k ty)) (pass : ∀ k, P (.pass k)) (graph : ∀ k ch, Q ch → P (.graph k ch))
    (nil : Q .nil) (cons : ∀ n ns, P n → Q ns → Q (.cons n ns)) :
    (∀ n, P n) ∧ (∀ ns, Q ns) :=
  ⟨fun n => Node.rec (motive_1 := P) (motive_2 := Q) comp pass graph nil cons n,
   fun ns => Nodes.rec (motive_1 := P) (motive_2 := Q) comp pass graph nil cons ns⟩

theorem pathErr_congr {F : Facts} {o o' : Opt} (hv : o'.vals = o.vals) (ht : o'.ty = o.ty) :
    ∀ (p : Path) (ns : Nodes), pathErr F ns o' p = pathErr F ns o p
  | [], ns => by simp [pathErr]
  | k :: rest, ns => by
    simp only [pathErr]
    cases ns.find k with
    | none => rfl
    | some n =>
      cases n with
      | comp k' ty => simp only [hv, ht]
      | pass k' => rfl
      | graph k' ch =>
        simp only
        split
        · rfl
        · exact pathErr_congr hv ht rest ch

theorem pathErr_cons (F : Facts) (ns : Nodes) (o : Opt) (k : Key) (rest : Path) :
    pathErr F ns o (k :: rest) =
      match pathEntry F ns o (k :: rest) with
      | .error e => some e
      | .ok _ =>
        match ns.find k with
        | some (.graph _ ch) => if rest = [] then none else pathErr F ch o rest
        | _ => none := by
  simp only [pathErr, pathEntry]
  cases ns.find k with
  | none => rfl
  | some n =>
    cases n with
    | comp k' ty =>
      by_cases hr : rest = []
      · subst hr
        by_cases hv : o.vals = []
        · simp [hv]
        · cases hT : F.typeCmpIdentity <;> cases ht : tyMatch F ty o.ty <;> simp [hv, ht]
      · simp [hr]
    | pass k' =>
      by_cases hr : rest = []
      · subst hr; by_cases hv : o.vals = [] <;> simp [hv]
      · cases hP : F.passSubPathIsError <;> simp [hr]
    | graph k' ch =>
      by_cases hr : rest = []
      · subst hr; by_cases hv : o.vals = [] <;> simp [hv]
      · simp [hr]

theorem pathErr_step {F : Facts} (ns : Nodes) (o : Opt) (p : Path) :
    (pathErr F ns o p).isSome = true ↔
      (∃ e, pathEntry F ns o p = .error e) ∨
      (∃ k k' ch rest, p = k :: rest ∧ rest ≠ [] ∧ ns.find k = some (.graph k' ch) ∧
        (pathErr F ch o rest).isSome = true) := by
  cases p with
  | nil => exact ⟨fun _ => .inl ⟨_, rfl⟩, fun _ => rfl⟩
  | cons k rest =>
    rw [pathErr_cons]
    cases pathEntry F ns o (k :: rest) with
    | error e => exact ⟨fun _ => .inl ⟨e, rfl⟩, fun _ => rfl⟩
    | ok l =>
      dsimp only
      constructor
      · intro h
        split at h
        · rename_i k' ch hf
          split at h
          · cases h
          · rename_i hr
            exact .inr ⟨k, k', ch, rest, rfl, hr, hf, h⟩
        · cases h
      · rintro (⟨e, he⟩ | ⟨k0, k', ch, rest', heq, hr, hf, h⟩)
        · cases he
        · cases heq
          simp only [hf, hr, ↓reduceIte]
          exact h

theorem sub_err {F : Facts} {opts sub : List Opt} {k : Key} (hsub : SubOf opts sub k) (ch : Nodes) :
    (∃ o' ∈ sub, ∃ p' ∈ o'.paths, (pathErr F ch o' p').isSome = true) ↔
    (∃ o ∈ opts, ∃ rest, rest ≠ [] ∧ k :: rest ∈ o.paths ∧ (pathErr F ch o rest).isSome = true) := by
  constructor
  · rintro ⟨o', ho', p', hp', herr⟩
    obtain ⟨o, ho, (⟨h1, _, rfl⟩ | ⟨hk, _, rfl⟩ | ⟨rest, hr, hk, rfl⟩)⟩ := (hsub o').mp ho'
    · rw [h1] at hp'; cases hp'
    · cases hp'
    · simp only [List.mem_singleton] at hp'; subst hp'
      have hc := pathErr_congr (F := F) (o := o) (o' := { o with paths := [p'] }) rfl rfl p' ch
      rw [hc] at herr
      exact ⟨o, ho, p', hr, hk, herr⟩
  · rintro ⟨o, ho, rest, hr, hk, herr⟩
    refine ⟨{ o with paths := [rest] }, (hsub _).mpr ⟨o, ho, Or.inr (Or.inr ⟨rest, hr, hk, rfl⟩)⟩,
      rest, by simp, ?_⟩
    have hc := pathErr_congr (F := F) (o := o) (o' := { o with paths := [rest] }) rfl rfl rest ch
    rw [hc]; exact herr

/-- The failures below one level, as `runNodes` finds them. -/
def DeepErr (F : Facts) (ns : List Node) (opts : List Opt) : Prop :=
  ∃ n ∈ ns, ∃ k ch, n = .graph k ch ∧
    ∃ o ∈ opts, ∃ rest, rest ≠ [] ∧ k :: rest ∈ o.paths ∧ (pathErr F ch o rest).isSome = true

theorem deepErr_cons {F : Facts} {n : Node} {l : List Node} {opts : List Opt} :
    DeepErr F (n :: l) opts ↔ DeepErr F [n] opts ∨ DeepErr F l opts := by
  simp only [DeepErr, List.mem_cons, exists_eq_or_imp, List.not_mem_nil, or_false, exists_eq_left]

theorem deepErr_graph {F : Facts} {k : Key} {ch : Nodes} {opts : List Opt} :
    DeepErr F [Node.graph k ch] opts ↔
      ∃ o ∈ opts, ∃ rest, rest ≠ [] ∧ k :: rest ∈ o.paths ∧ (pathErr F ch o rest).isSome = true := by
  constructor
  · rintro ⟨_, hm, _, _, heq, h⟩; cases List.mem_singleton.mp hm; cases heq; exact h
  · exact fun h => ⟨_, List.mem_singleton.mpr rfl, k, ch, rfl, h⟩

theorem level_err {F : Facts} {all : Nodes} (hwf : all.wf = true) (opts : List Opt) :
    ((∃ e, extract F all opts = .error e) ∨ DeepErr F all.toList opts) ↔
    ∃ o ∈ opts, ∃ p ∈ o.paths, (pathErr F all o p).isSome = true := by
  rw [extract_error_iff]
  constructor
  · rintro (⟨o, ho, p, hp, he⟩ | ⟨n, hn, k, ch, rfl, o, ho, rest, hr, hk, herr⟩)
    · exact ⟨o, ho, p, hp, (pathErr_step all o p).mpr (Or.inl he)⟩
    · have hf := wf_find hwf hn
      simp only [Node.key] at hf
      exact ⟨o, ho, _, hk, (pathErr_step all o _).mpr (Or.inr ⟨k, k, ch, rest, rfl, hr, hf, herr⟩)⟩
  · rintro ⟨o, ho, p, hp, herr⟩
    rcases (pathErr_step all o p).mp herr with he | ⟨k, k', ch, rest, rfl, hr, hf, herr'⟩
    · exact Or.inl ⟨o, ho, p, hp, he⟩
    · obtain ⟨hmem, hkey⟩ := find_some hf
      simp only [Node.key] at hkey
      subst hkey
      exact Or.inr ⟨_, hmem, k', ch, rfl, o, ho, rest, hr, hp, herr'⟩

theorem runNodes_cons_error {F : Facts} {pre : Path} {gH : List Nat} {opts : List Opt} {log : Log}
    {n : Node} {ns : Nodes} :
    (∃ e, runNodes F pre gH opts log (.cons n ns) = .error e) ↔
      (∃ e, runNode F pre gH opts log n = .error e) ∨ (∃ e, runNodes F pre gH opts log ns = .error e) := by
  simp only [runNodes]
  cases runNode F pre gH opts log n with
  | error e => exact ⟨fun _ => .inl ⟨e, rfl⟩, fun _ => ⟨e, rfl⟩⟩
  | ok a =>
    cases runNodes F pre gH opts log ns with
    | error e => exact ⟨fun _ => .inr ⟨e, rfl⟩, fun _ => ⟨e, rfl⟩⟩
    | ok b =>
      constructor
      · rintro ⟨_, h⟩; cases h
      · rintro (⟨_, h⟩ | ⟨_, h⟩) <;> cases h

theorem runNode_graph_error {F : Facts} {pre : Path} {gH : List Nat} {opts : List Opt} {log : Log}
    {k : Key} {ch : Nodes} :
    (∃ e, runNode F pre gH opts log (.graph k ch) = .error e) ↔
      match extract F ch (optsOf (itemsFor log k)) with
      | .error _ => True
      | .ok log' => ∃ e, runNodes F (pre ++ [k])
          ((gH ++ nodeHandlers opts k) ++ graphHandlers (optsOf (itemsFor log k)))
          (optsOf (itemsFor log k)) log' ch = .error e := by
  simp only [runNode]
  cases extract F ch (optsOf (itemsFor log k)) with
  | error e => exact ⟨fun _ => trivial, fun _ => ⟨_, rfl⟩⟩
  | ok log' =>
    dsimp only
    cases runNodes F (pre ++ [k]) ((gH ++ nodeHandlers opts k) ++ graphHandlers (optsOf (itemsFor log k)))
        (optsOf (itemsFor log k)) log' ch with
    | error e => exact ⟨fun _ => ⟨e, rfl⟩, fun _ => ⟨e, rfl⟩⟩
    | ok es =>
      constructor
      · rintro ⟨_, h⟩; cases h
      · rintro ⟨_, h⟩; cases h

theorem run_err_levels {F : Facts} (hS : F.strip = 1) :
    (∀ (n : Node) (all : Nodes) (pre : Path) (gH : List Nat) (opts : List Opt) (log : Log),
      all.wf = true → extract F all opts = .ok log → n ∈ all.toList →
      ((∃ e, runNode F pre gH opts log n = .error e) ↔ DeepErr F [n] opts)) ∧
    (∀ (ns : Nodes) (all : Nodes) (pre : Path) (gH : List Nat) (opts : List Opt) (log : Log),
      all.wf = true → extract F all opts = .ok log → (∀ n ∈ ns.toList, n ∈ all.toList) →
      ((∃ e, runNodes F pre gH opts log ns = .error e) ↔ DeepErr F ns.toList opts)) := by
  refine Node.induct ?_ ?_ ?_ ?_ ?_
  · intro k ty all pre gH opts log hwf he hn
    constructor
    · rintro ⟨_, h⟩; cases h
    · rintro ⟨_, hm, _, _, h, _⟩; cases List.mem_singleton.mp hm; cases h
  · intro k all pre gH opts log hwf he hn
    constructor
    · rintro ⟨_, h⟩; cases h
    · rintro ⟨_, hm, _, _, h, _⟩; cases List.mem_singleton.mp hm; cases h
  · intro k ch ih all pre gH opts log hwf he hn
    have hwf' := wf_child hwf hn
    rw [deepErr_graph, ← sub_err (subOf_of_extract hS hwf he hn) ch, ← level_err hwf', runNode_graph_error]
    cases he' : extract F ch (optsOf (itemsFor log k)) with
    | error e0 => exact ⟨fun _ => .inl ⟨e0, rfl⟩, fun _ => trivial⟩
    | ok log' =>
      dsimp only
      rw [ih ch _ _ _ log' hwf' he' (fun _ h => h)]
      constructor
      · exact .inr
      · rintro (⟨_, h⟩ | h)
        · cases h
        · exact h
  · intro all pre gH opts log hwf he hns
    constructor
    · rintro ⟨_, h⟩; cases h
    · rintro ⟨_, hm, _⟩; cases hm
  · intro n ns ih1 ih2 all pre gH opts log hwf he hns
    have ih1 := ih1 all pre gH opts log hwf he (hns n (List.mem_cons_self ..))
    have ih2 := ih2 all pre gH opts log hwf he
      (fun m hm => hns m (List.mem_cons_of_mem _ hm))
    rw [runNodes_cons_error, ih1, ih2]
    exact deepErr_cons.symm

theorem runNode_err {F : Facts} (hS : F.strip = 1) :
    ∀ (n : Node) (all : Nodes) (pre : Path) (gH : List Nat) (opts : List Opt) (log : Log),
      all.wf = true → extract F all opts = .ok log → n ∈ all.toList →
      ((∃ e, runNode F pre gH opts log n = .error e) ↔ DeepErr F [n] opts) :=
  (run_err_levels hS).1

theorem runNodes_err {F : Facts} (hS : F.strip = 1) :
    ∀ (ns : Nodes) (all : Nodes) (pre : Path) (gH : List Nat) (opts : List Opt) (log : Log),
      all.wf = true → extract F all opts = .ok log → (∀ n ∈ ns.toList, n ∈ all.toList) →
      ((∃ e, runNodes F pre gH opts log ns = .error e) ↔ DeepErr F ns.toList opts) :=
  (run_err_levels hS).2

theorem run_err {F : Facts} (hS : F.strip = 1) {g : Nodes} (hwf : g.wf = true) (opts : List Opt) :
    (∃ e, run F g opts = .error e) ↔ ∃ o ∈ opts, ∃ p ∈ o.paths, (pathErr F g o p).isSome = true := by
  rw [← level_err hwf]
  unfold run
  cases he : extract F g opts with
  | error e0 => simp
  | ok log =>
    have ih := runNodes_err hS g g [] (graphHandlers opts) opts log hwf he (fun _ h => h)
    simp only [reduceCtorEq, exists_false, false_or]
    rw [← ih]
    cases runNodes F [] (graphHandlers opts) opts log g with
    | error e => simp
    | ok es => simp



theorem pathErr_at {F : Facts} (o : Opt) :
    ∀ (q : Path) (g : Nodes) (n : Node), nodeAt g q = some n →
      pathErr F g o q =
        match n with
        | .comp _ ty => if o.vals ≠ [] ∧ F.typeCmpIdentity = true ∧ tyMatch F ty o.ty = false then some .wrongType else none
        | _ => none
  | [], g, n, h => absurd rfl (nodeAt_ne_nil h)
  | k :: rest, g, n, h => by
    rcases nodeAt_cons_some.mp h with ⟨rfl, hf⟩ | ⟨hr, k', ch, hf, hn⟩
    · simp only [pathErr, hf]
      cases n <;> simp
    · simp only [pathErr, hf, if_neg hr]
      exact pathErr_at o rest ch n hn

theorem pathErr_below {F : Facts} (o : Opt) (r : Path) (hr : r ≠ []) :
    ∀ (q : Path) (g : Nodes) (n : Node), nodeAt g q = some n →
      pathErr F g o (q ++ r) =
        match n with
        | .comp _ _ => some .subPathOfComponent
        | .pass _ => if F.passSubPathIsError = true then some .subPathOfComponent else none
        | .graph _ ch => pathErr F ch o r
  | [], g, n, h => absurd rfl (nodeAt_ne_nil h)
  | k :: rest, g, n, h => by
    rcases nodeAt_cons_some.mp h with ⟨rfl, hf⟩ | ⟨hrest, k', ch, hf, hn⟩
    · simp only [List.cons_append, List.nil_append, pathErr, hf]
      cases n <;> simp [hr]
    · have : rest ++ r ≠ [] := by simp [hrest]
      simp only [List.cons_append, pathErr, hf, if_neg this]
      exact pathErr_below o r hr rest ch n hn

theorem pathErr_unknown {F : Facts} (o : Opt) (g : Nodes) (k : Key) (r : Path)
    (h : g.find k = none) : pathErr F g o (k :: r) = some .unknownNode := by
  simp [pathErr, h]

theorem storeAfterAux_copies {F : Facts} (hC : F.nestedCopies = true) (c : Call) :
    ∀ (store : List Opt) (i : Nat), storeAfterAux F c i store = store
  | [], i => rfl
  | o :: os, i => by
    simp only [storeAfterAux, afterCall, hC, ↓reduceIte, ite_self, storeAfterAux_copies hC c os (i + 1)]

theorem runCalls_copies {F : Facts} (hC : F.nestedCopies = true) :
    ∀ (cs : List Call) (store : List Opt),
      runCalls F store cs = (cs.map (fun c => run F c.g (pick store c.ixs)), store)
  | [], store => rfl
  | c :: cs, store => by
    simp only [runCalls, storeAfter, storeAfterAux_copies hC, runCalls_copies hC cs store, List.map_cons]



/-- Invariant of a construction in which every step copies (`bstep true`); `acc` = the state of `specStep`.
    First clause: the Options built so far, read on the heap as it stands, designate what the specification says.
    Second clause: every header points below `st.next`, so the array a step allocates at `st.next` is none of
    theirs and what they read survives the step (`pathsOf_setArr_fresh`). -/
def BInv (st : BState) (acc : List (List Path)) : Prop :=
  st.opts.map (pathsOf st) = acc ∧ ∀ h ∈ st.opts, h.arr < st.next

theorem pathsOf_setArr_fresh {st : BState} {cells : List Path} {h : Hdr} (hlt : h.arr < st.next)
    (opts' : List Hdr) :
    pathsOf { heap := setArr st.heap st.next cells, next := st.next + 1, opts := opts' } h
      = pathsOf st h := by
  simp only [pathsOf, setArr]
  have : h.arr ≠ st.next := Nat.ne_of_lt hlt
  simp [this]

theorem bstep_copies_inv (grow : Nat → Nat → Nat) {st : BState} {acc : List (List Path)}
    (hinv : BInv st acc) (op : BuildOp) : BInv (bstep true grow st op) (specStep acc op) := by
  obtain ⟨hmap, hlt⟩ := hinv
  -- a step allocates the array `st.next` and appends one header that points to it
  have hold : ∀ cells opts', st.opts.map
      (pathsOf { heap := setArr st.heap st.next cells, next := st.next + 1, opts := opts' }) = acc :=
    fun cells opts' => by
      rw [← hmap]; exact List.map_congr_left fun h hh => pathsOf_setArr_fresh (hlt h hh) _
  have hnew : ∀ n c, ∀ h ∈ st.opts ++ [(⟨st.next, n, c⟩ : Hdr)], h.arr < st.next + 1 := by
    intro n c h hh
    rcases List.mem_append.mp hh with hh | hh
    · exact Nat.lt_succ_of_lt (hlt h hh)
    · cases List.mem_singleton.mp hh; exact Nat.lt_succ_self _
  cases op with
  | base =>
    refine ⟨?_, hnew 0 0⟩
    simp only [bstep, specStep, List.map_append, List.map_cons, List.map_nil, hold]
    rfl
  | designate src added =>
    simp only [bstep, ↓reduceIte, specStep]
    refine ⟨?_, hnew _ _⟩
    simp only [List.map_append, List.map_cons, List.map_nil, hold]
    have hsrc : pathsOf st ((st.opts[src]?).getD ⟨st.next, 0, 0⟩) = (acc[src]?).getD [] := by
      rw [← hmap, List.getElem?_map]
      cases st.opts[src]? with
      | none => simp [pathsOf]
      | some h => simp
    simp only [pathsOf, setArr, ↓reduceIte, List.append_cancel_left_eq, List.cons.injEq, and_true]
    rw [← hsrc]
    apply List.take_of_length_le
    simp only [List.length_append, List.length_take]
    omega

theorem foldl_copies_inv (grow : Nat → Nat → Nat) :
    ∀ (ops : List BuildOp) (st : BState) (acc : List (List Path)), BInv st acc →
      BInv (ops.foldl (bstep true grow) st) (ops.foldl specStep acc)
  | [], _, _, h => h
  | op :: ops, _, _, h => foldl_copies_inv grow ops _ _ (bstep_copies_inv grow h op)

theorem builtPaths_copies (grow : Nat → Nat → Nat) (ops : List BuildOp) :
    builtPaths true grow ops = specPaths ops := by
  have : BInv BState.init [] := ⟨rfl, by intro h hh; cases hh⟩
  exact (foldl_copies_inv grow ops _ _ this).1

theorem run_ok {F : Facts} {g : Nodes} {opts : List Opt} {out : List Entry} (h : run F g opts = .ok out) :
    ∃ log es, extract F g opts = .ok log ∧ runNodes F [] (graphHandlers opts) opts log g = .ok es ∧
      out = { path := [], isGraph := true, vals := [], handlers := graphHandlers opts } :: es :=
  level_then_ok.mp h

end EinoV.C16
