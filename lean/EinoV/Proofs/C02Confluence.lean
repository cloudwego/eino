/-
  Schedule independence of all-predecessor runs (C03 / C02): two runs of one runner on one input
  under two completion schedules return the same value, and nodes that complete in both complete
  with the same output (`run_result_sched_independent`, `run_outputs_sched_independent`).

  A history is *grounded* when every completion in it is the output of a node started on facts
  drawn from the history itself (a control predecessor completed and routed; every predecessor
  completed or is skipped; the input is the merge of exactly the routed values).  Two grounded
  histories of one runner agree, by induction along the acyclic predecessor order, with no channel
  in sight (`grounded_agree`).  Every start of the engine has these facts (`round_start_facts`: the
  invariants K, RV and the strict soundness of the skip flags at `getFromReadyChannels`), so the
  history of a run is grounded (`grounded_of_run`).
-/
import EinoV.Spec.DagStatus
import EinoV.Proofs.C02Exact
import EinoV.Proofs.C02Hist

namespace EinoV.Engine
namespace DagRun

theorem SkippedS.mono {V} {r : Runner V} {H H' : List (Done V)} (hh : ∀ d, d ∈ H → d ∈ H') {n : Key}
    (h : SkippedS r H n) : SkippedS r H' n := by
  induction h with
  | intro n hne _ ih =>
    exact SkippedS.intro n hne (fun p hp hnd => ih p hp (fun ⟨o, ho, hd⟩ => hnd ⟨o, hh _ ho, hd⟩))

theorem perm_of_same_members {α} (l1 l2 : List α) (h1 : l1.Nodup) (h2 : l2.Nodup)
    (h : ∀ a, a ∈ l1 ↔ a ∈ l2) : l1.Perm l2 :=
  (List.perm_ext_iff_of_nodup h1 h2).mpr h

theorem nodup_of_nodup_keys {α} (l : List (Key × α)) (h : (akeys l).Nodup) : l.Nodup :=
  List.Pairwise.of_map (·.1) (fun _ _ hne e => hne (congrArg (·.1) e)) h

/-- a value that routed to `n` in the one history did so in the other: its sender, a data predecessor of
    `n`, is resolved there, not as skipped, hence completed, with the same output -/
theorem routed_transfer {V} {ops : ValOps V} {r : Runner V} {HA HB HA' HB' : List (Done V)}
    (subA : ∀ d, d ∈ HA' → d ∈ HA) (subB : ∀ d, d ∈ HB' → d ∈ HB) {n : Key} {vB : V}
    (fB : StartFacts ops r HB' n vB)
    (hC : ∀ p, p ∈ lookupList n r.dataPreds → ∀ o o', (p, o) ∈ HA → (p, o') ∈ HB → o = o')
    (hE : ∀ p, p ∈ lookupList n r.dataPreds → ∀ o, (p, o) ∈ HA → ¬ SkippedS r HB p) {p : Key} {w : V}
    (h : (p, w) ∈ HA' ∧ RoutesD r p w n) : (p, w) ∈ HB' ∧ RoutesD r p w n := by
  obtain ⟨h1, h2⟩ := h
  have hdp : p ∈ lookupList n r.dataPreds := let ⟨_, _, _, h⟩ := h2; h
  rcases fB.dataRes p hdp with ⟨o', ho'⟩ | hs
  · exact ⟨hC p hdp w o' (subA _ h1) (subB _ ho') ▸ ho', h2⟩
  · exact absurd (hs.mono subB) (hE p hdp w (subA _ h1))

theorem inputs_agree {V} (ops : ValOps V) (hm : MergePerm ops) (r : Runner V) (HA HB HA' HB' : List (Done V))
    (subA : ∀ d, d ∈ HA' → d ∈ HA) (subB : ∀ d, d ∈ HB' → d ∈ HB) (n : Key) (vA vB : V)
    (fA : StartFacts ops r HA' n vA) (fB : StartFacts ops r HB' n vB)
    (hC : ∀ p, p ∈ lookupList n r.dataPreds → ∀ o o', (p, o) ∈ HA → (p, o') ∈ HB → o = o')
    (hEab : ∀ p, p ∈ lookupList n r.dataPreds → ∀ o, (p, o) ∈ HA → ¬ SkippedS r HB p)
    (hEba : ∀ p, p ∈ lookupList n r.dataPreds → ∀ o, (p, o) ∈ HB → ¬ SkippedS r HA p) : vA = vB := by
  obtain ⟨valsA, ndA, memA, valA⟩ := fA.exact
  obtain ⟨valsB, ndB, memB, valB⟩ := fB.exact
  have hmem : ∀ a, a ∈ valsA ↔ a ∈ valsB := fun ⟨p, w⟩ => by
    rw [memA, memB]
    exact ⟨routed_transfer subA subB fB hC hEab,
      routed_transfer subB subA fA (fun p hp o o' h h' => (hC p hp o' o h' h).symm) hEba⟩
  have hperm : valsA.Perm valsB :=
    perm_of_same_members valsA valsB (nodup_of_nodup_keys _ ndA) (nodup_of_nodup_keys _ ndB) hmem
  have hcol : collect ops (valsA.map (·.2)) = collect ops (valsB.map (·.2)) :=
    collect_perm ops hm _ _ (hperm.map _)
  -- no value at all (then both are empty, as `collect` of the one is `collect` of the other), or the same merge
  rcases valA with ⟨eA, rfl⟩ | hA <;> rcases valB with ⟨eB, rfl⟩ | hB
  · rfl
  · rw [← hcol, eA] at hB; cases hB
  · rw [hcol, eB] at hA; cases hA
  · rw [hcol, hB] at hA
    exact (GetResult.ready.inj hA).symm

theorem not_skipped_of_completed {V} (ops : ValOps V) (r : Runner V) (x : V) (HA HB : List (Done V))
    (gA : Grounded ops r x HA) (hstartC : lookupList START r.ctrlPreds = []) (n : Key) (o : V) (hA : (n, o) ∈ HA)
    (hC : ∀ q, q ∈ lookupList n r.ctrlPreds → ∀ o o', (q, o) ∈ HA → (q, o') ∈ HB → o = o')
    (hE : ∀ q, q ∈ lookupList n r.ctrlPreds → ∀ o, (q, o) ∈ HA → ¬ SkippedS r HB q) :
    ¬ SkippedS r HB n := by
  intro hs
  cases hs with
  | intro _ hne hpre =>
    have hns : n ≠ START := fun e => by rw [e] at hne; exact hne hstartC
    obtain ⟨v, H', sub, facts, _⟩ := gA.each n o hA hns
    obtain ⟨q, hq, oq, hoq, hr⟩ := facts.routed hne
    by_cases hdz : ∃ o'', (q, o'') ∈ HB ∧ Deselects r q o'' n
    · obtain ⟨o'', ho'', hd⟩ := hdz
      have := hC q hq oq o'' (sub _ hoq) ho''
      subst this
      exact routes_deselects_excl r q oq n hr hd
    · exact hE q hq oq (sub _ hoq) (hpre q hq hdz)

theorem grounded_agree {V} (ops : ValOps V) (hm : MergePerm ops) (r : Runner V) (x : V) (rank : Key → Nat)
    (hrank : ∀ n p, (p ∈ lookupList n r.ctrlPreds ∨ p ∈ lookupList n r.dataPreds) → rank p < rank n)
    (hstartC : lookupList START r.ctrlPreds = [])
    (HA HB : List (Done V)) (gA : Grounded ops r x HA) (gB : Grounded ops r x HB) :
    ∀ n, (∀ o o', (n, o) ∈ HA → (n, o') ∈ HB → o = o') ∧
         (∀ o, (n, o) ∈ HA → ¬ SkippedS r HB n) ∧ (∀ o, (n, o) ∈ HB → ¬ SkippedS r HA n) := by
  intro n
  induction hr : rank n using Nat.strongRecOn generalizing n with
  | _ m ih =>
    have ihp : ∀ p, (p ∈ lookupList n r.ctrlPreds ∨ p ∈ lookupList n r.dataPreds) →
        (∀ o o', (p, o) ∈ HA → (p, o') ∈ HB → o = o') ∧
        (∀ o, (p, o) ∈ HA → ¬ SkippedS r HB p) ∧ (∀ o, (p, o) ∈ HB → ¬ SkippedS r HA p) :=
      fun p hp => ih (rank p) (by rw [← hr]; exact hrank n p hp) p rfl
    refine ⟨?_, ?_, ?_⟩
    · intro o o' hA hB
      by_cases hns : n = START
      · subst hns
        rw [gA.start o hA, gB.start o' hB]
      · obtain ⟨vA, HA', subA, fA, ndA, hndA, hactA⟩ := gA.each n o hA hns
        obtain ⟨vB, HB', subB, fB, ndB, hndB, hactB⟩ := gB.each n o' hB hns
        have hv : vA = vB := inputs_agree ops hm r HA HB HA' HB' subA subB n vA vB fA fB
          (fun p hp => (ihp p (Or.inr hp)).1) (fun p hp => (ihp p (Or.inr hp)).2.1) (fun p hp => (ihp p (Or.inr hp)).2.2)
        subst hv
        rw [hndA] at hndB
        cases hndB
        rw [hactA] at hactB
        exact Except.ok.inj hactB
    · intro o hA
      exact not_skipped_of_completed ops r x HA HB gA hstartC n o hA
        (fun q hq => (ihp q (Or.inl hq)).1) (fun q hq => (ihp q (Or.inl hq)).2.1)
    · intro o hB
      exact not_skipped_of_completed ops r x HB HA gB hstartC n o hB
        (fun q hq o1 o2 h1 h2 => ((ihp q (Or.inl hq)).1 o2 o1 h2 h1).symm) (fun q hq => (ihp q (Or.inl hq)).2.2)

theorem grounded_input_agree {V} (ops : ValOps V) (hm : MergePerm ops) (r : Runner V) (x : V) (rank : Key → Nat)
    (hrank : ∀ n p, (p ∈ lookupList n r.ctrlPreds ∨ p ∈ lookupList n r.dataPreds) → rank p < rank n)
    (hstartC : lookupList START r.ctrlPreds = [])
    (HA HB HA' HB' : List (Done V)) (gA : Grounded ops r x HA) (gB : Grounded ops r x HB)
    (subA : ∀ d, d ∈ HA' → d ∈ HA) (subB : ∀ d, d ∈ HB' → d ∈ HB) (n : Key) (vA vB : V)
    (fA : StartFacts ops r HA' n vA) (fB : StartFacts ops r HB' n vB) : vA = vB := by
  have ag := grounded_agree ops hm r x rank hrank hstartC HA HB gA gB
  exact inputs_agree ops hm r HA HB HA' HB' subA subB n vA vB fA fB
    (fun p _ => (ag p).1) (fun p _ => (ag p).2.1) (fun p _ => (ag p).2.2)

theorem skOf_skippedS {V} {r : Runner V} {H : List (Done V)} (hd : r.dag = true) (cm : Chans V) (hK : K r H cm)
    (hsh : shapes cm = shapes (initChans r)) (hHC : HasCtrl r) (rank : Key → Nat)
    (hrank : ∀ n cs ds, (n, cs, ds) ∈ shapes (initChans r) → ∀ p, p ∈ cs ∨ p ∈ ds → rank p < rank n) :
    ∀ n, skOf cm n = 1 → SkippedS r H n := by
  intro n
  induction hr : rank n using Nat.strongRecOn generalizing n with
  | _ m ih =>
    intro hs
    obtain ⟨c, hc, hsk, hpre⟩ := flagged_step hd cm hK hsh hs
    have hshm := hsh ▸ shapes_mem cm n c hc
    -- a flagged channel has control entries (a channel with data predecessors has a control predecessor)
    have hne : lookupList n r.ctrlPreds ≠ [] := by
      intro hnil
      have hk0 : akeys c.ctrl = [] := by
        rw [(chan_keys r hd cm hsh n c hc).1, hnil]; rfl
      obtain ⟨p, hp⟩ := (hK.sk n c hc).wit hsk (List.map_eq_nil_iff.mp hk0)
      have hm := mem_akeys_of_mem p true _ hp
      rw [hHC n _ _ hshm hk0] at hm; cases hm
    refine SkippedS.intro n hne (fun p hp hnd => ?_)
    obtain ⟨hpk, h⟩ := hpre p hp
    exact ih (rank p) (hr ▸ hrank n _ _ hshm p (Or.inl hpk)) p rfl (h.resolve_left hnd)

theorem triggered_resolved {V} {r : Runner V} {H : List (Done V)} (hd : r.dag = true) (cm : Chans V) (hK : K r H cm)
    (hsh : shapes cm = shapes (initChans r)) (hHC : HasCtrl r) (rank : Key → Nat)
    (hrank : ∀ n cs ds, (n, cs, ds) ∈ shapes (initChans r) → ∀ p, p ∈ cs ∨ p ∈ ds → rank p < rank n)
    (n : Key) (c : Chan V) (hc : (n, c) ∈ cm) (ht : c.triggered = true) :
    c.ctrl ≠ [] ∧ lookupList n r.ctrlPreds ≠ [] ∧
    (∀ p, p ∈ lookupList n r.ctrlPreds → (∃ o, (p, o) ∈ H) ∨ SkippedS r H p) ∧
    (∀ p, p ∈ lookupList n r.dataPreds → (∃ o, (p, o) ∈ H) ∨ SkippedS r H p) := by
  obtain ⟨_, tne, t1, t2⟩ := triggered_unpack c ht
  have ckeys := chan_ctrl_keys r hd cm hsh n c hc
  have dkeys := chan_data_keys r hd cm hsh n c hc
  have hcne : c.ctrl ≠ [] := by
    intro hcnil
    have hshm := shapes_mem cm n c hc
    rw [hsh] at hshm
    have hd0 : akeys c.data = [] := hHC n _ _ hshm (by rw [hcnil]; rfl)
    exact tne ⟨hcnil, List.map_eq_nil_iff.mp hd0⟩
  refine ⟨hcne, mt (chan_ctrl_nil r hd cm hsh n c hc).mpr hcne, fun p hp => ?_, fun p hp => ?_⟩
  · obtain ⟨d, hdm⟩ := exists_of_mem_akeys _ _ ((ckeys p).mp hp)
    cases d with
    | waiting => exact absurd (t1 p _ hdm) (by decide)
    | ready =>
      obtain ⟨o, ho, _⟩ := hK.rdy n c hc p hdm
      exact Or.inl ⟨o, ho⟩
    | skipped =>
      rcases hK.skp n c hc p hdm with h' | ⟨o, ho, _⟩
      · exact Or.inr (skOf_skippedS hd _ hK hsh hHC rank hrank p h')
      · exact Or.inl ⟨o, ho⟩
  · obtain ⟨b, hb⟩ := exists_of_mem_akeys _ _ ((dkeys p).mp hp)
    cases b with
    | false => exact absurd (t2 p false hb) (by decide)
    | true =>
      rcases hK.dat n c hc p hb with h' | h'
      · exact Or.inl h'
      · exact Or.inr (skOf_skippedS hd _ hK hsh hHC rank hrank p h')

theorem calcNext_unpack' {V} (ops : ValOps V) (r : Runner V) (hd : r.dag = true) (cm cm' : Chans V)
    (done : List (Done V)) (nx : Next V) (h : calcNext ops r cm done = .ok (cm', nx)) :
    ∃ res ready, resolve r cm done = .ok res ∧
      getReady ops true (updateDeps r (updateValues r res.cm res.writes) res.deps) = (cm', ready, false) ∧
      ((nx = .tasks ready ∧ alookup END ready = none) ∨ ∃ v, nx = .result v ∧ alookup END ready = some v) := by
  obtain ⟨res, ready, h1, hg, hnx⟩ := calcNext_ok hd h
  exact ⟨res, ready, h1, hg, hnx.symm.imp And.symm fun ⟨v, hv⟩ => ⟨v, hv.symm⟩⟩

theorem next_cases {V} {nx : Next V} {ready : List (Key × V)} {Q : Key → V → Prop}
    (hnx : (nx = .tasks ready ∧ alookup END ready = none) ∨ ∃ v, nx = .result v ∧ alookup END ready = some v)
    (hq : ∀ n v, (n, v) ∈ ready → Q n v) :
    (∀ ts, nx = .tasks ts → ∀ n v, (n, v) ∈ ts → Q n v) ∧ (∀ v, nx = .result v → Q END v) := by
  rcases hnx with ⟨rfl, _⟩ | ⟨v, rfl, hl⟩
  · refine ⟨fun ts e => ?_, fun v e => (by cases e)⟩
    cases e
    exact hq
  · refine ⟨fun ts e => (by cases e), fun w e => ?_⟩
    cases e
    exact hq END v (mem_of_alookup _ _ _ hl)

theorem round_start_facts {V} {F : Key → Nat} (ops : ValOps V) (r : Runner V) (hd : r.dag = true) (hs : SuccOK r)
    (hpc : PredSuccC r) (hpd : PredSuccD r) (hstart : START ∉ akeys (initChans r)) (hk : r.start.key = START)
    (hHC : HasCtrl r) (rank : Key → Nat)
    (hrank : ∀ n cs ds, (n, cs, ds) ∈ shapes (initChans r) → ∀ p, p ∈ cs ∨ p ∈ ds → rank p < rank n)
    (cm cm' : Chans V) (done : List (Done V)) (nx : Next V) (H : List (Done V)) (OldC : Key → V → Prop)
    (hK : K r H cm) (hsh : shapes cm = shapes (initChans r))
    (hdone : ∀ t, t ∈ done → t ∈ H) (hH : ∀ p o, (p, o) ∈ H → OldC p o ∨ (p, o) ∈ done)
    (hfn : ∀ p o o', (p, o) ∈ H → (p, o') ∈ H → o = o')
    (hq : ∀ p, skOf cm p = 1 → RP F cm p)
    (hold : ∀ p o n, OldC p o → RoutesD r p o n → RV F cm n p)
    (hcall : ∀ t, t ∈ done → (r.call? t.1).isSome = true)
    (h : calcNext ops r cm done = .ok (cm', nx)) :
    ∃ ready : List (Key × V),
      ((nx = .tasks ready ∧ alookup END ready = none) ∨ ∃ v, nx = .result v ∧ alookup END ready = some v) ∧
      ∀ n v, (n, v) ∈ ready → F n = 0 → StartFacts ops r H n v := by
  obtain ⟨res, ready, h1, hg, hnx⟩ := calcNext_unpack' ops r hd cm cm' done nx h
  obtain ⟨v1, v2⟩ := pre_K r hd hs hk cm done res hK hsh hdone h1
  have rv2 : ∀ p o n, (p, o) ∈ H → RoutesD r p o n → RV F (preChans r res) n p := fun p o n hm =>
    values_after_updates r hd hs hpc hpd hstart hk cm done res OldC hK.nd hK.sk hsh hq hold hcall h1 p o n (hH p o hm)
  have e2 : (getReady ops true (preChans r res)).2.1 = ready := by rw [hg]
  refine ⟨ready, hnx, fun n v hnv hF0 => ?_⟩
  rw [← e2] at hnv
  have hjust := getReady_justified ops hd _ v1 v2 rank hrank n v hnv
  obtain ⟨c, hc, ht, hgv⟩ := getReady_src ops _ n v hnv
  obtain ⟨_, hne, ctrlRes, dataRes⟩ := triggered_resolved hd _ v1 v2 hHC rank hrank n c hc ht
  exact ⟨hjust.2.1, dataRes, ctrlRes, hne, c.values, v1.vnd n c hc, triggered_values v1 hfn rv2 hc ht hF0,
    get_ready ops c ht hgv⟩

structure FInv {V} (ops : ValOps V) (r : Runner V) (x : V) (cm : Chans V) (tasks : List (Key × V)) (tr : Trace V) : Prop where
  xi : XInv ops r x cm tasks tr
  facts : FactsTr ops r x (tasks :: tr)
  nodes : ∀ t, t ∈ (tasks :: tr).flatten → (r.node? t.1).isSome = true

theorem node_of_call {V} (r : Runner V) (k : Key) (h : (r.call? k).isSome = true) (hne : k ≠ START) :
    (r.node? k).isSome = true :=
  call?_of_ne_start r hne ▸ h

theorem node_of_hasPred {V} (r : Runner V) (wf : DagWF r) (k : Key) (hcall : (r.call? k).isSome = true)
    (hp : HasPred (shapes (initChans r)) k) : (r.node? k).isSome = true :=
  node_of_call r k hcall (fun e => wf.startFresh (e ▸ hp.mem_keys))

theorem FInv_step {V} (ops : ValOps V) (r : Runner V) (wf : DagWF r) (wf2 : DagWF2 r) (wf3 : DagWF3 r)
    (sched : Sched V) (hf : sched.Fair) (x : V)
    (cm cm' : Chans V) (tasks : List (Key × V)) (tr : Trace V) (done : List (Done V)) (nx : Next V)
    (h : FInv ops r x cm tasks tr) (hr : runTasks r sched tr.length tasks = .ok done)
    (hc : calcNext ops r cm done = .ok (cm', nx)) :
    (∀ ts, nx = .tasks ts → FInv ops r x cm' ts (tasks :: tr)) ∧
    (∀ v, nx = .result v → StartFacts ops r (histOf r x (tasks :: tr)) END v) := by
  obtain ⟨rank, hrank, _⟩ := wf3.acyclicAll
  have hK' : K r (histOf r x (tasks :: tr)) cm := K_mono h.xi.c.k.k (histOf_mono r x tasks tr)
  obtain ⟨hdone, hH, hkeys⟩ := histOf_runTasks r sched hf x tasks tr done hr
  obtain ⟨ready, hnx, hfacts⟩ := round_start_facts (F := fun n => (keysOfTr (tasks :: tr)).count n) ops r wf.dag wf.succ
    wf2.pc wf2.pd wf.startFresh wf.startKey wf3.hasCtrl rank hrank cm cm' done nx
    (histOf r x (tasks :: tr)) (fun p o => (p, o) ∈ histOf r x tr)
    hK' h.xi.c.l.sh hdone hH (hist_functional r wf x cm tasks tr h.xi.c.l) h.xi.c.rq h.xi.rv
    (fun t ht => by obtain ⟨t', ht', e⟩ := hkeys t ht; exact e ▸ h.xi.c.call t' ht')
    hc
  have hEnd := end_not_started r wf (tasks :: tr) h.nodes
  obtain ⟨ftasks, fend⟩ := next_cases hnx hfacts
  refine ⟨fun ready hts => ?_, fun v hv => fend v hv hEnd⟩
  · subst hts
    have hxi := XInv_step ops r wf wf2 sched hf x cm cm' tasks ready tr done h.xi hr hc
    have hF0 : ∀ t, t ∈ ready → (keysOfTr (tasks :: tr)).count t.1 = 0 :=
      fun _ => task_fresh (linv_bound r wf cm' ready (tasks :: tr) hxi.c.l)
    refine ⟨hxi, ⟨fun n v hnv => ftasks ready rfl n v hnv (hF0 (n, v) hnv), h.facts⟩, ?_⟩
    intro t ht
    simp only [List.flatten_cons, List.mem_append] at ht
    rcases ht with ht | ht
    · exact node_of_hasPred r wf t.1 (hxi.c.call t ht) (hxi.c.l.pos t.1 (count_pos_of_task _ ht))
    · exact h.nodes t (by simpa using ht)

theorem FInv_start {V} (ops : ValOps V) (r : Runner V) (wf : DagWF r) (wf2 : DagWF2 r) (wf3 : DagWF3 r) (x : V)
    (cm' : Chans V) (nx : Next V)
    (hc : calcNext ops r (initChans r) [(START, x)] = .ok (cm', nx)) :
    (∀ ts, nx = .tasks ts → FInv ops r x cm' ts []) ∧
    (∀ v, nx = .result v → StartFacts ops r (histOf r x []) END v) := by
  obtain ⟨rank, hrank, _⟩ := wf3.acyclicAll
  obtain ⟨ready, hnx, hfacts⟩ := round_start_facts (F := fun _ => 0) ops r wf.dag wf.succ
    wf2.pc wf2.pd wf.startFresh wf.startKey wf3.hasCtrl rank hrank (initChans r) cm' [(START, x)] nx
    (histOf r x []) (fun _ _ => False)
    (init_K r wf.dag wf.nodup _) rfl
    (start_mem_histOf r x [])
    (fun p o hm => Or.inr (by simpa [mem_histOf_nil] using hm))
    (fun _ _ _ => histOf_nil_functional)
    (fun p hp => by rw [skOf_init r wf.dag p] at hp; cases hp)
    (fun p o n hf => hf.elim)
    (start_callable r x) hc
  obtain ⟨ftasks, fend⟩ := next_cases hnx hfacts
  refine ⟨fun ready hts => ?_, fun v hv => fend v hv rfl⟩
  · subst hts
    have hxi := XInv_start ops r wf wf2 x cm' ready hc
    refine ⟨hxi, ⟨fun n v hnv => ftasks ready rfl n v hnv rfl, trivial⟩, ?_⟩
    intro t ht
    simp only [List.flatten_cons, List.flatten_nil, List.append_nil] at ht
    exact node_of_hasPred r wf t.1 (hxi.c.call t ht) (hxi.c.l.pos t.1 (count_pos_of_task _ ht))

structure RunFacts {V} (ops : ValOps V) (r : Runner V) (x : V) (out : Outcome V) : Prop where
  facts : FactsTr ops r x out.trace.reverse
  once : ∀ k, (keysOfTr out.trace.reverse).count k ≤ 1
  noStart : (keysOfTr out.trace.reverse).count START = 0
  nodes : ∀ t, t ∈ out.trace.reverse.flatten → (r.node? t.1).isSome = true
  res : ∀ v, out.result = .ok v → StartFacts ops r (histOf r x out.trace.reverse) END v

theorem finv_runfacts {V} (ops : ValOps V) (r : Runner V) (wf : DagWF r) (x : V) (cm : Chans V)
    (tasks : List (Key × V)) (tr : Trace V) (h : FInv ops r x cm tasks tr) :
    (∀ k, (keysOfTr (tasks :: tr)).count k ≤ 1) ∧ (keysOfTr (tasks :: tr)).count START = 0 :=
  ⟨linv_bound r wf cm tasks tr h.xi.c.l, start_not_task r wf h.xi.c.l⟩

theorem mkRunFacts {V} (ops : ValOps V) (r : Runner V) (x : V) (L : Trace V) (res : Except Err V)
    (hf : FactsTr ops r x L) (h1 : ∀ k, (keysOfTr L).count k ≤ 1) (h2 : (keysOfTr L).count START = 0)
    (h3 : ∀ t, t ∈ L.flatten → (r.node? t.1).isSome = true)
    (h4 : ∀ v, res = .ok v → StartFacts ops r (histOf r x L) END v) :
    RunFacts ops r x { result := res, trace := L.reverse } := by
  refine ⟨?_, ?_, ?_, ?_, ?_⟩ <;> simp only [List.reverse_reverse] <;> assumption

theorem loop_facts {V} (ops : ValOps V) (r : Runner V) (wf : DagWF r) (wf2 : DagWF2 r) (wf3 : DagWF3 r)
    (sched : Sched V) (hf : sched.Fair) (x : V) :
    ∀ (fuel : Nat) (cm : Chans V) (tasks : List (Key × V)) (tr : Trace V), FInv ops r x cm tasks tr →
      RunFacts ops r x (loop ops r sched fuel cm tasks tr) := by
  intro fuel cm tasks tr h
  obtain ⟨cm1, tasks1, tr1, h1, hstop⟩ := loop_stops ops r sched (FInv ops r x)
    (fun cm cm' tasks tr done ts h hr hc => (FInv_step ops r wf wf2 wf3 sched hf x cm cm' tasks tr done _ h hr hc).1 ts rfl)
    fuel cm tasks tr h
  obtain ⟨b1, b2⟩ := finv_runfacts ops r wf x cm1 tasks1 tr1 h1
  rcases hstop with ⟨htr, hne⟩ | ⟨htr, hres⟩
  · have := mkRunFacts ops r x tr1 (loop ops r sched fuel cm tasks tr).result h1.facts.2
      (fun k => by have := b1 k; rw [keysOfTr_cons, List.count_append] at this; omega)
      (by rw [keysOfTr_cons, List.count_append] at b2; omega)
      (fun t ht => h1.nodes t (by simp only [List.flatten_cons, List.mem_append]; exact Or.inr ht))
      (fun v hv => absurd hv (hne v))
    rw [← htr] at this
    exact this
  · have := mkRunFacts ops r x (tasks1 :: tr1) (loop ops r sched fuel cm tasks tr).result h1.facts b1 b2 h1.nodes
      (fun v hv => by
        obtain ⟨done, cm2, hr, hc⟩ := hres v hv
        exact (FInv_step ops r wf wf2 wf3 sched hf x cm1 cm2 tasks1 tr1 done _ h1 hr hc).2 v rfl)
    rw [← htr] at this
    exact this

theorem run_facts {V} (ops : ValOps V) (r : Runner V) (wf : DagWF r) (wf2 : DagWF2 r) (wf3 : DagWF3 r)
    (sched : Sched V) (hf : sched.Fair) (x : V) : RunFacts ops r x (runS ops r sched x) := by
  have empty : ∀ (res : Except Err V), (∀ v, res = .ok v → StartFacts ops r (histOf r x []) END v) →
      RunFacts ops r x { result := res, trace := [] } := fun res h4 =>
    mkRunFacts ops r x [] res trivial (fun _ => Nat.zero_le _) rfl (fun _ ht => nomatch ht) h4
  refine runS_elim ops r sched x (fun e _ => empty _ fun v hv => nomatch hv) (fun cm' w hc => empty _ fun v hv => ?_)
    (fun cm' ts hc => loop_facts ops r wf wf2 wf3 sched hf x _ cm' ts []
      ((FInv_start ops r wf wf2 wf3 x cm' _ hc).1 ts rfl))
  cases hv
  exact (FInv_start ops r wf wf2 wf3 x cm' _ hc).2 _ rfl

theorem factsTr_mem {V} (ops : ValOps V) (r : Runner V) (x : V) (L : Trace V) (h : FactsTr ops r x L) :
    ∀ n v, (n, v) ∈ L.flatten → ∃ H', (∀ d, d ∈ H' → d ∈ histOf r x L) ∧ StartFacts ops r H' n v := by
  induction L with
  | nil => intro n v hm; simp at hm
  | cons step older ih =>
    intro n v hm
    simp only [List.flatten_cons, List.mem_append] at hm
    rcases hm with hm | hm
    · exact ⟨histOf r x older, histOf_mono r x step older, h.1 n v hm⟩
    · obtain ⟨H', sub, f⟩ := ih h.2 n v hm
      exact ⟨H', fun d hd => histOf_mono r x step older d (sub d hd), f⟩

theorem grounded_of_run {V} (ops : ValOps V) (r : Runner V) (x : V) (L : Trace V)
    (hf : FactsTr ops r x L) (h1 : ∀ k, (keysOfTr L).count k ≤ 1) (h2 : (keysOfTr L).count START = 0)
    (h3 : ∀ t, t ∈ L.flatten → (r.node? t.1).isSome = true) : Grounded ops r x (histOf r x L) := by
  exact grounded_of_tasks ops r x L.flatten _ h1 h2 (fun d => (histOf_mem r x L d).mp)
    (fun t ht => factsTr_mem ops r x L hf t.1 t.2 ht) h3

/-- `v` is a value the runner can return on input `x`: END's input on facts drawn from a grounded history.
    Both run loops return only such values (`runS_returns`, `runEager_result_facts`), and there is at most
    one (`Returns.unique`): every "same result" theorem is these two facts. -/
def Returns {V} (ops : ValOps V) (r : Runner V) (x v : V) : Prop :=
  ∃ H, Grounded ops r x H ∧ StartFacts ops r H END v

theorem Returns.unique {V} {ops : ValOps V} (hm : MergePerm ops) {r : Runner V} (wf3 : DagWF3 r) {x v w : V}
    (hv : Returns ops r x v) (hw : Returns ops r x w) : v = w := by
  obtain ⟨rank, _, hrank⟩ := wf3.acyclicAll
  obtain ⟨HA, gA, fA⟩ := hv
  obtain ⟨HB, gB, fB⟩ := hw
  exact grounded_input_agree ops hm r x rank hrank wf3.startNoPreds HA HB HA HB gA gB
    (fun _ h => h) (fun _ h => h) END v w fA fB

theorem runS_returns {V} (ops : ValOps V) (r : Runner V) (wf : DagWF r) (wf2 : DagWF2 r) (wf3 : DagWF3 r)
    (sched : Sched V) (hf : sched.Fair) (x v : V) (h : (runS ops r sched x).result = .ok v) : Returns ops r x v :=
  have f := run_facts ops r wf wf2 wf3 sched hf x
  ⟨_, grounded_of_run ops r x _ f.facts f.once f.noStart f.nodes, f.res v h⟩

/-- **the result does not depend on the completion schedule.**  Two runs of one well-formed acyclic
    all-predecessor runner on one input, under two fair completion schedules, with an
    order-insensitive merge: if both return a value, it is the same value. -/
theorem run_result_sched_independent {V} (ops : ValOps V) (hm : MergePerm ops) (r : Runner V)
    (wf : DagWF r) (wf2 : DagWF2 r) (wf3 : DagWF3 r) (sA sB : Sched V) (hfA : sA.Fair) (hfB : sB.Fair)
    (x vA vB : V) (hA : (runS ops r sA x).result = .ok vA) (hB : (runS ops r sB x).result = .ok vB) : vA = vB :=
  (runS_returns ops r wf wf2 wf3 sA hfA x vA hA).unique hm wf3 (runS_returns ops r wf wf2 wf3 sB hfB x vB hB)

theorem run_outputs_sched_independent {V} (ops : ValOps V) (hm : MergePerm ops) (r : Runner V)
    (wf : DagWF r) (wf2 : DagWF2 r) (wf3 : DagWF3 r) (sA sB : Sched V) (hfA : sA.Fair) (hfB : sB.Fair) (x : V)
    (n : Key) (o o' : V)
    (hA : (n, o) ∈ histOf r x (runS ops r sA x).trace.reverse)
    (hB : (n, o') ∈ histOf r x (runS ops r sB x).trace.reverse) : o = o' := by
  obtain ⟨rank, _, hrank⟩ := wf3.acyclicAll
  have fa := run_facts ops r wf wf2 wf3 sA hfA x
  have fb := run_facts ops r wf wf2 wf3 sB hfB x
  have gA := grounded_of_run ops r x _ fa.facts fa.once fa.noStart fa.nodes
  have gB := grounded_of_run ops r x _ fb.facts fb.once fb.noStart fb.nodes
  exact (grounded_agree ops hm r x rank hrank wf3.startNoPreds _ _ gA gB n).1 o o' hA hB

theorem dagWF3b_sound {V} (r : Runner V) (h : dagWF3b r = true) : DagWF3 r := by
  simp only [dagWF3b, Bool.and_eq_true, List.all_eq_true, Bool.or_eq_true, Bool.not_eq_eq_eq_not, Bool.not_true,
    List.isEmpty_iff, decide_eq_true_eq, List.mem_append] at h
  obtain ⟨⟨⟨h1, h2⟩, h3⟩, h4⟩ := h
  refine ⟨?_, h2, ⟨rankOf (shapes (initChans r)), ?_, ?_⟩⟩
  · intro n cs ds hm hcs
    rcases h1 (n, cs, ds) hm with h | h
    · simp only [List.isEmpty_eq_false_iff] at h
      exact absurd hcs h
    · exact h
  · intro n cs ds hm p hp
    exact h3 (n, cs, ds) hm p (by simpa using hp)
  · intro n p hp
    rcases hp with hp | hp
    · obtain ⟨l, hm, hp⟩ := mem_getD_alookup hp
      exact h4 (n, l) (Or.inl hm) p hp
    · obtain ⟨l, hm, hp⟩ := mem_getD_alookup hp
      exact h4 (n, l) (Or.inr hm) p hp

end DagRun
end EinoV.Engine
