/- Lemmas about streams that carry an error item (`Model/C04Lazy.lean`). -/
import EinoV.Model.C04Lazy
import EinoV.Proofs.EngineHom

namespace EinoV.C04
open EinoV.Engine

variable {V : Type}

theorem LStream.force_err (s : LStream V) (e : Err) (he : s.err = some e) : s.force = .error e := by
  simp [LStream.force, he]

theorem LStream.force_ok (s : LStream V) (he : s.err = none) : s.force = .ok s.chunks := by
  simp [LStream.force, he]

/-- stream mode against value mode in the edge-level families (input keys, field mappings): the
    same value, or a failure in both (the errors may differ) -/
def Agree {α : Type} (a b : Except Err α) : Prop :=
  (∀ t, a = .ok t → b = .ok t) ∧ (∀ e, a = .error e → ∃ e', b = .error e')

theorem Agree.of_ok {α : Type} {a b : Except Err α} {t : α} (ha : a = .ok t) (hb : b = .ok t) :
    Agree a b := by
  subst ha hb
  exact ⟨fun _ h => h, nofun⟩

theorem Agree.of_error {α : Type} {a b : Except Err α} {e e' : Err} (ha : a = .error e)
    (hb : b = .error e') : Agree a b := by
  subst ha hb
  exact ⟨nofun, fun _ _ => ⟨e', rfl⟩⟩

theorem lazy_ops_ok (z : V) : OpsOK (LStream.chunks (V := V)) (fun s => s.err = none) (lazyOps z) (listOps z) where
  merge := by
    intro l _
    simp [lazyOps, listOps]
  mergeKeeps := by
    intro l m hl hm
    simp only [lazyOps, Option.some.injEq] at hm
    subst hm
    exact List.findSome?_eq_none_iff.mpr hl
  zero := rfl

theorem lazyNode_of_ok (t : List V → Except Err (List V)) (s : LStream V) (hs : s.err = none) :
    lazyNode t s = (t s.chunks).map LStream.ofList := by
  rw [lazyNode, LStream.force_ok s hs]
  show (t s.chunks >>= fun o => pure (LStream.ofList o)) = _
  cases t s.chunks <;> rfl

theorem lazyMidFail_err {t : List V → Except Err (List V)} {k : Nat} {e : Err} {x o : LStream V}
    (h : lazyMidFail t k e x = .ok o) : o.err = some e := by
  unfold lazyMidFail at h
  cases hx : x.force >>= t with
  | error _ => rw [hx] at h; cases h
  | ok ys => rw [hx] at h; cases h; rfl

end EinoV.C04
