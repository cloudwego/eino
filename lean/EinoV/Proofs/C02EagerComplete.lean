/-
  C02, Workflows: completeness for the eager loop (`ereach_complete`, `runEager_complete`): in every
  state the loop passes through, under any completion order, a node enabled by the completions
  processed so far has been submitted.  The round lemmas of C02Complete (which do not depend on
  the schedule) applied to one completion at a time; the soundness invariant is kept for the
  outputs of everything submitted, the completeness invariant for the processed completions
  (`Boundary` with two histories).
-/
import EinoV.Proofs.C02Hist

namespace EinoV.Engine
namespace DagRun

structure ECInv {V} (ops : ValOps V) (r : Runner V) (x : V) (cm : Chans V) (running : List (Key × V))
    (bs : List (List (Key × V))) (comp : List Key) : Prop where
  e : EInv r cm running bs comp
  k : EKInv ops r x cm running bs
  rq : ∀ p, skOf cm p = 1 → RP (fun n => (keysOfTr bs).count n) cm p
  rc : ∀ p, (∃ o, (p, o) ∈ histC r x bs comp) → RP (fun n => (keysOfTr bs).count n) cm p
  untr : ∀ n c, (n, c) ∈ cm → c.triggered = false
  call : ∀ t, t ∈ running → (r.call? t.1).isSome = true
  cok : ∀ k, k ∈ comp → ∃ u, u ∈ bs.flatten ∧ u.1 = k ∧ (outOf r u).isSome = true

theorem einv_functional {V} (r : Runner V) (wf : DagWF r) (x : V) {cm : Chans V} {running : List (Key × V)}
    {bs : List (List (Key × V))} {comp : List Key} (h : EInv r cm running bs comp) :
    ∀ p o o', (p, o) ∈ histOf r x bs.reverse → (p, o') ∈ histOf r x bs.reverse → o = o' :=
  outs_functional r x bs.flatten _ (einv_bound r wf cm running bs comp h) (einv_noStart r wf h)
    (fun d hd => (mem_histOf_reverse r x bs d).mp hd)

theorem histC_functional {V} (r : Runner V) (wf : DagWF r) (x : V) {cm : Chans V} {running : List (Key × V)}
    {bs : List (List (Key × V))} {comp : List Key} (h : EInv r cm running bs comp) (comp' : List Key) :
    ∀ p o o', (p, o) ∈ histC r x bs comp' → (p, o') ∈ histC r x bs comp' → o = o' :=
  fun p o o' hm hm' => einv_functional r wf x h p o o' (histC_sub r x bs comp' _ hm) (histC_sub r x bs comp' _ hm')

theorem ecinv_complete {V} (ops : ValOps V) (r : Runner V) (wf : DagWF r) (wf2 : DagWF2 r) (x : V)
    (cm : Chans V) (running : List (Key × V)) (bs : List (List (Key × V))) (comp : List Key)
    (h : ECInv ops r x cm running bs comp) :
    ∀ n, Enabled r (histC r x bs comp) n → n ∈ keysOfTr bs := by
  have hkeys := akeys_of_shapes h.e.sh
  have hstart : START ∉ akeys cm := by rw [hkeys]; exact wf.startFresh
  have hb : Boundary r (histC r x bs comp) (histOf r x bs.reverse) (fun n => (keysOfTr bs).count n) cm := by
    refine ⟨histC_sub r x bs comp, h.k.k, h.e.sh, einv_static r wf cm running bs comp h.e, ?_, h.untr, ?_,
      einv_functional r wf x h.e, ?_⟩
    · intro p hp
      rcases hp with hp | hp
      · exact h.rc p hp
      · exact h.rq p hp
    · intro p o hm
      rcases (mem_histOf_reverse r x bs _).mp hm with hm | ⟨t, ht, ho⟩
      · exact Or.inl (Prod.mk.inj hm).1
      · have hkk : p = t.1 := outOf_key r t (p, o) ho
        exact Or.inr (List.count_pos_iff.mpr (List.mem_map.mpr ⟨t, ht, hkk.symm⟩))
    · intro n hn hne
      obtain ⟨t, ht, rfl⟩ := List.mem_map.mp (List.count_pos_iff.mp hn)
      have hj := justTr_all ops r x bs.reverse h.k.just t.1 t.2 (by
        simp only [List.mem_flatten, List.mem_reverse]
        simpa [List.mem_flatten] using ht)
      exact hj.2.1 hne
  intro n hen
  have := complete_at wf.dag hb hstart (fun n hne => by rw [hkeys]; exact wf2.p4 n hne) n hen
  exact List.count_pos_iff.mp this

theorem ECInv_init {V} (ops : ValOps V) (r : Runner V) (wf : DagWF r) (wf2 : DagWF2 r) (x : V)
    (cm : Chans V) (ts : List (Key × V))
    (hc : calcNext ops r (initChans r) [(START, x)] = .ok (cm, .tasks ts)) : ECInv ops r x cm ts [ts] [] := by
  have hJ0 := init_J r wf.dag wf.nodup
  obtain ⟨r1, r2, r3⟩ := round_R (F := fun _ => 0) ops r wf.dag wf.succ wf2.pc wf2.pd
    wf.startFresh wf.startKey (initChans r) cm [(START, x)] ts (fun _ => False)
    wf.nodup hJ0.sk rfl
    (fun p hp => by rw [skOf_init r wf.dag p] at hp; cases hp)
    (fun p hp => hp.elim)
    (start_callable r x) hc
  have eF : (fun n => 0 + (akeys ts).count n) = (fun n => (keysOfTr ([ts] : Trace V)).count n) := by
    funext n; rw [keysOfTr_cons, keysOfTr_nil, List.append_nil, Nat.zero_add]
  rw [eF] at r1
  refine ⟨EInv_init ops r wf x cm ts hc, (EKInv_init ops r wf x cm _ hc).1 ts rfl,
    fun p hp => r1 p (Or.inr (Or.inr hp)), ?_, r2, ?_, fun k hk' => by simp at hk'⟩
  · intro p ⟨o, ho⟩
    apply r1 p
    right; left
    rcases (mem_histC r x _ _ _).mp ho with ho | ⟨u, _, hcu, _⟩
    · simp [(Prod.mk.inj ho).1]
    · simp at hcu
  · intro t ht
    obtain ⟨a, b⟩ := r3 t ht
    exact call_of_key r t.1 a b

theorem ECInv.processed {V} {ops : ValOps V} {r : Runner V} {x : V} {cm : Chans V} {running ts : List (Key × V)}
    {bs : List (List (Key × V))} {comp : List Key} (h : ECInv ops r x cm running bs comp) {t : Key × V}
    {d : Done V} (htr : t ∈ running) (hce : collectOne (execOne r t) = .ok d)
    (once : ∀ k, (keysOfTr (bs ++ [ts])).count k ≤ 1) :
    (∀ t', t' ∈ [d] → (r.call? t'.1).isSome = true) ∧
    (∀ t', t' ∈ [d] → t' ∈ histC r x (bs ++ [ts]) (comp ++ [t.1])) ∧
    (∀ e, e ∈ histC r x (bs ++ [ts]) (comp ++ [t.1]) → e ∈ histC r x bs comp ∨ e ∈ [d]) := by
  have hout : outOf r t = some d := outOf_eq_some_iff.mpr hce
  have htb : t ∈ bs.flatten := h.k.run t htr
  have hsub : ∀ u, u ∈ bs.flatten → u ∈ (bs ++ [ts]).flatten := fun u hu =>
    List.flatten_append ▸ List.mem_append_left _ hu
  refine ⟨fun t' ht' => ?_, fun t' ht' => ?_, histC_step_mem r x bs (bs ++ [ts]) comp t d hsub once htb hout
    (fun k hk => (h.cok k hk).imp fun u hu => ⟨hu.1, hu.2.1⟩)⟩
  · rw [List.mem_singleton.mp ht', collect_exec_key r t d hce]; exact h.call t htr
  · rw [List.mem_singleton.mp ht']
    exact (mem_histC r x _ _ d).mpr (Or.inr ⟨t, hsub t htb, List.mem_append_right _ List.mem_cons_self, hout⟩)

theorem ECInv_step {V} (ops : ValOps V) (r : Runner V) (wf : DagWF r) (wf2 : DagWF2 r) (pick : Pick V) (x : V)
    (cm cm' : Chans V) (running ts : List (Key × V)) (bs : List (List (Key × V))) (comp : List Key)
    (t : Key × V) (d : Done V)
    (h : ECInv ops r x cm running bs comp)
    (hp : running[pick running % running.length]? = some t)
    (hce : collectOne (execOne r t) = .ok d)
    (hc : calcNext ops r cm [d] = .ok (cm', .tasks ts)) :
    ECInv ops r x cm' (running.eraseIdx (pick running % running.length) ++ ts) (bs ++ [ts]) (comp ++ [t.1]) := by
  have he' := EInv_step ops r wf pick cm cm' running ts bs comp t d h.e hp hce hc
  obtain ⟨hcall, _, hH⟩ := h.processed (List.mem_of_getElem? hp) hce (einv_bound r wf cm' _ _ _ he')
  obtain ⟨r1, r2, r3⟩ := round_R (F := fun n => (keysOfTr bs).count n) ops r wf.dag wf.succ wf2.pc wf2.pd
    wf.startFresh wf.startKey cm cm' [d] ts (fun p => ∃ o, (p, o) ∈ histC r x bs comp)
    h.k.k.nd h.k.k.sk h.e.sh h.rq h.rc hcall hc
  have eF : (fun n => (keysOfTr bs).count n + (akeys ts).count n) = (fun n => (keysOfTr (bs ++ [ts])).count n) := by
    funext n; rw [keysOfTr_append_single, List.count_append]
  rw [eF] at r1
  refine ⟨he', (EKInv_round ops r wf pick x cm cm' running bs t d _ h.k hp hce hc).1 ts rfl,
    fun p hp' => r1 p (Or.inr (Or.inr hp')), ?_, r2, ?_, ?_⟩
  · intro p ⟨o, ho⟩
    exact r1 p ((hH _ ho).imp (fun ho => ⟨o, ho⟩) fun ho => Or.inl (List.mem_map.mpr ⟨_, ho, rfl⟩))
  · intro t' ht'
    rcases List.mem_append.mp ht' with h1 | h1
    · exact h.call t' (List.mem_of_mem_eraseIdx h1)
    · exact call_of_key r t'.1 (r3 t' h1).1 (r3 t' h1).2
  · intro k hk'
    rcases List.mem_append.mp hk' with h1 | h1
    · obtain ⟨u, hu, e1, e2⟩ := h.cok k h1
      exact ⟨u, by simp [hu], e1, e2⟩
    · rw [List.mem_singleton.mp h1]
      exact ⟨t, by simp [h.k.run t (List.mem_of_getElem? hp)], rfl, by rw [outOf_eq_some_iff.mpr hce]; rfl⟩

theorem ereach_complete {V} (ops : ValOps V) (r : Runner V) (wf : DagWF r) (wf2 : DagWF2 r) (pick : Pick V) (x : V)
    (cm : Chans V) (running : List (Key × V)) (bs : List (List (Key × V))) (comp : List Key)
    (h : EReach ops r pick x cm running bs comp) :
    ∀ n, Enabled r (histC r x bs comp) n → n ∈ keysOfTr bs := by
  have : ECInv ops r x cm running bs comp := by
    induction h with
    | init cm ts hc => exact ECInv_init ops r wf wf2 x cm ts hc
    | step cm cm' running ts bs comp t d _ hp hce hn ih =>
      exact ECInv_step ops r wf wf2 pick x cm cm' running ts bs comp t d ih hp hce hn
  exact ecinv_complete ops r wf wf2 x cm running bs comp this

/-- **eager completeness, on the outcome.** When the eager run stops — with a result, an error,
    nothing left to run or no fuel — every node enabled by the completions it had processed (all
    collected tasks, except possibly the last one, at which it stopped) is among the submitted tasks.
    Nothing is claimed of a run that ended at its first `calcNext`, on START's completion
    (`batches = []`). -/
theorem runEager_complete {V} (ops : ValOps V) (r : Runner V) (wf : DagWF r) (wf2 : DagWF2 r) (pick : Pick V) (x : V) :
    ∃ comp', ((runEager ops r pick x).completed = comp' ∨ ∃ k, (runEager ops r pick x).completed = comp' ++ [k]) ∧
      ((runEager ops r pick x).batches = [] ∨
       ∀ n, Enabled r (histC r x (runEager ops r pick x).batches comp') n →
         n ∈ (runEager ops r pick x).submitted.map (·.1)) := by
  refine runEager_elim ops r pick x (fun _ _ => ⟨[], Or.inl rfl, Or.inl rfl⟩)
    (fun _ _ _ => ⟨[], Or.inl rfl, Or.inl rfl⟩) (fun cm ts hc => ?_)
  obtain ⟨cm', running', comp', hreach, hcomp⟩ := eagerLoop_stops ops r pick (EReach ops r pick x)
    (fun cm cm' running ts bs comp t d => EReach.step cm cm' running ts bs comp t d)
    r.eagerFuel cm ts [ts] [] (EReach.init cm ts hc)
  exact ⟨comp', hcomp.imp (·.1) (fun ⟨t, _, e, _⟩ => ⟨t.1, e⟩),
    Or.inr (fun n hen => ereach_complete ops r wf wf2 pick x _ _ _ _ hreach n hen)⟩

end DagRun
end EinoV.Engine
