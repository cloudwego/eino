/-
  C15 — lemmas about assignment along target paths: assignments on prefix-unrelated paths
  commute, an assignment reads back, and it leaves every unrelated path untouched; hence
  `convertFrom` over pairwise unrelated targets gives the same result in every order.

  The import of `Proofs/C15Trie` is for the elementary lemmas about `prefixRel` and `noOverlap` at the top of
  that file (`prefixRel_cons_iff`, `prefixRel_symm`, `noOverlap_fst`, `noOverlap_perm`, …); nothing about the
  prefix tree itself is used here.

  In file order.  From `FKVs.lookup_ins_same`: insertion into an ordered key-value list reads back, overwrites
  and commutes (map entries).  From `fieldSet`: the same laws for struct fields, `fieldUpd` being split into
  `fieldGet` and `fieldSet` (`fieldUpd_eq`).  From `mapOf_remap`: unwrapping a container and wrapping it again
  (`mapOf`/`remap`, `structOf`/`derefRec`/`rewrap`).  From `child` (section "one segment down"): both kinds
  of container behind `child`/`put` with four laws, and the recursion equations of `assign`, `getT`, `slotTy`
  in their terms.  From `assign_comm`: the path theorems, by induction on the path.  From `convertFrom_perm`:
  lists of assignments, up to `convertFrom_exact` (`mapped_exact` of Props/C15 is an instance).  Last,
  `extractTyG_eq`: the two forms of the static path check agree where `extractTyF` switches between them.
-/
import EinoV.Model.C15
import EinoV.Proofs.C15Trie

namespace EinoV.C15

theorem Option.bind_comm' {α β γ : Type} (x : Option α) (y : Option β) (f : α → β → Option γ) :
    (x.bind fun a => y.bind fun b => f a b) = (y.bind fun b => x.bind fun a => f a b) := by
  cases x <;> cases y <;> rfl

namespace FKVs

theorem lookup_ins_same : ∀ (kvs : FKVs) (s : String) (v : FVal), (kvs.ins s v).lookup s = some v
  | .nil, s, v => by simp [ins, lookup]
  | .cons k w r, s, v => by
    have ih := lookup_ins_same r s v
    simp only [ins]
    split
    · simp [lookup]
    · split
      · simp [lookup]
      · next h1 h2 => simp [lookup, h2, ih]

theorem lookup_ins_other : ∀ (kvs : FKVs) {s s' : String} (v : FVal), s' ≠ s →
    (kvs.ins s v).lookup s' = kvs.lookup s'
  | .nil, s, s', v, h => by simp [ins, lookup, h]
  | .cons k w r, s, s', v, h => by
    have ih := lookup_ins_other r v h
    simp only [ins]
    split
    · simp [lookup, h]
    · split
      · next h1 h2 => subst h2; simp [lookup, h]
      · next h1 h2 =>
        simp only [lookup]
        split
        · rfl
        · exact ih

theorem ins_ins_same : ∀ (kvs : FKVs) (s : String) (v w : FVal), (kvs.ins s v).ins s w = kvs.ins s w
  | .nil, s, v, w => by simp [ins, String.lt_irrefl]
  | .cons k u r, s, v, w => by
    have ih := ins_ins_same r s v w
    simp only [ins]
    split
    · next h => simp [ins, String.lt_irrefl]
    · split
      · next h1 h2 => simp [ins, String.lt_irrefl]
      · next h1 h2 => simp [ins, h1, h2, ih]

theorem ins_comm_lt : ∀ (kvs : FKVs) {s s' : String} (v w : FVal), s < s' →
    (kvs.ins s v).ins s' w = (kvs.ins s' w).ins s v
  | .nil, s, s', v, w, h => by
    have hne : s' ≠ s := by rintro rfl; exact String.lt_irrefl _ h
    simp [ins, h, String.lt_asymm h, hne]
  | .cons k u r, s, s', v, w, h => by
    have hn : ¬ s' < s := String.lt_asymm h
    have hne : s' ≠ s := by rintro rfl; exact String.lt_irrefl _ h
    by_cases a1 : s < k
    · -- `s` goes in front of `k`, and `s'` behind `s`: before, at or after `k`
      by_cases b1 : s' < k
      · simp [ins, a1, b1, h, hn, hne]
      · by_cases b2 : s' = k
        · subst b2; simp [ins, a1, hn, String.lt_irrefl, hne]
        · simp [ins, a1, b1, b2, hn, hne]
    · by_cases a2 : s = k
      · subst a2; simp [ins, hn, hne, String.lt_irrefl]
      · -- both behind `k`
        have b3 : k < s' := String.lt_trans (Std.lt_of_le_of_ne (String.not_lt.mp a1) (Ne.symm a2)) h
        have b2 : s' ≠ k := by rintro rfl; exact String.lt_irrefl _ b3
        simp [ins, a1, a2, String.lt_asymm b3, b2, ins_comm_lt r v w h]

theorem ins_comm (kvs : FKVs) {s s' : String} (v w : FVal) (h : s ≠ s') :
    (kvs.ins s v).ins s' w = (kvs.ins s' w).ins s v := by
  rcases Std.lt_trichotomy s s' with c | c | c
  · exact ins_comm_lt kvs v w c
  · exact absurd c h
  · exact (ins_comm_lt kvs w v c).symm

end FKVs

@[simp] theorem FKVs.headD_cons (k : String) (v : FVal) (r : FKVs) (d : FVal) : (FKVs.cons k v r).headD d = v := rfl
@[simp] theorem FKVs.tail_cons (k : String) (v : FVal) (r : FKVs) : (FKVs.cons k v r).tail = r := rfl

/-- field `s` overwritten with `v` (a missing tail filled with zero values, as `fieldUpd` does) -/
def fieldSet : FFields → FKVs → Seg → FVal → FKVs
  | .nil, kvs, _, _ => kvs
  | .cons n t r, kvs, s, v =>
    if s = n then .cons n v kvs.tail else .cons n (kvs.headD (zero t)) (fieldSet r kvs.tail s v)

theorem fieldUpd_eq (f : FTy → FVal → Option FVal) : ∀ (fs : FFields) (kvs : FKVs) (s : Seg),
    fieldUpd f fs kvs s = (fieldGet fs kvs s).bind fun c => (f c.1 c.2).map (fieldSet fs kvs s)
  | .nil, _, _ => rfl
  | .cons n t r, kvs, s => by
    by_cases h : s = n
    · subst h
      simp only [fieldUpd, fieldGet, if_true, Option.bind_some]
      cases f t (kvs.headD (zero t)) <;> simp [fieldSet]
    · rw [fieldUpd, fieldGet, if_neg h, if_neg h, fieldUpd_eq f r]
      cases fieldGet r kvs.tail s with
      | none => rfl
      | some c =>
        simp only [Option.bind_some]
        cases f c.1 c.2 <;> simp [fieldSet, h]

theorem fieldGet_set_same : ∀ (fs : FFields) (kvs : FKVs) (s : Seg) (v : FVal),
    fieldGet fs (fieldSet fs kvs s v) s = (fieldGet fs kvs s).map fun c => (c.1, v)
  | .nil, _, _, _ => rfl
  | .cons n t r, kvs, s, v => by
    by_cases h : s = n <;> simp [fieldGet, fieldSet, h, fieldGet_set_same r]

theorem fieldGet_set_other : ∀ (fs : FFields) (kvs : FKVs) {s s' : Seg} (v : FVal), s' ≠ s →
    fieldGet fs (fieldSet fs kvs s v) s' = fieldGet fs kvs s'
  | .nil, _, _, _, _, _ => rfl
  | .cons n t r, kvs, s, s', v, hne => by
    by_cases h : s = n
    · subst h; simp [fieldGet, fieldSet, hne]
    · by_cases h' : s' = n <;> simp [fieldGet, fieldSet, h, h', fieldGet_set_other r _ v hne]

theorem fieldSet_set : ∀ (fs : FFields) (kvs : FKVs) (s : Seg) (v w : FVal),
    fieldSet fs (fieldSet fs kvs s v) s w = fieldSet fs kvs s w
  | .nil, _, _, _, _ => rfl
  | .cons n t r, kvs, s, v, w => by
    by_cases h : s = n <;> simp [fieldSet, h, fieldSet_set r]

theorem fieldSet_comm : ∀ (fs : FFields) (kvs : FKVs) {s s' : Seg} (v w : FVal), s ≠ s' →
    fieldSet fs (fieldSet fs kvs s v) s' w = fieldSet fs (fieldSet fs kvs s' w) s v
  | .nil, _, _, _, _, _, _ => rfl
  | .cons n t r, kvs, s, s', v, w, hne => by
    by_cases h : s = n
    · subst h; simp [fieldSet, Ne.symm hne]
    · by_cases h' : s' = n
      · subst h'; simp [fieldSet, h]
      · simp [fieldSet, h, h', fieldSet_comm r _ v w hne]

theorem fieldGet_ty : ∀ (fs : FFields) (kvs : FKVs) (s : Seg),
    (fieldGet fs kvs s).map (·.1) = fieldTy fs s
  | .nil, kvs, s => rfl
  | .cons n t r, kvs, s => by
    by_cases h1 : s = n
    · simp [fieldGet, fieldTy, h1]
    · simp only [fieldGet, fieldTy, h1, if_false]
      exact fieldGet_ty r _ s

theorem mapOf_remap {t : FTy} {d : FVal} {e : FTy} {kvs : FKVs} (h : mapOf t d = some (e, kvs)) (kvs' : FKVs) :
    mapOf t (remap t kvs') = some (e, kvs') := by
  cases t <;> simp [mapOf] at h
  · obtain ⟨rfl, _⟩ := h; simp [mapOf, remap]
  · obtain ⟨rfl, _⟩ := h; simp [mapOf, remap]

theorem mapOf_ty {t : FTy} {d : FVal} {e : FTy} {kvs : FKVs} (h : mapOf t d = some (e, kvs)) (d' : FVal) :
    ∃ kvs', mapOf t d' = some (e, kvs') := by
  cases t <;> simp [mapOf] at h <;> simp [mapOf, h.1]

theorem mapOf_none {t : FTy} {d : FVal} (h : mapOf t d = none) (d' : FVal) : mapOf t d' = none := by
  cases t <;> simp [mapOf] at h <;> simp [mapOf]

theorem structOf_eq_some {t : FTy} {fs : FFields} (h : structOf t = some fs) :
    ∃ n, t = .struct n fs ∨ t = .ptr (.struct n fs) := by
  cases t with
  | struct n fs' => cases h; exact ⟨n, .inl rfl⟩
  | ptr t' =>
    cases t' with
    | struct n fs' => cases h; exact ⟨n, .inr rfl⟩
    | _ => cases h
  | _ => cases h

theorem structOf_mapOf {t : FTy} {fs : FFields} (h : structOf t = some fs) (d : FVal) : mapOf t d = none := by
  obtain ⟨n, rfl | rfl⟩ := structOf_eq_some h <;> rfl

theorem structOf_not_iface {t : FTy} {fs : FFields} (h : structOf t = some fs) : isIface t = false := by
  obtain ⟨n, rfl | rfl⟩ := structOf_eq_some h <;> rfl

theorem derefRec_rewrap {t : FTy} {fs : FFields} (h : structOf t = some fs) (kvs : FKVs) :
    derefRec t fs (rewrap t kvs) = kvs := by
  obtain ⟨n, rfl | rfl⟩ := structOf_eq_some h <;> rfl

/-- `map` is the constructor the path functions (`slotTy`, `extractTy`, `childTy`, the elaborations) match on in front
    of their catch-all case: `t` is a map, or the side condition of that last case holds -/
theorem FTy.map_or_not (t : FTy) : (∃ e, t = .map e) ∨ ∀ e, t = .map e → False :=
  (Classical.em _).imp_right fun h e he => h ⟨e, he⟩

/-! ### one segment down

  `assign`, `getT`, `slotTy` and `keysAt` walk a path one segment at a time, through a map (or an
  `any` hole expanded to one) or through a struct.  `child` reads what is one segment down, `put`
  writes it back; the four laws below are all the path theorems need to know about containers. -/

/-- type and current value one segment down: a map entry (an absent one reads as the instance
    `assign` would create) or a field -/
def child (t : FTy) (d : FVal) (s : Seg) : Option (FTy × FVal) :=
  match mapOf t d with
  | some (e, kvs) => some (e, (kvs.lookup s).getD (newInstance e))
  | none => (structOf t).bind fun fs => fieldGet fs (derefRec t fs d) s

/-- `d` with `v` written one segment down: what `assign` does with the result of its recursive call
    (`assign_cons`).  Entry `s` of the map (an `any` hole comes back boxed as a `map[string]any`), or field `s` of
    the struct (a nil pointer comes back instantiated).  On any other `t` it returns `d`; `child` is `none` there,
    so `assign_cons` never applies that case. -/
def put (t : FTy) (d : FVal) (s : Seg) : FVal → FVal := fun v =>
  match mapOf t d with
  | some (_, kvs) => remap t (kvs.ins s v)
  | none =>
    match structOf t with
    | some fs => rewrap t (fieldSet fs (derefRec t fs d) s v)
    | none => d

theorem assign_cons (t : FTy) (d : FVal) (s : Seg) (r : Path) (a : Taken) :
    assign t d (s :: r) a = ((child t d s).bind fun c => assign c.1 c.2 r a).map (put t d s) := by
  rw [assign, child]; unfold put
  rcases mapOf t d with _ | ⟨e, kvs⟩
  · cases structOf t with
    | none => rfl
    | some fs =>
      simp only [Option.bind_some, fieldUpd_eq]
      cases fieldGet fs (derefRec t fs d) s with
      | none => rfl
      | some c => simp only [Option.bind_some, Option.map_map]; rfl
  · rfl

theorem getT_cons (t : FTy) (d : FVal) (s : Seg) (r : Path) :
    getT t d (s :: r) = (child t d s).bind fun c => getT c.1 c.2 r := by
  rw [getT, child]
  rcases mapOf t d with _ | ⟨e, kvs⟩
  · cases structOf t with
    | none => rfl
    | some fs =>
      simp only [Option.bind_some]
      rcases fieldGet fs (derefRec t fs d) s with _ | ⟨ft, fv⟩ <;> rfl
  · rfl

theorem child_put_same (t : FTy) (d : FVal) (s : Seg) (v : FVal) :
    child t (put t d s v) s = (child t d s).map fun c => (c.1, v) := by
  rcases hm : mapOf t d with _ | ⟨e, kvs⟩
  · cases hst : structOf t with
    | none => simp [child, hm, hst, mapOf_none hm]
    | some fs => simp [child, put, hm, hst, mapOf_none hm, derefRec_rewrap hst, fieldGet_set_same]
  · simp [child, put, hm, mapOf_remap hm, FKVs.lookup_ins_same]

theorem child_put_other (t : FTy) (d : FVal) {s s' : Seg} (v : FVal) (h : s' ≠ s) :
    child t (put t d s v) s' = child t d s' := by
  rcases hm : mapOf t d with _ | ⟨e, kvs⟩
  · cases hst : structOf t with
    | none => simp [child, hm, hst, mapOf_none hm]
    | some fs => simp [child, put, hm, hst, mapOf_none hm, derefRec_rewrap hst, fieldGet_set_other _ _ _ h]
  · simp [child, put, hm, mapOf_remap hm, FKVs.lookup_ins_other _ _ h]

theorem put_put (t : FTy) (d : FVal) (s : Seg) (v : FVal) : put t (put t d s v) s = put t d s := by
  funext w
  rcases hm : mapOf t d with _ | ⟨e, kvs⟩
  · cases hst : structOf t with
    | none => simp [put, hm, hst]
    | some fs => simp [put, hm, hst, mapOf_none hm, derefRec_rewrap hst, fieldSet_set]
  · simp [put, hm, mapOf_remap hm, FKVs.ins_ins_same]

theorem put_comm (t : FTy) (d : FVal) {s s' : Seg} (v w : FVal) (h : s ≠ s') :
    put t (put t d s v) s' w = put t (put t d s' w) s v := by
  rcases hm : mapOf t d with _ | ⟨e, kvs⟩
  · cases hst : structOf t with
    | none => simp [put, hm, hst]
    | some fs => simp [put, hm, hst, mapOf_none hm, derefRec_rewrap hst, fieldSet_comm _ _ v w h]
  · simp [put, hm, mapOf_remap hm, FKVs.ins_comm kvs v w h]

/-- static type one segment down: the step `slotTy` (`slotTy_cons_child`), the static path check (`extractTy_cons`,
    Proofs/C15Run) and a successful `takeStep` (`takeStep_childTy`, there) have in common, and the type that `child`
    returns (`child_ty`).  `none` at every interface, `any` included (`childTy_iface`): `child` and `slotTy` go on
    below `any` with `any`, which their two lemmas state as a case of its own. -/
def childTy (t : FTy) (s : Seg) : Option FTy :=
  match t with
  | .map e => some e
  | _ => (structOf t).bind (fieldTy · s)

theorem childTy_struct {t : FTy} {fs : FFields} (hst : structOf t = some fs) (s : Seg) :
    childTy t s = fieldTy fs s := by
  cases t with
  | map e => cases hst
  | _ => simp only [childTy, hst, Option.bind_some]

theorem childTy_some {t : FTy} {s : Seg} {t' : FTy} (h : childTy t s = some t') :
    t = .map t' ∨ ∃ fs, structOf t = some fs ∧ fieldTy fs s = some t' := by
  cases t with
  | map e => cases h; exact Or.inl rfl
  | _ => exact Or.inr (Option.bind_eq_some_iff.mp h)

theorem childTy_iface {t : FTy} (h : isIface t = true) (s : Seg) : childTy t s = none := by
  cases t <;> first | rfl | cases h

theorem child_ty (t : FTy) (d : FVal) (s : Seg) :
    (child t d s).map (·.1) = if t = .any then some .any else childTy t s := by
  by_cases ha : t = .any
  · subst ha; rfl
  rw [if_neg ha]
  rcases t.map_or_not with ⟨e, rfl⟩ | hm
  · rfl
  -- neither `any` nor a map: a field of `structOf t`
  rw [child, mapOf, childTy] <;> try assumption
  cases structOf t with
  | none => rfl
  | some fs => exact fieldGet_ty fs _ s

theorem slotTy_any : ∀ (r : Path), slotTy .any r = some .any
  | [] => rfl
  | _ :: r => by simp [slotTy, slotTy_any r]

theorem slotTy_cons_child (t : FTy) (s : Seg) (r : Path) :
    slotTy t (s :: r) = (if t = .any then some .any else childTy t s).bind (slotTy · r) := by
  by_cases ha : t = .any
  · subst ha; rfl
  rw [if_neg ha]
  rcases t.map_or_not with ⟨e, rfl⟩ | hm
  · rfl
  rw [slotTy, childTy] <;> try assumption
  cases structOf t with
  | none => rfl
  | some fs => simp only [Option.bind_some]; cases fieldTy fs s <;> rfl

theorem slotTy_cons (t : FTy) (s : Seg) (r : Path) (d : FVal) :
    slotTy t (s :: r) = (child t d s).bind fun c => slotTy c.1 r := by
  rw [slotTy_cons_child, ← child_ty t d s]
  cases child t d s <;> rfl

theorem assign_cons_some {t : FTy} {d d' : FVal} {s : Seg} {r : Path} {a : Taken} (h : assign t d (s :: r) a = some d') :
    ∃ e cur v, child t d s = some (e, cur) ∧ assign e cur r a = some v ∧ put t d s v = d' := by
  simp only [assign_cons, Option.map_eq_some_iff, Option.bind_eq_some_iff] at h
  obtain ⟨v, ⟨⟨e, cur⟩, hc, hv⟩, rfl⟩ := h
  exact ⟨e, cur, v, hc, hv, rfl⟩

theorem assign_comm : ∀ (p q : Path) (t : FTy) (d : FVal) (a b : Taken), ¬ prefixRel p q →
    (assign t d p a).bind (fun d' => assign t d' q b) = (assign t d q b).bind (fun d' => assign t d' p a) := by
  intro p
  induction p with
  | nil => intro q t d a b h; exact absurd (prefixRel_nil_left q) h
  | cons s r ih =>
    intro q t d a b h
    cases q with
    | nil => exact absurd prefixRel_cons_nil h
    | cons s' r' =>
      by_cases hs : s = s'
      · -- below the same child: both assignments there, then one `put`
        subst hs
        have key : ∀ (r₁ r₂ : Path) (a₁ a₂ : Taken),
            (assign t d (s :: r₁) a₁).bind (fun d' => assign t d' (s :: r₂) a₂) =
            ((child t d s).bind fun c => (assign c.1 c.2 r₁ a₁).bind fun v => assign c.1 v r₂ a₂).map (put t d s) := by
          intro r₁ r₂ a₁ a₂
          rw [assign_cons]
          cases hc : child t d s with
          | none => rfl
          | some c =>
            simp only [Option.bind_some]
            cases assign c.1 c.2 r₁ a₁ with
            | none => rfl
            | some v => simp only [Option.map_some, Option.bind_some, assign_cons, child_put_same, hc, put_put]
        rw [key, key]
        congr 2; funext c
        exact ih r' c.1 c.2 a b (fun hh => h (prefixRel_cons_iff.mpr ⟨rfl, hh⟩))
      · -- below different children: the two `put`s commute
        have step : ∀ {s s' : Seg}, s' ≠ s → ∀ (r r' : Path) (a b : Taken),
            (assign t d (s :: r) a).bind (fun d' => assign t d' (s' :: r') b) =
            ((child t d s).bind fun c => assign c.1 c.2 r a).bind fun v =>
              ((child t d s').bind fun c => assign c.1 c.2 r' b).map (put t (put t d s v) s') := by
          intro s s' hne r r' a b
          rw [assign_cons]
          cases (child t d s).bind fun c => assign c.1 c.2 r a with
          | none => rfl
          | some v => simp only [Option.map_some, Option.bind_some, assign_cons, child_put_other t d v hne]
        rw [step (Ne.symm hs), step hs]
        cases (child t d s).bind fun c => assign c.1 c.2 r a <;>
          cases (child t d s').bind fun c => assign c.1 c.2 r' b <;> simp [put_comm t d _ _ hs]

theorem assign_getT_same : ∀ (p : Path) (t : FTy) (d d' : FVal) (a : Taken), assign t d p a = some d' →
    ∃ st w, slotTy t p = some st ∧ store st a = some w ∧ getT t d' p = some (st, w) := by
  intro p
  induction p with
  | nil =>
    intro t d d' a h
    simp only [assign] at h
    exact ⟨t, d', by simp [slotTy], h, by simp [getT]⟩
  | cons s r ih =>
    intro t d d' a h
    obtain ⟨e, cur, v, hc, hv, rfl⟩ := assign_cons_some h
    obtain ⟨st, w, h2, h3, h4⟩ := ih e cur v a hv
    refine ⟨st, w, ?_, h3, ?_⟩
    · rw [slotTy_cons t s r d, hc]; exact h2
    · rw [getT_cons, child_put_same, hc]; exact h4

theorem assign_getT_other : ∀ (p q : Path) (t : FTy) (d d' : FVal) (a : Taken), ¬ prefixRel p q →
    assign t d p a = some d' → getT t d' q = getT t d q := by
  intro p
  induction p with
  | nil => intro q t d d' a h; exact absurd (prefixRel_nil_left q) h
  | cons s r ih =>
    intro q t d d' a hrel h
    cases q with
    | nil => exact absurd prefixRel_cons_nil hrel
    | cons s' r' =>
      obtain ⟨e, cur, v, hc, hv, rfl⟩ := assign_cons_some h
      rw [getT_cons, getT_cons t d]
      by_cases hs : s = s'
      · subst hs
        rw [child_put_same, hc]
        exact ih r' e cur v a (fun hh => hrel (prefixRel_cons_iff.mpr ⟨rfl, hh⟩)) hv
      · rw [child_put_other t d v (Ne.symm hs)]

theorem assign_isSome : ∀ (p : Path) (t : FTy) (d : FVal) (a : Taken),
    (assign t d p a).isSome = (match slotTy t p with | some st => (store st a).isSome | none => false) := by
  intro p
  induction p with
  | nil => intro t d a; simp [assign, slotTy]
  | cons s r ih =>
    intro t d a
    rw [assign_cons, slotTy_cons t s r d, Option.isSome_map]
    cases child t d s with
    | none => rfl
    | some c => exact ih c.1 c.2 a

theorem assign_isSome_indep (p : Path) (t : FTy) (d d₂ : FVal) (a : Taken) :
    (assign t d p a).isSome = (assign t d₂ p a).isSome := by
  rw [assign_isSome, assign_isSome]

theorem convertFrom_perm (t : FTy) {l l' : List (Path × Taken)} (hp : l.Perm l') :
    l.Pairwise (fun x y => ¬ prefixRel x.1 y.1) → ∀ d, convertFrom t d l = convertFrom t d l' := by
  induction hp with
  | nil => intro _ _; rfl
  | cons x _ ih =>
    intro hpw d
    obtain ⟨p, a⟩ := x
    simp only [convertFrom]
    cases assign t d p a with
    | none => rfl
    | some d' => exact ih (List.pairwise_cons.mp hpw).2 d'
  | swap x y l =>
    intro hpw d
    obtain ⟨p, a⟩ := x
    obtain ⟨q, b⟩ := y
    have hne : ¬ prefixRel q p := (List.pairwise_cons.mp hpw).1 (p, a) (by simp)
    simp only [convertFrom]
    rw [← Option.bind_assoc, ← Option.bind_assoc, assign_comm q p t d b a hne]
  | trans h1 _ ih1 ih2 =>
    intro hpw d
    have hpw2 := (h1.pairwise_iff (fun {x y} (h : ¬ prefixRel x.1 y.1) => fun hh => h (prefixRel_symm hh))).mp hpw
    rw [ih1 hpw d, ih2 hpw2 d]

theorem convertFrom_cons_some {t : FTy} {d v : FVal} {p : Path} {a : Taken} {rest : List (Path × Taken)}
    (h : convertFrom t d ((p, a) :: rest) = some v) :
    ∃ d1, assign t d p a = some d1 ∧ convertFrom t d1 rest = some v :=
  Option.bind_eq_some_iff.mp h

theorem convertFrom_spec (t : FTy) : ∀ (l : List (Path × Taken)) (d v : FVal),
    l.Pairwise (fun x y => ¬ prefixRel x.1 y.1) → convertFrom t d l = some v →
    (∀ x ∈ l, ∃ st w, slotTy t x.1 = some st ∧ store st x.2 = some w ∧ getT t v x.1 = some (st, w)) ∧
    (∀ q, (∀ x ∈ l, ¬ prefixRel x.1 q) → getT t v q = getT t d q) := by
  intro l
  induction l with
  | nil =>
    intro d v _ h
    simp only [convertFrom, Option.some.injEq] at h
    subst h
    exact ⟨fun x hx => by simp at hx, fun _ _ => rfl⟩
  | cons x rest ih =>
    intro d v hpw h
    obtain ⟨p, a⟩ := x
    obtain ⟨hx, hrest⟩ := List.pairwise_cons.mp hpw
    obtain ⟨d1, h1, h⟩ := convertFrom_cons_some h
    obtain ⟨ihA, ihB⟩ := ih d1 v hrest h
    refine ⟨fun y hy => ?_, fun q hq => ?_⟩
    · rcases List.mem_cons.mp hy with rfl | hy
      · obtain ⟨st, w, g1, g2, g3⟩ := assign_getT_same p t d d1 a h1
        refine ⟨st, w, g1, g2, ?_⟩
        have : getT t v p = getT t d1 p := ihB p (fun z hz hh => hx z hz (prefixRel_symm hh))
        rw [this, g3]
      · exact ihA y hy
    · have e1 : getT t v q = getT t d1 q := ihB q (fun z hz => hq z (List.mem_cons_of_mem _ hz))
      rw [e1]
      exact assign_getT_other p q t d d1 a (hq (p, a) (by simp)) h1

theorem convertFrom_isSome (t : FTy) : ∀ (l : List (Path × Taken)) (d : FVal),
    (∀ x ∈ l, ∀ d', (assign t d' x.1 x.2).isSome) → (convertFrom t d l).isSome := by
  intro l
  induction l with
  | nil => intro d _; rfl
  | cons x rest ih =>
    intro d h
    obtain ⟨p, a⟩ := x
    simp only [convertFrom]
    have h1 := h (p, a) (by simp) d
    cases h2 : assign t d p a with
    | none => simp [h2] at h1
    | some d1 => exact ih d1 (fun y hy => h y (List.mem_cons_of_mem _ hy))

theorem assign_getT_below {p q : Path} {t : FTy} {d d' : FVal} {a : Taken} (h : ¬ prefixRel q p)
    (ha : assign t d p a = some d') (r : Path) : getT t d' (q ++ r) = getT t d (q ++ r) :=
  assign_getT_other p (q ++ r) t d d' a (not_prefixRel_append h r) ha

/-- `convertTo` is the case `d = newInstance t` -/
theorem convertFrom_exact (t : FTy) (d : FVal) (l : List (Path × Taken)) (hno : noOverlap (l.map (·.1)))
    (hok : ∀ x ∈ l, (assign t d x.1 x.2).isSome) :
    ∃ v, (∀ l', l'.Perm l → convertFrom t d l' = some v) ∧
      (∀ x ∈ l, ∃ st w, slotTy t x.1 = some st ∧ store st x.2 = some w ∧ getT t v x.1 = some (st, w)) ∧
      (∀ q, (∀ x ∈ l, ¬ prefixRel x.1 q) → getT t v q = getT t d q) := by
  obtain ⟨v, hv⟩ := Option.isSome_iff_exists.mp
    (convertFrom_isSome t l d fun x hx d' => assign_isSome_indep x.1 t d' d x.2 ▸ hok x hx)
  refine ⟨v, fun l' hp => ?_, convertFrom_spec t l d v (noOverlap_fst.mp hno) hv⟩
  rw [← hv]
  exact convertFrom_perm t hp (noOverlap_fst.mp ((noOverlap_perm (hp.map _)).mpr hno)) d

theorem extractTyG_eq (rt : Bool) : ∀ (p : Path) (t : FTy), extractTyG rt true true t p = extractTy rt t p := by
  intro p
  induction p with
  | nil => intro t; rfl
  | cons s r ih =>
    intro t
    rcases t.map_or_not with ⟨e, rfl⟩ | hm
    · exact ih e
    -- not a map: both look for the fields of `structOf t`, or else apply the same rule for a trailing segment
    rw [extractTyG, extractTy] <;> try exact hm
    rw [if_pos rfl]
    cases structOf t with
    | none => rfl
    | some fs =>
      simp only []
      cases fieldTy fs s with
      | none => rfl
      | some ft => exact ih ft

end EinoV.C15
