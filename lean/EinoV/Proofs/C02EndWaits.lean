/-
  C02, run level: END is never handed out as a task, and the run returns at the first moment END is
  enabled — at every step it executes, END is not enabled by the completions of the older steps
  (`run_end_never_waits`).
-/
import EinoV.Proofs.C02Complete

namespace EinoV.Engine
namespace DagRun

theorem calcNext_tasks_no_end {V} (ops : ValOps V) (r : Runner V) (cm cm' : Chans V) (done : List (Done V))
    (ts : List (Key × V)) (h : calcNext ops r cm done = .ok (cm', .tasks ts)) : ∀ t, t ∈ ts → t.1 ≠ END := by
  obtain ⟨_, ready, _, _, hnx⟩ := Engine.calcNext_ok h
  rcases hnx with ⟨_, _, e⟩ | ⟨hnone, e⟩
  · cases e
  · cases e; exact ne_of_alookup_none END _ hnone

theorem no_end_cons {V} {ops : ValOps V} {r : Runner V} {cm cm' : Chans V} {done : List (Done V)}
    {ts : List (Key × V)} (hc : calcNext ops r cm done = .ok (cm', .tasks ts)) {L : Trace V}
    (h : ∀ t, t ∈ L.flatten → t.1 ≠ END) : ∀ t, t ∈ (ts :: L).flatten → t.1 ≠ END := fun t ht =>
  (List.mem_append.mp (List.flatten_cons ▸ ht)).elim (calcNext_tasks_no_end ops r cm cm' done ts hc t) (h t)

theorem run_no_end_task {V} (ops : ValOps V) (r : Runner V) (sched : Sched V) (x : V) :
    ∀ t, t ∈ (runS ops r sched x).trace.flatten → t.1 ≠ END := by
  intro t ht
  rcases runS_stops ops r sched x (fun _ tasks tr => ∀ t, t ∈ (tasks :: tr).flatten → t.1 ≠ END)
    (fun cm ts hc => no_end_cons hc (L := []) (fun _ h => nomatch h)) (fun _ _ _ _ _ _ h _ hc => no_end_cons hc h)
    with ⟨e, _⟩ | ⟨_, tasks1, tr1, h1, ⟨e, _⟩ | ⟨e, _⟩⟩ <;> rw [e] at ht
  · cases ht
  all_goals
    obtain ⟨s, hs, hts⟩ := List.mem_flatten.mp ht
    refine h1 t (List.mem_flatten.mpr ⟨s, ?_, hts⟩)
  · exact List.mem_cons_of_mem _ (List.mem_reverse.mp hs)
  · exact List.mem_reverse.mp hs

theorem compTr_suffix {V} (r : Runner V) (x : V) (pre T : Trace V) (h : CompTr r x (pre ++ T)) : CompTr r x T := by
  induction pre with
  | nil => exact h
  | cons _ _ ih => exact ih h.2

theorem compTr_at {V} (r : Runner V) (x : V) (T : Trace V) (h : CompTr r x T) :
    ∀ pre step older, T = pre ++ step :: older →
      ∀ n, Enabled r (histOf r x older) n → n ∈ keysOfTr (step :: older) :=
  fun pre step older e => (compTr_suffix r x pre (step :: older) (e ▸ h)).1

theorem end_not_enabled_along {V} (r : Runner V) (x : V) (T : Trace V) (hc : CompTr r x T)
    (hne : ∀ t, t ∈ T.flatten → t.1 ≠ END) :
    ∀ pre step older, T = pre ++ step :: older → ¬ Enabled r (histOf r x older) END := by
  intro pre step older h hen
  obtain ⟨t, ht, he⟩ := List.mem_map.mp (compTr_at r x T hc pre step older h END hen)
  refine hne t ?_ he
  rw [h, List.flatten_append]
  exact List.mem_append_right _ ht

theorem run_end_never_waits {V} (ops : ValOps V) (r : Runner V) (wf : DagWF r) (wf2 : DagWF2 r)
    (sched : Sched V) (hf : sched.Fair) (x : V) (pre : Trace V) (step : List (Key × V)) (older : Trace V)
    (h : (runS ops r sched x).trace.reverse = pre ++ step :: older) :
    ¬ Enabled r (histOf r x older) END := by
  refine end_not_enabled_along r x _ (run_complete ops r wf wf2 sched hf x) ?_ pre step older h
  intro t ht
  refine run_no_end_task ops r sched x t ?_
  simp only [List.mem_flatten, List.mem_reverse] at ht ⊢
  exact ht

end DagRun
end EinoV.Engine
