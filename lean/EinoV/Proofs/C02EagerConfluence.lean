/-
  Schedule independence for the eager (Workflow) loop: the processed history of every state the
  loop passes through is grounded, so two eager runs under two completion orders — and an eager
  run and a batch run — that both return a value return the same value.
-/
import EinoV.Proofs.C02Confluence
import EinoV.Proofs.C02EagerExact

namespace EinoV.Engine
namespace DagRun

theorem histC_mono_comp {V} (r : Runner V) (x : V) (bs : List (List (Key × V))) (comp : List Key) (k : Key) :
    ∀ d, d ∈ histC r x bs comp → d ∈ histC r x bs (comp ++ [k]) :=
  histC_subset r x (fun _ h => h) (fun _ h => List.mem_append_left _ h)

structure EFInv {V} (ops : ValOps V) (r : Runner V) (x : V) (cm : Chans V) (running : List (Key × V))
    (bs : List (List (Key × V))) (comp : List Key) : Prop where
  xi : EXInv ops r x cm running bs comp
  facts : ∀ n v, (n, v) ∈ bs.flatten →
    ∃ H', (∀ d, d ∈ H' → d ∈ histC r x bs comp) ∧ StartFacts ops r H' n v
  nodes : ∀ t, t ∈ bs.flatten → (r.node? t.1).isSome = true

theorem eager_round {V} (ops : ValOps V) (r : Runner V) (wf : DagWF r) (wf2 : DagWF2 r) (wf3 : DagWF3 r) (pick : Pick V) (x : V)
    (cm cm' : Chans V) (running : List (Key × V)) (bs : List (List (Key × V))) (comp : List Key)
    (t : Key × V) (d : Done V) (nx : Next V)
    (h : EFInv ops r x cm running bs comp)
    (hp : running[pick running % running.length]? = some t)
    (hce : collectOne (execOne r t) = .ok d)
    (hc : calcNext ops r cm [d] = .ok (cm', nx)) :
    ∃ ready : List (Key × V),
      ((nx = .tasks ready ∧ alookup END ready = none) ∨ ∃ v, nx = .result v ∧ alookup END ready = some v) ∧
      ∀ n v, (n, v) ∈ ready → (keysOfTr bs).count n = 0 → StartFacts ops r (histC r x bs (comp ++ [t.1])) n v := by
  obtain ⟨rank, hrank, _⟩ := wf3.acyclicAll
  have hd := collect_exec_key r t d hce
  have htr : t ∈ running := List.mem_of_getElem? hp
  have hout : outOf r t = some d := outOf_eq_some_iff.mpr hce
  have htb : t ∈ bs.flatten := h.xi.c.k.run t htr
  have hdone : ∀ t', t' ∈ [d] → t' ∈ histC r x bs (comp ++ [t.1]) := by
    intro t' ht'
    rw [List.mem_singleton.mp ht']
    exact (mem_histC r x _ _ d).mpr (Or.inr ⟨t, htb, by simp, hout⟩)
  have hH := histC_step_mem r x bs bs comp t d (fun _ hu => hu) (einv_bound r wf cm running bs comp h.xi.c.e)
    htb hout (fun k hk => (h.xi.c.cok k hk).imp fun u hu => ⟨hu.1, hu.2.1⟩)
  exact round_start_facts (F := fun n => (keysOfTr bs).count n) ops r wf.dag wf.succ
    wf2.pc wf2.pd wf.startFresh wf.startKey wf3.hasCtrl rank hrank cm cm' [d] nx
    (histC r x bs (comp ++ [t.1])) (fun p o => (p, o) ∈ histC r x bs comp)
    (K_mono h.xi.kc (histC_mono_comp r x bs comp t.1)) h.xi.c.e.sh hdone
    (fun p o => hH (p, o)) (histC_functional r wf x h.xi.c.e _) h.xi.c.rq h.xi.rv
    (by
      intro t' ht'
      simp only [List.mem_singleton] at ht'
      subst ht'
      rw [hd]; exact h.xi.c.call t htr)
    hc

theorem histC_append_batch {V} (r : Runner V) (x : V) (bs : List (List (Key × V))) (comp : List Key) (ts : List (Key × V)) :
    ∀ d, d ∈ histC r x bs comp → d ∈ histC r x (bs ++ [ts]) comp :=
  histC_subset r x (fun u hu => by simp [hu]) (fun _ h => h)

theorem EFInv_init {V} (ops : ValOps V) (r : Runner V) (wf : DagWF r) (wf2 : DagWF2 r) (wf3 : DagWF3 r) (x : V)
    (cm : Chans V) (ts : List (Key × V))
    (hc : calcNext ops r (initChans r) [(START, x)] = .ok (cm, .tasks ts)) : EFInv ops r x cm ts [ts] [] := by
  have hxi := (EXInv_init ops r wf wf2 x cm ts hc).1
  obtain ⟨s1, _⟩ := FInv_start ops r wf wf2 wf3 x cm (.tasks ts) hc
  have hfi := s1 ts rfl
  have hH := histC_nil r x [ts]
  refine ⟨hxi, ?_, ?_⟩
  · intro n v hm
    refine ⟨histOf r x [], by rw [hH]; exact fun _ h => h, ?_⟩
    exact hfi.facts.1 n v (by simpa using hm)
  · intro t ht
    exact hfi.nodes t (by simpa using ht)

theorem EFInv_step {V} (ops : ValOps V) (r : Runner V) (wf : DagWF r) (wf2 : DagWF2 r) (wf3 : DagWF3 r) (pick : Pick V) (x : V)
    (cm cm' : Chans V) (running ts : List (Key × V)) (bs : List (List (Key × V))) (comp : List Key)
    (t : Key × V) (d : Done V)
    (h : EFInv ops r x cm running bs comp)
    (hp : running[pick running % running.length]? = some t)
    (hce : collectOne (execOne r t) = .ok d)
    (hc : calcNext ops r cm [d] = .ok (cm', .tasks ts)) :
    EFInv ops r x cm' (running.eraseIdx (pick running % running.length) ++ ts) (bs ++ [ts]) (comp ++ [t.1]) := by
  have hxi := (EXInv_step ops r wf wf2 pick x cm cm' running ts bs comp t d h.xi hp hce hc).1
  obtain ⟨ready, hnx, hfacts⟩ := eager_round ops r wf wf2 wf3 pick x cm cm' running bs comp t d _ h hp hce hc
  have hfacts := (next_cases hnx hfacts).1 ts rfl
  have hcnt := einv_bound r wf cm' _ (bs ++ [ts]) (comp ++ [t.1]) hxi.c.e
  have hF0 : ∀ u, u ∈ ts → (keysOfTr bs).count u.1 = 0 := fun _ => task_fresh_append hcnt
  refine ⟨hxi, ?_, ?_⟩
  · intro n v hm
    simp only [List.flatten_append, List.flatten_cons, List.flatten_nil, List.append_nil, List.mem_append] at hm
    rcases hm with hm | hm
    · obtain ⟨H', sub, f⟩ := h.facts n v hm
      exact ⟨H', fun e he => histC_subset r x (fun u hu => by simp [hu]) (fun _ hk => List.mem_append_left _ hk) e (sub e he), f⟩
    · refine ⟨histC r x bs (comp ++ [t.1]), fun e he => histC_append_batch r x bs _ ts e he, ?_⟩
      exact hfacts n v hm (hF0 (n, v) hm)
  · intro u hu
    simp only [List.flatten_append, List.flatten_cons, List.flatten_nil, List.append_nil, List.mem_append] at hu
    rcases hu with hu | hu
    · exact h.nodes u hu
    · refine node_of_hasPred r wf u.1 (hxi.c.call u (List.mem_append_right _ hu)) (hxi.c.e.pos u.1 ?_)
      rw [keysOfTr_append_single, List.count_append]
      have : 0 < (akeys ts).count u.1 := List.count_pos_iff.mpr (mem_akeys_of_mem u.1 u.2 _ hu)
      omega

theorem ereach_EFInv {V} (ops : ValOps V) (r : Runner V) (wf : DagWF r) (wf2 : DagWF2 r) (wf3 : DagWF3 r) (pick : Pick V) (x : V)
    (cm : Chans V) (running : List (Key × V)) (bs : List (List (Key × V))) (comp : List Key)
    (h : EReach ops r pick x cm running bs comp) : EFInv ops r x cm running bs comp := by
  induction h with
  | init cm ts hc => exact EFInv_init ops r wf wf2 wf3 x cm ts hc
  | step cm cm' running ts bs comp t d _ hp hce hn ih =>
    exact EFInv_step ops r wf wf2 wf3 pick x cm cm' running ts bs comp t d ih hp hce hn

theorem grounded_of_ereach {V} (ops : ValOps V) (r : Runner V) (wf : DagWF r) (wf2 : DagWF2 r) (wf3 : DagWF3 r) (pick : Pick V) (x : V)
    (cm : Chans V) (running : List (Key × V)) (bs : List (List (Key × V))) (comp comp' : List Key)
    (h : EReach ops r pick x cm running bs comp) (hsub : ∀ d, d ∈ histC r x bs comp → d ∈ histC r x bs comp')
    : Grounded ops r x (histC r x bs comp') := by
  have hi := ereach_EFInv ops r wf wf2 wf3 pick x cm running bs comp h
  refine grounded_of_tasks ops r x bs.flatten _ (einv_bound r wf cm running bs comp hi.xi.c.e)
    (einv_noStart r wf hi.xi.c.e) (fun d hd => ?_) (fun u hu => ?_) hi.nodes
  · exact ((mem_histC r x bs comp' d).mp hd).imp id (fun ⟨u, hu, _, ho⟩ => ⟨u, hu, ho⟩)
  · obtain ⟨H', sub, f⟩ := hi.facts u.1 u.2 hu
    exact ⟨H', fun e he => hsub e (sub e he), f⟩

theorem eagerLoop_result {V} (ops : ValOps V) (r : Runner V) (pick : Pick V) (x : V) :
    ∀ (fuel : Nat) (cm : Chans V) (running : List (Key × V)) (bs : List (List (Key × V))) (comp : List Key) (v : V),
      EReach ops r pick x cm running bs comp →
      (eagerLoop ops r pick fuel cm running bs comp).result = .ok v →
      ∃ cm1 cm2 running1 bs1 comp1 t d, EReach ops r pick x cm1 running1 bs1 comp1 ∧
        running1[pick running1 % running1.length]? = some t ∧ collectOne (execOne r t) = .ok d ∧
        calcNext ops r cm1 [d] = .ok (cm2, .result v) := by
  intro fuel cm running bs comp v h hv
  obtain ⟨cm1, running1, comp1, h1, hstop⟩ := eagerLoop_stops ops r pick (EReach ops r pick x)
    (fun cm cm' running ts bs comp t d => EReach.step cm cm' running ts bs comp t d) fuel cm running bs comp h
  rcases hstop with ⟨_, hne⟩ | ⟨t, hp, _, hres⟩
  · exact absurd hv (hne v)
  · obtain ⟨d, cm2, hce, hc⟩ := hres v hv
    exact ⟨cm1, cm2, running1, _, comp1, t, d, h1, hp, hce, hc⟩

theorem runEager_result_facts {V} (ops : ValOps V) (r : Runner V) (wf : DagWF r) (wf2 : DagWF2 r) (wf3 : DagWF3 r)
    (pick : Pick V) (x v : V) (hv : (runEager ops r pick x).result = .ok v) :
    ∃ H, Grounded ops r x H ∧ StartFacts ops r H END v := by
  revert hv
  refine runEager_elim ops r pick x (fun e _ hv => nomatch hv) (fun cm w hc hv => ?_) (fun cm ts hc hv => ?_)
  · cases hv
    exact ⟨histOf r x [],
      grounded_of_run ops r x [] trivial (fun _ => Nat.zero_le _) rfl (fun _ ht => nomatch ht),
      (FInv_start ops r wf wf2 wf3 x cm _ hc).2 _ rfl⟩
  · obtain ⟨cm1, cm2, running1, bs1, comp1, t, d, hreach, hp, hce, hc1⟩ :=
      eagerLoop_result ops r pick x r.eagerFuel cm ts [ts] [] v (EReach.init cm ts hc) hv
    have hi := ereach_EFInv ops r wf wf2 wf3 pick x cm1 running1 bs1 comp1 hreach
    obtain ⟨ready, hnx, hfacts⟩ := eager_round ops r wf wf2 wf3 pick x cm1 cm2 running1 bs1 comp1 t d _ hi hp hce hc1
    exact ⟨histC r x bs1 (comp1 ++ [t.1]),
      grounded_of_ereach ops r wf wf2 wf3 pick x cm1 running1 bs1 comp1 _ hreach (histC_mono_comp r x bs1 comp1 t.1),
      (next_cases hnx hfacts).2 v rfl (end_not_started r wf bs1 hi.nodes)⟩

/-- **the result of a Workflow run does not depend on the completion order.**  Two eager runs of one
    well-formed acyclic runner on one input, under two completion orders, with an order-insensitive
    merge: if both return a value, it is the same value. -/
theorem runEager_result_pick_independent {V} (ops : ValOps V) (hm : MergePerm ops) (r : Runner V)
    (wf : DagWF r) (wf2 : DagWF2 r) (wf3 : DagWF3 r) (pA pB : Pick V) (x vA vB : V)
    (hA : (runEager ops r pA x).result = .ok vA) (hB : (runEager ops r pB x).result = .ok vB) : vA = vB :=
  Returns.unique hm wf3 (runEager_result_facts ops r wf wf2 wf3 pA x vA hA) (runEager_result_facts ops r wf wf2 wf3 pB x vB hB)

theorem runEager_agrees_with_batch {V} (ops : ValOps V) (hm : MergePerm ops) (r : Runner V)
    (wf : DagWF r) (wf2 : DagWF2 r) (wf3 : DagWF3 r) (pick : Pick V) (sched : Sched V) (hf : sched.Fair) (x vE vB : V)
    (hE : (runEager ops r pick x).result = .ok vE) (hB : (runS ops r sched x).result = .ok vB) : vE = vB :=
  Returns.unique hm wf3 (runEager_result_facts ops r wf wf2 wf3 pick x vE hE) (runS_returns ops r wf wf2 wf3 sched hf x vB hB)

end DagRun
end EinoV.Engine
