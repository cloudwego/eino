/-
  validateDAG (Kahn's loop with Go's random map order): its verdict is `true` exactly when
  every node can be scheduled – an order-free, inductive characterisation of acyclicity.
-/
import EinoV.Proofs.C20Sim

namespace EinoV.Build

theorem mSet_keys (m : List (Key × Int)) (k : Key) (v : Int) : (mSet m k v).map (·.1) = m.map (·.1) := by
  induction m with
  | nil => rfl
  | cons p m ih =>
    obtain ⟨x, w⟩ := p
    simp only [mSet]
    split
    · rename_i h; simp [h]
    · simp [ih]

theorem mGet_mSet_ne (m : List (Key × Int)) (k k' : Key) (v : Int) (h : k' ≠ k) :
    mGet (mSet m k v) k' = mGet m k' := by
  induction m with
  | nil => rfl
  | cons p m ih =>
    obtain ⟨x, w⟩ := p
    simp only [mSet]
    by_cases hx : x = k
    · subst hx
      have : ¬ x = k' := fun e => h e.symm
      simp [mGet, this]
    · simp only [hx, ↓reduceIte, mGet]
      split
      · rfl
      · exact ih

theorem mGet_mSet_self (m : List (Key × Int)) (k : Key) (v : Int) :
    mGet (mSet m k v) k = (mGet m k).map (fun _ => v) := by
  induction m with
  | nil => rfl
  | cons p m ih =>
    obtain ⟨x, w⟩ := p
    simp only [mSet]
    by_cases hx : x = k
    · simp [hx, mGet]
    · simp [hx, mGet, ih]

theorem mDecAll_keys (m : List (Key × Int)) (xs : List Key) : (mDecAll m xs).map (·.1) = m.map (·.1) := by
  induction xs generalizing m with
  | nil => rfl
  | cons x xs ih =>
    simp only [mDecAll]
    split
    · exact ih m
    · split
      · rw [ih, mSet_keys]
      · exact ih m

theorem mGet_mDecAll (m : List (Key × Int)) (xs : List Key) (n : Key) :
    mGet (mDecAll m xs) n = (mGet m n).map (fun (v : Int) => v - (((xs.filter (· ≠ END)).count n : Nat) : Int)) := by
  induction xs generalizing m with
  | nil => rcases h : mGet m n with _ | v <;> simp [mDecAll, h]
  | cons x xs ih =>
    simp only [mDecAll]
    by_cases hx : x = END
    · simp [hx, ih]
    · have hf : (x :: xs).filter (· ≠ END) = x :: xs.filter (· ≠ END) := by simp [hx]
      simp only [hx, ↓reduceIte, hf, List.count_cons]
      rcases hg : mGet m x with _ | v <;> simp only [ih]
      · by_cases hn : x = n
        · simp [← hn, hg]
        · simp [hn]
      · by_cases hn : x = n
        · subst hn; rw [mGet_mSet_self, hg]; simp; omega
        · rw [mGet_mSet_ne _ _ _ _ (Ne.symm hn)]; simp [hn]


theorem count_edges_dual (ce : List (Key × Key)) (k n : Key) :
    ((ce.filter (·.1 = k)).map (·.2)).count n = ((ce.filter (·.2 = n)).map (·.1)).count k := by
  induction ce with
  | nil => rfl
  | cons p ce ih =>
    obtain ⟨a, c⟩ := p
    by_cases h1 : a = k <;> by_cases h2 : c = n <;> simp [h1, h2, ih]

theorem count_const_map (l : List Key) (k x : Key) :
    (l.map (fun _ => x)).count k = if x = k then l.length else 0 := by
  rw [List.map_const', List.count_replicate]; simp

theorem count_eq_length_filter (l : List Key) (n : Key) : l.count n = (l.filter (· = n)).length := by
  rw [List.count_eq_length_filter]; rfl

theorem count_branches_dual (brs : List BranchRec) (k n : Key) :
    ((brs.filter (·.src = k)).flatMap (·.ends)).count n =
    (brs.flatMap (fun br => (br.ends.filter (· = n)).map (fun _ => br.src))).count k := by
  induction brs with
  | nil => rfl
  | cons br brs ih =>
    simp only [List.flatMap_cons, List.count_append, count_const_map]
    by_cases h : br.src = k
    · simp [h, List.count_append, ih, count_eq_length_filter]
    · simp [h, ih]

theorem succ_pred_dual (b : Builder) (k n : Key) (hn : n ≠ END) :
    ((b.ctrlSucc k).filter (· ≠ END)).count n = (b.ctrlPred n).count k := by
  rw [List.count_filter (by simpa using hn)]
  unfold Builder.ctrlSucc Builder.ctrlPred
  rw [List.count_append, List.count_append, count_edges_dual, count_branches_dual]


/-- the node has been taken out (its counter was set to -1, and may have gone further down) -/
def isDone (m : List (Key × Int)) (p : Key) : Bool :=
  match mGet m p with
  | some v => decide (v < 0)
  | none => false

def livePred (m : List (Key × Int)) (p : Key) : Bool := p != START && !isDone m p

def cnt (b : Builder) (m : List (Key × Int)) (n : Key) : Nat := ((b.ctrlPred n).filter (livePred m)).length

/-- a node can be scheduled: it is a node, and each of its control predecessors – other than
    START – can.  (Inductive: no infinite descending chain of predecessors, i.e. no cycle
    reaches the node; a predecessor that is not a node blocks it forever.) -/
inductive Sched (b : Builder) : Key → Prop
  | intro {k : Key} : b.hasNode k = true → (∀ p ∈ b.ctrlPred k, p ≠ START → Sched b p) → Sched b k

structure KI (b : Builder) (m : List (Key × Int)) : Prop where
  keys : m.map (·.1) = b.nodes.map (·.key)
  cnt : ∀ n v, mGet m n = some v → 0 ≤ v → v = (cnt b m n : Int)
  sched : ∀ k, isDone m k = true → Sched b k

theorem mGet_eq_find? (m : List (Key × Int)) (k : Key) : mGet m k = (m.find? (·.1 = k)).map (·.2) := by
  induction m with
  | nil => rfl
  | cons p m ih => simp only [mGet, List.find?_cons, ih]; split <;> simp [*]

theorem mGet_mem {m : List (Key × Int)} {k : Key} {v : Int} (h : mGet m k = some v) : (k, v) ∈ m := by
  rw [mGet_eq_find?, Option.map_eq_some_iff] at h
  obtain ⟨p, hp, rfl⟩ := h
  have hk : p.1 = k := by simpa using List.find?_some hp
  exact hk ▸ List.mem_of_find?_eq_some hp

theorem mGet_some_mem {m : List (Key × Int)} {k : Key} {v : Int} (h : mGet m k = some v) : k ∈ m.map (·.1) :=
  List.mem_map_of_mem (f := (·.1)) (mGet_mem h)

theorem isDone_of_get {m : List (Key × Int)} {p : Key} {v : Int} (h : mGet m p = some v) :
    isDone m p = decide (v < 0) := by
  rw [isDone, h]

theorem cnt_eq_zero_iff {b : Builder} {m : List (Key × Int)} {n : Key} :
    cnt b m n = 0 ↔ ∀ p ∈ b.ctrlPred n, p ≠ START → isDone m p = true := by
  simp [cnt, livePred, List.filter_eq_nil_iff]

theorem hasNode_iff (b : Builder) (k : Key) : b.hasNode k = true ↔ k ∈ b.nodes.map (·.key) := by
  simp [Builder.hasNode, findNode_eq_find?, List.find?_isSome]

theorem Sched.transfer {b b' : Builder} (hn : ∀ k ∈ b.nodes.map (·.key), k ∈ b'.nodes.map (·.key))
    (hp : ∀ k, b'.ctrlPred k = b.ctrlPred k) {k : Key} (h : Sched b k) : Sched b' k := by
  induction h with
  | @intro k hnode _ ih =>
    exact Sched.intro ((hasNode_iff _ _).mpr (hn k ((hasNode_iff _ _).mp hnode)))
      (fun p hpm hs => ih p (by rw [← hp k]; exact hpm) hs)

theorem filter_and_ne_length (l : List Key) (q q' : Key → Bool) (k : Key) (hq : q k = true)
    (hq' : ∀ p, q' p = (q p && p != k)) :
    (l.filter q').length + l.count k = (l.filter q).length := by
  induction l with
  | nil => rfl
  | cons y ys ih =>
    rw [List.filter_cons, List.filter_cons, List.count_cons, hq' y]
    by_cases hy : y = k
    · subst hy; simp [hq]; omega
    · cases hqy : q y <;> simp [hy] <;> omega

theorem KI.node {b : Builder} {m : List (Key × Int)} (hi : KI b m) (hk : KeysOK b) {p : Key} {v : Int}
    (hg : mGet m p = some v) : p ∈ b.nodes.map (·.key) ∧ p ≠ START ∧ p ≠ END := by
  have hmem := hi.keys ▸ mGet_some_mem hg
  obtain ⟨np, hnp, e⟩ := List.mem_map.mp hmem
  exact ⟨hmem, e ▸ hk.nores np hnp⟩

theorem proc_step (b : Builder) (hk : KeysOK b) (m : List (Key × Int)) (k : Key) (hi : KI b m)
    (h0 : mGet m k = some 0) :
    KI b (mSet (mDecAll m (b.ctrlSucc k)) k (-1)) ∧
      ∀ p, isDone (mSet (mDecAll m (b.ctrlSucc k)) k (-1)) p = (isDone m p || p == k) := by
  obtain ⟨hkmem, hkS, -⟩ := hi.node hk h0
  have hklive : livePred m k = true := by simp [livePred, isDone_of_get h0, hkS]
  generalize hm' : mSet (mDecAll m (b.ctrlSucc k)) k (-1) = m'
  have hget : ∀ p, p ≠ k → mGet m' p =
      (mGet m p).map (fun (v : Int) => v - (((b.ctrlPred p).count k : Nat) : Int)) := by
    intro p hp
    rw [← hm', mGet_mSet_ne _ _ _ _ hp, mGet_mDecAll]
    rcases hg : mGet m p with _ | v
    · rfl
    · rw [succ_pred_dual b k p (hi.node hk hg).2.2]
  have hgetk : mGet m' k = some (-1) := by
    rw [← hm', mGet_mSet_self, mGet_mDecAll, h0]; rfl
  have hle : ∀ p, (b.ctrlPred p).count k ≤ cnt b m p := fun p =>
    List.count_filter hklive ▸ List.count_le_length (l := (b.ctrlPred p).filter (livePred m))
  have hdone : ∀ p, isDone m' p = (isDone m p || p == k) := by
    intro p
    by_cases hp : p = k
    · subst hp; simp [isDone_of_get hgetk]
    · rw [beq_false_of_ne hp, Bool.or_false, isDone, isDone, hget p hp]
      rcases hg : mGet m p with _ | v
      · rfl
      · have := hi.cnt p v hg
        have := hle p
        simp only [Option.map_some, decide_eq_decide]
        omega
  have hcnt : ∀ n, cnt b m' n + (b.ctrlPred n).count k = cnt b m n := fun n =>
    filter_and_ne_length _ _ _ k hklive (fun p => by
      simp only [livePred, hdone p, Bool.not_or, Bool.and_assoc, bne])
  refine ⟨⟨?_, ?_, ?_⟩, hdone⟩
  · rw [← hm', mSet_keys, mDecAll_keys]; exact hi.keys
  · intro n v' hg' hv'
    by_cases hn : n = k
    · subst hn; rw [hgetk] at hg'; cases hg'; omega
    · rw [hget n hn] at hg'
      obtain ⟨v, hg, rfl⟩ := Option.map_eq_some_iff.mp hg'
      have := hi.cnt n v hg
      have := hcnt n
      omega
  · intro p hp
    rw [hdone p] at hp
    by_cases hpk : p = k
    · subst hpk
      refine Sched.intro ((hasNode_iff b p).mpr hkmem) (fun q hq hqS => hi.sched q ?_)
      -- the counter of p is 0: none of its predecessors is live
      exact cnt_eq_zero_iff.mp (by have := hi.cnt p 0 h0; omega) q hq hqS
    · exact hi.sched p (by simpa [hpk] using hp)


def liveN (b : Builder) (m : List (Key × Int)) : Nat :=
  ((b.nodes.map (·.key)).filter (fun k => !isDone m k)).length

theorem liveN_le (b : Builder) (m : List (Key × Int)) : liveN b m ≤ b.nodes.length := by
  have := List.length_filter_le (fun k => !isDone m k) (b.nodes.map (·.key))
  rwa [List.length_map] at this

theorem filter_shrinks (l : List Key) (d d' : Key → Bool) (k : Key) (hk : k ∈ l) (hd : d k = false)
    (hd' : ∀ p, d' p = (d p || p == k)) :
    (l.filter (fun p => !d' p)).length < (l.filter (fun p => !d p)).length := by
  have h1 := filter_and_ne_length l (fun p => !d p) (fun p => !d' p) k (by simp [hd])
    (fun p => by rw [hd' p, Bool.not_or]; rfl)
  have h2 := List.count_pos_iff.mpr hk
  omega

theorem kahnRound_spec (b : Builder) (hk : KeysOK b) :
    ∀ (ks : List Key) (m : List (Key × Int)) (ch : Bool) m' ch', KI b m → kahnRound b ks m ch = (m', ch') →
      KI b m' ∧ (ch = true → ch' = true) ∧ liveN b m' ≤ liveN b m ∧
      (ch = false → ch' = true → liveN b m' < liveN b m) ∧
      (ch' = false → m' = m ∧ ∀ k ∈ ks, mGet m k ≠ some 0) := by
  intro ks
  induction ks with
  | nil =>
    intro m ch m' ch' hi h
    cases h
    exact ⟨hi, fun h => h, Nat.le_refl _, fun h1 h2 => by rw [h1] at h2; simp at h2, fun _ => ⟨rfl, by simp⟩⟩
  | cons k ks ih =>
    intro m ch m' ch' hi h
    simp only [kahnRound] at h
    by_cases h0 : mGet m k = some 0
    · simp only [h0, ↓reduceIte] at h
      obtain ⟨hi1, hdone⟩ := proc_step b hk m k hi h0
      have hlt : liveN b (mSet (mDecAll m (b.ctrlSucc k)) k (-1)) < liveN b m :=
        filter_shrinks _ (isDone m) _ k (hi.node hk h0).1 (by simp [isDone_of_get h0]) hdone
      obtain ⟨a1, a2, a3, _, a5⟩ := ih _ true m' ch' hi1 h
      have hct : ch' = true := a2 rfl
      refine ⟨a1, fun _ => hct, by omega, fun _ _ => by omega, fun hf => by rw [hct] at hf; simp at hf⟩
    · simp only [h0, ↓reduceIte] at h
      obtain ⟨a1, a2, a3, a4, a5⟩ := ih m ch m' ch' hi h
      exact ⟨a1, a2, a3, a4, fun hf => ⟨(a5 hf).1, List.forall_mem_cons.mpr ⟨h0, (a5 hf).2⟩⟩⟩

theorem kahnLoop_spec (b : Builder) (hk : KeysOK b) (ord : Ord)
    (hv : ∀ m l, (ord.kahn m l).Perm l) :
    ∀ (fuel : Nat) (m : List (Key × Int)), KI b m → liveN b m < fuel →
      KI b (kahnLoop b ord fuel m) ∧ ∀ k ∈ b.nodes.map (·.key), mGet (kahnLoop b ord fuel m) k ≠ some 0 := by
  intro fuel
  induction fuel with
  | zero => intro m _ h; omega
  | succ n ih =>
    intro m hi hlt
    simp only [kahnLoop]
    rcases hr : kahnRound b (ord.kahn m (m.map (·.1))) m false with ⟨m1, ch⟩
    obtain ⟨a1, _, a3, a4, a5⟩ := kahnRound_spec b hk _ m false m1 ch hi hr
    rw [hr]
    cases ch with
    | false =>
      obtain ⟨rfl, e2⟩ := a5 rfl
      exact ⟨hi, fun k hkm => e2 k ((hv _ _).mem_iff.mpr (by rw [hi.keys]; exact hkm))⟩
    | true => exact ih m1 a1 (by have := a4 rfl rfl; omega)


theorem mGet_map_nodes (ns : List Node) (g : Key → Int) (n : Key) :
    mGet (ns.map (fun x => (x.key, g x.key))) n = if (findNode ns n).isSome then some (g n) else none := by
  induction ns with
  | nil => rfl
  | cons x xs ih =>
    simp only [List.map_cons, mGet, findNode]
    by_cases hx : x.key = n
    · simp [hx]
    · simp only [hx, ↓reduceIte]; exact ih

theorem countP_eq (p : Key → Bool) (l : List Key) : countP p l = l.countP p := by
  induction l with
  | nil => rfl
  | cons y ys ih => rw [countP, ih, List.countP_cons, Nat.add_comm]

theorem length_sub_countP (l : List Key) :
    ((l.length : Int) - ((countP (· = START) l : Nat) : Int)) = ((l.filter (fun p => p != START)).length : Int) := by
  have := List.length_eq_countP_add_countP (· = START) (l := l)
  have e : (fun p => p != START) = (fun (a : Key) => decide ¬ (decide (a = START)) = true) := by
    funext p; by_cases h : p = START <;> simp [h]
  rw [countP_eq, ← List.countP_eq_length_filter, e]; omega

theorem mGet_kahnInit (b : Builder) (n : Key) :
    mGet (kahnInit b) n =
      if (findNode b.nodes n).isSome then some (((b.ctrlPred n).filter (· != START)).length : Int) else none := by
  rw [← length_sub_countP]
  exact mGet_map_nodes b.nodes
    (fun k => ((b.ctrlPred k).length : Int) - ((countP (· = START) (b.ctrlPred k) : Nat) : Int)) n

theorem KI_init (b : Builder) : KI b (kahnInit b) := by
  have hnd : ∀ p, isDone (kahnInit b) p = false := by
    intro p; rw [isDone, mGet_kahnInit]; cases (findNode b.nodes p).isSome <;> simp
  refine ⟨by simp [kahnInit, List.map_map, Function.comp_def], fun n v hg _ => ?_,
    fun k hk => by rw [hnd k] at hk; cases hk⟩
  rw [mGet_kahnInit] at hg
  split at hg
  · cases hg
    unfold cnt
    congr 2
    exact List.filter_congr (fun p _ => by simp [livePred, hnd p])
  · cases hg

theorem mGet_of_mem_nodup {m : List (Key × Int)} (hn : (m.map (·.1)).Nodup) {k : Key} {v : Int} (h : (k, v) ∈ m) :
    mGet m k = some v := by
  rw [mGet_eq_find?, find?_key_of_mem_nodup (key := (·.1)) hn h]; rfl

theorem mGet_of_key_mem {m : List (Key × Int)} {k : Key} (h : k ∈ m.map (·.1)) : ∃ v, mGet m k = some v := by
  obtain ⟨p, hp, rfl⟩ := List.mem_map.mp h
  have : (m.find? (·.1 = p.1)).isSome = true := List.find?_isSome.mpr ⟨p, hp, by simp⟩
  obtain ⟨q, hq⟩ := Option.isSome_iff_exists.mp this
  exact ⟨q.2, by rw [mGet_eq_find?, hq]; rfl⟩

/-- Whatever order Go's map iteration takes in `validateDAG`, its verdict is "valid" exactly when every
    node of the graph can be scheduled, i.e. exactly when no cycle of control edges / branch targets
    reaches any node. -/
theorem validateDAG_iff (b : Builder) (hk : KeysOK b) (ord : Ord) (hv : ∀ m l, (ord.kahn m l).Perm l) :
    validateDAG b ord = true ↔ ∀ k ∈ b.nodes.map (·.key), Sched b k := by
  obtain ⟨hi, hfix⟩ := kahnLoop_spec b hk ord hv (b.nodes.length + 1) (kahnInit b) (KI_init b)
    (Nat.lt_succ_of_le (liveN_le b _))
  unfold validateDAG
  generalize kahnLoop b ord (b.nodes.length + 1) (kahnInit b) = mf at hi hfix ⊢
  -- no counter is 0 any more, so the nodes taken out are those whose counter is not positive
  have hdone : ∀ {k v}, mGet mf k = some v → (isDone mf k = true ↔ v ≤ 0) := fun {k v} hg => by
    have hne : v ≠ 0 := fun e => hfix k (hi.node hk hg).1 (e ▸ hg)
    rw [isDone_of_get hg, decide_eq_true_eq]; omega
  have hget : ∀ k ∈ b.nodes.map (·.key), ∃ v, mGet mf k = some v := fun k hkm =>
    mGet_of_key_mem (hi.keys ▸ hkm)
  have hB : ∀ k, Sched b k → isDone mf k = true := by
    intro k hs
    induction hs with
    | @intro k hnode _ ih =>
      obtain ⟨v, hg⟩ := hget k ((hasNode_iff b k).mp hnode)
      -- all predecessors are done, so a counter that is not negative would be 0
      have hz : cnt b mf k = 0 := cnt_eq_zero_iff.mpr ih
      have hc := hi.cnt k v hg
      exact (hdone hg).mpr (by omega)
  constructor
  · intro hall k hkm
    obtain ⟨v, hg⟩ := hget k hkm
    exact hi.sched k ((hdone hg).mpr (by simpa using List.all_eq_true.mp hall (k, v) (mGet_mem hg)))
  · intro hs
    apply List.all_eq_true.mpr
    intro ⟨k, v⟩ hp
    have hg := mGet_of_mem_nodup (by rw [hi.keys]; exact hk.nodup) hp
    simpa using (hdone hg).mp (hB k (hs k (hi.node hk hg).1))

theorem validateDAG_order_free (b : Builder) (hk : KeysOK b) (ord ord' : Ord)
    (hv : ∀ m l, (ord.kahn m l).Perm l) (hv' : ∀ m l, (ord'.kahn m l).Perm l) :
    validateDAG b ord = validateDAG b ord' :=
  Bool.eq_iff_iff.mpr ((validateDAG_iff b hk ord hv).trans (validateDAG_iff b hk ord' hv').symm)


/-- `q` is a proper ancestor of `k` along control edges / branch targets (START excluded) -/
inductive PredTC (b : Builder) : Key → Key → Prop
  | base {p k : Key} : p ∈ b.ctrlPred k → p ≠ START → PredTC b p k
  | step {q p k : Key} : PredTC b q p → p ∈ b.ctrlPred k → p ≠ START → PredTC b q k

theorem PredTC.trans {b : Builder} {a c d : Key} (h1 : PredTC b a c) (h2 : PredTC b c d) : PredTC b a d := by
  induction h2 with
  | base hp hs => exact PredTC.step h1 hp hs
  | step _ hp hs ih => exact PredTC.step ih hp hs

theorem Sched.no_cycle {b : Builder} {k : Key} (h : Sched b k) : ¬ PredTC b k k := by
  induction h with
  | @intro k _ _ ih =>
    intro hc
    cases hc with
    | base hp hs => exact ih k hp hs (PredTC.base hp hs)
    | step hqp hp hs => exact ih _ hp hs (PredTC.trans (PredTC.base hp hs) hqp)

end EinoV.Build
