/-
  C19 — arithmetic of the reader ledger (`distribute`, Model/C19.lean): how many readers the two
  copy steps of `resolveCompletedTasks` create, and how many of them nobody owns.
-/
import EinoV.Model.C19

namespace EinoV.C19

theorem copyCount_eq_max (n : Nat) : copyCount n = max n 1 := by
  unfold copyCount; split <;> omega

theorem distribute_toBranches (c c' : Bool) (W B sel dups : Nat) :
    (distribute c c' W B sel dups).toBranches = B := by
  simp only [distribute]; split <;> rfl

theorem distribute_toSuccessors (c c' : Bool) (W B sel dups : Nat) :
    (distribute c c' W B sel dups).toSuccessors = sel + W - dups := by
  simp only [distribute]
  split
  · simp [*]
  · rfl

theorem le_copyCount (n : Nat) : n ≤ copyCount n := copyCount_eq_max n ▸ Nat.le_max_left ..

theorem copyCount_pos (n : Nat) : 1 ≤ copyCount n := copyCount_eq_max n ▸ Nat.le_max_right ..

/-- every branch condition and every successor entry has a reader of its own: all this needs of
    `copyItem` is that it returns at least one reader and at least as many as asked for -/
theorem distribute_created_ge (c c' : Bool) (W B sel dups : Nat) :
    B + (sel + W) ≤ (distribute c c' W B sel dups).created := by
  have h1 := le_copyCount (W + 2 * B)
  have h2 := copyCount_pos (W + 2 * B)
  simp only [distribute]
  split
  · simp only; omega
  · have h3 := Nat.sub_le_iff_le_add.mp (le_copyCount (sel + W + 1 - (W + B)))
    simp only
    generalize copyCount (sel + W + 1 - (W + B)) = x at h3 ⊢
    omega

/-- With some successor, and targets selected by branches only: one reader per branch and per
    entry, and one more for every branch that selected nothing beyond the other branches' extra
    selections (the re-copy of the last spare reader makes `max (sel + 1 - B) 1` of it). -/
theorem distribute_created_eq (c c' : Bool) (W B sel dups : Nat) (h : 0 < sel + W)
    (hs : B = 0 → sel = 0) :
    (distribute c c' W B sel dups).created = B + (sel + W) + (B - sel) := by
  simp only [distribute, Nat.ne_of_gt h, ↓reduceIte, copyCount_eq_max]
  omega

/-- what each of the two closing steps is there for: the surplus readers, the replaced copies -/
theorem distribute_leaked (c c' : Bool) (W B sel dups : Nat) (h : 0 < sel + W)
    (hs : B = 0 → sel = 0) (hd : dups ≤ sel + W) :
    (distribute c c' W B sel dups).leaked
      = (if c then 0 else B - sel) + (if c' then 0 else dups) := by
  have hc := distribute_created_eq c c' W B sel dups h hs
  generalize B - sel = k at hc
  simp only [distribute, Nat.ne_of_gt h, ↓reduceIte] at hc
  simp only [Ledger.leaked, distribute, Nat.ne_of_gt h, ↓reduceIte, hc]
  have e1 : B + (sel + W) + k - B - (sel + W - dups) = k + dups := by omega
  have e2 : B + (sel + W) + k - B - (sel + W) = k := by omega
  rw [e1, e2]
  cases c <;> cases c' <;> simp

theorem distribute_leaked_closing (W B sel dups : Nat) :
    (distribute true true W B sel dups).leaked = 0 := by
  simp only [distribute, Ledger.leaked, ↓reduceIte]
  split
  · simp
  · simp only; omega

end EinoV.C19
