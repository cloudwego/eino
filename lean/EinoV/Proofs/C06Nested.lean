/-
  C06 — the interrupt info of a run with nested graphs names exactly the interrupted nodes, at every
  level (helper lemmas; the property statements are in Props/C06.lean).  Also here:
  `restoreTasks_rerun` and `preOne_rerun`, what a resumed call does with a node that asked for a
  rerun; their user is `Props/C05.lean`.
-/
import EinoV.Proofs.C05NestedDepth
import EinoV.Proofs.Assoc

namespace EinoV.Interrupt
open EinoV.Engine

variable {V S X : Type}

/-- One level of an interrupt info, checked against the runner and the checkpoint returned with it.
    Clause by clause: a `before` key is configured and its input is saved; an `after` key is
    configured; a `rerun` / `subs` key is a node whose body gave that answer; the info is not empty;
    an interrupt raised by node bodies lists no `before` key; the nested payloads in the checkpoint are
    those of the info (from them `NR.Reported` reads the next level's checkpoint and info). -/
def InfoSound (r : IRunner V S X) (cp : Checkpoint V S X) (info : Info S X) : Prop :=
  (∀ k ∈ info.before, k ∈ r.intBefore ∧ k ∈ cp.inputs.map (·.1)) ∧
  (∀ k ∈ info.after, k ∈ r.intAfter) ∧
  (∀ k ∈ info.rerun, ∃ n v s x s', r.inode? k = some n ∧ (n.body v s x).res = .rerun s') ∧
  (∀ kp ∈ info.subs, ∃ n v s x s', r.inode? kp.1 = some n ∧ (n.body v s x).res = .subInt kp.2 s') ∧
  (info.before ≠ [] ∨ info.after ≠ [] ∨ info.rerun ≠ [] ∨ info.subs ≠ []) ∧
  ((info.subs ≠ [] ∨ info.rerun ≠ []) → info.before = []) ∧
  cp.subs = info.subs

theorem stepI_info_sound (ops : ValOps V) (r : IRunner V S X) (sched : ISched V S X) (hs : SchedSub sched)
    (ls : LoopSt V S X) (cp : Checkpoint V S X) (info : Info S X) (h : (stepI ops r sched ls).2 = .intr cp info) :
    InfoSound r cp info := by
  have hbody : ∀ (k : Key) (res : BodyRes V S X), res.isSR = true →
      (k, res) ∈ sched (runBodies r (runPres r ls.tasks ls.st).1 (runPres r ls.tasks ls.st).2).1 →
      ∃ n v s x, r.inode? k = some n ∧ (n.body v s x).res = res := by
    intro k res hsr hmem
    obtain ⟨t, _, st', h1, h2⟩ := mem_runBodies r _ _ _ (hs _ _ hmem)
    simp only at h1 h2
    obtain ⟨n, hn, hb⟩ := bodyOne_isSR r t st' (by rw [← h2]; exact hsr)
    exact ⟨n, t.input, st', t.sub, by rw [h1]; exact hn, by rw [← hb, ← h2]⟩
  rcases finishStep_intr ops r ls.stale _ cp info h with
    ⟨cm, restore, subs, reruns, dones, st, hc, rfl, rfl⟩ | ⟨cm, ts, dones, st, cm2, ts2, _, hhit, _, rfl, rfl⟩
  · -- node bodies interrupted (rerun / nested graph): `before` is empty, and every key of `rerun` and
    -- `subs` is traced through `runPosts` and the schedule back to a body's answer (`hbody`)
    obtain ⟨rfl, rfl, _, _, hne⟩ := coreOut_sr_parts ops r sched _ _ _ cm restore _ _ dones st hc
    refine ⟨fun k hk => (List.not_mem_nil hk).elim, fun k hk => ((mem_afterHits _ _ k).1 hk).2, ?_, ?_, ?_, fun _ => rfl, rfl⟩
    · intro k hk
      obtain ⟨s, hmem⟩ := (mem_rerunOf_runPosts r k _ _).1 hk
      obtain ⟨n, v, s₀, x, hn, hb⟩ := hbody k _ rfl hmem
      exact ⟨n, v, s₀, x, s, hn, hb⟩
    · intro kp hkp
      obtain ⟨s, hmem⟩ := (mem_subIntOf_runPosts r kp.1 kp.2 _ _).1 hkp
      obtain ⟨n, v, s₀, x, hn, hb⟩ := hbody kp.1 _ rfl hmem
      exact ⟨n, v, s₀, x, s, hn, hb⟩
    · exact hne.elim (fun h' => Or.inr (Or.inr (Or.inr h'))) (fun h' => Or.inr (Or.inr (Or.inl h')))
  · -- interrupt points hit: `rerun` and `subs` are empty; `before` is the hits among the next tasks
    -- `ts ++ ts2`, which are exactly the inputs `simpleCP` saves
    refine ⟨?_, fun k hk => ((mem_afterHits _ _ k).1 hk).2, fun k hk => (List.not_mem_nil hk).elim,
      fun kp hkp => (List.not_mem_nil hkp).elim, ?_, fun h' => (Or.elim h' (fun h => h rfl) (fun h => h rfl)).elim, rfl⟩
    · intro k hk
      rw [← hitKeys_append] at hk
      obtain ⟨⟨v, hv⟩, hkb⟩ := (mem_hitKeys _ _ k).1 hk
      exact ⟨hkb, List.mem_map.2 ⟨(k, v), hv, rfl⟩⟩
    · rcases hhit with hb | ha
      · exact Or.inl fun h0 => hb (List.append_eq_nil_iff.1 h0).1
      · exact Or.inr (Or.inl ha)

theorem stepI_sr_complete (ops : ValOps V) (r : IRunner V S X) (sched : ISched V S X) (hk : SchedKeeps sched)
    (ls : LoopSt V S X) (cp : Checkpoint V S X) (info : Info S X) (h : (stepI ops r sched ls).2 = .intr cp info) :
    (∀ k s, (k, BodyRes.rerun s) ∈ (runBodies r (runPres r ls.tasks ls.st).1 (runPres r ls.tasks ls.st).2).1 →
      k ∈ info.rerun) ∧
    (∀ k p s, (k, BodyRes.subInt p s) ∈ (runBodies r (runPres r ls.tasks ls.st).1 (runPres r ls.tasks ls.st).2).1 →
      (k, p) ∈ info.subs) ∧
    ((info.subs ≠ [] ∨ info.rerun ≠ []) →
      (∀ k, k ∈ cp.inputs.map (·.1) ↔ (k ∈ info.rerun ∨ k ∈ info.subs.map (·.1))) ∧
      (∀ q ∈ cp.inputs, q.2 = ops.zero) ∧ cp.skipPre = info.subs.map (·.1)) := by
  rcases finishStep_intr ops r ls.stale _ cp info h with
    ⟨cm, restore, subs, reruns, dones, st, hc, rfl, rfl⟩ | ⟨cm, ts, dones, st, cm2, ts2, hc, _, _, rfl, rfl⟩
  · obtain ⟨rfl, rfl, _, rfl, _⟩ := coreOut_sr_parts ops r sched _ _ _ cm restore _ _ dones st hc
    refine ⟨fun k s hm => ?_, fun k p s hm => ?_, fun _ => ⟨fun k => ?_, fun q hq => ?_, rfl⟩⟩
    · exact (mem_rerunOf_runPosts r k _ _).2 ⟨s, hk _ _ hm⟩
    · exact (mem_subIntOf_runPosts r k p _ _).2 ⟨s, hk _ _ hm⟩
    · rw [← mem_srKeys]; simp [Function.comp_def]
    · obtain ⟨k, _, rfl⟩ := List.mem_map.1 hq; rfl
  · -- the loop could have gone on: nobody asked for a rerun or interrupted inside
    obtain ⟨_, _, hsubs, hreruns, _⟩ := coreOut_next_parts ops r sched _ _ _ cm ts dones st hc
    refine ⟨fun k s hm => ?_, fun k p s hm => ?_, fun h' => (Or.elim h' (fun h => h rfl) (fun h => h rfl)).elim⟩
    · exact absurd ((mem_rerunOf_runPosts r k _ _).2 ⟨s, hk _ _ hm⟩) (hreruns ▸ List.not_mem_nil)
    · exact absurd ((mem_subIntOf_runPosts r k p _ _).2 ⟨s, hk _ _ hm⟩) (hsubs ▸ List.not_mem_nil)

theorem runI_info_sound (ops : ValOps V) (cfg : Cfg) (r : IRunner V S X) (sched : ISched V S X) (hs : SchedSub sched)
    (isSub hasID : Bool) (inp : V ⊕ Checkpoint V S X) (cp : Checkpoint V S X) (info : Info S X)
    (h : (runI ops cfg r sched isSub hasID inp).res = .interrupted cp info) : InfoSound r cp info := by
  revert h
  refine runI_cases ops cfg r sched isSub hasID inp (P := fun o => o.res = .interrupted cp info → InfoSound r cp info)
    (fun _ h => by cases h) (fun _ h => by cases h) ?_ fun ls h =>
      let ⟨ls', hstep⟩ := loopI_intr_from_step ops r sched isSub hasID _ ls cp info h
      stepI_info_sound ops r sched hs ls' cp info hstep
  intro cm ts hne h
  cases h
  refine ⟨fun k hk => ?_, fun _ hk => (List.not_mem_nil hk).elim, fun _ hk => (List.not_mem_nil hk).elim,
    fun _ hk => (List.not_mem_nil hk).elim, Or.inl hne,
    fun h' => (h'.elim (fun h => h rfl) (fun h => h rfl)).elim, rfl⟩
  obtain ⟨⟨v, hv⟩, hkb⟩ := (mem_hitKeys _ _ k).1 hk
  exact ⟨hkb, List.mem_map.2 ⟨(k, v), hv, rfl⟩⟩

theorem restoreTasks_rerun (zero : V) (inputs : List (Key × V)) (skip : List Key) (subs : List (Key × X)) (k : Key)
    (hin : ∀ q ∈ inputs, q.2 = zero) (hns : k ∉ skip) (hnsub : k ∉ subs.map (·.1)) :
    ∀ t ∈ restoreTasks inputs skip subs, t.key = k →
      t = { key := k, input := zero, skipPre := false, sub := none } := by
  intro t ht hk
  simp only [restoreTasks, List.mem_map] at ht
  obtain ⟨q, hq, rfl⟩ := ht
  simp only at hk
  subst hk
  have h2 : alookup q.1 subs = none := alookup_none_of_not_mem q.1 subs hnsub
  simp [h2, hin q hq, hns]

/-- the pre-handler of a restored rerun node runs on the zero input and the restored state: the body
    is started on what the pre-handler rebuilds -/
theorem preOne_rerun (r : IRunner V S X) (k : Key) (n : INode V S X) (h : V → S → V × S)
    (hn : r.inode? k = some n) (hp : n.pre = some h) (zero : V) (st : S) :
    preOne r { key := k, input := zero, skipPre := false, sub := none } st =
      ({ key := k, input := (h zero st).1, skipPre := false, sub := none }, (h zero st).2) := by
  simp [preOne, hn, hp]

section level
variable {C : Type} (ops : ValOps V) (cfg : Cfg) (cd : SubCodec V S X) (toC : C → IRunner V S X)

theorem NLevel.subInt_from_child (l : NLevel V S X C) (k : Key) (n : INode V S X) (v : V) (s : S) (x : Option X)
    (p : X) (s' : S) (hn : (l.toIWith ops cfg cd toC).inode? k = some n) (hb : (n.body v s x).res = .subInt p s') :
    ∃ c sc, l.child? k = some c ∧ (∃ n', l.node? k = some n' ∧ n'.body = .graph c sc) ∧
      ∃ cpc infoc, (runI ops cfg (toC c) sc true false (subInp cd v x)).res = .interrupted cpc infoc ∧
        p = cd.pack cpc infoc := by
  obtain ⟨n', hn', ⟨f, _, hf⟩ | ⟨c, sc, hbody, hg⟩⟩ := NLevel.inode?_cases ops cfg cd toC l k n hn
  · have := fnBody_noSR (X := X) f v s x
    rw [← hf, hb] at this
    cases this
  · rw [hg, subBody_res] at hb
    refine ⟨c, sc, by simp [NLevel.child?, hn', hbody], ⟨n', hn', hbody⟩, ?_⟩
    cases hr : (runI ops cfg (toC c) sc true false (subInp cd v x)).res with
    | done o => rw [hr] at hb; cases hb
    | failed e => rw [hr] at hb; cases hb
    | interrupted cpc infoc =>
      rw [hr] at hb
      injection hb with hb _
      exact ⟨cpc, infoc, rfl, hb.symm⟩

/-- no node of a compiled level asks for a rerun (function nodes complete or fail, graph nodes complete,
    fail or report a nested interrupt) -/
theorem NLevel.no_rerun (l : NLevel V S X C) (k : Key) (n : INode V S X) (v : V) (s : S) (x : Option X) (s' : S)
    (hn : (l.toIWith ops cfg cd toC).inode? k = some n) : (n.body v s x).res ≠ .rerun s' := by
  intro hb
  obtain ⟨n', _, ⟨f, _, hf⟩ | ⟨c, sc, _, hg⟩⟩ := NLevel.inode?_cases ops cfg cd toC l k n hn
  · have := fnBody_noSR (X := X) f v s x
    rw [← hf, hb] at this
    cases this
  · rw [hg, subBody_res] at hb
    cases hr : (runI ops cfg (toC c) sc true false (subInp cd v x)).res <;> rw [hr] at hb <;> cases hb

end level

/-- what one level's part of an interrupt info must be: BeforeNodes / AfterNodes are configured
    interrupt points of this level, no RerunNodes (the family `NR` has no rerun-requesting nodes), the
    info names something, and BeforeNodes is empty when a graph node interrupted -/
def LevelInfoOK (B A : List Key) (info : Info S X) : Prop :=
  (∀ k ∈ info.before, k ∈ B) ∧ (∀ k ∈ info.after, k ∈ A) ∧ info.rerun = [] ∧
  (info.before ≠ [] ∨ info.after ≠ [] ∨ info.subs ≠ []) ∧ (info.subs ≠ [] → info.before = [])

section depth
variable (ops : ValOps V) (cfg : Cfg) (cd : SubCodec V S X)

/-- the completion orders used for the nested graphs invent no task -/
def NR.SubScheds : (d : Nat) → NR V S X d → Prop
  | 0, _ => True
  | d + 1, l => NLevel.hypWith (fun c sc => SchedSub sc ∧ NR.SubScheds d c) l

/-- **reported exactly, at every level.**  The checkpoint and info an interrupted run returns: this
    level's lists are justified (`LevelInfoOK`), every BeforeNode is a pending task of the checkpoint,
    the checkpoint stores under `SubGraphs` exactly the payloads the info lists, and each of them is —
    for a graph node `k` of this level — the checkpoint and info of the nested graph, again reported
    exactly. -/
def NR.Reported : (d : Nat) → NR V S X d → Checkpoint V S X → Info S X → Prop
  | 0, l, cp, info =>
    LevelInfoOK l.intBefore l.intAfter info ∧ cp.subs = info.subs ∧
    (∀ k ∈ info.before, k ∈ cp.inputs.map (·.1)) ∧ info.subs = []
  | d + 1, l, cp, info =>
    LevelInfoOK l.intBefore l.intAfter info ∧ cp.subs = info.subs ∧
    (∀ k ∈ info.before, k ∈ cp.inputs.map (·.1)) ∧
    ∀ kp ∈ info.subs, ∃ c, NLevel.child? l kp.1 = some c ∧ NR.Reported d c (cd.cp kp.2) (cd.info kp.2)

theorem levelInfoOK_of_sound (r : IRunner V S X) (cp : Checkpoint V S X) (info : Info S X)
    (hnr : ∀ k n v s x s', r.inode? k = some n → (n.body v s x).res ≠ .rerun s')
    (h : InfoSound r cp info) :
    LevelInfoOK r.intBefore r.intAfter info ∧ cp.subs = info.subs ∧ (∀ k ∈ info.before, k ∈ cp.inputs.map (·.1)) := by
  obtain ⟨h1, h2, h3, _, h5, h6, h7⟩ := h
  have hrr : info.rerun = [] := List.eq_nil_iff_forall_not_mem.2 fun k hk =>
    let ⟨n, v, s, x, s', hn, hb⟩ := h3 k hk
    hnr k n v s x s' hn hb
  refine ⟨⟨fun k hk => (h1 k hk).1, h2, hrr, ?_, fun hs => h6 (Or.inl hs)⟩, h7, fun k hk => (h1 k hk).2⟩
  rcases h5 with h | h | h | h
  · exact Or.inl h
  · exact Or.inr (Or.inl h)
  · exact absurd hrr h
  · exact Or.inr (Or.inr h)

theorem NR.reported (hcd : ∀ cp info, cd.cp (cd.pack cp info) = cp) (hci : ∀ cp info, cd.info (cd.pack cp info) = info) :
    ∀ (d : Nat) (nr : NR V S X d) (sched : ISched V S X), SchedSub sched → NR.SubScheds d nr →
    ∀ (isSub hasID : Bool) (inp : V ⊕ Checkpoint V S X) (cp : Checkpoint V S X) (info : Info S X),
      (runI ops cfg (NR.toI ops cfg cd d nr) sched isSub hasID inp).res = .interrupted cp info →
      NR.Reported cd d nr cp info := by
  intro d
  induction d with
  | zero =>
    intro nr sched hs _ isSub hasID inp cp info h
    have hsound := runI_info_sound ops cfg _ sched hs isSub hasID inp cp info h
    obtain ⟨h1, h2, h3⟩ := levelInfoOK_of_sound _ cp info
      (fun k n v s x s' hn => NLevel.no_rerun ops cfg cd (fun e : Empty => nomatch e) nr k n v s x s' hn) hsound
    refine ⟨h1, h2, h3, ?_⟩
    cases hsub : info.subs with
    | nil => rfl
    | cons kp rest =>
      exfalso
      obtain ⟨n, v, s, x, s', hn, hb⟩ := hsound.2.2.2.1 kp (by rw [hsub]; simp)
      obtain ⟨c, _⟩ := NLevel.subInt_from_child ops cfg cd (fun e : Empty => nomatch e) nr kp.1 n v s x kp.2 s' hn hb
      exact nomatch c
  | succ d ih =>
    intro nr sched hs hss isSub hasID inp cp info h
    have hsound := runI_info_sound ops cfg _ sched hs isSub hasID inp cp info h
    obtain ⟨h1, h2, h3⟩ := levelInfoOK_of_sound _ cp info
      (fun k n v s x s' hn => NLevel.no_rerun ops cfg cd (NR.toI ops cfg cd d) nr k n v s x s' hn) hsound
    refine ⟨h1, h2, h3, ?_⟩
    intro kp hkp
    obtain ⟨n, v, s, x, s', hn, hb⟩ := hsound.2.2.2.1 kp hkp
    obtain ⟨c, sc, hc, ⟨n', hn', hbody⟩, cpc, infoc, hrun, hp⟩ :=
      NLevel.subInt_from_child ops cfg cd (NR.toI ops cfg cd d) nr kp.1 n v s x kp.2 s' hn hb
    have hmem : n' ∈ NLevel.nodes nr := List.mem_of_find?_eq_some hn'
    obtain ⟨hsc, hssc⟩ := hss n' hmem c sc hbody
    refine ⟨c, hc, ?_⟩
    rw [hp, hcd, hci]
    exact ih c sc hsc hssc true false _ cpc infoc hrun

end depth

end EinoV.Interrupt
