/-
  The association lists over `Key` that stand for Go maps in the engine model (`Model/Engine.lean`):
  `alookup`, `aset`, `akeys`, folds of `aset` (`asets`), and `modChan`.  A Go map has one entry per key; a
  lemma that needs it asks `(akeys l).Nodup`.  `asets` keeps the namespace `EinoV.Interrupt.PregelFold` of its
  first user, the any-predecessor inbox (`Proofs/C01Pregel.lean`); everything else is in `EinoV.Engine`.
-/
import EinoV.Model.Engine
import EinoV.Proofs.ListFacts

namespace EinoV.Engine

theorem akeys_nil {α} : akeys ([] : List (Key × α)) = [] := rfl

theorem akeys_cons {α} (a : Key × α) (l : List (Key × α)) : akeys (a :: l) = a.1 :: akeys l := rfl

theorem akeys_map_mk {γ β : Type} (key : γ → Key) (f : γ → β) (l : List γ) :
    akeys (l.map (fun x => (key x, f x))) = l.map key := by
  rw [akeys, List.map_map]; rfl

theorem alookup_isSome_iff {α} (k : Key) (l : List (Key × α)) : (alookup k l).isSome = true ↔ k ∈ akeys l := by
  induction l with
  | nil => simp [alookup, akeys]
  | cons p t ih =>
    by_cases h : (p.1 == k) = true
    · simp [alookup, akeys, (beq_iff_eq.mp h).symm]
    · have hne : ¬ k = p.1 := fun e => h (beq_iff_eq.mpr e.symm)
      simpa [alookup, akeys, h, hne] using ih

theorem mem_of_alookup {α} (k : Key) (v : α) (l : List (Key × α)) (h : alookup k l = some v) : (k, v) ∈ l := by
  induction l with
  | nil => cases h
  | cons p t ih =>
    simp only [alookup] at h
    split at h
    · rename_i hk
      obtain rfl : p.2 = v := Option.some.inj h
      rw [← beq_iff_eq.mp hk]; exact List.mem_cons_self ..
    · exact List.mem_cons_of_mem _ (ih h)

theorem mem_akeys_of_mem {α} (p : Key) (d : α) (l : List (Key × α)) (h : (p, d) ∈ l) : p ∈ akeys l := by
  simp only [akeys, List.mem_map]; exact ⟨(p, d), h, rfl⟩

theorem exists_of_mem_akeys {α} (p : Key) (l : List (Key × α)) (h : p ∈ akeys l) : ∃ d, (p, d) ∈ l := by
  simp only [akeys, List.mem_map] at h
  obtain ⟨⟨q, d⟩, hm, rfl⟩ := h
  exact ⟨d, hm⟩

theorem mem_akeys_filter {V} {l : List (Key × V)} {q : Key → Bool} {p : Key} (hp : p ∈ akeys l) (hq : q p = true) :
    p ∈ akeys (l.filter (fun kv => q kv.1)) := by
  obtain ⟨v, hv⟩ := exists_of_mem_akeys _ _ hp
  exact mem_akeys_of_mem p v _ (List.mem_filter.mpr ⟨hv, hq⟩)

theorem alookup_none_of_not_mem {α} (k : Key) (l : List (Key × α)) (h : k ∉ akeys l) :
    alookup k l = none :=
  Option.not_isSome_iff_eq_none.mp (fun hs => h ((alookup_isSome_iff k l).mp hs))

theorem alookup_none_iff {α} (k : Key) (l : List (Key × α)) : alookup k l = none ↔ k ∉ akeys l :=
  ⟨fun h hm => by simpa [h] using (alookup_isSome_iff k l).mpr hm, alookup_none_of_not_mem k l⟩

theorem ne_of_alookup_none {α} (k : Key) (l : List (Key × α)) (h : alookup k l = none) : ∀ p ∈ l, p.1 ≠ k :=
  fun _ hp e => (alookup_none_iff k l).mp h (e ▸ List.mem_map_of_mem hp)

theorem mem_getD_alookup {α} {k : Key} {m : List (Key × List α)} {x : α} (h : x ∈ (alookup k m).getD []) :
    ∃ l, (k, l) ∈ m ∧ x ∈ l := by
  cases hl : alookup k m with
  | none => rw [hl] at h; cases h
  | some l => exact ⟨l, mem_of_alookup k l m hl, by rwa [hl] at h⟩

theorem alookup_of_mem_nodup {α} (l : List (Key × α)) (h : (akeys l).Nodup) (k : Key) (v : α)
    (hm : (k, v) ∈ l) : alookup k l = some v := by
  induction l with
  | nil => cases hm
  | cons q t ih =>
    obtain ⟨k', v'⟩ := q
    simp only [akeys, List.map_cons, List.nodup_cons] at h
    rcases List.mem_cons.mp hm with e | hm
    · cases e; simp [alookup]
    · have hk : k ∈ t.map (·.1) := List.mem_map_of_mem (f := (·.1)) hm
      have hb : (k' == k) = false := beq_false_of_ne fun e => h.1 (e ▸ hk)
      simp only [alookup, hb, Bool.false_eq_true, ↓reduceIte]
      exact ih h.2 hm

theorem mem_unique {α} {l : List (Key × α)} (h : (akeys l).Nodup) {k : Key} {a b : α}
    (ha : (k, a) ∈ l) (hb : (k, b) ∈ l) : a = b :=
  congrArg Prod.snd (eq_of_nodup_map h ha hb rfl)

theorem alookup_map {α β} (f : α → β) (k : Key) (l : List (Key × α)) :
    alookup k (l.map (fun p => (p.1, f p.2))) = (alookup k l).map f := by
  induction l with
  | nil => rfl
  | cons p t ih =>
    obtain ⟨k', v⟩ := p
    by_cases hk : (k' == k) = true <;> simp [alookup, hk, ih]

theorem find?_map_key {α β} (f : α → β) (ka : α → Key) (kb : β → Key) (k : Key) (l : List α)
    (hk : ∀ a ∈ l, kb (f a) = ka a) :
    (l.map f).find? (kb · == k) = (l.find? (ka · == k)).map f := by
  induction l with
  | nil => rfl
  | cons a t ih =>
    simp only [List.map_cons, List.find?_cons, hk a List.mem_cons_self,
      ih fun b hb => hk b (List.mem_cons_of_mem _ hb)]
    split <;> rfl

theorem alookup_map_key {α β} (key : α → Key) (f : α → β) (l : List α) (k : Key) :
    alookup k (l.map fun a => (key a, f a)) = (l.find? (key · == k)).map f := by
  induction l with
  | nil => rfl
  | cons a t ih =>
    by_cases h : (key a == k) = true <;> simp [alookup, h, ih]

theorem mem_aset {α} (k : Key) (v : α) (l : List (Key × α)) (x : Key × α) (hx : x ∈ aset k v l) :
    x = (k, v) ∨ x ∈ l := by
  induction l with
  | nil => exact Or.inl (List.mem_singleton.mp hx)
  | cons p t ih =>
    simp only [aset] at hx
    split at hx
    · exact (List.mem_cons.mp hx).imp id (List.mem_cons_of_mem _)
    · rcases List.mem_cons.mp hx with rfl | hx
      · exact Or.inr (List.mem_cons_self ..)
      · exact (ih hx).imp id (List.mem_cons_of_mem _)

theorem mem_aset_self {α} (k : Key) (v : α) (l : List (Key × α)) : (k, v) ∈ aset k v l := by
  induction l with
  | nil => simp [aset]
  | cons q t ih =>
    obtain ⟨k', v'⟩ := q
    by_cases h1 : (k' == k) = true
    · simp [aset, h1]
    · simp only [aset, h1, Bool.false_eq_true, ↓reduceIte, List.mem_cons]
      exact Or.inr ih

theorem mem_aset_of_ne {α} (k : Key) (v : α) (l : List (Key × α)) (p : Key) (d : α) (e : p ≠ k)
    (h : (p, d) ∈ l) : (p, d) ∈ aset k v l := by
  induction l with
  | nil => simp at h
  | cons q rest ih =>
    obtain ⟨k', v'⟩ := q
    simp only [List.mem_cons, Prod.mk.injEq] at h
    by_cases h1 : (k' == k) = true
    · have e1 : k' = k := by simpa using h1
      simp only [aset, h1, ↓reduceIte, List.mem_cons, Prod.mk.injEq]
      rcases h with ⟨rfl, _⟩ | h
      · exact absurd e1 e
      · exact Or.inr h
    · simp only [aset, h1, Bool.false_eq_true, ↓reduceIte, List.mem_cons, Prod.mk.injEq]
      rcases h with h | h
      · exact Or.inl h
      · exact Or.inr (ih h)

theorem alookup_aset_same {α} (k : Key) (v : α) (l : List (Key × α)) :
    alookup k (aset k v l) = some v := by
  induction l with
  | nil => simp [aset, alookup]
  | cons p t ih =>
    obtain ⟨k', v'⟩ := p
    by_cases h : (k' == k) = true
    · simp [aset, alookup, h]
    · simp [aset, alookup, h, ih]

theorem alookup_aset_other {α} (k k' : Key) (v : α) (l : List (Key × α)) (h : k' ≠ k) :
    alookup k' (aset k v l) = alookup k' l := by
  induction l with
  | nil =>
    have : (k == k') = false := by simpa using fun e => h e.symm
    simp [aset, alookup, this]
  | cons p t ih =>
    obtain ⟨k₁, v₁⟩ := p
    by_cases h1 : (k₁ == k) = true
    · have e : k₁ = k := by simpa using h1
      have : (k == k') = false := by simpa using fun e' => h e'.symm
      subst e
      simp [aset, alookup, this]
    · simp only [aset, h1, Bool.false_eq_true, ↓reduceIte, alookup]
      by_cases h2 : (k₁ == k') = true
      · simp [h2]
      · simp [h2, ih]

theorem isSome_alookup_aset {α} (x y : Key) (v : α) (l : List (Key × α)) (hy : (alookup y l).isSome = true) :
    (alookup x (aset y v l)).isSome = (alookup x l).isSome := by
  by_cases e : x = y
  · subst e; simp [alookup_aset_same, hy]
  · rw [alookup_aset_other _ _ _ _ e]

theorem aset_aset {α} (k : Key) (v1 v2 : α) (l : List (Key × α)) : aset k v2 (aset k v1 l) = aset k v2 l := by
  induction l with
  | nil => simp [aset]
  | cons p l ih =>
    by_cases h : (p.1 == k) = true
    · simp [aset, h]
    · simp [aset, h, ih]

theorem aset_append_new {α} (k : Key) (v : α) (l : List (Key × α)) (h : k ∉ akeys l) :
    aset k v l = l ++ [(k, v)] := by
  induction l with
  | nil => rfl
  | cons p t ih =>
    obtain ⟨k', v'⟩ := p
    simp only [akeys, List.map_cons, List.mem_cons, not_or] at h
    have : (k' == k) = false := by simpa using fun e => h.1 e.symm
    simp only [aset, this, Bool.false_eq_true, ↓reduceIte, List.cons_append, List.cons.injEq, true_and]
    exact ih (by simpa [akeys] using h.2)

theorem aset_append_cons {α} (pre : List (Key × α)) (k : Key) (v w : α) (rest : List (Key × α))
    (h : k ∉ akeys pre) : aset k w (pre ++ (k, v) :: rest) = pre ++ (k, w) :: rest := by
  induction pre with
  | nil => simp [aset]
  | cons p pre ih =>
    simp only [akeys, List.map_cons, List.mem_cons, not_or] at h
    have hp : (p.1 == k) = false := by simpa [beq_eq_false_iff_ne] using fun e => h.1 e.symm
    obtain ⟨k', v'⟩ := p
    simp only [List.cons_append, aset]
    simp only at hp
    simp [hp, ih h.2]

theorem aset_of_alookup {α} (k : Key) (v : α) (l : List (Key × α)) (h : alookup k l = some v) :
    aset k v l = l := by
  induction l with
  | nil => simp [alookup] at h
  | cons p t ih =>
    obtain ⟨k', v'⟩ := p
    by_cases h1 : (k' == k) = true
    · have e : k' = k := by simpa using h1
      simp only [alookup, h1, ↓reduceIte, Option.some.injEq] at h
      simp [aset, e, h]
    · simp only [alookup, h1, Bool.false_eq_true, ↓reduceIte] at h
      simp [aset, h1, ih h]

theorem aset_ne_nil {α} (k : Key) (v : α) (l : List (Key × α)) : aset k v l ≠ [] := by
  cases l with
  | nil => simp [aset]
  | cons p rest => simp only [aset]; split <;> simp

theorem aset_map {α β} (f : α → β) (k : Key) (v : α) (l : List (Key × α)) :
    aset k (f v) (l.map (fun p => (p.1, f p.2))) = (aset k v l).map (fun p => (p.1, f p.2)) := by
  induction l with
  | nil => rfl
  | cons p t ih =>
    obtain ⟨k', v'⟩ := p
    by_cases hk : (k' == k) = true <;> simp [aset, hk, ih]

theorem akeys_aset {α} (k : Key) (v : α) (l : List (Key × α)) :
    akeys (aset k v l) = if k ∈ akeys l then akeys l else akeys l ++ [k] := by
  induction l with
  | nil => simp [aset, akeys]
  | cons p t ih =>
    obtain ⟨k', v'⟩ := p
    by_cases h1 : (k' == k) = true
    · have e : k' = k := by simpa using h1
      simp [aset, akeys, e]
    · have ne : k' ≠ k := by simpa using h1
      simp only [aset, h1, Bool.false_eq_true, ↓reduceIte]
      simp only [akeys, List.map_cons, List.mem_cons] at ih ⊢
      rw [ih]
      have : ¬ (k = k') := fun e => ne e.symm
      by_cases hm : k ∈ List.map (fun x => x.1) t
      · simp [hm]
      · simp [hm, this]

theorem mem_akeys_aset_iff {α : Type} (k k' : Key) (x : α) (l : List (Key × α)) :
    k' ∈ akeys (aset k x l) ↔ k' ∈ akeys l ∨ k' = k := by
  rw [akeys_aset]
  split
  · rename_i h
    constructor
    · exact Or.inl
    · rintro (h' | rfl)
      · exact h'
      · exact h
  · simp

theorem akeys_aset_of_mem {α} (k : Key) (v : α) (l : List (Key × α)) (h : k ∈ akeys l) :
    akeys (aset k v l) = akeys l :=
  (akeys_aset k v l).trans (if_pos h)

theorem nodup_akeys_aset {α} (k : Key) (v : α) (l : List (Key × α)) (h : (akeys l).Nodup) :
    (akeys (aset k v l)).Nodup := by
  rw [akeys_aset]
  split
  · exact h
  · rename_i hk
    exact List.nodup_append.mpr ⟨h, by simp, by
      intro a ha b hb
      simp at hb; subst hb
      exact fun e => hk (e ▸ ha)⟩

theorem filter_aset {α : Type} (P : Key → Bool) (k : Key) (x : α) (A : List (Key × α)) :
    (aset k x A).filter (fun kv => P kv.1) =
      if P k then aset k x (A.filter (fun kv => P kv.1)) else A.filter (fun kv => P kv.1) := by
  induction A with
  | nil => by_cases hp : P k = true <;> simp [aset, hp]
  | cons p t ih =>
    obtain ⟨k', y⟩ := p
    by_cases h : (k' == k) = true
    · have e : k' = k := by simpa using h
      subst e
      by_cases hp : P k' = true <;> simp [aset, hp]
    · by_cases hp' : P k' = true <;> by_cases hp : P k = true <;> simp [aset, h, hp', hp, ih]

theorem foldl_aset_fresh {γ β} (key : γ → Key) (f : γ → β) (l : List γ) (acc : List (Key × β))
    (hn : (l.map key).Nodup) (hd : ∀ x ∈ l, key x ∉ akeys acc) :
    l.foldl (fun m x => aset (key x) (f x) m) acc = acc ++ l.map (fun x => (key x, f x)) := by
  induction l generalizing acc with
  | nil => simp
  | cons p l ih =>
    rw [List.map_cons, List.nodup_cons] at hn
    rw [List.foldl_cons, aset_append_new _ _ acc (hd p List.mem_cons_self), ih _ hn.2 (by
      intro x hx
      simp only [akeys, List.map_append, List.map_cons, List.map_nil, List.mem_append, List.mem_singleton, not_or]
      exact ⟨hd x (List.mem_cons_of_mem _ hx), fun e => hn.1 (e ▸ List.mem_map_of_mem hx)⟩)]
    simp

theorem eq_map_const {α} (v : α) (m : List (Key × α)) (hv : ∀ p ∈ m, p.2 = v) :
    m = (akeys m).map (fun k => (k, v)) := by
  rw [akeys, List.map_map]
  exact (List.map_id' m).symm.trans (List.map_congr_left fun p hp => Prod.ext rfl (hv p hp))

theorem foldl_aset_const {α} (v : α) (l : List Key) (m : List (Key × α)) (hn : (akeys m).Nodup)
    (hv : ∀ p ∈ m, p.2 = v) :
    l.foldl (fun m k => aset k v m) m = ((akeys m ++ l).eraseDups).map (fun k => (k, v)) := by
  induction l generalizing m with
  | nil =>
    rw [List.foldl_nil, List.append_nil, eraseDups_of_nodup _ hn]
    exact eq_map_const v m hv
  | cons k l ih =>
    have hv' : ∀ p ∈ aset k v m, p.2 = v := fun p hp =>
      (mem_aset k v m p hp).elim (fun h => h ▸ rfl) (hv p)
    rw [List.foldl_cons, ih _ (nodup_akeys_aset k v m hn) hv', akeys_aset]
    congr 1
    split
    · rename_i hin
      rw [List.eraseDups_append, List.eraseDups_append]
      congr 2
      simp [List.removeAll, hin]
    · simp

theorem foldl_aset_const_nil {α} (v : α) (l : List Key) :
    l.foldl (fun m k => aset k v m) [] = l.eraseDups.map (fun k => (k, v)) :=
  foldl_aset_const v l [] List.nodup_nil (fun _ h => nomatch h)

/-- setting two different keys: the order matters only when both are new (they are appended
    in the order set) -/
theorem aset_comm {α} (x y : Key) (v w : α) (l : List (Key × α)) (hne : x ≠ y) :
    (aset x v (aset y w l)).Perm (aset y w (aset x v l)) ∧
    (x ∈ akeys l ∨ y ∈ akeys l → aset x v (aset y w l) = aset y w (aset x v l)) := by
  have hxy : (x == y) = false := by simpa using hne
  have hyx : (y == x) = false := by simpa using Ne.symm hne
  induction l with
  | nil =>
    simp only [aset, hxy, hyx, Bool.false_eq_true, ↓reduceIte]
    exact ⟨.swap _ _ _, fun h => by simp [akeys] at h⟩
  | cons p t ih =>
    obtain ⟨k, u⟩ := p
    by_cases hkx : k = x
    · -- `x` is set at the head and `y` in the tail, in either order
      have e : aset x v (aset y w ((k, u) :: t)) = aset y w (aset x v ((k, u) :: t)) := by
        subst hkx; simp [aset, hxy]
      exact ⟨.of_eq e, fun _ => e⟩
    · by_cases hky : k = y
      · have e : aset x v (aset y w ((k, u) :: t)) = aset y w (aset x v ((k, u) :: t)) := by
          subst hky; simp [aset, hyx]
        exact ⟨.of_eq e, fun _ => e⟩
      · have hkx' : (k == x) = false := by simpa using hkx
        have hky' : (k == y) = false := by simpa using hky
        simp only [aset, hkx', hky', Bool.false_eq_true, ↓reduceIte, akeys, List.map_cons, List.mem_cons]
        exact ⟨ih.1.cons _, fun h => by
          rw [ih.2 (h.imp (·.resolve_left (Ne.symm hkx)) (·.resolve_left (Ne.symm hky)))]⟩

end EinoV.Engine

namespace EinoV.Interrupt.PregelFold
open EinoV.Engine

def asets {α : Type} (l v : List (Key × α)) : List (Key × α) :=
  l.foldl (fun acc kv => aset kv.1 kv.2 acc) v

theorem asets_nil {α : Type} (v : List (Key × α)) : asets [] v = v := rfl

theorem asets_cons {α : Type} (p : Key × α) (l v : List (Key × α)) :
    asets (p :: l) v = asets l (aset p.1 p.2 v) := rfl

theorem mem_asets {α : Type} {l v : List (Key × α)} {x : Key × α} (h : x ∈ asets l v) : x ∈ v ∨ x ∈ l := by
  induction l generalizing v with
  | nil => exact Or.inl h
  | cons kv t ih =>
    rcases ih h with h | h
    · rcases mem_aset _ _ _ _ h with rfl | h
      · exact Or.inr (List.mem_cons_self ..)
      · exact Or.inl h
    · exact Or.inr (List.mem_cons_of_mem _ h)

theorem nodup_akeys_asets {α : Type} (a : List (Key × α)) :
    ∀ (A : List (Key × α)), (akeys A).Nodup → (akeys (asets a A)).Nodup :=
  fun A h => foldl_inv (fun l => (akeys l).Nodup) _ a (fun _ h _ _ => nodup_akeys_aset _ _ _ h) A h

theorem mem_akeys_asets {α : Type} {l v : List (Key × α)} {p : Key} (h : p ∈ akeys v ∨ p ∈ akeys l) :
    p ∈ akeys (asets l v) := by
  induction l generalizing v with
  | nil => exact h.elim id (fun h => nomatch h)
  | cons kv t ih =>
    rcases h with h | h
    · exact ih (Or.inl ((mem_akeys_aset_iff ..).2 (Or.inl h)))
    · rcases List.mem_cons.mp h with rfl | h
      · exact ih (Or.inl ((mem_akeys_aset_iff ..).2 (Or.inr rfl)))
      · exact ih (Or.inr h)

theorem asets_eq_append {α : Type} (l v : List (Key × α)) (h : (akeys (v ++ l)).Nodup) : asets l v = v ++ l := by
  rw [akeys, List.map_append] at h
  obtain ⟨_, hi, hd⟩ := List.nodup_append.mp h
  simpa [asets] using foldl_aset_fresh Prod.fst Prod.snd l v hi
    (fun x hx hm => hd _ hm _ (List.mem_map_of_mem hx) rfl)

theorem asets_append {α : Type} (l1 l2 v : List (Key × α)) :
    asets (l1 ++ l2) v = asets l2 (asets l1 v) := by
  simp [asets, List.foldl_append]

theorem asets_comm_present {α : Type} (k : Key) (x : α) (A : List (Key × α)) :
    ∀ (u : List (Key × α)), k ∈ akeys u → k ∉ akeys A → aset k x (asets A u) = asets A (aset k x u) := by
  induction A with
  | nil => intro u _ _; rfl
  | cons p A' ih =>
    intro u hu hA
    obtain ⟨hp, hA'⟩ := not_or.mp (mt List.mem_cons.mpr hA)
    rw [asets_cons, asets_cons, ih _ ((mem_akeys_aset_iff _ _ _ _).2 (Or.inl hu)) hA',
      (aset_comm k p.1 x p.2 u hp).2 (.inl hu)]

theorem asets_aset {α : Type} (k : Key) (x : α) (A : List (Key × α)) :
    ∀ (v : List (Key × α)), (akeys A).Nodup → asets (aset k x A) v = aset k x (asets A v) := by
  induction A with
  | nil => intro v _; rfl
  | cons p A' ih =>
    intro v hnd
    obtain ⟨k', y⟩ := p
    obtain ⟨hA, hnd'⟩ := List.nodup_cons.mp hnd
    by_cases h : (k' == k) = true
    · obtain rfl : k' = k := by simpa using h
      simp only [aset, beq_self_eq_true, ↓reduceIte, asets_cons]
      rw [asets_comm_present k' x A' _ ((mem_akeys_aset_iff _ _ _ _).2 (Or.inr rfl)) hA, aset_aset]
    · simp only [aset, h, Bool.false_eq_true, ↓reduceIte, asets_cons]
      exact ih _ hnd'

theorem asets_asets {α : Type} (a : List (Key × α)) :
    ∀ (A v : List (Key × α)), (akeys A).Nodup → asets (asets a A) v = asets a (asets A v) := by
  induction a with
  | nil => intro A v _; rfl
  | cons p a' ih =>
    intro A v hnd
    simp only [asets_cons]
    rw [ih _ _ (nodup_akeys_aset _ _ _ hnd), asets_aset _ _ _ _ hnd]

theorem filter_asets {α : Type} (P : Key → Bool) (a : List (Key × α)) :
    ∀ (A : List (Key × α)), (asets a A).filter (fun kv => P kv.1) =
      asets (a.filter (fun kv => P kv.1)) (A.filter (fun kv => P kv.1)) := by
  induction a with
  | nil => intro A; rfl
  | cons p a' ih =>
    intro A
    simp only [asets_cons]
    rw [ih, filter_aset]
    by_cases hp : P p.1 = true
    · simp [hp, asets_cons]
    · simp [hp]

end EinoV.Interrupt.PregelFold

namespace EinoV.Engine

theorem aset_perm_of_alookup {α : Type} (k : Key) (x y : α) (v : List (Key × α)) (h : alookup k v = some y) :
    ∃ l, v.Perm ((k, y) :: l) ∧ (aset k x v).Perm ((k, x) :: l) := by
  induction v with
  | nil => cases h
  | cons p t ih =>
    obtain ⟨k0, u⟩ := p
    by_cases h0 : (k0 == k) = true
    · have e : k0 = k := by simpa using h0
      simp only [alookup, h0, ↓reduceIte, Option.some.injEq] at h
      subst e h
      exact ⟨t, .refl _, by simp [aset]⟩
    · simp only [alookup, h0, Bool.false_eq_true, ↓reduceIte] at h
      obtain ⟨l, h1, h2⟩ := ih h
      refine ⟨(k0, u) :: l, (h1.cons _).trans (.swap ..), ?_⟩
      simp only [aset, h0, Bool.false_eq_true, ↓reduceIte]
      exact (h2.cons _).trans (.swap ..)

theorem modChan_id {V} (cm : Chans V) (k : Key) : modChan cm k (fun c => c) = cm := by
  unfold modChan
  simp

theorem alookup_modChan {V} (cm : Chans V) (k : Key) (f : Chan V → Chan V) (p : Key) :
    alookup p (modChan cm k f) = if p = k then (alookup p cm).map f else alookup p cm := by
  induction cm with
  | nil => simp [modChan, alookup]
  | cons q t ih =>
    obtain ⟨n, c⟩ := q
    simp only [modChan, List.map_cons] at ih ⊢
    by_cases h1 : n = p
    · subst h1
      by_cases h0 : n = k <;> simp [alookup, h0]
    · have h1' : (n == p) = false := beq_false_of_ne h1
      by_cases h0 : n = k
      · subst h0; simpa [alookup, h1'] using ih
      · simpa [alookup, h0, h1'] using ih

theorem modChan_not_mem {V} (cm : Chans V) (k : Key) (f : Chan V → Chan V) (h : k ∉ akeys cm) :
    modChan cm k f = cm := by
  induction cm with
  | nil => rfl
  | cons p cm ih =>
    simp only [akeys, List.map_cons, List.mem_cons, not_or] at h
    have hp : (p.1 == k) = false := by simpa using fun e => h.1 e.symm
    simp only [modChan, List.map_cons, hp, Bool.false_eq_true, if_false, List.cons.injEq, true_and]
    exact ih (by simpa [akeys] using h.2)

theorem modChan_split {V} (cm : Chans V) (s : Key) (c : Chan V) (f : Chan V → Chan V) (hnd : (akeys cm).Nodup)
    (hl : alookup s cm = some c) :
    ∃ pre post, cm = pre ++ (s, c) :: post ∧ modChan cm s f = pre ++ (s, f c) :: post ∧ s ∉ akeys pre := by
  obtain ⟨pre, post, rfl⟩ := List.append_of_mem (mem_of_alookup s c cm hl)
  rw [akeys, List.map_append, List.map_cons, List.nodup_append] at hnd
  have h1 : s ∉ akeys pre := fun h => hnd.2.2 s h s (List.mem_cons_self ..) rfl
  have h2 : s ∉ akeys post := (List.nodup_cons.mp hnd.2.1).1
  have e : modChan (pre ++ (s, c) :: post) s f = modChan pre s f ++ (s, f c) :: modChan post s f := by
    simp [modChan]
  exact ⟨pre, post, rfl, by rw [e, modChan_not_mem pre s f h1, modChan_not_mem post s f h2], h1⟩

theorem modChan_eq_aset {V} (cm : Chans V) (s : Key) (c : Chan V) (f : Chan V → Chan V) (hnd : (akeys cm).Nodup)
    (hl : alookup s cm = some c) : modChan cm s f = aset s (f c) cm := by
  obtain ⟨pre, post, e, hm, hs⟩ := modChan_split cm s c f hnd hl
  rw [hm, e, aset_append_cons pre s c (f c) post hs]

theorem modChan_self {V} (cm : Chans V) (s : Key) (c : Chan V) (hnd : (akeys cm).Nodup)
    (hl : alookup s cm = some c) : modChan cm s (fun _ => c) = cm := by
  rw [modChan_eq_aset cm s c _ hnd hl, aset_of_alookup s c cm hl]

end EinoV.Engine
