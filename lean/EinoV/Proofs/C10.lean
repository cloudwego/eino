/-
  C10 — helper lemmas: slice/heap algebra, the run invariant of the copying machine,
  counting lemmas for the per-unit trace, stream-copy lemmas.
-/
import EinoV.Model.C10
import EinoV.Proofs.ListFacts

namespace EinoV.C10

theorem read_prefix (a ext : Heap) (s : Slice) (hs : s.arr < a.length) :
    Heap.read (a ++ ext) s = Heap.read a s := by
  unfold Heap.read
  rw [List.getElem?_append_left hs]

theorem read_push (h : Heap) (x : List Hd) (s : Slice) (hs : s.arr < h.length) :
    Heap.read (h ++ [x]) s = Heap.read h s :=
  read_prefix h [x] s hs

theorem read_fresh (h : Heap) (content pad : List Hd) (n c : Nat) (hn : n = content.length) :
    Heap.read (h ++ [content ++ pad]) ⟨h.length, 0, n, c⟩ = content := by
  subst hn
  unfold Heap.read
  simp

theorem copyAppend_heap (h : Heap) (s : Slice) (xs : List Hd) :
    (copyAppend h s xs).1 = h ++ [h.read s ++ xs] := rfl

theorem copyAppend_arr (h : Heap) (s : Slice) (xs : List Hd) :
    (copyAppend h s xs).2.arr = h.length := rfl

theorem copyAppend_read (h : Heap) (s : Slice) (xs : List Hd) :
    (copyAppend h s xs).1.read (copyAppend h s xs).2 = h.read s ++ xs := by
  have := read_fresh h (h.read s ++ xs) [] (h.read s ++ xs).length (h.read s ++ xs).length rfl
  rw [List.append_nil] at this
  exact this

theorem read_nil (h : Heap) : h.read Slice.nil = [] := by
  simp [Heap.read, Slice.nil]

theorem spec_none {P : Prog} {i : Nat} (h : P.units[i]? = none) : spec P i = [] := by
  rw [spec]; simp [h]

theorem spec_init {P : Prog} {i : Nat} {d : UnitDecl} {s : Slice}
    (h : P.units[i]? = some d) (hk : d.kind = .init s) : spec P i = P.arrays.read s := by
  rw [spec]; simp [h, hk]

theorem spec_append_none {P : Prog} {i : Nat} {d : UnitDecl}
    (h : P.units[i]? = some d) (hk : d.kind = .append) (hp : d.parent = none) : spec P i = d.desig := by
  rw [spec]; simp [h, hk, hp]

theorem spec_append_some {P : Prog} {i p : Nat} {d : UnitDecl}
    (h : P.units[i]? = some d) (hk : d.kind = .append) (hp : d.parent = some p) (hlt : p < i) :
    spec P i = spec P p ++ d.desig := by
  rw [spec]; simp [h, hk, hp, hlt]

theorem spec_reuse_some {P : Prog} {i p : Nat} {d : UnitDecl}
    (h : P.units[i]? = some d) (hk : d.kind = .reuse) (hp : d.parent = some p) (hlt : p < i) :
    spec P i = spec P p := by
  rw [spec]; simp [h, hk, hp, hlt]

theorem render_eq_flatMap (rev : Bool) (i : Nat) (info : String) (hs : List Hd) (ts : List Timing) :
    render rev i info hs ts = ts.flatMap fun t => (dispatch rev t hs).map (fun h => ⟨i, info, h, t⟩) := by
  induction ts with
  | nil => rfl
  | cons a ts ih => rw [render, ih, List.flatMap_cons]

theorem render_append (rev : Bool) (i : Nat) (info : String) (hs : List Hd) (ts : List Timing) (t : Timing) :
    render rev i info hs (ts ++ [t]) = render rev i info hs ts ++ (dispatch rev t hs).map (fun h => ⟨i, info, h, t⟩) := by
  simp [render_eq_flatMap]

theorem projLog_append (l1 l2 : List LogEv) (i : Nat) :
    projLog (l1 ++ l2) i = projLog l1 i ++ projLog l2 i := by
  simp [projLog]

theorem projLog_map_same (i : Nat) (info : String) (t : Timing) (hs : List Hd) :
    projLog (hs.map (fun h => (⟨i, info, h, t⟩ : LogEv))) i = hs.map (fun h => ⟨i, info, h, t⟩) := by
  exact List.filter_eq_self.mpr (by simp)

theorem projLog_map_other (i j : Nat) (hne : j ≠ i) (info : String) (t : Timing) (hs : List Hd) :
    projLog (hs.map (fun h => (⟨i, info, h, t⟩ : LogEv))) j = [] := by
  exact List.filter_eq_nil_iff.mpr (by simpa using fun _ _ => hne.symm)

/-- Run invariant of the copying machine, under any interleaving of the units.  `heapPre`: the caller's
    arrays stay in front of the heap, unchanged; `ctx`: a unit's context holds a slice that reads as the
    specification's list `spec P i`; `par`: a unit that has its context has an earlier parent that has one
    (`handlersFor_parent`); `log`: unit `i`'s part of the log is `render` of the timings it
    has fired — counting (`Inv.countEv_eq`) reads everything off this clause. -/
structure Inv (F : Facts) (P : Prog) (st : St) : Prop where
  heapPre : ∃ ext, st.heap = P.arrays ++ ext
  ctx : ∀ i c, st.ctxs i = some c →
    c.slice.arr < st.heap.length ∧ st.heap.read c.slice = spec P i ∧ c.info = unitInfo P i
  par : ∀ i c d p, st.ctxs i = some c → P.units[i]? = some d →
    (∀ s, d.kind ≠ .init s) → d.parent = some p → p < i ∧ ∃ cp, st.ctxs p = some cp
  log : ∀ i, projLog st.log i =
    render F.startReversed i (unitInfo P i) (spec P i ++ P.globals) ((unitProg P i).take (st.pc i))

theorem inv_init (F : Facts) (P : Prog) : Inv F P (St.init P) where
  heapPre := ⟨[], by simp [St.init]⟩
  ctx := by intro i c h; simp [St.init] at h
  par := by intro i c d p h; simp [St.init] at h
  log := by intro i; simp [St.init, projLog, render]

theorem upd_same {α : Type} (f : Nat → α) (i : Nat) (v : α) : upd f i v i = v := by simp [upd]
theorem upd_other {α : Type} (f : Nat → α) (i j : Nat) (v : α) (h : j ≠ i) : upd f i v j = f j := by
  simp [upd, h]

theorem unitInfo_of {P : Prog} {i : Nat} {d : UnitDecl} (h : P.units[i]? = some d) : unitInfo P i = d.info := by
  simp [unitInfo, h]
theorem unitProg_of {P : Prog} {i : Nat} {d : UnitDecl} (h : P.units[i]? = some d) : unitProg P i = d.prog := by
  simp [unitProg, h]

theorem parentSlice_of_root {st : St} {d : UnitDecl} {i : Nat} {ps : Slice} (h : parentSlice st d i = some ps)
    (hp : d.parent = none) : d.kind ≠ .reuse ∧ ps = Slice.nil := by
  simp only [parentSlice, hp] at h
  split at h
  · cases h
  · exact ⟨‹_›, (Option.some.inj h).symm⟩

theorem parentSlice_of_parent {st : St} {d : UnitDecl} {i p : Nat} {ps : Slice} (h : parentSlice st d i = some ps)
    (hp : d.parent = some p) : p < i ∧ ∃ cp, st.ctxs p = some cp ∧ cp.slice = ps := by
  simp only [parentSlice, hp] at h
  split at h
  · exact ⟨‹_›, Option.map_eq_some_iff.mp h⟩
  · cases h

/-- Unit `i` gets its context.  This is all three kinds of `doMk`. -/
theorem inv_install {F : Facts} {P : Prog} {st : St} (inv : Inv F P st) {i : Nat} {d : UnitDecl}
    (hd : P.units[i]? = some d) (hnone : st.ctxs i = none) {H : Heap} {S : Slice}
    (hext : ∃ e, H = st.heap ++ e) (hS : S.arr < H.length) (hread : H.read S = spec P i)
    (hpar : (∀ s, d.kind ≠ .init s) → ∃ ps, parentSlice st d i = some ps) :
    Inv F P { st with heap := H, ctxs := upd st.ctxs i (some ⟨S, d.info⟩) } := by
  obtain ⟨e, rfl⟩ := hext
  -- a context that exists keeps existing: it is not `i`'s
  have keep : ∀ p cp, st.ctxs p = some cp → upd st.ctxs i (some ⟨S, d.info⟩) p = some cp := by
    intro p cp hcp
    rw [upd_other _ _ _ _ (fun hpi => by rw [hpi, hnone] at hcp; cases hcp)]
    exact hcp
  refine ⟨?_, fun j c hj => ?_, fun j c d' p hj hd' hni hp => ?_, inv.log⟩
  · obtain ⟨ext, hext⟩ := inv.heapPre
    exact ⟨ext ++ e, by rw [hext, List.append_assoc]⟩
  · by_cases hji : j = i
    · subst hji
      cases (upd_same _ _ _).symm.trans hj
      exact ⟨hS, hread, (unitInfo_of hd).symm⟩
    · obtain ⟨h1, h2, h3⟩ := inv.ctx j c ((upd_other _ _ _ _ hji).symm.trans hj)
      exact ⟨by rw [List.length_append]; omega, by rw [← h2]; exact read_prefix _ _ _ h1, h3⟩
  · by_cases hji : j = i
    · subst hji
      cases hd.symm.trans hd'
      obtain ⟨ps, hps⟩ := hpar hni
      obtain ⟨hlt, cp, hcp, _⟩ := parentSlice_of_parent hps hp
      exact ⟨hlt, cp, keep p cp hcp⟩
    · obtain ⟨hlt, cp, hcp⟩ := inv.par j c d' p ((upd_other _ _ _ _ hji).symm.trans hj) hd' hni hp
      exact ⟨hlt, cp, keep p cp hcp⟩

theorem inv_doMk {F : Facts} {P : Prog} {st : St} (hc : F.appendCopies = true) (hi : F.initInstalls = true)
    (inv : Inv F P st) (i : Nat) : Inv F P (doMk F P st i) := by
  unfold doMk
  split
  · exact inv
  · rename_i d hd
    split
    · exact inv
    · rename_i hnew
      have hnone : st.ctxs i = none := by simpa using hnew
      split
      · -- init
        rename_i s hk
        split
        · rename_i hs'
          have hs : s.arr < P.arrays.length := by
            simp only [Bool.and_eq_true, decide_eq_true_eq] at hs'
            exact hs'.1
          obtain ⟨ext, hext⟩ := inv.heapPre
          have hctx : initCtx F P st d s = ⟨s, d.info⟩ := by simp [initCtx, hi]
          rw [hctx]
          exact inv_install inv hd hnone ⟨[], (List.append_nil _).symm⟩
            (by rw [hext, List.length_append]; omega)
            (by rw [spec_init hd hk, hext, read_prefix _ _ _ hs])
            (fun hni => absurd hk (hni s))
        · exact inv
      · -- append
        rename_i hk
        split
        · exact inv
        · rename_i ps hps
          simp only [appendH, hc, if_true]
          have hspec : st.heap.read ps ++ d.desig = spec P i := by
            cases hp : d.parent with
            | none => rw [(parentSlice_of_root hps hp).2, read_nil, spec_append_none hd hk hp]; rfl
            | some p =>
              obtain ⟨hlt, cp, hcp, rfl⟩ := parentSlice_of_parent hps hp
              rw [spec_append_some hd hk hp hlt, (inv.ctx p cp hcp).2.1]
          exact inv_install inv hd hnone ⟨_, copyAppend_heap _ _ _⟩
            (by rw [copyAppend_arr, copyAppend_heap]; simp)
            (by rw [copyAppend_read, hspec]) (fun _ => ⟨_, hps⟩)
      · -- reuse
        rename_i hk
        split
        · exact inv
        · rename_i ps hps
          cases hp : d.parent with
          | none => exact absurd hk (parentSlice_of_root hps hp).1
          | some p =>
            obtain ⟨hlt, cp, hcp, rfl⟩ := parentSlice_of_parent hps hp
            obtain ⟨h1, h2, _⟩ := inv.ctx p cp hcp
            exact inv_install inv hd hnone ⟨[], (List.append_nil _).symm⟩ h1
              (by rw [h2, spec_reuse_some hd hk hp hlt]) (fun _ => ⟨_, hps⟩)

theorem inv_doStep {F : Facts} {P : Prog} {st : St} (ho : F.onCopies = true)
    (inv : Inv F P st) (i : Nat) : Inv F P (doStep F P st i) := by
  unfold doStep
  split
  · rename_i d c hd hc
    split
    · exact inv
    · rename_i t ht
      simp only [onList, ho, if_true]
      obtain ⟨_, hread, hinfo⟩ := inv.ctx i c hc
      refine ⟨inv.heapPre, inv.ctx, inv.par, ?_⟩
      intro j
      show projLog (st.log ++ _) j = render _ j _ _ (List.take (upd st.pc i (st.pc i + 1) j) (unitProg P j))
      rw [projLog_append, inv.log j]
      by_cases hji : j = i
      · subst hji
        rw [upd_same, projLog_map_same, hread, hinfo, unitProg_of hd, take_succ_of_getElem? ht, render_append]
      · rw [upd_other _ _ _ _ hji, projLog_map_other _ _ hji, List.append_nil]
  · exact inv

theorem inv_runFrom {F : Facts} {P : Prog} (hc : F.appendCopies = true) (ho : F.onCopies = true)
    (hi : F.initInstalls = true)
    (evs : List Ev) : ∀ st, Inv F P st → Inv F P (runFrom F P st evs) := by
  induction evs with
  | nil => intro st h; exact h
  | cons e es ih =>
    intro st h
    apply ih
    cases e with
    | mk i => exact inv_doMk hc hi h i
    | step i => exact inv_doStep ho h i

theorem inv_run {F : Facts} {P : Prog} (hc : F.appendCopies = true) (ho : F.onCopies = true)
    (hi : F.initInstalls = true)
    (evs : List Ev) : Inv F P (run F P evs) :=
  inv_runFrom hc ho hi evs _ (inv_init F P)

theorem handlersFor_some {st : St} {i : Nat} {hs : List Hd} (h : handlersFor st i = some hs) :
    ∃ c, st.ctxs i = some c ∧ st.heap.read c.slice = hs := by
  cases hc : st.ctxs i with
  | none => simp [handlersFor, hc] at h
  | some c => exact ⟨c, rfl, by simpa [handlersFor, hc] using h⟩

theorem handlersFor_spec {F : Facts} {P : Prog} {st : St} (inv : Inv F P st) {i : Nat} {hs : List Hd}
    (h : handlersFor st i = some hs) : hs = spec P i := by
  obtain ⟨c, hc, rfl⟩ := handlersFor_some h
  exact (inv.ctx i c hc).2.1

theorem handlersFor_parent {F : Facts} {P : Prog} {st : St} (inv : Inv F P st) {i p : Nat}
    {hs : List Hd} {d : UnitDecl} (h : handlersFor st i = some hs) (hd : P.units[i]? = some d)
    (hni : ∀ s, d.kind ≠ .init s) (hp : d.parent = some p) :
    p < i ∧ handlersFor st p = some (spec P p) := by
  obtain ⟨c, hc, _⟩ := handlersFor_some h
  obtain ⟨hlt, cp, hcp⟩ := inv.par i c d p hc hd hni hp
  exact ⟨hlt, by simp [handlersFor, hcp, (inv.ctx p cp hcp).2.1]⟩

/-- how often handler `h` was called at timing `t` for unit `i`: the quantity in which "exactly once per
    occurrence in the list" is stated (`countStart` / `countFinish` of `Proofs/C10Runs.lean`) -/
def countEv (log : List LogEv) (i : Nat) (h : Hd) (t : Timing) : Nat :=
  (log.filter (fun e => e.unit == i && e.h == h && e.t == t)).length

theorem countEv_proj (log : List LogEv) (i : Nat) (h : Hd) (t : Timing) :
    countEv log i h t = countEv (projLog log i) i h t := by
  unfold countEv projLog
  rw [List.filter_filter]
  congr 1
  apply List.filter_congr
  intro e _
  cases h1 : e.unit == i <;> simp

theorem countEv_append (l1 l2 : List LogEv) (i : Nat) (h : Hd) (t : Timing) :
    countEv (l1 ++ l2) i h t = countEv l1 i h t + countEv l2 i h t := by
  simp [countEv]

theorem count_filter_needed (t : Timing) (hs : List Hd) (h : Hd) :
    (hs.filter (fun x => x.needed t)).count h = if h.needed t then hs.count h else 0 := by
  split
  · exact List.count_filter ‹_›
  · exact List.count_eq_zero_of_not_mem fun hm => ‹¬ _› (List.mem_filter.mp hm).2

theorem count_dispatch (rev : Bool) (t : Timing) (hs : List Hd) (h : Hd) :
    (dispatch rev t hs).count h = if h.needed t then hs.count h else 0 := by
  unfold dispatch
  split
  · rw [List.count_reverse, count_filter_needed]
  · exact count_filter_needed t hs h

theorem mem_dispatch {rev : Bool} {t : Timing} {hs : List Hd} {h : Hd} (hm : h ∈ dispatch rev t hs) :
    h ∈ hs ∧ h.needed t = true := by
  unfold dispatch at hm
  split at hm
  · rw [List.mem_reverse, List.mem_filter] at hm; exact hm
  · rw [List.mem_filter] at hm; exact hm

theorem countEv_map (i : Nat) (info : String) (t : Timing) (l : List Hd) (h : Hd) (t0 : Timing) :
    countEv (l.map (fun x => (⟨i, info, x, t⟩ : LogEv))) i h t0 = if t = t0 then l.count h else 0 := by
  unfold countEv
  rw [List.filter_map, List.length_map, ← List.countP_eq_length_filter]
  by_cases ht : t = t0
  · simp [ht, List.count, Function.comp_def]
  · simp [ht, Function.comp_def]

theorem countEv_render (rev : Bool) (i : Nat) (info : String) (hs : List Hd) (ts : List Timing)
    (h : Hd) (t : Timing) :
    countEv (render rev i info hs ts) i h t = ts.count t * (if h.needed t then hs.count h else 0) := by
  induction ts with
  | nil => simp [render, countEv]
  | cons a ts ih =>
    rw [render, countEv_append, ih, countEv_map, List.count_cons]
    by_cases hat : a = t
    · subst hat; simp [count_dispatch, Nat.add_mul, Nat.add_comm]
    · have : (a == t) = false := by simpa using hat
      simp [hat, this]

theorem mem_render {rev : Bool} {i : Nat} {info : String} {hs : List Hd} {ts : List Timing} {e : LogEv}
    (hm : e ∈ render rev i info hs ts) : e.unit = i ∧ e.info = info ∧ e.h ∈ hs ∧ e.h.needed e.t = true ∧ e.t ∈ ts := by
  rw [render_eq_flatMap, List.mem_flatMap] at hm
  obtain ⟨t, ht, hm⟩ := hm
  obtain ⟨x, hx, rfl⟩ := List.mem_map.mp hm
  exact ⟨rfl, rfl, (mem_dispatch hx).1, (mem_dispatch hx).2, ht⟩

theorem mem_projLog {log : List LogEv} {e : LogEv} (hm : e ∈ log) : e ∈ projLog log e.unit := by
  simp [projLog, hm]

theorem recv_frame (c : Copies) (r : Nat) :
    (c.recv r).1.buf ++ (c.recv r).1.src = c.buf ++ c.src ∧
    ∀ r', r' ≠ r → (c.recv r).1.cur[r']? = c.cur[r']? := by
  unfold Copies.recv
  split
  · split
    · exact ⟨rfl, fun _ h => List.getElem?_set_ne h.symm⟩
    · split
      · exact ⟨rfl, fun _ _ => rfl⟩
      · next x xs hsrc => exact ⟨by rw [hsrc]; simp, fun _ h => List.getElem?_set_ne h.symm⟩
  · exact ⟨rfl, fun _ _ => rfl⟩

theorem recv_at {c : Copies} {r k : Nat} (hk : c.cur[r]? = some (some k)) (hkb : k ≤ c.buf.length) :
    (c.recv r).2 = (c.buf ++ c.src)[k]? ∧
    ((c.recv r).2.isSome → (c.recv r).1.cur[r]? = some (some (k + 1)) ∧ k + 1 ≤ (c.recv r).1.buf.length) := by
  have hset : (c.cur.set r (some (k + 1)))[r]? = some (some (k + 1)) :=
    List.getElem?_set_self (List.getElem?_eq_some_iff.mp hk).1
  obtain ⟨src, buf, cur⟩ := c
  simp only [Copies.recv, hk] at hkb ⊢
  rcases Nat.lt_or_eq_of_le hkb with hlt | rfl
  · rw [if_pos hlt, List.getElem?_append_left hlt]
    exact ⟨rfl, fun _ => ⟨hset, hlt⟩⟩
  · rw [if_neg (Nat.lt_irrefl _)]
    cases src with
    | nil => exact ⟨by simp, fun h => by cases h⟩
    | cons x xs => exact ⟨by simp, fun _ => ⟨hset, by simp⟩⟩

theorem drain_eq (fuel : Nat) : ∀ (c : Copies) (r k : Nat), c.cur[r]? = some (some k) → k ≤ c.buf.length →
    (c.buf ++ c.src).length - k ≤ fuel → c.drain r fuel = (c.buf ++ c.src).drop k := by
  induction fuel with
  | zero =>
    intro c r k _ _ hf
    rw [Copies.drain, List.drop_eq_nil_of_le (by omega)]
  | succ fuel ih =>
    intro c r k hk hkb hf
    obtain ⟨hres, hnext⟩ := recv_at hk hkb
    have hall := (recv_frame c r).1
    rw [Copies.drain]
    generalize c.recv r = p at hres hnext hall
    obtain ⟨c', _ | x⟩ := p
    · exact (List.drop_eq_nil_of_le (List.getElem?_eq_none_iff.mp hres.symm)).symm
    · obtain ⟨hcur, hb⟩ := hnext rfl
      obtain ⟨hlt, hx⟩ := List.getElem?_eq_some_iff.mp hres.symm
      simp only at hall hcur hb ⊢
      rw [ih c' r (k + 1) hcur hb (by rw [hall]; omega), hall, List.drop_eq_getElem_cons hlt, hx]

/-- what the other readers' operations leave true of a copied stream (`good_apply`), from reader
    `flow`'s side: nothing is lost (`all`: buffered ++ still in the source = the items) and `flow`'s
    own cursor is still at the start (`cur`); so `flow` then drains all items (`drain_after_others`) -/
structure GoodCopies (items : List Nat) (flow : Nat) (c : Copies) : Prop where
  all : c.buf ++ c.src = items
  cur : c.cur[flow]? = some (some 0)

theorem good_apply {items : List Nat} {flow : Nat} {c : Copies} (g : GoodCopies items flow c)
    (op : ROp) (hne : op.reader ≠ flow) : GoodCopies items flow (c.apply op) := by
  cases op with
  | close r => exact ⟨g.all, (List.getElem?_set_ne hne).trans g.cur⟩
  | recv r => exact ⟨(recv_frame c r).1.trans g.all, ((recv_frame c r).2 flow hne.symm).trans g.cur⟩

theorem good_foldl {items : List Nat} {flow : Nat} (ops : List ROp) :
    ∀ c, GoodCopies items flow c → (∀ op ∈ ops, op.reader ≠ flow) →
      GoodCopies items flow (ops.foldl Copies.apply c) :=
  fun c g h => foldl_inv (GoodCopies items flow) _ ops (fun _ g op hop => good_apply g op (h op hop)) c g

theorem drain_after_others (items : List Nat) (n flow : Nat) (hflow : flow < n) (ops : List ROp)
    (hothers : ∀ op ∈ ops, op.reader ≠ flow) :
    (ops.foldl Copies.apply (Copies.mk' items n)).drain flow items.length = items := by
  have g0 : GoodCopies items flow (Copies.mk' items n) :=
    ⟨by simp [Copies.mk'], by simp [Copies.mk', hflow]⟩
  have g := good_foldl ops _ g0 hothers
  rw [drain_eq items.length _ flow 0 g.cur (Nat.zero_le _) (by rw [g.all]; omega), g.all, List.drop_zero]

theorem Hd.needed_of_mask_none {h : Hd} (hall : h.mask = none) (t : Timing) : h.needed t = true := by
  simp [Hd.needed, hall]

theorem Inv.countEv_eq {F : Facts} {P : Prog} {st : St} (inv : Inv F P st) (i : Nat) (h : Hd) (t : Timing) :
    countEv st.log i h t = ((unitProg P i).take (st.pc i)).count t *
      (if h.needed t then (spec P i ++ P.globals).count h else 0) := by
  rw [countEv_proj, inv.log]
  exact countEv_render _ _ _ _ _ _ _

theorem count_start_kinds (ts : List Timing) :
    ts.count .start + ts.count .startStream = ts.countP (·.isStart) := by
  induction ts with
  | nil => rfl
  | cons a ts ih =>
    have : (if a == .start then 1 else 0) + (if a == .startStream then 1 else 0)
        = if a.isStart = true then 1 else 0 := by cases a <;> rfl
    rw [List.count_cons, List.count_cons, List.countP_cons, ← ih, ← this]
    exact Nat.add_add_add_comm ..

theorem count_finish_kinds (ts : List Timing) :
    ts.count .end_ + ts.count .error + ts.count .endStream = ts.countP (!·.isStart) := by
  induction ts with
  | nil => rfl
  | cons a ts ih =>
    have : (if a == .end_ then 1 else 0) + (if a == .error then 1 else 0) + (if a == .endStream then 1 else 0)
        = if (!a.isStart) = true then 1 else 0 := by cases a <;> rfl
    rw [List.count_cons, List.count_cons, List.count_cons, List.countP_cons, ← ih, ← this]
    ac_rfl

end EinoV.C10
