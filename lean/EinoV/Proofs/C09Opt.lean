/-
  C09 — call options of concurrent runs: the run invariant of the copying `extractOption`
  under Go slice semantics (heap/slice algebra of the C10 model) and the invariant of a
  ToolsNode run that converts its `WithToolList` option into locals.
-/
import EinoV.Model.C09Opt
import EinoV.Proofs.C10
import EinoV.Proofs.Sched
import EinoV.Proofs.ListFacts

namespace EinoV.C09.Opt
open EinoV.C10

theorem writeAt_nil (a : List Hd) (pos : Nat) : writeAt a pos [] = a := by
  simp [writeAt]

theorem writeAt_length (a : List Hd) (pos : Nat) (xs : List Hd) (h : pos + xs.length ≤ a.length) :
    (writeAt a pos xs).length = a.length :=
  length_overwrite a xs h

theorem writeAt_read (a xs : List Hd) (off len : Nat) (h : off + len + xs.length ≤ a.length) :
    ((writeAt a (off + len) xs).drop off).take (len + xs.length) = (a.drop off).take len ++ xs := by
  have hle : off + len ≤ a.length := Nat.le_of_add_right_le h
  -- the window is what is left of the first `off + len + xs.length` cells without the first `off`
  rw [List.take_drop, ← Nat.add_assoc, writeAt, take_overwrite _ _ _ hle,
    List.drop_append_of_le_length (by rw [List.length_take_of_le hle]; exact Nat.le_add_right ..),
    ← List.take_drop]

def arrOf (h : Heap) (a : Nat) : List Hd := (h[a]?).getD []

theorem read_eq (h : Heap) (s : Slice) : h.read s = ((arrOf h s.arr).drop s.off).take s.len := rfl

theorem read_congr {h h' : Heap} {s : Slice} (e : h'[s.arr]? = h[s.arr]?) : h'.read s = h.read s := by
  simp [Heap.read, e]

theorem roundCap_ge (c : Nat) : c ≤ roundCap c := by
  unfold roundCap
  split
  · omega
  · split <;> omega

theorem growCap_ge (old need : Nat) : need ≤ growCap old need := by
  unfold growCap
  refine Nat.le_trans ?_ (roundCap_ge _)
  split
  · omega
  · split <;> omega

def Owned (n0 : Nat) (h : Heap) (s : Slice) : Prop :=
  (s.len = 0 ∧ s.cap = 0) ∨
  (n0 ≤ s.arr ∧ s.arr < h.length ∧ s.len ≤ s.cap ∧ s.off + s.cap ≤ (arrOf h s.arr).length)

theorem read_empty (h : Heap) (s : Slice) (e : s.len = 0) : h.read s = [] := by
  simp [Heap.read, e]

theorem goAppend_inplace (h : Heap) (s : Slice) (xs : List Hd) (hc : s.len + xs.length ≤ s.cap) :
    goAppend h s xs =
      (h.set s.arr (writeAt (arrOf h s.arr) (s.off + s.len) xs), { s with len := s.len + xs.length }) := by
  simp [goAppend, hc, arrOf]

theorem goAppend_alloc (h : Heap) (s : Slice) (xs : List Hd) (hc : ¬ s.len + xs.length ≤ s.cap) :
    goAppend h s xs =
      (h ++ [(h.read s ++ xs) ++ List.replicate (growCap s.cap (h.read s ++ xs).length - (h.read s ++ xs).length) default],
       { arr := h.length, off := 0, len := (h.read s ++ xs).length, cap := growCap s.cap (h.read s ++ xs).length }) := by
  simp [goAppend, hc]


theorem arrOf_set_self {h : Heap} {a : Nat} (v : List Hd) (ha : a < h.length) : arrOf (h.set a v) a = v := by
  rw [arrOf, List.getElem?_set_self ha]; rfl

theorem set_arrOf (h : Heap) (a : Nat) : h.set a (arrOf h a) = h := by
  by_cases ha : a < h.length
  · rw [arrOf, List.getElem?_eq_getElem ha]; exact List.set_getElem_self ha
  · exact List.set_eq_of_length_le (Nat.le_of_not_lt ha)

theorem goAppend_nil (h : Heap) (s : Slice) (hc : s.len ≤ s.cap) : goAppend h s [] = (h, s) := by
  rw [goAppend_inplace h s [] hc, writeAt_nil, set_arrOf]; rfl

theorem owned_fresh {n0 : Nat} {h : Heap} (hn : n0 ≤ h.length) (content : List Hd) {c : Nat}
    (hc : content.length ≤ c) :
    Owned n0 (h ++ [content ++ List.replicate (c - content.length) default]) ⟨h.length, 0, content.length, c⟩ := by
  refine .inr ⟨hn, by simp, hc, ?_⟩
  simp only [arrOf, List.getElem?_concat_length, Option.getD_some, List.length_append, List.length_replicate,
    Nat.add_sub_of_le hc, Nat.zero_add, Nat.le_refl]

structure AppendSpec (n0 : Nat) (h : Heap) (s : Slice) (xs : List Hd) (r : Heap × Slice) : Prop where
  len : h.length ≤ r.1.length
  frame : ∀ a, a < h.length → (s.cap = 0 ∨ a ≠ s.arr) → r.1[a]? = h[a]?
  owned : Owned n0 r.1 r.2
  read : r.1.read r.2 = h.read s ++ xs
  arr : r.2.cap ≠ 0 → (r.2.arr = s.arr ∧ s.cap ≠ 0) ∨ (r.2.arr = h.length)

theorem goAppend_spec (n0 : Nat) (h : Heap) (s : Slice) (xs : List Hd)
    (ho : Owned n0 h s) (hn : n0 ≤ h.length) : AppendSpec n0 h s xs (goAppend h s xs) := by
  by_cases hc : s.len + xs.length ≤ s.cap
  · by_cases hz : s.cap = 0
    ·
      obtain rfl : xs = [] := List.eq_nil_of_length_eq_zero (by omega)
      rw [goAppend_nil h s hc]
      exact ⟨Nat.le_refl _, fun _ _ _ => rfl, ho, (List.append_nil _).symm, fun h' => absurd hz h'⟩
    · rcases ho with ⟨_, hz'⟩ | ⟨h1, h2, h3, h4⟩
      · exact absurd hz' hz
      · have hw : s.off + s.len + xs.length ≤ (arrOf h s.arr).length := by omega
        rw [goAppend_inplace h s xs hc]
        refine ⟨Nat.le_of_eq List.length_set.symm, fun a _ hne => ?_,
          .inr ⟨h1, Nat.lt_of_lt_of_eq h2 List.length_set.symm, hc, ?_⟩, ?_, fun hc' => .inl ⟨rfl, hc'⟩⟩
        · exact List.getElem?_set_ne (hne.resolve_left hz).symm
        · rw [arrOf_set_self _ h2, writeAt_length _ _ _ hw]
          exact h4
        · rw [read_eq, arrOf_set_self _ h2]
          exact writeAt_read _ _ _ _ hw
  · rw [goAppend_alloc h s xs hc]
    exact ⟨by simp, fun a ha _ => List.getElem?_append_left ha, owned_fresh hn _ (growCap_ge ..),
      read_fresh h _ _ _ _ rfl, fun _ => .inr rfl⟩

theorem owned_cap_zero {n0 : Nat} {h : Heap} {s : Slice} (ho : Owned n0 h s) (hz : s.cap = 0) :
    s.len = 0 := by
  rcases ho with ⟨h1, _⟩ | ⟨_, _, h3, _⟩
  · exact h1
  · omega

theorem Owned.mono {n0 : Nat} {h h' : Heap} {s : Slice} (ho : Owned n0 h s) (hl : h.length ≤ h'.length)
    (e : s.arr < h.length → h'[s.arr]? = h[s.arr]?) : Owned n0 h' s := by
  rcases ho with hz | ⟨h1, h2, h3, h4⟩
  · exact .inl hz
  · exact .inr ⟨h1, Nat.lt_of_lt_of_le h2 hl, h3, by rw [arrOf, e h2]; exact h4⟩

/-! What the option-extraction machine below and the handler-collection machine of
`Proofs/C09Cb.lean` have in common: every thread `t` grows a slice `acc t` by `append`, over a heap
whose first `h0.length` arrays are the caller's. -/

/-- A family of accumulators: thread `t` owns the slice `acc t` (`own`), no two of them share an
    array (`dist`), and the caller's arrays are as in `h0` (`len`, `pre`). `Inv` below and `Inv` of
    `Proofs/C09Cb.lean` repeat these four fields for their states (`fam_of_inv`) and add what each
    machine says about contents. -/
structure Fam (h0 h : Heap) (acc : Nat → Slice) : Prop where
  len : h0.length ≤ h.length
  pre : ∀ a, a < h0.length → h[a]? = h0[a]?
  own : ∀ t, Owned h0.length h (acc t)
  dist : ∀ t t', t ≠ t' → (acc t).cap ≠ 0 → (acc t').cap ≠ 0 → (acc t).arr ≠ (acc t').arr

/-- a slice no thread can write through -/
def Clear (h : Heap) (acc : Nat → Slice) (s : Slice) : Prop :=
  s.len = 0 ∨ (s.arr < h.length ∧ ∀ t, (acc t).cap ≠ 0 → s.arr ≠ (acc t).arr)

namespace Fam
variable {h0 h : Heap} {acc acc' : Nat → Slice}

theorem frame (F : Fam h0 h acc) (t : Nat) (xs : List Hd) {a : Nat} (ha : a < h.length)
    (hne : (acc t).cap ≠ 0 → a ≠ (acc t).arr) : (goAppend h (acc t) xs).1[a]? = h[a]? := by
  refine (goAppend_spec _ h _ xs (F.own t) F.len).frame a ha ?_
  by_cases hz : (acc t).cap = 0
  · exact .inl hz
  · exact .inr (hne hz)

theorem read_clear (F : Fam h0 h acc) (t : Nat) (xs : List Hd) {s : Slice} (hs : Clear h acc s) :
    (goAppend h (acc t) xs).1.read s = h.read s := by
  rcases hs with hl | ⟨hlt, hne⟩
  · rw [read_empty _ _ hl, read_empty _ _ hl]
  · exact read_congr (F.frame t xs hlt (hne t))

theorem other (F : Fam h0 h acc) {t u : Nat} (hne : u ≠ t) :
    (acc u).cap = 0 ∨ ((acc u).arr < h.length ∧ ((acc t).cap ≠ 0 → (acc u).arr ≠ (acc t).arr)) := by
  by_cases hz : (acc u).cap = 0
  · exact .inl hz
  · rcases F.own u with ⟨_, hz'⟩ | ⟨_, h2, _, _⟩
    · exact absurd hz' hz
    · exact .inr ⟨h2, fun hc => (F.dist t u (Ne.symm hne) hc hz).symm⟩

theorem read_other (F : Fam h0 h acc) {t u : Nat} (hne : u ≠ t) (xs : List Hd) :
    (goAppend h (acc t) xs).1.read (acc u) = h.read (acc u) := by
  rcases F.other hne with hz | ⟨hlt, hd⟩
  · have hl := owned_cap_zero (F.own u) hz
    rw [read_empty _ _ hl, read_empty _ _ hl]
  · exact read_congr (F.frame t xs hlt hd)

theorem arr_append (F : Fam h0 h acc) (t : Nat) (xs : List Hd) {a : Nat} (ha : a < h.length)
    (hne : (acc t).cap ≠ 0 → a ≠ (acc t).arr) (hc : (goAppend h (acc t) xs).2.cap ≠ 0) :
    a ≠ (goAppend h (acc t) xs).2.arr := by
  rcases (goAppend_spec _ h _ xs (F.own t) F.len).arr hc with ⟨e, hc0⟩ | e
  · rw [e]; exact hne hc0
  · omega

theorem append (F : Fam h0 h acc) (t : Nat) (xs : List Hd)
    (ht : acc' t = (goAppend h (acc t) xs).2) (ho : ∀ u, u ≠ t → acc' u = acc u) :
    Fam h0 (goAppend h (acc t) xs).1 acc' := by
  have sp := goAppend_spec h0.length h (acc t) xs (F.own t) F.len
  have harr : ∀ u, u ≠ t → (acc' t).cap ≠ 0 → (acc u).cap ≠ 0 → (acc u).arr ≠ (acc' t).arr := by
    intro u hu h1 h2
    rw [ht] at h1 ⊢
    rcases F.other hu with hz | ⟨hlt, hd⟩
    · exact absurd hz h2
    · exact F.arr_append t xs hlt hd h1
  refine ⟨Nat.le_trans F.len sp.len, fun a ha => ?_, fun u => ?_, fun t1 t2 hne h1 h2 => ?_⟩
  · rw [F.frame t xs (Nat.lt_of_lt_of_le ha F.len), F.pre a ha]
    intro hc
    rcases F.own t with ⟨_, hz⟩ | ⟨h1, _⟩ <;> omega
  · by_cases e : u = t
    · rw [e, ht]; exact sp.owned
    · rw [ho u e]
      rcases F.other e with hz | ⟨hlt, hd⟩
      · exact .inl ⟨owned_cap_zero (F.own u) hz, hz⟩
      · exact (F.own u).mono sp.len fun _ => F.frame t xs hlt hd
  · by_cases e1 : t1 = t
    · subst e1
      have e2 : t2 ≠ t1 := Ne.symm hne
      rw [ho t2 e2] at h2 ⊢
      exact (harr t2 e2 h1 h2).symm
    · rw [ho t1 e1] at h1 ⊢
      by_cases e2 : t2 = t
      · subst e2
        exact harr t1 e1 h2 h1
      · rw [ho t2 e2] at h2 ⊢
        exact F.dist t1 t2 hne h1 h2

theorem clear_append (F : Fam h0 h acc) (t : Nat) (xs : List Hd)
    (ht : acc' t = (goAppend h (acc t) xs).2) (ho : ∀ u, u ≠ t → acc' u = acc u)
    {s : Slice} (hs : Clear h acc s) : Clear (goAppend h (acc t) xs).1 acc' s := by
  rcases hs with hl | ⟨hlt, hne⟩
  · exact .inl hl
  · refine .inr ⟨Nat.lt_of_lt_of_le hlt (goAppend_spec _ h _ xs (F.own t) F.len).len, fun u hc => ?_⟩
    by_cases e : u = t
    · rw [e, ht] at hc ⊢
      exact F.arr_append t xs hlt (hne t) hc
    · rw [ho u e] at hc ⊢
      exact hne u hc

theorem shrink (F : Fam h0 h acc)
    (hs : ∀ u, acc' u = acc u ∨ ((acc' u).len = 0 ∧ (acc' u).cap = 0)) : Fam h0 h acc' := by
  refine ⟨F.len, F.pre, fun u => ?_, fun t t' hne h1 h2 => ?_⟩
  · rcases hs u with e | e
    · rw [e]; exact F.own u
    · exact .inl e
  · rcases hs t with e | e
    · rcases hs t' with e' | e'
      · rw [e] at h1 ⊢; rw [e'] at h2 ⊢; exact F.dist t t' hne h1 h2
      · exact absurd e'.2 h2
    · exact absurd e.2 h1

theorem push (F : Fam h0 h acc) (x : List Hd) : Fam h0 (h ++ [x]) acc :=
  ⟨by simp; have := F.len; omega,
   fun a ha => by rw [List.getElem?_append_left (Nat.lt_of_lt_of_le ha F.len)]; exact F.pre a ha,
   fun u => (F.own u).mono (by simp) List.getElem?_append_left, F.dist⟩

theorem clear_given_up (F : Fam h0 h acc) {t : Nat} (hz : (acc' t).cap = 0)
    (ho : ∀ u, u ≠ t → acc' u = acc u) : Clear h acc' (acc t) := by
  by_cases hz' : (acc t).cap = 0
  · exact .inl (owned_cap_zero (F.own t) hz')
  · rcases F.own t with ⟨_, hz''⟩ | ⟨_, h2, _, _⟩
    · exact absurd hz'' hz'
    · refine .inr ⟨h2, fun u hc => ?_⟩
      have e : u ≠ t := fun e => hc (e ▸ hz)
      rw [ho u e] at hc ⊢
      exact F.dist t u (Ne.symm e) hz' hc

theorem clear_fresh (F : Fam h0 h acc) (x : List Hd) {s : Slice} (hs : s.arr = h.length) :
    Clear (h ++ [x]) acc s := by
  refine .inr ⟨by simp [hs], fun u hc => ?_⟩
  rcases F.own u with ⟨_, hz⟩ | ⟨_, h2, _, _⟩
  · exact absurd hz hc
  · omega

end Fam

theorem shrink_at {acc acc' : Nat → Slice} {t : Nat}
    (ht : acc' t = acc t ∨ ((acc' t).len = 0 ∧ (acc' t).cap = 0)) (ho : ∀ u, u ≠ t → acc' u = acc u)
    (u : Nat) : acc' u = acc u ∨ ((acc' u).len = 0 ∧ (acc' u).cap = 0) := by
  by_cases e : u = t
  · exact e ▸ ht
  · exact .inl (ho u e)

theorem Clear.shrink {h : Heap} {acc acc' : Nat → Slice} {s : Slice} (c : Clear h acc s)
    (hs : ∀ u, acc' u = acc u ∨ ((acc' u).len = 0 ∧ (acc' u).cap = 0)) : Clear h acc' s :=
  c.imp_right fun ⟨hlt, hne⟩ => ⟨hlt, fun u hc => by
    rcases hs u with e | e
    · rw [e] at hc ⊢; exact hne u hc
    · exact absurd e.2 hc⟩

theorem Clear.push {h : Heap} {acc : Nat → Slice} {s : Slice} (c : Clear h acc s) (x : List Hd) :
    Clear (h ++ [x]) acc s :=
  c.imp_right fun ⟨hlt, hne⟩ => ⟨by simp; omega, hne⟩

theorem read_push_of {h : Heap} {s : Slice} (hs : s.len = 0 ∨ s.arr < h.length) (x : List Hd) :
    Heap.read (h ++ [x]) s = h.read s := by
  rcases hs with hl | hlt
  · rw [read_empty _ _ hl, read_empty _ _ hl]
  · exact read_push _ _ _ hlt

structure Inv (h0 : Heap) (prog : List (List Slice)) (st : St) : Prop where
  len : h0.length ≤ st.heap.length
  pre : ∀ a, a < h0.length → st.heap[a]? = h0[a]?
  own : ∀ t, Owned h0.length st.heap (st.th t).acc
  dist : ∀ t t', t ≠ t' → (st.th t).acc.cap ≠ 0 → (st.th t').acc.cap ≠ 0 →
    (st.th t).acc.arr ≠ (st.th t').acc.arr
  rd : ∀ t gs, prog[t]? = some gs →
    st.heap.read (st.th t).acc = ((gs.take (st.th t).pc).map h0.read).flatten
  sn : ∀ t gs r, prog[t]? = some gs → (st.th t).seen = some r → r = (gs.map h0.read).flatten

theorem fam_of_inv {h0 : Heap} {prog : List (List Slice)} {st : St} (inv : Inv h0 prog st) :
    Fam h0 st.heap fun t => (st.th t).acc :=
  ⟨inv.len, inv.pre, inv.own, inv.dist⟩

theorem inv_init (h0 : Heap) (prog : List (List Slice)) : Inv h0 prog (St.init h0) where
  len := Nat.le_refl _
  pre := fun _ _ => rfl
  own := fun _ => Or.inl ⟨rfl, rfl⟩
  dist := by intro t t' _ h; simp [St.init, TState.init, Slice.nil] at h
  rd := by intro t gs _; simp [St.init, TState.init, read_nil]
  sn := by intro t gs r _ h; simp [St.init, TState.init] at h

theorem upd_same (f : Nat → TState) (i : Nat) (v : TState) : upd f i v i = v := by simp [upd]
theorem upd_other (f : Nat → TState) (i j : Nat) (v : TState) (h : j ≠ i) : upd f i v j = f j := by
  simp [upd, h]

/-- Of the content clauses only those of `t` are asked for: another thread keeps its own as long
    as `H` reads its slice as before. -/
theorem Inv.move {h0 : Heap} {prog : List (List Slice)} {st : St} (inv : Inv h0 prog st) {H : Heap}
    {t : Nat} {v : TState} {gs : List Slice} (hgs : prog[t]? = some gs)
    (store : ∀ acc' : Nat → Slice, acc' t = v.acc → (∀ u, u ≠ t → acc' u = (st.th u).acc) → Fam h0 H acc')
    (frame : ∀ u, u ≠ t → H.read (st.th u).acc = st.heap.read (st.th u).acc)
    (rd : H.read v.acc = ((gs.take v.pc).map h0.read).flatten)
    (sn : ∀ r, v.seen = some r → r = (gs.map h0.read).flatten) :
    Inv h0 prog ⟨H, upd st.th t v⟩ := by
  have F := store (fun u => (upd st.th t v u).acc) (by rw [upd_same]) (fun u e => by rw [upd_other _ _ _ _ e])
  refine ⟨F.len, F.pre, F.own, F.dist, fun u gu hu => ?_, fun u gu r hu hs => ?_⟩
  all_goals dsimp only at *; by_cases e : u = t
  · subst e; cases hgs.symm.trans hu; rw [upd_same]; exact rd
  · rw [upd_other _ _ _ _ e, frame u e]; exact inv.rd u gu hu
  · subst e; cases hgs.symm.trans hu; rw [upd_same] at hs; exact sn r hs
  · rw [upd_other _ _ _ _ e] at hs; exact inv.sn u gu r hu hs

/-- `step true`: the flag is `copies` (`Model/C09Opt.lean`), true for the code: `extractOption`
    always appends to the thread's own slice, the first group included. -/
theorem inv_step {h0 : Heap} {prog : List (List Slice)} (wf : WF h0 prog) {st : St}
    (inv : Inv h0 prog st) (t : Nat) : Inv h0 prog (step true prog st t) := by
  have F := fam_of_inv inv
  unfold step
  split
  · exact inv
  · rename_i gs hgs
    have rd := inv.rd t gs hgs
    dsimp only
    split
    · -- collect one more group: `append` to the thread's own slice
      rename_i g hg
      have hga : g.arr < h0.length := wf gs (List.mem_of_getElem? hgs) g (List.mem_of_getElem? hg)
      have hcol : collect true st.heap (st.th t).acc g = goAppend st.heap (st.th t).acc (h0.read g) := by
        simp [collect, read_congr (inv.pre _ hga)]
      rw [hcol]
      refine inv.move hgs (fun _ ht ho => F.append t _ ht ho) (fun u e => F.read_other e _) ?_
        (fun r => inv.sn t gs r hgs)
      rw [(goAppend_spec _ _ _ _ (inv.own t) inv.len).read, rd, take_succ_of_getElem? hg]
      simp
    · rename_i hg
      split
      · exact inv
      · -- the node runs and reads what was collected: all of the thread's groups
        refine inv.move hgs (fun _ ht ho => F.shrink (shrink_at (.inl ht) ho)) (fun _ _ => rfl) rd
          (fun r hs => ?_)
        cases hs
        rw [rd, List.take_of_length_le (by simpa using hg)]

theorem inv_exec {h0 : Heap} {prog : List (List Slice)} (wf : WF h0 prog) (sched : List Nat) :
    ∀ st, Inv h0 prog st → Inv h0 prog (exec true prog sched st) :=
  Sched.inv_exec _ (exec true prog) (fun _ => rfl) (fun _ _ _ => rfl) (Inv h0 prog)
    (fun _ t h => inv_step wf h t) sched

theorem step_th_other (copies : Bool) (prog : List (List Slice)) (st : St) {t u : Nat} (e : u ≠ t) :
    (step copies prog st t).th u = st.th u := by
  unfold step
  split
  · rfl
  · dsimp only
    split
    · exact upd_other _ _ _ _ e
    · split
      · rfl
      · exact upd_other _ _ _ _ e

theorem step_pc_lt (copies : Bool) {prog : List (List Slice)} {st : St} {t : Nat} {gs : List Slice}
    (hp : prog[t]? = some gs) (hlt : (st.th t).pc < gs.length) :
    ((step copies prog st t).th t).pc = (st.th t).pc + 1 := by
  simp [step, hp, List.getElem?_eq_getElem hlt, upd_same]

theorem step_seen_ge (copies : Bool) {prog : List (List Slice)} {st : St} {t : Nat} {gs : List Slice}
    (hp : prog[t]? = some gs) (hge : gs.length ≤ (st.th t).pc) :
    ((step copies prog st t).th t).seen.isSome = true := by
  simp only [step, hp, List.getElem?_eq_none hge]
  split
  · assumption
  · simp [upd_same]

theorem seen_step (copies : Bool) (prog : List (List Slice)) (st : St) (j t : Nat)
    (h : (st.th t).seen.isSome = true) : ((step copies prog st j).th t).seen.isSome = true := by
  by_cases e : t = j
  · subst e
    unfold step
    split
    · exact h
    · dsimp only
      split
      · simpa [upd_same] using h
      · split <;> exact h
  · rw [step_th_other copies prog st e]; exact h

theorem wf_progOf {h0 : Heap} {calls : List (List Group)} (wf : CallsWF h0 calls)
    (threads : List (Nat × Path)) : WF h0 (progOf calls threads) := by
  intro gs hgs g hg
  simp only [progOf, List.mem_map] at hgs
  obtain ⟨ip, _, rfl⟩ := hgs
  simp only [reaching, List.mem_map, List.mem_filter] at hg
  obtain ⟨grp, ⟨hm, _⟩, rfl⟩ := hg
  rw [List.getD_eq_getElem?_getD] at hm
  cases hc : calls[ip.1]? with
  | none => simp [hc] at hm
  | some cs =>
    simp only [hc, Option.getD_some] at hm
    exact wf cs (List.mem_of_getElem? hc) grp hm

end EinoV.C09.Opt

namespace EinoV.C09.Tools

def Good (lists : Nat → Nat) (st : St) : Prop :=
  st.node = ⟨none, none⟩ ∧ ∀ i, st.rs i = ⟨0, none⟩ ∨ st.rs i = ⟨1, some (lists i)⟩

theorem good_init (lists : Nat → Nat) : Good lists St.init := ⟨rfl, fun _ => Or.inl rfl⟩

theorem node_step (lists : Nat → Nat) (st : St) (i : Nat) : (step false lists st i).node = st.node := by
  simp only [step, Bool.not_false, if_true]
  split <;> rfl

theorem rs_step {lists : Nat → Nat} {st : St} (g : Good lists st) (i j : Nat) :
    (step false lists st i).rs j = if j = i then ⟨1, some (lists i)⟩ else st.rs j := by
  rcases g.2 i with h | h
  · simp [step, h, upd]
  · by_cases e : j = i <;> simp [step, h, e]

theorem good_step {lists : Nat → Nat} {st : St} (g : Good lists st) (i : Nat) :
    Good lists (step false lists st i) := by
  refine ⟨(node_step lists st i).trans g.1, fun j => ?_⟩
  rw [rs_step g]
  split
  · next e => exact Or.inr (e ▸ rfl)
  · exact g.2 j

theorem good_exec {lists : Nat → Nat} (sched : List Nat) :
    ∀ st, Good lists st → Good lists (exec false lists sched st) :=
  Sched.inv_exec _ (exec false lists) (fun _ => rfl) (fun _ _ _ => rfl) (Good lists) (fun _ i g => good_step g i) sched

theorem rs_exec {lists : Nat → Nat} (sched : List Nat) (i : Nat) :
    ∀ st, Good lists st →
      (exec false lists sched st).rs i = if sched.count i = 0 then st.rs i else ⟨1, some (lists i)⟩ :=
  Sched.proj_exec _ (exec false lists) (fun _ => rfl) (fun _ _ _ => rfl) (Good lists)
    (fun _ j g => good_step g j) i (·.rs i) (fun n r => if n = 0 then r else ⟨1, some (lists i)⟩)
    (fun _ _ => rfl) (fun st n g => by simp [rs_step g])
    (fun st j g e => by simp [rs_step g, Ne.symm e]) sched

theorem done_exec {lists : Nat → Nat} (sched : List Nat) (i : Nat) :
    ∀ st, Good lists st → st.rs i = ⟨1, some (lists i)⟩ →
      (exec false lists sched st).rs i = ⟨1, some (lists i)⟩ := by
  intro st g h
  rw [rs_exec sched i st g, h, ite_self]

theorem mem_exec {lists : Nat → Nat} (sched : List Nat) (i : Nat) (hi : i ∈ sched) :
    ∀ st, Good lists st → (exec false lists sched st).rs i = ⟨1, some (lists i)⟩ := by
  intro st g
  rw [rs_exec sched i st g, if_neg (Nat.ne_of_gt (List.count_pos_iff.mpr hi))]

end EinoV.C09.Tools
