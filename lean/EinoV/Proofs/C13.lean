/-
  C13 — helper lemmas about Model/C13.lean: the error wrapping, the step model, the text of the
  travelling error (`hop` / `travel`), the eager loop at an interrupt point (`firstFailure` /
  `eagerRun`) and the context-end model (`loopCtxError`).
-/
import EinoV.Model.C13
import EinoV.Proofs.ListFacts

namespace EinoV.C13


section
variable {β : Type} (F : GoErr → β) (hw : ∀ e, F (.wrapf e) = F e)
  (hi : ∀ g np sp o, F (.internal g np sp o) = F o)
include hw hi

/-- `errors.Is` and `isInterruptError` both walk the `Unwrap` chain.  An observer `F` that looks through a
    `%w` layer and through an internal error sees, in an error holding an internal error, that error's
    original; so the two wrappers, which either return the error itself or rebuild the internal error
    around the same original, are invisible to it. -/
theorem through_asInternal {x : GoErr} {g np sp o} (h : asInternal x = some (g, np, sp, o)) : F x = F o := by
  induction x with
  | leaf i => cases h
  | wrapf e ih => exact (hw e).trans (ih h)
  | internal g' np' sp' o' _ => cases h; exact hi g np sp o
  | panicE i => cases h
  | interrupt => cases h

-- The leading `true` of `wrapNode`, `wrapStream`, `errorsIs`, `isInterrupt`, `failThrough`,
-- `graphFailThrough`, `hop` and `travel` throughout this file is their parameter `hasUnwrap`, at the
-- value of the source fact `FactsC13.internalErrorHasUnwrap` (`internalError` has an `Unwrap`
-- method); Props/C13.lean states its theorems with the fact and rewrites with `hasUnwrap_eq`.
theorem through_wrapNode (k : Key) (x : GoErr) : F (wrapNode true k x) = F x := by
  unfold wrapNode
  split
  · rfl
  · split
    · rename_i h; exact (hi _ _ _ _).trans (through_asInternal F hw hi h).symm
    · exact hi _ _ _ _

theorem through_wrapStream (a : Nat) (x : GoErr) : F (wrapStream true a x) = F x := by
  unfold wrapStream
  split
  · rfl
  · split
    · rename_i h; exact (hi _ _ _ _).trans (through_asInternal F hw hi h).symm
    · exact hi _ _ _ _

end

theorem errorsIs_of_asInternal {x : GoErr} {g np sp o} (h : asInternal x = some (g, np, sp, o))
    (t : Nat) : errorsIs true x t = errorsIs true o t :=
  through_asInternal (errorsIs true · t) (fun _ => rfl) (fun _ _ _ _ => rfl) h

theorem isInterrupt_of_asInternal {x : GoErr} {g np sp o} (h : asInternal x = some (g, np, sp, o)) :
    isInterrupt true x = isInterrupt true o :=
  through_asInternal (isInterrupt true) (fun _ => rfl) (fun _ _ _ _ => rfl) h

theorem errorsIs_wrapNode (k : Key) (x : GoErr) (t : Nat) :
    errorsIs true (wrapNode true k x) t = errorsIs true x t :=
  through_wrapNode (errorsIs true · t) (fun _ => rfl) (fun _ _ _ _ => rfl) k x

theorem errorsIs_wrapStream (a : Nat) (x : GoErr) (t : Nat) :
    errorsIs true (wrapStream true a x) t = errorsIs true x t :=
  through_wrapStream (errorsIs true · t) (fun _ => rfl) (fun _ _ _ _ => rfl) a x

theorem isInterrupt_wrapNode (k : Key) (x : GoErr) :
    isInterrupt true (wrapNode true k x) = isInterrupt true x :=
  through_wrapNode (isInterrupt true) (fun _ => rfl) (fun _ _ _ _ => rfl) k x

theorem isInterrupt_wrapStream (a : Nat) (x : GoErr) :
    isInterrupt true (wrapStream true a x) = isInterrupt true x :=
  through_wrapStream (isInterrupt true) (fun _ => rfl) (fun _ _ _ _ => rfl) a x

theorem nodePath_wrapNode (k : Key) (x : GoErr) (h : isInterrupt true x = false) :
    nodePath (wrapNode true k x) = k :: nodePath x := by
  unfold wrapNode nodePath
  simp only [h, Bool.false_eq_true, ↓reduceIte]
  cases asInternal x <;> rfl

theorem nodePath_wrapStream (a : Nat) (x : GoErr) :
    nodePath (wrapStream true a x) = nodePath x := by
  unfold wrapStream
  split
  · rfl
  · unfold nodePath
    cases asInternal x <;> rfl

theorem adaptors_fold (as : List Nat) (x : GoErr) (t : Nat) :
    errorsIs true (as.foldr (fun a acc => wrapStream true a acc) x) t = errorsIs true x t
    ∧ isInterrupt true (as.foldr (fun a acc => wrapStream true a acc) x) = isInterrupt true x
    ∧ nodePath (as.foldr (fun a acc => wrapStream true a acc) x) = nodePath x := by
  induction as with
  | nil => simp
  | cons a as ih =>
    obtain ⟨h1, h2, h3⟩ := ih
    simp only [List.foldr_cons]
    refine ⟨?_, ?_, ?_⟩
    · rw [errorsIs_wrapStream, h1]
    · rw [isInterrupt_wrapStream, h2]
    · rw [nodePath_wrapStream, h3]

theorem userErr_not_interrupt {e : GoErr} (h : userErr e = true) : isInterrupt true e = false := by
  induction e with
  | leaf i => rfl
  | wrapf e ih => simp only [userErr] at h; simpa [isInterrupt] using ih h
  | internal => simp [userErr] at h
  | panicE i => rfl
  | interrupt => simp [userErr] at h

theorem userErr_no_internal {e : GoErr} (h : userErr e = true) : asInternal e = none := by
  induction e with
  | leaf i => rfl
  | wrapf e ih => simp only [userErr] at h; simpa [asInternal] using ih h
  | internal => simp [userErr] at h
  | panicE i => rfl
  | interrupt => simp [userErr] at h

theorem failThrough_all (levels : List Level) (x : GoErr) (t : Nat) :
    errorsIs true (failThrough true levels x) t = errorsIs true x t
    ∧ isInterrupt true (failThrough true levels x) = isInterrupt true x
    ∧ (isInterrupt true x = false →
        nodePath (failThrough true levels x) = levels.map (·.key) ++ nodePath x) := by
  induction levels with
  | nil => simp [failThrough]
  | cons l ls ih =>
    obtain ⟨h1, h2, h3⟩ := ih
    obtain ⟨a1, a2, a3⟩ := adaptors_fold l.adaptors (failThrough true ls x) t
    simp only [failThrough]
    refine ⟨?_, ?_, ?_⟩
    · rw [errorsIs_wrapNode, a1, h1]
    · rw [isInterrupt_wrapNode, a2, h2]
    · intro hx
      rw [nodePath_wrapNode _ _ (by rw [a2, h2, hx]), a3, h3 hx]
      simp


/-- The task is neither waiting for a state mutex nobody will release nor gone with a panic: the
    invariant of `runEvents` under the facts of the source (`runEvents_good`), and what
    `stepResult` needs of every task to come to `.reported` (`stepResult_reported_of_good`). -/
def TState.good : TState → Prop
  | .running => True
  | .finished _ => True
  | .blocked => False
  | .escaped => False

/-- the events from an arbitrary state (`runEvents` starts from `StepSt.init`) -/
def runFrom (f : ExecFacts) (st : StepSt) (evs : List (Key × Act)) : StepSt := evs.foldl (stepEv f) st

theorem runEvents_eq (f : ExecFacts) (evs : List (Key × Act)) : runEvents f evs = runFrom f .init evs := rfl

theorem runFrom_append (f : ExecFacts) (st : StepSt) (a b : List (Key × Act)) :
    runFrom f st (a ++ b) = runFrom f (runFrom f st a) b := by
  simp [runFrom, List.foldl_append]

theorem set_tasks_same (st : StepSt) (k : Key) (v : TState) : (st.set k v).tasks k = v := by
  simp [StepSt.set]

theorem set_tasks_other (st : StepSt) {k k' : Key} (v : TState) (h : k' ≠ k) :
    (st.set k v).tasks k' = st.tasks k' := by
  simp [StepSt.set, h]

theorem stepEv_finished_stable (f : ExecFacts) (st : StepSt) (ev : Key × Act) (k : Key) (r : Option GoErr)
    (h : st.tasks k = .finished r) : (stepEv f st ev).tasks k = .finished r := by
  obtain ⟨k0, a⟩ := ev
  unfold stepEv
  cases hk : st.tasks k0 with
  | running =>
    -- the event belongs to another task, and an event only sets its own task
    have hne : k ≠ k0 := by intro he; rw [he, hk] at h; cases h
    have hs : ∀ v, (st.set k0 v).tasks k = .finished r := fun v => (set_tasks_other st v hne).trans h
    cases a with
    | useState p =>
      by_cases hl : st.leaked = true
      · simp only [hl, if_true]; exact hs _
      · simp only [hl]
        cases p with
        | none => exact h
        | some i => exact hs _
    | panicBody i => exact hs _
    | fail e => exact hs _
    | done => exact hs _
  | finished r' => exact h
  | blocked => exact h
  | escaped => exact h

theorem runFrom_finished_stable (f : ExecFacts) (evs : List (Key × Act)) (st : StepSt) (k : Key) (r : Option GoErr)
    (h : st.tasks k = .finished r) : (runFrom f st evs).tasks k = .finished r :=
  foldl_inv (·.tasks k = .finished r) _ evs (fun st h ev _ => stepEv_finished_stable f st ev k r h) st h

theorem good_set (st : StepSt) (k0 : Key) (v : TState) (hv : v.good) (h2 : ∀ k, (st.tasks k).good) (k : Key) :
    ((st.set k0 v).tasks k).good := by
  by_cases hkk : k = k0
  · rw [hkk, set_tasks_same]; exact hv
  · rw [set_tasks_other st v hkk]; exact h2 k

-- `⟨true, true, true⟩ : ExecFacts` is `⟨recovers, handlerClean, unlockByDefer⟩`, all three holding:
-- the value of `srcExec`, the facts read off /repo (`srcExec_eq` in Props/C13.lean).
theorem stepEv_good (st : StepSt) (ev : Key × Act) (h1 : st.leaked = false) (h2 : ∀ k, (st.tasks k).good) :
    (stepEv ⟨true, true, true⟩ st ev).leaked = false ∧ ∀ k, ((stepEv ⟨true, true, true⟩ st ev).tasks k).good := by
  obtain ⟨k0, a⟩ := ev
  have hp : ∀ i, (afterPanic ⟨true, true, true⟩ i).good := fun _ => trivial
  unfold stepEv
  cases hk : st.tasks k0 with
  | running =>
    cases a with
    | useState p =>
      simp only [h1, Bool.false_eq_true, if_false]
      cases p with
      | none => exact ⟨h1, h2⟩
      | some i => exact ⟨rfl, good_set st k0 _ (hp i) h2⟩
    | panicBody i => exact ⟨h1, good_set st k0 _ (hp i) h2⟩
    | fail e => exact ⟨h1, good_set st k0 _ trivial h2⟩
    | done => exact ⟨h1, good_set st k0 _ trivial h2⟩
  | finished r' => exact ⟨h1, h2⟩
  | blocked => exact ⟨h1, h2⟩
  | escaped => exact ⟨h1, h2⟩

theorem runFrom_good (evs : List (Key × Act)) (st : StepSt) (h1 : st.leaked = false) (h2 : ∀ k, (st.tasks k).good) :
    (runFrom ⟨true, true, true⟩ st evs).leaked = false ∧ ∀ k, ((runFrom ⟨true, true, true⟩ st evs).tasks k).good :=
  foldl_inv (fun st => st.leaked = false ∧ ∀ k, (st.tasks k).good) _ evs
    (fun st h ev _ => stepEv_good st ev h.1 h.2) st ⟨h1, h2⟩

theorem runEvents_good (evs : List (Key × Act)) :
    (runEvents ⟨true, true, true⟩ evs).leaked = false ∧ ∀ k, ((runEvents ⟨true, true, true⟩ evs).tasks k).good :=
  runFrom_good evs .init rfl (fun _ => trivial)

theorem stepEv_panic (st : StepSt) (k : Key) (a : Act) (i : Nat) (hl : st.leaked = false)
    (hr : st.tasks k = .running) (ha : a = .useState (some i) ∨ a = .panicBody i) :
    (stepEv ⟨true, true, true⟩ st (k, a)).tasks k = .finished (some (.panicE i)) := by
  rcases ha with rfl | rfl <;> simp [stepEv, hr, hl, StepSt.set, afterPanic]

theorem stepResult_reported_of_good (f : ExecFacts) (hu asIs : Bool) (order : List Key) (evs : List (Key × Act))
    (h : ∀ k, ((runEvents f evs).tasks k).good) :
    stepResult f hu asIs order evs = .reported (reportStep hu asIs (finishedOf (runEvents f evs) order)) := by
  have hno : ∀ v : TState, ¬ v.good → (order.any fun k => (runEvents f evs).tasks k == v) = false := by
    intro v hv
    rw [List.any_eq_false]
    intro k _ hk
    rw [beq_iff_eq] at hk
    exact hv (hk ▸ h k)
  simp [stepResult, hno .blocked id, hno .escaped id]

theorem nodePath_of_userErr {e : GoErr} (h : userErr e = true) : nodePath e = [] := by
  simp [nodePath, userErr_no_internal h]

theorem nodePath_failThrough (levels : List Level) {x : GoErr} (hi : isInterrupt true x = false)
    (hp : nodePath x = []) : nodePath (failThrough true levels x) = levels.map (·.key) := by
  rw [(failThrough_all levels x 0).2.2 hi, hp, List.append_nil]

theorem errorsIs_graphFailThrough (levels : List Level) (e : GoErr) (t : Nat) :
    errorsIs true (graphFailThrough true levels e) t = errorsIs true e t :=
  (failThrough_all levels (newGraphRunError e) t).1

theorem reportStep_asIs (hu : Bool) (tasks : List (Key × Option GoErr)) (h : ∃ k e, (k, some e) ∈ tasks) :
    ∃ k e, (k, some e) ∈ tasks ∧ reportStep hu true tasks = some (wrapNode hu k e) := by
  induction tasks with
  | nil => obtain ⟨k, e, hm⟩ := h; cases hm
  | cons t rest ih =>
    obtain ⟨k0, _ | e0⟩ := t
    · obtain ⟨k, e, hm⟩ := h
      obtain ⟨k', e', h1, h2⟩ := ih ⟨k, e, (List.mem_cons.mp hm).resolve_left nofun⟩
      exact ⟨k', e', List.mem_cons_of_mem _ h1, h2⟩
    · exact ⟨k0, e0, List.mem_cons_self .., rfl⟩

theorem observeSt_err (memo : Bool) (st : ErrSt) : (observeSt memo st).err = st.err := by
  unfold observeSt; split <;> rfl

theorem hop_cache_none (hu : Bool) (st : ErrSt) (h : Hop) (hc : st.cache = none) :
    (hop hu false st h).cache = none := by
  cases h <;> simp [hop, observeSt, hc]

theorem foldl_hop_cache_none (hu : Bool) (hops : List Hop) (st : ErrSt) (hc : st.cache = none) :
    (hops.foldl (hop hu false) st).cache = none :=
  foldl_inv (·.cache = none) _ hops (fun st hc h _ => hop_cache_none hu st h hc) st hc

theorem textPath_travel_noMemo (hu : Bool) (hops : List Hop) (e : GoErr) :
    textPath (travel hu false hops e) = nodePath (travel hu false hops e).err := by
  have := foldl_hop_cache_none hu hops { err := e, cache := none } rfl
  unfold textPath travel
  rw [this]

theorem nodePath_wrapf (x : GoErr) : nodePath (.wrapf x) = nodePath x := by
  simp [nodePath, asInternal]

-- In `hop true false` the second literal is `memoises` at the value of the source fact
-- `FactsC13.errorTextMemoised` (`Error()` renders the text from the current fields at every call).
theorem hop_path (st : ErrSt) (h : Hop) (hi : isInterrupt true st.err = false) :
    nodePath (hop true false st h).err = hopKeys [h] ++ nodePath st.err
    ∧ isInterrupt true (hop true false st h).err = false := by
  cases h with
  | wrap k => exact ⟨nodePath_wrapNode k st.err hi, (isInterrupt_wrapNode k st.err).trans hi⟩
  | observe => simpa [hop, observeSt_err, hopKeys] using hi
  | rewrap => simpa [hop, observeSt_err, hopKeys, nodePath_wrapf, isInterrupt] using hi

theorem foldl_hop_path (hops : List Hop) (st : ErrSt) (hi : isInterrupt true st.err = false) :
    nodePath (hops.foldl (hop true false) st).err = (hopKeys hops).reverse ++ nodePath st.err
    ∧ isInterrupt true (hops.foldl (hop true false) st).err = false := by
  induction hops generalizing st with
  | nil => simp [hopKeys, hi]
  | cons h r ih =>
    obtain ⟨p1, p2⟩ := hop_path st h hi
    obtain ⟨q1, q2⟩ := ih _ p2
    refine ⟨?_, q2⟩
    rw [List.foldl_cons, q1, p1]
    cases h <;> simp [hopKeys]

theorem errorsIs_hop (memo : Bool) (st : ErrSt) (h : Hop) (t : Nat) :
    errorsIs true (hop true memo st h).err t = errorsIs true st.err t := by
  cases h with
  | wrap k => simp [hop, errorsIs_wrapNode]
  | observe => simp only [hop, observeSt_err]
  | rewrap => simp [hop, observeSt_err, errorsIs]

theorem errorsIs_travel (memo : Bool) (hops : List Hop) (e : GoErr) (t : Nat) :
    errorsIs true (travel true memo hops e).err t = errorsIs true e t :=
  foldl_preserves _ (fun st => errorsIs true st.err t) hops (fun st h _ => errorsIs_hop memo st h t) _

theorem firstFailure_eq_findSome? (hu : Bool) (ts : List (Key × Option GoErr)) :
    firstFailure hu ts
      = ts.findSome? fun t => t.2.bind fun e => if isInterrupt hu e then none else some (t.1, e) := by
  induction ts with
  | nil => rfl
  | cons t rest ih =>
    obtain ⟨k0, _ | e0⟩ := t
    · simpa [firstFailure] using ih
    · by_cases hi0 : isInterrupt hu e0 = true <;> simp [firstFailure, hi0, ih]

theorem firstFailure_sound (hu : Bool) (ts : List (Key × Option GoErr)) (k : Key) (e : GoErr)
    (h : firstFailure hu ts = some (k, e)) : (k, some e) ∈ ts ∧ isInterrupt hu e = false := by
  rw [firstFailure_eq_findSome?] at h
  obtain ⟨⟨k0, r0⟩, hm, hf⟩ := List.exists_of_findSome?_eq_some h
  obtain ⟨e0, rfl, hf⟩ := Option.bind_eq_some_iff.mp hf
  by_cases hi0 : isInterrupt hu e0 = true
  · rw [if_pos hi0] at hf; cases hf
  · rw [if_neg hi0] at hf; cases hf; exact ⟨hm, by simpa using hi0⟩

theorem firstFailure_none (hu : Bool) (ts : List (Key × Option GoErr)) (hf : firstFailure hu ts = none)
    (k : Key) (e : GoErr) (hm : (k, some e) ∈ ts) : isInterrupt hu e = true := by
  rw [firstFailure_eq_findSome?, List.findSome?_eq_none_iff] at hf
  simpa using hf _ hm

theorem firstFailure_some_of_mem (hu : Bool) (ts : List (Key × Option GoErr))
    (h : ∃ k e, (k, some e) ∈ ts ∧ isInterrupt hu e = false) :
    ∃ k e, (k, some e) ∈ ts ∧ isInterrupt hu e = false ∧ firstFailure hu ts = some (k, e) := by
  cases hf : firstFailure hu ts with
  | some p => exact ⟨p.1, p.2, (firstFailure_sound hu ts p.1 p.2 hf).1, (firstFailure_sound hu ts p.1 p.2 hf).2, rfl⟩
  | none =>
    obtain ⟨k, e, hm, hi⟩ := h
    rw [firstFailure_none hu ts hf k e hm] at hi; cases hi

theorem firstFailure_none_of_no_failure (hu : Bool) (ts : List (Key × Option GoErr))
    (h : ∀ k e, (k, some e) ∈ ts → isInterrupt hu e = true) : firstFailure hu ts = none := by
  cases hf : firstFailure hu ts with
  | none => rfl
  | some p =>
    obtain ⟨hm, hi⟩ := firstFailure_sound hu ts p.1 p.2 hf
    rw [h p.1 p.2 hm] at hi; cases hi

theorem eagerRun_of_firstFailure (hu : Bool) (point : Key → Bool) (ts : List (Key × Option GoErr))
    (k : Key) (e : GoErr) (h : firstFailure hu ts = some (k, e)) :
    eagerRun hu true point ts = .failed (wrapNode hu k e) := by
  have hdrain : ∀ rest, firstFailure hu rest = some (k, e) →
      drainAtInterrupt hu true rest = .failed (wrapNode hu k e) := fun rest hr => by
    simp only [drainAtInterrupt, hr, if_true]
  induction ts with
  | nil => cases h
  | cons t rest ih =>
    obtain ⟨k0, _ | e0⟩ := t
    · rw [eagerRun]
      by_cases hp : point k0 = true
      · rw [if_pos hp]; exact hdrain rest h
      · rw [if_neg hp]; exact ih h
    · rw [firstFailure] at h
      rw [eagerRun]
      by_cases hi0 : isInterrupt hu e0 = true
      · rw [if_pos hi0] at h ⊢; exact hdrain rest h
      · rw [if_neg hi0] at h ⊢; cases h; rfl

theorem eagerRun_failure_wins (hu : Bool) (point : Key → Bool) (ts : List (Key × Option GoErr))
    (h : ∃ k e, (k, some e) ∈ ts ∧ isInterrupt hu e = false) :
    ∃ k e, (k, some e) ∈ ts ∧ isInterrupt hu e = false ∧ eagerRun hu true point ts = .failed (wrapNode hu k e) := by
  obtain ⟨k, e, hm, hi, hf⟩ := firstFailure_some_of_mem hu ts h
  exact ⟨k, e, hm, hi, eagerRun_of_firstFailure hu point ts k e hf⟩

theorem eagerRun_no_failure (hu dc : Bool) (point : Key → Bool) (ts : List (Key × Option GoErr))
    (h : ∀ k e, (k, some e) ∈ ts → isInterrupt hu e = true) :
    eagerRun hu dc point ts = .interrupted ∨ eagerRun hu dc point ts = .goesOn := by
  induction ts with
  | nil => right; rfl
  | cons t rest ih =>
    obtain ⟨k0, r0⟩ := t
    have hrest : ∀ k e, (k, some e) ∈ rest → isInterrupt hu e = true := fun k e hm => h k e (List.mem_cons_of_mem _ hm)
    have hd : drainAtInterrupt hu dc rest = .interrupted := by
      unfold drainAtInterrupt
      cases dc <;> simp [firstFailure_none_of_no_failure hu rest hrest]
    cases r0 with
    | none =>
      by_cases hp : point k0 = true
      · left; simp [eagerRun, hp, hd]
      · simpa [eagerRun, hp] using ih hrest
    | some e0 =>
      have := h k0 e0 (by simp)
      left; simp [eagerRun, this, hd]

theorem errorsIs_loopCtxError (rce : Bool) (c : CtxEnd) (t : Nat) :
    errorsIs true (loopCtxError rce c) t = ((if rce then c.id else canceledId) == t) := by
  simp [loopCtxError, errorsIs]

end EinoV.C13
