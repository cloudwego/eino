/-
  gotrans phase 6 — `extractOption` (compose/utils.go, translated on every run into Gen/TransC16.lean, with
  `Option.deepCopy` and `NewNodePath`) computes the model's `extract` (Model/C16.lean), for the fact values
  `Expected.C16.facts`, and never leaves the translated semantics.
-/
import EinoV.Gen.TransC16
import EinoV.Model.C16
import EinoV.Expected.C16
import EinoV.Proofs.C16
import EinoV.Proofs.GoLoop
import EinoV.Proofs.Assoc
namespace EinoV.TransC16
open EinoV.GoSem EinoV.Gen.TransC16 EinoV.C16
open EinoV.Engine (alookup aset akeys)
variable {V : Type} [Inhabited V]
set_option linter.unusedSectionVars false

/-- declared here as in TransC14: this file imports no other translated unit (`./check C16` regenerates
    everything it depends on) -/
inductive ListRel {α β : Type} (R : α → β → Prop) : List α → List β → Prop
  | nil : ListRel R [] []
  | cons {a b as bs} : R a b → ListRel R as bs → ListRel R (a :: as) (b :: bs)

/-- **`deepCopy` returns an Option with the same contents** (slices are values: the copy is equal) -/
theorem deepCopy_spec (ext : Ext V) (cext : C16Ext V) (o : GoOption V) :
    Option_deepCopy ext cext o = .ret o := by
  unfold Option_deepCopy
  have h1 : ¬ ((o.options.length : Int) < 0) := by omega
  have h2 : ¬ ((o.handler.length : Int) < 0) := by omega
  have h3 : ¬ ((o.paths.length : Int) < 0) := by omega
  simp only [forIn_id, Id.run, bind, pure, h1, h2, h3, decide_false, Bool.false_eq_true, if_false, goCopy_make]
  have := goLoop_setIdx (R := GoOutcome (GoOption V)) GoOutcome.panic id o.paths (goMake (o.paths.length : Int) default)
    (by simp [goMake])
  simp only [id, List.map_id] at this
  rw [this]

theorem newNodePath_spec (ext : Ext V) (cext : C16Ext V) (p : List String) :
    NewNodePath ext cext p = ({ path := p } : NodePath V) := rfl

def errFmt : Err → String
  | .emptyPath => "call option has designated an empty path"
  | .unknownNode => "option has designated an unknown node: %s"
  | .wrongType => "option type[%s] is different from which the designated node[%s] expects[%s]"
  | .subPathOfComponent => "cannot designate sub path of a component, path:%s"

abbrev Res (V : Type) := GoOutcome (GoMap (List V) × Option GoErr)
abbrev St (V : Type) := Option (Res V) × GoMap (List V)

/-- what the translated function returns when the model fails with `e` -/
def ERR (e : Err) : Res V := GoOutcome.ret ([], some (GoErr.mk (errFmt e)))

/-- a node of the model as the `*chanCall` `extractOption` reads: `optionType` (nil for a graph and for a
    passthrough) and `isPassthrough` -/
def ccOf : Node → chanCall V
  | .comp _ ty => { action := { optionType := some ty, isPassthrough := false } }
  | .pass _ => { action := { optionType := none, isPassthrough := true } }
  | .graph _ _ => { action := { optionType := none, isPassthrough := false } }

def NodesRel (gn : GoMap (chanCall V)) (ns : Nodes) : Prop := gn = ns.toList.map (fun n => (n.key, ccOf n))

def mkPath (p : Path) : NodePath V := { path := p }

section rel
variable (cext : C16Ext V) (vOf hOf : Nat → V)

/-- a Go `Option` and the model's `Opt`: the values, handlers and paths; the type of the Option is the
    `reflect.TypeOf` of its first value -/
structure OptRel (g : GoOption V) (o : Opt) : Prop where
  options : g.options = o.vals.map vOf
  handler : g.handler = o.handlers.map hOf
  paths : g.paths = o.paths.map mkPath
  ty : ∀ v rest, o.vals = v :: rest → cext.typeOf (vOf v) = some o.ty

/-- an element of `optMap[k]` and the model's item -/
def ItemRel (v : V) : Item → Prop
  | .val n => v = vOf n
  | .opt o => ∃ g, v = cext.anyOfOption g ∧ OptRel cext vOf hOf g o

/-- `optMap` against the model's log of appends: for every key, the list under the key is the sub-sequence of
    the log with that key -/
def MapRel (m : GoMap (List V)) (log : Log) : Prop :=
  ∀ k, ListRel (ItemRel cext vOf hOf) (m.getD' k []) (itemsFor log k)

end rel

theorem ListRel.append {α β : Type} {R : α → β → Prop} {l1 l2 : List α} {m1 m2 : List β}
    (h1 : ListRel R l1 m1) (h2 : ListRel R l2 m2) : ListRel R (l1 ++ l2) (m1 ++ m2) := by
  induction h1 with
  | nil => exact h2
  | cons h _ ih => exact ListRel.cons h ih

theorem itemsFor_map_key (k k' : Key) (its : List Item) :
    itemsFor (its.map (fun i => (k, i))) k' = if k = k' then its else [] := by
  by_cases h : k = k' <;> simp [itemsFor, List.filterMap_map, Function.comp_def, h]

/-- the one step all branches share: `optMap[k] = append(optMap[k], xs...)` against appending entries under `k` -/
theorem MapRel.append (cext : C16Ext V) (vOf hOf : Nat → V) {m : GoMap (List V)} {log : Log}
    (h : MapRel cext vOf hOf m log) (k : Key) (xs : List V) (its : List Item)
    (hx : ListRel (ItemRel cext vOf hOf) xs its) :
    MapRel cext vOf hOf (m.set k (m.getD' k [] ++ xs)) (log ++ its.map (fun i => (k, i))) := by
  intro k'
  rw [itemsFor_append, itemsFor_map_key]
  by_cases hk : k' = k
  · subst hk
    rw [getD'_set_same, if_pos rfl]
    exact ListRel.append (h k') hx
  · rw [getD'_set_other _ _ _ _ _ hk, if_neg (Ne.symm hk), List.append_nil]
    exact h k'

/-- a Go loop with an early error return is the model's `mapE` -/
theorem relE_loop (cext : C16Ext V) (vOf hOf : Nat → V) {α β : Type} (R : α → β → Prop) (ents : β → Except Err Log)
    (body : α → St V → ForInStep (St V))
    (h : ∀ a b, R a b → ∀ m log, MapRel cext vOf hOf m log →
      match ents b with
      | .ok es => ∃ m', body a (none, m) = ForInStep.yield (none, m') ∧ MapRel cext vOf hOf m' (log ++ es)
      | .error e => ∃ m', body a (none, m) = ForInStep.done (some (ERR e), m')) :
    ∀ (la : List α) (lb : List β), ListRel R la lb → ∀ m log, MapRel cext vOf hOf m log →
      match mapE ents lb with
      | .ok ess => ∃ m', goLoop body la (none, m) = (none, m') ∧ MapRel cext vOf hOf m' (log ++ ess.flatten)
      | .error e => ∃ m', goLoop body la (none, m) = (some (ERR e), m') := by
  intro la lb hr
  induction hr with
  | nil => intro m log hm; simpa [mapE, goLoop] using hm
  | @cons a b as bs hab _ ih =>
    intro m log hm
    have h1 := h a b hab m log hm
    simp only [mapE, goLoop]
    cases hb : ents b with
    | error e =>
      rw [hb] at h1
      obtain ⟨m', e1⟩ := h1
      exact ⟨m', by rw [e1]⟩
    | ok es =>
      rw [hb] at h1
      obtain ⟨m', e1, r1⟩ := h1
      have h2 := ih m' (log ++ es) r1
      rw [e1]
      cases hm2 : mapE ents bs with
      | error e => rw [hm2] at h2; exact h2
      | ok ess =>
        rw [hm2] at h2
        obtain ⟨m'', e2, r2⟩ := h2
        exact ⟨m'', e2, by simpa [List.append_assoc] using r2⟩

theorem listRel_map {α β : Type} (f : β → α) (l : List β) : ListRel (fun a b => a = f b) (l.map f) l := by
  induction l with
  | nil => exact ListRel.nil
  | cons x l ih => exact ListRel.cons rfl ih

theorem mapE_ok {α β ε : Type} (f : α → β) (l : List α) :
    mapE (ε := ε) (fun a => Except.ok (f a)) l = .ok (l.map f) :=
  (mapE_eq_mapM _ l).trans List.mapM_pure

theorem nodes_lookup (ns : Nodes) (k : Key) :
    alookup k (ns.toList.map (fun n => (n.key, (ccOf n : chanCall V)))) = (ns.find k).map ccOf :=
  EinoV.Engine.alookup_map_key (·.key) ccOf ns.toList k

theorem nodes_has (gn : GoMap (chanCall V)) (ns : Nodes) (h : NodesRel gn ns) (k : Key) :
    gn.has k = (ns.find k).isSome := by
  rw [h]; simp [GoMap.has, nodes_lookup]

theorem nodes_get (gn : GoMap (chanCall V)) (ns : Nodes) (h : NodesRel gn ns) (k : Key) (n : Node)
    (hf : ns.find k = some n) : gn.getD' k default = ccOf n := by
  rw [h]; simp [GoMap.getD', nodes_lookup, hf]

theorem len_zero {α} (l : List α) : (((l.length : Nat) : Int) == 0) = l.isEmpty := by
  cases l with
  | nil => rfl
  | cons a l => simp; omega

theorem len_one {α} (a : α) (l : List α) : ((((a :: l).length : Nat) : Int) == 1) = l.isEmpty := by
  cases l with
  | nil => rfl
  | cons b l => simp; omega

theorem listRel_vals (cext : C16Ext V) (vOf hOf : Nat → V) (vals : List Nat) :
    ListRel (ItemRel cext vOf hOf) (vals.map vOf) (vals.map Item.val) := by
  induction vals with
  | nil => exact ListRel.nil
  | cons v vs ih => exact ListRel.cons rfl ih

/-- `optMap[k] = append(optMap[k], opt.options...)` -/
theorem mapRel_vals {cext : C16Ext V} {vOf hOf : Nat → V} {m : GoMap (List V)} {log : Log}
    (h : MapRel cext vOf hOf m log) (k : Key) {g : GoOption V} {o : Opt} (hr : OptRel cext vOf hOf g o) :
    MapRel cext vOf hOf (m.set k (m.getD' k [] ++ g.options)) (log ++ o.vals.map (fun v => (k, .val v))) := by
  have := h.append cext vOf hOf k g.options (o.vals.map Item.val)
    (by rw [hr.options]; exact listRel_vals cext vOf hOf o.vals)
  simpa only [List.map_map, Function.comp_def] using this

/-- `optMap[k] = append(optMap[k], opt)`, for the Option itself or a copy of it -/
theorem mapRel_fwd {cext : C16Ext V} {vOf hOf : Nat → V} {m : GoMap (List V)} {log : Log}
    (h : MapRel cext vOf hOf m log) (k : Key) {g : GoOption V} {o : Opt} (hr : OptRel cext vOf hOf g o) :
    MapRel cext vOf hOf (m.set k (m.getD' k [] ++ [cext.anyOfOption g])) (log ++ [(k, .opt o)]) :=
  h.append cext vOf hOf k [cext.anyOfOption g] [Item.opt o] (ListRel.cons ⟨g, rfl, hr⟩ ListRel.nil)

/-- the copy handed to a sub-graph: the same Option with other designated paths -/
theorem optRel_paths {cext : C16Ext V} {vOf hOf : Nat → V} {g : GoOption V} {o : Opt}
    (hr : OptRel cext vOf hOf g o) (ps : List Path) :
    OptRel cext vOf hOf { g with paths := ps.map mkPath } { o with paths := ps } :=
  ⟨hr.options, hr.handler, rfl, hr.ty⟩

/-- `len(opt.options) == 0` -/
theorem OptRel.options_isEmpty {cext : C16Ext V} {vOf hOf : Nat → V} {g : GoOption V} {o : Opt}
    (hr : OptRel cext vOf hOf g o) : g.options.isEmpty = o.vals.isEmpty := by
  rw [hr.options, List.isEmpty_map]

/-- `opt.options[0]` of an Option with values is in range, and its `reflect.TypeOf` is the type of the Option -/
theorem OptRel.first {cext : C16Ext V} {vOf hOf : Nat → V} {g : GoOption V} {o : Opt}
    (hr : OptRel cext vOf hOf g o) (hv : o.vals ≠ []) :
    ∃ x, goIdx? g.options 0 = some x ∧ cext.typeOf x = some o.ty := by
  obtain ⟨v0, rest, hvs⟩ := List.exists_cons_of_ne_nil hv
  exact ⟨vOf v0, by rw [hr.options, hvs]; rfl, hr.ty v0 rest hvs⟩

abbrev F := EinoV.Expected.C16.facts

theorem tyMatch_F (a b : Nat) : tyMatch F a b = (a == b) := by
  simp [tyMatch, F, EinoV.Expected.C16.facts]

/-- the body of `for name, c := range nodes` as it is generated -/
def undStep (cext : C16Ext V) (g : GoOption V) (x : String × chanCall V) (__s : St V) : ForInStep (St V) :=
  if (x.snd.action.optionType == none) = true then
    ForInStep.yield (none, __s.snd.set x.fst (__s.snd.getD' x.fst [] ++ [cext.anyOfOption g]))
  else
    match goIdx? g.options 0 with
    | some __x1 =>
      if (cext.typeOf __x1 == x.snd.action.optionType) = true then
        ForInStep.yield (none, __s.snd.set x.fst (__s.snd.getD' x.fst [] ++ g.options))
      else ForInStep.yield (none, __s.snd)
    | _ => ForInStep.done (some GoOutcome.panic, __s.snd)

theorem und_body (cext : C16Ext V) (vOf hOf : Nat → V) (g : GoOption V) (o : Opt)
    (hr : OptRel cext vOf hOf g o) (hv : o.vals ≠ []) :
    ∀ (a : String × chanCall V) (n : Node), a = (n.key, ccOf n) → ∀ m log, MapRel cext vOf hOf m log →
      match (Except.ok (undesignatedFor F o n) : Except Err Log) with
      | .ok es => ∃ m', undStep cext g a (none, m) = ForInStep.yield (none, m') ∧ MapRel cext vOf hOf m' (log ++ es)
      | .error e => ∃ m', undStep cext g a (none, m) = ForInStep.done (some (ERR e), m') := by
  intro a n ha m log hm
  subst ha
  unfold undStep
  obtain ⟨x, hidx, hty⟩ := hr.first hv
  cases n with
  | comp k ty =>
    simp only [ccOf, Node.key, hidx, hty, undesignatedFor]
    by_cases ht : ty = o.ty
    · subst ht
      refine ⟨m.set k (m.getD' k [] ++ g.options), by simp, ?_⟩
      simpa [tyMatch_F] using mapRel_vals hm k hr
    · have hne : ¬ o.ty = ty := fun e => ht e.symm
      refine ⟨m, by simp [hne], ?_⟩
      simpa [tyMatch_F, show F.typeCmpIdentity = true from rfl, ht] using hm
  | pass k | graph k ch => exact ⟨_, by simp [ccOf, Node.key], mapRel_fwd hm k hr⟩

/-- the body of `for _, path := range opt.paths` as it is generated -/
def pathStep (ext : Ext V) (cext : C16Ext V) (nodes : GoMap (chanCall V)) (opt : GoOption V)
    (path : NodePath V) (__s : St V) : ForInStep (St V) :=
  if (((path.path.length : Nat) : Int) == 0) = true then
    ForInStep.done (some (GoOutcome.ret ([], some (GoErr.mk "call option has designated an empty path"))), __s.snd)
  else
    match goIdx? path.path 0 with
    | some __x2 =>
      if (!nodes.has __x2) = true then
        ForInStep.done (some (GoOutcome.ret ([], some (GoErr.mk "option has designated an unknown node: %s"))), __s.snd)
      else
        match goIdx? path.path 0 with
        | some __x3 =>
          if (((path.path.length : Nat) : Int) == 1) = true then
            if (((opt.options.length : Nat) : Int) == 0) = true then ForInStep.yield (none, __s.snd)
            else
              if ((nodes.getD' __x2 default).action.optionType == none) = true then
                match Option_deepCopy ext cext opt with
                | GoOutcome.ret __t =>
                  ForInStep.yield (none, __s.snd.set __x3 (__s.snd.getD' __x3 [] ++
                    [cext.anyOfOption { options := __t.options, handler := __t.handler, paths := [],
                                        maxRunSteps := __t.maxRunSteps }]))
                | _ => ForInStep.done (some (Option_deepCopy ext cext opt).failAs, __s.snd)
              else
                match goIdx? opt.options 0 with
                | some __x4 =>
                  if ((nodes.getD' __x2 default).action.optionType != cext.typeOf __x4) = true then
                    ForInStep.done (some (GoOutcome.ret ([], some (GoErr.mk
                      "option type[%s] is different from which the designated node[%s] expects[%s]"))), __s.snd)
                  else ForInStep.yield (none, __s.snd.set __x3 (__s.snd.getD' __x3 [] ++ opt.options))
                | _ => ForInStep.done (some GoOutcome.panic, __s.snd)
          else
            if ((nodes.getD' __x2 default).action.optionType != none ||
                (nodes.getD' __x2 default).action.isPassthrough) = true then
              ForInStep.done (some (GoOutcome.ret ([], some (GoErr.mk
                "cannot designate sub path of a component, path:%s"))), __s.snd)
            else
              match Option_deepCopy ext cext opt with
              | GoOutcome.ret __t =>
                match goSlice? path.path 1 ((path.path.length : Nat) : Int) with
                | some __s5 =>
                  ForInStep.yield (none, __s.snd.set __x3 (__s.snd.getD' __x3 [] ++
                    [cext.anyOfOption { options := __t.options, handler := __t.handler,
                                        paths := [NewNodePath ext cext __s5], maxRunSteps := __t.maxRunSteps }]))
                | _ => ForInStep.done (some GoOutcome.panic, __s.snd)
              | _ => ForInStep.done (some (Option_deepCopy ext cext opt).failAs, __s.snd)
        | _ => ForInStep.done (some GoOutcome.panic, __s.snd)
    | _ => ForInStep.done (some GoOutcome.panic, __s.snd)

theorem path_body (ext : Ext V) (cext : C16Ext V) (vOf hOf : Nat → V) (gn : GoMap (chanCall V)) (ns : Nodes)
    (hn : NodesRel gn ns) (g : GoOption V) (o : Opt) (hr : OptRel cext vOf hOf g o) :
    ∀ (a : NodePath V) (p : Path), a = mkPath p → ∀ m log, MapRel cext vOf hOf m log →
      match pathEntry F ns o p with
      | .ok es => ∃ m', pathStep ext cext gn g a (none, m) = ForInStep.yield (none, m') ∧
          MapRel cext vOf hOf m' (log ++ es)
      | .error e => ∃ m', pathStep ext cext gn g a (none, m) = ForInStep.done (some (ERR e), m') := by
  intro a p ha m log hm
  subst ha
  unfold pathStep
  cases p with
  | nil => exact ⟨m, rfl⟩
  | cons k rest =>
    have hidx : goIdx? (k :: rest) 0 = some k := rfl
    simp only [mkPath, len_zero, List.isEmpty_cons, Bool.false_eq_true, if_false, hidx, pathEntry, nodes_has gn ns hn k]
    cases hf : ns.find k with
    | none => exact ⟨m, rfl⟩
    | some n =>
      simp only [Option.isSome_some, Bool.not_true, Bool.false_eq_true, if_false, len_one,
        nodes_get gn ns hn k n hf, deepCopy_spec]
      cases rest with
      | nil =>
        simp only [List.isEmpty_nil, if_true, hr.options_isEmpty, List.isEmpty_iff]
        by_cases hv : o.vals = []
        · simp only [if_pos hv]
          exact ⟨m, rfl, by simpa using hm⟩
        · obtain ⟨x, hidx0, hty⟩ := hr.first hv
          simp only [if_neg hv]
          cases n with
          | comp k' ty =>
            simp only [ccOf, hidx0, hty, show F.typeCmpIdentity = true from rfl, tyMatch_F,
              Bool.true_and, bne, Option.some_beq_some]
            by_cases ht : (ty == o.ty) = true
            · simp only [ht, Bool.not_true, Bool.false_eq_true, if_false]
              exact ⟨_, by simp, mapRel_vals hm k hr⟩
            · simp only [ht, Bool.not_false, if_true]
              exact ⟨m, by simp [ERR, errFmt]⟩
          | pass k' | graph k' ch => exact ⟨_, by simp [ccOf], mapRel_fwd hm k (optRel_paths hr [])⟩
      | cons k2 rest2 =>
        simp only [List.isEmpty_cons, Bool.false_eq_true, if_false, if_neg (List.cons_ne_nil k2 rest2)]
        cases n with
        | comp k' ty => exact ⟨m, by simp [ccOf, ERR, errFmt]⟩
        | pass k' =>
          simp only [show F.passSubPathIsError = true from rfl, if_true]
          exact ⟨m, by simp [ccOf, ERR, errFmt]⟩
        | graph k' ch =>
          refine ⟨_, ?_, mapRel_fwd hm k (optRel_paths hr [k2 :: rest2])⟩
          have hs : goSlice? (k :: k2 :: rest2) 1 ((k :: k2 :: rest2).length : Nat) = some (k2 :: rest2) :=
            goSlice?_drop (k :: k2 :: rest2) 1 (Nat.le_add_left 1 _)
          rw [hs]
          simp [ccOf]; rfl

theorem mapRel_nil (cext : C16Ext V) (vOf hOf : Nat → V) : MapRel cext vOf hOf [] [] := by
  intro k; exact ListRel.nil

/-- the body of `for _, opt := range opts`; `paths` is the join point behind `if len(opt.paths) == 0 { … }` -/
def optStep (ext : Ext V) (cext : C16Ext V) (nodes : GoMap (chanCall V)) (opt : GoOption V) (s : St V) :
    ForInStep (St V) :=
  let paths := fun (m : GoMap (List V)) =>
    let r := goLoop (pathStep ext cext nodes opt) opt.paths (none, m)
    onReturn r.1 (fun e => ForInStep.done (some e, r.2)) (ForInStep.yield (none, r.2))
  if (((opt.paths.length : Nat) : Int) == 0) = true then
    if (((opt.options.length : Nat) : Int) == 0) = true then .yield (none, s.2)
    else
      let r := goLoop (undStep cext opt) nodes (none, s.2)
      onReturn r.1 (fun e => ForInStep.done (some e, r.2)) (paths r.2)
  else paths s.2

def extractShape (ext : Ext V) (cext : C16Ext V) (nodes : GoMap (chanCall V)) (opts : List (GoOption V)) : Res V :=
  let r := goLoop (optStep ext cext nodes) opts (none, [])
  onReturn r.1 id (.ret (r.2, none))

/-- The translated text is `extractShape` up to unfolding.  `simp` must keep the join point of the `do` block
    (`-zeta`), and one pass is enough to turn the three `forIn` into `goLoop`. -/
theorem extractOption_shape (ext : Ext V) (cext : C16Ext V) (gn : GoMap (chanCall V)) (gopts : List (GoOption V)) :
    extractOption ext cext gn gopts = extractShape ext cext gn gopts := by
  unfold extractOption
  simp -zeta +singlePass only [forIn_id]
  rfl

theorem optStep_spec (ext : Ext V) (cext : C16Ext V) (vOf hOf : Nat → V) (gn : GoMap (chanCall V)) (ns : Nodes)
    (hn : NodesRel gn ns) (g : GoOption V) (o : Opt) (hr : OptRel cext vOf hOf g o) (m : GoMap (List V))
    (log : Log) (hm : MapRel cext vOf hOf m log) :
    match optEntries F ns o with
    | .ok es => ∃ m', optStep ext cext gn g (none, m) = ForInStep.yield (none, m') ∧ MapRel cext vOf hOf m' (log ++ es)
    | .error e => ∃ m', optStep ext cext gn g (none, m) = ForInStep.done (some (ERR e), m') := by
  unfold optStep optEntries undesignatedEntries
  simp only [len_zero, hr.options_isEmpty, hr.paths, List.isEmpty_map, List.isEmpty_iff]
  by_cases hp : o.paths = []
  · simp only [hp, if_true, true_and, List.map_nil, mapE, goLoop, List.flatten_nil, List.append_nil, onReturn]
    by_cases hv : o.vals = []
    · simp only [hv, if_true, ne_eq, not_true_eq_false, if_false]
      exact ⟨m, rfl, by simpa using hm⟩
    · have hul := relE_loop cext vOf hOf (fun a n => a = (n.key, ccOf n)) (fun n => .ok (undesignatedFor F o n))
        (undStep cext g) (und_body cext vOf hOf g o hr hv) gn ns.toList (by rw [hn]; exact listRel_map _ _) m log hm
      rw [mapE_ok] at hul
      obtain ⟨m', e1, r1⟩ := hul
      simp only [e1, ne_eq, hv, not_false_eq_true, if_true]
      exact ⟨m', rfl, r1⟩
  · have hpl := relE_loop cext vOf hOf (fun a p => a = mkPath p) (pathEntry F ns o) (pathStep ext cext gn g)
      (path_body ext cext vOf hOf gn ns hn g o hr) _ o.paths (listRel_map mkPath o.paths) m log hm
    simp only [hp, false_and, if_false, List.nil_append]
    cases hmp : mapE (pathEntry F ns o) o.paths with
    | error e => rw [hmp] at hpl; obtain ⟨m', e1⟩ := hpl; exact ⟨_, by rw [e1]; rfl⟩
    | ok ess => rw [hmp] at hpl; obtain ⟨m', e1, r1⟩ := hpl; exact ⟨m', by rw [e1]; rfl, r1⟩

/-- **`extractOption` refines `extract`** (for the fact values `Expected.C16.facts`).  For a Go map `nodes`
    that is the model's node list in its stored order and options related element by element, the translated
    function does not leave the translated semantics and returns, for every key, the model's list of items
    (component option values / forwarded Options) — or the error of the model's class, with a nil map. -/
theorem extractOption_refines (ext : Ext V) (cext : C16Ext V) (vOf hOf : Nat → V)
    (gn : GoMap (chanCall V)) (ns : Nodes) (hn : NodesRel gn ns)
    (gopts : List (GoOption V)) (opts : List Opt) (hrel : ListRel (OptRel cext vOf hOf) gopts opts) :
    match extract F ns opts with
    | .ok log => ∃ m, extractOption ext cext gn gopts = .ret (m, none) ∧ MapRel cext vOf hOf m log
    | .error e => extractOption ext cext gn gopts = ERR e := by
  rw [extractOption_shape]
  unfold extractShape extract
  have h := relE_loop cext vOf hOf (OptRel cext vOf hOf) (optEntries F ns) (optStep ext cext gn)
    (optStep_spec ext cext vOf hOf gn ns hn) gopts opts hrel [] [] (mapRel_nil cext vOf hOf)
  cases hm : mapE (optEntries F ns) opts with
  | error e =>
    rw [hm] at h
    obtain ⟨m', e1⟩ := h
    simp only [e1, onReturn, id]
  | ok ls =>
    rw [hm] at h
    obtain ⟨m', e1, r1⟩ := h
    simp only [e1, onReturn]
    exact ⟨m', rfl, by simpa using r1⟩

/-- the translated `extractOption` never leaves the translated semantics: no index out of range, no
    assignment into a nil map, no call through nil — under the same hypotheses -/
theorem extractOption_total (ext : Ext V) (cext : C16Ext V) (vOf hOf : Nat → V)
    (gn : GoMap (chanCall V)) (ns : Nodes) (hn : NodesRel gn ns)
    (gopts : List (GoOption V)) (opts : List Opt) (hrel : ListRel (OptRel cext vOf hOf) gopts opts) :
    ∃ res, extractOption ext cext gn gopts = .ret res := by
  have h := extractOption_refines ext cext vOf hOf gn ns hn gopts opts hrel
  cases he : extract F ns opts with
  | error e => rw [he] at h; exact ⟨_, h⟩
  | ok log => rw [he] at h; obtain ⟨m, e1, _⟩ := h; exact ⟨_, e1⟩

end EinoV.TransC16
