/-
  C15 — lemmas about the overlap check (`checkAndAddMappedPath` as a prefix tree).
  With the structural facts of a correct prefix tree (`Expected.C15.trie`) a declaration
  sequence is accepted iff no two target paths are equal or prefix-related.
-/
import EinoV.Model.C15
import EinoV.Expected.C15

namespace EinoV.C15
open EinoV.Expected.C15

theorem prefixRel_symm {p q : Path} : prefixRel p q → prefixRel q p := fun h => h.symm

theorem prefixRel_nil_left (p : Path) : prefixRel [] p := Or.inl (List.nil_prefix)

theorem prefixRel_cons_iff {s s' : Seg} {p q : Path} :
    prefixRel (s :: p) (s' :: q) ↔ s = s' ∧ prefixRel p q := by
  unfold prefixRel
  simp only [List.cons_prefix_cons]
  constructor
  · rintro (⟨h, h'⟩ | ⟨h, h'⟩)
    · exact ⟨h, Or.inl h'⟩
    · exact ⟨h.symm, Or.inr h'⟩
  · rintro ⟨h, h' | h'⟩
    · exact Or.inl ⟨h, h'⟩
    · exact Or.inr ⟨h.symm, h'⟩

theorem prefixRel_cons_nil {s : Seg} {p : Path} : prefixRel (s :: p) [] := Or.inr List.nil_prefix

theorem not_prefixRel_append {p q : Path} (h : ¬ prefixRel q p) (r : Path) : ¬ prefixRel p (q ++ r)
  | .inl hp => (List.prefix_or_prefix_of_prefix hp (List.prefix_append q r)).elim (h ∘ .inr) (h ∘ .inl)
  | .inr hq => h (.inl ((List.prefix_append q r).trans hq))

theorem noOverlap_perm {ps qs : List Path} (h : ps.Perm qs) : noOverlap ps ↔ noOverlap qs :=
  h.pairwise_iff fun hn hh => hn (prefixRel_symm hh)

theorem noOverlap_fst {α : Type} {l : List (Path × α)} :
    noOverlap (l.map (·.1)) ↔ l.Pairwise fun x y => ¬ prefixRel x.1 y.1 := List.pairwise_map

theorem noOverlap_sublist {ps qs : List Path} (h : ps.Sublist qs) (hq : noOverlap qs) : noOverlap ps :=
  List.Pairwise.sublist h hq

theorem noOverlap_append_cross {ps qs : List Path} (h : noOverlap (ps ++ qs)) :
    ∀ p ∈ ps, ∀ q ∈ qs, ¬ prefixRel p q := (List.pairwise_append.mp h).2.2

/-- the set of target paths a prefix tree stands for: a path is in it when walking it from the root ends exactly
    on a terminal (not on an inner node, not past a terminal).  `RootInv.mem` equates it with the targets declared
    so far; `insPath_spec` states a conflict as prefix relation to a member. -/
def tmem : Trie → Path → Bool
  | .term, [] => true
  | .term, _ :: _ => false
  | .node _, [] => false
  | .node cs, s :: r =>
    match cs.find s with
    | some t => tmem t r
    | none => false

mutual
/-- no dangling inner node: below every inner node there is a terminal -/
def wfT : Trie → Prop
  | .term => True
  | .node cs => cs ≠ .nil ∧ wfK cs
/-- `wfT` of every child.  The invariants (`insPath_spec`, `RootInv.wf`) carry `wfK cs` for the node at hand and
    not `wfT (.node cs)`: the root before the first declaration, and the node `insPath` starts below a segment
    not seen before, have no children yet. -/
def wfK : Kids → Prop
  | .nil => True
  | .cons _ t r => wfT t ∧ wfK r
end

theorem Kids.find_set_same : ∀ (cs : Kids) (s : String) (t : Trie), (cs.set s t).find s = some t
  | .nil, s, t => by simp [Kids.set, Kids.find]
  | .cons k u r, s, t => by
    have ih := Kids.find_set_same r s t
    simp only [Kids.set]
    split
    · next h => simp [Kids.find, h]
    · next h => simp [Kids.find, h, ih]

theorem Kids.find_set_other : ∀ (cs : Kids) {s s' : String} (t : Trie), s' ≠ s →
    (cs.set s t).find s' = cs.find s'
  | .nil, s, s', t, h => by simp [Kids.set, Kids.find, h]
  | .cons k u r, s, s', t, h => by
    have ih := Kids.find_set_other r t h
    simp only [Kids.set]
    split
    · next hk => subst hk; simp [Kids.find, h]
    · next hk =>
      simp only [Kids.find]
      split
      · rfl
      · exact ih

theorem Kids.set_ne_nil (cs : Kids) (s : String) (t : Trie) : cs.set s t ≠ .nil := by
  cases cs with
  | nil => simp [Kids.set]
  | cons k u r => simp only [Kids.set]; split <;> simp

theorem wfK_find : ∀ {cs : Kids}, wfK cs → ∀ {s : String} {t : Trie}, cs.find s = some t → wfT t
  | .nil, _, s, t, hf => by simp [Kids.find] at hf
  | .cons k u r, h, s, t, hf => by
    simp only [wfK] at h
    simp only [Kids.find] at hf
    split at hf
    · cases hf; exact h.1
    · exact wfK_find h.2 hf

theorem wfK_set : ∀ {cs : Kids}, wfK cs → ∀ (s : String) {t : Trie}, wfT t → wfK (cs.set s t)
  | .nil, _, s, t, ht => by simp [Kids.set, wfK, ht]
  | .cons k u r, h, s, t, ht => by
    simp only [wfK] at h
    simp only [Kids.set]
    split
    · simp [wfK, ht, h.2]
    · simp [wfK, h.1, wfK_set h.2 s ht]

@[simp] theorem trie_rtt : trie.rejectsThroughTerminal = true := rfl
@[simp] theorem trie_de : trie.descendsExisting = true := rfl
@[simp] theorem trie_reoi : trie.rejectsEndOnInner = true := rfl
@[simp] theorem trie_rwaf : trie.rejectsWholeAfterFields = true := rfl
@[simp] theorem trie_epiw : trie.emptyPathIsWhole = true := rfl

theorem exists_mem_of_wf : ∀ {cs : Kids}, wfT (.node cs) → ∃ q, tmem (.node cs) q = true
  | .nil, h => absurd rfl h.1
  | .cons k .term _, _ => ⟨[k], by simp [tmem, Kids.find]⟩
  | .cons k (.node sub) _, h => by
    obtain ⟨q, hq⟩ := exists_mem_of_wf h.2.1
    exact ⟨k :: q, by simp [tmem, Kids.find, hq]⟩

theorem tmem_node_nil (q : Path) : tmem (.node .nil) q = false := by
  cases q <;> simp [tmem, Kids.find]

theorem insPath_single {cs : Kids} (hwf : wfK cs) (s : Seg) :
    ((∃ q, tmem (.node cs) (s :: q) = true) ∧ insPath trie cs [s] = none) ∨
    ((∀ q, tmem (.node cs) (s :: q) = false) ∧ insPath trie cs [s] = some (cs.set s .term)) := by
  simp only [insPath, trie_rtt, trie_reoi, if_true, tmem]
  cases hf : cs.find s with
  | none => exact .inr ⟨fun _ => rfl, rfl⟩
  | some t =>
    cases t with
    | term => exact .inl ⟨⟨[], rfl⟩, rfl⟩
    | node sub => exact .inl ⟨exists_mem_of_wf (wfK_find hwf hf), rfl⟩

theorem insPath_cons {cs : Kids} (hwf : wfK cs) (s s' : Seg) (r : Path) :
    (tmem (.node cs) [s] = true ∧ insPath trie cs (s :: s' :: r) = none) ∨
    ∃ sub0, wfK sub0 ∧ (∀ q, tmem (.node sub0) q = tmem (.node cs) (s :: q)) ∧
      insPath trie cs (s :: s' :: r) = (insPath trie sub0 (s' :: r)).map fun sub => cs.set s (.node sub) := by
  simp only [insPath, trie_rtt, trie_de, if_true]
  cases hf : cs.find s with
  | none => exact .inr ⟨.nil, trivial, fun q => by simp [tmem, hf, tmem_node_nil], rfl⟩
  | some t =>
    cases t with
    | term => exact .inl ⟨by simp [tmem, hf], rfl⟩
    | node sub0 => exact .inr ⟨sub0, (wfK_find hwf hf).2, fun q => by simp [tmem, hf], rfl⟩

theorem conflict_cons {cs : Kids} {s : Seg} {r : Path} :
    (∃ q, tmem (.node cs) q = true ∧ prefixRel (s :: r) q) ↔
      ∃ q', tmem (.node cs) (s :: q') = true ∧ prefixRel r q' := by
  constructor
  · rintro ⟨q, hq, hrel⟩
    cases q with
    | nil => simp [tmem] at hq
    | cons s' q' =>
      obtain ⟨rfl, h2⟩ := prefixRel_cons_iff.mp hrel
      exact ⟨q', hq, h2⟩
  · rintro ⟨q', hq, hrel⟩
    exact ⟨s :: q', hq, prefixRel_cons_iff.mpr ⟨rfl, hrel⟩⟩

theorem tmem_set_iff {cs : Kids} {s : Seg} {r : Path} {t' : Trie}
    (h : ∀ q', tmem t' q' = true ↔ (q' = r ∨ tmem (.node cs) (s :: q') = true)) (q : Path) :
    tmem (.node (cs.set s t')) q = true ↔ (q = s :: r ∨ tmem (.node cs) q = true) := by
  cases q with
  | nil => simp [tmem]
  | cons s' q' =>
    by_cases hs : s' = s
    · subst hs
      rw [show tmem (.node (cs.set s' t')) (s' :: q') = tmem t' q' by simp [tmem, Kids.find_set_same], h q']
      simp
    · simp [tmem, Kids.find_set_other cs t' hs, hs]

theorem insPath_spec : ∀ (p : Path) (cs : Kids), p ≠ [] → wfK cs →
    (insPath trie cs p = none ↔ ∃ q, tmem (.node cs) q = true ∧ prefixRel p q) ∧
    (∀ cs', insPath trie cs p = some cs' →
      cs' ≠ .nil ∧ wfK cs' ∧ ∀ q, tmem (.node cs') q = true ↔ (q = p ∨ tmem (.node cs) q = true)) := by
  intro p
  induction p with
  | nil => intro cs h; exact absurd rfl h
  | cons s r ih =>
    intro cs _ hwf
    rw [conflict_cons]
    cases r with
    | nil =>
      obtain ⟨⟨q, hq⟩, hi⟩ | ⟨hno, hi⟩ := insPath_single hwf s <;> rw [hi]
      · exact ⟨⟨fun _ => ⟨q, hq, prefixRel_nil_left q⟩, fun _ => rfl⟩, fun cs' h => by simp at h⟩
      · refine ⟨⟨fun h => by simp at h, fun ⟨q, hq, _⟩ => by simp [hno] at hq⟩, fun cs' h => ?_⟩
        cases h
        exact ⟨Kids.set_ne_nil _ _ _, wfK_set hwf s (by simp [wfT]),
          tmem_set_iff fun q' => by rw [hno q']; cases q' <;> simp [tmem]⟩
    | cons s' r' =>
      obtain ⟨hf, hi⟩ | ⟨sub0, hwf0, hbelow, hi⟩ := insPath_cons hwf s s' r' <;> rw [hi]
      · exact ⟨⟨fun _ => ⟨[], hf, prefixRel_cons_nil⟩, fun _ => rfl⟩, fun cs' h => by simp at h⟩
      · have hsub := ih sub0 (by simp) hwf0
        simp only [hbelow] at hsub
        refine ⟨by rw [Option.map_eq_none_iff, hsub.1], fun cs' h => ?_⟩
        obtain ⟨sub, hi, rfl⟩ := Option.map_eq_some_iff.mp h
        obtain ⟨hne, hwfs, hmem⟩ := hsub.2 sub hi
        exact ⟨Kids.set_ne_nil _ _ _, wfK_set hwf s (by simp [wfT, hne, hwfs]), tmem_set_iff hmem⟩

theorem noOverlap_append (a b P : List Path) :
    ((a ++ b).Pairwise (fun p q => ¬ prefixRel p q) ∧ ∀ p ∈ a ++ b, ∀ q ∈ P, ¬ prefixRel q p) ↔
    (a.Pairwise (fun p q => ¬ prefixRel p q) ∧ ∀ p ∈ a, ∀ q ∈ P, ¬ prefixRel q p) ∧
    (b.Pairwise (fun p q => ¬ prefixRel p q) ∧ ∀ p ∈ b, ∀ q ∈ a.reverse ++ P, ¬ prefixRel q p) := by
  simp only [List.pairwise_append, List.mem_append, List.mem_reverse]
  constructor
  · rintro ⟨⟨h1, h2, h3⟩, h4⟩
    exact ⟨⟨h1, fun p hp => h4 p (Or.inl hp)⟩, h2,
      fun p hp q hq => hq.elim (fun hq => h3 q hq p hp) (h4 p (Or.inr hp) q)⟩
  · rintro ⟨⟨h1, h2⟩, h3, h4⟩
    exact ⟨⟨h1, h3, fun p hp q hq => h4 q hq p (Or.inl hp)⟩,
      fun p hp => hp.elim (h2 p) (fun hp q hq => h4 p hp q (Or.inr hq))⟩

/-- the invariant `addPaths` keeps (`addPaths_spec`): `t` is the tree after the target paths `P` (latest first) have
    gone in.  `mem`: its members are exactly `P`, which turns a conflict with a member (`insPath_spec`) into a
    conflict with a declared target.  `wf`: what `insPath_spec` asks of the children of the root; a root `.term` is
    the whole input declared as the one target (`P` holds only `[]`), and `addPaths` refuses everything after it. -/
structure RootInv (t : Trie) (P : List Path) : Prop where
  wf : match t with | .term => True | .node cs => wfK cs
  mem : ∀ q, tmem t q = true ↔ q ∈ P

theorem addPaths_spec : ∀ (paths : List Path) (t : Trie) (P : List Path), RootInv t P →
    ((addPaths trie t paths).isSome ↔
      (paths.Pairwise (fun p q => ¬ prefixRel p q) ∧ ∀ p ∈ paths, ∀ q ∈ P, ¬ prefixRel q p)) ∧
    (∀ t', addPaths trie t paths = some t' → RootInv t' (paths.reverse ++ P)) := by
  intro paths
  induction paths with
  | nil => intro t P hinv; exact ⟨by simp [addPaths], fun t' h => Option.some.inj h ▸ hinv⟩
  | cons p rest ih =>
    intro t P hinv
    -- the first path is refused because of something declared, or goes in and the rest follows
    suffices h : (addPaths trie t (p :: rest) = none ∧ ∃ q ∈ P, prefixRel q p) ∨
        ∃ t', addPaths trie t (p :: rest) = addPaths trie t' rest ∧ RootInv t' (p :: P) ∧
          ∀ q ∈ P, ¬ prefixRel q p by
      have hcond := noOverlap_append [p] rest P
      simp only [List.singleton_append, List.pairwise_singleton, List.mem_singleton, forall_eq,
        List.reverse_singleton, true_and] at hcond
      rw [hcond, List.reverse_cons, List.append_assoc]
      rcases h with ⟨h, q, hq, hrel⟩ | ⟨t', h, hinv', hno⟩ <;> rw [h]
      · exact ⟨⟨fun h => (by cases h), fun h => absurd hrel (h.1 q hq)⟩, fun _ h => by cases h⟩
      · obtain ⟨h1, h2⟩ := ih t' _ hinv'
        exact ⟨by rw [h1]; exact (and_iff_right hno).symm, h2⟩
    cases t with
    | term => exact .inl ⟨rfl, [], (hinv.mem []).mp rfl, prefixRel_nil_left p⟩
    | node cs =>
      have hwf : wfK cs := hinv.wf
      cases p with
      | nil =>
        simp only [addPaths, trie_epiw, if_true]
        by_cases hcs : cs = .nil
        · -- nothing declared yet: the whole input becomes the one target
          subst hcs
          obtain rfl : P = [] := List.eq_nil_iff_forall_not_mem.mpr fun q hq => by
            simpa [tmem_node_nil] using (hinv.mem q).mpr hq
          exact .inr ⟨.term, rfl, ⟨trivial, fun q => by cases q <;> simp [tmem]⟩, by simp⟩
        · obtain ⟨q, hq⟩ := exists_mem_of_wf ⟨hcs, hwf⟩
          exact .inl ⟨if_neg hcs, q, (hinv.mem q).mp hq, prefixRel_symm (prefixRel_nil_left q)⟩
      | cons s r =>
        obtain ⟨hnone, hsome⟩ := insPath_spec (s :: r) cs (by simp) hwf
        simp only [addPaths]
        cases hi : insPath trie cs (s :: r) with
        | none =>
          obtain ⟨q, hq, hrel⟩ := hnone.mp hi
          exact .inl ⟨rfl, q, (hinv.mem q).mp hq, prefixRel_symm hrel⟩
        | some cs' =>
          obtain ⟨_, hwf', hmem'⟩ := hsome cs' hi
          refine .inr ⟨.node cs', rfl, ⟨hwf', fun q => by rw [hmem' q, hinv.mem q]; simp⟩, fun q hq hrel => ?_⟩
          have := hnone.mpr ⟨q, (hinv.mem q).mpr hq, prefixRel_symm hrel⟩
          simp [hi] at this

/-- the invariant of `n.mappedFieldPath[""]` across the `AddInput` calls of one node -/
def StInv (st : MState) (P : List Path) : Prop :=
  match st with
  | none => P = []
  | some t => P ≠ [] ∧ RootInv t P

/-- one `AddInput`: accepted iff its targets (the whole input `[]` for a dependency without mappings)
    are pairwise unrelated and unrelated to what was declared before -/
theorem checkAdd_spec (g : List Path) (st : MState) (P : List Path) (hinv : StInv st P) :
    ((checkAdd trie st g).isSome ↔
      ((if g.isEmpty then [[]] else g).Pairwise (fun p q => ¬ prefixRel p q) ∧
        ∀ p ∈ (if g.isEmpty then [[]] else g), ∀ q ∈ P, ¬ prefixRel q p)) ∧
    ∀ st', checkAdd trie st g = some st' → StInv st' ((if g.isEmpty then [[]] else g).reverse ++ P) := by
  -- with something declared before, and `[]` among it or among the new targets, there is a conflict
  have hterm : ∀ {tg : List Path} {p q : Path}, p ∈ tg → q ∈ P → (p = [] ∨ q = []) →
      ¬ (tg.Pairwise (fun p q => ¬ prefixRel p q) ∧ ∀ p ∈ tg, ∀ q ∈ P, ¬ prefixRel q p) := by
    rintro tg p q hp hq (rfl | rfl) ⟨_, h⟩
    · exact h _ hp q hq (prefixRel_symm (prefixRel_nil_left q))
    · exact h p hp _ hq (prefixRel_nil_left p)
  -- a non-empty group goes through `addPaths`
  have hadd : ∀ cs, RootInv (.node cs) P → g.isEmpty = false →
      (((addPaths trie (.node cs) g).map some).isSome ↔
        (g.Pairwise (fun p q => ¬ prefixRel p q) ∧ ∀ p ∈ g, ∀ q ∈ P, ¬ prefixRel q p)) ∧
      ∀ st', (addPaths trie (.node cs) g).map some = some st' → StInv st' (g.reverse ++ P) := by
    intro cs hroot hg
    obtain ⟨h1, h2⟩ := addPaths_spec g (.node cs) P hroot
    refine ⟨by rw [Option.isSome_map]; exact h1, fun st' h => ?_⟩
    obtain ⟨t', ha, rfl⟩ := Option.map_eq_some_iff.mp h
    exact ⟨by cases g <;> simp at hg ⊢, h2 t' ha⟩
  cases hg : g.isEmpty <;> simp only [checkAdd, hg, if_true, if_false, Bool.false_eq_true, trie_rwaf]
  · -- field mappings
    cases st with
    | none =>
      obtain rfl : P = [] := hinv
      exact hadd .nil ⟨by simp [wfK], fun q => by simp [tmem_node_nil]⟩ hg
    | some t =>
      cases t with
      | term =>
        obtain ⟨p, hp⟩ : ∃ p, p ∈ g := by cases g with | nil => cases hg | cons p _ => exact ⟨p, by simp⟩
        exact ⟨⟨fun h => (by cases h), fun h => absurd h (hterm hp ((hinv.2.mem []).mp rfl) (Or.inr rfl))⟩,
          fun st' h => by cases h⟩
      | node cs => exact hadd cs hinv.2 hg
  · -- the whole input
    cases st with
    | none =>
      obtain rfl : P = [] := hinv
      exact ⟨by simp, fun st' h => by cases h; exact ⟨by simp, trivial, fun q => by cases q <;> simp [tmem]⟩⟩
    | some t =>
      obtain ⟨q0, hq0⟩ := List.exists_mem_of_ne_nil P hinv.1
      have : (none : Option MState).isSome = true ↔ _ :=
        ⟨fun h => (by cases h), fun h => absurd h (hterm (List.mem_singleton.mpr rfl) hq0 (Or.inl rfl))⟩
      cases t <;> exact ⟨this, fun st' h => by cases h⟩

theorem targets_cons (g : List Path) (rest : List (List Path)) :
    targets (g :: rest) = (if g.isEmpty then [[]] else g) ++ targets rest := List.flatMap_cons

theorem checkFrom_spec : ∀ (groups : List (List Path)) (st : MState) (P : List Path), StInv st P →
    (checkFrom trie st groups = true ↔
      ((targets groups).Pairwise (fun p q => ¬ prefixRel p q) ∧
        ∀ p ∈ targets groups, ∀ q ∈ P, ¬ prefixRel q p)) := by
  intro groups
  induction groups with
  | nil => intro st P _; simp [checkFrom, targets]
  | cons g rest ih =>
    intro st P hinv
    rw [targets_cons, noOverlap_append]
    obtain ⟨h1, h2⟩ := checkAdd_spec g st P hinv
    simp only [checkFrom]
    cases ha : checkAdd trie st g with
    | none =>
      rw [ha] at h1
      exact ⟨fun h => (by cases h), fun h => by cases h1.mpr h.1⟩
    | some st' =>
      rw [ha] at h1
      rw [ih st' _ (h2 st' ha)]
      exact ⟨fun h => ⟨h1.mp rfl, h⟩, fun h => h.2⟩

theorem checkMapped_iff (groups : List (List Path)) :
    checkMapped trie groups = true ↔ noOverlap (targets groups) := by
  unfold checkMapped noOverlap
  rw [checkFrom_spec groups none [] rfl]
  simp

theorem dupFree_iff_nodup : ∀ (ps : List Path), dupFree ps = true ↔ ps.Nodup
  | [] => by simp [dupFree]
  | p :: rest => by simp [dupFree, dupFree_iff_nodup rest]

theorem dupFree_of_pairwise : ∀ (ps : List Path), ps.Pairwise (fun p q => ¬ prefixRel p q) → dupFree ps = true := by
  intro ps h
  -- a path is related to itself, so unrelated paths are distinct
  refine (dupFree_iff_nodup ps).mpr (h.imp ?_)
  rintro p _ hn rfl
  exact hn (Or.inl (List.prefix_refl p))

theorem flatten_sublist_targets (groups : List (List Path)) : (groups.flatten).Sublist (targets groups) := by
  induction groups with
  | nil => simp [targets]
  | cons g rest ih =>
    rw [targets_cons, List.flatten_cons]
    by_cases hg : g.isEmpty = true
    · have : g = [] := by simpa using hg
      subst this
      simp only [List.nil_append, List.isEmpty_nil, if_true]
      exact List.Sublist.trans ih (List.sublist_append_right _ _)
    · simp only [hg, if_false, Bool.false_eq_true]
      exact List.Sublist.append (List.Sublist.refl g) ih

theorem acceptedOverlap_iff (groups : List (List Path)) :
    acceptedOverlap trie groups = true ↔ noOverlap (targets groups) := by
  unfold acceptedOverlap
  rw [Bool.and_eq_true, checkMapped_iff]
  constructor
  · exact fun h => h.1
  · intro h
    exact ⟨h, dupFree_of_pairwise _ (List.Pairwise.sublist (flatten_sublist_targets groups) h)⟩

end EinoV.C15
