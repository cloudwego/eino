/-
  C09 — helper lemmas: with every slot allocated per run, a step of run `j` changes only
  `priv j`, and the interleaved execution factors into the runs executed alone (`exec_allPerRun`);
  what a run of a layered graph does alone (`layeredStep_*`, `alone_*`); and, for any machine run by
  a schedule, `reads_when_scheduled`, instantiated in Props/C09.lean for the option machine
  (`Proofs/C09Opt.lean`) and the handler machine (`Proofs/C09Cb.lean`).
-/
import EinoV.Model.C09
import EinoV.Proofs.Sched

namespace EinoV.C09

theorem load_allPerRun (h : Heap) (i : Nat) : load Alloc.allPerRun h i = h.priv i := by
  cases hp : h.priv i
  simp [load, Alloc.allPerRun, hp]

theorem store_allPerRun_shared (h : Heap) (i : Nat) (s : Slots) :
    (store Alloc.allPerRun h i s).shared = h.shared := by
  cases hs : h.shared
  simp [store, Alloc.allPerRun, hs]

theorem store_allPerRun_priv (h : Heap) (i j : Nat) (s : Slots) :
    (store Alloc.allPerRun h i s).priv j = if j = i then s else h.priv j := by
  cases s
  simp [store, Alloc.allPerRun]

theorem stepRun_allPerRun_priv (step : Nat → Slots → Slots) (h : Heap) (i j : Nat) :
    (stepRun Alloc.allPerRun step h j).priv i = if i = j then step j (h.priv j) else h.priv i := by
  simp [stepRun, store_allPerRun_priv, load_allPerRun]

theorem stepRun_allPerRun_shared (step : Nat → Slots → Slots) (h : Heap) (j : Nat) :
    (stepRun Alloc.allPerRun step h j).shared = h.shared := by
  simp [stepRun, store_allPerRun_shared]

theorem exec_allPerRun (step : Nat → Slots → Slots) (sched : List Nat) :
    ∀ h : Heap,
      (exec Alloc.allPerRun step sched h).shared = h.shared ∧
      ∀ i, (exec Alloc.allPerRun step sched h).priv i
             = alone step i (sched.count i) (h.priv i) := fun h =>
  -- shared part: `Sched.inv_exec` with the invariant "`shared` is what it was in `h`".  Private part:
  -- `Sched.proj_exec` with no invariant (`True`), the component `priv i`, and `alone step i` for what
  -- `n` turns of run `i` do to it; the last two arguments are the own step and the frame (a step of
  -- `j ≠ i` leaves `priv i`), both from `stepRun_allPerRun_priv`.
  ⟨Sched.inv_exec _ (exec Alloc.allPerRun step) (fun _ => rfl) (fun _ _ _ => rfl) (·.shared = h.shared)
      (fun _ j e => (stepRun_allPerRun_shared step _ j).trans e) sched h rfl,
   fun i => Sched.proj_exec _ (exec Alloc.allPerRun step) (fun _ => rfl) (fun _ _ _ => rfl)
      (fun _ => True) (fun _ _ _ => trivial) i (·.priv i) (alone step i) (fun _ _ => rfl)
      (fun h' n _ => by rw [stepRun_allPerRun_priv, if_pos rfl]; rfl)
      (fun h' j _ e => by rw [stepRun_allPerRun_priv, if_neg (Ne.symm e)]) sched h trivial⟩

theorem alone_add (step : Nat → Slots → Slots) (i m n : Nat) (s : Slots) :
    alone step i (m + n) s = alone step i n (alone step i m s) := by
  induction m generalizing s with
  | zero => simp [alone]
  | succ m ih =>
    have : m + 1 + n = (m + n) + 1 := by omega
    rw [this]; simp [alone, ih]

theorem layeredStep_idle (prog : List Layer) (s : Slots) (h : prog.length ≤ s.tm) :
    layeredStep prog s = s := by
  unfold layeredStep
  have : prog[s.tm]? = none := by simp; exact h
  simp [this]

theorem applyLayer_tm (l : Layer) (s : Slots) : (applyLayer l s).tm = s.tm := by
  unfold applyLayer
  split
  · rfl
  · rfl
  · split
    · split <;> rfl
    · rfl

theorem layeredStep_tm (prog : List Layer) (s : Slots) (h : s.tm < prog.length) :
    (layeredStep prog s).tm = s.tm + 1 := by
  unfold layeredStep
  have : prog[s.tm]? = some prog[s.tm] := by simp [h]
  simp [this]

theorem alone_layered_tm (prog : List Layer) (i n : Nat) (s : Slots) (h : s.tm + n ≤ prog.length) :
    (alone (fun _ => layeredStep prog) i n s).tm = s.tm + n := by
  induction n generalizing s with
  | zero => simp [alone]
  | succ n ih =>
    simp only [alone]
    have h1 : s.tm < prog.length := by omega
    have h2 := layeredStep_tm prog s h1
    rw [ih (layeredStep prog s) (by omega), h2]; omega

theorem alone_idle (prog : List Layer) (i n : Nat) (s : Slots) (h : prog.length ≤ s.tm) :
    alone (fun _ => layeredStep prog) i n s = s := by
  induction n generalizing s with
  | zero => rfl
  | succ n ih => simp only [alone]; rw [layeredStep_idle prog s h]; exact ih s h

theorem alone_const (f : Slots → Slots) (i j n : Nat) :
    ∀ s, alone (fun _ => f) i n s = alone (fun _ => f) j n s := by
  induction n with
  | zero => intro s; rfl
  | succ n ih => intro s; exact ih (f s)

/-- For any machine run by a schedule in which thread `t` counts its steps in `pc`, nobody else moves
    that counter, the step at `pc ≥ n` makes `seen` true and `seen` stays true: once `t` has had the
    `n + 1 - pc` turns it still owes, wherever they lie in the schedule, `seen` holds.  An instance of
    `Sched.countdown` with `R k st` = "seen, or `k` turns are enough to get past `n`". -/
theorem reads_when_scheduled {σ : Type} (step : σ → Nat → σ) (exec : List Nat → σ → σ)
    (hnil : ∀ st, exec [] st = st) (hcons : ∀ j rest st, exec (j :: rest) st = exec rest (step st j))
    (t n : Nat) (pc : σ → Nat) (seen : σ → Prop)
    (other : ∀ st j, j ≠ t → pc (step st j) = pc st)
    (adv : ∀ st, pc st < n → pc (step st t) = pc st + 1)
    (fin : ∀ st, n ≤ pc st → seen (step st t))
    (keep : ∀ st j, seen st → seen (step st j)) (sched : List Nat) :
    ∀ st, seen st ∨ (pc st ≤ n ∧ n + 1 ≤ pc st + sched.count t) → seen (exec sched st) := by
  intro st h
  refine (Sched.countdown step exec hnil hcons t (fun k st => seen st ∨ (pc st ≤ n ∧ n + 1 ≤ pc st + k))
    (fun st k h => ?_) (fun st j k e h => ?_) sched st h).elim id fun h => absurd h.2 (by omega)
  · refine h.elim (fun hs => .inl (keep st t hs)) fun ⟨h1, h2⟩ => ?_
    by_cases hlt : pc st < n
    · exact .inr (by rw [adv st hlt]; omega)
    · exact .inl (fin st (by omega))
  · exact h.elim (fun hs => .inl (keep st j hs)) fun h => .inr (by rw [other st j e]; exact h)

end EinoV.C09
