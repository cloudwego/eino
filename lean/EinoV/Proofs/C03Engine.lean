/-
  C03 at engine level: one superstep does not depend on the order in which the finished tasks are
  collected, so a successful any-predecessor run is the same under every fair completion schedule.
-/
import EinoV.Proofs.C01Refine
namespace EinoV.Engine
open EinoV.Spec

theorem Spec.next_perm {V} (ops : ValOps V) (hm : MergePerm ops) (r : Runner V) (done done' : List (Done V))
    (hp : done.Perm done') (nx : Next V) (h : Spec.next ops r done = .ok nx) :
    Spec.next ops r done' = .ok nx := by
  unfold Spec.next at h ⊢
  cases hs : done.mapM (sentOf r) with
  | error e => rw [hs] at h; cases h
  | ok sent =>
    obtain ⟨sent', hs', hps⟩ := mapM_perm (sentOf r) hp sent hs
    have hin : ∀ t, collect ops ((inbox r sent' t).map (·.2)) = collect ops ((inbox r sent t).map (·.2)) :=
      fun t => collect_perm ops hm _ _ ((hps.filterMap _).symm.map _)
    rw [hs] at h
    rw [hs', ← h]
    simp only [bind, Except.bind, hin]

theorem runTasks_perm {V} (r : Runner V) (sched sched' : Sched V) (hf : sched.Fair) (hf' : sched'.Fair)
    (step step' : Nat) (ts : List (Key × V)) (done : List (Done V)) (h : runTasks r sched step ts = .ok done) :
    ∃ done', runTasks r sched' step' ts = .ok done' ∧ done.Perm done' := by
  unfold runTasks at h ⊢
  have hp : (sched step (ts.map (execOne r))).Perm (sched' step' (ts.map (execOne r))) :=
    (hf step _).trans (hf' step' _).symm
  exact mapM_perm collectOne hp done h

theorem Spec.loop_sched {V} (ops : ValOps V) (hm : MergePerm ops) (r : Runner V) (sched sched' : Sched V)
    (hf : sched.Fair) (hf' : sched'.Fair) :
    ∀ (fuel : Nat) (tasks : List (Key × V)) (tr : Trace V) (v : V),
      (Spec.loop ops r sched fuel tasks tr).result = .ok v →
      Spec.loop ops r sched' fuel tasks tr = Spec.loop ops r sched fuel tasks tr := by
  intro fuel
  induction fuel with
  | zero => intro tasks tr v h; rw [Spec.loop] at h; cases h
  | succ n ih =>
    intro tasks tr v
    rw [Spec.loop, Spec.loop]
    cases hr : runTasks r sched tr.length tasks with
    | error e => exact nofun
    | ok done =>
      obtain ⟨done', hr', hp⟩ := runTasks_perm r sched sched' hf hf' tr.length tr.length tasks done hr
      simp only [hr', ← hp.isEmpty_eq]
      cases done.isEmpty with
      | true => exact nofun
      | false =>
        simp only [Bool.false_eq_true, ↓reduceIte]
        cases hn : Spec.next ops r done with
        | error e => exact nofun
        | ok nx =>
          rw [Spec.next_perm ops hm r done done' hp nx hn]
          cases nx with
          | result w => exact fun _ => rfl
          | tasks ts => exact ih ts (tasks :: tr) v

theorem Spec.run_sched {V} (ops : ValOps V) (hm : MergePerm ops) (r : Runner V) (sched sched' : Sched V)
    (hf : sched.Fair) (hf' : sched'.Fair) (x v : V) (h : (Spec.run ops r sched x).result = .ok v) :
    Spec.run ops r sched' x = Spec.run ops r sched x := by
  unfold Spec.run at h ⊢
  rcases hn : Spec.next ops r [(START, x)] with e | w | ts
  · rfl
  · rfl
  · rw [hn] at h
    exact Spec.loop_sched ops hm r sched sched' hf hf' _ ts [] v h

theorem pregel_run_sched_independent {V} (ops : ValOps V) (hm : MergePerm ops) (r : Runner V) (h : r.dag = false)
    (hk : (keys r).Nodup) (sched sched' : Sched V) (hf : sched.Fair) (hf' : sched'.Fair) (x v : V)
    (hok : (runS ops r sched x).result = .ok v) : runS ops r sched' x = runS ops r sched x := by
  rw [run_pregel ops r h hk sched hf x] at hok ⊢
  rw [run_pregel ops r h hk sched' hf' x]
  exact Spec.run_sched ops hm r sched sched' hf hf' x v hok

end EinoV.Engine
