/- C20: what the bodies of the Add* functions, the checks of `compile` and the rounds of the work list
   do, case by case: the lemmas through which the other C20 / C07 proof files look at them without
   unfolding them. -/
import EinoV.Model.C20Builder
import EinoV.Proofs.Monadic

namespace EinoV.Build

theorem Outcome.eq_ok_of_isOk {o : Outcome} (h : o.isOk = true) : o = .ok := by
  cases o <;> simp [Outcome.isOk] at h ⊢

theorem guarded_cases (g : Guards) (b : Builder) (body : Except ErrKind Builder) :
    (∃ k, b.buildError = some k ∧ guarded g b body = (b, .stored k)) ∨
    (b.compiled = true ∧ guarded g b body = (b, .compiled)) ∨
    (∃ b', body = .ok b' ∧ guarded g b body = (b', .ok)) ∨
    (∃ k, body = .error k ∧
      guarded g b body = (if g.storeErr then { b with buildError := some k } else b, .fresh k)) := by
  rcases hE : (if g.checkErr = true then b.buildError else none) with _ | k
  · by_cases hc : (g.checkCompiled && b.compiled) = true
    · exact Or.inr (Or.inl ⟨(Bool.and_eq_true_iff.mp hc).2, by simp only [guarded, hE, hc, if_true]⟩)
    · cases body with
      | ok b' =>
        exact Or.inr (Or.inr (Or.inl ⟨b', rfl, by simp only [guarded, hE, hc, Bool.false_eq_true, if_false]⟩))
      | error k =>
        exact Or.inr (Or.inr (Or.inr ⟨k, rfl, by simp only [guarded, hE, hc, Bool.false_eq_true, if_false]⟩))
  · refine Or.inl ⟨k, ?_, by simp only [guarded, hE]⟩
    split at hE
    · exact hE
    · cases hE

theorem guarded_ind {P : Builder → Prop} (g : Guards) (b : Builder) (body : Except ErrKind Builder)
    (h0 : P b) (hbody : ∀ b', body = .ok b' → P b') (herr : ∀ k, P { b with buildError := some k }) :
    P (guarded g b body).1 := by
  rcases guarded_cases g b body with ⟨_, _, h⟩ | ⟨_, h⟩ | ⟨b', hb, h⟩ | ⟨k, _, h⟩ <;> rw [h]
  · exact h0
  · exact h0
  · exact hbody b' hb
  · show P (if _ then _ else _)
    split
    · exact herr k
    · exact h0

theorem guarded_ne_panic (g : Guards) (b : Builder) (body : Except ErrKind Builder) :
    (guarded g b body).2 ≠ .panic := by
  rcases guarded_cases g b body with ⟨_, _, h⟩ | ⟨_, h⟩ | ⟨_, _, h⟩ | ⟨_, _, h⟩ <;> rw [h] <;> nofun

theorem guarded_ok_or_err (g : Guards) (hs : g.storeErr = true) (b : Builder) (hc : b.compiled = false)
    (body : Except ErrKind Builder) :
    (guarded g b body).2 = .ok ∨ (guarded g b body).1.buildError ≠ none := by
  rcases guarded_cases g b body with ⟨k, hk, h⟩ | ⟨hc', _⟩ | ⟨_, _, h⟩ | ⟨k, _, h⟩
  · exact Or.inr (by rw [h, hk]; nofun)
  · rw [hc] at hc'; cases hc'
  · exact Or.inl (by rw [h])
  · exact Or.inr (by rw [h, if_pos hs]; nofun)

theorem guarded_ok {g : Guards} {b : Builder} {body : Except ErrKind Builder}
    (h : (guarded g b body).2 = .ok) : ∃ b', body = .ok b' := by
  rcases guarded_cases g b body with ⟨_, _, e⟩ | ⟨_, e⟩ | ⟨b', hb, _⟩ | ⟨_, _, e⟩
  · rw [e] at h; cases h
  · rw [e] at h; cases h
  · exact ⟨b', hb⟩
  · rw [e] at h; cases h

theorem guarded_fresh {g : Guards} {b : Builder} {body : Except ErrKind Builder} {k : ErrKind}
    (h : (guarded g b body).2 = .fresh k) : body = .error k := by
  rcases guarded_cases g b body with ⟨_, _, e⟩ | ⟨_, e⟩ | ⟨_, _, e⟩ | ⟨k', hb, e⟩ <;> rw [e] at h <;> cases h
  exact hb

/-- `hc` is the check `addNode` makes on a state handler, the same for pre and post -/
theorem handlerCheck_none {st : Option Nat} {h : Handler} {pt : Bool} {ty : Ty} {e1 e2 e3 : ErrKind}
    (hc : (if st != some h.stateTy then some e1
      else if pt then (if h.ty != .any then some e2 else none)
      else if ty != h.ty then some e3 else none) = none) :
    h.ty = if pt then .any else ty := by
  have hc := (ite_some_eq_none_iff.mp hc).2
  cases pt with
  | true => exact Decidable.of_not_not fun hne => (ite_some_eq_none_iff.mp hc).1 (bne_iff_ne.mpr hne)
  | false =>
    exact Decidable.of_not_not fun hne => (ite_some_eq_none_iff.mp hc).1 (bne_iff_ne.mpr fun e => hne e.symm)

theorem addNodeCheck_none {b : Builder} {n : NodeSpec} (h : addNodeCheck b n = none) :
    n.key ≠ START ∧ n.key ≠ END ∧ b.hasNode n.key = false ∧
    (∀ hp, n.pre = some hp → hp.ty = (if n.passthrough then .any else n.inTy)) ∧
    (∀ hp, n.post = some hp → hp.ty = (if n.passthrough then .any else n.outTy)) := by
  unfold addNodeCheck at h
  obtain ⟨h1, h⟩ := ite_some_eq_none_iff.mp h
  obtain ⟨h2, h⟩ := ite_some_eq_none_iff.mp h
  have h := (ite_some_eq_none_iff.mp (ite_some_eq_none_iff.mp h).2).2
  simp only [Bool.or_eq_true, decide_eq_true_eq, not_or] at h1
  refine ⟨h1.2, h1.1, by simpa using h2, fun hp hpre => ?_, fun hp hpost => ?_⟩
  · rw [hpre] at h
    simp only at h
    split at h
    · cases h
    · rename_i hx; exact handlerCheck_none hx
  · rw [hpost] at h
    simp only at h
    split at h
    · cases h
    · exact handlerCheck_none h

theorem addNode_ok {f : Facts} {b : Builder} {n : NodeSpec} (h : (addNode f b n).2 = .ok) :
    addNodeCheck b n = none := by
  obtain ⟨b', hb⟩ := guarded_ok h
  cases hc : addNodeCheck b n with
  | none => rfl
  | some k => rw [hc] at hb; cases hb

theorem addNode_ind {P : Builder → Prop} (f : Facts) (b : Builder) (n : NodeSpec) (h0 : P b)
    (hadd : addNodeCheck b n = none → P { b with nodes := b.nodes ++ [n.node] })
    (herr : ∀ k, P { b with buildError := some k }) : P (addNode f b n).1 := by
  refine guarded_ind _ b _ h0 (fun b' hb => ?_) herr
  cases hck : addNodeCheck b n with
  | none => rw [hck] at hb; cases hb; exact hadd hck
  | some k => rw [hck] at hb; cases hb

section walk
variable {P : Builder → Prop} (im : Impl)
  (hpass : ∀ s b b1 kept ch1, P b →
    procEntries im s (b.nodeOut s) (getSlice b.toValidate s) b [] false = .ok (b1, kept, ch1) →
    P { b1 with toValidate := setSlice b1.toValidate s kept })
include hpass

theorem updRound_walk : ∀ (ks : List Key) (b : Builder) (ch : Bool), P b →
    (∀ r, updRound im ks b ch = .ok r → P r.1) ∧
    (∀ k, updRound im ks b ch = .error k →
      ∃ s x, P x ∧ procEntries im s (x.nodeOut s) (getSlice x.toValidate s) x [] false = .error k) := by
  intro ks
  induction ks with
  | nil => intro b ch hb; exact ⟨fun r h => by cases h; exact hb, fun _ => nofun⟩
  | cons s ks ih =>
    intro b ch hb
    unfold updRound
    split
    · rename_i k' hpe
      exact ⟨fun _ => nofun, fun k h => by cases h; exact ⟨s, b, hb, hpe⟩⟩
    · rename_i b1 kept ch1 hpe
      exact ih _ _ (hpass s b b1 kept ch1 hb hpe)

theorem updLoop_walk (ord : Ord) : ∀ (fuel : Nat) (b : Builder), P b →
    (∀ b', updLoop im ord fuel b = .ok b' → P b') ∧
    (∀ k, updLoop im ord fuel b = .error k →
      ∃ s x, P x ∧ procEntries im s (x.nodeOut s) (getSlice x.toValidate s) x [] false = .error k) := by
  intro fuel
  induction fuel with
  | zero => intro b hb; exact ⟨fun b' h => by cases h; exact hb, fun _ => nofun⟩
  | succ n ih =>
    intro b hb
    obtain ⟨hok, herr⟩ := updRound_walk im hpass (ord.keys b (b.toValidate.map (·.1))) b false hb
    unfold updLoop
    split
    · rename_i k' hr
      exact ⟨fun _ => nofun, fun k h => by cases h; exact herr k' hr⟩
    · rename_i b1 ch hr
      split
      · exact ih b1 (hok _ hr)
      · exact ⟨fun b' h => by cases h; exact hok _ hr, fun _ => nofun⟩

end walk

/-- a projection of the builder that none of the work list's writes touches -/
structure WorkListFrame {α : Type} (proj : Builder → α) : Prop where
  setTy : ∀ b k t, proj (b.setTy k t) = proj b
  mapped : ∀ (b : Builder) me fr, proj { b with mapEdges := me, fmRecords := fr } = proj b
  may : ∀ (b : Builder) me, proj { b with mayEdges := me } = proj b
  pending : ∀ (b : Builder) tv, proj { b with toValidate := tv } = proj b

variable {α : Type} {proj : Builder → α}

theorem WorkListFrame.procEntries (hp : WorkListFrame proj) (im : Impl) (s : Key) (sTy : Option Ty) (l : List PEdge) :
    ∀ (b : Builder) (kept : List PEdge) (ch : Bool) (r : Builder × List PEdge × Bool),
      procEntries im s sTy l b kept ch = .ok r → proj r.1 = proj b := by
  induction l with
  | nil => intro b kept ch r h; cases h; rfl
  | cons pe rest ih =>
    intro b kept ch r h
    unfold EinoV.Build.procEntries at h
    split at h
    · exact ih _ _ _ _ h
    · rw [ih _ _ _ _ h, hp.setTy]
    · rw [ih _ _ _ _ h, hp.setTy]
    · split at h
      · rw [ih _ _ _ _ h, hp.mapped]
      · split at h
        · cases h
        · rw [ih _ _ _ _ h, hp.may]
        · exact ih _ _ _ _ h

theorem WorkListFrame.pass (hp : WorkListFrame proj) (im : Impl) (b0 : Builder) (s : Key) (b b1 : Builder)
    (kept : List PEdge) (ch1 : Bool) (hb : proj b = proj b0)
    (hpe : EinoV.Build.procEntries im s (b.nodeOut s) (getSlice b.toValidate s) b [] false = .ok (b1, kept, ch1)) :
    proj { b1 with toValidate := setSlice b1.toValidate s kept } = proj b0 :=
  (hp.pending b1 _).trans ((hp.procEntries im s _ _ b [] false _ hpe).trans hb)

theorem WorkListFrame.updRound (hp : WorkListFrame proj) (im : Impl) (ks : List Key) :
    ∀ (b : Builder) (ch : Bool) (r : Builder × Bool), updRound im ks b ch = .ok r → proj r.1 = proj b :=
  fun b ch => (updRound_walk im (hp.pass im b) ks b ch rfl).1

theorem WorkListFrame.updLoop (hp : WorkListFrame proj) (im : Impl) (ord : Ord) (fuel : Nat) :
    ∀ (b b' : Builder), updLoop im ord fuel b = .ok b' → proj b' = proj b :=
  fun b => (updLoop_walk im (hp.pass im b) ord fuel b rfl).1

theorem WorkListFrame.update (hp : WorkListFrame proj) (im : Impl) (ord : Ord) (b b' : Builder)
    (h : update im ord b = .ok b') : proj b' = proj b := hp.updLoop im ord _ b b' h

/-- what the control half (`if !noControl { … }`) writes -/
def Builder.addControl (b : Builder) (s e : Key) : Builder :=
  { b with controlEdges := b.controlEdges ++ [(s, e)],
           startNodes := if s = START then b.startNodes ++ [e] else b.startNodes,
           endNodes := if e = END then b.endNodes ++ [s] else b.endNodes }

/-- the part of `addEdgeWithMappings` the builder and the keyed builder share: the four refusals and
    the control half -/
def edgeHead (b : Builder) (s e : Key) (noControl : Bool) : Except ErrKind Builder :=
  if s = END then .error .endAsStart
  else if e = START then .error .startAsEnd
  else if !b.hasNode s && s != START then .error .unknownStart
  else if !b.hasNode e && e != END then .error .unknownEnd
  else if noControl then .ok b
  else if b.controlEdges.contains (s, e) then .error .dupControl
  else .ok (b.addControl s e)

theorem edgeHead_accepted {b b1 : Builder} {s e : Key} {nc : Bool} (h : edgeHead b s e nc = .ok b1) :
    s ≠ END ∧ e ≠ START ∧ (b.hasNode s = false → s = START) ∧ (b.hasNode e = false → e = END) ∧
    ((nc = true ∧ b1 = b) ∨
     (nc = false ∧ (s, e) ∉ b.controlEdges ∧ b1 = b.addControl s e)) := by
  obtain ⟨h1, h⟩ := of_ite_error_eq_ok h
  obtain ⟨h2, h⟩ := of_ite_error_eq_ok h
  obtain ⟨h3, h⟩ := of_ite_error_eq_ok h
  obtain ⟨h4, h⟩ := of_ite_error_eq_ok h
  refine ⟨h1, h2, by simpa using h3, by simpa using h4, ?_⟩
  cases nc
  · rw [if_neg Bool.false_ne_true] at h
    obtain ⟨hd, h⟩ := of_ite_error_eq_ok h
    cases h
    exact Or.inr ⟨rfl, by simpa using hd, rfl⟩
  · rw [if_pos rfl] at h; cases h; exact Or.inl ⟨rfl, rfl⟩

theorem addEdgeBody_split (im : Impl) (ord : Ord) (b : Builder) (s e : Key) (nc nd : Bool) (m : Option Nat) :
    addEdgeBody im ord b s e nc nd m =
      edgeHead b s e nc >>= fun b1 =>
        if nd then .ok b1
        else if b1.dataEdges.contains (s, e) then .error .dupData
        else
          match update im ord (b1.addToValidate s { dst := e, mapped := m }) with
          | .error k => .error k
          | .ok b2 => .ok { b2 with dataEdges := b2.dataEdges ++ [(s, e)] } := by
  unfold addEdgeBody edgeHead Builder.addControl
  rw [ite_error_bind, ite_error_bind, ite_error_bind, ite_error_bind]
  -- below the four refusals both sides branch on the control half
  generalize (if nc = true then Except.ok b else _) = r1
  cases r1 <;> rfl

theorem addEdgeBody_accepted {im : Impl} {ord : Ord} {b b' : Builder} {s e : Key} {nc nd : Bool} {m : Option Nat}
    (h : addEdgeBody im ord b s e nc nd m = .ok b') :
    ∃ b1, edgeHead b s e nc = .ok b1 ∧
      ((nd = true ∧ b' = b1) ∨
       (nd = false ∧ (s, e) ∉ b1.dataEdges ∧
        ∃ b2, update im ord (b1.addToValidate s { dst := e, mapped := m }) = .ok b2 ∧
          b' = { b2 with dataEdges := b2.dataEdges ++ [(s, e)] })) := by
  rw [addEdgeBody_split] at h
  obtain ⟨b1, h1, h⟩ := bind_eq_ok.mp h
  refine ⟨b1, h1, ?_⟩
  split at h
  · rename_i hnd; cases h; exact Or.inl ⟨hnd, rfl⟩
  · rename_i hnd
    obtain ⟨hd, h⟩ := of_ite_error_eq_ok h
    split at h
    · cases h
    · rename_i b2 hu; cases h
      exact Or.inr ⟨by simpa using hnd, by simpa using hd, b2, hu, rfl⟩

/-- when neither half is asked for, the source returns the refusal before the `defer` is installed, so
    that it is not stored: `storeErr := false` -/
theorem addEdge_eq_guarded (f : Facts) (im : Impl) (ord : Ord) (b : Builder) (s e : Key) (nc nd : Bool)
    (m : Option Nat) :
    addEdge f im ord b s e nc nd m =
      if (nc && nd) = true then guarded { f.edgeG with storeErr := false } b (.error .edgeBothNo)
      else guarded f.edgeG b (addEdgeBody im ord b s e nc nd m) := by
  unfold addEdge guarded
  by_cases hn : (nc && nd) = true <;> simp only [hn, if_true, if_false, Bool.false_eq_true, Bool.false_and]

theorem addEdge_of_body (f : Facts) (im : Impl) (ord : Ord) (b : Builder) (s e : Key) (nc nd : Bool)
    (m : Option Nat) (he : b.buildError = none) (hc : b.compiled = false) (hn : (nc && nd) = false) :
    addEdge f im ord b s e nc nd m =
      match addEdgeBody im ord b s e nc nd m with
      | .ok b' => (b', .ok)
      | .error k => (if f.edgeG.storeErr then { b with buildError := some k } else b, .fresh k) := by
  have hcc : (f.edgeG.checkCompiled && b.compiled) = false := by rw [hc, Bool.and_false]
  simp only [addEdge, guarded, he, hcc, hn, ite_self, Bool.false_eq_true, if_false]
  cases addEdgeBody im ord b s e nc nd m <;> rfl

theorem addEdge_ind {P : Builder → Prop} (f : Facts) (im : Impl) (ord : Ord) (b : Builder) (s e : Key) (nc nd : Bool)
    (m : Option Nat) (h0 : P b) (hbody : ∀ b', addEdgeBody im ord b s e nc nd m = .ok b' → P b')
    (herr : ∀ k, P { b with buildError := some k }) : P (addEdge f im ord b s e nc nd m).1 := by
  rw [addEdge_eq_guarded]
  split
  · exact guarded_ind _ b _ h0 (fun _ => nofun) herr
  · exact guarded_ind _ b _ h0 hbody herr

/-- the builder as `addBranch` sees it when it checks the condition type: a pass-through start
    node – only one whose type is still unknown, when the source has that guard (`branchGuarded`) –
    has just taken the condition's input type -/
def branchStartTyped (f : Facts) (b : Builder) (s : Key) (t : Ty) : Builder :=
  if s != START && isPassthrough b s && (!f.branchGuarded || (b.nodeIn s).isNone) then b.setTy s t else b

/-- `addBranch` after the condition type has been accepted with converter flag `flag` -/
def branchTail (f : Facts) (im : Impl) (ord : Ord) (b1 : Builder) (s : Key) (t : Ty) (ends : List Key)
    (skipData flag : Bool) : Except ErrKind Builder :=
  let b2 := { b1 with preBranch := b1.preBranch ++ [(s, flag)] }
  match (if f.branchPropagates then update im ord b2 else .ok b2 : Except ErrKind Builder) with
  | .error k => .error k
  | .ok b3 =>
    match (if skipData then .ok b3 else branchEnds im ord s (ord.ends b3 ends) b3 : Except ErrKind Builder) with
    | .error k => .error k
    | .ok b4 => .ok { b4 with branches := b4.branches ++ [{ src := s, inTy := t, ends, noData := skipData }] }

theorem addBranchBody_eq (f : Facts) (im : Impl) (ord : Ord) (b : Builder) (s : Key) (t : Ty)
    (ends : List Key) (sk : Bool) :
    addBranchBody f im ord b s t ends sk =
      if s = END then .error .endAsStart
      else if !b.hasNode s && s != START then .error .branchUnknownStart
      else if ends.length = 1 then .error .branchSingle
      else match checkAssignable im ((branchStartTyped f b s t).nodeOut s) (some t) with
        | .mustNot => .error .branchMismatch
        | r => branchTail f im ord (branchStartTyped f b s t) s t ends sk (r == .may) := rfl

theorem addBranchBody_ok {f : Facts} {im : Impl} {ord : Ord} {b b' : Builder} {s : Key} {t : Ty}
    {ends : List Key} {sk : Bool} (h : addBranchBody f im ord b s t ends sk = .ok b') :
    s ≠ END ∧ ¬(!b.hasNode s && s != START) = true ∧ ends.length ≠ 1 ∧
    checkAssignable im ((branchStartTyped f b s t).nodeOut s) (some t) ≠ .mustNot ∧
    branchTail f im ord (branchStartTyped f b s t) s t ends sk
      (checkAssignable im ((branchStartTyped f b s t).nodeOut s) (some t) == .may) = .ok b' := by
  rw [addBranchBody_eq] at h
  obtain ⟨h1, h⟩ := of_ite_error_eq_ok h
  obtain ⟨h2, h⟩ := of_ite_error_eq_ok h
  obtain ⟨h3, h⟩ := of_ite_error_eq_ok h
  split at h
  · cases h
  · rename_i hne; exact ⟨h1, h2, h3, hne, h⟩

theorem branchTail_ok {f : Facts} {im : Impl} {ord : Ord} {b1 b' : Builder} {s : Key} {t : Ty}
    {ends : List Key} {sk flag : Bool} (h : branchTail f im ord b1 s t ends sk flag = .ok b') :
    ∃ b3 b4,
      (if f.branchPropagates then update im ord { b1 with preBranch := b1.preBranch ++ [(s, flag)] }
        else .ok { b1 with preBranch := b1.preBranch ++ [(s, flag)] }) = .ok b3 ∧
      (if sk then .ok b3 else branchEnds im ord s (ord.ends b3 ends) b3) = .ok b4 ∧
      b' = { b4 with branches := b4.branches ++ [{ src := s, inTy := t, ends, noData := sk }] } := by
  unfold branchTail at h
  simp only at h
  split at h
  · cases h
  · rename_i b3 h3
    split at h
    · cases h
    · rename_i b4 h4
      cases h
      exact ⟨b3, b4, h3, h4, rfl⟩

theorem addBranchBody_accepted {f : Facts} {im : Impl} {ord : Ord} {b b' : Builder} {s : Key} {t : Ty}
    {ends : List Key} {sk : Bool} (h : addBranchBody f im ord b s t ends sk = .ok b') :
    s ≠ END ∧ (b.hasNode s = false → s = START) ∧ ends.length ≠ 1 ∧
    ∃ b1 flag b3 b4, (b1 = b ∨ b1 = b.setTy s t) ∧
      (b3 = { b1 with preBranch := b1.preBranch ++ [(s, flag)] } ∨
       update im ord { b1 with preBranch := b1.preBranch ++ [(s, flag)] } = .ok b3) ∧
      ((sk = true ∧ b4 = b3) ∨ (sk = false ∧ branchEnds im ord s (ord.ends b3 ends) b3 = .ok b4)) ∧
      b' = { b4 with branches := b4.branches ++ [{ src := s, inTy := t, ends, noData := sk }] } := by
  obtain ⟨h1, h2, h3, -, ht⟩ := addBranchBody_ok h
  obtain ⟨b3, b4, hu, he, rfl⟩ := branchTail_ok ht
  refine ⟨h1, by simpa using h2, h3, branchStartTyped f b s t,
    checkAssignable im ((branchStartTyped f b s t).nodeOut s) (some t) == .may, b3, b4, ?_, ?_, ?_, rfl⟩
  · unfold branchStartTyped
    split
    · exact Or.inr rfl
    · exact Or.inl rfl
  · split at hu
    · exact Or.inr hu
    · cases hu; exact Or.inl rfl
  · cases sk
    · exact Or.inr ⟨rfl, he⟩
    · cases he; exact Or.inl ⟨rfl, rfl⟩

structure BranchFrame (proj : Builder → α) : Prop extends WorkListFrame proj where
  ends : ∀ (b : Builder) sn en, proj { b with startNodes := sn, endNodes := en } = proj b
  pre : ∀ (b : Builder) pb, proj { b with preBranch := pb } = proj b
  br : ∀ (b : Builder) brs, proj { b with branches := brs } = proj b

theorem BranchFrame.branchEnds (hp : BranchFrame proj) (im : Impl) (ord : Ord) (s : Key) :
    ∀ (es : List Key) (b b' : Builder), branchEnds im ord s es b = .ok b' → proj b' = proj b := by
  intro es
  induction es with
  | nil => intro b b' h; cases h; rfl
  | cons e es ih =>
    intro b b' h
    unfold EinoV.Build.branchEnds at h
    obtain ⟨-, h⟩ := of_ite_error_eq_ok h
    split at h
    · cases h
    · rename_i b1 hu
      rw [ih _ _ h, hp.ends]
      exact (hp.toWorkListFrame.update im ord _ b1 hu).trans (hp.pending b _)

theorem BranchFrame.addBranchBody (hp : BranchFrame proj) {f : Facts} {im : Impl} {ord : Ord} {b b' : Builder}
    {s : Key} {t : Ty} {ends : List Key} {sk : Bool} (h : addBranchBody f im ord b s t ends sk = .ok b') :
    proj b' = proj b := by
  obtain ⟨-, -, -, b1, flag, b3, b4, hb1, hb3, hb4, rfl⟩ := addBranchBody_accepted h
  have h1 : proj b1 = proj b := by
    rcases hb1 with rfl | rfl
    · rfl
    · exact hp.setTy b s t
  have h3 : proj b3 = proj b := by
    rcases hb3 with rfl | hu
    · exact (hp.pre b1 _).trans h1
    · exact ((hp.toWorkListFrame.update im ord _ b3 hu).trans (hp.pre b1 _)).trans h1
  rw [hp.br]
  rcases hb4 with ⟨-, rfl⟩ | ⟨-, h4⟩
  · exact h3
  · exact (hp.branchEnds im ord s _ _ _ h4).trans h3

theorem compilePre_eq_none {f : Facts} {b : Builder} {o : COpts} :
    compilePre f b o = none ↔
      ((b.cmp = .chain ∨ b.cmp = .workflow) → o.trigger = .unset) ∧
      (b.cmp ≠ .workflow → o.getState = false) ∧
      b.startNodes ≠ [] ∧ b.endNodes ≠ [] ∧ b.hasPending = false ∧
      (f.compileChecksTypes = true → b.hasUntyped = false) ∧ hasDup b.fmRecords = false := by
  simp only [compilePre, ite_some_eq_none_iff, and_true]
  simp

theorem compilePost_some {b : Builder} {ord : Ord} {o : COpts} {oc : Outcome}
    (h : compilePost b ord o = some oc) :
    oc = .fresh .dagLoop ∨ (oc = .panic ∧ b.hasUntyped = true) ∨ oc = .fresh .maxStepsInDag := by
  unfold compilePost at h
  by_cases h1 : (isDag b o && !validateDAG b ord) = true
  · rw [if_pos h1] at h; cases h; exact Or.inl rfl
  by_cases h2 : b.hasUntyped = true
  · rw [if_neg h1, if_pos h2] at h; cases h; exact Or.inr (Or.inl ⟨rfl, h2⟩)
  by_cases h3 : (isDag b o && decide (o.maxSteps > 0)) = true
  · rw [if_neg h1, if_neg h2, if_pos h3] at h; cases h; exact Or.inr (Or.inr rfl)
  · rw [if_neg h1, if_neg h2, if_neg h3] at h; cases h

theorem compilePost_eq_none {b : Builder} {ord : Ord} {o : COpts} :
    compilePost b ord o = none ↔
      (isDag b o = true → validateDAG b ord = true) ∧ b.hasUntyped = false ∧
      (isDag b o = true → o.maxSteps = 0) := by
  simp only [compilePost, ite_some_eq_none_iff, and_true]
  simp

theorem mutatePre_hasUntyped (f : Facts) (b : Builder) : (mutatePre f b).hasUntyped = b.hasUntyped := by
  unfold mutatePre; split <;> rfl

theorem compilePost_ne_panic {f : Facts} {b : Builder} {o : COpts} {ord : Ord}
    (hct : f.compileChecksTypes = true) (hp : compilePre f b o = none) :
    compilePost (mutatePre f b) ord o ≠ some .panic := by
  intro h
  rcases compilePost_some h with h | ⟨-, h⟩ | h
  · cases h
  · rw [mutatePre_hasUntyped, (compilePre_eq_none.mp hp).2.2.2.2.2.1 hct] at h; cases h
  · cases h

theorem compile_cases (f : Facts) (ord : Ord) (b : Builder) (o : COpts) :
    (∃ k, b.buildError = some k ∧ compile f ord b o = (b, .stored k, none)) ∨
    (∃ k, b.buildError = none ∧ compilePre f b o = some k ∧ compile f ord b o = (b, .fresh k, none)) ∨
    (∃ oc, b.buildError = none ∧ compilePre f b o = none ∧ compilePost (mutatePre f b) ord o = some oc ∧
      compile f ord b o = (mutatePre f b, oc, none)) ∨
    (b.buildError = none ∧ compilePre f b o = none ∧ compilePost (mutatePre f b) ord o = none ∧
      compile f ord b o = ((mutatePre f b).setCompiled, .ok, some (mkRunner f b o))) := by
  unfold compile
  rcases he : b.buildError with _ | k
  · rcases hp : compilePre f b o with _ | k
    · rcases hq : compilePost (mutatePre f b) ord o with _ | oc
      · exact Or.inr (Or.inr (Or.inr ⟨rfl, rfl, rfl, rfl⟩))
      · exact Or.inr (Or.inr (Or.inl ⟨oc, rfl, rfl, rfl, rfl⟩))
    · exact Or.inr (Or.inl ⟨k, rfl, rfl, rfl⟩)
  · exact Or.inl ⟨k, rfl, rfl⟩

theorem compile_runner {f : Facts} {ord : Ord} {b : Builder} {o : COpts} {r : Runner}
    (h : (compile f ord b o).2.2 = some r) : compilePre f b o = none ∧ r = mkRunner f b o := by
  rcases compile_cases f ord b o with ⟨_, _, e⟩ | ⟨_, _, _, e⟩ | ⟨_, _, _, _, e⟩ | ⟨_, hpre, _, e⟩ <;> rw [e] at h
  · cases h
  · cases h
  · cases h
  · exact ⟨hpre, (Option.some.inj h).symm⟩

theorem compile_preserves {P : Builder → Prop} (f : Facts) (ord : Ord) (b : Builder) (o : COpts) (hP : P b)
    (hpre : ∀ pn, P { b with preNode := pn }) (hcomp : ∀ x, P x → P x.setCompiled) :
    P (compile f ord b o).1 := by
  have hm : P (mutatePre f b) := by
    unfold mutatePre
    split
    · exact hpre _
    · exact hP
  rcases compile_cases f ord b o with ⟨_, _, e⟩ | ⟨_, _, _, e⟩ | ⟨_, _, _, _, e⟩ | ⟨_, _, _, e⟩ <;> rw [e]
  · exact hP
  · exact hP
  · exact hm
  · exact hcomp _ hm

end EinoV.Build
