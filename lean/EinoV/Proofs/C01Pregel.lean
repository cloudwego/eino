/-
  C01 — `calculateNextTasks` in any-predecessor (Pregel) mode, in the vocabulary of Spec/Superstep.lean
  (`calcNext_pregel_eq`): skip and dependency reports do nothing, every channel has its `Spec.inbox` set
  over what it held, sender by sender (`deliver`), then `getReady`.  It is stated for ANY channels, not
  only empty ones, because the interrupt path (Proofs/C05NestedEngine.lean) delivers two batches.
-/
import EinoV.Spec.Superstep
import EinoV.Proofs.EngineOps

namespace EinoV.Engine
open EinoV.Spec

theorem calcBranch_pregel {V} (r : Runner V) (h : r.dag = false) (cm : Chans V) (n : Node V) (out : V) :
    calcBranch r cm n out = (selectOf n out).map (fun sel => (cm, sel)) := by
  unfold calcBranch
  cases hs : selectOf n out with
  | error e => rfl
  | ok sel => simp [reportBranch_pregel r h, Except.map, bind, Except.bind, pure, Except.pure]

theorem updateDeps_pregel {V} (r : Runner V) (h : r.dag = false) (cm : Chans V) (deps : List (Key × List Key)) :
    updateDeps r cm deps = cm :=
  foldl_inv (· = cm) _ deps (fun _ e d _ => by
    subst e
    simp only [Chan.reportDeps, h, Bool.false_eq_true, ↓reduceIte]
    exact modChan_id _ d.1) cm rfl

def writesStep {V} (ws : List (Key × List (Key × V))) (s : Sent V) : List (Key × List (Key × V)) :=
  s.2.2.foldl (fun ws k => addWrite ws k s.1 s.2.1) ws

theorem resolveStep_pregel {V} (r : Runner V) (h : r.dag = false) (acc : Resolved V) (t : Done V) :
    ∃ deps, resolveStep r acc t
      = (sentOf r t).map (fun s => ⟨acc.cm, writesStep acc.writes s, deps⟩) := by
  unfold resolveStep sentOf
  cases r.call? t.1 with
  | none => exact ⟨acc.deps, rfl⟩
  | some n =>
    simp only [calcBranch_pregel r h]
    cases selectOf n t.2 with
    | error e => exact ⟨[], rfl⟩
    | ok sel => exact ⟨_, rfl⟩

/-- the dependency map is not read in pregel mode, so it is left unspecified -/
theorem resolve_pregel {V} (r : Runner V) (h : r.dag = false) (done : List (Done V)) (acc : Resolved V) :
    ∃ deps, done.foldlM (resolveStep r) acc
      = (done.mapM (sentOf r)).map (fun sent => ⟨acc.cm, sent.foldl writesStep acc.writes, deps⟩) := by
  induction done generalizing acc with
  | nil => exact ⟨acc.deps, rfl⟩
  | cons t rest ih =>
    obtain ⟨d, hd⟩ := resolveStep_pregel r h acc t
    rw [List.foldlM_cons, List.mapM_cons, hd]
    cases sentOf r t with
    | error e => exact ⟨[], rfl⟩
    | ok s =>
      obtain ⟨d', hd'⟩ := ih ⟨acc.cm, writesStep acc.writes s, d⟩
      refine ⟨d', hd'.trans ?_⟩
      cases List.mapM (sentOf r) rest <;> rfl

theorem sentOf_key {V} (r : Runner V) (d : Done V) (s : Sent V) (h : sentOf r d = .ok s) : s.1 = d.1 := by
  unfold sentOf at h
  split at h
  · cases h; rfl
  · cases hs : selectOf _ d.2 with
    | error e => rw [hs] at h; cases h
    | ok sel => rw [hs] at h; cases h; rfl

def sendersTo {V} (sent : List (Sent V)) (t : Key) : List (Key × V) :=
  sent.filterMap (fun s => if s.2.2.contains t then some (s.1, s.2.1) else none)

theorem sendersTo_cons {V} (s : Sent V) (rest : List (Sent V)) (t : Key) :
    sendersTo (s :: rest) t = if s.2.2.contains t then (s.1, s.2.1) :: sendersTo rest t else sendersTo rest t := by
  by_cases h : s.2.2.contains t = true <;>
    simp only [sendersTo, List.filterMap_cons, h, Bool.false_eq_true, ↓reduceIte]

theorem akeys_sendersTo_sublist {V} (sent : List (Sent V)) (t : Key) :
    (akeys (sendersTo sent t)).Sublist (sent.map (·.1)) :=
  filterMap_map_sublist _ _ _ (fun s q h => by split at h <;> cases h; rfl) sent

/-- distinct senders are not needed for this, only for reading the result as an append -/
theorem gl_writes {V} (sent : List (Sent V)) (ws : List (Key × List (Key × V))) (t : Key) :
    gl t (sent.foldl writesStep ws)
      = (sendersTo sent t).foldl (fun vs (kv : Key × V) => aset kv.1 kv.2 vs) (gl t ws) := by
  induction sent generalizing ws with
  | nil => rfl
  | cons s rest ih =>
    rw [List.foldl_cons, ih, writesStep, gl_targets_fold, sendersTo_cons]
    split <;> rfl

theorem nodup_keys_writesStep {V} (ws : List (Key × List (Key × V))) (s : Sent V)
    (h : (akeys ws).Nodup) : (akeys (writesStep ws s)).Nodup :=
  nodup_keys_writesFold s.1 s.2.1 s.2.2 ws h

theorem nodup_keys_writes {V} (sent : List (Sent V)) (ws : List (Key × List (Key × V)))
    (h : (akeys ws).Nodup) : (akeys (sent.foldl writesStep ws)).Nodup :=
  foldl_inv (fun ws => (akeys ws).Nodup) _ sent (fun ws hws s _ => nodup_keys_writesStep ws s hws) ws h

theorem inbox_cons {V} (r : Runner V) (s : Sent V) (rest : List (Sent V)) (t : Key) :
    inbox r (s :: rest) t =
      if (s.2.2.contains t && (lookupList t r.dataPreds).contains s.1) = true
      then (s.1, s.2.1) :: inbox r rest t else inbox r rest t := by
  by_cases h : (s.2.2.contains t && (lookupList t r.dataPreds).contains s.1) = true <;>
    simp only [inbox, List.filterMap_cons, h, Bool.false_eq_true, ↓reduceIte]

theorem inbox_eq {V} (r : Runner V) (sent : List (Sent V)) (t : Key) :
    (sendersTo sent t).filter (fun kv => (lookupList t r.dataPreds).contains kv.1) = inbox r sent t := by
  unfold sendersTo inbox
  rw [List.filter_filterMap]
  congr 1; funext s
  cases s.2.2.contains t <;> simp [Option.filter]

theorem inbox_nodup {V} (r : Runner V) (sent : List (Sent V)) (t : Key) (hnd : (sent.map (·.1)).Nodup) :
    (akeys (inbox r sent t)).Nodup := by
  rw [← inbox_eq]
  exact (List.filter_sublist.map _).nodup ((akeys_sendersTo_sublist sent t).nodup hnd)

end EinoV.Engine

namespace EinoV.Interrupt.PregelFold
open EinoV.Engine

variable {V : Type}

theorem reportValues_pregel (l : List (Key × V)) :
    ∀ (c : Chan V), c.reportValues false l = { c with values := asets l c.values } := by
  unfold Chan.reportValues
  simp only [Bool.false_eq_true, ↓reduceIte]
  induction l with
  | nil => intro c; rfl
  | cons p t ih => intro c; simp only [List.foldl_cons]; rw [ih]; rfl

end EinoV.Interrupt.PregelFold

namespace EinoV.Engine
open EinoV.Spec EinoV.Interrupt.PregelFold

def deliver {V} (r : Runner V) (sent : List (Sent V)) (cm : Chans V) : Chans V :=
  cm.map fun p => (p.1, { p.2 with values := asets (inbox r sent p.1) p.2.values })

theorem updates_pregel {V} (r : Runner V) (h : r.dag = false) (cm : Chans V) (sent : List (Sent V))
    (deps : List (Key × List Key)) :
    updateDeps r (updateValues r cm (sent.foldl writesStep [])) deps = deliver r sent cm := by
  rw [updateDeps_pregel r h, updateValues_map r _ cm (nodup_keys_writes sent [] List.nodup_nil)]
  refine List.map_congr_left fun p _ => ?_
  rw [h, reportValues_pregel, gl_writes, ← inbox_eq]
  -- the write map holds each sender once; filtering and de-duplicating commute with setting
  exact congrArg (fun l => (p.1, { p.2 with values := l }))
    ((congrArg (asets · p.2.values) (filter_asets _ (sendersTo sent p.1) [])).trans
      (asets_asets _ [] _ List.nodup_nil))

theorem calcNext_pregel_eq {V} (ops : ValOps V) (r : Runner V) (h : r.dag = false) (cm : Chans V)
    (done : List (Done V)) :
    calcNext ops r cm done
      = (done.mapM (sentOf r)).bind fun sent => classify (getReady ops false (deliver r sent cm)) := by
  obtain ⟨deps, hres⟩ := resolve_pregel r h done ⟨cm, [], []⟩
  rw [calcNext_eq_core, calcCore, resolve, hres]
  cases done.mapM (sentOf r) with
  | error e => rfl
  | ok sent =>
    exact (congrArg (fun c => classify (getReady ops r.dag c)) (updates_pregel r h cm sent deps)).trans
      (by rw [h]; rfl)

theorem deliver_append {V} (r : Runner V) (s1 s2 : List (Sent V)) (cm : Chans V) :
    deliver r s2 (deliver r s1 cm) = deliver r (s1 ++ s2) cm := by
  unfold deliver
  rw [List.map_map]
  exact List.map_congr_left fun p _ => by
    simp only [Function.comp, inbox, List.filterMap_append, asets_append]

end EinoV.Engine
