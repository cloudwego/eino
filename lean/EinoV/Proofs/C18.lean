/-
  C18 — the superstep machine of Model/C18.lean, instantiated with the expected facts, is
  shown equal to a fused "round" function (`rounds`: one recursion step = chat superstep +
  tools superstep [+ direct_return superstep]) which recurses over the script; the properties
  of the agent loop are proved about `rounds`.  Then what `rounds` does not look at (the
  checkers, chunk metadata, how tool-call deltas are interleaved) and the tools node and
  direct_return call by call.  The predicates in which Props/C18.lean states its theorems
  (`goes`, `Continues`, `Alternates`, `AnswerOf`, …) are defined in Spec/C18Run.lean; `rounds`,
  `directResult` and `transcript` here.
-/
import EinoV.Spec.C18Run
import EinoV.Proofs.C18Asm
import EinoV.Expected.C18

namespace EinoV.C18
open EinoV.Expected.C18 (facts topoPlain topoRD firstChunkChecker)

theorem concat_single (m : Msg) (hr : m.role = .assistant) (hc : m.callId = "")
    (ha : assemble m.calls = m.calls) : concat [Chunk.ofMsg m] = m := by
  cases m with
  | mk role content calls callId =>
    simp only at hr hc ha
    subst hr; subst hc
    simp [concat, Chunk.ofMsg, String.join, ha]

theorem concat_streamOf (mode : Mode) (r : Reply) : concat (streamOf mode r) = r.full := by
  cases mode with
  | stream => rfl
  | generate => exact concat_single _ rfl rfl (assemble_idem _)

theorem concat_calls_nil_iff (cs : List Chunk) :
    (concat cs).calls = [] ↔ ∀ c ∈ cs, c.calls = [] := by
  simp only [concat, assemble_eq_nil_iff, List.flatMap_eq_nil_iff]

theorem next_start_plain : nextNodes topoPlain keyStart none = [keyChat] := by decide
theorem next_start_rd : nextNodes topoRD keyStart none = [keyChat] := by decide
theorem next_chat_tools_plain : nextNodes topoPlain keyChat (some keyTools) = [keyTools] := by decide
theorem next_chat_end_plain : nextNodes topoPlain keyChat (some keyEnd) = [keyEnd] := by decide
theorem next_chat_tools_rd : nextNodes topoRD keyChat (some keyTools) = [keyTools] := by decide
theorem next_chat_end_rd : nextNodes topoRD keyChat (some keyEnd) = [keyEnd] := by decide
theorem next_tools_plain (c : Option String) : nextNodes topoPlain keyTools c = [keyChat] := by
  simp [nextNodes, topoPlain, keyTools, keyChat]
theorem next_tools_chat_rd : nextNodes topoRD keyTools (some keyChat) = [keyChat] := by decide
theorem next_tools_direct_rd : nextNodes topoRD keyTools (some keyDirect) = [keyDirect] := by decide
theorem next_direct_rd (c : Option String) : nextNodes topoRD keyDirect c = [keyEnd] := by
  simp [nextNodes, topoRD, keyDirect, keyEnd]

@[simp] theorem facts_modelPre : facts.modelPreAppends = true := rfl
@[simp] theorem facts_toolsPre : facts.toolsPreAppends = true := rfl
@[simp] theorem k_tc : (keyTools == keyChat) = false := by decide
@[simp] theorem k_dc : (keyDirect == keyChat) = false := by decide
@[simp] theorem k_dt : (keyDirect == keyTools) = false := by decide
@[simp] theorem k_te : (keyTools == keyEnd) = false := by decide
@[simp] theorem k_ce : (keyChat == keyEnd) = false := by decide
@[simp] theorem k_de : (keyDirect == keyEnd) = false := by decide

theorem superstep_chat (cfg : Config) (mode : Mode) (T : Topo)
    (h1 : nextNodes T keyChat (some keyTools) = [keyTools])
    (h2 : nextNodes T keyChat (some keyEnd) = [keyEnd])
    (input : List Msg) (st : St) :
    superstep facts cfg mode T keyChat (.msgs input) st =
      match st.script with
      | [] => (chatSt cfg st input [], .done (.error .modelExhausted))
      | r :: rest =>
        if goes facts cfg mode r then
          (chatSt cfg st input rest, .next keyTools (.stream (streamOf mode r)))
        else (chatSt cfg st input rest, .done (.ok r.full)) := by
  cases hs : st.script with
  | nil => simp [superstep, execNode, hs, chatSt]
  | cons r rest =>
    unfold goes
    cases hg : runChecker (cfg.checkerSpec facts) (streamOf mode r) with
    | true => simp [superstep, execNode, hs, chatSt, branchChoice, hg, h1]
    | false =>
      simp [superstep, execNode, hs, chatSt, branchChoice, hg, h2, Val.result, concat_streamOf]

theorem superstep_tools_plain (cfg : Config) (mode : Mode) (cs : List Chunk) (st : St) :
    superstep facts cfg mode topoPlain keyTools (.stream cs) st =
      match (runTools cfg (concat cs)).2 with
      | .error e => (toolsSt cfg st (concat cs), .done (.error e))
      | .ok res => (toolsSt cfg st (concat cs), .next keyChat (.msgs res)) := by
  cases hr : runTools cfg (concat cs) with
  | mk started out =>
    cases out with
    | error e => simp [superstep, execNode, hr, toolsSt]
    | ok res => simp [superstep, execNode, hr, toolsSt, next_tools_plain]

theorem superstep_tools_rd (cfg : Config) (mode : Mode) (cs : List Chunk) (st : St) :
    superstep facts cfg mode topoRD keyTools (.stream cs) st =
      match (runTools cfg (concat cs)).2 with
      | .error e => (toolsSt cfg st (concat cs), .done (.error e))
      | .ok res =>
        (toolsSt cfg st (concat cs),
         .next (if returnDirectlyId cfg.returnDirectly (concat cs) != "" then keyDirect else keyChat)
               (.msgs res)) := by
  cases hr : runTools cfg (concat cs) with
  | mk started out =>
    cases out with
    | error e => simp [superstep, execNode, hr, toolsSt]
    | ok res =>
      by_cases hid : returnDirectlyId cfg.returnDirectly (concat cs) = ""
      · simp [superstep, execNode, hr, toolsSt, branchChoice, hid, next_tools_chat_rd]
      · simp [superstep, execNode, hr, toolsSt, branchChoice, hid, next_tools_direct_rd]

theorem superstep_direct_rd (cfg : Config) (mode : Mode) (l : List Msg) (st : St) :
    superstep facts cfg mode topoRD keyDirect (.msgs l) st =
      ({ st with evs := st.evs ++ [.direct] },
       .done (match l.find? (fun m => m.callId == st.rdId) with
              | some m => .ok m
              | none => .error .noDirectResult)) := by
  cases hf : l.find? (fun m => m.callId == st.rdId) with
  | none => simp [superstep, execNode, hf]
  | some m => simp [superstep, execNode, hf, branchChoice, next_direct_rd, Val.result]

/-- result of direct_return on the tools output -/
def directResult (id : String) (res : List Msg) : Except Err Msg :=
  match res.find? (fun m => m.callId == id) with
  | some m => .ok m
  | none => .error .noDirectResult

/-- What the loop does from a pending chat task on, as a recursion over the script:
    `(model inputs, node executions, result)` produced from here with `b` supersteps left
    and history `h` (= state.Messages after the chat pre-handler). -/
def rounds (cfg : Config) (dec : Reply → Bool) :
    List Reply → Nat → List Msg → List (List Msg) × List Ev × Except Err Msg
  | _, 0, _ => ([], [], .error .maxSteps)
  | [], _ + 1, h => ([cfg.modifier h], [.chat], .error .modelExhausted)
  | r :: rest, b + 1, h =>
    if dec r then
      match b with
      | 0 => ([cfg.modifier h], [.chat], .error .maxSteps)
      | b' + 1 =>
        match (runTools cfg r.full).2 with
        | .error e => ([cfg.modifier h], [.chat, .tools (runTools cfg r.full).1], .error e)
        | .ok res =>
          if returnDirectlyId cfg.returnDirectly r.full != "" then
            match b' with
            | 0 => ([cfg.modifier h], [.chat, .tools (runTools cfg r.full).1], .error .maxSteps)
            | _ + 1 =>
              ([cfg.modifier h], [.chat, .tools (runTools cfg r.full).1, .direct],
               directResult (returnDirectlyId cfg.returnDirectly r.full) res)
          else
            let q := rounds cfg dec rest b' (h ++ r.full :: res)
            (cfg.modifier h :: q.1, .chat :: .tools (runTools cfg r.full).1 :: q.2.1, q.2.2)
    else ([cfg.modifier h], [.chat], .ok r.full)

theorem returnDirectlyId_nil (rd : List String) (m : Msg) (h : rd.isEmpty = true) :
    returnDirectlyId rd m = "" := by
  simp [returnDirectlyId, h]

theorem topoOf_facts (cfg : Config) :
    topoOf facts cfg = if cfg.returnDirectly.isEmpty then topoPlain else topoRD := rfl

theorem superstep_chat_topo (cfg : Config) (mode : Mode) (input : List Msg) (st : St) :
    superstep facts cfg mode (topoOf facts cfg) keyChat (.msgs input) st =
      match st.script with
      | [] => (chatSt cfg st input [], .done (.error .modelExhausted))
      | r :: rest =>
        if goes facts cfg mode r then
          (chatSt cfg st input rest, .next keyTools (.stream (streamOf mode r)))
        else (chatSt cfg st input rest, .done (.ok r.full)) := by
  rw [topoOf_facts]
  split
  · exact superstep_chat cfg mode _ next_chat_tools_plain next_chat_end_plain input st
  · exact superstep_chat cfg mode _ next_chat_tools_rd next_chat_end_rd input st

/-- without return-directly tools no id is ever recorded, so `topoPlain` steps as `topoRD` does -/
theorem superstep_tools_topo (cfg : Config) (mode : Mode) (cs : List Chunk) (st : St) :
    superstep facts cfg mode (topoOf facts cfg) keyTools (.stream cs) st =
      match (runTools cfg (concat cs)).2 with
      | .error e => (toolsSt cfg st (concat cs), .done (.error e))
      | .ok res =>
        (toolsSt cfg st (concat cs),
         .next (if returnDirectlyId cfg.returnDirectly (concat cs) != "" then keyDirect else keyChat)
               (.msgs res)) := by
  rw [topoOf_facts]
  split
  · next hrd =>
    rw [superstep_tools_plain, returnDirectlyId_nil _ _ hrd]; rfl
  · exact superstep_tools_rd cfg mode cs st

/-- direct_return is only reached when a return-directly id was recorded, hence in `topoRD` -/
theorem superstep_direct_topo (cfg : Config) (mode : Mode) (m : Msg)
    (hid : (returnDirectlyId cfg.returnDirectly m != "") = true) (l : List Msg) (st : St) :
    superstep facts cfg mode (topoOf facts cfg) keyDirect (.msgs l) st =
      ({ st with evs := st.evs ++ [.direct] }, .done (directResult st.rdId l)) := by
  have hT : topoOf facts cfg = topoRD := by
    rw [topoOf_facts, if_neg]
    intro hrd
    simp [returnDirectlyId_nil _ m hrd] at hid
  rw [hT]
  exact superstep_direct_rd cfg mode l st

theorem loop_chat (cfg : Config) (mode : Mode) :
    ∀ (script : List Reply) (b : Nat) (st : St) (input : List Msg), st.script = script →
      (loop facts cfg mode (topoOf facts cfg) b keyChat (.msgs input) st).1.seen
          = st.seen ++ (rounds cfg (goes facts cfg mode) script b (st.msgs ++ input)).1 ∧
      (loop facts cfg mode (topoOf facts cfg) b keyChat (.msgs input) st).1.evs
          = st.evs ++ (rounds cfg (goes facts cfg mode) script b (st.msgs ++ input)).2.1 ∧
      (loop facts cfg mode (topoOf facts cfg) b keyChat (.msgs input) st).2
          = (rounds cfg (goes facts cfg mode) script b (st.msgs ++ input)).2.2 := by
  intro script b st input hs
  generalize hh : st.msgs ++ input = h
  -- The cases, by branch of `rounds` (the later `fun_induction rounds` proofs use the same numbers):
  --   1 no superstep left; 2 script exhausted; 8 the reply calls no tool and is the answer;
  --   3 step limit after the chat step; 4 a tool fails; 5 step limit after the tools step, direct return pending;
  --   6 direct return; 7 the round continues (`q` is the rest of the run, `ih` speaks of it).
  fun_induction rounds cfg (goes facts cfg mode) script b h generalizing st input with
  | case1 => simp [loop]
  | case2 => subst hh; simp [loop, superstep_chat_topo, hs, chatSt]
  | case3 r rest h hd => subst hh; simp [loop, superstep_chat_topo, hs, hd, chatSt]
  | case4 r rest h hd b e he =>
    subst hh
    simp [loop, superstep_chat_topo, superstep_tools_topo, concat_streamOf, hs, hd, he, chatSt, toolsSt]
  | case5 r rest h hd res hres hid =>
    subst hh
    simp [loop, superstep_chat_topo, superstep_tools_topo, concat_streamOf, hs, hd, hres, hid, chatSt, toolsSt]
  | case6 r rest h hd res hres hid b =>
    subst hh
    simp [loop, superstep_chat_topo, superstep_tools_topo, superstep_direct_topo cfg mode r.full hid,
      concat_streamOf, hs, hd, hres, hid, chatSt, toolsSt]
  | case7 r rest h hd b res hres hid q ih =>
    subst hh
    obtain ⟨h1, h2, h3⟩ :=
      ih (toolsSt cfg (chatSt cfg st input rest) r.full) res rfl (by simp [toolsSt, chatSt])
    simp only [loop, superstep_chat_topo, superstep_tools_topo, concat_streamOf, hs, hd, hres, hid,
      if_true, Bool.false_eq_true, if_false, q]
    exact ⟨by rw [h1]; simp [toolsSt, chatSt], by rw [h2]; simp [toolsSt, chatSt], h3⟩
  | case8 r rest b h hd =>
    subst hh; simp [loop, superstep_chat_topo, hs, hd, chatSt]

theorem run_eq (cfg : Config) (mode : Mode) (orig : List Msg) (script : List Reply) :
    run facts cfg mode orig script =
      match stepLimit facts cfg with
      | none => { seen := [], evs := [], result := .error .badMaxSteps }
      | some l =>
        { seen := (rounds cfg (goes facts cfg mode) script l orig).1,
          evs := (rounds cfg (goes facts cfg mode) script l orig).2.1,
          result := (rounds cfg (goes facts cfg mode) script l orig).2.2 } := by
  unfold run
  cases stepLimit facts cfg with
  | none => rfl
  | some l =>
    have hn : nextNodes (topoOf facts cfg) keyStart none = [keyChat] := by
      rw [topoOf_facts]
      split
      · exact next_start_plain
      · exact next_start_rd
    obtain ⟨h1, h2, h3⟩ := loop_chat cfg mode script l (initSt script) orig rfl
    simp only [hn]
    exact (Run.mk.injEq ..).mpr ⟨h1, h2, h3⟩

/-- messages the agent itself adds to the history while it works through `script`:
    every assistant message followed by the tool messages for its calls (`none` if a tools
    node fails on the way) -/
def transcript (cfg : Config) : List Reply → Option (List Msg)
  | [] => some []
  | r :: rest =>
    match (runTools cfg r.full).2, transcript cfg rest with
    | .ok res, some t => some (r.full :: res ++ t)
    | _, _ => none

theorem seen_single (cfg : Config) (script : List Reply) (h : List Msg) (k : Nat) (s : List Msg)
    (hk : [cfg.modifier h][k]? = some s) :
    ∃ t, transcript cfg (script.take k) = some t ∧ s = cfg.modifier (h ++ t) := by
  cases k with
  | zero => exact ⟨[], rfl, by simpa using hk.symm⟩
  | succ k => simp at hk

theorem rounds_seen (cfg : Config) (dec : Reply → Bool) :
    ∀ (script : List Reply) (b : Nat) (h : List Msg) (k : Nat) (s : List Msg),
      (rounds cfg dec script b h).1[k]? = some s →
      ∃ t, transcript cfg (script.take k) = some t ∧ s = cfg.modifier (h ++ t) := by
  intro script b h k s hk
  fun_induction rounds cfg dec script b h generalizing k with  -- cases: see `loop_chat`
  | case1 => simp at hk
  | case7 r rest h _ b res hres _ q ih =>
    cases k with
    | zero => exact seen_single cfg _ h 0 s (by simpa using hk)
    | succ k =>
      obtain ⟨t, ht, hs⟩ := ih k (by simpa using hk)
      exact ⟨r.full :: res ++ t, by simp [transcript, hres, ht], by rw [hs]; simp⟩
  | _ => exact seen_single cfg _ _ k s hk

theorem rounds_result (cfg : Config) (dec : Reply → Bool) :
    ∀ (script : List Reply) (b : Nat) (h : List Msg) (m : Msg),
      (rounds cfg dec script b h).2.2 = .ok m →
      ∃ k r, script[k]? = some r ∧
        (∀ (j : Nat) rj, j < k → script[j]? = some rj → Continues cfg dec rj) ∧
        ((dec r = false ∧ m = r.full) ∨
         (dec r = true ∧ returnDirectlyId cfg.returnDirectly r.full ≠ "" ∧
          ∃ res, (runTools cfg r.full).2 = .ok res ∧
            directResult (returnDirectlyId cfg.returnDirectly r.full) res = .ok m)) := by
  intro script b h m hm
  fun_induction rounds cfg dec script b h with  -- cases: see `loop_chat`
  | case6 r rest h hd res hres hid b =>
    exact ⟨0, r, rfl, fun j _ hj => absurd hj (Nat.not_lt_zero j),
      .inr ⟨hd, by simpa using hid, res, hres, hm⟩⟩
  | case7 r rest h hd b res hres hid q ih =>
    obtain ⟨k, r', hk, hpre, hfin⟩ := ih hm
    refine ⟨k + 1, r', by simpa using hk, fun j rj hj hjr => ?_, hfin⟩
    cases j with
    | zero =>
      obtain rfl : r = rj := by simpa using hjr
      exact ⟨hd, ⟨res, hres⟩, by simpa using hid⟩
    | succ j => exact hpre j rj (by omega) (by simpa using hjr)
  | case8 r rest b h hd =>
    exact ⟨0, r, rfl, fun j _ hj => absurd hj (Nat.not_lt_zero j),
      .inl ⟨by simpa using hd, (Except.ok.inj hm).symm⟩⟩
  | _ => cases hm

theorem rounds_continue (cfg : Config) (dec : Reply → Bool) (r : Reply) (rest : List Reply)
    (b : Nat) (h res : List Msg) (hc : Continues cfg dec r) (hres : (runTools cfg r.full).2 = .ok res) :
    rounds cfg dec (r :: rest) (b + 2) h =
      (cfg.modifier h :: (rounds cfg dec rest b (h ++ r.full :: res)).1,
       .chat :: .tools (runTools cfg r.full).1 :: (rounds cfg dec rest b (h ++ r.full :: res)).2.1,
       (rounds cfg dec rest b (h ++ r.full :: res)).2.2) := by
  simp [rounds, hc.1, hres, hc.2.2]

theorem rounds_end (cfg : Config) (dec : Reply → Bool) (r : Reply) (rest : List Reply)
    (b : Nat) (h : List Msg) (hd : dec r = false) :
    rounds cfg dec (r :: rest) (b + 1) h = ([cfg.modifier h], [.chat], .ok r.full) := by
  simp [rounds, hd]

theorem rounds_direct (cfg : Config) (dec : Reply → Bool) (r : Reply) (rest : List Reply)
    (b : Nat) (h res : List Msg) (hd : dec r = true) (hres : (runTools cfg r.full).2 = .ok res)
    (hid : returnDirectlyId cfg.returnDirectly r.full ≠ "") :
    rounds cfg dec (r :: rest) (b + 3) h =
      ([cfg.modifier h], [.chat, .tools (runTools cfg r.full).1, .direct],
       directResult (returnDirectlyId cfg.returnDirectly r.full) res) := by
  simp [rounds, hd, hres, hid]

theorem rounds_prefix (cfg : Config) (dec : Reply → Bool) :
    ∀ (k : Nat) (script : List Reply) (b : Nat) (h : List Msg),
      (∀ (j : Nat) rj, j < k → script[j]? = some rj → Continues cfg dec rj) → k ≤ script.length →
      ∃ h', (rounds cfg dec script (b + 2 * k) h).2.2 = (rounds cfg dec (script.drop k) b h').2.2 ∧
        (rounds cfg dec script (b + 2 * k) h).2.1.length
          = 2 * k + (rounds cfg dec (script.drop k) b h').2.1.length ∧
        (rounds cfg dec script (b + 2 * k) h).1.length
          = k + (rounds cfg dec (script.drop k) b h').1.length
  | 0, _, _, h, _, _ => ⟨h, by simp⟩
  | k + 1, [], _, _, _, hk => by simp at hk
  | k + 1, r0 :: rest, b, h, hpre, hk => by
    have hc := hpre 0 r0 (by omega) rfl
    obtain ⟨res0, hres0⟩ := hc.2.1
    obtain ⟨h', h1, h2, h3⟩ :=
      rounds_prefix cfg dec k rest b (h ++ r0.full :: res0)
        (fun j rj hj hjr => hpre (j + 1) rj (by omega) (by simpa using hjr)) (by simpa using hk)
    refine ⟨h', ?_⟩
    rw [show b + 2 * (k + 1) = b + 2 * k + 2 by omega, rounds_continue cfg dec r0 rest _ h res0 hc hres0]
    simp only [List.drop_succ_cons, List.length_cons, h1, h2, h3, true_and]
    omega

/-- the budget `2 * k + 1`: `k` rounds of a chat and a tools superstep, then the chat that goes to END -/
theorem rounds_complete_end (cfg : Config) (dec : Reply → Bool) :
    ∀ (k : Nat) (script : List Reply) (b : Nat) (h : List Msg) (r : Reply),
      script[k]? = some r →
      (∀ (j : Nat) rj, j < k → script[j]? = some rj → Continues cfg dec rj) →
      dec r = false → 2 * k + 1 ≤ b →
      (rounds cfg dec script b h).2.2 = .ok r.full ∧
      (rounds cfg dec script b h).2.1.length = 2 * k + 1 ∧
      (rounds cfg dec script b h).1.length = k + 1 := by
  intro k script b h r hk hpre hd hb
  obtain ⟨hlt, rfl⟩ := List.getElem?_eq_some_iff.mp hk
  obtain ⟨b, rfl⟩ : ∃ b', b = b' + 1 + 2 * k := ⟨b - 1 - 2 * k, by omega⟩
  obtain ⟨h', h1, h2, h3⟩ := rounds_prefix cfg dec k script (b + 1) h hpre (Nat.le_of_lt hlt)
  rw [h1, h2, h3, List.drop_eq_getElem_cons hlt, rounds_end cfg dec _ _ b h' hd]
  exact ⟨rfl, rfl, rfl⟩

theorem rounds_complete_direct (cfg : Config) (dec : Reply → Bool) :
    ∀ (k : Nat) (script : List Reply) (b : Nat) (h : List Msg) (r : Reply) (res : List Msg),
      script[k]? = some r →
      (∀ (j : Nat) rj, j < k → script[j]? = some rj → Continues cfg dec rj) →
      dec r = true → (runTools cfg r.full).2 = .ok res →
      returnDirectlyId cfg.returnDirectly r.full ≠ "" → 2 * k + 3 ≤ b →
      (rounds cfg dec script b h).2.2 = directResult (returnDirectlyId cfg.returnDirectly r.full) res ∧
      (rounds cfg dec script b h).2.1.length = 2 * k + 3 := by
  intro k script b h r res hk hpre hd hres hid hb
  obtain ⟨hlt, rfl⟩ := List.getElem?_eq_some_iff.mp hk
  obtain ⟨b, rfl⟩ : ∃ b', b = b' + 3 + 2 * k := ⟨b - 3 - 2 * k, by omega⟩
  obtain ⟨h', h1, h2, _⟩ := rounds_prefix cfg dec k script (b + 3) h hpre (Nat.le_of_lt hlt)
  rw [h1, h2, List.drop_eq_getElem_cons hlt, rounds_direct cfg dec _ _ b h' res hd hres hid]
  exact ⟨rfl, rfl⟩

theorem rounds_evs_le (cfg : Config) (dec : Reply → Bool) :
    ∀ (script : List Reply) (b : Nat) (h : List Msg),
      (rounds cfg dec script b h).2.1.length ≤ b := by
  intro script b h
  fun_induction rounds cfg dec script b h <;> simp <;> omega

theorem collectResults_error (ts : List (ToolCall × (String → Except Nat String))) (e : Err)
    (h : collectResults ts = .error e) : ∃ id, e = .toolFailed id := by
  fun_induction collectResults ts with
  | case1 => cases h
  | case2 c f rest id => exact ⟨id, (Except.error.inj h).symm⟩
  | case3 c f rest out _ e' he ih => exact ih (he.trans (congrArg _ (Except.error.inj h)))
  | case4 => cases h

theorem runTools_ne_maxSteps (cfg : Config) (m : Msg) : (runTools cfg m).2 ≠ .error .maxSteps := by
  unfold runTools
  split
  · simp
  · split
    · simp
    · intro h
      obtain ⟨id, hid⟩ := collectResults_error _ _ h
      cases hid

theorem rounds_maxSteps (cfg : Config) (dec : Reply → Bool) :
    ∀ (script : List Reply) (b : Nat) (h : List Msg),
      (rounds cfg dec script b h).2.2 = .error .maxSteps →
      (rounds cfg dec script b h).2.1.length = b := by
  intro script b h hm
  fun_induction rounds cfg dec script b h with  -- cases: see `loop_chat`
  | case2 => cases hm
  | case4 r rest h _ b e he =>
    exact absurd (Except.error.inj hm ▸ he) (runTools_ne_maxSteps cfg r.full)
  | case6 r rest h _ res _ _ b => simp only [directResult] at hm; split at hm <;> cases hm
  | case7 r rest h _ b res _ _ q ih => simpa using ih hm
  | case8 => cases hm
  | _ => rfl

theorem rounds_mono (cfg : Config) (dec : Reply → Bool) :
    ∀ (script : List Reply) (b : Nat) (h : List Msg),
      (rounds cfg dec script b h).2.2 ≠ .error .maxSteps →
      rounds cfg dec script (b + 1) h = rounds cfg dec script b h := by
  intro script b h hne
  fun_induction rounds cfg dec script b h with  -- cases: see `loop_chat`
  | case1 | case3 | case5 => exact absurd rfl hne
  | case2 => rfl
  | case4 r rest h hd b e he => simp [rounds, hd, he]
  | case6 r rest h hd res hres hid b => simp only [rounds, hd, hres, hid, if_true]
  | case7 r rest h hd b res hres hid q ih => simp only [rounds, hd, hres, hid, if_true, ih hne]; rfl
  | case8 r rest b h hd => simp only [rounds, hd]; rfl

theorem rounds_mono_add (cfg : Config) (dec : Reply → Bool) (script : List Reply) (b : Nat)
    (h : List Msg) (hne : (rounds cfg dec script b h).2.2 ≠ .error .maxSteps) (d : Nat) :
    rounds cfg dec script (b + d) h = rounds cfg dec script b h := by
  induction d with
  | zero => rfl
  | succ d ih =>
    rw [show b + (d + 1) = (b + d) + 1 by omega, rounds_mono cfg dec script (b + d) h (by rw [ih]; exact hne), ih]

/-! `MaxStep` enters only through the step limit -/

theorem resolveCalls_setMax (cfg : Config) (n : Int) :
    ∀ calls, resolveCalls { cfg with maxStep := n } calls = resolveCalls cfg calls := by
  intro calls
  induction calls with
  | nil => rfl
  | cons c cs ih =>
    have ht : ({ cfg with maxStep := n } : Config).toolFor c.name = cfg.toolFor c.name := rfl
    simp only [resolveCalls, ih, ht]

theorem runTools_setMax (cfg : Config) (n : Int) (m : Msg) :
    runTools { cfg with maxStep := n } m = runTools cfg m := by
  simp only [runTools, resolveCalls_setMax]

theorem rounds_setMax (cfg : Config) (n : Int) (dec : Reply → Bool) :
    ∀ script b h, rounds { cfg with maxStep := n } dec script b h = rounds cfg dec script b h := by
  intro script
  induction script with
  | nil => intro b h; cases b <;> rfl
  | cons r rest ih =>
    intro b h
    cases b with
    | zero => rfl
    | succ b => simp only [rounds, runTools_setMax, ih]

theorem rounds_alternates (cfg : Config) (dec : Reply → Bool) :
    ∀ (script : List Reply) (b : Nat) (h : List Msg),
      Alternates (rounds cfg dec script b h).2.1 := by
  intro script b h
  fun_induction rounds cfg dec script b h with  -- cases: see `loop_chat`
  | case1 => exact .nil
  | case2 | case3 | case8 => exact .chat
  | case4 | case5 => exact .round _ _ .nil
  | case6 => exact .direct _
  | case7 r rest h _ b res _ _ q ih => exact .round _ _ ih

theorem Pointwise.diag {α : Type} {R : α → α → Prop} {l : List α} (h : ∀ a ∈ l, R a a) :
    Pointwise R l l := by
  induction l with
  | nil => exact .nil
  | cons a l ih => exact .cons (h a (by simp)) (ih fun x hx => h x (by simp [hx]))

theorem Pointwise.map_left {α β : Type} {R : α → β → Prop} (f : β → α) (h : ∀ b, R (f b) b)
    (l : List β) : Pointwise R (l.map f) l := by
  induction l with
  | nil => exact .nil
  | cons b l ih => exact .cons (h b) ih

theorem Pointwise.imp {α β : Type} {R S : α → β → Prop} (h : ∀ a b, R a b → S a b) {l : List α}
    {l' : List β} (hl : Pointwise R l l') : Pointwise S l l' := by
  induction hl with
  | nil => exact .nil
  | cons hr _ ih => exact .cons (h _ _ hr) ih

theorem rounds_pointwise (cfg : Config) (d1 d2 : Reply → Bool) {s1 s2 : List Reply}
    (hs : Pointwise (fun r1 r2 => r1.full = r2.full ∧ d1 r1 = d2 r2) s1 s2) :
    ∀ (b : Nat) (h : List Msg), rounds cfg d1 s1 b h = rounds cfg d2 s2 b h := by
  induction hs with
  | nil => intro b h; cases b <;> rfl
  | cons hr _ ih =>
    intro b h
    cases b with
    | zero => rfl
    | succ b => simp only [rounds, hr.1, hr.2, ih]

theorem rounds_congr (cfg : Config) (d1 d2 : Reply → Bool) :
    ∀ (script : List Reply) (b : Nat) (h : List Msg), (∀ r ∈ script, d1 r = d2 r) →
      rounds cfg d1 script b h = rounds cfg d2 script b h :=
  fun _ b h hd => rounds_pointwise cfg d1 d2 (.diag fun r hr => ⟨rfl, hd r hr⟩) b h

theorem run_pointwise (cfg : Config) (m1 m2 : Mode) (orig : List Msg) {s1 s2 : List Reply}
    (hs : Pointwise (fun r1 r2 => r1.full = r2.full ∧ goes facts cfg m1 r1 = goes facts cfg m2 r2)
      s1 s2) : run facts cfg m1 orig s1 = run facts cfg m2 orig s2 := by
  rw [run_eq, run_eq]
  cases stepLimit facts cfg with
  | none => rfl
  | some l => simp only [rounds_pointwise cfg _ _ hs l orig]

theorem firstChunk_cons (c : Chunk) (cs : List Chunk) :
    runChecker firstChunkChecker (c :: cs) =
      (!c.calls.isEmpty || (c.content == "" && runChecker firstChunkChecker cs)) := by
  simp only [runChecker, chunkAct, firstChunkChecker, CheckCond.holds]
  cases c.calls.isEmpty <;> cases c.content == "" <;> rfl

theorem firstChunk_single (m : Msg) :
    runChecker firstChunkChecker [Chunk.ofMsg m] = !m.calls.isEmpty := by
  rw [firstChunk_cons]
  simp [Chunk.ofMsg, runChecker, firstChunkChecker]

theorem concat_calls_isEmpty (cs : List Chunk) :
    (concat cs).calls.isEmpty = (cs.flatMap (·.calls)).isEmpty := assemble_isEmpty _

theorem whole_chunks (cs : List Chunk) :
    runChecker wholeStreamChecker cs = !(concat cs).calls.isEmpty := by
  rw [concat_calls_isEmpty]
  induction cs with
  | nil => rfl
  | cons c cs ih =>
    have : runChecker wholeStreamChecker (c :: cs)
        = (!c.calls.isEmpty || runChecker wholeStreamChecker cs) := by
      simp only [runChecker, chunkAct, wholeStreamChecker, CheckCond.holds]
      cases c.calls.isEmpty <;> rfl
    rw [this, ih, List.flatMap_cons]
    cases c.calls <;> rfl

theorem whole_single (m : Msg) :
    runChecker wholeStreamChecker [Chunk.ofMsg m] = !m.calls.isEmpty := by
  rw [whole_chunks, concat_calls_isEmpty]; simp [Chunk.ofMsg]

theorem firstChunk_blank_prefix (pre rest : List Chunk) (h : ∀ x ∈ pre, x.blank) :
    runChecker firstChunkChecker (pre ++ rest) = runChecker firstChunkChecker rest := by
  induction pre with
  | nil => rfl
  | cons x xs ih =>
    obtain ⟨h1, h2⟩ := h x (by simp)
    rw [List.cons_append, firstChunk_cons, h1, h2, ih (fun y hy => h y (by simp [hy]))]
    rfl

theorem firstChunk_true (cs : List Chunk) (h : runChecker firstChunkChecker cs = true) :
    ∃ pre c post, cs = pre ++ c :: post ∧ (∀ x ∈ pre, x.blank) ∧ c.calls ≠ [] := by
  induction cs with
  | nil => cases h
  | cons c cs ih =>
    by_cases hcalls : c.calls = []
    · rw [firstChunk_cons, hcalls] at h
      simp only [List.isEmpty_nil, Bool.not_true, Bool.false_or, Bool.and_eq_true, beq_iff_eq] at h
      obtain ⟨pre, c', post, rfl, hpre, hc'⟩ := ih h.2
      exact ⟨c :: pre, c', post, rfl, List.forall_mem_cons.mpr ⟨⟨h.1, hcalls⟩, hpre⟩, hc'⟩
    · exact ⟨[], c, cs, rfl, by simp, hcalls⟩

theorem firstChunk_no_calls (cs : List Chunk) (h : ∀ c ∈ cs, c.calls = []) :
    runChecker firstChunkChecker cs = false := by
  apply Bool.eq_false_iff.mpr
  intro ht
  obtain ⟨pre, c, post, rfl, _, hc⟩ := firstChunk_true cs ht
  exact hc (h c (by simp))

theorem firstChunk_of_calls {pre : List Chunk} {c : Chunk} (post : List Chunk)
    (hpre : ∀ x ∈ pre, x.blank) (hc : c.calls ≠ []) :
    runChecker firstChunkChecker (pre ++ c :: post) = true := by
  rw [firstChunk_blank_prefix _ _ hpre, firstChunk_cons, List.isEmpty_eq_false_iff.mpr hc]
  rfl

theorem toolCallsInFirstNonEmptyChunk_iff (r : Reply) :
    ToolCallsInFirstNonEmptyChunk r ↔ (r.full.calls = [] ∨ runChecker firstChunkChecker r.chunks = true) := by
  refine or_congr Iff.rfl ⟨?_, firstChunk_true _⟩
  rintro ⟨pre, c, post, hch, hpre, hc⟩
  rw [hch]
  exact firstChunk_of_calls post hpre hc

theorem firstChunk_agree (r : Reply) (h : ToolCallsInFirstNonEmptyChunk r) :
    runChecker firstChunkChecker r.chunks = runChecker firstChunkChecker [Chunk.ofMsg r.full] := by
  rw [firstChunk_single]
  by_cases hfull : r.full.calls = []
  · rw [hfull, firstChunk_no_calls _ ((concat_calls_nil_iff r.chunks).mp hfull)]
    rfl
  · rw [((toolCallsInFirstNonEmptyChunk_iff r).mp h).resolve_left hfull,
      List.isEmpty_eq_false_iff.mpr hfull]
    rfl

theorem holds_shape (cond : CheckCond) {c c' : Chunk} (h : c.SameShape c') :
    cond.holds c = cond.holds c' := by
  cases cond with
  | hasToolCalls => simp only [CheckCond.holds, h.2]
  | emptyContent => simp only [CheckCond.holds, h.1]
  | otherwise => rfl

theorem chunkAct_shape (rules : List (CheckCond × CheckAct)) {c c' : Chunk} (h : c.SameShape c') :
    chunkAct rules c = chunkAct rules c' := by
  induction rules with
  | nil => rfl
  | cons ra rs ih =>
    obtain ⟨cond, act⟩ := ra
    simp only [chunkAct, holds_shape cond h, ih]

theorem runChecker_shape (s : CheckerSpec) {cs cs' : List Chunk}
    (h : Pointwise Chunk.SameShape cs cs') : runChecker s cs = runChecker s cs' := by
  induction h with
  | nil => rfl
  | cons hc _ ih => simp only [runChecker, chunkAct_shape s.rules hc, ih]

theorem content_shape {cs cs' : List Chunk} (h : Pointwise Chunk.SameShape cs cs') :
    cs.map (·.content) = cs'.map (·.content) := by
  induction h with
  | nil => rfl
  | cons hc _ ih => simp only [List.map_cons, hc.1, ih]

theorem full_reinterleaved {r r' : Reply} (h : r.Reinterleaved r') : r.full = r'.full := by
  have h1 := content_shape h.1
  have h2 := assemble_congr _ _ h.2
  simp only [Reply.full, concat]
  rw [h1, h2]

theorem goes_reinterleaved (F : Facts) (cfg : Config) (mode : Mode) {r r' : Reply}
    (h : r.Reinterleaved r') : goes F cfg mode r = goes F cfg mode r' := by
  cases mode with
  | generate => simp only [goes, streamOf, full_reinterleaved h]
  | stream => exact runChecker_shape _ h.1

theorem rounds_rel (cfg : Config) (dec : Reply → Bool) {s1 s2 : List Reply}
    (hs : Pointwise (fun r1 r2 => r1.full = r2.full ∧ dec r1 = dec r2) s1 s2) :
    ∀ (b : Nat) (h : List Msg), rounds cfg dec s1 b h = rounds cfg dec s2 b h :=
  rounds_pointwise cfg dec dec hs

/-! a reply without its metadata is a re-interleaving of it, so chunk metadata is not looked at either -/

theorem bare_shape (c : Chunk) : c.bare.SameShape c := ⟨rfl, rfl⟩

theorem holds_bare (cond : CheckCond) (c : Chunk) : cond.holds c.bare = cond.holds c :=
  holds_shape cond (bare_shape c)

theorem chunkAct_bare (rules : List (CheckCond × CheckAct)) (c : Chunk) :
    chunkAct rules c.bare = chunkAct rules c :=
  chunkAct_shape rules (bare_shape c)

theorem runChecker_bare (s : CheckerSpec) (cs : List Chunk) :
    runChecker s (cs.map Chunk.bare) = runChecker s cs :=
  runChecker_shape s (.map_left Chunk.bare bare_shape cs)

theorem bare_reinterleaved (r : Reply) : r.bare.Reinterleaved r :=
  ⟨.map_left Chunk.bare bare_shape r.chunks, fun _ => by
    simp [Reply.bare, Chunk.bare, List.flatMap_map]⟩

theorem concat_bare (cs : List Chunk) : concat (cs.map Chunk.bare) = concat cs :=
  full_reinterleaved (bare_reinterleaved ⟨cs⟩)

theorem full_bare (r : Reply) : r.bare.full = r.full := full_reinterleaved (bare_reinterleaved r)

theorem goes_bare (F : Facts) (cfg : Config) (mode : Mode) (r : Reply) :
    goes F cfg mode r.bare = goes F cfg mode r :=
  goes_reinterleaved F cfg mode (bare_reinterleaved r)

theorem rounds_map (cfg : Config) (dec : Reply → Bool) (f : Reply → Reply)
    (hfull : ∀ r, (f r).full = r.full) (hdec : ∀ r, dec (f r) = dec r) :
    ∀ (script : List Reply) (b : Nat) (h : List Msg),
      rounds cfg dec (script.map f) b h = rounds cfg dec script b h :=
  fun script => rounds_pointwise cfg dec dec (.map_left f (fun r => ⟨hfull r, hdec r⟩) script)

theorem collect_spec (cfg : Config) :
    ∀ (calls : List ToolCall) tasks res, resolveCalls cfg calls = some tasks →
      collectResults tasks = .ok res → Answers cfg calls res := by
  intro calls
  fun_induction resolveCalls cfg calls with
  | case1 => intro tasks res ht hr; cases ht; cases hr; exact .nil
  | case2 c cs f rest hrest hf ih =>
    intro tasks res ht hr
    cases ht
    rw [collectResults] at hr
    split at hr
    · cases hr
    · next out hout =>
      split at hr
      · cases hr
      · next ms hms =>
        cases hr
        exact .cons ⟨f, out, hf, hout, rfl⟩ (ih rest ms hrest hms)
  | case3 => intro _ _ ht; cases ht

theorem runTools_spec (cfg : Config) (m : Msg) (res : List Msg) (h : (runTools cfg m).2 = .ok res) :
    Answers cfg m.calls res := by
  unfold runTools at h
  split at h
  · simp at h
  · split at h
    · simp at h
    · rename_i tasks ht
      exact collect_spec cfg _ _ _ ht h

theorem find_answer (cfg : Config) (c : ToolCall) :
    ∀ (calls : List ToolCall) (res : List Msg), Answers cfg calls res →
      c ∈ calls → (calls.map (·.id)).Nodup →
      ∃ m, res.find? (fun m => m.callId == c.id) = some m ∧ AnswerOf cfg c m := by
  intro calls res hf
  induction hf with
  | nil => intro hc; cases hc
  | @cons c' m' calls' res' hcm _ ih =>
    intro hc hnd
    rw [List.map_cons, List.nodup_cons] at hnd
    obtain ⟨f, out, hf1, hf2, rfl⟩ := hcm
    rcases List.mem_cons.mp hc with rfl | hc'
    · exact ⟨_, by simp [toolMessage], f, out, hf1, hf2, rfl⟩
    · obtain ⟨m, hm, ha⟩ := ih hc' hnd.2
      have hid : (c'.id == c.id) = false :=
        beq_false_of_ne fun hh => hnd.1 (hh ▸ List.mem_map_of_mem hc')
      exact ⟨m, by simp [List.find?, toolMessage, hid, hm], ha⟩

/-- the recorded id is that of the first call of a return-directly tool (the test for an empty
    list of such tools only saves the search) -/
theorem returnDirectlyId_eq (rd : List String) (m : Msg) :
    returnDirectlyId rd m = ((m.calls.find? (fun c => rd.contains c.name)).map (·.id)).getD "" := by
  unfold returnDirectlyId
  split
  · next h =>
    rw [List.find?_eq_none.mpr fun c _ => by simp [List.isEmpty_iff.mp h]]
    rfl
  · cases m.calls.find? (fun c => rd.contains c.name) <;> rfl

theorem returnDirectlyId_ne (rd : List String) (m : Msg) (h : returnDirectlyId rd m ≠ "") :
    ∃ c, m.calls.find? (fun c => rd.contains c.name) = some c ∧ returnDirectlyId rd m = c.id := by
  rw [returnDirectlyId_eq] at h ⊢
  cases hf : m.calls.find? (fun c => rd.contains c.name) with
  | none => exact absurd (by rw [hf]; rfl) h
  | some c => exact ⟨c, rfl, rfl⟩

/-- When call ids are non-empty, "no return-directly id recorded" means exactly "no call
    names a return-directly tool". (An empty id on such a call makes the code treat it as
    not return-directly: `len(state.ReturnDirectlyToolCallID) > 0` is the flag.) -/
theorem returnDirectlyId_empty_iff (rd : List String) (m : Msg)
    (hids : ∀ c ∈ m.calls, c.id ≠ "") :
    returnDirectlyId rd m = "" ↔ ∀ c ∈ m.calls, c.name ∉ rd := by
  rw [returnDirectlyId_eq]
  cases hf : m.calls.find? (fun c => rd.contains c.name) with
  | none => simpa using List.find?_eq_none.mp hf
  | some c =>
    have hmem : c ∈ m.calls := List.mem_of_find?_eq_some hf
    have hin : c.name ∈ rd := by simpa using List.find?_some hf
    exact ⟨fun h => absurd h (hids c hmem), fun h => absurd hin (h c hmem)⟩

theorem direct_first (cfg : Config) (m : Msg) (res : List Msg)
    (hres : (runTools cfg m).2 = .ok res) (hnd : (m.calls.map (·.id)).Nodup)
    (hid : returnDirectlyId cfg.returnDirectly m ≠ "") :
    ∃ c, m.calls.find? (fun c => cfg.returnDirectly.contains c.name) = some c ∧
      returnDirectlyId cfg.returnDirectly m = c.id ∧
      ∃ a, directResult (returnDirectlyId cfg.returnDirectly m) res = .ok a ∧ AnswerOf cfg c a := by
  obtain ⟨c, hc, hcid⟩ := returnDirectlyId_ne _ _ hid
  have hmem : c ∈ m.calls := List.mem_of_find?_eq_some hc
  obtain ⟨a, ha, hans⟩ := find_answer cfg c _ _ (runTools_spec cfg m res hres) hmem hnd
  refine ⟨c, hc, hcid, a, ?_, hans⟩
  rw [hcid]; simp [directResult, ha]

/-- the limit in force: `MaxStep` when positive; nodes + 10 when it is 0; none when negative -/
theorem stepLimit_facts (cfg : Config) :
    stepLimit facts cfg =
      if cfg.maxStep = 0 then some (if cfg.returnDirectly.isEmpty then 12 else 13)
      else if cfg.maxStep < 0 then none else some cfg.maxStep.toNat := by
  by_cases h0 : cfg.maxStep = 0
  · rw [if_pos h0]
    by_cases hrd : cfg.returnDirectly.isEmpty = true <;> simp [stepLimit, facts, h0, topoOf, hrd, topoPlain, topoRD]
  · simp [stepLimit, facts, h0]

theorem run_of_limit {cfg : Config} {l : Nat} (hl : stepLimit facts cfg = some l) (mode : Mode)
    (orig : List Msg) (script : List Reply) :
    run facts cfg mode orig script =
      { seen := (rounds cfg (goes facts cfg mode) script l orig).1,
        evs := (rounds cfg (goes facts cfg mode) script l orig).2.1,
        result := (rounds cfg (goes facts cfg mode) script l orig).2.2 } := by
  rw [run_eq, hl]

theorem run_refused {cfg : Config} (hl : stepLimit facts cfg = none) (mode : Mode) (orig : List Msg)
    (script : List Reply) :
    run facts cfg mode orig script = { seen := [], evs := [], result := .error .badMaxSteps } := by
  rw [run_eq, hl]

theorem answerOf_iff {cfg : Config} {c : ToolCall} {f : String → Except Nat String}
    (ht : cfg.toolFor c.name = some f) (m : Msg) :
    AnswerOf cfg c m ↔ ∃ out, f c.args = .ok out ∧ m = toolMessage out c.id := by
  constructor
  · rintro ⟨g, out, hg, ho, hm⟩
    rw [ht] at hg; cases hg
    exact ⟨out, ho, hm⟩
  · rintro ⟨out, ho, hm⟩
    exact ⟨f, out, ht, ho, hm⟩

/-- `genToolCallTasks` fails exactly when some call names no registered tool and no handler takes it -/
theorem resolveCalls_eq_none (cfg : Config) (calls : List ToolCall) :
    resolveCalls cfg calls = none ↔ ∃ c ∈ calls, cfg.toolFor c.name = none := by
  induction calls with
  | nil => simp [resolveCalls]
  | cons d ds ih =>
    simp only [List.mem_cons, exists_eq_or_imp]
    rw [← ih, resolveCalls]
    cases cfg.toolFor d.name <;> cases resolveCalls cfg ds <;> simp

end EinoV.C18
