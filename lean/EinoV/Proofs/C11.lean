/-
  C11 — helper lemmas for Props/C11.lean.  Stretches, in file order:
  * from `mkEv`: the event a commit logs; `commitWith` and `nextOp` by cases.
  * from `AllLocked`: the micro-step machine refines the atomic machine when every operation
    locks (`Inv`, `step_sim`, ending in `run_refines`); `NoGetState` is the form in which the
    property theorems take that hypothesis.
  * from `astep_cases`: invariants of the atomic machine (`RunFacts`: serial replay, program
    order, value hand-over, conservation of operations), carried to the micro-step machine by
    `run_facts`; from `replay_eq_foldl`: the exact final state when the updates commute.
  * from `GTree.size`: allocation: one run allocates a contiguous range of addresses, so runs
    share no state object (`state_fresh_per_run`, `state_fresh_nested`).
  * from `embed_setPhase`: the many-mutex machine with one mutex is the one-mutex machine.
  * from `resumeLevel_own`: the resume, level by level (`state_restored_every_level`).
-/
import EinoV.Model.C11

namespace EinoV.C11
variable {S V : Type}

/-- The event `commitWith c t snap` appends to the log when thread `t`, whose current value is `v`,
    commits `o` with the user function seeing `snap` as the state (`commitWith_cases`; with
    `snap = c.shared` it is the event of `astep`, `astep_cases`).  Its `vout` is `retOf snap` of
    itself (`mkEv_ret`), which is what `Returns` asks of every logged event. -/
def mkEv (t : Nat) (o : Op S V) (v : V) (snap : S) : Ev S V :=
  ⟨t, o, v, match o with | .st _ f => (f snap v).2 | .loc g => g v⟩

@[simp] theorem mkEv_tid (t : Nat) (o : Op S V) (v : V) (snap : S) : (mkEv t o v snap).tid = t := rfl
@[simp] theorem mkEv_op (t : Nat) (o : Op S V) (v : V) (snap : S) : (mkEv t o v snap).op = o := rfl
@[simp] theorem mkEv_vin (t : Nat) (o : Op S V) (v : V) (snap : S) : (mkEv t o v snap).vin = v := rfl

theorem mkEv_ret (t : Nat) (o : Op S V) (v : V) (snap : S) :
    (mkEv t o v snap).vout = retOf snap (mkEv t o v snap) := by
  cases o <;> rfl

theorem commitWith_cases (c : Core S V) (t : Nat) (snap : S) :
    (commitWith c t snap = c ∧ nextOp c t = none) ∨
    ∃ o rest v, c.threads[t]? = some (o :: rest, v) ∧
      commitWith c t snap =
        ⟨(match o with | .st _ _ => applyEv snap (mkEv t o v snap) | .loc _ => c.shared),
         c.threads.set t (rest, (mkEv t o v snap).vout), c.log ++ [mkEv t o v snap]⟩ := by
  unfold commitWith nextOp
  split
  · next w f rest v h => exact .inr ⟨_, _, _, h, rfl⟩
  · next g rest v h => exact .inr ⟨_, _, _, h, rfl⟩
  · next h1 h2 =>
    left
    refine ⟨rfl, ?_⟩
    split
    · next o rest v h =>
      cases o with
      | st w f => exact absurd h (h1 w f rest v)
      | loc g => exact absurd h (h2 g rest v)
    · rfl

theorem nextOp_some {c : Core S V} {t : Nat} {o : Op S V} (h : nextOp c t = some o) :
    ∃ rest v, c.threads[t]? = some (o :: rest, v) := by
  unfold nextOp at h
  split at h
  · next o' rest v h' => cases h; exact ⟨rest, v, h'⟩
  · cases h

/-- Every state operation still in some thread's program goes through a lock site that takes the
    mutex.  Hypothesis of the refinement (`step_sim`, `run_refines`): with it `step` never takes its
    branch `idle → loaded` without the mutex, so a loaded snapshot cannot go stale (`Inv.fresh`).
    Kept by commits (`allLocked_commitWith`), since a commit only shortens a program. -/
def AllLocked (locks : Wrapper → Bool) (c : Core S V) : Prop :=
  ∀ (t : Nat) (prog : List (Op S V)) (v : V), c.threads[t]? = some (prog, v) →
    ∀ (w : Wrapper) (f : S → V → S × V), Op.st w f ∈ prog → locks w = true

theorem allLocked_nextOp {locks : Wrapper → Bool} {c : Core S V} (h : AllLocked locks c) {t : Nat}
    {w : Wrapper} {f : S → V → S × V} (hn : nextOp c t = some (.st w f)) : locks w = true := by
  obtain ⟨rest, v, hth⟩ := nextOp_some hn
  exact h t _ _ hth w f (List.mem_cons_self ..)

/-- Invariant of the micro-step machine under `AllLocked`, kept by `step_sim`; its two clauses are
    the last two conjuncts of `mutual_exclusion` of Props/C11.lean, whose first follows from
    `holds`.  `holds`: a thread in the middle of an
    operation is the holder of the mutex, so all others are idle (`others_idle`).  `fresh`: what a
    thread has loaded is still the shared state, which makes its store step the atomic step `astep`. -/
structure Inv (sys : Sys S V) : Prop where
  holds : ∀ i, sys.phase i ≠ .idle → sys.holder = some i
  fresh : ∀ i snap, sys.phase i = .loaded snap → snap = sys.core.shared

theorem inv_init (s0 : S) (ths : List (List (Op S V) × V)) : Inv (init s0 ths) :=
  ⟨fun _ h => absurd rfl h, fun _ _ h => by simp [init] at h⟩

theorem allLocked_commitWith {locks : Wrapper → Bool} {c : Core S V} (h : AllLocked locks c)
    (t : Nat) (snap : S) : AllLocked locks (commitWith c t snap) := by
  rcases commitWith_cases c t snap with ⟨he, _⟩ | ⟨o, rest, v, ht, he⟩
  · rw [he]; exact h
  · rw [he]
    intro i prog v' hi w f hm
    rcases List.mem_or_eq_of_mem_set (List.mem_of_getElem? hi) with hmem | heq
    · obtain ⟨j, hj⟩ := List.getElem?_of_mem hmem
      exact h j prog v' hj w f hm
    · cases heq
      exact h t _ _ ht w f (List.mem_cons_of_mem _ hm)

theorem others_idle {sys : Sys S V} (hi : Inv sys) {t : Nat} (hh : ∀ i, sys.holder = some i → i = t) :
    ∀ i, i ≠ t → sys.phase i = .idle := by
  intro i e
  apply Classical.byContradiction
  intro hne
  exact e (hh i (hi.holds i hne))

theorem inv_setPhase {sys : Sys S V} {t : Nat} (hoth : ∀ i, i ≠ t → sys.phase i = .idle)
    (ph : Phase S) (C : Core S V) (H : Option Nat) (hH : ph ≠ .idle → H = some t)
    (hf : ∀ snap, ph = .loaded snap → snap = C.shared) :
    Inv (⟨C, H, fun i => if i = t then ph else sys.phase i⟩ : Sys S V) := by
  refine ⟨fun i hne => ?_, fun i snap hs => ?_⟩
  · by_cases e : i = t
    · subst e; exact hH (by simpa using hne)
    · exact absurd (hoth i e) (by simpa [e] using hne)
  · by_cases e : i = t
    · subst e; exact hf snap (by simpa using hs)
    · have := hoth i e; simp [e, this] at hs

theorem astep_loc_shared {c : Core S V} {t : Nat} {g : V → V} (hn : nextOp c t = some (.loc g)) :
    (astep c t).shared = c.shared := by
  obtain ⟨_, _, hth⟩ := nextOp_some hn
  simp only [astep, commitWith, hth]

theorem step_sim {locks : Wrapper → Bool} {sys : Sys S V} (hl : AllLocked locks sys.core)
    (hi : Inv sys) (t : Nat) :
    Inv (step locks sys t) ∧
    ((step locks sys t).core = sys.core ∨ (step locks sys t).core = astep sys.core t) := by
  -- a thread that is not idle holds the lock, so the others are idle
  have mine : sys.phase t ≠ .idle → sys.holder = some t ∧ ∀ i, i ≠ t → sys.phase i = .idle := fun hne =>
    ⟨hi.holds t hne, others_idle hi fun i h => (Option.some.inj ((hi.holds t hne).symm.trans h)).symm⟩
  unfold step
  split
  · -- stored → unlock
    next hp =>
    exact ⟨inv_setPhase (mine (by rw [hp]; nofun)).2 .idle sys.core none (fun h => absurd rfl h) nofun,
      .inl rfl⟩
  · -- locked → load
    next hp =>
    have ⟨hh, ho⟩ := mine (by rw [hp]; nofun)
    exact ⟨inv_setPhase ho (.loaded sys.core.shared) sys.core sys.holder (fun _ => hh)
      (fun _ h => by cases h; rfl), .inl rfl⟩
  · -- loaded → store: what was loaded is still the shared state, so this is the atomic step
    next snap hp =>
    have ⟨hh, ho⟩ := mine (by rw [hp]; nofun)
    split
    · next w f hn =>
      simp only [allLocked_nextOp hl hn, if_true]
      exact ⟨inv_setPhase ho .stored (commitWith sys.core t snap) sys.holder (fun _ => hh) nofun,
        .inr (by rw [astep, hi.fresh t snap hp])⟩
    · exact ⟨hi, .inl rfl⟩
  · -- idle
    next hp =>
    split
    · exact ⟨hi, .inl rfl⟩
    · next g hn =>
      exact ⟨⟨hi.holds, fun i snap hs => (hi.fresh i snap hs).trans (astep_loc_shared hn).symm⟩, .inr rfl⟩
    · next w f hn =>
      simp only [allLocked_nextOp hl hn, if_true]
      split
      · next hnone =>
        exact ⟨inv_setPhase (others_idle hi fun i h => by rw [hnone] at h; cases h) .locked sys.core
          (some t) (fun _ => rfl) nofun, .inl rfl⟩
      · exact ⟨hi, .inl rfl⟩

theorem gstep_sim {locks : Wrapper → Bool} (guard : Sys S V → Nat → Bool) {sys : Sys S V}
    (hl : AllLocked locks sys.core) (hi : Inv sys) (t : Nat) :
    Inv (gstep locks guard sys t) ∧ AllLocked locks (gstep locks guard sys t).core ∧
    ((gstep locks guard sys t).core = sys.core ∨
     (gstep locks guard sys t).core = astep sys.core t) := by
  unfold gstep
  split
  · have h := step_sim hl hi t
    refine ⟨h.1, ?_, h.2⟩
    rcases h.2 with h2 | h2
    · rw [h2]; exact hl
    · rw [h2]; exact allLocked_commitWith hl t _
  · exact ⟨hi, hl, .inl rfl⟩

/-- Linearisation: a run of micro-steps is a run of the atomic machine, whatever the scheduling
    restriction `guard`. -/
theorem run_refines {locks : Wrapper → Bool} (guard : Sys S V → Nat → Bool) (sched : List Nat) :
    ∀ (sys : Sys S V), AllLocked locks sys.core → Inv sys →
      Inv (run locks guard sched sys) ∧
      ∃ order, (run locks guard sched sys).core = arun order sys.core := by
  induction sched with
  | nil => intro sys _ hi; exact ⟨hi, [], rfl⟩
  | cons t sched ih =>
    intro sys hl hi
    obtain ⟨hi', hl', hc⟩ := gstep_sim guard hl hi t
    obtain ⟨hinv, order, ho⟩ := ih _ hl' hi'
    simp only [run, List.foldl_cons] at ho hinv ⊢
    refine ⟨hinv, ?_⟩
    rcases hc with hc | hc
    · exact ⟨order, by rw [ho, hc]⟩
    · exact ⟨t :: order, by rw [ho, hc]; rfl⟩

/-- No program touches the state through the pointer `GetState` hands out (lock site `.getState`,
    the one entry of the lock table that is `false`: `GetState` locks only while it fetches).  The
    hypothesis of the run theorems of Props/C11.lean; with `wrappers_lock` it gives `AllLocked`
    (`allLocked_of_noGetState`).  Without it an update is lost: `getState_access_unprotected`. -/
def NoGetState (ths : List (List (Op S V) × V)) : Prop :=
  ∀ th ∈ ths, ∀ (w : Wrapper) (f : S → V → S × V), Op.st w f ∈ th.1 → w ≠ .getState

theorem allLocked_of_noGetState {l : LockFacts}
    (hl : ∀ w, w ≠ Wrapper.getState → l.of w = true) {ths : List (List (Op S V) × V)}
    (h : NoGetState ths) (s0 : S) (lg : List (Ev S V)) : AllLocked l.of (⟨s0, ths, lg⟩ : Core S V) := by
  intro t prog v ht w f hm
  exact hl w (h (prog, v) (List.mem_of_getElem? ht) w f hm)

theorem astep_cases (c : Core S V) (t : Nat) :
    (astep c t = c) ∨
    ∃ o rest v, c.threads[t]? = some (o :: rest, v) ∧
      astep c t =
        ⟨applyEv c.shared (mkEv t o v c.shared),
         c.threads.set t (rest, (mkEv t o v c.shared).vout), c.log ++ [mkEv t o v c.shared]⟩ := by
  rcases commitWith_cases c t c.shared with ⟨h, _⟩ | ⟨o, rest, v, hth, he⟩
  · exact .inl h
  · refine .inr ⟨o, rest, v, hth, ?_⟩
    unfold astep; rw [he]
    cases o <;> rfl

theorem pending_set_self {c : Core S V} {t : Nat} {p : List (Op S V)} {v v' : V} {rest : List (Op S V)}
    (h : c.threads[t]? = some (p, v)) (sh : S) (lg : List (Ev S V)) :
    pending (⟨sh, c.threads.set t (rest, v'), lg⟩ : Core S V) t = rest := by
  have hlt : t < c.threads.length := (List.getElem?_eq_some_iff.mp h).1
  simp [pending, hlt]

theorem pending_set_other {c : Core S V} {t u : Nat} (hne : u ≠ t) (x : List (Op S V) × V)
    (sh : S) (lg : List (Ev S V)) :
    pending (⟨sh, c.threads.set u x, lg⟩ : Core S V) t = pending c t := by
  simp [pending, hne]

/-- What a run of the atomic machine from `c` to `c'` that logged `new` guarantees (`arun_facts`);
    `run_facts` carries it to the micro-step machine for three theorems of Props/C11.lean.
    `shared_eq`, `returns`, `conserve`: three of the four conjuncts of `no_lost_update` (the fourth,
    the serial order, comes from `run_refines`); `order`: `pre_before_post`, through `thread_order`;
    `flow`: `handler_values_flow`.  `log_eq` lets `run_facts` take the final log for `new` (the run
    starts from an empty log); `len` has no user outside the induction of `arun_facts`. -/
structure RunFacts (c c' : Core S V) (new : List (Ev S V)) : Prop where
  log_eq : c'.log = c.log ++ new
  shared_eq : c'.shared = replay c.shared new
  returns : Returns c.shared new
  order : ∀ t, (evsOf t new).map (·.op) ++ pending c' t = pending c t
  flow : ∀ t p v, c.threads[t]? = some (p, v) →
      ∃ p' v', c'.threads[t]? = some (p', v') ∧ Chained v (evsOf t new) v'
  conserve : (new.map (·.op) ++ remaining c').Perm (remaining c)
  len : c'.threads.length = c.threads.length

theorem remaining_set_perm (l : List (List (Op S V) × V)) (t : Nat) (o : Op S V)
    (rest : List (Op S V)) (v v' : V) (h : l[t]? = some (o :: rest, v)) :
    (o :: ((l.set t (rest, v')).map (·.1)).flatten).Perm ((l.map (·.1)).flatten) := by
  induction l generalizing t with
  | nil => simp at h
  | cons x xs ih =>
    cases t with
    | zero =>
      simp only [List.getElem?_cons_zero, Option.some.injEq] at h
      subst h
      simp
    | succ t =>
      simp only [List.getElem?_cons_succ] at h
      have := ih t h
      simp only [List.set_cons_succ, List.map_cons, List.flatten_cons]
      exact (List.perm_middle (l₁ := x.1) (a := o)).symm.trans (List.Perm.append_left x.1 this)

theorem chained_snoc {v0 v : V} {evs : List (Ev S V)} (h : Chained v0 evs v) (e : Ev S V)
    (he : e.vin = v) : Chained v0 (evs ++ [e]) e.vout := by
  induction evs generalizing v0 with
  | nil => simp only [Chained] at h; subst h; exact ⟨he, rfl⟩
  | cons x xs ih => exact ⟨h.1, ih h.2⟩

theorem evsOf_cons (t : Nat) (e : Ev S V) (evs : List (Ev S V)) :
    evsOf t (e :: evs) = if e.tid = t then e :: evsOf t evs else evsOf t evs := by
  simp [evsOf, List.filter_cons]

theorem arun_facts (order : List Nat) :
    ∀ c : Core S V, ∃ new, RunFacts c (arun order c) new := by
  induction order with
  | nil =>
    intro c
    refine ⟨[], ⟨by simp [arun], rfl, trivial, by simp [evsOf, arun], ?_, by simp [arun], rfl⟩⟩
    intro t p v h; exact ⟨p, v, h, rfl⟩
  | cons u order ih =>
    intro c
    obtain ⟨new, hf⟩ := ih (astep c u)
    rw [show arun (u :: order) c = arun order (astep c u) from rfl]
    rcases astep_cases c u with he | ⟨o, rest, v, hth, he⟩
    · rw [he] at hf ⊢; exact ⟨new, hf⟩
    · refine ⟨mkEv u o v c.shared :: new, ?_⟩
      rw [he] at hf ⊢
      have hlt : u < c.threads.length := (List.getElem?_eq_some_iff.mp hth).1
      constructor
      · rw [hf.log_eq]; simp
      · exact hf.shared_eq
      · exact ⟨mkEv_ret .., hf.returns⟩
      · intro t
        rw [evsOf_cons, mkEv_tid]
        by_cases htu : u = t
        · subst htu
          have h1 : _ = rest := (hf.order u).trans (pending_set_self hth _ _)
          rw [if_pos rfl, List.map_cons, List.cons_append, h1]
          simp [pending, hth]
        · rw [if_neg htu]
          exact (hf.order t).trans (pending_set_other htu _ _ _)
      · intro t p v0 hpt
        rw [evsOf_cons, mkEv_tid]
        by_cases htu : u = t
        · subst htu
          rw [hth] at hpt; cases hpt
          obtain ⟨p', v', hp', hch⟩ := hf.flow u rest (mkEv u o v c.shared).vout (by simp [hlt])
          exact ⟨p', v', hp', by rw [if_pos rfl]; exact ⟨rfl, hch⟩⟩
        · rw [if_neg htu]
          exact hf.flow t p v0 (by simp [htu, hpt])
      · simp only [List.map_cons, mkEv_op, List.cons_append]
        exact (hf.conserve.cons o).trans (remaining_set_perm c.threads u o rest v _ hth)
      · rw [hf.len]; simp

theorem run_facts {locks : Wrapper → Bool} (guard : Sys S V → Nat → Bool) (sched : List Nat) (s0 : S)
    (ths : List (List (Op S V) × V)) (hl : AllLocked locks (⟨s0, ths, []⟩ : Core S V)) :
    Inv (run locks guard sched (init s0 ths)) ∧
    (∃ order, (run locks guard sched (init s0 ths)).core = arun order ⟨s0, ths, []⟩) ∧
    RunFacts ⟨s0, ths, []⟩ (run locks guard sched (init s0 ths)).core
      (run locks guard sched (init s0 ths)).core.log := by
  obtain ⟨hinv, order, ho⟩ := run_refines guard sched (init s0 ths) hl (inv_init s0 ths)
  obtain ⟨new, hf⟩ := arun_facts order (⟨s0, ths, []⟩ : Core S V)
  have hc : (run locks guard sched (init s0 ths)).core = arun order ⟨s0, ths, []⟩ := ho
  have hlog : (run locks guard sched (init s0 ths)).core.log = new := by
    rw [hc]; simpa using hf.log_eq
  exact ⟨hinv, ⟨order, hc⟩, by rw [hlog, hc]; exact hf⟩

theorem thread_order {locks : Wrapper → Bool} (guard : Sys S V → Nat → Bool) (sched : List Nat)
    (s0 : S) (ths : List (List (Op S V) × V))
    (hl : AllLocked locks (⟨s0, ths, []⟩ : Core S V)) (t : Nat) (p : List (Op S V)) (v : V)
    (ht : ths[t]? = some (p, v)) :
    let fin := run locks guard sched (init s0 ths)
    (evsOf t fin.core.log).map (·.op) ++ pending fin.core t = p := by
  intro fin
  rw [(run_facts guard sched s0 ths hl).2.2.order t]
  simp [pending, ht]

theorem replay_eq_foldl (g : Op S V → S → S) (evs : List (Ev S V)) (s0 : S)
    (hg : ∀ e ∈ evs, ∀ s, applyEv s e = g e.op s) :
    replay s0 evs = (evs.map (·.op)).foldl (fun s o => g o s) s0 := by
  induction evs generalizing s0 with
  | nil => rfl
  | cons e es ih =>
    simp only [replay, List.foldl_cons, List.map_cons]
    rw [hg e (List.mem_cons_self ..) s0]
    exact ih _ (fun e' he' => hg e' (List.mem_cons_of_mem _ he'))

theorem allDone_remaining {c : Core S V} (h : allDone c = true) : remaining c = [] := by
  unfold allDone at h; unfold remaining
  rw [List.all_eq_true] at h
  apply List.flatten_eq_nil_iff.mpr
  intro l hl
  rw [List.mem_map] at hl
  obtain ⟨th, hth, rfl⟩ := hl
  have := h th hth
  simpa [List.isEmpty_iff] using this

theorem shared_eq_foldl_of_commute {c : Core S V} {s0 : S} {ops : List (Op S V)}
    (hsh : c.shared = replay s0 c.log) (hperm : (c.log.map (·.op) ++ remaining c).Perm ops)
    (hdone : allDone c = true) (g : Op S V → S → S)
    (hg : ∀ o ∈ ops, ∀ s v, (match o with | .st _ f => (f s v).1 | .loc _ => s) = g o s)
    (hcomm : ∀ o₁ ∈ ops, ∀ o₂ ∈ ops, ∀ s, g o₂ (g o₁ s) = g o₁ (g o₂ s)) :
    c.shared = ops.foldl (fun s o => g o s) s0 := by
  rw [allDone_remaining hdone, List.append_nil] at hperm
  rw [hsh, replay_eq_foldl g]
  · exact hperm.foldl_eq' (fun x hx y hy z => hcomm x (hperm.subset hx) y (hperm.subset hy) z) s0
  · intro e he s
    have := hg e.op (hperm.subset (List.mem_map.mpr ⟨e, he, rfl⟩)) s e.vin
    unfold applyEv
    cases ho : e.op with
    | st w f => rw [ho] at this; exact this
    | loc g' => rw [ho] at this; exact this

mutual
/-- Number of graphs in the tree that declare state, i.e. of state objects one run allocates:
    `allocated g next` is exactly the addresses `next, …, next + size g - 1` (`allocated_eq`), from
    which the bounds, `Nodup` and the disjointness of successive runs (`runMany_pairwise`) follow. -/
def GTree.size : GTree → Nat
  | .mk static subs => (if static.isSome then 1 else 0) + GTrees.size subs
def GTrees.size : GTrees → Nat
  | .nil => 0
  | .cons g gs => GTree.size g + GTrees.size gs
end

mutual
theorem allocated_eq (g : GTree) (next : Nat) :
    allocated g next = (List.range' next (GTree.size g), next + GTree.size g) := by
  cases g with
  | mk static subs =>
    cases static with
    | none => simp [allocated, GTree.size, allocateds_eq subs next]
    | some s =>
      simp only [allocated, GTree.size, allocateds_eq subs (next + 1), Option.isSome_some, if_true,
        Nat.add_comm 1, List.range'_succ, Nat.add_assoc]
theorem allocateds_eq (gs : GTrees) (next : Nat) :
    allocateds gs next = (List.range' next (GTrees.size gs), next + GTrees.size gs) := by
  cases gs with
  | nil => simp [allocateds, GTrees.size]
  | cons g gs =>
    simp only [allocateds, GTrees.size, allocated_eq g next, allocateds_eq gs, Nat.add_assoc,
      List.range'_append_1]
end

theorem allocated_bounds (g : GTree) (next : Nat) :
    next ≤ (allocated g next).2 ∧ ∀ a ∈ (allocated g next).1, next ≤ a ∧ a < (allocated g next).2 := by
  rw [allocated_eq]
  exact ⟨Nat.le_add_right .., fun a ha => by simpa using ha⟩

theorem allocateds_bounds (gs : GTrees) (next : Nat) :
    next ≤ (allocateds gs next).2 ∧ ∀ a ∈ (allocateds gs next).1, next ≤ a ∧ a < (allocateds gs next).2 := by
  rw [allocateds_eq]
  exact ⟨Nat.le_add_right .., fun a ha => by simpa using ha⟩

theorem allocated_nodup (g : GTree) (next : Nat) : (allocated g next).1.Nodup := by
  rw [allocated_eq]; exact List.nodup_range'

theorem allocateds_nodup (gs : GTrees) (next : Nat) : (allocateds gs next).1.Nodup := by
  rw [allocateds_eq]; exact List.nodup_range'

mutual
theorem runTree_spec (g : GTree) (ctx : Option Nat) (next : Nat) :
    (runTree true g ctx next).2 = (allocated g next).2 ∧
    ∀ x ∈ (runTree true g ctx next).1, x = ctx ∨ ∃ a, x = some a ∧ a ∈ (allocated g next).1 := by
  cases g with
  | mk static subs =>
    cases static with
    | none =>
      have h := runTrees_spec subs ctx next
      simp only [runTree, allocated]
      refine ⟨h.1, ?_⟩
      intro x hx
      simp only [List.mem_cons] at hx
      rcases hx with rfl | hx
      · exact .inl rfl
      · exact h.2 x hx
    | some s =>
      have h := runTrees_spec subs (some next) (next + 1)
      simp only [runTree, allocated, if_true]
      refine ⟨h.1, ?_⟩
      intro x hx
      simp only [List.mem_cons] at hx
      rcases hx with rfl | hx
      · exact .inr ⟨next, rfl, List.mem_cons_self ..⟩
      · rcases h.2 x hx with rfl | ⟨a, rfl, ha⟩
        · exact .inr ⟨next, rfl, List.mem_cons_self ..⟩
        · exact .inr ⟨a, rfl, List.mem_cons_of_mem _ ha⟩
theorem runTrees_spec (gs : GTrees) (ctx : Option Nat) (next : Nat) :
    (runTrees true gs ctx next).2 = (allocateds gs next).2 ∧
    ∀ x ∈ (runTrees true gs ctx next).1, x = ctx ∨ ∃ a, x = some a ∧ a ∈ (allocateds gs next).1 := by
  cases gs with
  | nil => simp [runTrees, allocateds]
  | cons g gs =>
    have h1 := runTree_spec g ctx next
    have h2 := runTrees_spec gs ctx (runTree true g ctx next).2
    simp only [runTrees, allocateds]
    rw [h1.1] at h2
    refine ⟨by rw [h1.1]; exact h2.1, ?_⟩
    intro x hx
    simp only [List.mem_append] at hx
    rcases hx with hx | hx
    · rcases h1.2 x hx with h | ⟨a, rfl, ha⟩
      · exact .inl h
      · exact .inr ⟨a, rfl, List.mem_append_left _ ha⟩
    · rw [h1.1] at hx
      rcases h2.2 x hx with h | ⟨a, rfl, ha⟩
      · exact .inl h
      · exact .inr ⟨a, rfl, List.mem_append_right _ ha⟩
end

theorem runTree_range (g : GTree) (next : Nat) :
    next ≤ (runTree true g none next).2 ∧
    ∀ a, some a ∈ (runTree true g none next).1 → next ≤ a ∧ a < (runTree true g none next).2 := by
  have hs := runTree_spec g none next
  have hb := allocated_bounds g next
  rw [hs.1]
  refine ⟨hb.1, ?_⟩
  intro a ha
  rcases hs.2 _ ha with h | ⟨a', h, ha'⟩
  · cases h
  · cases h; exact hb.2 a ha'

theorem runMany_lower (g : GTree) (k : Nat) :
    ∀ next, ∀ l ∈ runMany true g k next, ∀ a, some a ∈ l → next ≤ a := by
  induction k with
  | zero => intro next l hl; simp [runMany] at hl
  | succ k ih =>
    intro next l hl a ha
    simp only [runMany, List.mem_cons] at hl
    rcases hl with rfl | hl
    · exact ((runTree_range g next).2 a ha).1
    · have := ih _ l hl a ha
      have := (runTree_range g next).1
      omega

theorem runMany_pairwise (g : GTree) (k : Nat) :
    ∀ next, (runMany true g k next).Pairwise (fun l₁ l₂ => ∀ a, some a ∈ l₁ → some a ∉ l₂) := by
  induction k with
  | zero => intro next; simp [runMany]
  | succ k ih =>
    intro next
    simp only [runMany, List.pairwise_cons]
    refine ⟨?_, ih _⟩
    intro l hl a ha ha'
    have h1 := ((runTree_range g next).2 a ha).2
    have h2 := runMany_lower g k _ l hl a ha'
    omega

theorem embed_setPhase (k : Nat) (sys : Sys S V) (t : Nat) (p : Phase S) :
    (embed k sys).setPhase t p = embed k (sys.setPhase t p) := rfl

theorem embed_setHolder (k : Nat) (sys : Sys S V) (h : Option Nat) :
    (embed k sys).setHolder k h = embed k { sys with holder := h } := by
  simp only [embed, SysL.setHolder]
  congr 1
  funext m
  by_cases hm : m = k <;> simp [hm]

theorem embed_core (k : Nat) (sys : Sys S V) : (embed k sys).core = sys.core := rfl

theorem embed_holder_self (k : Nat) (sys : Sys S V) : (embed k sys).holder k = sys.holder := if_pos rfl

theorem stepL_const (k : Nat) (locks : Wrapper → Bool) (sys : Sys S V) (t : Nat) :
    stepL (fun _ => k) locks (embed k sys) t = embed k (step locks sys t) := by
  unfold stepL step
  show (match sys.phase t with
    | .stored => _
    | .locked => _
    | .loaded snap => _
    | .idle => _) = _
  simp only [embed_core, embed_holder_self]
  cases hp : sys.phase t with
  | stored => simp only [embed_setPhase, embed_setHolder]
  | locked => rfl
  | loaded snap =>
    cases hn : nextOp sys.core t with
    | none => rfl
    | some o => cases o <;> rfl
  | idle =>
    cases hn : nextOp sys.core t with
    | none => rfl
    | some o =>
      cases o with
      | loc g => rfl
      | st w f =>
        by_cases hw : locks w = true
        · simp only [hw, if_true]
          cases hholder : sys.holder with
          | none => simp only [embed_setPhase, embed_setHolder]
          | some x => rfl
        · simp only [hw]; rfl

theorem runL_const (k : Nat) (locks : Wrapper → Bool) (guardL : SysL S V → Nat → Bool)
    (sched : List Nat) :
    ∀ sys : Sys S V,
      runL (fun _ => k) locks guardL sched (embed k sys) =
        embed k (run locks (fun s t => guardL (embed k s) t) sched sys) := fun sys =>
  List.foldl_hom (embed k) (H := fun s t => by
    unfold gstepL gstep
    split
    · exact stepL_const k locks s t
    · rfl)

theorem initL_eq_embed (k : Nat) (s0 : S) (ths : List (List (Op S V) × V)) :
    initL s0 ths = embed k (init s0 ths) := by
  simp only [initL, embed, init, ite_self]

theorem resumeLockOf_one (restored : Nat) : resumeLockOf true restored = fun _ => 0 := by
  funext t; simp [resumeLockOf]

theorem resumeLevel_own {f : ResumeFacts} (hs : f.saves = true) (hr : f.restoresFirst = true)
    (ha : f.setAlways = true) (m : Option (S → S)) (s : S) :
    resumeLevel f m (some s) = .own (applyMod m s) := by
  simp [resumeLevel, interruptCP, hs, hr, ha]

theorem resumeLevel_none (f : ResumeFacts) (m : Option (S → S)) :
    resumeLevel f m (none : Option S) = .inherited := by
  unfold resumeLevel interruptCP
  cases f.saves <;> rfl

theorem visible_own : ∀ (l : List (Seen S)) (ctx : Option S) (i : Nat) (s : S),
    l[i]? = some (.own s) → (visible ctx l)[i]? = some (some s) := by
  intro l
  induction l with
  | nil => intro ctx i s h; simp at h
  | cons x xs ih =>
    intro ctx i s h
    cases i with
    | zero =>
      simp only [List.getElem?_cons_zero, Option.some.injEq] at h
      subst h; simp [visible]
    | succ i =>
      simp only [List.getElem?_cons_succ] at h
      cases x <;> exact ih _ i s h

theorem visible_length : ∀ (l : List (Seen S)) (ctx : Option S), (visible ctx l).length = l.length := by
  intro l
  induction l with
  | nil => intro ctx; rfl
  | cons x xs ih => intro ctx; cases x <;> simp [visible, ih]

theorem visible_inherited : ∀ (l : List (Seen S)) (ctx : Option S) (i : Nat),
    l[i + 1]? = some .inherited → (visible ctx l)[i + 1]? = (visible ctx l)[i]? := by
  intro l
  induction l with
  | nil => intro ctx i h; simp at h
  | cons x xs ih =>
    intro ctx i h
    simp only [List.getElem?_cons_succ] at h
    cases i with
    | zero =>
      cases xs with
      | nil => simp at h
      | cons y ys =>
        simp only [List.getElem?_cons_zero, Option.some.injEq] at h
        subst h
        cases x <;> simp [visible]
    | succ i =>
      cases x <;> exact ih _ i h

theorem resumePath_get (top sub : ResumeFacts) (lv : List (Option (S → S) × Option S)) (i : Nat)
    (m : Option (S → S)) (a : Option S) (h : lv[i]? = some (m, a)) :
    (resumePath top sub lv)[i]? = some (resumeLevel (if i = 0 then top else sub) m a) := by
  cases lv with
  | nil => simp at h
  | cons x rest =>
    cases i with
    | zero =>
      simp only [List.getElem?_cons_zero, Option.some.injEq] at h
      subst h; simp [resumePath]
    | succ i =>
      simp only [List.getElem?_cons_succ] at h
      obtain ⟨m0, a0⟩ := x
      simp [resumePath, h]

theorem resumePath_length (top sub : ResumeFacts) (lv : List (Option (S → S) × Option S)) :
    (resumePath top sub lv).length = lv.length := by
  cases lv with
  | nil => rfl
  | cons x rest => simp [resumePath]

theorem resumeLevel_eq {f : ResumeFacts} (hs : f.saves = true) (hr : f.restoresFirst = true)
    (ha : f.setAlways = true) (m : Option (S → S)) (o : Option S) :
    resumeLevel f m o = match o with
      | some s => Seen.own (applyMod m s)
      | none => Seen.inherited := by
  cases o with
  | none => exact resumeLevel_none f m
  | some s => exact resumeLevel_own hs hr ha m s

end EinoV.C11
