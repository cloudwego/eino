/-
  C20 — lemmas for Model/C20Dup.lean: the edge lists only grow, the type-inference work list never
  touches them, an edge whose half is already there is refused and the error is kept, and a
  declaration list that names one pair twice with clashing kinds never compiles.
-/
import EinoV.Model.C20Dup
import EinoV.Proofs.C20
import EinoV.Proofs.C20Wf

namespace EinoV.Build

def Builder.edg (b : Builder) := (b.controlEdges, b.dataEdges)

theorem Builder.edg_frame : BranchFrame Builder.edg where
  setTy _ _ _ := rfl
  mapped _ _ _ := rfl
  may _ _ := rfl
  pending _ _ := rfl
  ends _ _ _ := rfl
  pre _ _ := rfl
  br _ _ := rfl

theorem update_edg (im : Impl) (ord : Ord) (b b' : Builder) (h : update im ord b = .ok b') :
    b'.edg = b.edg := Builder.edg_frame.toWorkListFrame.update im ord b b' h

theorem edg_ctl {b b' : Builder} (h : b'.edg = b.edg) : b'.controlEdges = b.controlEdges :=
  congrArg Prod.fst h
theorem edg_data {b b' : Builder} (h : b'.edg = b.edg) : b'.dataEdges = b.dataEdges :=
  congrArg Prod.snd h


theorem addEdgeBody_edges (im : Impl) (ord : Ord) (b b' : Builder) (s e : Key) (nc nd : Bool) (m : Option Nat)
    (h : addEdgeBody im ord b s e nc nd m = .ok b') :
    b'.controlEdges = b.controlEdges ++ (if nc then [] else [(s, e)]) ∧
    b'.dataEdges = b.dataEdges ++ (if nd then [] else [(s, e)]) := by
  obtain ⟨b1, h1, h2⟩ := addEdgeBody_accepted h
  have hb1 : b1.controlEdges = b.controlEdges ++ (if nc then [] else [(s, e)]) ∧
      b1.dataEdges = b.dataEdges := by
    rcases (edgeHead_accepted h1).2.2.2.2 with ⟨rfl, rfl⟩ | ⟨rfl, -, rfl⟩
    · exact ⟨(List.append_nil _).symm, rfl⟩
    · exact ⟨rfl, rfl⟩
  rcases h2 with ⟨rfl, rfl⟩ | ⟨rfl, -, b2, hu, rfl⟩
  · exact ⟨hb1.1, hb1.2.trans (List.append_nil _).symm⟩
  · have hx := update_edg im ord (b1.addToValidate s _) b2 hu
    exact ⟨(edg_ctl hx).trans hb1.1, congrArg (· ++ [(s, e)]) ((edg_data hx).trans hb1.2)⟩

theorem addEdgeBody_dup (im : Impl) (ord : Ord) (b : Builder) (s e : Key) (nc nd : Bool) (m : Option Nat)
    (h : (nc = false ∧ (s, e) ∈ b.controlEdges) ∨ (nd = false ∧ (s, e) ∈ b.dataEdges)) :
    ∃ k, addEdgeBody im ord b s e nc nd m = .error k := by
  cases hr : addEdgeBody im ord b s e nc nd m with
  | error k => exact ⟨k, rfl⟩
  | ok b' =>
    -- an accepted edge found neither of the halves it carries in the lists
    exfalso
    obtain ⟨b1, h1, h2⟩ := addEdgeBody_accepted hr
    obtain ⟨-, -, -, -, hb1⟩ := edgeHead_accepted h1
    rcases h with ⟨hnc, hm⟩ | ⟨hnd, hm⟩
    · rcases hb1 with ⟨hnc', -⟩ | ⟨-, hno, -⟩
      · rw [hnc] at hnc'; cases hnc'
      · exact hno hm
    · have hd : b1.dataEdges = b.dataEdges := by rcases hb1 with ⟨-, rfl⟩ | ⟨-, -, rfl⟩ <;> rfl
      rcases h2 with ⟨hnd', -⟩ | ⟨-, hno, -⟩
      · rw [hnd] at hnd'; cases hnd'
      · exact hno (hd ▸ hm)

theorem step_edges_mono (f : Facts) (im : Impl) (ord : Ord) (b : Builder) (op : Op) (hop : op.isCompile = false)
    (p : Key × Key) :
    (p ∈ b.controlEdges → p ∈ (step f im ord b op).1.controlEdges) ∧
    (p ∈ b.dataEdges → p ∈ (step f im ord b op).1.dataEdges) := by
  cases op with
  | compile o => simp [Op.isCompile] at hop
  | node n =>
    exact addNode_ind (P := fun b' => (p ∈ b.controlEdges → p ∈ b'.controlEdges) ∧
      (p ∈ b.dataEdges → p ∈ b'.dataEdges)) f b n ⟨id, id⟩ (fun _ => ⟨id, id⟩) (fun _ => ⟨id, id⟩)
  | branch s t ends sk =>
    refine guarded_ind (P := fun b' => (p ∈ b.controlEdges → p ∈ b'.controlEdges) ∧
      (p ∈ b.dataEdges → p ∈ b'.dataEdges)) _ b _ ⟨id, id⟩ ?_ (fun _ => ⟨id, id⟩)
    intro b' hb
    have hx := Builder.edg_frame.addBranchBody hb
    rw [edg_ctl hx, edg_data hx]; exact ⟨id, id⟩
  | edge s e nc nd m =>
    refine addEdge_ind (P := fun b' => (p ∈ b.controlEdges → p ∈ b'.controlEdges) ∧
      (p ∈ b.dataEdges → p ∈ b'.dataEdges)) f im ord b s e nc nd m ⟨id, id⟩ ?_ (fun _ => ⟨id, id⟩)
    intro b' hb
    have hx := addEdgeBody_edges im ord b b' s e nc nd m hb
    rw [hx.1, hx.2]
    exact ⟨List.mem_append_left _, List.mem_append_left _⟩


theorem step_edge_adds (f : Facts) (hf : f.Guarded) (im : Impl) (ord : Ord) (b : Builder)
    (he : b.buildError = none) (hc : b.compiled = false) (s e : Key) (nc nd : Bool) (m : Option Nat)
    (hn : (nc && nd) = false)
    (hok : (step f im ord b (.edge s e nc nd m)).1.buildError = none) :
    (nc = false → (s, e) ∈ (step f im ord b (.edge s e nc nd m)).1.controlEdges) ∧
    (nd = false → (s, e) ∈ (step f im ord b (.edge s e nc nd m)).1.dataEdges) := by
  have hs : f.edgeG.storeErr = true := by rw [hf.edge]; rfl
  simp only [step, addEdge_of_body f im ord b s e nc nd m he hc hn, hs, if_true] at hok ⊢
  cases hb : addEdgeBody im ord b s e nc nd m with
  | error k => rw [hb] at hok; cases hok
  | ok b' =>
    have hx := addEdgeBody_edges im ord b b' s e nc nd m hb
    simp only [hx.1, hx.2]
    exact ⟨fun h => by simp [h], fun h => by simp [h]⟩

theorem step_edge_dup_err (f : Facts) (hf : f.Guarded) (im : Impl) (ord : Ord) (b : Builder)
    (he : b.buildError = none) (hc : b.compiled = false) (s e : Key) (nc nd : Bool) (m : Option Nat)
    (hn : (nc && nd) = false)
    (h : (nc = false ∧ (s, e) ∈ b.controlEdges) ∨ (nd = false ∧ (s, e) ∈ b.dataEdges)) :
    ∃ k, (step f im ord b (.edge s e nc nd m)).2.1 = .fresh k ∧
         (step f im ord b (.edge s e nc nd m)).1.buildError = some k := by
  have hs : f.edgeG.storeErr = true := by rw [hf.edge]; rfl
  rcases addEdgeBody_dup im ord b s e nc nd m h with ⟨k, hk⟩
  simp only [step, addEdge_of_body f im ord b s e nc nd m he hc hn, hk, hs, if_true]
  exact ⟨k, rfl, rfl⟩

theorem runK_stored (E : Env) (hf : E.f.Guarded) (hc : E.inCtl = true) (b : Builder) (k : ErrKind)
    (h : b.buildError = some k) (ops : List Op) : runK E b ops = b :=
  runK_ind (P := (· = b)) E ops b (fun _ op _ hb' => hb' ▸ stepK_stored E hf hc b k h op) rfl

def HalfOrErr (b : Builder) (s e : Key) (ctl : Bool) : Prop :=
  b.buildError ≠ none ∨ (b.compiled = false ∧ (s, e) ∈ (if ctl then b.controlEdges else b.dataEdges))

theorem stepK_uncompiled (E : Env) (hc : E.inCtl = true) (hv : E.ord.Valid) (b : Builder) (op : Op)
    (hop : op.isCompile = false) (hcmp : b.compiled = false) : (stepK E b op).1.compiled = false := by
  rw [stepK_true E hc]
  exact (congrArg Prod.fst ((step_keeps E.f E.im E.ord hv b op).2.2 hop)).trans hcmp

theorem stepK_keeps_half (E : Env) (hf : E.f.Guarded) (hc : E.inCtl = true) (hv : E.ord.Valid) (b : Builder)
    (s e : Key) (ctl : Bool) (op : Op) (hop : op.isCompile = false) (h : HalfOrErr b s e ctl) :
    HalfOrErr (stepK E b op).1 s e ctl := by
  rcases h with h | ⟨hcmp, hm⟩
  · cases hb : b.buildError with
    | none => exact absurd hb h
    | some k => rw [stepK_stored E hf hc b k hb op]; exact Or.inl h
  · refine Or.inr ⟨stepK_uncompiled E hc hv b op hop hcmp, ?_⟩
    rw [stepK_true E hc]
    have := step_edges_mono E.f E.im E.ord b op hop (s, e)
    cases ctl
    · exact this.2 hm
    · exact this.1 hm

theorem runK_dup2 (E : Env) (hf : E.f.Guarded) (hc : E.inCtl = true) (hv : E.ord.Valid)
    (s e : Key) (nc nd : Bool) (m : Option Nat) (hn : (nc && nd) = false) (ctl : Bool)
    (hcar : if ctl then nc = false else nd = false) :
    ∀ (ops : List Op) (b : Builder), (∀ op ∈ ops, op.isCompile = false) → .edge s e nc nd m ∈ ops →
      HalfOrErr b s e ctl → (runK E b ops).buildError ≠ none := by
  intro ops
  induction ops with
  | nil => intro b _ hm; simp at hm
  | cons op ops ih =>
    intro b hops hm h
    have hop : op.isCompile = false := hops op (by simp)
    cases hb : b.buildError with
    | some k => rw [runK_stored E hf hc b k hb]; simp [hb]
    | none =>
      rcases List.mem_cons.mp hm with heq | hin
      · subst heq
        obtain ⟨hcmp, hmem⟩ := h.resolve_left (fun h => h hb)
        have hd : (nc = false ∧ (s, e) ∈ b.controlEdges) ∨ (nd = false ∧ (s, e) ∈ b.dataEdges) := by
          cases ctl
          · exact Or.inr ⟨hcar, hmem⟩
          · exact Or.inl ⟨hcar, hmem⟩
        rcases step_edge_dup_err E.f hf E.im E.ord b hb hcmp s e nc nd m hn hd with ⟨k, _, hk⟩
        simp only [runK, stepK_true E hc]
        rw [runK_stored E hf hc _ k hk]; simp [hk]
      · exact ih _ (fun o ho => hops o (by simp [ho])) hin (stepK_keeps_half E hf hc hv b s e ctl op hop h)

theorem runK_dup (E : Env) (hf : E.f.Guarded) (hc : E.inCtl = true) (hv : E.ord.Valid)
    (s e : Key) (nc1 nd1 nc2 nd2 : Bool) (m1 m2 : Option Nat)
    (hn1 : (nc1 && nd1) = false) (hn2 : (nc2 && nd2) = false)
    (hsh : (nc1 = false ∧ nc2 = false) ∨ (nd1 = false ∧ nd2 = false)) :
    ∀ (ops : List Op) (b : Builder), (∀ op ∈ ops, op.isCompile = false) →
      List.Sublist [Op.edge s e nc1 nd1 m1, Op.edge s e nc2 nd2 m2] ops →
      b.buildError ≠ none ∨ b.compiled = false → (runK E b ops).buildError ≠ none := by
  intro ops
  induction ops with
  | nil => intro b _ hs; simp at hs
  | cons op ops ih =>
    intro b hops hs hb
    have hop : op.isCompile = false := hops op (by simp)
    have hrest : ∀ o ∈ ops, o.isCompile = false := fun o ho => hops o (by simp [ho])
    cases hbe : b.buildError with
    | some k => rw [runK_stored E hf hc b k hbe]; simp [hbe]
    | none =>
      have hcmp : b.compiled = false := hb.resolve_left (fun h => h hbe)
      have hcmp' := stepK_uncompiled E hc hv b op hop hcmp
      rcases List.sublist_cons_iff.mp hs with hs1 | ⟨r, hr, hs2⟩
      · exact ih _ hrest hs1 (Or.inr hcmp')
      · -- this is the first of the two: unless it fails it records the shared half
        simp only [List.cons.injEq] at hr
        obtain ⟨rfl, rfl⟩ := hr
        have hin : Op.edge s e nc2 nd2 m2 ∈ ops := List.singleton_sublist.mp hs2
        have hhalf : ∀ ctl : Bool, (if ctl then nc1 = false else nd1 = false) →
            HalfOrErr (stepK E b (.edge s e nc1 nd1 m1)).1 s e ctl := by
          intro ctl h1
          rw [stepK_true E hc] at hcmp' ⊢
          by_cases hb' : (step E.f E.im E.ord b (.edge s e nc1 nd1 m1)).1.buildError = none
          · have := step_edge_adds E.f hf E.im E.ord b hbe hcmp s e nc1 nd1 m1 hn1 hb'
            refine Or.inr ⟨hcmp', ?_⟩
            cases ctl
            · exact this.2 h1
            · exact this.1 h1
          · exact Or.inl hb'
        rcases hsh with ⟨h1, h2⟩ | ⟨h1, h2⟩
        · exact runK_dup2 E hf hc hv s e nc2 nd2 m2 hn2 true h2 ops _ hrest hin (hhalf true h1)
        · exact runK_dup2 E hf hc hv s e nc2 nd2 m2 hn2 false h2 ops _ hrest hin (hhalf false h1)


theorem compileN_stored (f : Facts) (ord : Ord) (b : Builder) (o : COpts) (kids : List Outcome) (k : ErrKind)
    (h : b.buildError = some k) : compileN f ord b o kids = (b, .stored k, none) := by
  simp [compileN, h]

theorem compilesFrom_dup (E : Env) (hf : E.f.Guarded) (hc : E.inCtl = true) (hv : E.ord.Valid)
    (re : List Op) (guard : Option Outcome) (kids : List Outcome)
    (hg : ∀ oc, guard = some oc → oc.isOk = false) (hre : ∀ op ∈ re, op.isCompile = false)
    (s e : Key) (nc1 nd1 nc2 nd2 : Bool) (m1 m2 : Option Nat)
    (hn1 : (nc1 && nd1) = false) (hn2 : (nc2 && nd2) = false)
    (hsh : (nc1 = false ∧ nc2 = false) ∨ (nd1 = false ∧ nd2 = false)) (cos : List COpts) :
    ∀ (b : Builder) (pending : List Op), (∀ op ∈ pending, op.isCompile = false) →
      (b.buildError ≠ none ∨
        (b.compiled = false ∧ List.Sublist [Op.edge s e nc1 nd1 m1, Op.edge s e nc2 nd2 m2] pending)) →
      ∀ r ∈ compilesFrom E re guard kids b pending cos, r.1.isOk = false := by
  induction cos with
  | nil => intro b p _ _ r hr; simp [compilesFrom] at hr
  | cons co rest ih =>
    intro b pending hp hinv r hr
    simp only [compilesFrom, List.mem_cons] at hr
    -- the attempt fails; it leaves an error stored, or it ran nothing and the builder is as before
    have ha : (attempt E b (re ++ pending) guard co kids).2.isOk = false ∧
        ((attempt E b (re ++ pending) guard co kids).1.buildError ≠ none ∨
          (attempt E b (re ++ pending) guard co kids).1 = b ∧ (b.buildError.isNone && guard.isNone) = false) := by
      rcases attempt_cases E b (re ++ pending) guard co kids with ⟨k, hk, hat⟩ | ⟨oc, hoc, hat⟩ | ⟨hbe, _, hat⟩ <;>
        rw [hat]
      · exact ⟨rfl, Or.inl (by simp [hk])⟩
      · exact ⟨hg oc hoc, Or.inr ⟨rfl, by rw [hoc, Option.isNone_some, Bool.and_false]⟩⟩
      · obtain ⟨hcmp, hsub⟩ := hinv.resolve_left (fun h => h hbe)
        have hcalls : ∀ op ∈ re ++ pending, op.isCompile = false := fun op hop =>
          (List.mem_append.mp hop).elim (hre op) (hp op)
        have herr := runK_dup E hf hc hv s e nc1 nd1 nc2 nd2 m1 m2 hn1 hn2 hsh (re ++ pending) b hcalls
          (hsub.trans (List.sublist_append_right re pending)) (Or.inr hcmp)
        cases hk : (runK E b (re ++ pending)).buildError with
        | none => exact absurd hk herr
        | some k => rw [compileN_stored _ _ _ _ _ k hk]; exact ⟨rfl, Or.inl herr⟩
    rcases hr with rfl | hr
    · exact ha.1
    · refine ih _ _ ?_ ?_ r hr
      · intro op hop
        split at hop
        · simp at hop
        · exact hp op hop
      · rcases ha.2 with h | ⟨h1, h2⟩
        · exact Or.inl h
        · rw [h1, h2]; exact hinv

theorem WfIn.op_noBoth (dst : Key) (i : WfIn) :
    ∃ m, i.op dst = .edge i.src dst (i.kind == .indirect) (i.kind == .dep) m ∧
      ((i.kind == .indirect) && (i.kind == .dep)) = false := by
  refine ⟨_, rfl, ?_⟩
  cases i.kind <;> rfl

theorem clash_shares (a b : InKind) (h : a.clash b = true) :
    ((a == .indirect) = false ∧ (b == .indirect) = false) ∨ ((a == .dep) = false ∧ (b == .dep) = false) := by
  cases a <;> cases b <;> simp_all [InKind.clash, InKind.ctl, InKind.data]

/-- **one pair, two declarations that share a half**, anywhere among the declarations of a node
    (or of END), in this order: no Compile of the Workflow succeeds -/
theorem wf_dup_rejected (E : Env) (hf : E.f.Guarded) (hc : E.inCtl = true) (hv : E.ord.Valid)
    (chk : Bool) (d : WfDecl) (dst : Key) (ins : List WfIn)
    (hwhere : (∃ n ∈ d.nodes, n.key = dst ∧ n.ins = ins) ∨ (dst = END ∧ d.endIns = ins))
    (i1 i2 : WfIn) (hsub : List.Sublist [i1, i2] ins) (hsrc : i1.src = i2.src)
    (hcl : i1.kind.clash i2.kind = true) (cos : List COpts) :
    ∀ oc ∈ (d.lower chk).compiles E cos, oc.isOk = false := by
  intro oc hoc
  simp only [Decl.compiles, WfDecl.lower, Decl.compilesX, List.mem_map] at hoc
  rcases hoc with ⟨r, hr, rfl⟩
  have hb := (build_keeps E hc hv (wfNodeOps d.nodes)
    (Builder.new .workflow d.inT d.outT d.stateTy)).2.2 (wfNodeOps_all _ (fun _ => rfl) d.nodes)
  have hcmp : (DOps.build E (wfNodeOps d.nodes) (Builder.new .workflow d.inT d.outT d.stateTy)).1.compiled = false := by
    have := congrArg Prod.fst hb; simp only at this; rw [this]; rfl
  have hops : List.Sublist [i1.op dst, i2.op dst] d.inputOps := by
    have h1 : List.Sublist ([i1, i2].map (WfIn.op dst)) (ins.map (WfIn.op dst)) := hsub.map _
    refine List.Sublist.trans h1 ?_
    unfold WfDecl.inputOps
    rcases hwhere with ⟨n, hn, hk, hi⟩ | ⟨hk, hi⟩
    · subst hk; subst hi
      exact List.Sublist.trans (List.flatMap_def .. ▸ List.sublist_flatten_of_mem (List.mem_map_of_mem hn))
        (List.sublist_append_left _ _)
    · subst hk; subst hi
      exact List.sublist_append_right _ _
  obtain ⟨m1, ho1, hn1⟩ := WfIn.op_noBoth dst i1
  obtain ⟨m2, ho2, hn2⟩ := WfIn.op_noBoth dst i2
  rw [ho1, ho2, ← hsrc] at hops
  exact compilesFrom_dup E hf hc hv _ _ _ (wf_guard_not_ok chk d)
    (fun op hop => wf_calls_noCompile d op (List.mem_append_left _ hop))
    i1.src dst _ _ _ _ m1 m2 hn1 hn2 (clash_shares _ _ hcl) cos _ _
    (fun op hop => wf_calls_noCompile d op (List.mem_append_right _ hop))
    (Or.inr ⟨hcmp, hops⟩) r hr

end EinoV.Build
