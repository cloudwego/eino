/-
  C08 — whole-network proofs: every network the constructors can build, every schedule.

  How the 23 modules of `C08Tree/` build on each other (each arrow is an import):
  * `Basic → Close → RecvBasic`: shapes and the specified sequence `Den`; what `Close` and one `Recv`
    touch. Everything below imports `RecvBasic`.
  * `RecvBasic → Build → InvOps → InvCopy → InvMerge`: every building operation keeps `Inv`.
  * `RecvBasic → Cell → RecvDen`: the delivery lemma for one `Recv` call (`Recv.den`).
  * `RecvBasic → Sound`: the executable `recvAll` refines the relation `Recv`.
  * `InvMerge, RecvDen, Sound → Sched → Delivery → Oracle`: schedules; delivery for whole networks;
    the traces the oracle accepts are schedules.
  * `Sched → Claim → ReleaseFrame → ReleaseKinds → Release → ClosePres → CloseExt → CloseOps
    (+ Delivery) → ClosePropagate → Progress → Prefix`: claims; closing a reader nobody holds any
    more; the close invariant under every operation; progress; delivery at every moment.

  "Close" has three senses. `Close.lean` is about the operation `closeAll` and the order `CloseLE` on
  networks ("the same, with more ends closed"). `CloseExt`, `CloseOps`, `ClosePres`, `ClosePropagate`
  are about the close invariant `CloseInv` (`Spec/C08Close.lean`): the closed flags of pipes, copies
  and forwarders say exactly whose reading end is still claimed. `closedCore` / `CopyCore.close` in
  `Proofs/C08.lean` close the cursor of ONE copy in its shared cell.
-/
import EinoV.Proofs.C08Tree.Delivery
import EinoV.Proofs.C08Tree.Oracle
import EinoV.Proofs.C08Tree.ClosePropagate
import EinoV.Proofs.C08Tree.Progress
import EinoV.Proofs.C08Tree.Prefix
