/-
  The predecessor tables built by the model's `compile` / `compileW` (`addPred` folded over edges, branch
  ends and workflow dependencies), what a lowered workflow's nodes carry (`compileW_node`), and the shapes of
  `initChans`: in a compiled all-predecessor runner every node is a declared predecessor of each of its
  successors (`compile_succOK`).
-/
import EinoV.Model.GraphBuild
import EinoV.Model.C02Workflow
import EinoV.Spec.DagWF
import EinoV.Proofs.C02Run
namespace EinoV.Engine

theorem lookupList_nil (t : Key) : lookupList t [] = [] := rfl

theorem mem_lookupList_addPred (m : List (Key × List Key)) (to from_ t x : Key) :
    x ∈ lookupList t (addPred m to from_) ↔ x ∈ lookupList t m ∨ (to = t ∧ from_ = x) := by
  -- `addPred` is the engine's `addDep`
  rw [show addPred m to from_ = addDep m to from_ from rfl, lookupList_addDep]
  by_cases h : t = to
  · simp [h, eq_comm]
  · simp [h, Ne.symm h]

theorem foldl_mem_iff {α β} (step : β → α → β) (S : β → Prop) (Q : α → Prop)
    (hstep : ∀ m a, S (step m a) ↔ S m ∨ Q a) (l : List α) (m0 : β) :
    S (l.foldl step m0) ↔ S m0 ∨ ∃ a ∈ l, Q a := by
  induction l generalizing m0 with
  | nil => simp
  | cons a rest ih => simp only [List.foldl_cons, ih, hstep, List.mem_cons, exists_eq_or_imp, or_assoc]

theorem mem_fold_deps (P : WDep → Bool) (deps : List WDep) (m0 : List (Key × List Key)) (t x : Key) :
    x ∈ lookupList t (deps.foldl (fun m d => if P d then addPred m d.to d.from_ else m) m0)
      ↔ x ∈ lookupList t m0 ∨ ∃ d ∈ deps, P d = true ∧ d.to = t ∧ d.from_ = x :=
  foldl_mem_iff _ (x ∈ lookupList t ·) _
    (fun m d => by by_cases hp : P d = true <;> simp [hp, mem_lookupList_addPred]) deps m0

theorem mem_fold_ends (ends : List Key) (from_ : Key) (m0 : List (Key × List Key)) (t x : Key) :
    x ∈ lookupList t (ends.foldl (fun m e => addPred m e from_) m0)
      ↔ x ∈ lookupList t m0 ∨ (from_ = x ∧ t ∈ ends) :=
  (foldl_mem_iff _ (x ∈ lookupList t ·) _ (fun m e => mem_lookupList_addPred m e from_ t x) ends m0).trans
    (or_congr_right ⟨fun ⟨_, he, rfl, h⟩ => ⟨h, he⟩, fun ⟨h, he⟩ => ⟨t, he, rfl, h⟩⟩)

theorem mem_fold_branches {V} (brs : List (Key × Branch V)) (m0 : List (Key × List Key)) (t x : Key) :
    x ∈ lookupList t (brs.foldl (fun m b => b.2.ends.foldl (fun m e => addPred m e b.1) m) m0)
      ↔ x ∈ lookupList t m0 ∨ ∃ b ∈ brs, b.1 = x ∧ t ∈ b.2.ends :=
  foldl_mem_iff _ (x ∈ lookupList t ·) _ (fun m b => mem_fold_ends b.2.ends b.1 m t x) brs m0

theorem mem_fold_edges (edges : List (Key × Key)) (m0 : List (Key × List Key)) (t x : Key) :
    x ∈ lookupList t (edges.foldl (fun m e => addPred m e.2 e.1) m0) ↔ x ∈ lookupList t m0 ∨ (x, t) ∈ edges :=
  (foldl_mem_iff _ (x ∈ lookupList t ·) (fun e : Key × Key => e.2 = t ∧ e.1 = x)
    (fun m e => mem_lookupList_addPred m e.2 e.1 t x) edges m0).trans
    (or_congr_right ⟨by rintro ⟨⟨a, b⟩, he, rfl, rfl⟩; exact he, fun h => ⟨(x, t), h, rfl, rfl⟩⟩)

theorem mem_fold_branches_unless {V} (skip : Branch V → Bool) (brs : List (Key × Branch V))
    (m0 : List (Key × List Key)) (t x : Key) :
    x ∈ lookupList t (brs.foldl (fun m b => if skip b.2 then m else b.2.ends.foldl (fun m e => addPred m e b.1) m) m0)
      ↔ x ∈ lookupList t m0 ∨ ∃ b ∈ brs, skip b.2 = false ∧ b.1 = x ∧ t ∈ b.2.ends :=
  foldl_mem_iff _ (x ∈ lookupList t ·) _
    (fun m b => by by_cases hs : skip b.2 = true <;> simp [hs, mem_fold_ends]) brs m0

theorem compile_ctrlPreds {V} (slack : Nat) (g : GraphDef V) (t x : Key) :
    x ∈ lookupList t (compile slack g).ctrlPreds ↔ (x, t) ∈ g.edges ∨ ∃ b ∈ g.branches, b.1 = x ∧ t ∈ b.2.ends := by
  show x ∈ lookupList t (g.branches.foldl _ (g.edges.foldl _ [])) ↔ _
  rw [mem_fold_branches, mem_fold_edges]
  simp [lookupList_nil]

theorem compile_dataPreds {V} (slack : Nat) (g : GraphDef V) (t x : Key) :
    x ∈ lookupList t (compile slack g).dataPreds ↔
      (x, t) ∈ g.edges ∨ ∃ b ∈ g.branches, b.2.noData = false ∧ b.1 = x ∧ t ∈ b.2.ends := by
  show x ∈ lookupList t (g.branches.foldl _ (g.edges.foldl _ [])) ↔ _
  rw [mem_fold_branches_unless (·.noData), mem_fold_edges]
  simp [lookupList_nil]

/-- the control dependencies are those declared by AddInput (without WithNoDirectDependency) and AddDependency -/
theorem compileW_ctrlPreds {V} (ops : ValOps V) (w : WorkflowDef V) (t x : Key) :
    x ∈ lookupList t (compileW ops w).ctrlPreds ↔
      (∃ d ∈ w.deps, d.control = true ∧ d.to = t ∧ d.from_ = x) ∨
      (∃ b ∈ w.branches, b.1 = x ∧ t ∈ b.2.ends) := by
  show x ∈ lookupList t w.ctrlPreds ↔ _
  unfold WorkflowDef.ctrlPreds
  rw [mem_fold_branches, mem_fold_deps (fun d => d.control)]
  simp [lookupList_nil]

/-- the data dependencies are those declared by AddInput, with or without WithNoDirectDependency;
    a Workflow branch carries no data -/
theorem compileW_dataPreds {V} (ops : ValOps V) (w : WorkflowDef V) (t x : Key) :
    x ∈ lookupList t (compileW ops w).dataPreds ↔ ∃ d ∈ w.deps, d.data = true ∧ d.to = t ∧ d.from_ = x := by
  show x ∈ lookupList t w.dataPreds ↔ _
  unfold WorkflowDef.dataPreds
  rw [mem_fold_deps (fun d => d.data)]
  simp [lookupList_nil]

theorem mem_depsOut (P : WDep → Bool) (deps : List WDep) (k t : Key) :
    t ∈ (deps.filter (fun d => d.from_ == k && P d)).map (·.to) ↔
      ∃ d ∈ deps, P d = true ∧ d.from_ = k ∧ d.to = t := by
  simp only [List.mem_map, List.mem_filter, Bool.and_eq_true, beq_iff_eq]
  constructor
  · rintro ⟨d, ⟨hd, h1, h2⟩, rfl⟩; exact ⟨d, hd, h2, h1, rfl⟩
  · rintro ⟨d, hd, h2, h1, rfl⟩; exact ⟨d, ⟨hd, h1, h2⟩, rfl⟩

theorem mem_dataOut {V} (w : WorkflowDef V) (k t : Key) :
    t ∈ w.dataOut k ↔ ∃ d ∈ w.deps, d.data = true ∧ d.from_ = k ∧ d.to = t :=
  mem_depsOut (·.data) w.deps k t

theorem mem_ctrlOut {V} (w : WorkflowDef V) (k t : Key) :
    t ∈ w.ctrlOut k ↔ ∃ d ∈ w.deps, d.control = true ∧ d.from_ = k ∧ d.to = t :=
  mem_depsOut (·.control) w.deps k t

theorem compileW_node {V} (ops : ValOps V) (w : WorkflowDef V) (n : Node V)
    (hn : n ∈ (compileW ops w).nodes ∨ n = (compileW ops w).start) :
    n.writeTo = w.dataOut n.key ∧ n.controls = w.ctrlOut n.key ∧
    (∀ b ∈ n.branches, b.noData = true) ∧
    n.branches.map (·.ends) = ((w.branches.filter (·.1 == n.key)).map (·.2.ends)) := by
  have key : ∀ k act, (w.mkNode k act).writeTo = w.dataOut k ∧ (w.mkNode k act).controls = w.ctrlOut k ∧
      (∀ b ∈ (w.mkNode k act).branches, b.noData = true) ∧
      (w.mkNode k act).branches.map (·.ends) = ((w.branches.filter (·.1 == k)).map (·.2.ends)) := by
    intro k act
    refine ⟨rfl, rfl, ?_, ?_⟩
    · intro b hb
      simp only [WorkflowDef.mkNode, WorkflowDef.branchesOf, List.mem_map] at hb
      obtain ⟨q, _, rfl⟩ := hb; rfl
    · simp [WorkflowDef.mkNode, WorkflowDef.branchesOf, List.map_map, Function.comp_def]
  rcases hn with hn | rfl
  · simp only [compileW, List.mem_map] at hn
    obtain ⟨p, _, rfl⟩ := hn
    exact key p.1 _
  · exact key START _

namespace DagRun

theorem lookupList_addPred_inv (m : List (Key × List Key)) (to from_ t p : Key)
    (h : p ∈ lookupList t (addPred m to from_)) : p ∈ lookupList t m ∨ (t = to ∧ p = from_) :=
  ((mem_lookupList_addPred m to from_ t p).mp h).imp_right fun ⟨ht, hp⟩ => ⟨ht.symm, hp.symm⟩

theorem runner_shape {V} (r : Runner V) (hdag : r.dag = true) (n : Key) (cs ds : List Key)
    (h : (n, cs, ds) ∈ shapes (initChans r)) :
    (∀ p, p ∈ cs ↔ p ∈ lookupList n r.ctrlPreds) ∧ (∀ p, p ∈ ds ↔ p ∈ lookupList n r.dataPreds) := by
  obtain ⟨rfl, rfl⟩ := shape_initChans r hdag n cs ds h
  exact ⟨fun _ => List.mem_eraseDups, fun _ => List.mem_eraseDups⟩

theorem succOK_of_preds {V} (r : Runner V) (hdag : r.dag = true)
    (h : ∀ m, (m ∈ r.nodes ∨ m = r.start) → ∀ s, s ∈ m.successors →
      m.key ∈ lookupList s r.ctrlPreds ∨ m.key ∈ lookupList s r.dataPreds) : SuccOK r := by
  intro m hm s hs cs ds hsh
  obtain ⟨hc, hd⟩ := runner_shape r hdag s cs ds hsh
  exact (h m hm s hs).imp (hc _).mpr (hd _).mpr

theorem compile_node {V} (slack : Nat) (g : GraphDef V) (m : Node V)
    (hm : m ∈ (compile slack g).nodes ∨ m = (compile slack g).start) :
    m.writeTo = (g.edges.filter (·.1 == m.key)).map (·.2) ∧ m.controls = (g.edges.filter (·.1 == m.key)).map (·.2) ∧
    m.branches = (g.branches.filter (·.1 == m.key)).map (·.2) := by
  rcases hm with hm | rfl
  · obtain ⟨p, _, rfl⟩ := List.mem_map.mp hm
    exact ⟨rfl, rfl, rfl⟩
  · exact ⟨rfl, rfl, rfl⟩

theorem compile_succOK {V} (slack : Nat) (g : GraphDef V) (hd : g.dag = true) : SuccOK (compile slack g) := by
  refine succOK_of_preds _ hd fun m hm s hs => Or.inl ((compile_ctrlPreds slack g s m.key).mpr ?_)
  obtain ⟨hw, hc, hb⟩ := compile_node slack g m hm
  simp only [Node.successors, hw, hc, hb, List.mem_append, or_self, List.mem_map, List.mem_filter,
    List.mem_flatMap] at hs
  rcases hs with ⟨e, ⟨he, hk⟩, rfl⟩ | ⟨b, ⟨x, ⟨hx, hk⟩, rfl⟩, hs⟩
  · exact Or.inl (eq_of_beq hk ▸ he)
  · exact Or.inr ⟨x, hx, eq_of_beq hk, hs⟩

end DagRun
end EinoV.Engine
