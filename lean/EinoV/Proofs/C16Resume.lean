/-
  C16 — lemmas about interrupted and resuming calls (Model/C16Resume.lean): a call in which only
  part of the nodes execute delivers to those nodes what the specification of `run` says, and –
  when the same call made fresh is accepted – exactly what the fresh call delivers to them.
-/
import EinoV.Spec.C16Resume
import EinoV.Proofs.C16
import EinoV.Proofs.C16Keys

namespace EinoV.C16

theorem WNode.erase_key (n : WNode) : n.erase.key = n.key := by
  cases n <;> rfl

theorem WNode.erase_eq_graph {n : WNode} {k : Key} {ch : Nodes} (h : n.erase = .graph k ch) :
    ∃ ch' w, n = .graph k ch' w ∧ ch'.erase = ch := by
  cases n <;> cases h
  exact ⟨_, _, rfl, rfl⟩

theorem runWP_full_levels {F : Facts} {K : KeyFacts} (R : ResumeFacts) (par : Paradigm) :
    (∀ (n : WNode) (pre : Path) (gH : List Nat) (opts : List Opt) (log : Log),
      runNodeWP F K R par pre gH opts log .full n = runNodeW F K par pre gH opts log n) ∧
    (∀ (ns : WNodes) (pre : Path) (gH : List Nat) (opts : List Opt) (log : Log),
      runNodesWP F K R par pre gH opts log .full ns = runNodesW F K par pre gH opts log ns) := by
  refine WNode.induct ?_ ?_ ?_ ?_ ?_
  · intro k ty w pre gH opts log
    simp [runNodeWP, runNodeW, Part.skips]
  · intro k w pre gH opts log
    simp [runNodeWP, runNodeW]
  · intro k ch w ih pre gH opts log
    simp only [runNodeWP, runNodeW, Part.skips, Part.restored, Bool.false_and, Bool.false_eq_true, if_false]
    cases extract F ch.erase (optsOf (deliver K par w (itemsFor log k))) with
    | error e => rfl
    | ok log' =>
      simp only []
      rw [ih]
      rfl
  · intro pre gH opts log
    simp [runNodesWP, runNodesW]
  · intro n ns ih1 ih2 pre gH opts log
    simp only [runNodesWP, runNodesW, Part.node, Part.rest]
    rw [ih1, ih2]
    rfl

theorem runNodeWP_full {F : Facts} {K : KeyFacts} (R : ResumeFacts) (par : Paradigm) :
    ∀ (n : WNode) (pre : Path) (gH : List Nat) (opts : List Opt) (log : Log),
      runNodeWP F K R par pre gH opts log .full n = runNodeW F K par pre gH opts log n :=
  (runWP_full_levels R par).1

theorem runNodesWP_full {F : Facts} {K : KeyFacts} (R : ResumeFacts) (par : Paradigm) :
    ∀ (ns : WNodes) (pre : Path) (gH : List Nat) (opts : List Opt) (log : Log),
      runNodesWP F K R par pre gH opts log .full ns = runNodesW F K par pre gH opts log ns :=
  (runWP_full_levels R par).2

theorem runWP_full {F : Facts} {K : KeyFacts} (R : ResumeFacts) (par : Paradigm) (g : WNodes)
    (opts : List Opt) : runWP F K R par .full g opts = runW F K par g opts := by
  unfold runWP runW
  cases extract F g.erase opts with
  | error e => rfl
  | ok log => simp only [runNodesWP_full R par g]; rfl

theorem runNodesWP_cons_ok {F : Facts} {K : KeyFacts} {R : ResumeFacts} {par : Paradigm} {pre : Path}
    {gH : List Nat} {opts : List Opt} {log : Log} {part : Part} {n : WNode} {ns : WNodes} {out : List Entry} :
    runNodesWP F K R par pre gH opts log part (.cons n ns) = .ok out ↔
      ∃ a b, runNodeWP F K R par pre gH opts log (part.node n.key) n = .ok a ∧
        runNodesWP F K R par pre gH opts log (part.rest n.key) ns = .ok b ∧ out = a ++ b := by
  rw [runNodesWP]
  exact run_then_ok

theorem runWP_ok {F : Facts} {K : KeyFacts} {R : ResumeFacts} {par : Paradigm} {part : Part} {g : WNodes}
    {opts : List Opt} {out : List Entry} :
    runWP F K R par part g opts = .ok out ↔
      ∃ log es, extract F g.erase opts = .ok log ∧
        runNodesWP F K R par [] (graphHandlers opts) opts log part g = .ok es ∧
        out = { path := [], isGraph := true, vals := [], handlers := graphHandlers opts } :: es :=
  level_then_ok

theorem runWP_sound_levels {F : Facts} {K : KeyFacts} {R : ResumeFacts} (hT : F.typeCmpIdentity = true)
    (hI : F.typeCmpImplements = false) (hS : F.strip = 1) (hK : K.allForward)
    (hR : R.restoredTaskGetsNodeCallbacks = true) (par : Paradigm) :
    (∀ (n : WNode) (part : Part) (all : Nodes) (pre : Path) (gH : List Nat) (opts : List Opt) (log : Log)
      (out : List Entry),
      all.wf = true → extract F all opts = .ok log → n.erase ∈ all.toList →
      (∀ h ∈ graphHandlers opts, h ∈ gH) →
      runNodeWP F K R par pre gH opts log part n = .ok out → ∀ e ∈ out, EntrySpec all pre gH opts e) ∧
    (∀ (ns : WNodes) (part : Part) (all : Nodes) (pre : Path) (gH : List Nat) (opts : List Opt) (log : Log)
      (out : List Entry),
      all.wf = true → extract F all opts = .ok log → (∀ n ∈ ns.erase.toList, n ∈ all.toList) →
      (∀ h ∈ graphHandlers opts, h ∈ gH) →
      runNodesWP F K R par pre gH opts log part ns = .ok out → ∀ e ∈ out, EntrySpec all pre gH opts e) := by
  refine WNode.induct ?_ ?_ ?_ ?_ ?_
  · intro k ty w part all pre gH opts log out hwf he hn hG hrun
    simp only [runNodeWP, deliver_of_all hK] at hrun
    split at hrun
    · cases hrun; intro e h; cases h
    · cases hrun
      intro e hemem
      cases List.mem_singleton.mp hemem
      exact entrySpec_comp hT hI hwf he hn pre gH
  · intro k w part all pre gH opts log out hwf he hn hG hrun
    simp only [runNodeWP, Except.ok.injEq] at hrun
    subst hrun
    intro e h; cases h
  · intro k ch w ih part all pre gH opts log out hwf he hn hG hrun
    simp only [WNode.erase] at hn
    simp only [runNodeWP, deliver_of_all hK, hR, Bool.not_true, Bool.and_false, Bool.false_eq_true, if_false] at hrun
    split at hrun
    · cases hrun; intro e h; cases h
    · obtain ⟨log', es, he', hes, rfl⟩ := level_then_ok.mp hrun
      intro e hemem
      rcases List.mem_cons.mp hemem with rfl | hemem
      · exact entrySpec_graph hS hwf he hn pre hG
      · exact entrySpec_nested hS hwf he hn hG
          (ih part ch.erase (pre ++ [k]) _ _ log' es (wf_child hwf hn) he' (fun _ h => h)
            (fun h hh => List.mem_append_right _ hh) hes e hemem)
  · intro part all pre gH opts log out hwf he hns hG hrun
    simp only [runNodesWP, Except.ok.injEq] at hrun
    subst hrun
    intro e h; cases h
  · intro n ns ih1 ih2 part all pre gH opts log out hwf he hns hG hrun
    obtain ⟨a, b, ha, hb, rfl⟩ := runNodesWP_cons_ok.mp hrun
    intro e hemem
    rcases List.mem_append.mp hemem with h | h
    · exact ih1 _ all pre gH opts log a hwf he (hns n.erase List.mem_cons_self) hG ha e h
    · exact ih2 _ all pre gH opts log b hwf he (fun m hm => hns m (List.mem_cons_of_mem _ hm)) hG hb e h

theorem runNodeWP_sound {F : Facts} {K : KeyFacts} {R : ResumeFacts} (hT : F.typeCmpIdentity = true)
    (hI : F.typeCmpImplements = false) (hS : F.strip = 1) (hK : K.allForward)
    (hR : R.restoredTaskGetsNodeCallbacks = true) (par : Paradigm) :
    ∀ (n : WNode) (part : Part) (all : Nodes) (pre : Path) (gH : List Nat) (opts : List Opt) (log : Log)
      (out : List Entry),
      all.wf = true → extract F all opts = .ok log → n.erase ∈ all.toList →
      (∀ h ∈ graphHandlers opts, h ∈ gH) →
      runNodeWP F K R par pre gH opts log part n = .ok out → ∀ e ∈ out, EntrySpec all pre gH opts e :=
  (runWP_sound_levels hT hI hS hK hR par).1

theorem runNodesWP_sound {F : Facts} {K : KeyFacts} {R : ResumeFacts} (hT : F.typeCmpIdentity = true)
    (hI : F.typeCmpImplements = false) (hS : F.strip = 1) (hK : K.allForward)
    (hR : R.restoredTaskGetsNodeCallbacks = true) (par : Paradigm) :
    ∀ (ns : WNodes) (part : Part) (all : Nodes) (pre : Path) (gH : List Nat) (opts : List Opt) (log : Log)
      (out : List Entry),
      all.wf = true → extract F all opts = .ok log → (∀ n ∈ ns.erase.toList, n ∈ all.toList) →
      (∀ h ∈ graphHandlers opts, h ∈ gH) →
      runNodesWP F K R par pre gH opts log part ns = .ok out → ∀ e ∈ out, EntrySpec all pre gH opts e :=
  (runWP_sound_levels hT hI hS hK hR par).2

theorem runWP_sublist_levels {F : Facts} {K : KeyFacts} {R : ResumeFacts}
    (hR : R.restoredTaskGetsNodeCallbacks = true) (par : Paradigm) :
    (∀ (n : WNode) (part : Part) (pre : Path) (gH : List Nat) (opts : List Opt) (log : Log) (out : List Entry),
      runNodeW F K par pre gH opts log n = .ok out →
      ∃ outP, runNodeWP F K R par pre gH opts log part n = .ok outP ∧ outP.Sublist out) ∧
    (∀ (ns : WNodes) (part : Part) (pre : Path) (gH : List Nat) (opts : List Opt) (log : Log) (out : List Entry),
      runNodesW F K par pre gH opts log ns = .ok out →
      ∃ outP, runNodesWP F K R par pre gH opts log part ns = .ok outP ∧ outP.Sublist out) := by
  refine WNode.induct ?_ ?_ ?_ ?_ ?_
  · intro k ty w part pre gH opts log out hrun
    simp only [runNodeW, Except.ok.injEq] at hrun
    subst hrun
    simp only [runNodeWP]
    split
    · exact ⟨[], rfl, List.nil_sublist _⟩
    · exact ⟨_, rfl, List.Sublist.refl _⟩
  · intro k w part pre gH opts log out hrun
    simp only [runNodeW, Except.ok.injEq] at hrun
    subst hrun
    exact ⟨[], rfl, List.Sublist.refl _⟩
  · intro k ch w ih part pre gH opts log out hrun
    simp only [runNodeW] at hrun
    obtain ⟨log', es, he', hes, rfl⟩ := level_then_ok.mp hrun
    simp only [runNodeWP, hR, Bool.not_true, Bool.and_false, Bool.false_eq_true, if_false]
    split
    · exact ⟨[], rfl, List.nil_sublist _⟩
    · obtain ⟨esP, hP, hsl⟩ := ih part (pre ++ [k]) _ _ log' es hes
      exact ⟨_, level_then_ok.mpr ⟨log', esP, he', hP, rfl⟩, hsl.cons_cons _⟩
  · intro part pre gH opts log out hrun
    simp only [runNodesW, Except.ok.injEq] at hrun
    subst hrun
    exact ⟨[], rfl, List.Sublist.refl _⟩
  · intro n ns ih1 ih2 part pre gH opts log out hrun
    simp only [runNodesW] at hrun
    obtain ⟨a, b, ha, hb, rfl⟩ := run_then_ok.mp hrun
    obtain ⟨aP, h1, s1⟩ := ih1 (part.node n.key) pre gH opts log a ha
    obtain ⟨bP, h2, s2⟩ := ih2 (part.rest n.key) pre gH opts log b hb
    exact ⟨_, runNodesWP_cons_ok.mpr ⟨aP, bP, h1, h2, rfl⟩, s1.append s2⟩

theorem runNodeWP_sublist {F : Facts} {K : KeyFacts} {R : ResumeFacts}
    (hR : R.restoredTaskGetsNodeCallbacks = true) (par : Paradigm) :
    ∀ (n : WNode) (part : Part) (pre : Path) (gH : List Nat) (opts : List Opt) (log : Log) (out : List Entry),
      runNodeW F K par pre gH opts log n = .ok out →
      ∃ outP, runNodeWP F K R par pre gH opts log part n = .ok outP ∧ outP.Sublist out :=
  (runWP_sublist_levels hR par).1

theorem runNodesWP_sublist {F : Facts} {K : KeyFacts} {R : ResumeFacts}
    (hR : R.restoredTaskGetsNodeCallbacks = true) (par : Paradigm) :
    ∀ (ns : WNodes) (part : Part) (pre : Path) (gH : List Nat) (opts : List Opt) (log : Log) (out : List Entry),
      runNodesW F K par pre gH opts log ns = .ok out →
      ∃ outP, runNodesWP F K R par pre gH opts log part ns = .ok outP ∧ outP.Sublist out :=
  (runWP_sublist_levels hR par).2

theorem runWP_sublist {F : Facts} {K : KeyFacts} {R : ResumeFacts}
    (hR : R.restoredTaskGetsNodeCallbacks = true) (par : Paradigm) (part : Part) (g : WNodes)
    (opts : List Opt) (out : List Entry) (hrun : runW F K par g opts = .ok out) :
    ∃ outP, runWP F K R par part g opts = .ok outP ∧ outP.Sublist out := by
  rw [← runWP_full R par] at hrun
  obtain ⟨log, es, hlog, hes, rfl⟩ := runWP_ok.mp hrun
  rw [runNodesWP_full] at hes
  obtain ⟨esP, hP, hsl⟩ := runNodesWP_sublist (R := R) hR par g part [] _ opts log es hes
  exact ⟨_, runWP_ok.mpr ⟨log, esP, hlog, hP, rfl⟩, hsl.cons_cons _⟩

theorem runWP_entries {F : Facts} {K : KeyFacts} {R : ResumeFacts} (hT : F.typeCmpIdentity = true)
    (hI : F.typeCmpImplements = false) (hS : F.strip = 1) (hK : K.allForward)
    (hR : R.restoredTaskGetsNodeCallbacks = true) (par : Paradigm) (part : Part) (g : WNodes)
    (hwf : g.erase.wf = true) (opts : List Opt) (out : List Entry)
    (hrun : runWP F K R par part g opts = .ok out) (e : Entry) (he : e ∈ out) :
    (e.path = [] ∧ e.isGraph = true ∧ e.vals = [] ∧ e.handlers = graphHandlers opts) ∨
    EntrySpec g.erase [] (graphHandlers opts) opts e := by
  obtain ⟨log, es, hlog, hes, rfl⟩ := runWP_ok.mp hrun
  rcases List.mem_cons.mp he with rfl | he
  · exact Or.inl ⟨rfl, rfl, rfl, rfl⟩
  · exact Or.inr (runNodesWP_sound hT hI hS hK hR par g part g.erase [] _ opts log es hwf hlog
      (fun _ h => h) (fun _ h => h) hes e he)

theorem WNodes.erase_find_cons (n : WNode) (ns : WNodes) (k : Key) :
    (WNodes.cons n ns).erase.find k = if n.key = k then some n.erase else ns.erase.find k := by
  simp only [WNodes.erase, find_cons, WNode.erase_key]

def Part.hits (part : Part) (ip : Path) : Prop := part = .full ∨ part = .stopAt ip ∨ part = .resumeAt ip

theorem Part.hits_here {part : Part} {k : Key} (h : part.hits [k]) : part.node k = .full := by
  rcases h with rfl | rfl | rfl <;> simp [Part.node]

theorem Part.hits_below {part : Part} {k : Key} {rest : Path} (h : part.hits (k :: rest)) (hr : rest ≠ []) :
    (part.node k).hits rest := by
  rcases h with rfl | rfl | rfl
  · exact .inl rfl
  · exact .inr (.inl (by simp [Part.node, hr]))
  · exact .inr (.inr (by simp [Part.node, hr]))

theorem Part.hits_later {part : Part} {k k' : Key} {rest : Path} (h : part.hits (k :: rest)) (hk : k' ≠ k) :
    part.rest k' = part := by
  have hk' : ¬ k = k' := fun x => hk x.symm
  rcases h with rfl | rfl | rfl <;> simp [Part.rest, hk']

theorem Part.hits_skips {part : Part} {ip : Path} (h : part.hits ip) : part.skips = false := by
  rcases h with rfl | rfl | rfl <;> rfl

theorem runWP_exec_levels {F : Facts} {K : KeyFacts} {R : ResumeFacts} (par : Paradigm) :
    (∀ (n : WNode) (part : Part) (pre : Path) (gH : List Nat) (opts : List Opt) (log : Log) (out : List Entry),
      runNodeWP F K R par pre gH opts log part n = .ok out →
      (part = .full → n.erase.isPass = false → ∃ e ∈ out, e.path = pre ++ [n.key]) ∧
      (∀ k ch w rest n', n = .graph k ch w → part.hits rest →
        nodeAt ch.erase rest = some n' → n'.isPass = false → ∃ e ∈ out, e.path = pre ++ k :: rest)) ∧
    (∀ (ns : WNodes) (part : Part) (pre : Path) (gH : List Nat) (opts : List Opt) (log : Log) (out : List Entry),
      runNodesWP F K R par pre gH opts log part ns = .ok out →
      ∀ ip n', part.hits ip → nodeAt ns.erase ip = some n' →
        n'.isPass = false → ∃ e ∈ out, e.path = pre ++ ip) := by
  refine WNode.induct ?_ ?_ ?_ ?_ ?_
  · intro k ty w part pre gH opts log out hrun
    refine ⟨?_, by intro _ _ _ _ _ h; cases h⟩
    intro hp _
    subst hp
    simp only [runNodeWP, Part.skips, Bool.false_eq_true, if_false, Except.ok.injEq] at hrun
    subst hrun
    exact ⟨_, List.mem_singleton.mpr rfl, rfl⟩
  · intro k w part pre gH opts log out hrun
    refine ⟨fun _ h => by simp [WNode.erase, Node.isPass] at h, by intro _ _ _ _ _ h; cases h⟩
  · intro k ch w ih part pre gH opts log out hrun
    simp only [runNodeWP] at hrun
    -- a graph node that is not skipped yields its own entry, then those of its chain
    have hok : part.skips = false → ∃ e0 es gH' sub log', out = e0 :: es ∧ e0.path = pre ++ [k] ∧
        runNodesWP F K R par (pre ++ [k]) gH' sub log' part ch = .ok es := by
      intro hsk
      simp only [hsk, Bool.false_eq_true, if_false] at hrun
      obtain ⟨log', es, _, hes, rfl⟩ := level_then_ok.mp hrun
      exact ⟨_, es, _, _, log', rfl, rfl, hes⟩
    constructor
    · intro hp _
      obtain ⟨e0, _, _, _, _, rfl, hpath, _⟩ := hok (by subst hp; rfl)
      exact ⟨e0, List.mem_cons_self, hpath⟩
    · intro k' ch' w' rest n' hn hpart hnode hnp
      cases hn
      obtain ⟨_, es, gH', sub, log', rfl, _, hes⟩ := hok (Part.hits_skips hpart)
      obtain ⟨e, he, hpath⟩ := ih part (pre ++ [k]) gH' sub log' es hes rest n' hpart hnode hnp
      exact ⟨e, List.mem_cons_of_mem _ he, by simp [hpath]⟩
  · intro part pre gH opts log out hrun ip n' _ h
    cases ip with
    | nil => exact absurd rfl (nodeAt_ne_nil h)
    | cons k rest => simp [nodeAt, WNodes.erase, Nodes.find, Nodes.toList] at h
  · intro n ns ih1 ih2 part pre gH opts log out hrun
    obtain ⟨a, b, ha, hb, rfl⟩ := runNodesWP_cons_ok.mp hrun
    intro ip n' hpart h hnp
    cases ip with
    | nil => exact absurd rfl (nodeAt_ne_nil h)
    | cons k rest =>
      by_cases hk : n.key = k
      · -- the path starts at `n`
        subst hk
        obtain ⟨h1, h2⟩ := ih1 (part.node n.key) pre gH opts log a ha
        rcases nodeAt_cons_some.mp h with ⟨rfl, hf⟩ | ⟨hr, k', ch', hf, hn'⟩ <;>
          rw [WNodes.erase_find_cons, if_pos rfl, Option.some.injEq] at hf
        · subst hf
          obtain ⟨e, he, hpath⟩ := h1 (Part.hits_here hpart) hnp
          exact ⟨e, List.mem_append_left _ he, hpath⟩
        · obtain ⟨ch, w, rfl, rfl⟩ := WNode.erase_eq_graph hf
          obtain ⟨e, he, hpath⟩ := h2 _ ch w rest n' rfl (Part.hits_below hpart hr) hn' hnp
          exact ⟨e, List.mem_append_left _ he, hpath⟩
      · rw [Part.hits_later hpart hk] at hb
        have h' : nodeAt ns.erase (k :: rest) = some n' := by
          rw [nodeAt_cons_some] at h ⊢
          rwa [WNodes.erase_find_cons, if_neg hk] at h
        obtain ⟨e, he, hpath⟩ := ih2 part pre gH opts log b hb (k :: rest) n' hpart h' hnp
        exact ⟨e, List.mem_append_right _ he, hpath⟩

theorem runNodeWP_point {F : Facts} {K : KeyFacts} {R : ResumeFacts} (par : Paradigm) :
    ∀ (n : WNode) (part : Part) (pre : Path) (gH : List Nat) (opts : List Opt) (log : Log) (out : List Entry),
      runNodeWP F K R par pre gH opts log part n = .ok out →
      (part = .full → n.erase.isPass = false → ∃ e ∈ out, e.path = pre ++ [n.key]) ∧
      (∀ k ch w rest n', n = .graph k ch w → (part = .stopAt rest ∨ part = .resumeAt rest) →
        nodeAt ch.erase rest = some n' → n'.isPass = false → ∃ e ∈ out, e.path = pre ++ k :: rest) :=
  fun n part pre gH opts log out hrun =>
    let ⟨h1, h2⟩ := (runWP_exec_levels par).1 n part pre gH opts log out hrun
    ⟨h1, fun k ch w rest n' hn hp => h2 k ch w rest n' hn (.inr hp)⟩

theorem runNodesWP_point {F : Facts} {K : KeyFacts} {R : ResumeFacts} (par : Paradigm) :
    ∀ (ns : WNodes) (part : Part) (pre : Path) (gH : List Nat) (opts : List Opt) (log : Log) (out : List Entry),
      runNodesWP F K R par pre gH opts log part ns = .ok out →
      ∀ ip n', (part = .stopAt ip ∨ part = .resumeAt ip) → nodeAt ns.erase ip = some n' →
        n'.isPass = false → ∃ e ∈ out, e.path = pre ++ ip :=
  fun ns part pre gH opts log out hrun ip n' hp =>
    (runWP_exec_levels par).2 ns part pre gH opts log out hrun ip n' (.inr hp)

theorem runCallsWP_copies {F : Facts} {K : KeyFacts} {R : ResumeFacts} (hC : F.nestedCopies = true) :
    ∀ (cs : List CallP) (saved : Option Path) (store : List Opt),
      runCallsWP F K R saved store cs = (callsSpec F K R store saved cs, store)
  | [], saved, store => rfl
  | c :: cs, saved, store => by
    simp only [runCallsWP, callsSpec, storeAfter, storeAfterAux_copies hC, runCallsWP_copies hC cs]

theorem callsSpec_plain {F : Facts} {K : KeyFacts} (R : ResumeFacts) (store : List Opt) :
    ∀ (cs : List CallP) (saved : Option Path), (∀ c ∈ cs, c.ask = .plain) →
      callsSpec F K R store saved cs = cs.map (fun c => runW F K c.par c.g (pick store c.ixs))
  | [], _, _ => rfl
  | c :: cs, saved, h => by
    have hc : c.ask = .plain := h c (by simp)
    simp only [callsSpec, List.map_cons, hc, Ask.part, Ask.savedAfter, runWP_full]
    rw [callsSpec_plain R store cs saved (fun c' hc' => h c' (by simp [hc']))]

end EinoV.C16
