/- Lemmas about `Engine.loop` for C01. -/
import EinoV.Model.Engine

namespace EinoV.Engine

theorem loop_trace_length {V} (ops : ValOps V) (r : Runner V) (sched : Sched V) :
    ∀ (fuel : Nat) (cm : Chans V) (tasks : List (Key × V)) (tr : Trace V),
      (loop ops r sched fuel cm tasks tr).trace.length ≤ tr.length + fuel := by
  intro fuel
  induction fuel with
  | zero => intro cm tasks tr; rw [loop, List.length_reverse]; exact Nat.le_refl _
  | succ n ih =>
    intro cm tasks tr
    have hstop : (tasks :: tr).reverse.length ≤ tr.length + (n + 1) := by
      rw [List.length_reverse, List.length_cons]; omega
    rw [loop]
    split
    · exact hstop
    · split
      · exact hstop
      · split
        · exact hstop
        · exact hstop
        · exact Nat.le_trans (ih _ _ (tasks :: tr)) (by rw [List.length_cons]; omega)

theorem loop_zero_result {V} (ops : ValOps V) (r : Runner V) (sched : Sched V) (cm : Chans V) (ts : List (Key × V)) (tr : Trace V) :
    (loop ops r sched 0 cm ts tr).result = .error { cls := if r.dag then .fuel else .maxSteps } := by
  simp [loop]

end EinoV.Engine
