/-
  C02, run level, completeness: a node the specification calls enabled has been started
  (`run_complete`).  Third invariant over the channel manager — "the reports that are due have
  been made": for every completed or skipped predecessor `p`, every channel waiting for `p`
  has `p`'s entry reported (or has been started, or is skipped) — with the skip work list shown
  to drain within its fuel; combined with the counting invariant (`J`, at most once) and the
  history invariant (`K`, every report is justified) at every round boundary (`Boundary`,
  `complete_at`).
-/
import EinoV.Proofs.C02Just

namespace EinoV.Engine
namespace DagRun

/-! ### reports only accumulate (until the channel fires) -/

structure ChanMono {V} (c c' : Chan V) : Prop where
  shape : shapeOf c' = shapeOf c
  sk : c.skipped = true → c'.skipped = true
  nw : ∀ p d, (p, d) ∈ c.ctrl → d ≠ Dep.waiting → ∃ d', (p, d') ∈ c'.ctrl ∧ d' ≠ Dep.waiting
  dt : ∀ p, (p, true) ∈ c.data → (p, true) ∈ c'.data
  vk : ∀ p, p ∈ akeys c.values → p ∈ akeys c'.values

theorem ChanMono.refl {V} (c : Chan V) : ChanMono c c :=
  ⟨rfl, fun h => h, fun p d h hd => ⟨d, h, hd⟩, fun p h => h, fun p h => h⟩

theorem ChanMono.trans {V} {a b c : Chan V} (h1 : ChanMono a b) (h2 : ChanMono b c) : ChanMono a c :=
  ⟨h2.shape.trans h1.shape, fun h => h2.sk (h1.sk h),
   fun p d h hd => by
     obtain ⟨d', a1, a2⟩ := h1.nw p d h hd
     exact h2.nw p d' a1 a2,
   fun p h => h2.dt p (h1.dt p h), fun p h => h2.vk p (h1.vk p h)⟩

theorem ChanMono.ctrl_keys {V} {c c' : Chan V} (m : ChanMono c c') : akeys c'.ctrl = akeys c.ctrl :=
  congrArg Prod.fst m.shape

theorem ChanMono.data_keys {V} {c c' : Chan V} (m : ChanMono c c') : akeys c'.data = akeys c.data :=
  congrArg Prod.snd m.shape

theorem reportSkip_mono {V} (c : Chan V) (k : Key) (h : SkOK c) (hk : k ∈ akeys c.ctrl ∨ k ∈ akeys c.data) :
    ChanMono c (c.reportSkip true [k]).1 ∧
    (k ∈ akeys c.ctrl → (k, Dep.skipped) ∈ (c.reportSkip true [k]).1.ctrl) ∧
    (k ∈ akeys c.data → (k, true) ∈ (c.reportSkip true [k]).1.data) := by
  obtain ⟨_, k2⟩ := reportSkip_skOK c k h hk
  refine ⟨⟨reportSkip_shape c k, k2, fun p d hm hd => ?_, fun p hm => ?_, fun p h => by rw [reportSkip_values]; exact h⟩,
    fun hkc => ?_, fun hkd => ?_⟩
  all_goals rw [reportSkip_eq]
  · exact (markAll_keep (ks := [k]) hm).elim (fun h => ⟨d, h, hd⟩) (fun h => ⟨_, h, by simp⟩)
  · exact (markAll_keep (ks := [k]) hm).elim id id
  · exact mark_self hkc
  · exact mark_self hkd

theorem reportDeps_mono {V} (c : Chan V) (deps : List Key) :
    ChanMono c (c.reportDeps true deps) ∧
    (∀ p, p ∈ deps → p ∈ akeys c.ctrl → c.skipped = true ∨ (p, Dep.ready) ∈ (c.reportDeps true deps).ctrl) := by
  rw [reportDeps_markAll]; split
  · rename_i hs; exact ⟨ChanMono.refl c, fun p _ _ => Or.inl hs⟩
  · refine ⟨⟨by simp only [shapeOf, akeys_markAll], id, fun p d hm hd => ?_, fun p h => h, fun p h => h⟩,
      fun p hp hk => Or.inr (markAll_set hp hk)⟩
    exact (markAll_keep (ks := deps) (v := Dep.ready) hm).elim (fun h => ⟨d, h, hd⟩) (fun h => ⟨_, h, by simp⟩)

theorem reportValues_mono {V} (c : Chan V) (ins : List (Key × V)) :
    ChanMono c (c.reportValues true ins) ∧
    (∀ p, p ∈ akeys ins → p ∈ akeys c.data → c.skipped = true ∨ (p, true) ∈ (c.reportValues true ins).data) := by
  rw [reportValues_markAll]; split
  · rename_i hs; exact ⟨ChanMono.refl c, fun p _ _ => Or.inl hs⟩
  · exact ⟨⟨by simp only [shapeOf, akeys_markAll], id, fun p d hm hd => ⟨d, hm, hd⟩, fun p h => markAll_same h,
      fun p h => Interrupt.PregelFold.mem_akeys_asets (Or.inl h)⟩, fun p hp hk => Or.inr (markAll_set hp hk)⟩

structure Mono {V} (cm cm' : Chans V) : Prop where
  keys : akeys cm' = akeys cm
  step : ∀ n c', (n, c') ∈ cm' → ∃ c, (n, c) ∈ cm ∧ ChanMono c c'

theorem Mono.refl {V} (cm : Chans V) : Mono cm cm := ⟨rfl, fun n c h => ⟨c, h, ChanMono.refl c⟩⟩

theorem Mono.trans {V} {a b c : Chans V} (h1 : Mono a b) (h2 : Mono b c) : Mono a c :=
  ⟨h2.keys.trans h1.keys, fun n c' h => by
    obtain ⟨cb, hb, m2⟩ := h2.step n c' h
    obtain ⟨ca, ha, m1⟩ := h1.step n cb hb
    exact ⟨ca, ha, m1.trans m2⟩⟩

theorem Mono.nodup {V} {cm cm' : Chans V} (h : Mono cm cm') (hnd : (akeys cm).Nodup) : (akeys cm').Nodup :=
  h.keys ▸ hnd

theorem Mono.modChan {V} (cm : Chans V) (k : Key) (f : Chan V → Chan V)
    (h : ∀ c, (k, c) ∈ cm → ChanMono c (f c)) : Mono cm (modChan cm k f) :=
  ⟨akeys_modChan _ _ _, forall_mem_modChan (fun c hc => ⟨c, hc, h c hc⟩) fun _ c hc => ⟨c, hc, ChanMono.refl c⟩⟩

theorem Mono.skOf {V} {cm cm' : Chans V} (h : Mono cm cm') (hnd : (akeys cm).Nodup) (p : Key) (hp : skOf cm p = 1) :
    skOf cm' p = 1 := by
  obtain ⟨c, hl, hsk⟩ := skOf_eq_one.mp hp
  have hpk : p ∈ akeys cm' := by rw [h.keys]; exact mem_akeys_of_mem p c cm (mem_of_alookup _ _ _ hl)
  obtain ⟨c', hc'⟩ := exists_of_mem_akeys _ _ hpk
  obtain ⟨c0, hc0, m⟩ := h.step p c' hc'
  have : c0 = c := mem_unique hnd hc0 (mem_of_alookup _ _ _ hl)
  subst this
  exact skOf_eq_one.mpr ⟨c', alookup_of_mem_nodup cm' (h.nodup hnd) p c' hc', m.sk hsk⟩

/-- the reports of `p` have been made: every channel that waits for `p` has `p`'s report, or has
    been started (firing resets the entries), or is skipped -/
def RP {V} (F : Key → Nat) (cm : Chans V) (p : Key) : Prop :=
  (∀ n c, (n, c) ∈ cm → p ∈ akeys c.ctrl →
      1 ≤ F n ∨ c.skipped = true ∨ ∃ d, (p, d) ∈ c.ctrl ∧ d ≠ Dep.waiting) ∧
  (∀ n c, (n, c) ∈ cm → p ∈ akeys c.data → 1 ≤ F n ∨ c.skipped = true ∨ (p, true) ∈ c.data)

theorem RP.mono {V} {F : Key → Nat} {cm cm' : Chans V} (hm : Mono cm cm') {p : Key} (h : RP F cm p) : RP F cm' p := by
  refine ⟨fun n c' hc' hp => ?_, fun n c' hc' hp => ?_⟩
  · obtain ⟨c, hc, m⟩ := hm.step n c' hc'
    exact (h.1 n c hc (m.ctrl_keys ▸ hp)).imp id (Or.imp m.sk (fun ⟨d, h1, h2⟩ => m.nw p d h1 h2))
  · obtain ⟨c, hc, m⟩ := hm.step n c' hc'
    exact (h.2 n c hc (m.data_keys ▸ hp)).imp id (Or.imp m.sk (m.dt p))

theorem RP.of_le {V} {F F' : Key → Nat} {cm : Chans V} {p : Key} (hF : ∀ n, F n ≤ F' n) (h : RP F cm p) :
    RP F' cm p :=
  ⟨fun n c hc hk => (h.1 n c hc hk).imp_left (fun h1 => Nat.le_trans h1 (hF n)),
   fun n c hc hk => (h.2 n c hc hk).imp_left (fun h1 => Nat.le_trans h1 (hF n))⟩

theorem RP.entries {V} {F : Key → Nat} {cm : Chans V} {p n : Key} {c : Chan V} (h : RP F cm p) (hc : (n, c) ∈ cm)
    (hnd : (akeys c.ctrl).Nodup ∧ (akeys c.data).Nodup) (hF : F n = 0) (hsk : c.skipped ≠ true) :
    (∀ d, (p, d) ∈ c.ctrl → d ≠ Dep.waiting) ∧ (∀ b, (p, b) ∈ c.data → b = true) := by
  refine ⟨fun d hm => ?_, fun b hm => ?_⟩
  · rcases h.1 n c hc (mem_akeys_of_mem p d _ hm) with h1 | h1 | ⟨d', hm', hd'⟩
    · omega
    · exact absurd h1 hsk
    · exact mem_unique hnd.1 hm hm' ▸ hd'
  · rcases h.2 n c hc (mem_akeys_of_mem p b _ hm) with h1 | h1 | h1
    · omega
    · exact absurd h1 hsk
    · exact mem_unique hnd.2 hm h1

theorem skOf_one_mem {V} (cm : Chans V) (k : Key) (h : skOf cm k = 1) : k ∈ akeys cm := by
  obtain ⟨c, hl, _⟩ := skOf_eq_one.mp h
  exact mem_akeys_of_mem k c cm (mem_of_alookup _ _ _ hl)

theorem WL.length_le {V} {cm : Chans V} {l : List Key} (h : WL cm l) : l.length ≤ (akeys cm).length :=
  h.nd.length_le_of_subset (fun k hk => skOf_one_mem cm k (h.fl k hk))

theorem skipOne_R {V} (cm : Chans V) (hnd : (akeys cm).Nodup) (hsk : ∀ n c, (n, c) ∈ cm → SkOK c) (s from_ : Key)
    (hwf : ∀ c, (s, c) ∈ cm → from_ ∈ akeys c.ctrl ∨ from_ ∈ akeys c.data) :
    Mono cm (skipOne true cm s from_).1 ∧
    (∀ n c, (n, c) ∈ (skipOne true cm s from_).1 → SkOK c) ∧
    (∀ c', (s, c') ∈ (skipOne true cm s from_).1 →
        (from_ ∈ akeys c'.ctrl → ∃ d, (from_, d) ∈ c'.ctrl ∧ d ≠ Dep.waiting) ∧
        (from_ ∈ akeys c'.data → (from_, true) ∈ c'.data)) ∧
    ((skipOne true cm s from_).2 = true → skOf cm s = 0 ∧ skOf (skipOne true cm s from_).1 s = 1) ∧
    (∀ p, skOf (skipOne true cm s from_).1 p = 1 → skOf cm p = 1 ∨ (p = s ∧ (skipOne true cm s from_).2 = true)) := by
  refine skipOne_elim hnd s from_
    (fun hno => ⟨Mono.refl cm, hsk, fun c' hc' => absurd hc' (hno c'), fun h => (nomatch h), fun p h => Or.inl h⟩)
    (fun c0 hl => ?_)
  have mono := fun c (hc : (s, c) ∈ cm) => reportSkip_mono c from_ (hsk s c hc) (hwf c hc)
  have e0 : skOf cm s = if c0.skipped then 1 else 0 := skOf_eq hl
  have e1 : skOf (modChan cm s fun c => (c.reportSkip true [from_]).1) s =
      if (c0.reportSkip true [from_]).1.skipped then 1 else 0 := by rw [skOf_modChan_self, hl]
  refine ⟨Mono.modChan cm s _ fun c hc => (mono c hc).1,
    forall_mem_modChan (fun c hc => (reportSkip_skOK c from_ (hsk s c hc) (hwf c hc)).1) hsk,
    fun c' hc' => ?_, ?_, fun p hp => ?_⟩
  · rcases mem_modChan_cases hc' with ⟨_, c, hc, rfl⟩ | ⟨hne, _⟩
    · obtain ⟨m1, m2, m3⟩ := mono c hc
      exact ⟨fun hk => ⟨Dep.skipped, m2 (m1.ctrl_keys ▸ hk), by simp⟩, fun hk => m3 (m1.data_keys ▸ hk)⟩
    · exact absurd rfl hne
  · rw [e0, e1, (reportSkip_flag c0 from_).1]
    cases c0.skipped <;> cases (c0.reportSkip true [from_]).1.skipped <;> simp
  · by_cases e : p = s
    · subst e
      rw [e1] at hp
      rw [e0, (reportSkip_flag c0 from_).1]
      revert hp
      cases c0.skipped <;> cases (c0.reportSkip true [from_]).1.skipped <;> simp
    · left; rw [← skOf_modChan_ne _ _ _ e]; exact hp

def Reported {V} (cm : Chans V) (s from_ : Key) : Prop :=
  ∀ c', (s, c') ∈ cm →
    (from_ ∈ akeys c'.ctrl → ∃ d, (from_, d) ∈ c'.ctrl ∧ d ≠ Dep.waiting) ∧
    (from_ ∈ akeys c'.data → (from_, true) ∈ c'.data)

theorem Reported.mono {V} {cm cm' : Chans V} (hm : Mono cm cm') {s from_ : Key} (h : Reported cm s from_) :
    Reported cm' s from_ := by
  intro c' hc'
  obtain ⟨c, hc, m⟩ := hm.step s c' hc'
  obtain ⟨h1, h2⟩ := h c hc
  refine ⟨fun hk => ?_, fun hk => m.dt from_ (h2 (m.data_keys ▸ hk))⟩
  obtain ⟨d, a, b⟩ := h1 (m.ctrl_keys ▸ hk)
  exact m.nw from_ d a b

theorem skipFold_R {V} (from_ : Key) (ss : List Key) (base : List Key) (acc : Chans V × List Key)
    (hnd : (akeys acc.1).Nodup) (hsk : ∀ n c, (n, c) ∈ acc.1 → SkOK c) (hwl : WL acc.1 (base ++ acc.2))
    (hwf : ∀ cm' : Chans V, shapes cm' = shapes acc.1 → ∀ s ∈ ss, ∀ c, (s, c) ∈ cm' →
        from_ ∈ akeys c.ctrl ∨ from_ ∈ akeys c.data) :
    Mono acc.1 (ss.foldl (skipStep true from_) acc).1 ∧
    (∀ n c, (n, c) ∈ (ss.foldl (skipStep true from_) acc).1 → SkOK c) ∧
    shapes (ss.foldl (skipStep true from_) acc).1 = shapes acc.1 ∧
    WL (ss.foldl (skipStep true from_) acc).1 (base ++ (ss.foldl (skipStep true from_) acc).2) ∧
    (∀ s, s ∈ ss → Reported (ss.foldl (skipStep true from_) acc).1 s from_) ∧
    (∀ p, skOf (ss.foldl (skipStep true from_) acc).1 p = 1 →
        skOf acc.1 p = 1 ∨ p ∈ (ss.foldl (skipStep true from_) acc).2) := by
  obtain ⟨⟨m, sk, sh, wl, fl⟩, rep⟩ := foldl_inv_each
    (fun a => Mono acc.1 a.1 ∧ (∀ n c, (n, c) ∈ a.1 → SkOK c) ∧ shapes a.1 = shapes acc.1 ∧ WL a.1 (base ++ a.2) ∧
      ∀ p, skOf a.1 p = 1 → skOf acc.1 p = 1 ∨ p ∈ a.2)
    (fun s a => Reported a.1 s from_) (skipStep true from_) ss
    (fun a ha s hs => by
      obtain ⟨m, sk, sh, wl, fl⟩ := ha
      have nd := m.nodup hnd
      obtain ⟨j1, j2, j3, j4, j5⟩ := skipOne_R a.1 nd sk s from_ (hwf a.1 sh s hs)
      rw [skipStep_eq]
      refine ⟨⟨m.trans j1, j2, (skipOne_shapes a.1 nd s from_).trans sh, ?_, fun p hp => ?_⟩, j3⟩
      · split
        · rename_i hb; rw [← List.append_assoc]; exact wl.push (j1.skOf nd) (j4 hb).1 (j4 hb).2
        · exact wl.mono (j1.skOf nd)
      · rcases j5 p hp with h | ⟨rfl, hb⟩
        · exact (fl p h).imp_right fun h => by split <;> simp [h]
        · exact Or.inr (by rw [if_pos hb]; simp))
    (fun a ha x hx s hs => hx.mono (skipOne_R a.1 (ha.1.nodup hnd) ha.2.1 s from_ (hwf a.1 ha.2.2.1 s hs)).1)
    acc ⟨Mono.refl _, hsk, rfl, hwl, fun _ h => Or.inl h⟩
  exact ⟨m, sk, sh, wl, rep, fl⟩

theorem RP_of_reported {V} {F : Key → Nat} (r : Runner V) (hps : PredSucc r) (cm : Chans V)
    (hsh : shapes cm = shapes (initChans r)) (k : Key) (nd : Node V) (hn : r.call? k = some nd)
    (h : ∀ s, s ∈ nd.successors → Reported cm s k) : RP F cm k := by
  have succ : ∀ m c', (m, c') ∈ cm → k ∈ akeys c'.ctrl ∨ k ∈ akeys c'.data → m ∈ nd.successors :=
    fun m c' hc' hk => hps m _ _ (hsh ▸ shapes_mem cm m c' hc') k hk nd hn
  exact ⟨fun m c' hc' hk => Or.inr (Or.inr ((h m (succ m c' hc' (Or.inl hk)) c' hc').1 hk)),
    fun m c' hc' hk => Or.inr (Or.inr ((h m (succ m c' hc' (Or.inr hk)) c' hc').2 hk))⟩

theorem node_call {V} (r : Runner V) (hstart : START ∉ akeys (initChans r)) (k : Key) (n : Node V)
    (h : r.node? k = some n) : r.call? k = some n := by
  obtain ⟨hm, hk⟩ := node?_some r k n h
  have hne : k ≠ START := fun e => hstart (by
    rw [akeys_initChans, ← e, ← hk]; exact List.mem_append_left _ (List.mem_map_of_mem hm))
  rw [call?_of_ne_start r hne]; exact h

theorem propagate_R {V} {F : Key → Nat} (r : Runner V) (hd : r.dag = true) (hs : SuccOK r) (hps : PredSucc r)
    (hstart : START ∉ akeys (initChans r)) :
    ∀ (fuel : Nat) (cm : Chans V) (wl done_ : List Key) (cm' : Chans V), (akeys cm).Nodup →
      (∀ n c, (n, c) ∈ cm → SkOK c) → shapes cm = shapes (initChans r) → WL cm (done_ ++ wl) →
      (akeys cm).length + 1 ≤ fuel + done_.length →
      (∀ p, skOf cm p = 1 → p ∈ wl ∨ RP F cm p) →
      propagateSkips r fuel cm wl = .ok cm' →
      Mono cm cm' ∧ (∀ n c, (n, c) ∈ cm' → SkOK c) ∧ shapes cm' = shapes (initChans r) ∧
      (∀ p, skOf cm' p = 1 → RP F cm' p) := by
  intro fuel cm wl
  fun_induction propagateSkips r fuel cm wl with
  | case1 cm wl =>
    -- the flagged keys seen so far are distinct channel keys: the fuel has not run out
    intro done_ cm' _ _ _ hwl hf _ _
    have h1 := hwl.length_le
    simp only [List.length_append] at h1
    omega
  | case2 fuel cm _ =>
    intro done_ cm' hnd hsk hsh hwl hf hq h
    cases h
    exact ⟨Mono.refl _, hsk, hsh, fun p hp => (hq p hp).resolve_left List.not_mem_nil⟩
  | case3 fuel cm k rest hn => intro _ cm' _ _ _ _ _ _ h; cases h
  | case4 fuel cm k rest n hn res ih =>
    intro done_ cm' hnd hsk hsh hwl hf hq h
    obtain ⟨hmem, hkey⟩ := node?_some r k n hn
    have hp := hkey ▸ hs n (Or.inl hmem)
    obtain ⟨j1, j2, j3, j4, j5, j6⟩ := skipFold_R k n.successors ((done_ ++ [k]) ++ rest) (cm, []) hnd hsk
      (by simpa using hwl)
      (fun cm' h => predOK_use hp cm' (by rw [h]; exact hsh))
    rw [← hd] at j1 j2 j3 j4 j5 j6
    have hRPk : RP F res.1 k := RP_of_reported r hps _ (j3.trans hsh) k n (node_call r hstart k n hn) j5
    obtain ⟨i1, i2, i3, i4⟩ := ih (done_ ++ [k]) cm' (j1.nodup hnd) j2 (j3.trans hsh)
      (by rw [← List.append_assoc]; exact j4)
      (by rw [j1.keys]; simp only [List.length_append, List.length_cons, List.length_nil]; omega)
      (by
        intro p hp'
        rcases j6 p hp' with h1 | h1
        · rcases hq p h1 with h2 | h2
          · rcases List.mem_cons.mp h2 with rfl | h2
            · exact Or.inr hRPk
            · exact Or.inl (List.mem_append_left _ h2)
          · exact Or.inr (h2.mono j1)
        · exact Or.inl (List.mem_append_right _ h1))
      h
    exact ⟨j1.trans i1, i2, i3, i4⟩

theorem reportBranch_R {V} {F : Key → Nat} (r : Runner V) (hd : r.dag = true) (hs : SuccOK r) (hps : PredSucc r)
    (hstart : START ∉ akeys (initChans r))
    (cm cm' : Chans V) (from_ : Key) (ss : List Key)
    (hp : PredOK (shapes (initChans r)) from_ ss)
    (hnd : (akeys cm).Nodup) (hsk : ∀ n c, (n, c) ∈ cm → SkOK c) (hsh : shapes cm = shapes (initChans r))
    (hq : ∀ p, skOf cm p = 1 → RP F cm p)
    (h : reportBranch r cm from_ ss = .ok cm') :
    Mono cm cm' ∧ (∀ n c, (n, c) ∈ cm' → SkOK c) ∧ shapes cm' = shapes (initChans r) ∧
    (∀ p, skOf cm' p = 1 → RP F cm' p) ∧ (∀ s, s ∈ ss → Reported cm' s from_) := by
  unfold reportBranch at h
  simp only [hd] at h
  obtain ⟨j1, j2, j3, j4, j5, j6⟩ := skipFold_R from_ ss [] (cm, []) hnd hsk ⟨List.nodup_nil, by simp⟩
    (fun cm' h => predOK_use hp cm' (by rw [h]; exact hsh))
  have hlen : (akeys (ss.foldl (skipStep true from_) (cm, [])).1).length = r.nodes.length + 1 := by
    rw [j1.keys, akeys_of_shapes hsh, akeys_initChans]
    simp
  obtain ⟨i1, i2, i3, i4⟩ := propagate_R (F := F) r hd hs hps hstart _ _ (ss.foldl (skipStep true from_) (cm, [])).2 [] cm'
    (j1.nodup hnd) j2 (by rw [j3]; exact hsh) (by simpa using j4)
    (by
      rw [hlen]
      simp only [List.length_nil, Nat.add_zero]
      have : r.nodes.length + 2 ≤ (r.nodes.length + 2) * (r.nodes.length + 2) := Nat.le_mul_self _
      omega)
    (by
      intro p hp'
      rcases j6 p hp' with h1 | h1
      · exact Or.inr ((hq p h1).mono j1)
      · exact Or.inl h1)
    h
  exact ⟨j1.trans i1, i2, i3, i4, fun s hs' => (j5 s hs').mono i1⟩

def EstC {V} (cm : Chans V) (to p : Key) : Prop :=
  ∀ c', (to, c') ∈ cm → p ∈ akeys c'.ctrl → c'.skipped = true ∨ ∃ d, (p, d) ∈ c'.ctrl ∧ d ≠ Dep.waiting

def EstD {V} (cm : Chans V) (to p : Key) : Prop :=
  ∀ c', (to, c') ∈ cm → p ∈ akeys c'.data → c'.skipped = true ∨ (p, true) ∈ c'.data

theorem EstD.mono {V} {cm cm' : Chans V} (hm : Mono cm cm') {to p : Key} (h : EstD cm to p) : EstD cm' to p := by
  intro c' hc' hk
  obtain ⟨c, hc, m⟩ := hm.step to c' hc'
  exact (h c hc (m.data_keys ▸ hk)).imp m.sk (m.dt p)

theorem Reported.estC {V} {cm : Chans V} {s p : Key} (h : Reported cm s p) : EstC cm s p :=
  fun c' hc' hk => Or.inr ((h c' hc').1 hk)
theorem Reported.estD {V} {cm : Chans V} {s p : Key} (h : Reported cm s p) : EstD cm s p :=
  fun c' hc' hk => Or.inr ((h c' hc').2 hk)

theorem foldl_modChan_mono {V α} (key : α → Key) (f : α → Chan V → Chan V) (hf : ∀ w c, ChanMono c (f w c))
    (l : List α) (cm : Chans V) :
    Mono cm (l.foldl (fun cm w => modChan cm (key w) (f w)) cm) ∧
    shapes (l.foldl (fun cm w => modChan cm (key w) (f w)) cm) = shapes cm ∧
    (∀ w, w ∈ l → ∀ c', (key w, c') ∈ l.foldl (fun cm w => modChan cm (key w) (f w)) cm →
      ∃ c, ChanMono (f w c) c') := by
  obtain ⟨⟨m, sh⟩, each⟩ := foldl_inv_each (fun cm' => Mono cm cm' ∧ shapes cm' = shapes cm)
    (fun w cm' => ∀ c', (key w, c') ∈ cm' → ∃ c, ChanMono (f w c) c') _ l
    (fun a ha w _ => ⟨⟨ha.1.trans (Mono.modChan a _ _ fun c _ => hf w c),
        (shapes_modChan _ _ _ fun c _ => (hf w c).shape).trans ha.2⟩, fun c' hc' => by
      rcases mem_modChan_cases hc' with ⟨_, c, _, rfl⟩ | ⟨hne, _⟩
      · exact ⟨c, ChanMono.refl _⟩
      · exact absurd rfl hne⟩)
    (fun a _ x hx y _ c' hc' => by
      -- a later update of the same channel only adds reports
      rcases mem_modChan_cases hc' with ⟨e, c1, hc1, rfl⟩ | ⟨_, hc⟩
      · obtain ⟨c, m⟩ := hx c1 (e ▸ hc1)
        exact ⟨c, m.trans (hf y c1)⟩
      · exact hx c' hc)
    cm ⟨Mono.refl _, rfl⟩
  exact ⟨m, sh, each⟩

theorem updateDeps_R {V} (r : Runner V) (hd : r.dag = true) (deps : List (Key × List Key)) (cm : Chans V)
    (hnd : (akeys cm).Nodup) :
    Mono cm (updateDeps r cm deps) ∧
    (∀ to l, (to, l) ∈ deps → ∀ p, p ∈ l → p ∈ lookupList to r.ctrlPreds → EstC (updateDeps r cm deps) to p) := by
  obtain ⟨m, _, h⟩ := foldl_modChan_mono (fun d : Key × List Key => d.1)
    (fun d c => c.reportDeps r.dag (d.2.filter (lookupList d.1 r.ctrlPreds).contains))
    (fun d c => by rw [hd]; exact (reportDeps_mono c _).1) deps cm
  refine ⟨m, fun to l hm p hp hcp c' hc' hk => ?_⟩
  obtain ⟨c, m2⟩ := h (to, l) hm c' hc'
  rw [hd] at m2
  obtain ⟨m1, est⟩ := reportDeps_mono c (l.filter (lookupList to r.ctrlPreds).contains)
  rcases est p (List.mem_filter.mpr ⟨hp, by simpa using hcp⟩) (m1.ctrl_keys ▸ m2.ctrl_keys ▸ hk) with h1 | h1
  · exact Or.inl (m2.sk (m1.sk h1))
  · exact Or.inr (m2.nw p _ h1 (by simp))

theorem updateValues_fold {V} (r : Runner V) (hd : r.dag = true) (writes : List (Key × List (Key × V))) (cm : Chans V) :
    Mono cm (updateValues r cm writes) ∧ shapes (updateValues r cm writes) = shapes cm ∧
    (∀ to l, (to, l) ∈ writes → ∀ c', (to, c') ∈ updateValues r cm writes →
      ∃ c : Chan V, ChanMono (c.reportValues true (l.filter (fun kv => (lookupList to r.dataPreds).contains kv.1))) c') := by
  obtain ⟨m, sh, h⟩ := foldl_modChan_mono (fun w : Key × List (Key × V) => w.1)
    (fun w c => c.reportValues r.dag (w.2.filter (fun kv => (lookupList w.1 r.dataPreds).contains kv.1)))
    (fun w c => by rw [hd]; exact (reportValues_mono c _).1) writes cm
  refine ⟨m, sh, fun to l hm c' hc' => ?_⟩
  obtain ⟨c, m2⟩ := h (to, l) hm c' hc'
  rw [hd] at m2
  exact ⟨c, m2⟩

theorem updateValues_R {V} (r : Runner V) (hd : r.dag = true) (writes : List (Key × List (Key × V))) (cm : Chans V)
    (hnd : (akeys cm).Nodup) :
    Mono cm (updateValues r cm writes) ∧
    (∀ to l, (to, l) ∈ writes → ∀ p, p ∈ akeys l → p ∈ lookupList to r.dataPreds → EstD (updateValues r cm writes) to p) := by
  obtain ⟨m, _, h⟩ := updateValues_fold r hd writes cm
  refine ⟨m, fun to l hm p hp hcp c' hc' hk => ?_⟩
  obtain ⟨c, m2⟩ := h to l hm c' hc'
  obtain ⟨m1, est⟩ := reportValues_mono c (l.filter (fun kv => (lookupList to r.dataPreds).contains kv.1))
  rcases est p (mem_akeys_filter hp (by simpa using hcp)) (m1.data_keys ▸ m2.data_keys ▸ hk) with h1 | h1
  · exact Or.inl (m2.sk (m1.sk h1))
  · exact Or.inr (m2.dt p h1)

theorem updateDeps_shapes {V} (r : Runner V) (hd : r.dag = true) (deps : List (Key × List Key)) (cm : Chans V) :
    shapes (updateDeps r cm deps) = shapes cm :=
  (foldl_modChan_mono (fun d : Key × List Key => d.1)
    (fun d c => c.reportDeps r.dag (d.2.filter (lookupList d.1 r.ctrlPreds).contains))
    (fun d c => by rw [hd]; exact (reportDeps_mono c _).1) deps cm).2.1

def DepsHave (ds : List (Key × List Key)) (to p : Key) : Prop := ∃ l, alookup to ds = some l ∧ p ∈ l
def WritesHave {V} (ws : List (Key × List (Key × V))) (to p : Key) : Prop :=
  ∃ l, alookup to ws = some l ∧ p ∈ akeys l

theorem depsHave_iff (ds : List (Key × List Key)) (to p : Key) : DepsHave ds to p ↔ p ∈ lookupList to ds := by
  unfold DepsHave lookupList
  cases alookup to ds <;> simp

theorem writesHave_iff {V} (ws : List (Key × List (Key × V))) (to p : Key) :
    WritesHave ws to p ↔ p ∈ akeys (gl to ws) := by
  unfold WritesHave gl
  cases alookup to ws <;> simp [akeys]

theorem foldl_addDep_have (from_ : Key) (tg : List Key) (ds : List (Key × List Key)) :
    (∀ to, to ∈ tg → DepsHave (tg.foldl (fun ds k => addDep ds k from_) ds) to from_) ∧
    (∀ to' p, DepsHave ds to' p → DepsHave (tg.foldl (fun ds k => addDep ds k from_) ds) to' p) := by
  simp only [depsHave_iff, lookupList_targets_fold, List.mem_append, List.mem_replicate, and_true]
  exact ⟨fun to h => Or.inr (Nat.ne_of_gt (List.count_pos_iff.mpr h)), fun _ _ h => Or.inl h⟩

theorem foldl_addWrite_have {V} (from_ : Key) (v : V) (tg : List Key) (ws : List (Key × List (Key × V))) :
    (∀ to, to ∈ tg → WritesHave (tg.foldl (fun ws k => addWrite ws k from_ v) ws) to from_) ∧
    (∀ to' p, WritesHave ws to' p → WritesHave (tg.foldl (fun ws k => addWrite ws k from_ v) ws) to' p) := by
  simp only [writesHave_iff, gl_targets_fold]
  refine ⟨fun to h => ?_, fun to' p h => ?_⟩
  · rw [if_pos (List.contains_iff_mem.mpr h)]
    exact mem_akeys_of_mem _ v _ (mem_aset_self _ _ _)
  · split
    · exact (mem_akeys_aset_iff ..).mpr (Or.inl h)
    · exact h

structure RS {V} (F : Key → Nat) (r : Runner V) (acc : Resolved V) : Prop where
  nd : (akeys acc.cm).Nodup
  sk : ∀ n c, (n, c) ∈ acc.cm → SkOK c
  sh : shapes acc.cm = shapes (initChans r)
  q : ∀ p, skOf acc.cm p = 1 → RP F acc.cm p

def TaskFacts {V} (r : Runner V) (acc : Resolved V) (t : Done V) : Prop :=
  ∀ nd, r.call? t.1 = some nd → ∃ sel, selectOf nd t.2 = .ok sel ∧
    (∀ s, s ∈ skippedOf nd sel → Reported acc.cm s t.1) ∧
    (∀ to, to ∈ nd.controls ++ sel → DepsHave acc.deps to t.1) ∧
    (∀ to, to ∈ sel ++ nd.writeTo → WritesHave acc.writes to t.1)

structure Grows {V} (acc acc' : Resolved V) : Prop where
  cm : Mono acc.cm acc'.cm
  ds : ∀ to p, DepsHave acc.deps to p → DepsHave acc'.deps to p
  ws : ∀ to p, WritesHave acc.writes to p → WritesHave acc'.writes to p

theorem Grows.refl {V} (acc : Resolved V) : Grows acc acc := ⟨Mono.refl _, fun _ _ h => h, fun _ _ h => h⟩
theorem Grows.trans {V} {a b c : Resolved V} (h1 : Grows a b) (h2 : Grows b c) : Grows a c :=
  ⟨h1.cm.trans h2.cm, fun to p h => h2.ds to p (h1.ds to p h), fun to p h => h2.ws to p (h1.ws to p h)⟩

theorem TaskFacts.mono {V} {r : Runner V} {acc acc' : Resolved V} (g : Grows acc acc') {t : Done V}
    (h : TaskFacts r acc t) : TaskFacts r acc' t := by
  intro nd h1
  obtain ⟨sel, h2, a, b, c⟩ := h nd h1
  exact ⟨sel, h2, fun s hs => (a s hs).mono g.cm, fun to hto => g.ds to _ (b to hto), fun to hto => g.ws to _ (c to hto)⟩

theorem resolveStep_R {V} {F : Key → Nat} (r : Runner V) (hd : r.dag = true) (hs : SuccOK r) (hps : PredSucc r)
    (hstart : START ∉ akeys (initChans r)) (hk : r.start.key = START)
    (acc acc' : Resolved V) (t : Done V) (hi : RS F r acc) (h : resolveStep r acc t = .ok acc') :
    RS F r acc' ∧ Grows acc acc' ∧ TaskFacts r acc' t := by
  rcases resolveStep_ok h with ⟨hc, rfl⟩ | ⟨n, selected, cm1, hc, h1, h2, rfl⟩
  · exact ⟨hi, Grows.refl _, fun nd h1 => by rw [hc] at h1; cases h1⟩
  · obtain ⟨hn, hkey⟩ := call?_some r hk t.1 n hc
    obtain ⟨j1, j2, j3, j4, j5⟩ := reportBranch_R (F := F) r hd hs hps hstart acc.cm cm1 n.key (skippedOf n selected)
      (fun s hs' => hs n hn s (skippedOf_sub n selected s hs')) hi.nd hi.sk hi.sh hi.q h2
    obtain ⟨d1, d2⟩ := foldl_addDep_have t.1 n.controls acc.deps
    obtain ⟨d3, d4⟩ := foldl_addDep_have t.1 selected (n.controls.foldl (fun ds k => addDep ds k t.1) acc.deps)
    obtain ⟨w1, w2⟩ := foldl_addWrite_have t.1 t.2 (selected ++ n.writeTo) acc.writes
    refine ⟨⟨j1.nodup hi.nd, j2, j3, j4⟩, ⟨j1, fun to p h => d4 to p (d2 to p h), w2⟩, ?_⟩
    intro nd e1
    rw [hc] at e1
    cases e1
    refine ⟨selected, h1, fun s hs' => by rw [← hkey]; exact j5 s hs', fun to hto => ?_, fun to hto => w1 to hto⟩
    rcases List.mem_append.mp hto with h' | h'
    · exact d4 to _ (d1 to h')
    · exact d3 to h'

theorem resolve_R {V} {F : Key → Nat} (r : Runner V) (hd : r.dag = true) (hs : SuccOK r) (hps : PredSucc r)
    (hstart : START ∉ akeys (initChans r)) (hk : r.start.key = START)
    (done : List (Done V)) (acc acc' : Resolved V) (hi : RS F r acc)
    (h : done.foldlM (resolveStep r) acc = .ok acc') :
    RS F r acc' ∧ Grows acc acc' ∧ (∀ t, t ∈ done → TaskFacts r acc' t) := by
  induction done generalizing acc with
  | nil => rw [foldlM_nil_ok h]; exact ⟨hi, Grows.refl _, fun t ht => by simp at ht⟩
  | cons t rest ih =>
    obtain ⟨acc1, h1, h2⟩ := foldlM_cons_ok h
    obtain ⟨a1, a2, a3⟩ := resolveStep_R r hd hs hps hstart hk acc acc1 t hi h1
    obtain ⟨b1, b2, b3⟩ := ih acc1 a1 h2
    refine ⟨b1, a2.trans b2, fun t' ht' => ?_⟩
    rcases List.mem_cons.mp ht' with rfl | ht'
    · exact a3.mono b2
    · exact b3 t' ht'

theorem predSucc_of {V} (r : Runner V) (hc : PredSuccC r) (hdd : PredSuccD r) : PredSucc r := by
  intro m cs ds hm p hp nd hn
  simp only [Node.successors, List.mem_append]
  rcases hp with hp | hp
  · rcases hc m cs ds hm p hp nd hn with h | h
    · exact Or.inl (Or.inr h)
    · exact Or.inr h
  · rcases hdd m cs ds hm p hp nd hn with h | ⟨h, _⟩
    · exact Or.inl (Or.inl h)
    · exact Or.inr h

theorem reports_after_updates {V} {F : Key → Nat} (r : Runner V) (hd : r.dag = true) (hs : SuccOK r)
    (hpc : PredSuccC r) (hpd : PredSuccD r) (hstart : START ∉ akeys (initChans r)) (hk : r.start.key = START)
    (cm : Chans V) (done : List (Done V)) (res : Resolved V)
    (hnd : (akeys cm).Nodup) (hsk : ∀ n c, (n, c) ∈ cm → SkOK c) (hsh : shapes cm = shapes (initChans r))
    (hq : ∀ p, skOf cm p = 1 → RP F cm p)
    (hcall : ∀ t, t ∈ done → (r.call? t.1).isSome = true)
    (h1 : resolve r cm done = .ok res) :
    let cm2 := updateDeps r (updateValues r res.cm res.writes) res.deps
    Mono cm cm2 ∧ shapes cm2 = shapes (initChans r) ∧
    (∀ p, skOf cm2 p = 1 → RP F cm2 p) ∧
    (∀ t, t ∈ done → RP F cm2 t.1) := by
  intro cm2
  obtain ⟨a1, a2, a3⟩ := resolve_R (F := F) r hd hs (predSucc_of r hpc hpd) hstart hk done
    { cm := cm, writes := [], deps := [] } res ⟨hnd, hsk, hsh, hq⟩ h1
  obtain ⟨u1, u2⟩ := updateValues_R r hd res.writes res.cm a1.nd
  obtain ⟨v1, v2⟩ := updateDeps_R r hd res.deps (updateValues r res.cm res.writes) (u1.nodup a1.nd)
  have hmono : Mono res.cm cm2 := u1.trans v1
  have hsh2 : shapes cm2 = shapes (initChans r) :=
    (updateDeps_shapes r hd _ _).trans (((updateValues_fold r hd _ _).2.1).trans a1.sh)
  refine ⟨a2.cm.trans hmono, hsh2, ?_, ?_⟩
  · intro p hp
    rw [show skOf cm2 p = skOf res.cm p from (updateDeps_skOf r hd _ _ p).trans (updateValues_skOf r hd _ _ p)] at hp
    exact (a1.q p hp).mono hmono
  · intro t ht
    obtain ⟨nd, hnd'⟩ := Option.isSome_iff_exists.mp (hcall t ht)
    obtain ⟨sel, hsel, f1, f2, f3⟩ := a3 t ht nd hnd'
    -- a channel waiting for `t` was routed to, and an update pass has made the report, or was deselected, and
    -- the skip has made it
    refine ⟨fun n c' hc' hkc => Or.inr ?_, fun n c' hc' hkd => Or.inr ?_⟩
    · have hm := hsh2 ▸ shapes_mem cm2 n c' hc'
      have hpl := (chan_ctrl_keys r hd cm2 hsh2 n c' hc' t.1).mpr hkc
      by_cases hro : n ∈ nd.controls ++ sel
      · obtain ⟨l, hl, hp⟩ := f2 n hro
        exact v2 n l (mem_of_alookup _ _ _ hl) t.1 hp hpl c' hc' hkc
      · have hnc : n ∉ nd.controls := fun h => hro (List.mem_append_left _ h)
        have hends := (hpc n _ _ hm t.1 hkc nd hnd').resolve_left hnc
        have hdes := (mem_skippedOf_iff nd sel n).mpr ⟨hends, fun h => hro (List.mem_append_right _ h), hnc⟩
        exact ((f1 n hdes).mono hmono).estC c' hc' hkc
    · have hm := hsh2 ▸ shapes_mem cm2 n c' hc'
      have hpl := (chan_data_keys r hd cm2 hsh2 n c' hc' t.1).mpr hkd
      by_cases hro : n ∈ sel ++ nd.writeTo
      · obtain ⟨l, hl, hp⟩ := f3 n hro
        exact ((u2 n l (mem_of_alookup _ _ _ hl) t.1 hp hpl).mono v1) c' hc' hkd
      · obtain ⟨hends, hnc⟩ := (hpd n _ _ hm t.1 hkd nd hnd').resolve_left fun h => hro (List.mem_append_right _ h)
        have hdes := (mem_skippedOf_iff nd sel n).mpr ⟨hends, fun h => hro (List.mem_append_left _ h), hnc⟩
        exact ((f1 n hdes).mono hmono).estD c' hc' hkd

theorem reset_not_triggered {V} (c : Chan V) (h : ¬ (c.ctrl = [] ∧ c.data = [])) : c.reset.triggered = false :=
  Engine.reset_not_triggered c
    ((Classical.not_and_iff_not_or_not.mp h).imp (mt List.map_eq_nil_iff.mp) (mt List.map_eq_nil_iff.mp))

theorem getReady_untriggered {V} (ops : ValOps V) (cm : Chans V) :
    ∀ n c', (n, c') ∈ (getReady ops true cm).1 → c'.triggered = false :=
  forall_mem_getReady ops (fun _ c _ ht => reset_not_triggered c (triggered_unpack c ht).2.1) (fun _ _ _ h => h)

theorem getReady_fired {V} (ops : ValOps V) (cm : Chans V) (hb : (getReady ops true cm).2.2 = false) :
    ∀ n c, (n, c) ∈ cm → c.triggered = true → n ∈ akeys (getReady ops true cm).2.1 := by
  intro n c hm ht
  cases hg : (c.get ops true).2 with
  | notReady => exact absurd hg (get_ne_notReady ops c ht)
  | mergeErr => rw [(getReady_mergeErr ops true cm).mpr ⟨(n, c), hm, hg⟩] at hb; cases hb
  | ready v => exact mem_akeys_of_mem n v _ ((mem_getReady_ready ops true cm n v).mpr ⟨c, hm, hg⟩)

theorem chan_nodup {V} (r : Runner V) (hd : r.dag = true) (cm : Chans V)
    (hsh : shapes cm = shapes (initChans r)) (n : Key) (c : Chan V) (hc : (n, c) ∈ cm) :
    (akeys c.ctrl).Nodup ∧ (akeys c.data).Nodup := by
  obtain ⟨e1, e2⟩ := chan_keys r hd cm hsh n c hc
  rw [e1, e2]
  exact ⟨nodup_eraseDups _, nodup_eraseDups _⟩

theorem routes_deselects_excl {V} (r : Runner V) (p : Key) (o : V) (n : Key)
    (h1 : RoutesC r p o n) (h2 : Deselects r p o n) : False := by
  obtain ⟨nd, hn, hr⟩ := h1
  obtain ⟨nd', sel, hn', hs, hm⟩ := h2
  rw [hn] at hn'; cases hn'
  obtain ⟨_, hns, hnc⟩ := (mem_skippedOf_iff nd sel n).mp hm
  rcases hr with h | ⟨sel', hs', h⟩
  · exact hnc h
  · rw [hs] at hs'; cases hs'
    exact hns h

/-- the part of `Boundary` that already holds before the ready channels are handed out
    (everything but "no channel is triggered") -/
structure PreB {V} (r : Runner V) (Hc H : List (Done V)) (F : Key → Nat) (cm : Chans V) : Prop where
  sub : ∀ d, d ∈ Hc → d ∈ H
  k : K r H cm
  sh : shapes cm = shapes (initChans r)
  bound : ∀ n, F n + skOf cm n ≤ 1
  rp : ∀ p, ((∃ o, (p, o) ∈ Hc) ∨ skOf cm p = 1) → RP F cm p
  hf : ∀ p o, (p, o) ∈ H → p = START ∨ 1 ≤ F p
  fn : ∀ p o o', (p, o) ∈ H → (p, o') ∈ H → o = o'
  just : ∀ n, 1 ≤ F n → lookupList n r.ctrlPreds ≠ [] →
      ∃ p, p ∈ lookupList n r.ctrlPreds ∧ ∃ o, (p, o) ∈ H ∧ RoutesC r p o n

/-- what is known at a round boundary (after `calcNext` produced the next tasks): `Hc` are the
    completions that have been processed, `H ⊇ Hc` a history the soundness invariant holds for
    (batch loop: the same; eager loop: the outputs of everything submitted) -/
structure Boundary {V} (r : Runner V) (Hc H : List (Done V)) (F : Key → Nat) (cm : Chans V) : Prop where
  sub : ∀ d, d ∈ Hc → d ∈ H
  k : K r H cm
  sh : shapes cm = shapes (initChans r)
  bound : ∀ n, F n + skOf cm n ≤ 1
  rp : ∀ p, ((∃ o, (p, o) ∈ Hc) ∨ skOf cm p = 1) → RP F cm p
  untr : ∀ n c, (n, c) ∈ cm → c.triggered = false
  hf : ∀ p o, (p, o) ∈ H → p = START ∨ 1 ≤ F p
  fn : ∀ p o o', (p, o) ∈ H → (p, o') ∈ H → o = o'
  just : ∀ n, 1 ≤ F n → lookupList n r.ctrlPreds ≠ [] →
      ∃ p, p ∈ lookupList n r.ctrlPreds ∧ ∃ o, (p, o) ∈ H ∧ RoutesC r p o n

theorem Boundary.pre {V} {r : Runner V} {Hc H : List (Done V)} {F : Key → Nat} {cm : Chans V}
    (b : Boundary r Hc H F cm) : PreB r Hc H F cm :=
  ⟨b.sub, b.k, b.sh, b.bound, b.rp, b.hf, b.fn, b.just⟩

theorem completed_not_skipped_pre {V} {r : Runner V} {Hc H : List (Done V)} {F : Key → Nat} {cm : Chans V}
    (b : PreB r Hc H F cm) (hstart : START ∉ akeys cm) (p : Key) (o : V) (h : (p, o) ∈ H) : skOf cm p = 0 := by
  rcases b.hf p o h with rfl | h1
  · exact skOf_not_mem hstart
  · have := b.bound p; omega

theorem PreB.routed_excl {V} {r : Runner V} {Hc H : List (Done V)} {F : Key → Nat} {cm : Chans V}
    (b : PreB r Hc H F cm) (hstart : START ∉ akeys cm) {p n : Key} {o : V} (ho : (p, o) ∈ H)
    (hr : RoutesC r p o n) : ¬ ((∃ o', (p, o') ∈ H ∧ Deselects r p o' n) ∨ skOf cm p = 1) := by
  rintro (⟨o', ho', hdz⟩ | hfl)
  · rw [b.fn p o' o ho' ho] at hdz
    exact routes_deselects_excl r p o n hr hdz
  · have := completed_not_skipped_pre b hstart p o ho
    omega

theorem skippedS_flagged_pre {V} {r : Runner V} {Hc H : List (Done V)} {F : Key → Nat} {cm : Chans V}
    (hd : r.dag = true) (b : PreB r Hc H F cm) (hstart : START ∉ akeys cm)
    (hp4 : ∀ n, lookupList n r.ctrlPreds ≠ [] → n ∈ akeys cm) :
    ∀ n, SkippedS r Hc n → skOf cm n = 1 := by
  intro n hs
  induction hs with
  | intro n hne hpre ih =>
    obtain ⟨c, hc⟩ := exists_of_mem_akeys _ _ (hp4 n hne)
    have keys := chan_ctrl_keys r hd cm b.sh n c hc
    have pre : ∀ p, p ∈ lookupList n r.ctrlPreds → (∃ o, (p, o) ∈ Hc ∧ Deselects r p o n) ∨ skOf cm p = 1 :=
      fun p hp => (Classical.em _).imp_right (ih p hp)
    have noroute : ∀ p, p ∈ lookupList n r.ctrlPreds → ∀ o, (p, o) ∈ H → ¬ RoutesC r p o n := fun p hp o ho hr =>
      b.routed_excl hstart ho hr ((pre p hp).imp_left fun ⟨o', ho', hz⟩ => ⟨o', b.sub _ ho', hz⟩)
    refine skOf_eq_one.mpr ⟨c, alookup_of_mem_nodup cm b.k.nd n c hc, Classical.byContradiction fun hsk => ?_⟩
    -- `n` was never started: a start is justified by a route
    have hF : F n = 0 := Nat.eq_zero_of_not_pos fun h0 => by
      obtain ⟨p, hp, o, ho, hr⟩ := b.just n h0 hne
      exact noroute p hp o ho hr
    -- so every control entry has been reported, and not as `ready`: all are `skipped`, and the flag is on
    have hall : ∀ p d, (p, d) ∈ c.ctrl → d = Dep.skipped := by
      intro p d hm
      have hp := (keys p).mpr (mem_akeys_of_mem p d _ hm)
      have hw := ((b.rp p ((pre p hp).imp_left fun ⟨o, ho, _⟩ => ⟨o, ho⟩)).entries hc
        (chan_nodup r hd cm b.sh n c hc) hF hsk).1 d hm
      cases d with
      | waiting => exact absurd rfl hw
      | skipped => rfl
      | ready =>
        obtain ⟨o, ho, hr⟩ := b.k.rdy n c hc p hm
        exact absurd hr (noroute p hp o ho)
    exact hsk (b.k.flag n c hc (mt (chan_ctrl_nil r hd cm b.sh n c hc).mp hne) hall)

theorem triggered_of_enabled {V} {r : Runner V} {Hc H : List (Done V)} {F : Key → Nat} {cm : Chans V}
    (hd : r.dag = true) (b : PreB r Hc H F cm) (hstart : START ∉ akeys cm)
    (hp4 : ∀ n, lookupList n r.ctrlPreds ≠ [] → n ∈ akeys cm) :
    ∀ n, Enabled r Hc n → F n = 0 → ∃ c, (n, c) ∈ cm ∧ c.triggered = true := by
  intro n ⟨hne, hctrl, ⟨p0, hp0, o0, ho0, hr0⟩, hdata⟩ hF0
  obtain ⟨c, hc⟩ := exists_of_mem_akeys _ _ (hp4 n hne)
  have keys := chan_ctrl_keys r hd cm b.sh n c hc
  have dkeys := chan_data_keys r hd cm b.sh n c hc
  have resolved : ∀ p, ((∃ o, (p, o) ∈ Hc) ∨ SkippedS r Hc p) → RP F cm p :=
    fun p hp => b.rp p (hp.imp_right (skippedS_flagged_pre hd b hstart hp4 p))
  -- the channel cannot be skipped: the routed predecessor's entry would be `skipped`
  have hnsk : c.skipped ≠ true := fun hsk => by
    obtain ⟨d, hdm⟩ := exists_of_mem_akeys _ _ ((keys p0).mp hp0)
    obtain rfl := (b.k.sk n c hc).all hsk p0 d hdm
    exact b.routed_excl hstart (b.sub _ ho0) hr0 (b.k.skp n c hc p0 hdm).symm
  have hcne : c.ctrl ≠ [] := mt (chan_ctrl_nil r hd cm b.sh n c hc).mp hne
  -- so it is triggered: every entry belongs to a resolved predecessor
  have entries := fun p hp => (resolved p hp).entries hc (chan_nodup r hd cm b.sh n c hc) hF0 hnsk
  refine ⟨c, hc, (triggered_eq_true_iff c).mpr
    ⟨Bool.eq_false_iff.mpr hnsk, fun e => hcne e.1, fun x hx => ?_, fun x hx => ?_⟩⟩
  · exact (entries x.1 (hctrl x.1 ((keys x.1).mpr (mem_akeys_of_mem x.1 x.2 _ hx)))).1 x.2 hx
  · exact (entries x.1 (hdata x.1 ((dkeys x.1).mpr (mem_akeys_of_mem x.1 x.2 _ hx)))).2 x.2 hx

theorem completed_not_skipped {V} {r : Runner V} {Hc H : List (Done V)} {F : Key → Nat} {cm : Chans V}
    (b : Boundary r Hc H F cm) (hstart : START ∉ akeys cm) (p : Key) (o : V) (h : (p, o) ∈ H) : skOf cm p = 0 :=
  completed_not_skipped_pre b.pre hstart p o h

theorem skippedS_flagged {V} {r : Runner V} {Hc H : List (Done V)} {F : Key → Nat} {cm : Chans V}
    (hd : r.dag = true) (b : Boundary r Hc H F cm) (hstart : START ∉ akeys cm)
    (hp4 : ∀ n, lookupList n r.ctrlPreds ≠ [] → n ∈ akeys cm) :
    ∀ n, SkippedS r Hc n → skOf cm n = 1 :=
  skippedS_flagged_pre hd b.pre hstart hp4

theorem complete_at {V} {r : Runner V} {Hc H : List (Done V)} {F : Key → Nat} {cm : Chans V}
    (hd : r.dag = true) (b : Boundary r Hc H F cm) (hstart : START ∉ akeys cm)
    (hp4 : ∀ n, lookupList n r.ctrlPreds ≠ [] → n ∈ akeys cm) :
    ∀ n, Enabled r Hc n → 1 ≤ F n := by
  intro n hen
  apply Classical.byContradiction
  intro hF
  obtain ⟨c, hc, htrig⟩ := triggered_of_enabled hd b.pre hstart hp4 n hen (by omega)
  have := b.untr n c hc
  rw [htrig] at this; cases this

theorem calcNext_unpack {V} (ops : ValOps V) (r : Runner V) (hd : r.dag = true) (cm cm' : Chans V)
    (done : List (Done V)) (ts : List (Key × V)) (h : calcNext ops r cm done = .ok (cm', .tasks ts)) :
    ∃ res, resolve r cm done = .ok res ∧
      getReady ops true (updateDeps r (updateValues r res.cm res.writes) res.deps) = (cm', ts, false) ∧
      alookup END ts = none := by
  obtain ⟨res, ready, h1, hg, hnx⟩ := calcNext_ok hd h
  rcases hnx with ⟨v, _, e⟩ | ⟨hnone, e⟩
  · cases e
  · cases e; exact ⟨res, h1, hg, hnone⟩

theorem getReady_cases {V} (ops : ValOps V) (cm : Chans V) (hb : (getReady ops true cm).2.2 = false) (F : Key → Nat) :
    ∀ n c', (n, c') ∈ (getReady ops true cm).1 →
      1 ≤ F n + (akeys (getReady ops true cm).2.1).count n ∨ (n, c') ∈ cm :=
  forall_mem_getReady ops
    (fun n c hc ht => Or.inl (Nat.le_trans (List.count_pos_iff.mpr (getReady_fired ops cm hb n c hc ht)) (Nat.le_add_left _ _)))
    (fun _ _ hc _ => Or.inr hc)

theorem getReady_RP {V} {F : Key → Nat} (ops : ValOps V) (cm : Chans V) (hnd : (akeys cm).Nodup)
    (hb : (getReady ops true cm).2.2 = false) (p : Key) (h : RP F cm p) :
    RP (fun n => F n + (akeys (getReady ops true cm).2.1).count n) (getReady ops true cm).1 p := by
  have h' := h.of_le (F' := fun n => F n + (akeys (getReady ops true cm).2.1).count n) (fun n => Nat.le_add_right _ _)
  exact ⟨fun n c' hc' hk => (getReady_cases ops cm hb F n c' hc').elim Or.inl (fun hc => h'.1 n c' hc hk),
    fun n c' hc' hk => (getReady_cases ops cm hb F n c' hc').elim Or.inl (fun hc => h'.2 n c' hc hk)⟩

theorem round_R {V} {F : Key → Nat} (ops : ValOps V) (r : Runner V) (hd : r.dag = true) (hs : SuccOK r)
    (hpc : PredSuccC r) (hpd : PredSuccD r) (hstart : START ∉ akeys (initChans r)) (hk : r.start.key = START)
    (cm cm' : Chans V) (done : List (Done V)) (ts : List (Key × V)) (Old : Key → Prop)
    (hnd : (akeys cm).Nodup) (hsk : ∀ n c, (n, c) ∈ cm → SkOK c) (hsh : shapes cm = shapes (initChans r))
    (hq : ∀ p, skOf cm p = 1 → RP F cm p) (hold : ∀ p, Old p → RP F cm p)
    (hcall : ∀ t, t ∈ done → (r.call? t.1).isSome = true)
    (h : calcNext ops r cm done = .ok (cm', .tasks ts)) :
    (∀ p, (Old p ∨ p ∈ done.map (·.1) ∨ skOf cm' p = 1) →
        RP (fun n => F n + (akeys ts).count n) cm' p) ∧
    (∀ n c, (n, c) ∈ cm' → c.triggered = false) ∧
    (∀ t, t ∈ ts → t.1 ∈ akeys (initChans r) ∧ t.1 ≠ END) := by
  obtain ⟨res, h1, hg, hend⟩ := calcNext_unpack ops r hd cm cm' done ts h
  obtain ⟨m, sh2, q2, t2⟩ := reports_after_updates (F := F) r hd hs hpc hpd hstart hk cm done res hnd hsk hsh hq hcall h1
  generalize updateDeps r (updateValues r res.cm res.writes) res.deps = cm2 at hg m sh2 q2 t2
  have hb : (getReady ops true cm2).2.2 = false := by rw [hg]
  obtain ⟨rfl, rfl⟩ : (getReady ops true cm2).1 = cm' ∧ (getReady ops true cm2).2.1 = ts := by rw [hg]; exact ⟨rfl, rfl⟩
  refine ⟨fun p hp => getReady_RP ops cm2 (m.nodup hnd) hb p ?_, getReady_untriggered ops cm2, fun t ht => ?_⟩
  · rcases hp with h' | h' | h'
    · exact (hold p h').mono m
    · obtain ⟨t, ht, rfl⟩ := List.mem_map.mp h'
      exact t2 t ht
    · exact q2 p (getReady_skOf ops cm2 p ▸ h')
  · have hk1 := mem_akeys_of_mem t.1 t.2 _ ht
    refine ⟨akeys_of_shapes sh2 ▸ (getReady_keys_sublist ops true cm2).subset hk1, fun e => ?_⟩
    have : (alookup END (getReady ops true cm2).2.1).isSome = true := (alookup_isSome_iff _ _).mpr (e ▸ hk1)
    rw [hend] at this; cases this

theorem justTr_all {V} (ops : ValOps V) (r : Runner V) (x : V) (L : Trace V) (h : JustTr ops r x L) :
    ∀ n v, (n, v) ∈ L.flatten → Justified ops r (histOf r x L) n v := by
  induction L with
  | nil => intro n v hm; simp at hm
  | cons step older ih =>
    intro n v hm
    simp only [List.flatten_cons, List.mem_append] at hm
    rcases hm with hm | hm
    · exact (h.1 n v hm).mono (histOf_mono r x step older)
    · exact (ih h.2 n v hm).mono (histOf_mono r x step older)

theorem call_of_key {V} (r : Runner V) (k : Key) (h1 : k ∈ akeys (initChans r)) (h2 : k ≠ END) :
    (r.call? k).isSome = true := by
  rw [akeys_initChans, List.mem_append, List.mem_singleton] at h1
  exact Option.isSome_iff_exists.mpr (call?_exists r k (Or.inr (h1.resolve_right h2)))

structure CInv {V} (ops : ValOps V) (r : Runner V) (x : V) (cm : Chans V) (tasks : List (Key × V)) (tr : Trace V) : Prop where
  l : LInv r cm tasks tr
  k : KInv ops r x cm tasks tr
  rq : ∀ p, skOf cm p = 1 → RP (fun n => (keysOfTr (tasks :: tr)).count n) cm p
  rc : ∀ p, (∃ o, (p, o) ∈ histOf r x tr) → RP (fun n => (keysOfTr (tasks :: tr)).count n) cm p
  call : ∀ t, t ∈ tasks → (r.call? t.1).isSome = true
  comp : CompTr r x (tasks :: tr)

theorem unique_by_key {V} (l : List (Key × V)) (p : Key) (h : (akeys l).count p ≤ 1) (t t' : Key × V)
    (ht : t ∈ l) (ht' : t' ∈ l) (e : t.1 = p) (e' : t'.1 = p) : t = t' := by
  induction l with
  | nil => cases ht
  | cons a rest ih =>
    rw [akeys, List.map_cons, List.count_cons] at h
    have hpos : ∀ u : Key × V, u ∈ rest → u.1 = p → a.1 ≠ p := fun u hu eu ea => by
      have : 0 < (rest.map (·.1)).count p := List.count_pos_iff.mpr (List.mem_map.mpr ⟨u, hu, eu⟩)
      rw [if_pos (by simpa using ea)] at h
      omega
    rcases List.mem_cons.mp ht with rfl | h1 <;> rcases List.mem_cons.mp ht' with rfl | h2
    · rfl
    · exact absurd e (hpos t' h2 e')
    · exact absurd e' (hpos t h1 e)
    · exact ih (Nat.le_trans (Nat.le_add_right _ _) h) h1 h2

theorem outOf_key {V} (r : Runner V) (t : Key × V) (d : Done V) (h : outOf r t = some d) : d.1 = t.1 :=
  collect_exec_key r t d (outOf_eq_some_iff.mp h)

theorem justTr_cons {V} {ops : ValOps V} {r : Runner V} {x : V} {step : List (Key × V)} {older : Trace V}
    (h : JustTr ops r x (step :: older)) :
    ∀ n v, (n, v) ∈ (step :: older).flatten → Justified ops r (histOf r x older) n v := by
  intro n v hm
  rcases List.mem_append.mp (List.flatten_cons ▸ hm) with hm | hm
  · exact h.1 n v hm
  · exact justTr_all ops r x older h.2 n v hm

theorem start_not_task {V} (r : Runner V) (wf : DagWF r) {cm : Chans V} {tasks : List (Key × V)} {tr : Trace V}
    (hl : LInv r cm tasks tr) : (keysOfTr (tasks :: tr)).count START = 0 :=
  Nat.eq_zero_of_not_pos fun h0 => wf.startFresh (hl.pos START h0).mem_keys

theorem hist_started {V} (r : Runner V) (x : V) (L : Trace V) (p : Key) (o : V) (hm : (p, o) ∈ histOf r x L) :
    p = START ∨ p ∈ keysOfTr L := by
  rcases (histOf_mem r x L (p, o)).mp hm with hm | ⟨t, ht, ho⟩
  · exact Or.inl (Prod.mk.inj hm).1
  · exact Or.inr (List.mem_map.mpr ⟨t, ht, (outOf_key r t _ ho).symm⟩)

/-- no task is started twice and START is no task, so a key has one output in the history -/
theorem hist_functional {V} (r : Runner V) (wf : DagWF r) (x : V) (cm : Chans V) (tasks : List (Key × V)) (tr : Trace V)
    (hl : LInv r cm tasks tr) :
    ∀ p o o', (p, o) ∈ histOf r x (tasks :: tr) → (p, o') ∈ histOf r x (tasks :: tr) → o = o' := by
  intro p o o' hm hm'
  have nostart : ∀ t o, t ∈ (tasks :: tr).flatten → outOf r t = some (p, o) → p ≠ START := fun t o ht ho e => by
    have : START ∈ keysOfTr (tasks :: tr) := List.mem_map.mpr ⟨t, ht, (outOf_key r t _ ho).symm.trans e⟩
    have := List.count_pos_iff.mpr this
    have := start_not_task r wf hl
    omega
  rcases (histOf_mem r x _ _).mp hm with hm | ⟨t, ht, ho⟩ <;>
    rcases (histOf_mem r x _ _).mp hm' with hm' | ⟨t', ht', ho'⟩
  · rw [(Prod.mk.inj hm).2, (Prod.mk.inj hm').2]
  · exact absurd (Prod.mk.inj hm).1 (nostart t' o' ht' ho')
  · exact absurd (Prod.mk.inj hm').1 (nostart t o ht ho)
  · have : t = t' := unique_by_key (tasks :: tr).flatten p
      (linv_bound r wf cm tasks tr hl p) t t' ht ht'
      (outOf_key r t _ ho).symm (outOf_key r t' _ ho').symm
    subst this
    rw [ho] at ho'
    exact (Prod.mk.inj (Option.some.inj ho')).2

theorem count_keysOfTr_cons {V} (ts : List (Key × V)) (tr : Trace V) :
    (fun n => (keysOfTr tr).count n + (akeys ts).count n) = (fun n => (keysOfTr (ts :: tr)).count n) := by
  funext n
  rw [keysOfTr_cons ts, List.count_append, Nat.add_comm]

theorem CInv.call_done {V} {ops : ValOps V} {r : Runner V} {x : V} {cm : Chans V} {tasks : List (Key × V)}
    {tr : Trace V} (h : CInv ops r x cm tasks tr) {sched : Sched V} (hf : sched.Fair) {done : List (Done V)}
    (hr : runTasks r sched tr.length tasks = .ok done) : ∀ t, t ∈ done → (r.call? t.1).isSome = true := by
  intro t ht
  obtain ⟨t', ht', e⟩ := List.mem_map.mp
    ((runTasks_keys r sched hf _ _ _ hr).subset (List.mem_map.mpr ⟨t, ht, rfl⟩))
  exact e ▸ h.call t' ht'

theorem CInv.of_round {V} {ops : ValOps V} {r : Runner V} (wf : DagWF r) (wf2 : DagWF2 r) {x : V} {cm : Chans V}
    {ts : List (Key × V)} {tr : Trace V} (hl : LInv r cm ts tr) (hk : KInv ops r x cm ts tr)
    (r1 : ∀ p, ((∃ o, (p, o) ∈ histOf r x tr) ∨ skOf cm p = 1) → RP (fun n => (keysOfTr (ts :: tr)).count n) cm p)
    (r2 : ∀ n c, (n, c) ∈ cm → c.triggered = false)
    (r3 : ∀ t, t ∈ ts → t.1 ∈ akeys (initChans r) ∧ t.1 ≠ END)
    (fn : ∀ p o o', (p, o) ∈ histOf r x tr → (p, o') ∈ histOf r x tr → o = o')
    (hcomp : CompTr r x tr) : CInv ops r x cm ts tr := by
  have hkeys := akeys_of_shapes hl.sh
  have hb : Boundary r (histOf r x tr) (histOf r x tr) (fun n => (keysOfTr (ts :: tr)).count n) cm := by
    refine ⟨fun _ h => h, hk.k, hl.sh, linv_static r wf cm ts tr hl, r1, r2, fun p o hm => ?_, fn, fun n hn hne => ?_⟩
    · refine (hist_started r x tr p o hm).imp id (fun h => List.count_pos_iff.mpr ?_)
      rw [keysOfTr_cons]; exact List.mem_append_right _ h
    · obtain ⟨t, ht, rfl⟩ := List.mem_map.mp (List.count_pos_iff.mp hn)
      exact (justTr_cons hk.just t.1 t.2 ht).2.1 hne
  refine ⟨hl, hk, fun p hp => r1 p (Or.inr hp), fun p hp => r1 p (Or.inl hp),
    fun t ht => call_of_key r t.1 (r3 t ht).1 (r3 t ht).2, fun n hen => ?_, hcomp⟩
  exact List.count_pos_iff.mp (complete_at wf.dag hb (by rw [hkeys]; exact wf.startFresh)
    (fun n hne => by rw [hkeys]; exact wf2.p4 n hne) n hen)

theorem CInv_step {V} (ops : ValOps V) (r : Runner V) (wf : DagWF r) (wf2 : DagWF2 r) (sched : Sched V)
    (hf : sched.Fair) (x : V)
    (cm cm' : Chans V) (tasks ts : List (Key × V)) (tr : Trace V) (done : List (Done V))
    (h : CInv ops r x cm tasks tr) (hr : runTasks r sched tr.length tasks = .ok done)
    (hc : calcNext ops r cm done = .ok (cm', .tasks ts)) : CInv ops r x cm' ts (tasks :: tr) := by
  obtain ⟨r1, r2, r3⟩ := round_R (F := fun n => (keysOfTr (tasks :: tr)).count n) ops r wf.dag wf.succ wf2.pc wf2.pd
    wf.startFresh wf.startKey cm cm' done ts (fun p => ∃ o, (p, o) ∈ histOf r x tr)
    h.k.k.nd h.k.k.sk h.l.sh h.rq h.rc (h.call_done hf hr) hc
  rw [count_keysOfTr_cons] at r1
  refine CInv.of_round wf wf2 (LInv_step ops r wf sched hf cm cm' tasks ts tr done _ h.l hr hc rfl)
    (KInv_step ops r wf sched hf x cm cm' tasks ts tr done h.k hr hc) (fun p hp => r1 p ?_) r2 r3
    (hist_functional r wf x cm tasks tr h.l) h.comp
  rcases hp with ⟨o, ho⟩ | hp
  · exact ((histOf_runTasks r sched hf x tasks tr done hr).2.1 p o ho).elim (fun h1 => Or.inl ⟨o, h1⟩)
      fun h1 => Or.inr (Or.inl (List.mem_map.mpr ⟨(p, o), h1, rfl⟩))
  · exact Or.inr (Or.inr hp)

theorem skOf_init {V} (r : Runner V) (hd : r.dag = true) (p : Key) : skOf (initChans r) p = 0 := by
  unfold skOf
  cases hl : alookup p (initChans r) with
  | none => rfl
  | some c => simp [(initChans_mem r hd (mem_of_alookup _ _ _ hl)).2.2.2]

theorem CInv_start {V} (ops : ValOps V) (r : Runner V) (wf : DagWF r) (wf2 : DagWF2 r) (x : V)
    (cm' : Chans V) (ts : List (Key × V))
    (hc : calcNext ops r (initChans r) [(START, x)] = .ok (cm', .tasks ts)) : CInv ops r x cm' ts [] := by
  obtain ⟨rank, hrank⟩ := wf.acyclic
  obtain ⟨j1, j2, j3⟩ := calcNext_K (H := histOf r x []) ops r wf.dag wf.succ wf.startKey rank hrank
    (initChans r) cm' [(START, x)] _ (init_K r wf.dag wf.nodup _) rfl
    (start_mem_histOf r x []) hc
  have hj : ∀ n v, (n, v) ∈ ts → Justified ops r (histOf r x []) n v := by
    rcases j3 with ⟨v, hv, _⟩ | ⟨ts', hts, hj⟩
    · cases hv
    · cases hts; exact hj
  obtain ⟨r1, r2, r3⟩ := round_R (F := fun n => (keysOfTr ([] : Trace V)).count n) ops r wf.dag wf.succ wf2.pc wf2.pd
    wf.startFresh wf.startKey (initChans r) cm' [(START, x)] ts (fun _ => False)
    wf.nodup (init_J r wf.dag wf.nodup).sk rfl
    (fun p hp => by rw [skOf_init r wf.dag p] at hp; cases hp)
    (fun p hp => hp.elim)
    (start_callable r x) hc
  rw [count_keysOfTr_cons] at r1
  refine CInv.of_round wf wf2 (start_LInv ops r wf x cm' ts hc) ⟨j1, j2, hj, trivial⟩ (fun p hp => r1 p ?_) r2 r3
    (fun _ _ _ => histOf_nil_functional) trivial
  rcases hp with ⟨o, ho⟩ | hp
  · exact Or.inr (Or.inl (by simp [(mem_histOf_nil.mp ho).1]))
  · exact Or.inr (Or.inr hp)

/-- **completeness.** In a run of a well-formed acyclic all-predecessor runner, under any fair
    completion schedule: at every step, every node that is *enabled* by the completions of the
    older steps (it has control predecessors, each completed or skipped, at least one completed
    and routed to it, and every data predecessor completed or skipped) has been started by then. -/
theorem run_complete {V} (ops : ValOps V) (r : Runner V) (wf : DagWF r) (wf2 : DagWF2 r) (sched : Sched V)
    (hf : sched.Fair) (x : V) : CompTr r x (runS ops r sched x).trace.reverse := by
  rcases runS_stops ops r sched x (CInv ops r x) (CInv_start ops r wf wf2 x)
    (fun cm cm' tasks tr done ts => CInv_step ops r wf wf2 sched hf x cm cm' tasks ts tr done)
    with ⟨e, _⟩ | ⟨_, _, _, h1, ⟨e, _⟩ | ⟨e, _⟩⟩ <;> rw [e]
  · exact trivial
  · rw [List.reverse_reverse]; exact h1.comp.2
  · rw [List.reverse_reverse]; exact h1.comp

theorem dagWF2b_sound {V} (r : Runner V) (h : dagWF2b r = true) : DagWF2 r := by
  simp only [dagWF2b, Bool.and_eq_true, List.all_eq_true] at h
  obtain ⟨⟨h1, h2⟩, h3⟩ := h
  refine ⟨fun m cs ds hm p hp nd hn => ?_, fun m cs ds hm p hp nd hn => ?_, fun n hne => ?_⟩
  · simpa only [hn, List.contains_eq_mem, Bool.or_eq_true, decide_eq_true_eq] using h1 (m, cs, ds) hm p hp
  · simpa only [hn, List.contains_eq_mem, Bool.or_eq_true, decide_eq_true_eq, Bool.and_eq_true,
      Bool.not_eq_eq_eq_not, Bool.not_true, decide_eq_false_iff_not] using h2 (m, cs, ds) hm p hp
  · obtain ⟨x, hx⟩ := List.exists_mem_of_ne_nil _ hne
    obtain ⟨l, hl, hxl⟩ := mem_getD_alookup hx
    have := h3 (n, l) hl
    simp only [Bool.or_eq_true, List.isEmpty_iff, List.contains_iff_mem] at this
    exact this.resolve_left (List.ne_nil_of_mem hxl)

end DagRun
end EinoV.Engine
