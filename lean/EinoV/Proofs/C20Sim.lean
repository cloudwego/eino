/-
  One Graph-API call made on two indistinguishable builder states (`Sim`, Proofs/C20Order.lean)
  under two different map iteration orders gives the same outcome class and indistinguishable
  states again: addNode, AddEdge, Compile, and the parts of AddBranch that do not depend on the
  order of the end nodes.  AddBranch itself and whole call sequences are in Proofs/C20Ends.lean.
-/
import EinoV.Proofs.C20Order

namespace EinoV.Build

def keysOf (b : Builder) : List (Key × Bool) := b.nodes.map (fun n => (n.key, n.passthrough))

structure KeysOK (b : Builder) : Prop where
  nodup : (b.nodes.map (·.key)).Nodup
  nores : ∀ n ∈ b.nodes, n.key ≠ START ∧ n.key ≠ END

theorem keysOf_fst (b : Builder) : (keysOf b).map (·.1) = b.nodes.map (·.key) := by
  simp [keysOf, List.map_map, Function.comp_def]

theorem keys_of_keysOf {b b' : Builder} (hk : keysOf b' = keysOf b) : b'.nodes.map (·.key) = b.nodes.map (·.key) := by
  rw [← keysOf_fst, ← keysOf_fst, hk]

theorem KeysOK.of_keys {b b' : Builder} (h : KeysOK b) (hk : keysOf b' = keysOf b) : KeysOK b' := by
  have hk1 := keys_of_keysOf hk
  refine ⟨by rw [hk1]; exact h.nodup, ?_⟩
  intro n hn
  have : n.key ∈ b.nodes.map (·.key) := by rw [← hk1]; exact List.mem_map_of_mem hn
  obtain ⟨m, hm, hmk⟩ := List.mem_map.mp this
  rw [← hmk]; exact h.nores m hm

theorem find?_key_of_mem_nodup {α : Type} {key : α → Key} {l : List α} (hn : (l.map key).Nodup) {a : α}
    (h : a ∈ l) : l.find? (fun x => key x = key a) = some a := by
  induction l with
  | nil => cases h
  | cons x l ih =>
    rw [List.map_cons, List.nodup_cons] at hn
    rcases List.mem_cons.mp h with rfl | h
    · rw [List.find?_cons, decide_eq_true rfl]
    · have hne : key x ≠ key a := fun e => hn.1 (e ▸ List.mem_map_of_mem h)
      rw [List.find?_cons, decide_eq_false hne]
      exact ih hn.2 h

theorem findNode_of_mem_nodup {ns : List Node} (hn : (ns.map (·.key)).Nodup) {n : Node} (h : n ∈ ns) :
    findNode ns n.key = some n :=
  (findNode_eq_find? ns n.key).trans (find?_key_of_mem_nodup hn h)

theorem KeysOK.types_of_mem {b : Builder} (h : KeysOK b) {n : Node} (hn : n ∈ b.nodes) :
    b.nodeIn n.key = n.inTy ∧ b.nodeOut n.key = n.outTy := by
  have hr := h.nores n hn
  have hf := findNode_of_mem_nodup h.nodup hn
  simp [Builder.nodeIn, Builder.nodeOut, hr.1, hr.2, hf]

theorem KeysOK.hasUntyped_iff {b : Builder} (h : KeysOK b) :
    b.hasUntyped = true ↔ ∃ k ∈ b.nodes.map (·.key), b.nodeIn k = none ∨ b.nodeOut k = none := by
  unfold Builder.hasUntyped
  simp only [List.any_eq_true, Bool.or_eq_true, Option.isNone_iff_eq_none, List.mem_map]
  constructor
  · rintro ⟨n, hn, hu⟩
    obtain ⟨e1, e2⟩ := h.types_of_mem hn
    exact ⟨n.key, ⟨n, hn, rfl⟩, by rw [e1, e2]; exact hu⟩
  · rintro ⟨k, ⟨n, hn, rfl⟩, hu⟩
    obtain ⟨e1, e2⟩ := h.types_of_mem hn
    exact ⟨n, hn, by rw [← e1, ← e2]; exact hu⟩

theorem Sim.hasUntyped {b b' : Builder} (h : Sim b b') (hk : KeysOK b) : b'.hasUntyped = b.hasUntyped := by
  refine Bool.eq_iff_iff.mpr ?_
  rw [(hk.of_keys h.keys).hasUntyped_iff, hk.hasUntyped_iff, keys_of_keysOf h.keys]
  simp only [h.tin, h.tout]

theorem keysOf_frame : BranchFrame keysOf where
  setTy b k t := by simp [keysOf, Builder.setTy, setTyIn_keys]
  mapped _ _ _ := rfl
  may _ _ := rfl
  pending _ _ := rfl
  ends _ _ _ := rfl
  pre _ _ := rfl
  br _ _ := rfl

theorem update_keys (im : Impl) (ord : Ord) (b b' : Builder) (h : update im ord b = .ok b') : keysOf b' = keysOf b :=
  keysOf_frame.toWorkListFrame.update im ord b b' h


/-! ### outcomes up to the error kind -/

inductive Cls where
  | ok | err | compiled | panic
  deriving DecidableEq, Repr

def Outcome.cls : Outcome → Cls
  | .ok => .ok
  | .fresh _ => .err
  | .stored _ => .err
  | .compiled => .compiled
  | .panic => .panic

def BothErr (b b' : Builder) : Prop := b.buildError.isSome = true ∧ b'.buildError.isSome = true

theorem Sim.compiled {b b' : Builder} (h : Sim b b') : b'.compiled = b.compiled :=
  (simFrame_eq_iff.mp h.fr).2.2.2.2.2.2.2.2.1

theorem guarded_sim {R : Builder → Builder → Prop} (g : Guards) (hg : g.storeErr = true)
    (b b' : Builder) (hs : Sim b b')
    (body body' : Except ErrKind Builder)
    (hbody : (∃ k k', body = .error k ∧ body' = .error k') ∨
             (∃ c c', body = .ok c ∧ body' = .ok c' ∧ R c c'))
    (hR : R b b') :
    (guarded g b body).2.cls = (guarded g b' body').2.cls ∧
    (R (guarded g b body).1 (guarded g b' body').1 ∨
     BothErr (guarded g b body).1 (guarded g b' body').1) := by
  unfold guarded
  have e1 : (if g.checkErr = true then b.buildError else none) = none := by split <;> simp [hs.err.1]
  have e2 : (if g.checkErr = true then b'.buildError else none) = none := by split <;> simp [hs.err.2]
  simp only [e1, e2, hs.compiled, hg, ↓reduceIte]
  cases hc : (g.checkCompiled && b.compiled)
  · simp only [Bool.false_eq_true, ↓reduceIte]
    rcases hbody with ⟨k, k', e1, e2⟩ | ⟨c, c', e1, e2, hr⟩
    · subst e1; subst e2
      refine ⟨by simp [Outcome.cls], Or.inr ⟨by simp, by simp⟩⟩
    · subst e1; subst e2
      refine ⟨by simp [Outcome.cls], Or.inl hr⟩
  · simp only [↓reduceIte]
    refine ⟨by simp, Or.inl hR⟩

theorem addNodeCheck_sim {b b' : Builder} (hs : Sim b b') (n : NodeSpec) : addNodeCheck b' n = addNodeCheck b n := by
  have hfr := simFrame_eq_iff.mp hs.fr
  unfold addNodeCheck
  rw [hs.hasNode, hfr.1, hfr.2.2.2.1]

theorem addNode_sim (f : Facts) (hf : f.Guarded) (b b' : Builder) (hs : Sim b b') (n : NodeSpec) :
    (addNode f b n).2.cls = (addNode f b' n).2.cls ∧
    (Sim (addNode f b n).1 (addNode f b' n).1 ∨ BothErr (addNode f b n).1 (addNode f b' n).1) := by
  unfold addNode
  apply guarded_sim (R := Sim) f.nodeG (by rw [hf.node]; rfl) b b' hs
  · rw [addNodeCheck_sim hs n]
    rcases hck : addNodeCheck b n with _ | k
    · right
      refine ⟨_, _, rfl, rfl, ?_⟩
      have hty := addNode_types hck
      have hty' := addNode_types (b := b') (by rw [addNodeCheck_sim hs n]; exact hck)
      refine ⟨?_, hs.err, ?_, ?_, hs.pend⟩
      · have hf := simFrame_eq_iff.mp hs.fr
        exact simFrame_eq_iff.mpr (by simp only [List.map_append, hf, and_self])
      · intro k; rw [(hty' k).1, (hty k).1, hs.tin]
      · intro k; rw [(hty' k).2.1, (hty k).2.1, hs.tout]
    · left; exact ⟨k, k, rfl, rfl⟩
  · exact hs


theorem Sim.addToValidate {b b' : Builder} (hs : Sim b b') (s : Key) (pe : PEdge) :
    Sim (b.addToValidate s pe) (b'.addToValidate s pe) := by
  refine ⟨hs.fr, hs.err, hs.tin, hs.tout, ?_⟩
  intro s' x
  rw [mem_getSlice_addToValidate, mem_getSlice_addToValidate, hs.pend]

theorem chooseT_sim {b b' : Builder} (hs : Sim b b') (s e : Key) : chooseT b' s e = chooseT b s e := by
  unfold chooseT; rw [hs.tout, hs.tin]

theorem data_sim (im : Impl) (ord ord' : Ord) (hv : ord.Valid) (hv' : ord'.Valid)
    (b b' : Builder) (X X' : List (Key × Key)) (s e : Key) (hs : Sim b b')
    (hi : InvC im b X) (hi' : InvC im b' X')
    (h1 : b.hasNode s = true ∨ b.nodeOut s ≠ none) (h2 : b.hasNode e = true ∨ b.nodeIn e ≠ none) :
    let pe : PEdge := { dst := e, mapped := none }
    (∃ k k', update im ord (b.addToValidate s pe) = .error k ∧ update im ord' (b'.addToValidate s pe) = .error k') ∨
    (∃ c c', update im ord (b.addToValidate s pe) = .ok c ∧ update im ord' (b'.addToValidate s pe) = .ok c' ∧ Sim c c') := by
  intro pe
  have h1' : b'.hasNode s = true ∨ b'.nodeOut s ≠ none := by rw [hs.hasNode, hs.tout]; exact h1
  have h2' : b'.hasNode e = true ∨ b'.nodeIn e ≠ none := by rw [hs.hasNode, hs.tin]; exact h2
  obtain ⟨w, q, p⟩ := data_pre im b X s e hi h1 h2
  obtain ⟨w', _, p'⟩ := data_pre im b' X' s e hi' h1' h2'
  rcases update_sim im ord ord' hv hv' (chooseT b s e) _ _ (hs.addToValidate s pe) w w' q p p' with ⟨e1, e2⟩ | h
  · exact Or.inl ⟨_, _, e1, e2⟩
  · exact Or.inr h


theorem Sim.appendData {c c' : Builder} (h : Sim c c') (p : Key × Key) :
    Sim { c with dataEdges := c.dataEdges ++ [p] } { c' with dataEdges := c'.dataEdges ++ [p] } := by
  have hf := simFrame_eq_iff.mp h.fr
  exact ⟨simFrame_eq_iff.mpr (by simp only [hf, and_self]), h.err, h.tin, h.tout, h.pend⟩

theorem Sim.appendBranch {c c' : Builder} (h : Sim c c') (br : BranchRec) :
    Sim { c with branches := c.branches ++ [br] } { c' with branches := c'.branches ++ [br] } := by
  have hf := simFrame_eq_iff.mp h.fr
  exact ⟨simFrame_eq_iff.mpr (by simp only [hf, and_self]), h.err, h.tin, h.tout, h.pend⟩

theorem isEmpty_cond_append {α : Type} (c : Prop) [Decidable c] (l : List α) (x : α) :
    (if c then l ++ [x] else l).isEmpty = (!decide c && l.isEmpty) := by
  by_cases hc : c <;> simp [hc]

theorem Sim.noteEnds {c c' : Builder} (h : Sim c c') (s e : Key) : Sim (c.noteEnds s e) (c'.noteEnds s e) := by
  have hf := simFrame_eq_iff.mp h.fr
  exact ⟨simFrame_eq_iff.mpr (by simp only [Builder.noteEnds, isEmpty_cond_append, hf, and_self]),
    h.err, h.tin, h.tout, h.pend⟩

theorem Sim.addControl {c c' : Builder} (h : Sim c c') (s e : Key) : Sim (c.addControl s e) (c'.addControl s e) := by
  have hf := simFrame_eq_iff.mp h.fr
  exact ⟨simFrame_eq_iff.mpr (by simp only [Builder.addControl, isEmpty_cond_append, hf, and_self]),
    h.err, h.tin, h.tout, h.pend⟩

theorem ite_error_sim {ε α : Type} {R : α → α → Prop} {c : Prop} [Decidable c] (k : ε) {x y : Except ε α}
    (h : (∃ k, x = .error k ∧ y = .error k) ∨ (∃ a a', x = .ok a ∧ y = .ok a' ∧ R a a')) :
    (∃ k', (if c then .error k else x) = .error k' ∧ (if c then .error k else y) = .error k') ∨
    (∃ a a', (if c then .error k else x) = .ok a ∧ (if c then .error k else y) = .ok a' ∧ R a a') := by
  by_cases hc : c
  · rw [if_pos hc, if_pos hc]; exact Or.inl ⟨k, rfl, rfl⟩
  · rw [if_neg hc, if_neg hc]; exact h

/-- the refusals read only what `Sim` equates, and the control half writes the same on both sides -/
theorem edgeHead_sim {b b' : Builder} (hs : Sim b b') (s e : Key) (nc : Bool) :
    (∃ k, edgeHead b s e nc = .error k ∧ edgeHead b' s e nc = .error k) ∨
    (∃ b1 b1', edgeHead b s e nc = .ok b1 ∧ edgeHead b' s e nc = .ok b1' ∧ Sim b1 b1') := by
  unfold edgeHead
  rw [hs.hasNode, hs.hasNode, (simFrame_eq_iff.mp hs.fr).2.2.2.2.1]
  refine ite_error_sim _ (ite_error_sim _ (ite_error_sim _ (ite_error_sim _ ?_)))
  cases nc
  · rw [if_neg Bool.false_ne_true, if_neg Bool.false_ne_true]
    exact ite_error_sim _ (Or.inr ⟨_, _, rfl, rfl, hs.addControl s e⟩)
  · exact Or.inr ⟨_, _, rfl, rfl, hs⟩

theorem addEdge_sim (f : Facts) (hf : f.Guarded) (im : Impl) (ord ord' : Ord) (hv : ord.Valid) (hv' : ord'.Valid)
    (b b' : Builder) (hs : Sim b b') (hi : Inv im b) (hi' : Inv im b') (s e : Key) :
    (addEdge f im ord b s e false false none).2.cls = (addEdge f im ord' b' s e false false none).2.cls ∧
    (Sim (addEdge f im ord b s e false false none).1 (addEdge f im ord' b' s e false false none).1 ∨
     BothErr (addEdge f im ord b s e false false none).1 (addEdge f im ord' b' s e false false none).1) := by
  simp only [addEdge_eq_guarded, Bool.and_self, Bool.false_eq_true, if_false]
  apply guarded_sim (R := Sim) f.edgeG (by rw [hf.edge]; rfl) b b' hs _ _ _ hs
  rw [addEdgeBody_split, addEdgeBody_split]
  rcases edgeHead_sim hs s e false with ⟨k, e1, e2⟩ | ⟨b1, b1', e1, e2, hs1⟩
  · rw [e1, e2]; exact Or.inl ⟨k, k, rfl, rfl⟩
  · rw [e1, e2]
    simp only [bind, Except.bind, Bool.false_eq_true, ↓reduceIte]
    obtain ⟨hi1, hx1, hx2⟩ := hi.edgeHead e1
    obtain ⟨hi1', -, -⟩ := hi'.edgeHead e2
    rw [show b1'.dataEdges = b1.dataEdges from (simFrame_eq_iff.mp hs1.fr).2.2.2.2.2.1]
    by_cases hd : b1.dataEdges.contains (s, e) = true
    · rw [if_pos hd, if_pos hd]; exact Or.inl ⟨_, _, rfl, rfl⟩
    · rw [if_neg hd, if_neg hd]
      rcases data_sim im ord ord' hv hv' b1 b1' [] [] s e hs1 hi1.c hi1'.c hx1 hx2 with
        ⟨k, k', e1, e2⟩ | ⟨c, c', e1, e2, hsim⟩
      · rw [e1, e2]; exact Or.inl ⟨k, k', rfl, rfl⟩
      · rw [e1, e2]; exact Or.inr ⟨_, _, rfl, rfl, hsim.appendData (s, e)⟩


theorem hasPending_iff (b : Builder) : b.hasPending = true ↔ ∃ s x, x ∈ getSlice b.toValidate s := by
  unfold Builder.hasPending
  simp only [List.any_eq_true, Bool.not_eq_true', Prod.exists]
  constructor
  · rintro ⟨k, l, _, hne⟩
    rcases hg : getSlice b.toValidate k with _ | ⟨x, xs⟩
    · simp [hg] at hne
    · exact ⟨k, x, by rw [hg]; exact List.mem_cons_self⟩
  · rintro ⟨s, x, hx⟩
    obtain ⟨p, hp, hp1⟩ := List.mem_map.mp (mem_getSlice_key hx)
    refine ⟨p.1, p.2, hp, ?_⟩
    rw [hp1]
    rcases hg : getSlice b.toValidate s with _ | ⟨y, ys⟩
    · rw [hg] at hx; simp at hx
    · rfl

theorem Sim.hasPending {b b' : Builder} (h : Sim b b') : b'.hasPending = b.hasPending :=
  Bool.eq_iff_iff.mpr (by simp only [hasPending_iff, h.pend])

/-- what Kahn's loop reads of the builder -/
def dagView (b : Builder) := (b.nodes.map (·.key), b.controlEdges, b.branches)

theorem validateDAG_congr {b b' : Builder} (h : dagView b' = dagView b) (ord : Ord) :
    validateDAG b' ord = validateDAG b ord := by
  simp only [dagView, Prod.mk.injEq] at h
  obtain ⟨hk, hc, hb⟩ := h
  have hsucc : ∀ k, b'.ctrlSucc k = b.ctrlSucc k := by intro k; simp [Builder.ctrlSucc, hc, hb]
  have hpred : ∀ k, b'.ctrlPred k = b.ctrlPred k := by intro k; simp [Builder.ctrlPred, hc, hb]
  have hinit : kahnInit b' = kahnInit b := by
    unfold kahnInit
    have e1 : ∀ (x : Builder), (x.nodes.map fun n =>
        let ps := x.ctrlPred n.key
        (n.key, (ps.length : Int) - (countP (· = START) ps : Nat))) =
        (x.nodes.map (·.key)).map (fun k => (k, ((x.ctrlPred k).length : Int) - (countP (· = START) (x.ctrlPred k) : Nat))) := by
      intro x; simp [List.map_map, Function.comp_def]
    rw [e1 b', e1 b, hk]
    congr 1
    funext k; rw [hpred k]
  have hround : ∀ ks m ch, kahnRound b' ks m ch = kahnRound b ks m ch := by
    intro ks
    induction ks with
    | nil => intro m ch; rfl
    | cons k ks ih =>
      intro m ch
      simp only [kahnRound, hsucc k, ih]
  have hloop : ∀ fuel m, kahnLoop b' ord fuel m = kahnLoop b ord fuel m := by
    intro fuel
    induction fuel with
    | zero => intro m; rfl
    | succ n ih =>
      intro m
      simp only [kahnLoop, hround, ih]
  have hlen : b'.nodes.length = b.nodes.length := by
    have := congrArg List.length hk; simpa using this
  unfold validateDAG
  rw [hlen, hinit, hloop]

theorem Sim.dagView {b b' : Builder} (h : Sim b b') : EinoV.Build.dagView b' = EinoV.Build.dagView b := by
  simp only [EinoV.Build.dagView, keys_of_keysOf h.keys, simFrame_eq_iff.mp h.fr]

theorem compile_sim (f : Facts) (hm : f.compileMutates = false) (ord ord' : Ord)
    (hkahn : ∀ x, KeysOK x → validateDAG x ord' = validateDAG x ord)
    (b b' : Builder) (hs : Sim b b') (hko : KeysOK b) (o : COpts) :
    (compile f ord b o).2.1.cls = (compile f ord' b' o).2.1.cls ∧
    (Sim (compile f ord b o).1 (compile f ord' b' o).1 ∨ BothErr (compile f ord b o).1 (compile f ord' b' o).1) := by
  obtain ⟨h1, h2, h3, h4, h5, h6, h7, h8, h9, h10, h11, h12, h13⟩ := simFrame_eq_iff.mp hs.fr
  have hpre : compilePre f b' o = compilePre f b o := by
    unfold compilePre
    rw [h1, h12, h13, hs.hasPending, hs.hasUntyped hko, h8]
  have hdag : isDag b' o = isDag b o := by unfold isDag; rw [h1]
  have hval : validateDAG b' ord' = validateDAG b ord := by
    rw [validateDAG_congr hs.dagView ord']
    exact hkahn b hko
  have hpost : compilePost b' ord' o = compilePost b ord o := by
    unfold compilePost
    rw [hdag, hval, hs.hasUntyped hko]
  unfold compile
  simp only [hs.err.1, hs.err.2, hpre, mutatePre_off f hm, hpost]
  rcases compilePre f b o with _ | k
  · simp only
    rcases compilePost b ord o with _ | oc
    · simp only
      exact ⟨by simp, Or.inl ⟨simFrame_eq_iff.mpr ⟨h1, h2, h3, h4, h5, h6, h7, h8, rfl, h10, h11, h12, h13⟩,
        hs.err, hs.tin, hs.tout, hs.pend⟩⟩
    · exact ⟨by simp, Or.inl hs⟩
  · exact ⟨by simp, Or.inl hs⟩


theorem Sim.setTy {b b' : Builder} (hs : Sim b b') (k : Key) (t : Ty) : Sim (b.setTy k t) (b'.setTy k t) := by
  refine ⟨?_, hs.err, ?_, ?_, hs.pend⟩
  · have hf := simFrame_eq_iff.mp hs.fr
    exact simFrame_eq_iff.mpr (by simp only [Builder.setTy, setTyIn_keys, hf, and_self])
  · intro x; rw [nodeIn_setTy, nodeIn_setTy, hs.hasNode, hs.tin]
  · intro x; rw [nodeOut_setTy, nodeOut_setTy, hs.hasNode, hs.tout]

theorem Sim.branchStartTyped {b b' : Builder} (hs : Sim b b') (f : Facts) (s : Key) (t : Ty) :
    Sim (branchStartTyped f b s t) (branchStartTyped f b' s t) := by
  unfold EinoV.Build.branchStartTyped
  rw [hs.isPassthrough, hs.tin]
  split
  · exact hs.setTy s t
  · exact hs

theorem branchEnds_sim (im : Impl) (ord ord' : Ord) (hv : ord.Valid) (hv' : ord'.Valid) (s : Key) :
    ∀ (es : List Key) (b b' : Builder) (X X' : List (Key × Key)), Sim b b' → InvC im b X → InvC im b' X' →
      (b.hasNode s = true ∨ b.nodeOut s ≠ none) →
      (∃ k k', branchEnds im ord s es b = .error k ∧ branchEnds im ord' s es b' = .error k') ∨
      (∃ c c', branchEnds im ord s es b = .ok c ∧ branchEnds im ord' s es b' = .ok c' ∧ Sim c c') := by
  intro es
  induction es with
  | nil => intro b b' _ _ hs _ _ _; exact Or.inr ⟨b, b', rfl, rfl, hs⟩
  | cons e es ih =>
    intro b b' X X' hs hi hi' hex
    rw [branchEnds_cons, branchEnds_cons, hs.hasNode]
    by_cases hchk : (!b.hasNode e && e != END) = true
    · simp only [hchk, ↓reduceIte]
      exact Or.inl ⟨_, _, rfl, rfl⟩
    · simp only [hchk, Bool.false_eq_true, ↓reduceIte]
      have he := known_end hchk
      have hex' : b'.hasNode s = true ∨ b'.nodeOut s ≠ none := by rw [hs.hasNode, hs.tout]; exact hex
      have he' : b'.hasNode e = true ∨ b'.nodeIn e ≠ none := by rw [hs.hasNode, hs.tin]; exact he
      rcases data_sim im ord ord' hv hv' b b' X X' s e hs hi hi' hex he with ⟨k, k', e1, e2⟩ | ⟨c, c', e1, e2, hsim⟩
      · simp only [e1, e2]; exact Or.inl ⟨_, _, rfl, rfl⟩
      · simp only [e1, e2]
        obtain ⟨hc1, hfr, hmo⟩ := data_step im ord hv b c X s e hi hex he e1
        obtain ⟨hc1', _, _⟩ := data_step im ord' hv' b' c' X' s e hi' hex' he' e2
        exact ih _ _ _ _ (hsim.noteEnds s e) (hc1.noteEnds s e) (hc1'.noteEnds s e)
          (hmo.known_start (hfr.hasNode s) hex)


end EinoV.Build
