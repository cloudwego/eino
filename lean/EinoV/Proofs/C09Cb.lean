/-
  C09 — callback handlers of concurrent runs: the run invariant of the copying collection
  (`cbs = append(cbs, opt.handler...)` from the nil slice) and the copying `AppendHandlers`
  under Go slice semantics.
-/
import EinoV.Model.C09Cb
import EinoV.Proofs.C09Opt

namespace EinoV.C09.Cb
open EinoV.C10
open EinoV.C09.Opt (Owned Fam Clear read_congr read_empty read_push_of goAppend_spec collect shrink_at)

/-- the handlers held by the option slices `l`, concatenated, as the caller's memory `h0` holds them:
    every content clause of `Inv` reads `h0`, never the current heap -/
def fl (h0 : Heap) (l : List Slice) : List Hd := (l.map h0.read).flatten

theorem fl_nil (h0 : Heap) : fl h0 [] = [] := rfl

theorem fl_append (h0 : Heap) (a b : List Slice) : fl h0 (a ++ b) = fl h0 a ++ fl h0 b := by
  simp [fl]

theorem fl_single (h0 : Heap) (g : Slice) : fl h0 [g] = h0.read g := by simp [fl]

theorem scan_append (a b : List Instr) : ∀ d p : List Slice,
    scan (a ++ b) d p = scan b (scan a d p).1 (scan a d p).2 := by
  induction a with
  | nil => intro d p; rfl
  | cons i rest ih =>
    intro d p
    cases i with
    | collect top g => simp only [List.cons_append, scan]; exact ih _ _
    | install => simp only [List.cons_append, scan]; exact ih _ _

theorem scan_snoc_collect (a : List Instr) (top : Bool) (g : Slice) :
    scan (a ++ [Instr.collect top g]) [] [] = ((scan a [] []).1, (scan a [] []).2 ++ [g]) := by
  rw [scan_append]; rfl

theorem scan_snoc_install (a : List Instr) :
    scan (a ++ [Instr.install]) [] [] = ((scan a [] []).1 ++ (scan a [] []).2, []) := by
  rw [scan_append]; rfl

theorem scan_instrsFrom (lv : List (List Slice)) : ∀ (top : Bool) (d : List Slice),
    scan (instrsFrom top lv) d [] = (d ++ lv.flatten, []) := by
  induction lv with
  | nil => intro top d; simp [instrsFrom, scan]
  | cons l rest ih =>
    intro top d
    have hcol : ∀ (xs : List Slice) (r : List Instr) (d p : List Slice),
        scan (xs.map (Instr.collect top) ++ r) d p = scan r d (p ++ xs) := by
      intro xs
      induction xs with
      | nil => intro r d p; simp
      | cons x xs ihx =>
        intro r d p
        simp only [List.map_cons, List.cons_append, scan]
        rw [ihx]
        simp
    simp only [instrsFrom]
    rw [hcol, scan, ih]
    simp

theorem installed_instrsFrom (lv : List (List Slice)) : installed (instrsFrom true lv) = lv.flatten := by
  simp [installed, scan_instrsFrom]

theorem upd_same (f : Nat → TState) (i : Nat) (v : TState) : upd f i v i = v := by simp [upd]
theorem upd_other (f : Nat → TState) (i j : Nat) (v : TState) (h : j ≠ i) : upd f i v j = f j := by
  simp [upd, h]

/-- Run invariant of the machine in which all three copies are made (`inv_step`, facts
    `⟨true, true, true⟩`).  `len`, `pre`, `own`, `dist` are `Fam` for the threads' lists in progress
    `cbs` (`fam_of_inv`); `safe` and `cin` are `Clear` for every installed list `cur` (`clear_of_inv`);
    `rd` and `sn` say what the lists hold. -/
structure Inv (h0 : Heap) (prog : List Thread) (st : St) : Prop where
  len : h0.length ≤ st.heap.length
  pre : ∀ a, a < h0.length → st.heap[a]? = h0[a]?
  own : ∀ t, Owned h0.length st.heap (st.th t).cbs
  /-- two lists in progress never share an array -/
  dist : ∀ t t', t ≠ t' → (st.th t).cbs.cap ≠ 0 → (st.th t').cbs.cap ≠ 0 →
    (st.th t).cbs.arr ≠ (st.th t').cbs.arr
  /-- no installed list lives in an array some thread is still appending to -/
  safe : ∀ t t', (st.th t').cbs.cap ≠ 0 → (st.th t).cur.len = 0 ∨ (st.th t).cur.arr ≠ (st.th t').cbs.arr
  /-- a non-empty installed list lives in an allocated array: the frame of `goAppend` speaks of those -/
  cin : ∀ t, (st.th t).cur.len = 0 ∨ (st.th t).cur.arr < st.heap.length
  /-- after `pc` instructions the installed list reads as the inherited one followed by what `scan`
      counts as installed, the list in progress as what it counts as pending -/
  rd : ∀ t th, prog[t]? = some th →
    st.heap.read (st.th t).cur = h0.read th.inh ++ fl h0 (scan (th.code.take (st.th t).pc) [] []).1 ∧
    st.heap.read (st.th t).cbs = fl h0 (scan (th.code.take (st.th t).pc) [] []).2
  /-- what a thread has read at its end is the inherited list followed by what its own code installs -/
  sn : ∀ t th r, prog[t]? = some th → (st.th t).seen = some r →
    r = h0.read th.inh ++ fl h0 (installed th.code)

section
variable {h0 : Heap} {prog : List Thread} {st : St}

theorem fam_of_inv (inv : Inv h0 prog st) : Fam h0 st.heap fun t => (st.th t).cbs :=
  ⟨inv.len, inv.pre, inv.own, inv.dist⟩

theorem clear_of_inv (inv : Inv h0 prog st) (u : Nat) :
    Clear st.heap (fun t => (st.th t).cbs) (st.th u).cur := by
  by_cases hl : (st.th u).cur.len = 0
  · exact .inl hl
  · exact .inr ⟨(inv.cin u).resolve_left hl, fun t hc => (inv.safe u t hc).resolve_left hl⟩

theorem inv_of (F : Fam h0 st.heap fun t => (st.th t).cbs)
    (C : ∀ u, Clear st.heap (fun t => (st.th t).cbs) (st.th u).cur)
    (rd : ∀ t th, prog[t]? = some th →
      st.heap.read (st.th t).cur = h0.read th.inh ++ fl h0 (scan (th.code.take (st.th t).pc) [] []).1 ∧
      st.heap.read (st.th t).cbs = fl h0 (scan (th.code.take (st.th t).pc) [] []).2)
    (sn : ∀ t th r, prog[t]? = some th → (st.th t).seen = some r →
      r = h0.read th.inh ++ fl h0 (installed th.code)) : Inv h0 prog st :=
  ⟨F.len, F.pre, F.own, F.dist, fun u t hc => (C u).imp_right fun c => c.2 t hc,
   fun u => (C u).imp_right fun c => c.1, rd, sn⟩

end

theorem inv_init {h0 : Heap} {prog : List Thread} (wf : WF h0 prog) : Inv h0 prog (St.init h0 prog) where
  len := Nat.le_refl _
  pre := fun _ _ => rfl
  own := fun _ => Or.inl ⟨rfl, rfl⟩
  dist := by intro t t' _ h; simp [St.init, Slice.nil] at h
  safe := by intro t t' h; simp [St.init, Slice.nil] at h
  cin := by
    intro t
    simp only [St.init]
    cases hp : prog[t]? with
    | none => left; simp [Slice.nil]
    | some th => simpa using (wf th (List.mem_of_getElem? hp)).1
  rd := by
    intro t th hp
    simp [St.init, hp, scan, fl_nil, read_nil]
  sn := by intro t th r _ h; simp [St.init] at h

/-- Of the content clauses only those of `t` are asked for: another thread keeps its own as long
    as `H` reads its two lists as before. -/
theorem Inv.move {h0 : Heap} {prog : List Thread} {st : St} (inv : Inv h0 prog st) {H : Heap}
    {t : Nat} {v : TState} {th : Thread} (hth : prog[t]? = some th)
    (store : ∀ acc' : Nat → Slice, acc' t = v.cbs → (∀ u, u ≠ t → acc' u = (st.th u).cbs) →
      Fam h0 H acc' ∧ Clear H acc' v.cur ∧ ∀ u, Clear H acc' (st.th u).cur)
    (frame : ∀ u, u ≠ t → H.read (st.th u).cur = st.heap.read (st.th u).cur ∧
      H.read (st.th u).cbs = st.heap.read (st.th u).cbs)
    (rd : H.read v.cur = h0.read th.inh ++ fl h0 (scan (th.code.take v.pc) [] []).1 ∧
      H.read v.cbs = fl h0 (scan (th.code.take v.pc) [] []).2)
    (sn : ∀ r, v.seen = some r → r = h0.read th.inh ++ fl h0 (installed th.code)) :
    Inv h0 prog ⟨H, upd st.th t v⟩ := by
  obtain ⟨F, Ct, Co⟩ := store (fun u => (upd st.th t v u).cbs) (by rw [upd_same])
    (fun u e => by rw [upd_other _ _ _ _ e])
  refine inv_of F (fun u => ?_) (fun u thu hu => ?_) (fun u thu r hu hs => ?_)
  all_goals dsimp only at *; by_cases e : u = t
  · subst e; rw [upd_same]; exact Ct
  · rw [upd_other _ _ _ _ e]; exact Co u
  · subst e; cases hth.symm.trans hu; rw [upd_same]; exact rd
  · rw [upd_other _ _ _ _ e, (frame u e).1, (frame u e).2]; exact inv.rd u thu hu
  · subst e; cases hth.symm.trans hu; rw [upd_same] at hs; exact sn r hs
  · rw [upd_other _ _ _ _ e] at hs; exact inv.sn u thu r hu hs

theorem inv_step {h0 : Heap} {prog : List Thread} (wf : WF h0 prog) {st : St}
    (inv : Inv h0 prog st) (t : Nat) : Inv h0 prog (step ⟨true, true, true⟩ prog st t) := by
  have F := fam_of_inv inv
  have C := clear_of_inv inv
  unfold step
  split
  · exact inv
  · rename_i th hth
    obtain ⟨r1, r2⟩ := inv.rd t th hth
    have sn := fun r => inv.sn t th r hth
    dsimp only
    split
    · -- collect one more option: `append` to the thread's own list
      rename_i top g hg
      have hga : g.arr < h0.length := (wf th (List.mem_of_getElem? hth)).2 top g (List.mem_of_getElem? hg)
      have hcol : collect (Facts.collectCopies ⟨true, true, true⟩ top) st.heap (st.th t).cbs g
          = goAppend st.heap (st.th t).cbs (h0.read g) := by
        cases top <;> simp [collect, Facts.collectCopies, read_congr (inv.pre _ hga)]
      rw [hcol]
      refine inv.move hth (fun acc' ht ho => ⟨F.append t _ ht ho, F.clear_append t _ ht ho (C t),
        fun u => F.clear_append t _ ht ho (C u)⟩)
        (fun u e => ⟨F.read_clear t _ (C u), F.read_other e _⟩) ⟨?_, ?_⟩ sn
      · rw [F.read_clear t _ (C t), take_succ_of_getElem? hg, scan_snoc_collect]
        exact r1
      · rw [(goAppend_spec _ _ _ _ (inv.own t) inv.len).read, r2, take_succ_of_getElem? hg, scan_snoc_collect,
          fl_append, fl_single]
    · -- install: the thread gives its collected list up
      rename_i hg
      have gu : ∀ acc' : Nat → Slice, acc' t = Slice.nil → (∀ u, u ≠ t → acc' u = (st.th u).cbs) →
          Fam h0 st.heap acc' ∧ Clear st.heap acc' (st.th t).cbs ∧ ∀ u, Clear st.heap acc' (st.th u).cur := by
        intro acc' ht ho
        have hs := shrink_at (.inr (by rw [ht]; exact ⟨rfl, rfl⟩)) ho
        exact ⟨F.shrink hs, F.clear_given_up (by rw [ht]; rfl) ho, fun u => (C u).shrink hs⟩
      have hcode : scan (th.code.take ((st.th t).pc + 1)) [] [] =
          ((scan (th.code.take (st.th t).pc) [] []).1 ++ (scan (th.code.take (st.th t).pc) [] []).2, []) := by
        rw [take_succ_of_getElem? hg, scan_snoc_install]
      by_cases hl : (st.th t).cur.len = 0
      · -- nothing in force yet: the collected list itself becomes the handler list
        have hin : install true st.heap (st.th t).cur (st.th t).cbs = (st.heap, (st.th t).cbs) := by
          simp [install, hl]
        rw [hin]
        refine inv.move hth gu (fun u _ => ⟨rfl, rfl⟩) ?_ sn
        rw [read_empty _ _ hl] at r1
        dsimp only
        rw [hcode, r2, fl_append, ← List.append_assoc, ← r1]
        exact ⟨rfl, read_nil _⟩
      · -- a manager exists: its list is copied into a fresh array, the collected one appended
        -- (the heap of `copyAppend` is `st.heap ++ [_]` by definition)
        have hin : install true st.heap (st.th t).cur (st.th t).cbs
            = copyAppend st.heap (st.th t).cur (st.heap.read (st.th t).cbs) := by
          simp [install, hl, appendH]
        rw [hin]
        refine inv.move hth (fun acc' ht ho => have ⟨F', _, C'⟩ := gu acc' ht ho
            ⟨F'.push _, F'.clear_fresh _ (copyAppend_arr ..), fun u => (C' u).push _⟩)
          (fun u _ => ⟨read_push_of (inv.cin u) _, read_push_of ((inv.own u).imp (·.1) (·.2.1)) _⟩) ?_ sn
        dsimp only
        rw [hcode, copyAppend_read, r1, r2, fl_append, List.append_assoc]
        exact ⟨rfl, read_nil _⟩
    · -- the unit fires a callback: read
      rename_i hg
      split
      · exact inv
      · refine inv.move hth (fun acc' ht ho => have hs := shrink_at (.inl ht) ho
            ⟨F.shrink hs, (C t).shrink hs, fun u => (C u).shrink hs⟩)
          (fun u _ => ⟨rfl, rfl⟩) ⟨r1, r2⟩ (fun r hs => ?_)
        cases hs
        rw [r1, List.take_of_length_le (by simpa using hg)]
        rfl

theorem inv_exec {h0 : Heap} {prog : List Thread} (wf : WF h0 prog) (sched : List Nat) :
    ∀ st, Inv h0 prog st → Inv h0 prog (exec ⟨true, true, true⟩ prog sched st) :=
  Sched.inv_exec _ (exec ⟨true, true, true⟩ prog) (fun _ => rfl) (fun _ _ _ => rfl) (Inv h0 prog)
    (fun _ t h => inv_step wf h t) sched

theorem step_th_other (F : Facts) (prog : List Thread) (st : St) {t u : Nat} (e : u ≠ t) :
    (step F prog st t).th u = st.th u := by
  unfold step
  split
  · rfl
  · dsimp only
    split
    · exact upd_other _ _ _ _ e
    · exact upd_other _ _ _ _ e
    · split
      · rfl
      · exact upd_other _ _ _ _ e

theorem step_pc_lt (F : Facts) {prog : List Thread} {st : St} {t : Nat} {th : Thread}
    (hp : prog[t]? = some th) (hlt : (st.th t).pc < th.code.length) :
    ((step F prog st t).th t).pc = (st.th t).pc + 1 := by
  simp only [step, hp, List.getElem?_eq_getElem hlt]
  split <;> simp_all [upd_same]

theorem step_seen_ge (F : Facts) {prog : List Thread} {st : St} {t : Nat} {th : Thread}
    (hp : prog[t]? = some th) (hge : th.code.length ≤ (st.th t).pc) :
    ((step F prog st t).th t).seen.isSome = true := by
  simp only [step, hp, List.getElem?_eq_none hge]
  split
  · assumption
  · simp [upd_same]

theorem seen_step (F : Facts) (prog : List Thread) (st : St) (j t : Nat)
    (h : (st.th t).seen.isSome = true) : ((step F prog st j).th t).seen.isSome = true := by
  by_cases e : t = j
  · subst e
    unfold step
    split
    · exact h
    · dsimp only
      split
      · simpa [upd_same] using h
      · simpa [upd_same] using h
      · split <;> exact h
  · rw [step_th_other F prog st e]; exact h

theorem mem_instrsFrom {g : Slice} {tp : Bool} : ∀ (lv : List (List Slice)) (top : Bool),
    Instr.collect tp g ∈ instrsFrom top lv → ∃ l, l ∈ lv ∧ g ∈ l := by
  intro lv
  induction lv with
  | nil => intro top h; simp [instrsFrom] at h
  | cons l rest ih =>
    intro top h
    simp only [instrsFrom, List.mem_append, List.mem_map, List.mem_cons] at h
    rcases h with ⟨x, hx, he⟩ | h | h
    · cases he; exact ⟨l, by simp, hx⟩
    · cases h
    · obtain ⟨l', hl', hg⟩ := ih false h
      exact ⟨l', by simp [hl'], hg⟩

theorem wf_progOf {h0 : Heap} {calls : List Call} (wf : CallsWF h0 calls)
    (threads : List (Nat × Opt.Path)) : WF h0 (progOf calls threads) := by
  intro th hth
  simp only [progOf, List.mem_map] at hth
  obtain ⟨ip, _, rfl⟩ := hth
  rw [List.getD_eq_getElem?_getD]
  cases hc : calls[ip.1]? with
  | none =>
    simp only [Option.getD_none, threadOf]
    refine ⟨Or.inl rfl, ?_⟩
    intro top g hg
    obtain ⟨l, hl, hgl⟩ := mem_instrsFrom _ _ hg
    simp [levels, collectedAt] at hl
    obtain ⟨q, _, rfl⟩ := hl
    simp at hgl
  | some c =>
    simp only [Option.getD_some, threadOf]
    have hcm := wf c (List.mem_of_getElem? hc)
    refine ⟨hcm.1, ?_⟩
    intro top g hg
    obtain ⟨l, hl, hgl⟩ := mem_instrsFrom _ _ hg
    simp only [levels, List.mem_map] at hl
    obtain ⟨q, _, rfl⟩ := hl
    simp only [collectedAt, List.mem_map, List.mem_filter] at hgl
    obtain ⟨grp, ⟨hm, _⟩, rfl⟩ := hgl
    exact hcm.2 grp hm

theorem inForce_eq (h0 : Heap) (c : Call) (p : Opt.Path) :
    inForce h0 c.inh c.gs p = h0.read (threadOf c p).inh ++ fl h0 (installed (threadOf c p).code) := by
  simp [inForce, threadOf, installed_instrsFrom, fl]

end EinoV.C09.Cb
