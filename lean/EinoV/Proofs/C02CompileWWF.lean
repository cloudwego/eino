/-
  A well-formed acyclic `WorkflowDef` compiles (`compileW`) to a runner satisfying `DagWF`, `DagWF2`,
  `DagWF3`, the hypotheses of the run-level theorems (`compileW_wf`); the executable check `workflowDefWFb`
  implies `WorkflowDefWF` (`workflowDefWFb_sound`).
-/
import EinoV.Proofs.C02CompileWF
import EinoV.Proofs.C02Eager
import EinoV.Spec.WorkflowDefWF

namespace EinoV.Engine
namespace DagRun

theorem depsPreds_inv (deps : List WDep) (sel : WDep → Bool) (m : List (Key × List Key)) (t p : Key)
    (h : p ∈ lookupList t (deps.foldl (fun m d => if sel d then addPred m d.to d.from_ else m) m)) :
    p ∈ lookupList t m ∨ ∃ d, d ∈ deps ∧ sel d = true ∧ d.from_ = p ∧ d.to = t :=
  ((mem_fold_deps sel deps m t p).mp h).imp_right fun ⟨d, hd, hs, ht, hp⟩ => ⟨d, hd, hs, hp, ht⟩

theorem compileW_ctrlPreds_inv {V} (ops : ValOps V) (w : WorkflowDef V) (t p : Key)
    (h : p ∈ lookupList t (compileW ops w).ctrlPreds) :
    (∃ d, d ∈ w.deps ∧ d.control = true ∧ d.from_ = p ∧ d.to = t) ∨
    ∃ b, b ∈ w.branches ∧ b.1 = p ∧ t ∈ b.2.ends := by
  rcases (compileW_ctrlPreds ops w t p).mp h with ⟨d, hd, hc, ht, hf⟩ | h
  · exact Or.inl ⟨d, hd, hc, hf, ht⟩
  · exact Or.inr h

theorem compileW_dataPreds_inv {V} (ops : ValOps V) (w : WorkflowDef V) (t p : Key)
    (h : p ∈ lookupList t (compileW ops w).dataPreds) :
    ∃ d, d ∈ w.deps ∧ d.data = true ∧ d.from_ = p ∧ d.to = t := by
  obtain ⟨d, hd, hc, ht, hf⟩ := (compileW_dataPreds ops w t p).mp h
  exact ⟨d, hd, hc, hf, ht⟩

theorem compileW_keys {V} (ops : ValOps V) (w : WorkflowDef V) :
    akeys (initChans (compileW ops w)) = w.nodes.map (·.1) ++ [END] := by
  rw [akeys_initChans, show (compileW ops w).nodes = w.nodes.map _ from rfl, List.map_map]
  rfl

theorem compileW_call {V} (ops : ValOps V) (w : WorkflowDef V) (p : Key) (nd : Node V)
    (h : (compileW ops w).call? p = some nd) :
    nd.writeTo = w.dataOut p ∧ nd.controls = w.ctrlOut p ∧ nd.branches = w.branchesOf p := by
  obtain ⟨hm, rfl⟩ := call?_some (compileW ops w) rfl p nd h
  rcases hm with hm | rfl
  · obtain ⟨q, _, rfl⟩ := List.mem_map.mp hm
    exact ⟨rfl, rfl, rfl⟩
  · exact ⟨rfl, rfl, rfl⟩

theorem compileW_wf {V} (ops : ValOps V) (w : WorkflowDef V) (wfw : WorkflowDefWF w) :
    DagWF (compileW ops w) ∧ DagWF2 (compileW ops w) ∧ DagWF3 (compileW ops w) := by
  obtain ⟨rank, hrd, hrb⟩ := wfw.acyclic
  have hdag : (compileW ops w).dag = true := rfl
  have hkeys := compileW_keys ops w
  have hrank : ∀ n p, (p ∈ lookupList n (compileW ops w).ctrlPreds ∨
      p ∈ lookupList n (compileW ops w).dataPreds) → rank p < rank n := by
    intro n p hp
    rcases hp with hp | hp
    · rcases compileW_ctrlPreds_inv ops w n p hp with ⟨d, hd, _, rfl, rfl⟩ | ⟨b, hb, rfl, ht⟩
      · exact hrd d hd
      · exact hrb b hb n ht
    · obtain ⟨d, hd, _, rfl, rfl⟩ := compileW_dataPreds_inv ops w n p hp
      exact hrd d hd
  have htgt : ∀ n p, p ∈ lookupList n (compileW ops w).ctrlPreds → n = END ∨ n ∈ w.nodes.map (·.1) := by
    intro n p hp
    rcases compileW_ctrlPreds_inv ops w n p hp with ⟨d, hd, hc, _, rfl⟩ | ⟨b, hb, _, ht⟩
    · exact wfw.depTo d hd hc
    · exact wfw.brTo b hb n ht
  have hctl : ∀ n p, p ∈ lookupList n (compileW ops w).dataPreds →
      ∃ q, q ∈ lookupList n (compileW ops w).ctrlPreds := by
    intro n p hp
    obtain ⟨d, hd, hdat, _, rfl⟩ := compileW_dataPreds_inv ops w n p hp
    rcases wfw.hasCtrl d hd hdat with ⟨d', hd', hc', ht'⟩ | ⟨br, hbr, hin⟩
    · exact ⟨d'.from_, (compileW_ctrlPreds ops w d.to d'.from_).mpr (Or.inl ⟨d', hd', hc', ht', rfl⟩)⟩
    · exact ⟨br.1, (compileW_ctrlPreds ops w d.to br.1).mpr (Or.inr ⟨br, hbr, rfl, hin⟩)⟩
  refine wf_of_preds _ hdag rfl _ hkeys wfw.keys wfw.noStart wfw.noEnd (compileW_succOK ops w) ?_ ?_ htgt hctl rank hrank
  · intro m p hp nd hn
    obtain ⟨_, hc, hb⟩ := compileW_call ops w p nd hn
    rw [hc, hb]
    rcases compileW_ctrlPreds_inv ops w m p hp with ⟨d, hd, hctl, rfl, rfl⟩ | ⟨b, hbm, rfl, ht⟩
    · exact Or.inl (List.mem_map.mpr ⟨d, List.mem_filter.mpr ⟨hd, by simp [hctl]⟩, rfl⟩)
    · exact Or.inr (List.mem_flatMap.mpr ⟨{ b.2 with noData := true },
        List.mem_map.mpr ⟨b, List.mem_filter.mpr ⟨hbm, beq_self_eq_true b.1⟩, rfl⟩, ht⟩)
  · intro m p hp nd hn
    obtain ⟨hw, _, _⟩ := compileW_call ops w p nd hn
    rw [hw]
    obtain ⟨d, hd, hdat, rfl, rfl⟩ := compileW_dataPreds_inv ops w m p hp
    exact Or.inl (List.mem_map.mpr ⟨d, List.mem_filter.mpr ⟨hd, by simp [hdat]⟩, rfl⟩)

/-- the executable check of `WorkflowDefWF` (evaluated by the C02 oracle on every generated
    Workflow case) implies it -/
theorem workflowDefWFb_sound {V} (ops : ValOps V) (w : WorkflowDef V) (h : workflowDefWFb ops w = true) :
    WorkflowDefWF w := by
  simp only [workflowDefWFb, Bool.and_eq_true, List.all_eq_true, Bool.or_eq_true,
    beq_iff_eq, List.contains_eq_mem, decide_eq_true_eq, decide_eq_false_iff_not, List.any_eq_true,
    Bool.not_eq_eq_eq_not, Bool.not_true] at h
  obtain ⟨⟨⟨⟨⟨⟨⟨h2, h3⟩, h4⟩, h5⟩, h6⟩, h9⟩, h7⟩, h8⟩ := h
  refine ⟨nodupb_sound _ h2, h3, h4, ?_, h6, ?_, ⟨_, h7, h8⟩⟩
  · intro d hd hc
    rcases h5 d hd with (h | h) | h
    · rw [hc] at h; exact absurd h (by decide)
    · exact Or.inl h
    · exact Or.inr h
  · intro d hd hdat
    rcases h9 d hd with (h | ⟨d', hd', hc, ht⟩) | ⟨b, hb, hin⟩
    · rw [hdat] at h; exact absurd h (by decide)
    · exact Or.inl ⟨d', hd', hc, ht⟩
    · exact Or.inr ⟨b, hb, hin⟩

end DagRun
end EinoV.Engine
