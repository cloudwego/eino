/-
  Go maps with a key type other than `string` (`GoMapK`, Model/GoSemReg.lean).
-/
import EinoV.Model.GoSemReg
namespace EinoV.GoSem

theorem lookupK_set_same {κ α} [BEq κ] [LawfulBEq κ] (m : GoMapK κ α) (k : κ) (v : α) :
    GoMapK.lookup k (m.set k v) = some v := by
  induction m with
  | nil => simp [GoMapK.set, GoMapK.lookup]
  | cons p m ih =>
    obtain ⟨k', v'⟩ := p
    by_cases h : (k' == k) = true <;> simp [GoMapK.set, GoMapK.lookup, h, ih]

theorem lookupK_set_other {κ α} [BEq κ] [LawfulBEq κ] (m : GoMapK κ α) (k k' : κ) (v : α) (h : ¬ k = k') :
    GoMapK.lookup k' (m.set k v) = GoMapK.lookup k' m := by
  induction m with
  | nil => simp [GoMapK.set, GoMapK.lookup, h]
  | cons p m ih =>
    obtain ⟨k0, v0⟩ := p
    by_cases h0 : (k0 == k) = true
    · have e : k0 = k := by simpa using h0
      subst e
      simp [GoMapK.set, GoMapK.lookup, h]
    · simp only [GoMapK.set, h0, Bool.false_eq_true, if_false, GoMapK.lookup, ih]

theorem keys_setK {κ α} [BEq κ] [LawfulBEq κ] (m : GoMapK κ α) (k : κ) (v : α) :
    (m.set k v).map (·.1) = if k ∈ m.map (·.1) then m.map (·.1) else m.map (·.1) ++ [k] := by
  induction m with
  | nil => simp [GoMapK.set]
  | cons p m ih =>
    obtain ⟨k0, v0⟩ := p
    simp only [GoMapK.set]
    by_cases hk0 : (k0 == k) = true
    · have hk' : k0 = k := by simpa using hk0
      simp [hk']
    · have hne : ¬ k = k0 := fun e => hk0 (by simp [e])
      simp only [hk0, Bool.false_eq_true, if_false, List.map_cons, ih, List.mem_cons, hne, false_or]
      split <;> simp

theorem nodup_keys_setK {κ α} [BEq κ] [LawfulBEq κ] (m : GoMapK κ α) (k : κ) (v : α) (hn : (m.map (·.1)).Nodup) :
    ((m.set k v).map (·.1)).Nodup := by
  rw [keys_setK]
  split
  · exact hn
  · rename_i hk
    exact List.nodup_append.mpr ⟨hn, by simp, by intro a ha b hb; simp at hb; subst hb; intro e; exact hk (e ▸ ha)⟩

theorem mem_iff_lookupK {κ α} [BEq κ] [LawfulBEq κ] {m : GoMapK κ α} (hn : (m.map (·.1)).Nodup) (k : κ) (v : α) :
    (k, v) ∈ m ↔ GoMapK.lookup k m = some v := by
  induction m with
  | nil => simp [GoMapK.lookup]
  | cons p m ih =>
    obtain ⟨k0, v0⟩ := p
    rw [List.map_cons, List.nodup_cons] at hn
    simp only [GoMapK.lookup, List.mem_cons, Prod.mk.injEq]
    by_cases hk : k0 = k
    · -- the head has the key, and no later entry has it
      subst hk
      have : (k0, v) ∉ m := fun h => hn.1 (List.mem_map_of_mem (f := (·.1)) h)
      simp [this, eq_comm]
    · have hne : ¬ (k0 == k) = true := by simpa using hk
      simp [hne, Ne.symm hk, ih hn.2]

end EinoV.GoSem
