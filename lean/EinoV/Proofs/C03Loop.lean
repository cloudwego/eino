/-
  C03 — helper lemmas for `Model/C03Loop.lean`: `submit` with failing pre-processors, the
  interrupt path of the run loop, and the engine with interrupt points.
-/
import EinoV.Model.C03Loop
import EinoV.Proofs.C03

set_option linter.unusedSimpArgs false

namespace EinoV.C03

theorem submitP_first_fail {F : Facts} {L : LoopFacts} (hL : L.submitPreprocessesFirst = true)
    {needAll : Bool} {s s' : St} {ts bad : List Task}
    (h : submitP F L needAll s ts bad = some (s', true)) : s' = s := by
  revert h
  -- the branches of `submitP`: 1 the collector is not idle; with `submitPreprocessesFirst`: 2 some
  -- pre-processor fails (nothing started), 3 none fails (a plain `submit`); without it (excluded by
  -- `hL` here): 4 none fails, 5 the tasks in front of the first failing one are started
  fun_cases submitP F L needAll s ts bad with
  | case1 => nofun
  | case2 => intro h; cases h; rfl
  | case3 => intro h; obtain ⟨_, _, h⟩ := Option.map_eq_some_iff.1 h; cases h
  | case4 _ hn => exact absurd hL hn
  | case5 _ hn => exact absurd hL hn

theorem submitP_first_ok {F : Facts} {L : LoopFacts} (hL : L.submitPreprocessesFirst = true)
    {needAll : Bool} {s s' : St} {ts bad : List Task}
    (h : submitP F L needAll s ts bad = some (s', false)) :
    step F needAll s (.submit ts) = some s' ∧ ts.any bad.contains = false := by
  revert h
  fun_cases submitP F L needAll s ts bad with  -- cases as in `submitP_first_fail`
  | case1 => nofun
  | case2 => nofun
  | case3 _ _ hb =>
    intro h
    obtain ⟨s1, hs, h⟩ := Option.map_eq_some_iff.1 h
    cases h
    exact ⟨hs, Bool.eq_false_iff.2 hb⟩
  | case4 _ hn => exact absurd hL hn
  | case5 _ hn => exact absurd hL hn

theorem interruptPath_spec {F : Facts} {L : LoopFacts} {needAll : Bool} :
    ∀ (evs : List Ev) {k : Nat} {s s' : St}, interruptPath F L needAll k s evs = some s' →
      ∃ pre suf k', evs = pre ++ suf ∧ (∀ e ∈ pre, e.isSubmit = false) ∧
        run F needAll s pre = some s' ∧ pathReturns L needAll k' s' = true := by
  intro evs k s s' h
  -- the branches of `interruptPath`: schedule used up and the call 1 returns, 2 does not; an event
  -- `e` is left and 3 the call returns before it, 4 `e` is a `submit`, 5 `e` is not enabled,
  -- 6 `e` is taken and the path goes on
  fun_induction interruptPath F L needAll k s evs with
  | case1 k s hp => cases h; exact ⟨[], [], k, rfl, nofun, rfl, hp⟩
  | case2 => cases h
  | case3 k s e es hp => cases h; exact ⟨[], e :: es, k, rfl, nofun, rfl, hp⟩
  | case4 => cases h
  | case5 => cases h
  | case6 k s e es _ hsub s1 hs ih =>
    obtain ⟨pre, suf, k', he, hns, hr, hp⟩ := ih h
    exact ⟨e :: pre, suf, k', by rw [he]; rfl,
      List.forall_mem_cons.2 ⟨Bool.eq_false_iff.2 hsub, hns⟩, run_cons_some.2 ⟨s1, hs, hr⟩, hp⟩

theorem stuck_idle_zero {F : Facts} (hF : F.Good) (needAll : Bool) {s : St} (hI : Inv F s)
    (hstuck : ∀ e, e.isSubmit = false → step F needAll s e = none) :
    s.num = 0 ∧ s.coll = .idle := by
  have hrun : s.running = [] := by
    cases hr : s.running with
    | nil => rfl
    | cons t rest =>
      have := hstuck (.finish t false) rfl
      simp [step, hr] at this
  have hcoll : s.coll = .idle := by
    cases hc : s.coll with
    | idle => rfl
    | inline t =>
      have := hI.inl t hc
      simp [hrun] at this
    | window =>
      have := hstuck .refill rfl
      simp [step, hc] at this
  refine ⟨?_, hcoll⟩
  apply Classical.byContradiction
  intro hn
  rcases inv_progress hF needAll hI hn hrun with ⟨_, h1⟩ | ⟨hw, _⟩
  · rw [hstuck .recv rfl] at h1; cases h1
  · rw [hcoll] at hw; cases hw

theorem interruptPath_returns {F : Facts} (hF : F.Good) {L : LoopFacts} {needAll : Bool} :
    ∀ (evs : List Ev) {k : Nat} {s s' : St}, Inv F s → (∀ e ∈ evs, e.isSubmit = false) →
      run F needAll s evs = some s' →
      (∀ e, e.isSubmit = false → step F needAll s' e = none) →
      (interruptPath F L needAll k s evs).isSome = true := by
  intro evs k s s' hI hns hr hstuck
  induction evs generalizing k s with
  | nil =>
    cases hr
    obtain ⟨hn, hc⟩ := stuck_idle_zero hF needAll hI hstuck
    simp [interruptPath, pathReturns, hn, hc]
  | cons e es ih =>
    obtain ⟨s1, hs, hr⟩ := run_cons_some.1 hr
    obtain ⟨hne, hns⟩ := List.forall_mem_cons.1 hns
    rw [interruptPath]
    by_cases hp : pathReturns L needAll k s = true
    · rw [if_pos hp]; rfl
    · rw [if_neg hp, if_neg (Bool.eq_false_iff.1 hne), hs]
      exact ih (step_inv hF needAll hI hs) hns hr

theorem mem_prio {order l : List Key} {k : Key} (h : k ∈ l) : k ∈ prio order l := by
  simp only [prio, List.mem_append, List.mem_filter]
  by_cases ho : k ∈ order
  · exact Or.inl ⟨ho, by simpa using h⟩
  · exact Or.inr ⟨h, by simpa using ho⟩

theorem iDrain_state (g : GCase) :
    ∀ (ks : List Key) (st : EState) (infl : List Key) (acc : List IStep),
      (iDrain g st ks infl acc).1.done = st.done ++ ks ∧
      (iDrain g st ks infl acc).1.started = st.started := by
  intro ks st infl acc
  fun_induction iDrain g st ks infl acc with
  | case1 => exact ⟨(List.append_nil _).symm, rfl⟩
  | case2 _ _ _ _ _ ih => rw [ih.1, ih.2]; exact ⟨List.append_assoc _ _ _, rfl⟩

/-- Started ⇒ collected or in flight, `infl` being the loop's own list of outstanding executions: the
    invariant of `iEager` / `iBatch` / `iDrain` (and of `cBatch`).  At `infl = []` it says that nothing
    started is left uncollected (`iUncollected_nil_of_covered`). -/
def Covered (st : EState) (infl : List Key) : Prop := ∀ k ∈ st.started, k ∈ st.done ∨ k ∈ infl

theorem iUncollected_nil_of_covered {st : EState} (h : Covered st []) : iUncollected st = [] := by
  simp only [iUncollected, List.filter_eq_nil_iff]
  intro k hk
  rcases h k hk with hd | hi
  · simp [hd]
  · cases hi

theorem covered_collect {g : GCase} {st : EState} {infl : List Key} {k : Key}
    (hc : Covered st infl) : Covered (iCollect g st k) (infl.erase k) := by
  intro x hx
  simp only [iCollect] at hx ⊢
  rcases hc x hx with h | h
  · exact Or.inl (List.mem_append_left _ h)
  · by_cases hxk : x = k
    · subst hxk; exact Or.inl (by simp)
    · exact Or.inr ((List.mem_erase_of_ne hxk).2 h)

theorem covered_start {st : EState} {infl next : List Key} (hc : Covered st infl) :
    Covered (iStart st next) (infl ++ next) := by
  intro x hx
  simp only [iStart, List.mem_append] at hx ⊢
  rcases hx with h | h
  · rcases hc x h with h1 | h1
    · exact Or.inl h1
    · exact Or.inr (Or.inl h1)
  · exact Or.inr (Or.inr h)

theorem covered_drain_all {g : GCase} {order : List Key} {st : EState} {infl : List Key}
    (acc : List IStep) (hc : Covered st infl) :
    Covered (iDrain g st (prio order infl) infl acc).1 [] := by
  have hd := iDrain_state g (prio order infl) st infl acc
  intro k hk
  rw [hd.2] at hk
  left
  rw [hd.1]
  rcases hc k hk with h | h
  · exact List.mem_append_left _ h
  · exact List.mem_append_right _ (mem_prio h)

theorem covered_mono {st : EState} {a b : List Key} (hc : Covered st a) (hab : ∀ k ∈ a, k ∈ b) :
    Covered st b := by
  intro k hk
  rcases hc k hk with h | h
  · exact Or.inl h
  · exact Or.inr (hab k h)

/-- with `waitAll` on the interrupt path (or in batch mode) an Invoke that ends in an
    interrupt has collected everything it started -/
theorem iInterrupt_covered (c : ICfg) {L : LoopFacts}
    (hL : (L.interruptPathWaitsAll || !c.eager) = true) {st : EState} {infl : List Key}
    (next bef aft : List Key) (acc : List IStep) (hc : Covered st infl) :
    Covered (iInterrupt c L st infl next bef aft acc).st [] := by
  have hst : (iInterrupt c L st infl next bef aft acc).st
      = (iDrain c.g st (prio c.order infl) infl acc).1 := by
    simp only [iInterrupt, hL, if_true]
    split <;> rfl
  rw [hst]
  exact covered_drain_all acc hc

theorem iEager_interrupt_covered (c : ICfg) {L : LoopFacts}
    (hL : (L.interruptPathWaitsAll || !c.eager) = true) :
    ∀ (n : Nat) (st : EState) (infl : List Key) (acc : List IStep), Covered st infl →
      ∀ b a p, (iEager c L n st infl acc).out = .interrupt b a p →
        Covered (iEager c L n st infl acc).st [] := by
  intro n st infl acc hc b a p
  -- the branches of `iEager`, and of `iBatch` below: 1 no fuel, 2 nothing outstanding (both `.stuck`),
  -- 3 END is ready after the collection (`.ok`), 4 no interrupt point is hit and the loop goes on,
  -- 5 one is hit and `iInterrupt` ends the Invoke
  fun_induction iEager c L n st infl acc with
  | case1 | case2 | case3 => nofun
  | case4 => rename_i ih; exact ih (covered_start (covered_collect hc))
  | case5 => exact fun _ => iInterrupt_covered c hL _ _ _ _ (covered_collect hc)

theorem iBatch_interrupt_covered (c : ICfg) {L : LoopFacts}
    (hL : (L.interruptPathWaitsAll || !c.eager) = true) :
    ∀ (n : Nat) (st : EState) (infl : List Key) (acc : List IStep), Covered st infl →
      ∀ b a p, (iBatch c L n st infl acc).out = .interrupt b a p →
        Covered (iBatch c L n st infl acc).st [] := by
  intro n st infl acc hc b a p
  fun_induction iBatch c L n st infl acc with  -- cases as for `iEager`
  | case1 | case2 | case3 => nofun
  | case4 => rename_i ih; exact ih (covered_mono (covered_start (covered_drain_all _ hc)) (by simp))
  | case5 => exact fun _ => iInterrupt_covered c hL _ _ _ _ (covered_drain_all _ hc)

theorem iLoop_interrupt_covered (c : ICfg) {L : LoopFacts}
    (hL : (L.interruptPathWaitsAll || !c.eager) = true) (st : EState) (infl : List Key)
    (hc : Covered st infl) (b a p : List Key) (h : (iLoop c L st infl).out = .interrupt b a p) :
    Covered (iLoop c L st infl).st [] := by
  unfold iLoop at h ⊢
  split
  · rename_i he; simp only [he, if_true] at h
    exact iEager_interrupt_covered c hL _ _ _ _ hc b a p h
  · rename_i he; simp only [he, Bool.false_eq_true, if_false] at h
    exact iBatch_interrupt_covered c hL _ _ _ _ hc b a p h

theorem covered_iInit (g : GCase) : Covered (iInit g) [] := by
  intro k hk
  simp only [iInit, List.mem_singleton] at hk
  left; simp [iInit, hk]

theorem iFirst_interrupt_covered (c : ICfg) {L : LoopFacts}
    (hL : (L.interruptPathWaitsAll || !c.eager) = true) (b a p : List Key)
    (h : (iFirst c L).out = .interrupt b a p) : Covered (iFirst c L).st [] := by
  unfold iFirst at h ⊢
  simp only at h ⊢
  split
  · exact covered_iInit c.g
  · rename_i hb
    simp only [hb, Bool.false_eq_true, if_false] at h
    refine iLoop_interrupt_covered c hL _ _ ?_ b a p h
    exact covered_mono (covered_start (covered_iInit c.g)) (by simp)

theorem iResume_interrupt_covered (c : ICfg) {L : LoopFacts}
    (hL : (L.interruptPathWaitsAll || !c.eager) = true) (st : EState) (pending : List Key)
    (hc : Covered st []) (b a p : List Key)
    (h : (iResume c L st pending).out = .interrupt b a p) :
    Covered (iResume c L st pending).st [] := by
  unfold iResume at h ⊢
  refine iLoop_interrupt_covered c hL _ _ ?_ b a p h
  exact covered_mono (covered_start hc) (by simp)

theorem iRuns_interrupt_covered (c : ICfg) {L : LoopFacts}
    (hL : (L.interruptPathWaitsAll || !c.eager) = true) :
    ∀ (n : Nat) (v : IInvoke), (∀ b a p, v.out = .interrupt b a p → Covered v.st []) →
      ∀ w ∈ iRuns c L n v, ∀ b a p, w.out = .interrupt b a p → Covered w.st [] := by
  intro n v hv w hw
  -- the branches of `iRuns`: 1 no fuel, 2 `v` ended in an interrupt and is resumed, 3 `v` ended otherwise
  fun_induction iRuns c L n v with
  | case1 => exact List.mem_singleton.1 hw ▸ hv
  | case2 n v b0 a0 p0 hout ih =>
    rcases List.mem_cons.1 hw with rfl | hm
    · exact hv
    · exact ih (iResume_interrupt_covered c hL _ _ (hv b0 a0 p0 hout)) hm
  | case3 => exact List.mem_singleton.1 hw ▸ hv

end EinoV.C03
