/- C20: no call on a keyed builder panics (Model/C20Keys.lean), given that
   `forMapInput` / `forMapOutput` accept a nil helper and `compile` checks the own types. -/
import EinoV.Model.C20Keys
import EinoV.Proofs.C20
import EinoV.Proofs.C20Infer

namespace EinoV.Build

/-- the start node of the work-list entry at hand can hand out a helper: it has an own output
    type, or a key option (then the nil helper is accepted) -/
def XB.outHelper (x : XB) (s : Key) : Prop := (x.b.nodeOut s).isSome = true ∨ x.keyed s = true

theorem XB.setTy_keyed (x : XB) (k : Key) (t : Ty) (s : Key) : (x.setTy k t).keyed s = x.keyed s := rfl

theorem nodeOut_setTy_isSome (b : Builder) (k : Key) (t : Ty) (s : Key) (h : (b.nodeOut s).isSome = true) :
    ((b.setTy k t).nodeOut s).isSome = true := by
  rcases (setTy_cases b k t s).2 with e | ⟨_, e⟩
  · rw [e]; exact h
  · rw [e]; rfl

theorem XB.outHelper_setTy {x : XB} {s : Key} (h : x.outHelper s) (k : Key) (t : Ty) : (x.setTy k t).outHelper s := by
  rcases h with h | h
  · exact Or.inl (nodeOut_setTy_isSome x.b k t s h)
  · exact Or.inr h

theorem XB.outHelper_of_shown (x : XB) (s : Key) (h : (x.nodeOut s).isSome = true) : x.outHelper s := by
  unfold XB.nodeOut at h
  split at h
  · rename_i hk; exact Or.inr (by unfold XB.keyed; rw [hk]; simp)
  · exact Or.inl h

theorem XB.helperNilOut_false (K : KFacts) (hK : K.helperNilSafe = true) (x : XB) (s : Key) (h : x.outHelper s) :
    x.helperNilOut K s = false := by
  unfold XB.helperNilOut
  rcases h with h | h
  · rw [← Option.not_isSome, h]
    rfl
  · simp [hK, h]

theorem XB.helperNilIn_false (K : KFacts) (hK : K.helperNilSafe = true) (x : XB) (e : Key) (t : Ty)
    (h : x.nodeIn e = some t) : x.helperNilIn K e = false := by
  unfold XB.helperNilIn
  unfold XB.nodeIn at h
  split at h
  · rename_i hk
    have : x.keyed e = true := by unfold XB.keyed; rw [hk]; rfl
    simp [hK, this]
  · simp [h]

theorem procEntriesX_no_panic (K : KFacts) (hK : K.helperNilSafe = true) (im : Impl) (s : Key) (sTy : Option Ty) :
    ∀ (l : List PEdge) (x : XB) (kept : List PEdge) (ch : Bool),
      (sTy.isSome = true → x.outHelper s) → procEntriesX K im s sTy l x kept ch ≠ .error .panic
  | [], x, kept, ch, _ => by simp [procEntriesX]
  | pe :: rest, x, kept, ch, hs => by
    unfold procEntriesX
    split
    · exact procEntriesX_no_panic K hK im s _ rest x _ _ hs
    · rw [XB.helperNilOut_false K hK x s (hs rfl)]
      simp only [Bool.false_eq_true, ↓reduceIte]
      exact procEntriesX_no_panic K hK im s _ rest _ _ _ (fun h => XB.outHelper_setTy (hs h) _ _)
    · rename_i et he
      rw [XB.helperNilIn_false K hK x pe.dst et he]
      simp only [Bool.false_eq_true, ↓reduceIte]
      exact procEntriesX_no_panic K hK im s _ rest _ _ _ (fun h => by simp at h)
    · rename_i st et he
      split
      · exact procEntriesX_no_panic K hK im s _ rest _ _ _ (fun h => hs h)
      · split
        · simp
        · rw [XB.helperNilIn_false K hK x pe.dst et he]
          simp only [Bool.false_eq_true, ↓reduceIte]
          exact procEntriesX_no_panic K hK im s _ rest _ _ _ (fun h => hs h)
        · exact procEntriesX_no_panic K hK im s _ rest x _ _ hs

theorem updRoundX_no_panic (K : KFacts) (hK : K.helperNilSafe = true) (im : Impl) :
    ∀ (ks : List Key) (x : XB) (ch : Bool), updRoundX K im ks x ch ≠ .error .panic
  | [], x, ch => by simp [updRoundX]
  | s :: ks, x, ch => by
    unfold updRoundX
    split
    · rename_i e he
      intro h
      cases h
      exact procEntriesX_no_panic K hK im s _ _ x [] false (XB.outHelper_of_shown x s) he
    · exact updRoundX_no_panic K hK im ks _ _

theorem updLoopX_no_panic (K : KFacts) (hK : K.helperNilSafe = true) (im : Impl) (ord : Ord) :
    ∀ (fuel : Nat) (x : XB), updLoopX K im ord fuel x ≠ .error .panic
  | 0, x => by simp [updLoopX]
  | fuel + 1, x => by
    unfold updLoopX
    split
    · rename_i e he
      intro h
      cases h
      exact updRoundX_no_panic K hK im _ x false he
    · split
      · exact updLoopX_no_panic K hK im ord fuel _
      · simp

theorem updateX_no_panic (K : KFacts) (hK : K.helperNilSafe = true) (im : Impl) (ord : Ord) (x : XB) :
    updateX K im ord x ≠ .error .panic := updLoopX_no_panic K hK im ord _ x

theorem addEdgeBodyX_split (K : KFacts) (im : Impl) (ord : Ord) (x : XB) (s e : Key) (nc nd : Bool)
    (m : Option Nat) :
    addEdgeBodyX K im ord x s e nc nd m =
      (edgeHead x.b s e nc).mapError Fail.err >>= fun b1 =>
        if nd then .ok { x with b := b1 }
        else if b1.dataEdges.contains (s, e) then .error (.err .dupData)
        else
          match updateX K im ord { x with b := b1.addToValidate s { dst := e, mapped := m } } with
          | .error k => .error k
          | .ok x2 => .ok { x2 with b := { x2.b with dataEdges := x2.b.dataEdges ++ [(s, e)] } } := by
  unfold addEdgeBodyX edgeHead Builder.addControl
  rw [ite_error_mapError, ite_error_bind, ite_error_mapError, ite_error_bind, ite_error_mapError, ite_error_bind,
    ite_error_mapError, ite_error_bind]
  -- below the four refusals both sides branch on the control half
  cases nc
  · simp only [Bool.false_eq_true, if_false]
    by_cases hd : x.b.controlEdges.contains (s, e) = true
    · rw [if_pos hd, if_pos hd]; rfl
    · rw [if_neg hd, if_neg hd]; rfl
  · rfl

theorem addEdgeBodyX_no_panic (K : KFacts) (hK : K.helperNilSafe = true) (im : Impl) (ord : Ord) (x : XB)
    (s e : Key) (nc nd : Bool) (m : Option Nat) : addEdgeBodyX K im ord x s e nc nd m ≠ .error .panic := by
  rw [addEdgeBodyX_split]
  cases edgeHead x.b s e nc with
  | error k => exact nofun
  | ok b1 =>
    -- only the work list can panic
    show (if nd = true then _ else _) ≠ _
    by_cases hnd : nd = true
    · rw [if_pos hnd]; simp
    · by_cases hd : b1.dataEdges.contains (s, e) = true
      · rw [if_neg hnd, if_pos hd]; simp
      · rw [if_neg hnd, if_neg hd]
        have := updateX_no_panic K hK im ord { x with b := b1.addToValidate s { dst := e, mapped := m } }
        cases hu : updateX K im ord { x with b := b1.addToValidate s { dst := e, mapped := m } } with
        | ok x2 => simp
        | error k => rw [hu] at this; simpa using this

theorem addEdgeX_eq_guardedX (K : KFacts) (f : Facts) (im : Impl) (ord : Ord) (x : XB) (s e : Key) (nc nd : Bool)
    (m : Option Nat) :
    addEdgeX K f im ord x s e nc nd m =
      if (nc && nd) = true then guardedX { f.edgeG with storeErr := false } x (.error (.err .edgeBothNo))
      else guardedX f.edgeG x (addEdgeBodyX K im ord x s e nc nd m) := by
  unfold addEdgeX guardedX
  by_cases hn : (nc && nd) = true <;> simp only [hn, if_true, if_false, Bool.false_eq_true, Bool.false_and]

theorem branchEndsX_no_panic (K : KFacts) (hK : K.helperNilSafe = true) (im : Impl) (ord : Ord) (s : Key) :
    ∀ (es : List Key) (x : XB), branchEndsX K im ord s es x ≠ .error .panic
  | [], x => by simp [branchEndsX]
  | e :: es, x => by
    unfold branchEndsX
    split
    · simp
    · split
      · rename_i k hu
        exact fun h => updateX_no_panic K hK im ord _ (hu.trans h)
      · exact branchEndsX_no_panic K hK im ord s es _

/-- `branchTail` over the shown types -/
def branchTailX (K : KFacts) (f : Facts) (im : Impl) (ord : Ord) (x1 : XB) (s : Key) (t : Ty) (ends : List Key)
    (sk flag : Bool) : Except Fail XB :=
  let x2 := { x1 with b := { x1.b with preBranch := x1.b.preBranch ++ [(s, flag)] } }
  match (if f.branchPropagates then updateX K im ord x2 else .ok x2 : Except Fail XB) with
  | .error k => .error k
  | .ok x3 =>
    match (if sk then .ok x3 else branchEndsX K im ord s (ord.ends x3.b ends) x3 : Except Fail XB) with
    | .error k => .error k
    | .ok x4 =>
      .ok { x4 with b := { x4.b with
        branches := x4.b.branches ++ [{ src := s, inTy := t, ends, noData := sk }] } }

/-- `branchStartTyped` on the keyed builder: the test reads the node's own type -/
def XB.branchStartTyped (f : Facts) (x : XB) (s : Key) (t : Ty) : XB :=
  if s != START && isPassthrough x.b s && (!f.branchGuarded || (x.b.nodeIn s).isNone) then x.setTy s t else x

theorem addBranchBodyX_eq (K : KFacts) (f : Facts) (im : Impl) (ord : Ord) (x : XB) (s : Key) (t : Ty)
    (ends : List Key) (sk : Bool) :
    addBranchBodyX K f im ord x s t ends sk =
      if s = END then .error (.err .endAsStart)
      else if !x.b.hasNode s && s != START then .error (.err .branchUnknownStart)
      else if ends.length = 1 then .error (.err .branchSingle)
      else match checkAssignable im ((x.branchStartTyped f s t).nodeOut s) (some t) with
        | .mustNot => .error (.err .branchMismatch)
        | r => branchTailX K f im ord (x.branchStartTyped f s t) s t ends sk (r == .may) := by
  unfold addBranchBodyX branchTailX XB.branchStartTyped
  rfl

theorem branchTailX_no_panic (K : KFacts) (hK : K.helperNilSafe = true) (f : Facts) (im : Impl) (ord : Ord)
    (x1 : XB) (s : Key) (t : Ty) (ends : List Key) (sk flag : Bool) :
    branchTailX K f im ord x1 s t ends sk flag ≠ .error .panic := by
  unfold branchTailX
  simp only
  split
  · rename_i k h3
    rw [← h3]
    split
    · exact updateX_no_panic K hK im ord _
    · simp
  · split
    · rename_i k h4
      rw [← h4]
      split
      · simp
      · exact branchEndsX_no_panic K hK im ord s _ _
    · simp

theorem addBranchBodyX_no_panic (K : KFacts) (hK : K.helperNilSafe = true) (f : Facts) (im : Impl) (ord : Ord)
    (x : XB) (s : Key) (t : Ty) (ends : List Key) (sk : Bool) :
    addBranchBodyX K f im ord x s t ends sk ≠ .error .panic := by
  rw [addBranchBodyX_eq]
  by_cases h1 : s = END
  · rw [if_pos h1]; simp
  by_cases h2 : (!x.b.hasNode s && s != START) = true
  · rw [if_neg h1, if_pos h2]; simp
  by_cases h3 : ends.length = 1
  · rw [if_neg h1, if_neg h2, if_pos h3]; simp
  rw [if_neg h1, if_neg h2, if_neg h3]
  split
  · simp
  · exact branchTailX_no_panic K hK f im ord _ s t ends sk _

theorem guardedX_no_panic (g : Guards) (x : XB) (body : Except Fail XB) (h : body ≠ .error .panic) :
    (guardedX g x body).2 ≠ .panic := by
  unfold guardedX
  split
  · simp
  · split
    · simp
    · split
      · simp
      · simp
      · exact absurd rfl h

theorem keyedUntyped_hasUntyped (x : XB) (h : x.keyedUntyped = true) : x.b.hasUntyped = true := by
  obtain ⟨n, hn, hk⟩ := List.any_eq_true.mp h
  exact List.any_eq_true.mpr ⟨n, hn, (Bool.and_eq_true_iff.mp hk).2⟩

theorem plainUntyped_hasUntyped (x : XB) (h : x.plainUntyped = true) : x.b.hasUntyped = true := by
  obtain ⟨n, hn, hk⟩ := List.any_eq_true.mp h
  exact List.any_eq_true.mpr ⟨n, hn, (Bool.and_eq_true_iff.mp hk).2⟩

theorem compilePreX_eq_none {K : KFacts} {f : Facts} {x : XB} {o : COpts} :
    compilePreX K f x o = none ↔
      ((x.b.cmp = .chain ∨ x.b.cmp = .workflow) → o.trigger = .unset) ∧
      (x.b.cmp ≠ .workflow → o.getState = false) ∧
      x.b.startNodes ≠ [] ∧ x.b.endNodes ≠ [] ∧
      (f.compileChecksTypes = true → x.shownUntyped = false) ∧
      (K.compileChecksOwnTypes = true → x.b.hasUntyped = false) ∧
      x.b.hasPending = false ∧ hasDup x.b.fmRecords = false := by
  simp only [compilePreX, ite_some_eq_none_iff, and_true]
  simp

theorem compilePreX_own_typed (K : KFacts) (hK : K.compileChecksOwnTypes = true) (f : Facts) (x : XB) (o : COpts)
    (h : compilePreX K f x o = none) : x.b.hasUntyped = false :=
  (compilePreX_eq_none.mp h).2.2.2.2.2.1 hK

theorem compilePostX_panic {K : KFacts} {x : XB} {ord : Ord} {o : COpts}
    (h : compilePostX K x ord o = some .panic) : x.b.hasUntyped = true := by
  unfold compilePostX at h
  by_cases h1 : (!K.helperNilSafe && x.keyedUntyped) = true
  · simp only [Bool.and_eq_true] at h1; exact keyedUntyped_hasUntyped x h1.2
  by_cases h2 : (isDag x.b o && !validateDAG x.b ord) = true
  · rw [if_neg h1, if_pos h2] at h; cases h
  by_cases h3 : x.plainUntyped = true
  · exact plainUntyped_hasUntyped x h3
  by_cases h4 : (isDag x.b o && decide (o.maxSteps > 0)) = true
  · rw [if_neg h1, if_neg h2, if_neg h3, if_pos h4] at h; cases h
  · rw [if_neg h1, if_neg h2, if_neg h3, if_neg h4] at h; cases h

theorem compileX_no_panic (K : KFacts) (hK : K.compileChecksOwnTypes = true) (f : Facts) (ord : Ord) (x : XB) (o : COpts) :
    (compileX K f ord x o).2.1 ≠ .panic := by
  unfold compileX
  split
  · simp
  · split
    · simp
    · rename_i hp
      have ht := compilePreX_own_typed K hK f x o hp
      simp only
      split
      · rename_i oc hpost
        intro hoc
        simp only at hoc
        subst hoc
        have hu := compilePostX_panic hpost
        rw [show ({ x with b := mutatePre f x.b } : XB).b.hasUntyped = x.b.hasUntyped from
          mutatePre_hasUntyped f x.b, ht] at hu
        cases hu
      · simp

theorem stepX_no_panic (K : KFacts) (hK1 : K.helperNilSafe = true) (hK2 : K.compileChecksOwnTypes = true)
    (f : Facts) (im : Impl) (ord : Ord) (x : XB) (xo : XOp) : (stepX K f im ord x xo).2.1 ≠ .panic := by
  have hnode : ∀ n ik ok, (addNodeX f x n ik ok).2 ≠ .panic := by
    intro n ik ok
    unfold addNodeX
    apply guardedX_no_panic
    split <;> simp
  cases xo with
  | node n ik ok => simpa [stepX] using hnode n ik ok
  | plain op =>
    cases op with
    | node n => simpa [stepX] using hnode n false false
    | edge s e nc nd m =>
      simp only [stepX, addEdgeX_eq_guardedX]
      split
      · exact guardedX_no_panic _ x _ nofun
      · exact guardedX_no_panic _ x _ (addEdgeBodyX_no_panic K hK1 im ord x s e nc nd m)
    | branch s t ends sk =>
      simp only [stepX, addBranchX]
      exact guardedX_no_panic _ x _ (addBranchBodyX_no_panic K hK1 f im ord x s t ends sk)
    | compile o => simpa [stepX] using compileX_no_panic K hK2 f ord x o

theorem compileX_rejects_keyedUntyped (K : KFacts) (hK : K.compileChecksOwnTypes = true) (f : Facts) (ord : Ord)
    (x : XB) (o : COpts) (h : x.keyedUntyped = true) :
    ∃ k, compileX K f ord x o = (x, .fresh k, none) ∨ compileX K f ord x o = (x, .stored k, none) := by
  unfold compileX
  split
  · rename_i k _; exact ⟨k, Or.inr rfl⟩
  · split
    · rename_i k _; exact ⟨k, Or.inl rfl⟩
    · rename_i hp
      have := compilePreX_own_typed K hK f x o hp
      rw [keyedUntyped_hasUntyped x h] at this
      exact absurd this (by simp)

end EinoV.Build
