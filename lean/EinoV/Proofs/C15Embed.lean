/-
  C15 — lemmas about promoted selectors (Model/C15Embed.lean): without embedded fields the
  elaboration is the identity; on a source path that is explicit and never crosses an interface
  the value-directed elaboration is the identity, so the extraction path of `runNodeP` agrees with
  the declared one wherever the static check relied on the source type (`Agrees`, Proofs/C15Run.lean),
  and a run with such an extraction path never panics.
-/
import EinoV.Model.C15Embed
import EinoV.Proofs.C15Run

namespace EinoV.C15

theorem promotedF_nil (s : Seg) (sn : String) : ∀ (fs : FFields), promotedF [] s sn fs = none
  | .nil => by simp [promotedF]
  | .cons n t r => by simp [promotedF, promotedF_nil s sn r]

theorem selT_nil_struct (s : Seg) (sn : String) (fs : FFields) :
    selT [] s (.struct sn fs) = if (fieldTy fs s).isSome then some [s] else none := by
  simp [selT, selEmb, promotedF_nil]

theorem selT_nil_ptr (s : Seg) (sn : String) (fs : FFields) :
    selT [] s (.ptr (.struct sn fs)) = if (fieldTy fs s).isSome then some [s] else none := by
  simp [selT, selEmb, selPtr, promotedF_nil]

theorem selT_direct (e : Emb) (s : Seg) (t : FTy) (fs : FFields) (ft : FTy)
    (hs : structOf t = some fs) (hf : fieldTy fs s = some ft) : selT e s t = some [s] := by
  obtain ⟨n, rfl | rfl⟩ := structOf_eq_some hs
  · simp [selT, selEmb, hf]
  · simp [selT, selEmb, selPtr, hf]

theorem slotTy_single (t : FTy) (fs : FFields) (s : Seg) (ft : FTy)
    (hs : structOf t = some fs) (hf : fieldTy fs s = some ft) : slotTy t [s] = some ft := by
  rw [slotTy_cons_child, if_neg (by rintro rfl; cases hs), childTy_struct hs, hf]; rfl

theorem selT_nil (s : Seg) (t : FTy) :
    selT [] s t = none ∨ selT [] s t = some [s] ∧ ∃ fs ft, structOf t = some fs ∧ fieldTy fs s = some ft := by
  cases t with
  | struct n fs =>
    rw [selT_nil_struct]
    cases hf : fieldTy fs s with
    | none => exact .inl rfl
    | some ft => exact .inr ⟨rfl, fs, ft, rfl, hf⟩
  | ptr t' =>
    cases t' with
    | struct n fs =>
      rw [selT_nil_ptr]
      cases hf : fieldTy fs s with
      | none => exact .inl rfl
      | some ft => exact .inr ⟨rfl, fs, ft, rfl, hf⟩
    | _ => exact .inl (by simp [selT, selEmb, selPtr])
  | _ => exact .inl (by simp [selT, selEmb])

theorem elabTy_nil : ∀ (p : Path) (t : FTy), elabTy [] t p = p := by
  intro p
  induction p with
  | nil => intro t; simp [elabTy]
  | cons s r ih =>
    intro t
    rcases t.map_or_not with ⟨el, rfl⟩ | hne
    · simp [elabTy, ih]
    · have hun : elabTy [] t (s :: r) =
          match selT [] s t with
          | some p => (match slotTy t p with
            | some ft => p ++ elabTy [] ft r
            | none => s :: r)
          | none => s :: r := by
        cases t <;> first | rfl | exact absurd rfl (hne _)
      rw [hun]
      rcases selT_nil s t with h | ⟨h, fs, ft, hst, hf⟩ <;> rw [h]
      simp only [slotTy_single t fs s ft hst hf, ih ft, List.singleton_append]

theorem takeFrom_single (f : TakeFacts) (a : Taken) (via : Bool) (s : Seg) :
    takeFrom f a via [s] =
      match takeStep f a via s with
      | .error e => .error e
      | .ok (st, x) => .ok (unstore st x) := by
  simp only [takeFrom]
  cases takeStep f a via s with
  | error e => rfl
  | ok sv => obtain ⟨st, x⟩ := sv; rfl

theorem elabVal_cons_nonmap (e : Emb) (f : TakeFacts) (ty : FTy) (v : FVal) (s : Seg) (r : Path)
    (hne : ∀ el, ty ≠ .map el) :
    elabVal e f (some (ty, v)) (s :: r) =
      match selT e s ty with
      | some p =>
        (match takeFrom f (some (ty, v)) false p with
        | .ok b => p ++ elabVal e f b r
        | .error _ => p ++ r)
      | none => s :: r := by
  cases ty <;> first | rfl | exact absurd rfl (hne _)

theorem elabVal_cons_map_fix (e : Emb) (f : TakeFacts) (el : FTy) (v : FVal) (s : Seg) (r : Path)
    (h : ∀ x, elabVal e f (unstore el x) r = r) : elabVal e f (some (.map el, v)) (s :: r) = s :: r := by
  cases v with
  | map kvs =>
    cases hl : kvs.lookup s with
    | none => simp [elabVal, hl]
    | some x => simp [elabVal, hl, h x]
  | _ => simp [elabVal]

theorem extractTy_struct_some (t : FTy) (fs : FFields) (s : Seg) (r : Path) (ft : FTy)
    (hst : structOf t = some fs) (hf : fieldTy fs s = some ft) :
    extractTy true t (s :: r) = extractTy true ft r := by
  rw [extractTy_cons, childTy_struct hst, hf]

theorem extractTy_struct_none (t : FTy) (fs : FFields) (s : Seg) (r : Path)
    (hst : structOf t = some fs) (hf : fieldTy fs s = none) :
    extractTy true t (s :: r) = none := by
  simp only [extractTy_cons, childTy_struct hst, hf, structOf_not_iface hst, Bool.false_eq_true, if_false]

theorem elabVal_fix (e : Emb) (f : TakeFacts) : ∀ (p : Path) (t pf : FTy) (v : FVal),
    extractTy true t p = some (pf, false) → pf ≠ .any → elabVal e f (unstore t v) p = p := by
  intro p
  induction p with
  | nil => intro t pf v _ _; simp [elabVal]
  | cons s r ih =>
    intro t pf v h hne
    have hna : isIface t = false := by
      cases hta : isIface t with
      | false => rfl
      | true => exact absurd (extractTy_iface_cons hta h) hne
    rcases extractTy_cons_some h with ⟨t', hc, h⟩ | ⟨_, hta, _⟩
    · rw [unstore_not_iface hna]
      rcases childTy_some hc with rfl | ⟨fs, hst, hf⟩
      · exact elabVal_cons_map_fix e f t' v s r fun x => ih t' pf x h hne
      · -- a struct: the segment is a declared field, hence its own selector
        have hnm : ∀ el, t ≠ .map el := by rintro el rfl; cases hst
        rw [elabVal_cons_nonmap e f t v s r hnm, selT_direct e s t fs t' hst hf]
        simp only [takeFrom_single]
        cases hstep : takeStep f (some (t, v)) false s with
        | error err => rfl
        | ok sv =>
          obtain ⟨st, x⟩ := sv
          have hst' := takeStep_childTy hstep
          rw [hc] at hst'
          cases hst'
          simp only [List.singleton_append, List.cons.injEq, true_and]
          exact ih t' pf x h hne
    · rw [hna] at hta; cases hta

theorem elabVal_nil (f : TakeFacts) : ∀ (p : Path) (a : Taken), elabVal [] f a p = p := by
  intro p
  induction p with
  | nil => intro a; simp [elabVal]
  | cons s r ih =>
    intro a
    cases a with
    | none => simp [elabVal]
    | some tv =>
      obtain ⟨ty, v⟩ := tv
      rcases ty.map_or_not with ⟨el, rfl⟩ | hnm
      · exact elabVal_cons_map_fix [] f el v s r fun x => ih _
      · rw [elabVal_cons_nonmap [] f ty v s r hnm]
        rcases selT_nil s ty with h | ⟨h, _⟩ <;> rw [h]
        simp only [takeFrom_single]
        cases takeStep f (some (ty, v)) false s with
        | error err => simp
        | ok sv => obtain ⟨st, x⟩ := sv; simp [ih]

theorem runNodeR_no_panic (allow : Bool) (st : FTy) (rp : Edge → Mapping → Path) (es : List Edge)
    (hval : ∀ e ∈ es, ∀ m ∈ e.ms, (validateOne Expected.C15.validate e.pt st m).isSome)
    (hag : Agrees rp es) :
    runNodeR Expected.C15.take Expected.C15.validate allow st rp es ≠ .error .panic := by
  unfold runNodeR
  have hnp := edgesMapR_no_panic allow st rp es
  cases he : edgesMapR Expected.C15.take Expected.C15.validate allow st rp es with
  | error e => simp only [ne_eq, Except.error.injEq]; intro h; subst h; exact hnp he
  | ok l =>
    simp only []
    have hall := edgesMapR_ok allow st rp es l hval hag he
    have := convertFrom_isSome st l (newInstance st) hall
    unfold convertTo
    cases hc : convertFrom st (newInstance st) l with
    | none => simp [hc] at this
    | some v => simp

theorem runPath_agrees (e : Emb) (f : TakeFacts) (es : List Edge) :
    Agrees (fun ed m => runPath e f ed.pt ed.v m) es := by
  intro ed _ m _ pf hpf hne
  exact elabVal_fix e f m.src ed.pt pf ed.v hpf hne

theorem elabMapping_nil (pt st : FTy) : elabMapping [] pt st = id := by
  funext m; cases m; simp [elabMapping, elabTy_nil]

theorem elabEdge_nil (st : FTy) (ed : Edge) : elabEdge [] st ed = ed := by
  cases ed; simp only [elabEdge, elabMapping_nil, List.map_id]

theorem runNodeP_nil (f : TakeFacts) (vf : ValidateFacts) (allow : Bool) (st : FTy) (es : List Edge) :
    runNodeP [] f vf allow st es = runNode f vf allow st es := by
  rw [runNodeP, show elabEdge [] st = id from funext (elabEdge_nil st), List.map_id]
  exact runNodeR_src _ _ _ st _ (fun ed m => elabVal_nil f m.src _) es

theorem compileOKP_nil (tf : TrieFacts) (vf : ValidateFacts) (st : FTy) (decls : List (FTy × List Mapping)) :
    compileOKP [] tf vf st decls = compileOK tf vf st decls := by
  simp only [compileOKP, elabMapping_nil, List.map_id]; exact congrArg _ (List.map_id decls)

end EinoV.C15
