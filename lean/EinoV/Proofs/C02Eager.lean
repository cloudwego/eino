/-
  C02 under the eager (Workflow) run loop, which handles one completion at a time in any order: no node of
  a well-formed acyclic runner is started twice (`runEager_at_most_once`) and every start is justified
  (`runEager_justified`).
-/
import EinoV.Model.C02Workflow
import EinoV.Proofs.C02Run
import EinoV.Proofs.C02Compile
import EinoV.Proofs.C02Just
namespace EinoV.Engine
namespace DagRun

theorem count_eraseIdx {V} (l : List (Key × V)) (i : Nat) (t : Key × V) (h : l[i]? = some t) (p : Key) :
    (akeys l).count p = (akeys (l.eraseIdx i)).count p + [t.1].count p := by
  induction l generalizing i with
  | nil => simp at h
  | cons a l' ih =>
    cases i with
    | zero =>
      simp only [List.getElem?_cons_zero, Option.some.injEq] at h
      subst h
      simp only [List.eraseIdx_cons_zero, akeys_cons, List.count_cons, List.count_nil]
      omega
    | succ j =>
      simp only [List.getElem?_cons_succ] at h
      have := ih j h
      simp only [List.eraseIdx_cons_succ, akeys_cons, List.count_cons] at this ⊢
      omega

structure EInv {V} (r : Runner V) (cm : Chans V) (running : List (Key × V)) (bs : List (List (Key × V)))
    (comp : List Key) : Prop where
  j : J (fun n => (keysOfTr bs).count n) (fun p => comp.count p + if p = START then 1 else 0) [] [] cm
  sh : shapes cm = shapes (initChans r)
  pos : ∀ n, 0 < (keysOfTr bs).count n → HasPred (shapes (initChans r)) n
  bal : ∀ p, comp.count p + (akeys running).count p = (keysOfTr bs).count p

theorem einv_static {V} (r : Runner V) (wf : DagWF r) (cm : Chans V) (running : List (Key × V))
    (bs : List (List (Key × V))) (comp : List Key) (h : EInv r cm running bs comp) :
    ∀ n, (keysOfTr bs).count n + skOf cm n ≤ 1 :=
  static_bound_wf r wf cm h.sh h.j (fun p => by have := h.bal p; omega) h.pos

theorem einv_bound {V} (r : Runner V) (wf : DagWF r) (cm : Chans V) (running : List (Key × V))
    (bs : List (List (Key × V))) (comp : List Key) (h : EInv r cm running bs comp) (k : Key) :
    (keysOfTr bs).count k ≤ 1 :=
  Nat.le_trans (Nat.le_add_right _ _) (einv_static r wf cm running bs comp h k)

theorem einv_noStart {V} (r : Runner V) (wf : DagWF r) {cm : Chans V} {running : List (Key × V)}
    {bs : List (List (Key × V))} {comp : List Key} (h : EInv r cm running bs comp) :
    (keysOfTr bs).count START = 0 :=
  Nat.eq_zero_of_not_pos fun h0 => wf.startFresh (h.pos START h0).mem_keys

theorem task_fresh_append {V} {bs : List (List (Key × V))} {ts : List (Key × V)}
    (h : ∀ k, (keysOfTr (bs ++ [ts])).count k ≤ 1) {t : Key × V} (ht : t ∈ ts) : (keysOfTr bs).count t.1 = 0 := by
  have hb := h t.1
  rw [keysOfTr_append_single, List.count_append] at hb
  have : 0 < (akeys ts).count t.1 := List.count_pos_iff.mpr (mem_akeys_of_mem t.1 t.2 _ ht)
  omega

theorem EInv_init {V} (ops : ValOps V) (r : Runner V) (wf : DagWF r) (x : V) (cm : Chans V) (ts : List (Key × V))
    (hc : calcNext ops r (initChans r) [(START, x)] = .ok (cm, .tasks ts)) : EInv r cm ts [ts] [] := by
  have hl := start_LInv ops r wf x cm ts hc
  exact ⟨J_congr (fun _ => rfl) (fun _ => rfl) hl.j, hl.sh, hl.pos, fun p => by simp [keysOfTr_cons, keysOfTr_nil]⟩

theorem EInv_step {V} (ops : ValOps V) (r : Runner V) (wf : DagWF r) (pick : Pick V)
    (cm cm' : Chans V) (running ts : List (Key × V)) (bs : List (List (Key × V))) (comp : List Key)
    (t : Key × V) (d : Done V) (h : EInv r cm running bs comp)
    (hp : running[pick running % running.length]? = some t)
    (hce : collectOne (execOne r t) = .ok d)
    (hc : calcNext ops r cm [d] = .ok (cm', .tasks ts)) :
    EInv r cm' (running.eraseIdx (pick running % running.length) ++ ts) (bs ++ [ts]) (comp ++ [t.1]) := by
  obtain ⟨ready, j1, j2, j3, j4⟩ := calcNext_J ops r wf.dag wf.succ wf.startKey cm cm' [d] _ h.j h.sh hc
  have hready : ready = ts := by
    rcases j4 with ⟨v, hv⟩ | hv
    · cases hv
    · cases hv; rfl
  subst hready
  have hd := collect_exec_key r t d hce
  refine ⟨?_, j2, ?_, ?_⟩
  · refine J_congr (fun n => ?_) (fun p => ?_) j1
    · rw [keysOfTr_append_single, List.count_append]
    · rw [List.count_append]
      simp only [List.map_cons, List.map_nil, hd]; omega
  · intro n hn
    rw [keysOfTr_append_single, List.count_append] at hn
    by_cases h0 : 0 < (akeys ready).count n
    · exact j3 n (List.count_pos_iff.mp h0)
    · exact h.pos n (by omega)
  · intro p
    have b := h.bal p
    have c := count_eraseIdx running _ t hp p
    have : akeys (running.eraseIdx (pick running % running.length) ++ ready) =
        akeys (running.eraseIdx (pick running % running.length)) ++ akeys ready := List.map_append
    rw [keysOfTr_append_single, List.count_append, List.count_append, this, List.count_append]
    omega

/-- How the eager loop ends, from a state with a `P` that every iteration that goes on preserves:
    without taking a completion (no fuel, nothing running — no value), or at a completion `t`, and
    then with a value only if `calcNext` on `t`'s output made END ready. -/
theorem eagerLoop_stops {V} (ops : ValOps V) (r : Runner V) (pick : Pick V)
    (P : Chans V → List (Key × V) → List (List (Key × V)) → List Key → Prop)
    (hstep : ∀ cm cm' running ts bs comp t d, P cm running bs comp →
      running[pick running % running.length]? = some t → collectOne (execOne r t) = .ok d →
      calcNext ops r cm [d] = .ok (cm', .tasks ts) →
      P cm' (running.eraseIdx (pick running % running.length) ++ ts) (bs ++ [ts]) (comp ++ [t.1])) :
    ∀ (fuel : Nat) (cm : Chans V) (running : List (Key × V)) (bs : List (List (Key × V))) (comp : List Key),
      P cm running bs comp →
      ∃ cm1 running1 comp1, P cm1 running1 (eagerLoop ops r pick fuel cm running bs comp).batches comp1 ∧
        (((eagerLoop ops r pick fuel cm running bs comp).completed = comp1 ∧
            ∀ v, (eagerLoop ops r pick fuel cm running bs comp).result ≠ .ok v) ∨
         ∃ t, running1[pick running1 % running1.length]? = some t ∧
           (eagerLoop ops r pick fuel cm running bs comp).completed = comp1 ++ [t.1] ∧
           ∀ v, (eagerLoop ops r pick fuel cm running bs comp).result = .ok v →
             ∃ d cm2, collectOne (execOne r t) = .ok d ∧ calcNext ops r cm1 [d] = .ok (cm2, .result v)) := by
  intro fuel
  induction fuel with
  | zero => intro cm running bs comp h; exact ⟨cm, running, comp, h, Or.inl ⟨rfl, fun v hv => by cases hv⟩⟩
  | succ f ih =>
    intro cm running bs comp h
    unfold eagerLoop
    cases hp : running[pick running % running.length]? with
    | none => exact ⟨cm, running, comp, h, Or.inl ⟨rfl, fun v hv => by cases hv⟩⟩
    | some t =>
      simp only
      cases hce : collectOne (execOne r t) with
      | error e => exact ⟨cm, running, comp, h, Or.inr ⟨t, hp, rfl, fun v hv => by cases hv⟩⟩
      | ok d =>
        simp only
        cases hc : calcNext ops r cm [d] with
        | error e => exact ⟨cm, running, comp, h, Or.inr ⟨t, hp, rfl, fun v hv => by cases hv⟩⟩
        | ok res =>
          obtain ⟨cm', nx⟩ := res
          cases nx with
          | result w =>
            refine ⟨cm, running, comp, h, Or.inr ⟨t, hp, rfl, fun v hv => ⟨d, cm', hce, ?_⟩⟩⟩
            cases hv; exact hc
          | tasks ts => exact ih _ _ _ _ (hstep cm cm' running ts bs comp t d h hp hce hc)

@[elab_as_elim]
theorem runEager_elim {V} {motive : EOutcome V → Prop} (ops : ValOps V) (r : Runner V) (pick : Pick V) (x : V)
    (err : ∀ e, calcNext ops r (initChans r) [(START, x)] = .error e →
      motive { result := .error e, batches := [], completed := [], abandoned := [] })
    (res : ∀ cm v, calcNext ops r (initChans r) [(START, x)] = .ok (cm, .result v) →
      motive { result := .ok v, batches := [], completed := [], abandoned := [] })
    (go : ∀ cm ts, calcNext ops r (initChans r) [(START, x)] = .ok (cm, .tasks ts) →
      motive (eagerLoop ops r pick r.eagerFuel cm ts [ts] [])) :
    motive (runEager ops r pick x) := by
  unfold runEager
  cases hc : calcNext ops r (initChans r) [(START, x)] with
  | error e => exact err e hc
  | ok res' =>
    obtain ⟨cm, v | ts⟩ := res'
    · exact res cm v hc
    · exact go cm ts hc

theorem eagerLoop_once {V} (ops : ValOps V) (r : Runner V) (wf : DagWF r) (pick : Pick V) :
    ∀ (fuel : Nat) (cm : Chans V) (running : List (Key × V)) (bs : List (List (Key × V))) (comp : List Key),
      EInv r cm running bs comp →
      ∀ k, (akeys (eagerLoop ops r pick fuel cm running bs comp).submitted).count k ≤ 1 := by
  intro fuel cm running bs comp h k
  obtain ⟨cm1, running1, comp1, h1, _⟩ := eagerLoop_stops ops r pick (EInv r)
    (fun cm cm' running ts bs comp t d => EInv_step ops r wf pick cm cm' running ts bs comp t d)
    fuel cm running bs comp h
  exact einv_bound r wf cm1 running1 _ comp1 h1 k

theorem runEager_at_most_once {V} (ops : ValOps V) (r : Runner V) (wf : DagWF r) (pick : Pick V) (x : V) (k : Key) :
    (akeys (runEager ops r pick x).submitted).count k ≤ 1 :=
  runEager_elim ops r pick x (fun _ _ => Nat.zero_le _) (fun _ _ _ => Nat.zero_le _)
    (fun cm' ts hc => eagerLoop_once ops r wf pick _ cm' ts [ts] [] (EInv_init ops r wf x cm' ts hc) k)

theorem compileW_succOK {V} (ops : ValOps V) (w : WorkflowDef V) : SuccOK (compileW ops w) := by
  refine succOK_of_preds _ rfl fun m hm s hs => ?_
  obtain ⟨hw, hc, _, hb⟩ := compileW_node ops w m hm
  simp only [Node.successors, List.mem_append] at hs
  rcases hs with (hs | hs) | hs
  · obtain ⟨d, hd, hdat, hf, ht⟩ := (mem_dataOut w m.key s).mp (hw ▸ hs)
    exact Or.inr ((compileW_dataPreds ops w s m.key).mpr ⟨d, hd, hdat, ht, hf⟩)
  · obtain ⟨d, hd, hctl, hf, ht⟩ := (mem_ctrlOut w m.key s).mp (hc ▸ hs)
    exact Or.inl ((compileW_ctrlPreds ops w s m.key).mpr (Or.inl ⟨d, hd, hctl, ht, hf⟩))
  · obtain ⟨b, hbm, hsb⟩ := List.mem_flatMap.mp hs
    have hends : b.ends ∈ m.branches.map (·.ends) := List.mem_map.mpr ⟨b, hbm, rfl⟩
    rw [hb] at hends
    obtain ⟨x, hx, he⟩ := List.mem_map.mp hends
    obtain ⟨hxw, hk⟩ := List.mem_filter.mp hx
    exact Or.inl ((compileW_ctrlPreds ops w s m.key).mpr (Or.inr ⟨x, hxw, eq_of_beq hk, he ▸ hsb⟩))

structure EKInv {V} (ops : ValOps V) (r : Runner V) (x : V) (cm : Chans V) (running : List (Key × V))
    (bs : List (List (Key × V))) : Prop where
  k : K r (histOf r x bs.reverse) cm
  sh : shapes cm = shapes (initChans r)
  just : JustTr ops r x bs.reverse
  run : ∀ t, t ∈ running → t ∈ bs.flatten

theorem mem_histOf_reverse {V} (r : Runner V) (x : V) (bs : List (List (Key × V))) (d : Done V) :
    d ∈ histOf r x bs.reverse ↔ d = (START, x) ∨ ∃ t, t ∈ bs.flatten ∧ outOf r t = some d := by
  simp only [histOf, List.mem_cons, List.mem_filterMap, List.mem_flatten, List.mem_reverse]

theorem EKInv_init {V} (ops : ValOps V) (r : Runner V) (wf : DagWF r) (x : V) (cm : Chans V) (nx : Next V)
    (hc : calcNext ops r (initChans r) [(START, x)] = .ok (cm, nx)) :
    (∀ ts, nx = .tasks ts → EKInv ops r x cm ts [ts]) ∧
    (∀ v, nx = .result v → Justified ops r (histOf r x []) END v) := by
  obtain ⟨rank, hrank⟩ := wf.acyclic
  obtain ⟨j1, j2, j3⟩ := calcNext_K (H := histOf r x []) ops r wf.dag wf.succ wf.startKey rank hrank
    (initChans r) cm [(START, x)] nx (init_K r wf.dag wf.nodup _) rfl
    (start_mem_histOf r x []) hc
  refine ⟨fun ts e => ?_, fun v e => ?_⟩
  · rcases j3 with ⟨v, rfl, _⟩ | ⟨ts', rfl, hj⟩
    · cases e
    · cases e
      exact ⟨K_mono j1 (histOf_mono r x ts []), j2, ⟨hj, trivial⟩, fun t ht => by simpa using ht⟩
  · rcases j3 with ⟨v', rfl, hj⟩ | ⟨ts', rfl, _⟩
    · cases e; exact hj
    · cases e

theorem EKInv_round {V} (ops : ValOps V) (r : Runner V) (wf : DagWF r) (pick : Pick V) (x : V)
    (cm cm' : Chans V) (running : List (Key × V)) (bs : List (List (Key × V)))
    (t : Key × V) (d : Done V) (nx : Next V) (h : EKInv ops r x cm running bs)
    (hp : running[pick running % running.length]? = some t)
    (hce : collectOne (execOne r t) = .ok d)
    (hc : calcNext ops r cm [d] = .ok (cm', nx)) :
    (∀ ts, nx = .tasks ts →
      EKInv ops r x cm' (running.eraseIdx (pick running % running.length) ++ ts) (bs ++ [ts])) ∧
    (∀ v, nx = .result v → Justified ops r (histOf r x bs.reverse) END v) := by
  obtain ⟨rank, hrank⟩ := wf.acyclic
  have hdH : d ∈ histOf r x bs.reverse :=
    (mem_histOf_reverse r x bs d).mpr (Or.inr ⟨t, h.run t (List.mem_of_getElem? hp), by simp [outOf, hce]⟩)
  obtain ⟨j1, j2, j3⟩ := calcNext_K ops r wf.dag wf.succ wf.startKey rank hrank cm cm' [d] nx h.k h.sh
    (by intro t' ht'; simp only [List.mem_singleton] at ht'; subst ht'; exact hdH) hc
  refine ⟨fun ts e => ?_, fun v e => ?_⟩
  · rcases j3 with ⟨v, rfl, _⟩ | ⟨ts', rfl, hj⟩
    · cases e
    · cases e
      have hrev : (bs ++ [ts]).reverse = ts :: bs.reverse := by simp
      refine ⟨?_, j2, ?_, ?_⟩
      · rw [hrev]; exact K_mono j1 (histOf_mono r x ts bs.reverse)
      · rw [hrev]; exact ⟨hj, h.just⟩
      · intro t' ht'
        simp only [List.flatten_append, List.flatten_cons, List.flatten_nil, List.append_nil, List.mem_append]
        rcases List.mem_append.mp ht' with h1 | h1
        · exact Or.inl (h.run t' (List.mem_of_mem_eraseIdx h1))
        · exact Or.inr h1
  · rcases j3 with ⟨v', rfl, hj⟩ | ⟨ts', rfl, _⟩
    · cases e; exact hj
    · cases e

theorem eagerLoop_justified {V} (ops : ValOps V) (r : Runner V) (wf : DagWF r) (pick : Pick V) (x : V) :
    ∀ (fuel : Nat) (cm : Chans V) (running : List (Key × V)) (bs : List (List (Key × V))) (comp : List Key),
      EKInv ops r x cm running bs →
      JustTr ops r x (eagerLoop ops r pick fuel cm running bs comp).batches.reverse ∧
      (∀ v, (eagerLoop ops r pick fuel cm running bs comp).result = .ok v →
        Justified ops r (histOf r x (eagerLoop ops r pick fuel cm running bs comp).batches.reverse) END v) := by
  intro fuel cm running bs comp h
  obtain ⟨cm1, running1, _, h1, hstop⟩ := eagerLoop_stops ops r pick
    (fun cm running bs _ => EKInv ops r x cm running bs)
    (fun cm cm' running ts bs _ t d h hp hce hc =>
      (EKInv_round ops r wf pick x cm cm' running bs t d _ h hp hce hc).1 ts rfl)
    fuel cm running bs comp h
  refine ⟨h1.just, fun v hv => ?_⟩
  rcases hstop with ⟨_, hne⟩ | ⟨t, hp, _, hres⟩
  · exact absurd hv (hne v)
  · obtain ⟨d, cm2, hce, hc⟩ := hres v hv
    exact (EKInv_round ops r wf pick x cm1 cm2 running1 _ t d _ h1 hp hce hc).2 v rfl

theorem runEager_justified {V} (ops : ValOps V) (r : Runner V) (wf : DagWF r) (pick : Pick V) (x : V) :
    JustTr ops r x (runEager ops r pick x).batches.reverse ∧
    (∀ v, (runEager ops r pick x).result = .ok v →
      Justified ops r (histOf r x (runEager ops r pick x).batches.reverse) END v) := by
  refine runEager_elim ops r pick x (fun e _ => ⟨trivial, fun v hv => nomatch hv⟩) (fun cm' w hc => ⟨trivial, fun v hv => ?_⟩)
    (fun cm' ts hc => eagerLoop_justified ops r wf pick x _ cm' ts [ts] [] ((EKInv_init ops r wf x cm' _ hc).1 ts rfl))
  cases hv
  exact (EKInv_init ops r wf x cm' _ hc).2 _ rfl

end DagRun
end EinoV.Engine
