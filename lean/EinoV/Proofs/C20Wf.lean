/- The declaration layer of C20 (Model/C20Wf.lean): what keeps `startNodes` / `endNodes` empty, compile
   with sub-graphs, the options a Workflow refuses, the calls a `WfDecl` is lowered to and their replay
   order. -/
import EinoV.Model.C20Wf
import EinoV.Proofs.C20Infer
import EinoV.Proofs.ListFacts

namespace EinoV.Build

theorem runK_true (E : Env) (h : E.inCtl = true) (b : Builder) (ops : List Op) :
    runK E b ops = (run E.f E.im E.ord b ops).1 := by
  induction ops generalizing b with
  | nil => rfl
  | cons op ops ih => simp [runK, run, stepK_true E h, ih]

theorem compileN_of_all_ok {kids : List Outcome} (h : ∀ k ∈ kids, k.isOk = true) (f : Facts) (ord : Ord)
    (b : Builder) (o : COpts) : compileN f ord b o kids = compile f ord b o := by
  have e : kids.find? (fun oc => !oc.isOk) = none := List.find?_eq_none.mpr fun k hk => by simp [h k hk]
  unfold compileN compile
  simp only [e]
  rfl

theorem compileN_nil (f : Facts) (ord : Ord) (b : Builder) (o : COpts) :
    compileN f ord b o [] = compile f ord b o :=
  compileN_of_all_ok (by simp) f ord b o

/-- cells the work list never writes: the Add* calls (and, for `compiled`, Compile) write them directly -/
def Builder.ends (b : Builder) := (b.startNodes, b.endNodes, b.buildError, b.compiled, b.cmp)

abbrev Builder.flags (b : Builder) := (b.compiled, b.cmp)

theorem Builder.ends_frame : WorkListFrame Builder.ends :=
  ⟨fun _ _ _ => rfl, fun _ _ _ => rfl, fun _ _ => rfl, fun _ _ => rfl⟩

theorem setTy_ends (b : Builder) (k : Key) (t : Ty) : (b.setTy k t).ends = b.ends := rfl

theorem procEntries_ends (im : Impl) (s : Key) (sTy : Option Ty) (l : List PEdge) :
    ∀ (b : Builder) (kept : List PEdge) (ch : Bool) (r : Builder × List PEdge × Bool),
      procEntries im s sTy l b kept ch = .ok r → r.1.ends = b.ends :=
  Builder.ends_frame.procEntries im s sTy l

theorem updRound_ends (im : Impl) (ks : List Key) :
    ∀ (b : Builder) (ch : Bool) (r : Builder × Bool), updRound im ks b ch = .ok r → r.1.ends = b.ends :=
  Builder.ends_frame.updRound im ks

theorem updLoop_ends (im : Impl) (ord : Ord) (fuel : Nat) :
    ∀ (b b' : Builder), updLoop im ord fuel b = .ok b' → b'.ends = b.ends :=
  Builder.ends_frame.updLoop im ord fuel

theorem update_ends (im : Impl) (ord : Ord) (b b' : Builder) (h : update im ord b = .ok b') :
    b'.ends = b.ends := updLoop_ends im ord _ b b' h

theorem ends_startNodes {b b' : Builder} (h : b'.ends = b.ends) : b'.startNodes = b.startNodes :=
  congrArg (·.1) h
theorem ends_endNodes {b b' : Builder} (h : b'.ends = b.ends) : b'.endNodes = b.endNodes :=
  congrArg (·.2.1) h

theorem ends_compiled {b b' : Builder} (h : b'.ends = b.ends) : b'.flags = b.flags :=
  congrArg (·.2.2.2) h

/-- the call records an entry edge if it succeeds -/
def Op.entry : Op → Bool
  | .edge s _ nc _ _ => s == START && !nc
  | .branch s _ _ skip => s == START && !skip
  | _ => false

/-- the call records an exit edge if it succeeds -/
def Op.exit : Op → Bool
  | .edge _ e nc _ _ => e == END && !nc
  | .branch _ _ ends skip => ends.contains END && !skip
  | _ => false

theorem addNode_keeps (f : Facts) (b : Builder) (n : NodeSpec) :
    (addNode f b n).1.startNodes = b.startNodes ∧ (addNode f b n).1.endNodes = b.endNodes ∧
    (addNode f b n).1.flags = b.flags := by
  exact addNode_ind (P := fun b' => b'.startNodes = b.startNodes ∧ b'.endNodes = b.endNodes ∧
    b'.flags = b.flags) f b n ⟨rfl, rfl, rfl⟩ (fun _ => ⟨rfl, rfl, rfl⟩) (fun _ => ⟨rfl, rfl, rfl⟩)

theorem addEdgeBody_keeps (im : Impl) (ord : Ord) (b b' : Builder) (s e : Key) (nc nd : Bool) (m : Option Nat)
    (h : addEdgeBody im ord b s e nc nd m = .ok b') :
    ((s == START && !nc) = false → b'.startNodes = b.startNodes) ∧
    ((e == END && !nc) = false → b'.endNodes = b.endNodes) ∧ b'.flags = b.flags := by
  obtain ⟨b1, h1, h2⟩ := addEdgeBody_accepted h
  -- the data half writes none of these cells
  have he : b'.ends = b1.ends := by
    rcases h2 with ⟨-, rfl⟩ | ⟨-, -, b2, hu, rfl⟩
    · rfl
    · exact update_ends im ord (b1.addToValidate s _) b2 hu
  rw [ends_startNodes he, ends_endNodes he, ends_compiled he]
  rcases (edgeHead_accepted h1).2.2.2.2 with ⟨rfl, rfl⟩ | ⟨rfl, -, rfl⟩
  · exact ⟨fun _ => rfl, fun _ => rfl, rfl⟩
  · exact ⟨fun hs => if_neg (by simpa using hs), fun he => if_neg (by simpa using he), rfl⟩

theorem addEdge_keeps (f : Facts) (im : Impl) (ord : Ord) (b : Builder) (s e : Key) (nc nd : Bool) (m : Option Nat) :
    ((s == START && !nc) = false → (addEdge f im ord b s e nc nd m).1.startNodes = b.startNodes) ∧
    ((e == END && !nc) = false → (addEdge f im ord b s e nc nd m).1.endNodes = b.endNodes) ∧
    (addEdge f im ord b s e nc nd m).1.flags = b.flags := by
  exact addEdge_ind (P := fun b' => ((s == START && !nc) = false → b'.startNodes = b.startNodes) ∧
      ((e == END && !nc) = false → b'.endNodes = b.endNodes) ∧ b'.flags = b.flags) f im ord b s e nc nd m
    ⟨fun _ => rfl, fun _ => rfl, rfl⟩ (fun b' hb => addEdgeBody_keeps im ord b b' s e nc nd m hb)
    (fun _ => ⟨fun _ => rfl, fun _ => rfl, rfl⟩)

theorem branchEnds_keeps (im : Impl) (ord : Ord) (s : Key) (ends : List Key) :
    ∀ (b b' : Builder), branchEnds im ord s ends b = .ok b' →
      (s ≠ START → b'.startNodes = b.startNodes) ∧ (END ∉ ends → b'.endNodes = b.endNodes) ∧
      b'.flags = b.flags := by
  induction ends with
  | nil => intro b b' h; cases h; exact ⟨fun _ => rfl, fun _ => rfl, rfl⟩
  | cons e es ih =>
    intro b b' h
    rw [branchEnds_cons] at h
    obtain ⟨-, h⟩ := of_ite_error_eq_ok h
    split at h
    · cases h
    · rename_i b1 hu
      have hx := update_ends im ord _ _ hu
      have h1 := ends_startNodes hx
      have h2 := ends_endNodes hx
      have h3 := ends_compiled hx
      simp only [Builder.addToValidate] at h1 h2 h3
      have := ih _ _ h
      refine ⟨fun hs => ?_, fun he => ?_, ?_⟩
      · rw [this.1 hs]; simp [Builder.noteEnds, hs, h1]
      · have he1 : ¬ e = END := fun hh => he (by simp [hh])
        have he2 : END ∉ es := fun hh => he (by simp [hh])
        rw [this.2.1 he2]; simp [Builder.noteEnds, he1, h2]
      · rw [this.2.2]; exact h3

theorem addBranchBody_keeps (f : Facts) (im : Impl) (ord : Ord) (b b' : Builder) (s : Key) (t : Ty)
    (ends : List Key) (sk : Bool) (hv : ord.Valid) (h : addBranchBody f im ord b s t ends sk = .ok b') :
    ((s == START && !sk) = false → b'.startNodes = b.startNodes) ∧
    ((ends.contains END && !sk) = false → b'.endNodes = b.endNodes) ∧ b'.flags = b.flags := by
  obtain ⟨-, -, -, b1, flag, b3, b4, hb1, hb3, hb4, rfl⟩ := addBranchBody_accepted h
  have he3 : b3.ends = b.ends := by
    have he1 : b1.ends = b.ends := by rcases hb1 with rfl | rfl <;> rfl
    rcases hb3 with rfl | hu
    · exact he1
    · exact (update_ends im ord _ b3 hu).trans he1
  rcases hb4 with ⟨rfl, rfl⟩ | ⟨rfl, h4⟩
  · exact ⟨fun _ => ends_startNodes he3, fun _ => ends_endNodes he3, ends_compiled he3⟩
  · have hk := branchEnds_keeps im ord s _ _ _ h4
    refine ⟨fun hs => ?_, fun he => ?_, hk.2.2.trans (ends_compiled he3)⟩
    · have : s ≠ START := by simpa using hs
      exact (hk.1 this).trans (ends_startNodes he3)
    · have : END ∉ ends := by simpa using he
      have : END ∉ ord.ends b3 ends := fun hh => this ((hv.ends b3 ends).mem_iff.mp hh)
      exact (hk.2.1 this).trans (ends_endNodes he3)

theorem addBranch_keeps (f : Facts) (im : Impl) (ord : Ord) (hv : ord.Valid) (b : Builder) (s : Key) (t : Ty)
    (ends : List Key) (sk : Bool) :
    ((s == START && !sk) = false → (addBranch f im ord b s t ends sk).1.startNodes = b.startNodes) ∧
    ((ends.contains END && !sk) = false → (addBranch f im ord b s t ends sk).1.endNodes = b.endNodes) ∧
    (addBranch f im ord b s t ends sk).1.flags = b.flags := by
  exact guarded_ind (P := fun b' => ((s == START && !sk) = false → b'.startNodes = b.startNodes) ∧
      ((ends.contains END && !sk) = false → b'.endNodes = b.endNodes) ∧ b'.flags = b.flags) _ b _
    ⟨fun _ => rfl, fun _ => rfl, rfl⟩ (fun b' hb => addBranchBody_keeps f im ord b b' s t ends sk hv hb)
    (fun _ => ⟨fun _ => rfl, fun _ => rfl, rfl⟩)

theorem mutatePre_keeps (f : Facts) (b : Builder) :
    (mutatePre f b).startNodes = b.startNodes ∧ (mutatePre f b).endNodes = b.endNodes := by
  unfold mutatePre; split <;> exact ⟨rfl, rfl⟩

theorem compileN_keeps (f : Facts) (ord : Ord) (b : Builder) (o : COpts) (kids : List Outcome) :
    (compileN f ord b o kids).1.startNodes = b.startNodes ∧ (compileN f ord b o kids).1.endNodes = b.endNodes := by
  unfold compileN
  split; · exact ⟨rfl, rfl⟩
  split; · exact ⟨rfl, rfl⟩
  split; · exact mutatePre_keeps f b
  split <;> exact mutatePre_keeps f b

theorem compile_keeps (f : Facts) (ord : Ord) (b : Builder) (o : COpts) :
    (compile f ord b o).1.startNodes = b.startNodes ∧ (compile f ord b o).1.endNodes = b.endNodes :=
  compileN_nil f ord b o ▸ compileN_keeps f ord b o []

theorem step_keeps (f : Facts) (im : Impl) (ord : Ord) (hv : ord.Valid) (b : Builder) (op : Op) :
    (op.entry = false → (step f im ord b op).1.startNodes = b.startNodes) ∧
    (op.exit = false → (step f im ord b op).1.endNodes = b.endNodes) ∧
    (op.isCompile = false → (step f im ord b op).1.flags = b.flags) := by
  cases op with
  | node n => exact ⟨fun _ => (addNode_keeps f b n).1, fun _ => (addNode_keeps f b n).2.1,
                     fun _ => (addNode_keeps f b n).2.2⟩
  | edge s e nc nd m =>
    have := addEdge_keeps f im ord b s e nc nd m
    exact ⟨this.1, this.2.1, fun _ => this.2.2⟩
  | branch s t ends sk =>
    have := addBranch_keeps f im ord hv b s t ends sk
    exact ⟨this.1, this.2.1, fun _ => this.2.2⟩
  | compile o => exact ⟨fun _ => (compile_keeps f ord b o).1, fun _ => (compile_keeps f ord b o).2,
                        fun h => by simp [Op.isCompile] at h⟩

theorem runK_keeps (E : Env) (hc : E.inCtl = true) (hv : E.ord.Valid) (ops : List Op) :
    ∀ b : Builder,
    ((∀ op ∈ ops, op.entry = false) → (runK E b ops).startNodes = b.startNodes) ∧
    ((∀ op ∈ ops, op.exit = false) → (runK E b ops).endNodes = b.endNodes) := by
  intro b
  refine ⟨fun h => runK_ind (P := fun b' => b'.startNodes = b.startNodes) E ops b (fun b' op ho hb' => ?_) rfl,
    fun h => runK_ind (P := fun b' => b'.endNodes = b.endNodes) E ops b (fun b' op ho hb' => ?_) rfl⟩
  · rw [stepK_true E hc, (step_keeps E.f E.im E.ord hv b' op).1 (h op ho), hb']
  · rw [stepK_true E hc, (step_keeps E.f E.im E.ord hv b' op).2.1 (h op ho), hb']

theorem asChild_isOk (oc : Outcome) : oc.asChild.isOk = oc.isOk := by
  cases oc <;> rfl

theorem compileN_accepted {f : Facts} {ord : Ord} {b : Builder} {o : COpts} {kids : List Outcome}
    (h : (compileN f ord b o kids).2.1.isOk = true) :
    b.buildError = none ∧ compilePre f b o = none ∧ (∀ k ∈ kids, k.isOk = true) ∧
    compilePost (mutatePre f b) ord o = none := by
  unfold compileN at h
  split at h
  · cases h
  · rename_i hb
    split at h
    · cases h
    · rename_i hp
      split at h
      · rename_i oc hfind
        have := List.find?_some hfind
        rw [asChild_isOk] at h; simp [h] at this
      · rename_i hfind
        split at h
        · rename_i oc hq
          rcases compilePost_some hq with rfl | ⟨rfl, -⟩ | rfl <;> cases h
        · rename_i hq
          exact ⟨hb, hp, fun k hk => by simpa using List.find?_eq_none.mp hfind k hk, hq⟩

theorem compileN_no_ends (f : Facts) (ord : Ord) (b : Builder) (o : COpts) (kids : List Outcome)
    (h : b.startNodes = [] ∨ b.endNodes = []) : (compileN f ord b o kids).2.1.isOk = false := by
  refine Bool.eq_false_iff.mpr fun hok => ?_
  have hn := compilePre_eq_none.mp (compileN_accepted hok).2.1
  rcases h with h | h
  · exact hn.2.2.1 h
  · exact hn.2.2.2.1 h

theorem compileN_ne_panic (f : Facts) (hct : f.compileChecksTypes = true) (ord : Ord) (b : Builder) (o : COpts)
    (kids : List Outcome) (hk : ∀ k ∈ kids, k ≠ .panic) : (compileN f ord b o kids).2.1 ≠ .panic := by
  unfold compileN
  split; · simp
  split; · simp
  rename_i hp
  split
  · rename_i oc hfind
    have := hk oc (List.mem_of_find?_eq_some hfind)
    cases oc <;> simp_all [Outcome.asChild]
  · split
    · rename_i oc hpost
      intro h; simp only at h; subst h
      exact compilePost_ne_panic hct hp hpost
    · simp

theorem compile_ne_panic (f : Facts) (hct : f.compileChecksTypes = true) (ord : Ord) (b : Builder) (o : COpts) :
    (compile f ord b o).2.1 ≠ .panic :=
  compileN_nil f ord b o ▸ compileN_ne_panic f hct ord b o [] (by simp)

theorem compileN_kid_fails (f : Facts) (ord : Ord) (b : Builder) (o : COpts) (kids : List Outcome)
    (kid : Outcome) (hk : kid ∈ kids) (hf : kid.isOk = false) : (compileN f ord b o kids).2.1.isOk = false := by
  refine Bool.eq_false_iff.mpr fun hok => ?_
  rw [(compileN_accepted hok).2.2.1 kid hk] at hf; cases hf

/-- Go visits the sub-graph nodes in map order: whether Compile is accepted does not depend on it -/
theorem compileN_perm (f : Facts) (ord : Ord) (b : Builder) (o : COpts) (kids kids' : List Outcome)
    (hp : kids.Perm kids') : (compileN f ord b o kids).2.1.isOk = (compileN f ord b o kids').2.1.isOk := by
  by_cases hall : ∀ k ∈ kids, k.isOk = true
  · rw [compileN_of_all_ok hall, compileN_of_all_ok fun k hk => hall k (hp.mem_iff.mpr hk)]
  · obtain ⟨k, hk, hf⟩ : ∃ k ∈ kids, k.isOk = false := by simpa using hall
    rw [compileN_kid_fails f ord b o kids k hk hf,
        compileN_kid_fails f ord b o kids' k (hp.mem_iff.mp hk) hf]

theorem compileN_bad_options (f : Facts) (ord : Ord) (b : Builder) (o : COpts) (kids : List Outcome)
    (h : (isDag b o = true ∧ o.maxSteps > 0) ∨ ((b.cmp = .chain ∨ b.cmp = .workflow) ∧ o.trigger ≠ .unset)) :
    (compileN f ord b o kids).2.1.isOk = false := by
  refine Bool.eq_false_iff.mpr fun hok => ?_
  obtain ⟨-, hp, -, hq⟩ := compileN_accepted hok
  rcases h with ⟨hd, hm⟩ | ⟨hcmp, ht⟩
  · have hd' : isDag (mutatePre f b) o = true := by
      unfold mutatePre; split <;> simpa [isDag] using hd
    exact Nat.pos_iff_ne_zero.mp hm ((compilePost_eq_none.mp hq).2.2 hd')
  · exact ht ((compilePre_eq_none.mp hp).1 hcmp)

def DOps.all (p : Op → Bool) : DOps → Bool
  | .nil => true
  | .op o rest => p o && DOps.all p rest
  | .sub _ _ _ rest => DOps.all p rest

/-- `AddGraphNode(key, child, WithGraphCompileOptions(co))` is one of the declaring calls -/
def DOps.hasSub (key : Key) (child : Decl) (co : COpts) : DOps → Prop
  | .nil => False
  | .op _ rest => DOps.hasSub key child co rest
  | .sub k c o rest => (k = key ∧ c = child ∧ o = co) ∨ DOps.hasSub key child co rest

theorem build_ind {P : Builder → Prop} (E : Env) (p : Op → Bool)
    (hop : ∀ b o, p o = true → P b → P (stepK E b o).1) (hsub : ∀ b n, P b → P (addNode E.f b n).1) :
    ∀ (ops : DOps) (b : Builder), ops.all p = true → P b → P (DOps.build E ops b).1
  | .nil, _, _, h => h
  | .op o rest, b, ha, h =>
    build_ind E p hop hsub rest _ (Bool.and_eq_true_iff.mp ha).2 (hop b o (Bool.and_eq_true_iff.mp ha).1 h)
  | .sub _ _ _ rest, b, ha, h => build_ind E p hop hsub rest _ ha (hsub b _ h)

theorem build_keeps (E : Env) (hc : E.inCtl = true) (hv : E.ord.Valid) :
    ∀ (ops : DOps) (b : Builder),
    (ops.all (fun o => !o.entry) = true → (DOps.build E ops b).1.startNodes = b.startNodes) ∧
    (ops.all (fun o => !o.exit) = true → (DOps.build E ops b).1.endNodes = b.endNodes) ∧
    (ops.all (fun o => !o.isCompile) = true → (DOps.build E ops b).1.flags = b.flags) := by
  intro ops b
  refine ⟨fun h => build_ind (P := fun b' => b'.startNodes = b.startNodes) E _ (fun b' o ho hb' => ?_)
      (fun b' n hb' => (addNode_keeps E.f b' n).1.trans hb') ops b h rfl,
    fun h => build_ind (P := fun b' => b'.endNodes = b.endNodes) E _ (fun b' o ho hb' => ?_)
      (fun b' n hb' => (addNode_keeps E.f b' n).2.1.trans hb') ops b h rfl,
    fun h => build_ind (P := fun b' => b'.flags = b.flags) E _ (fun b' o ho hb' => ?_)
      (fun b' n hb' => (addNode_keeps E.f b' n).2.2.trans hb') ops b h rfl⟩
  · rw [stepK_true E hc, (step_keeps E.f E.im E.ord hv b' o).1 (by simpa using ho), hb']
  · rw [stepK_true E hc, (step_keeps E.f E.im E.ord hv b' o).2.1 (by simpa using ho), hb']
  · rw [stepK_true E hc, (step_keeps E.f E.im E.ord hv b' o).2.2 (by simpa using ho), hb']

theorem stepK_stored (E : Env) (hf : E.f.Guarded) (hc : E.inCtl = true) (b : Builder) (k : ErrKind)
    (h : b.buildError = some k) (op : Op) : (stepK E b op).1 = b := by
  rw [stepK_true E hc, step_stored E.f hf E.im E.ord b k h op]

theorem build_err_sticks (E : Env) (hf : E.f.Guarded) (hc : E.inCtl = true) :
    ∀ (ops : DOps) (b : Builder) (k : ErrKind), b.buildError = some k → (DOps.build E ops b).1 = b
  | .nil, b, k, _ => rfl
  | .op o rest, b, k, h => by
    simp only [DOps.build, stepK_stored E hf hc b k h o]
    exact build_err_sticks E hf hc rest b k h
  | .sub key child co rest, b, k, h => by
    simp only [DOps.build, addNode_stored E.f hf b k h]
    exact build_err_sticks E hf hc rest b k h

theorem build_sub (E : Env) (hf : E.f.Guarded) (hc : E.inCtl = true) (hv : E.ord.Valid)
    (key : Key) (child : Decl) (co : COpts) :
    ∀ (ops : DOps) (b : Builder), ops.all (fun o => !o.isCompile) = true → b.compiled = false →
      DOps.hasSub key child co ops →
      (DOps.build E ops b).1.buildError ≠ none ∨ Decl.first E child co ∈ (DOps.build E ops b).2
  | .nil, b, _, _, h => absurd h (by simp [DOps.hasSub])
  | .op o rest, b, ha, hcmp, hs => by
    simp only [DOps.all, Bool.and_eq_true, Bool.not_eq_eq_eq_not, Bool.not_true] at ha
    simp only [DOps.hasSub] at hs
    simp only [DOps.build]
    have h1 := (step_keeps E.f E.im E.ord hv b o).2.2 ha.1
    rw [← stepK_true E hc] at h1
    have h1' : (stepK E b o).1.compiled = b.compiled := congrArg Prod.fst h1
    exact build_sub E hf hc hv key child co rest _ (by simpa using ha.2) (by rw [h1']; exact hcmp) hs
  | .sub k c o rest, b, ha, hcmp, hs => by
    simp only [DOps.all] at ha
    simp only [DOps.build]
    have h3 : (addNode E.f b (subSpec k c.inT c.outT)).1.compiled = b.compiled :=
      congrArg Prod.fst (addNode_keeps E.f b (subSpec k c.inT c.outT)).2.2
    rcases hs with ⟨rfl, rfl, rfl⟩ | hs
    · have hst : E.f.nodeG.storeErr = true := by rw [hf.node]; rfl
      have hr : (addNode E.f b (subSpec k c.inT c.outT)).2 = .ok ∨
          (addNode E.f b (subSpec k c.inT c.outT)).1.buildError ≠ none :=
        guarded_ok_or_err E.f.nodeG hst b hcmp _
      rcases hr with hr | hr
      · right; simp [hr, Outcome.isOk]
      · left
        obtain ⟨kk, hb⟩ := Option.ne_none_iff_exists'.mp hr
        rw [build_err_sticks E hf hc rest _ kk hb, hb]; simp
    · rcases build_sub E hf hc hv key child co rest _ ha (by rw [h3]; exact hcmp) hs with h | h
      · left; exact h
      · right
        split
        · simp [h]
        · exact h

theorem attempt_cases (E : Env) (b : Builder) (calls : List Op) (guard : Option Outcome) (o : COpts)
    (kids : List Outcome) :
    (∃ k, b.buildError = some k ∧ attempt E b calls guard o kids = (b, .stored k)) ∨
    (∃ oc, guard = some oc ∧ attempt E b calls guard o kids = (b, oc)) ∨
    (b.buildError = none ∧ guard = none ∧ attempt E b calls guard o kids =
      ((compileN E.f E.ord (runK E b calls) o kids).1, (compileN E.f E.ord (runK E b calls) o kids).2.1)) := by
  unfold attempt
  split
  · exact .inl ⟨_, ‹_›, rfl⟩
  · split
    · exact .inr (.inl ⟨_, rfl, rfl⟩)
    · exact .inr (.inr ⟨‹_›, rfl, rfl⟩)

theorem attempt_no_ends (E : Env) (hc : E.inCtl = true) (hv : E.ord.Valid) (b : Builder) (calls : List Op)
    (guard : Option Outcome) (o : COpts) (kids : List Outcome)
    (hg : ∀ oc, guard = some oc → oc.isOk = false)
    (h : (b.startNodes = [] ∧ ∀ op ∈ calls, op.entry = false) ∨ (b.endNodes = [] ∧ ∀ op ∈ calls, op.exit = false)) :
    (attempt E b calls guard o kids).2.isOk = false ∧
    (b.startNodes = [] → (∀ op ∈ calls, op.entry = false) → (attempt E b calls guard o kids).1.startNodes = []) ∧
    (b.endNodes = [] → (∀ op ∈ calls, op.exit = false) → (attempt E b calls guard o kids).1.endNodes = []) := by
  rcases attempt_cases E b calls guard o kids with ⟨k, -, e⟩ | ⟨oc, hoc, e⟩ | ⟨-, -, e⟩ <;> rw [e]
  · exact ⟨rfl, fun h _ => h, fun h _ => h⟩
  · exact ⟨hg oc hoc, fun h _ => h, fun h _ => h⟩
  · have hk := runK_keeps E hc hv calls b
    have hcn := compileN_keeps E.f E.ord (runK E b calls) o kids
    refine ⟨?_, fun h0 hc0 => ?_, fun h0 hc0 => ?_⟩
    · apply compileN_no_ends
      rcases h with ⟨h0, hc0⟩ | ⟨h0, hc0⟩
      · left; rw [hk.1 hc0]; exact h0
      · right; rw [hk.2 hc0]; exact h0
    · rw [hcn.1, hk.1 hc0]; exact h0
    · rw [hcn.2, hk.2 hc0]; exact h0

/-- a list `sel` that Compile wants non-empty and that only calls with `p` extend: once it is empty
    and no recorded call has `p`, every Compile is refused -/
theorem compilesFrom_refused {sel : Builder → List Key} {p : Op → Bool} (E : Env) (re : List Op)
    (guard : Option Outcome) (kids : List Outcome)
    (ha : ∀ b calls co, sel b = [] → (∀ op ∈ calls, p op = false) →
      (attempt E b calls guard co kids).2.isOk = false ∧ sel (attempt E b calls guard co kids).1 = [])
    (hre : ∀ op ∈ re, p op = false) (cos : List COpts) :
    ∀ (b : Builder) (pending : List Op), sel b = [] → (∀ op ∈ pending, p op = false) →
      ∀ r ∈ compilesFrom E re guard kids b pending cos, r.1.isOk = false := by
  induction cos with
  | nil => intro b _ _ _ r hr; cases hr
  | cons co rest ih =>
    intro b pending hb hp r hr
    have ha := ha b (re ++ pending) co hb fun op hop => (List.mem_append.mp hop).elim (hre op) (hp op)
    simp only [compilesFrom, List.mem_cons] at hr
    rcases hr with rfl | hr
    · exact ha.1
    · refine ih _ _ ha.2 ?_ r hr
      intro op hop; split at hop
      · cases hop
      · exact hp op hop

theorem compilesFrom_no_entry (E : Env) (hc : E.inCtl = true) (hv : E.ord.Valid) (re : List Op)
    (guard : Option Outcome) (kids : List Outcome) (hg : ∀ oc, guard = some oc → oc.isOk = false)
    (hre : ∀ op ∈ re, op.entry = false) (cos : List COpts) :
    ∀ (b : Builder) (pending : List Op), b.startNodes = [] → (∀ op ∈ pending, op.entry = false) →
      ∀ r ∈ compilesFrom E re guard kids b pending cos, r.1.isOk = false :=
  compilesFrom_refused E re guard kids (fun b calls co hb hcl =>
    have h := attempt_no_ends E hc hv b calls guard co kids hg (Or.inl ⟨hb, hcl⟩)
    ⟨h.1, h.2.1 hb hcl⟩) hre cos

theorem compilesFrom_no_exit (E : Env) (hc : E.inCtl = true) (hv : E.ord.Valid) (re : List Op)
    (guard : Option Outcome) (kids : List Outcome) (hg : ∀ oc, guard = some oc → oc.isOk = false)
    (hre : ∀ op ∈ re, op.exit = false) (cos : List COpts) :
    ∀ (b : Builder) (pending : List Op), b.endNodes = [] → (∀ op ∈ pending, op.exit = false) →
      ∀ r ∈ compilesFrom E re guard kids b pending cos, r.1.isOk = false :=
  compilesFrom_refused E re guard kids (fun b calls co hb hcl =>
    have h := attempt_no_ends E hc hv b calls guard co kids hg (Or.inr ⟨hb, hcl⟩)
    ⟨h.1, h.2.2 hb hcl⟩) hre cos

theorem runK_flags (E : Env) (hc : E.inCtl = true) (hv : E.ord.Valid) (ops : List Op) :
    ∀ b : Builder, (∀ op ∈ ops, op.isCompile = false) → (runK E b ops).flags = b.flags := by
  intro b h
  refine runK_ind (P := fun b' => b'.flags = b.flags) E ops b (fun b' op ho hb' => ?_) rfl
  rw [stepK_true E hc, (step_keeps E.f E.im E.ord hv b' op).2.2 (h op ho), hb']

theorem attempt_bad_options (E : Env) (hc : E.inCtl = true) (hv : E.ord.Valid) (b : Builder) (calls : List Op)
    (guard : Option Outcome) (o : COpts) (kids : List Outcome)
    (hg : ∀ oc, guard = some oc → oc.isOk = false) (hw : b.cmp = .workflow)
    (hcalls : ∀ op ∈ calls, op.isCompile = false) (ho : o.maxSteps > 0 ∨ o.trigger ≠ .unset) :
    (attempt E b calls guard o kids).2.isOk = false := by
  rcases attempt_cases E b calls guard o kids with ⟨k, -, e⟩ | ⟨oc, hoc, e⟩ | ⟨-, -, e⟩ <;> rw [e]
  · rfl
  · exact hg oc hoc
  · have hfl : (runK E b calls).cmp = .workflow := by
      have := congrArg Prod.snd (runK_flags E hc hv calls b hcalls)
      simp only at this; rw [this]; exact hw
    apply compileN_bad_options
    rcases ho with ho | ho
    · left; exact ⟨by simp [isDag, hfl], ho⟩
    · right; exact ⟨Or.inr hfl, ho⟩

theorem wfNodeOps_all (p : Op → Bool) (hp : ∀ n, p (.node n) = true) (ns : List WfNode) :
    (wfNodeOps ns).all p = true := by
  induction ns with
  | nil => rfl
  | cons n ns ih =>
    unfold wfNodeOps
    split <;> simp [DOps.all, hp, ih]

theorem wf_guard_not_ok (chk : Bool) (d : WfDecl) : ∀ oc, d.guard chk = some oc → oc.isOk = false := by
  intro oc h
  unfold WfDecl.guard at h
  split at h
  · simp only [Option.some.injEq] at h; rw [← h]; split <;> rfl
  · simp at h

theorem wf_branchOps_entry (d : WfDecl) : ∀ op ∈ d.branchOps, op.entry = false ∧ op.exit = false :=
  List.forall_mem_map.mpr fun _ _ => by simp [Op.entry, Op.exit]

theorem forall_mem_inputOps (d : WfDecl) (P : Op → Prop) :
    (∀ op ∈ d.inputOps, P op) ↔
      (∀ n ∈ d.nodes, ∀ i ∈ n.ins, P (i.op n.key)) ∧ ∀ i ∈ d.endIns, P (i.op END) := by
  simp only [WfDecl.inputOps, List.forall_mem_append, List.forall_mem_map, List.forall_mem_flatMap]

theorem wf_inputOps_entry (d : WfDecl)
    (h : ∀ n ∈ d.nodes, ∀ i ∈ n.ins, i.src = START → i.kind = .indirect)
    (hE : ∀ i ∈ d.endIns, i.src = START → i.kind = .indirect) :
    ∀ op ∈ d.inputOps, op.entry = false := by
  refine (forall_mem_inputOps d _).mpr ⟨fun n hn i hi => ?_, fun i hi => ?_⟩
  · simp only [WfIn.op, Op.entry, Bool.and_eq_false_imp, beq_iff_eq]
    intro hs; simp [h n hn i hi hs]
  · simp only [WfIn.op, Op.entry, Bool.and_eq_false_imp, beq_iff_eq]
    intro hs; simp [hE i hi hs]

theorem wf_inputOps_exit (d : WfDecl) (h : ∀ n ∈ d.nodes, n.key ≠ END)
    (hE : ∀ i ∈ d.endIns, i.kind = .indirect) : ∀ op ∈ d.inputOps, op.exit = false :=
  (forall_mem_inputOps d _).mpr
    ⟨fun n hn i _ => by simp [WfIn.op, Op.exit, h n hn], fun i hi => by simp [WfIn.op, Op.exit, hE i hi]⟩

theorem wf_calls_noCompile (d : WfDecl) : ∀ op ∈ d.branchOps ++ d.inputOps, op.isCompile = false :=
  List.forall_mem_append.mpr ⟨List.forall_mem_map.mpr fun _ _ => rfl,
    (forall_mem_inputOps d _).mpr ⟨fun _ _ _ _ => rfl, fun _ _ => rfl⟩⟩

theorem inputOpsBy_declared (d : WfDecl) :
    d.inputOpsBy (List.range (d.nodes.length + 1)) = d.inputOps := by
  have hl : d.groups.length = d.nodes.length + 1 := by simp [WfDecl.groups]
  unfold WfDecl.inputOpsBy
  rw [← hl, List.flatMap_def, map_range_getD]
  simp [WfDecl.groups, WfDecl.inputOps, List.flatMap_def]

theorem lowerBy_declared (chk : Bool) (d : WfDecl) :
    d.lowerBy chk (List.range (d.nodes.length + 1)) = d.lower chk := by
  simp [WfDecl.lowerBy, WfDecl.lower, inputOpsBy_declared]

end EinoV.Build
