/-
  C16 — `runNodeWP` (Model/C16Resume.lean) is the one run: `runNode` is its instance on the tree without key
  wrappers under `Part.full`, so what holds of every accepted partial run holds of `runNode` / `runNodes`.
-/
import EinoV.Proofs.C16Resume

namespace EinoV.C16

mutual
def Node.plain : Node → WNode
  | .comp k ty => .comp k ty Wrap.plain
  | .pass k => .pass k Wrap.plain
  | .graph k ch => .graph k ch.plain Wrap.plain
def Nodes.plain : Nodes → WNodes
  | .nil => .nil
  | .cons n ns => .cons n.plain ns.plain
end

theorem plain_erase : (∀ n : Node, n.plain.erase = n) ∧ (∀ ns : Nodes, ns.plain.erase = ns) := by
  refine Node.induct ?_ ?_ ?_ ?_ ?_
  · intro k ty; rfl
  · intro k; rfl
  · intro k ch ih; simp only [Node.plain, WNode.erase, ih]
  · rfl
  · intro n ns ih1 ih2; simp only [Nodes.plain, WNodes.erase, ih1, ih2]

theorem Node.plain_key (n : Node) : n.plain.key = n.key := by cases n <;> rfl

theorem runWP_plain {F : Facts} (K : KeyFacts) (R : ResumeFacts) (par : Paradigm) :
    (∀ (n : Node) (pre : Path) (gH : List Nat) (opts : List Opt) (log : Log),
      runNodeWP F K R par pre gH opts log .full n.plain = runNode F pre gH opts log n) ∧
    (∀ (ns : Nodes) (pre : Path) (gH : List Nat) (opts : List Opt) (log : Log),
      runNodesWP F K R par pre gH opts log .full ns.plain = runNodes F pre gH opts log ns) := by
  refine Node.induct ?_ ?_ ?_ ?_ ?_
  · intro k ty pre gH opts log
    simp only [Node.plain, runNodeWP, runNode, Part.skips, deliver_plain, Bool.false_eq_true, if_false]
  · intro k pre gH opts log; rfl
  · intro k ch ih pre gH opts log
    simp only [Node.plain, runNodeWP, runNode, Part.skips, Part.restored, deliver_plain, plain_erase.2,
      Bool.false_and, Bool.false_eq_true, if_false]
    cases extract F ch (optsOf (itemsFor log k)) with
    | error e => rfl
    | ok log' => simp only [ih]; rfl
  · intro pre gH opts log; rfl
  · intro n ns ih1 ih2 pre gH opts log
    simp only [Nodes.plain, runNodesWP, runNodes, Part.node, Part.rest, ih1, ih2]; rfl

def KeyFacts.yes : KeyFacts := ⟨true, true, true, true⟩

theorem KeyFacts.yes_all : KeyFacts.yes.allForward := ⟨rfl, rfl, rfl, rfl⟩

theorem runNode_sound {F : Facts} (hT : F.typeCmpIdentity = true)
    (hI : F.typeCmpImplements = false) (hS : F.strip = 1) :
    ∀ (n : Node) (all : Nodes) (pre : Path) (gH : List Nat) (opts : List Opt) (log : Log)
      (out : List Entry),
      all.wf = true → extract F all opts = .ok log → n ∈ all.toList →
      (∀ h ∈ graphHandlers opts, h ∈ gH) →
      runNode F pre gH opts log n = .ok out → ∀ e ∈ out, EntrySpec all pre gH opts e :=
  fun n all pre gH opts log out hwf he hn hG hrun =>
    runNodeWP_sound hT hI hS KeyFacts.yes_all (R := ⟨true⟩) rfl .invoke n.plain .full all pre gH opts log out hwf he
      (by rwa [plain_erase.1]) hG (by rwa [(runWP_plain _ _ _).1])

theorem runNodes_sound {F : Facts} (hT : F.typeCmpIdentity = true)
    (hI : F.typeCmpImplements = false) (hS : F.strip = 1) :
    ∀ (ns : Nodes) (all : Nodes) (pre : Path) (gH : List Nat) (opts : List Opt) (log : Log)
      (out : List Entry),
      all.wf = true → extract F all opts = .ok log → (∀ n ∈ ns.toList, n ∈ all.toList) →
      (∀ h ∈ graphHandlers opts, h ∈ gH) →
      runNodes F pre gH opts log ns = .ok out → ∀ e ∈ out, EntrySpec all pre gH opts e :=
  fun ns all pre gH opts log out hwf he hns hG hrun =>
    runNodesWP_sound hT hI hS KeyFacts.yes_all (R := ⟨true⟩) rfl .invoke ns.plain .full all pre gH opts log out hwf he
      (by rwa [plain_erase.2]) hG (by rwa [(runWP_plain _ _ _).2])

theorem runNode_complete {F : Facts} :
    ∀ (n : Node) (pre : Path) (gH : List Nat) (opts : List Opt) (log : Log) (out : List Entry),
      runNode F pre gH opts log n = .ok out →
      (n.isPass = false → ∃ e ∈ out, e.path = pre ++ [n.key]) ∧
      (∀ k ch rel n', n = .graph k ch → nodeAt ch rel = some n' → n'.isPass = false →
        ∃ e ∈ out, e.path = pre ++ k :: rel) := by
  intro n pre gH opts log out hrun
  rw [← (runWP_plain KeyFacts.yes ⟨true⟩ .invoke).1] at hrun
  obtain ⟨h1, h2⟩ := (runWP_exec_levels .invoke).1 n.plain .full pre gH opts log out hrun
  rw [plain_erase.1, Node.plain_key] at h1
  refine ⟨h1 rfl, fun k ch rel n' hn hnode => ?_⟩
  subst hn
  exact h2 k ch.plain Wrap.plain rel n' rfl (.inl rfl) (by rwa [plain_erase.2])

theorem runNodes_complete {F : Facts} :
    ∀ (ns : Nodes) (pre : Path) (gH : List Nat) (opts : List Opt) (log : Log) (out : List Entry),
      runNodes F pre gH opts log ns = .ok out →
      ∀ rel n', nodeAt ns rel = some n' → n'.isPass = false → ∃ e ∈ out, e.path = pre ++ rel := by
  intro ns pre gH opts log out hrun rel n' hnode
  rw [← (runWP_plain KeyFacts.yes ⟨true⟩ .invoke).2] at hrun
  exact (runWP_exec_levels .invoke).2 ns.plain .full pre gH opts log out hrun rel n' (.inl rfl)
    (by rwa [plain_erase.2])

end EinoV.C16
