/-
  C02, run level: in all-predecessor mode every node of a well-formed acyclic runner is started
  at most once (`run_at_most_once`), for every wiring, node function, branch outcome, input and
  fair completion schedule.

  Proof: a counting invariant `J` over the channel manager — every predecessor entry that has
  been reported and not yet consumed by a start of the node is paid for by a completion of the
  predecessor or by the predecessor having turned skipped — preserved by every operation of
  `calcNext` (skip propagation with its work list, updateValues, updateDependencies,
  getFromReadyChannels), plus a static induction along the acyclic predecessor order
  (`static_bound`): starts(n) + skipped(n) ≤ 1.  After it: the executable test `dagWFb` implies the
  hypothesis `DagWF` (`nodupb_sound`, `dagWFb_sound`), and a run has at most `nodes + 1` rounds (`linv_short`).
-/
import EinoV.Model.Engine
import EinoV.Spec.DagWF
import EinoV.Proofs.Assoc
import EinoV.Proofs.EngineOps

namespace EinoV.Engine

namespace DagRun

def pendC : Dep → Nat
  | .waiting => 0
  | _ => 1

def pendD : Bool → Nat
  | true => 1
  | false => 0

/-- together the two clauses give a skipped channel a reported entry (`SkOK.reported`): by the budget of
    `J` its node then has no start (`static_bound`) -/
structure SkOK {V} (c : Chan V) : Prop where
  all : c.skipped = true → ∀ p d, (p, d) ∈ c.ctrl → d = Dep.skipped
  wit : c.skipped = true → c.ctrl = [] → ∃ p, (p, true) ∈ c.data

theorem SkOK.reported {V} {c : Chan V} (h : SkOK c) (hs : c.skipped = true) :
    (∃ p, (p, Dep.skipped) ∈ c.ctrl) ∨ ∃ p, (p, true) ∈ c.data := by
  cases hc : c.ctrl with
  | nil => exact Or.inr (h.wit hs hc)
  | cons a t =>
    obtain ⟨p, d⟩ := a
    obtain rfl := h.all hs p d (hc ▸ List.mem_cons_self)
    exact Or.inl ⟨p, List.mem_cons_self⟩

theorem SkOK.of_not_skipped {V} {c : Chan V} (h : c.skipped = false) : SkOK c :=
  ⟨fun hs => absurd (h ▸ hs) Bool.false_ne_true, fun hs => absurd (h ▸ hs) Bool.false_ne_true⟩

theorem reportDeps_facts {V} (c : Chan V) (ins : List Key) :
    shapeOf (c.reportDeps true ins) = shapeOf c ∧ (c.reportDeps true ins).skipped = c.skipped ∧
    (c.reportDeps true ins).data = c.data ∧
    (∀ p d, (p, d) ∈ (c.reportDeps true ins).ctrl → (p, d) ∈ c.ctrl ∨ (p ∈ ins ∧ p ∈ akeys c.ctrl)) := by
  rw [reportDeps_markAll]; split
  · exact ⟨rfl, rfl, rfl, fun p d h => Or.inl h⟩
  · exact ⟨by simp only [shapeOf, akeys_markAll], rfl, rfl, fun p d h => (mem_markAll h).imp_right (·.2)⟩

theorem reportValues_facts {V} (c : Chan V) (ins : List (Key × V)) :
    shapeOf (c.reportValues true ins) = shapeOf c ∧ (c.reportValues true ins).skipped = c.skipped ∧
    (c.reportValues true ins).ctrl = c.ctrl ∧
    (∀ p d, (p, d) ∈ (c.reportValues true ins).data → (p, d) ∈ c.data ∨ (p ∈ akeys ins ∧ p ∈ akeys c.data)) := by
  rw [reportValues_markAll]; split
  · exact ⟨rfl, rfl, rfl, fun p d h => Or.inl h⟩
  · exact ⟨by simp only [shapeOf, akeys_markAll], rfl, rfl, fun p d h => (mem_markAll h).imp_right (·.2)⟩

theorem reportDeps_skOK {V} (c : Chan V) (ins : List Key) (h : SkOK c) : SkOK (c.reportDeps true ins) := by
  rw [reportDeps_markAll]; split
  · exact h
  · rename_i hns; exact .of_not_skipped ((Bool.not_eq_true _).mp hns)

theorem reportValues_skOK {V} (c : Chan V) (ins : List (Key × V)) (h : SkOK c) : SkOK (c.reportValues true ins) := by
  rw [reportValues_markAll]; split
  · exact h
  · rename_i hns; exact .of_not_skipped ((Bool.not_eq_true _).mp hns)

theorem reportSkip_shape {V} (c : Chan V) (k : Key) : shapeOf (c.reportSkip true [k]).1 = shapeOf c := by
  rw [reportSkip_eq]; simp only [shapeOf, akeys_mark]

theorem mem_reportSkip_ctrl {V} {c : Chan V} {k p : Key} {d : Dep} (h : (p, d) ∈ (c.reportSkip true [k]).1.ctrl) :
    (p, d) ∈ c.ctrl ∨ (p = k ∧ d = Dep.skipped ∧ k ∈ akeys c.ctrl) := by
  rw [reportSkip_eq] at h; exact mem_mark h

theorem mem_reportSkip_data {V} {c : Chan V} {k p : Key} {b : Bool} (h : (p, b) ∈ (c.reportSkip true [k]).1.data) :
    (p, b) ∈ c.data ∨ (p = k ∧ b = true ∧ k ∈ akeys c.data) := by
  rw [reportSkip_eq] at h; exact mem_mark h

theorem reportSkip_flag {V} (c : Chan V) (k : Key) :
    (c.reportSkip true [k]).2 = (c.reportSkip true [k]).1.skipped ∧
    ((c.reportSkip true [k]).1.skipped = true ↔ ∀ p d, (p, d) ∈ (c.reportSkip true [k]).1.ctrl → d = Dep.skipped) := by
  rw [reportSkip_eq]
  refine ⟨rfl, ?_⟩
  simp only [List.all_eq_true, beq_iff_eq]
  exact ⟨fun h p d hm => h (p, d) hm, fun h x hm => h x.1 x.2 hm⟩

theorem reportSkip_skOK {V} (c : Chan V) (k : Key) (h : SkOK c)
    (hk : k ∈ akeys c.ctrl ∨ k ∈ akeys c.data) :
    SkOK (c.reportSkip true [k]).1 ∧ (c.skipped = true → (c.reportSkip true [k]).1.skipped = true) := by
  have flag := (reportSkip_flag c k).2
  refine ⟨⟨flag.mp, fun _ hnil => ?_⟩, fun hsk => flag.mpr fun p d hm => ?_⟩
  · -- no control entries: `k` is a data predecessor, and its entry is now reported
    have hkc : akeys c.ctrl = [] := by
      have := congrArg Prod.fst (reportSkip_shape c k)
      simp only [shapeOf] at this
      rw [← this, hnil]; rfl
    rcases hk with hk | hk
    · rw [hkc] at hk; cases hk
    · exact ⟨k, by rw [reportSkip_eq]; exact mark_self hk⟩
  · exact (mem_reportSkip_ctrl hm).elim (h.all hsk p d) (·.2.1)

theorem reset_facts {V} (c : Chan V) :
    shapeOf c.reset = shapeOf c ∧ c.reset.skipped = c.skipped ∧
    (∀ p d, (p, d) ∈ c.reset.ctrl → d = Dep.waiting) ∧ (∀ p b, (p, b) ∈ c.reset.data → b = false) := by
  refine ⟨?_, rfl, ?_, ?_⟩
  · simp only [shapeOf, Chan.reset, akeys_map_mk Prod.fst]; rfl
  · intro p d h
    simp only [Chan.reset, List.mem_map, Prod.mk.injEq] at h
    obtain ⟨_, _, _, rfl⟩ := h; rfl
  · intro p d h
    simp only [Chan.reset, List.mem_map, Prod.mk.injEq] at h
    obtain ⟨_, _, _, rfl⟩ := h; rfl

theorem calcNext_ok {V} {ops : ValOps V} {r : Runner V} (hd : r.dag = true) {cm cm' : Chans V}
    {done : List (Done V)} {nx : Next V} (h : calcNext ops r cm done = .ok (cm', nx)) :
    ∃ res ready, resolve r cm done = .ok res ∧
      getReady ops true (updateDeps r (updateValues r res.cm res.writes) res.deps) = (cm', ready, false) ∧
      ((∃ v, alookup END ready = some v ∧ nx = .result v) ∨ (alookup END ready = none ∧ nx = .tasks ready)) :=
  hd ▸ Engine.calcNext_ok h

def skOf {V} (cm : Chans V) (p : Key) : Nat :=
  match alookup p cm with
  | some c => if c.skipped then 1 else 0
  | none => 0

theorem skOf_eq {V} {cm : Chans V} {p : Key} {c : Chan V} (h : alookup p cm = some c) :
    skOf cm p = if c.skipped then 1 else 0 := by
  unfold skOf; rw [h]

theorem skOf_eq_one {V} {cm : Chans V} {p : Key} :
    skOf cm p = 1 ↔ ∃ c, alookup p cm = some c ∧ c.skipped = true := by
  unfold skOf
  cases alookup p cm with
  | none => simp
  | some c => cases h : c.skipped <;> simp

theorem skOf_le_one {V} (cm : Chans V) (p : Key) : skOf cm p ≤ 1 := by
  unfold skOf; split
  · split <;> omega
  · omega

theorem skOf_not_mem {V} {cm : Chans V} {p : Key} (h : p ∉ akeys cm) : skOf cm p = 0 := by
  unfold skOf; rw [alookup_none_of_not_mem p cm h]

theorem skOf_modChan_ne {V} (cm : Chans V) (k : Key) (f : Chan V → Chan V) {p : Key} (h : p ≠ k) :
    skOf (modChan cm k f) p = skOf cm p := by
  unfold skOf
  rw [alookup_modChan, if_neg h]

theorem skOf_modChan_self {V} (cm : Chans V) (k : Key) (f : Chan V → Chan V) :
    skOf (modChan cm k f) k = match alookup k cm with
      | some c => if (f c).skipped then 1 else 0
      | none => 0 := by
  unfold skOf
  rw [alookup_modChan, if_pos rfl]
  cases alookup k cm <;> rfl

theorem skOf_mono_modChan {V} (cm : Chans V) (k : Key) (f : Chan V → Chan V)
    (h6 : ∀ c0, (k, c0) ∈ cm → c0.skipped = true → (f c0).skipped = true) (p : Key)
    (h : skOf cm p = 1) : skOf (modChan cm k f) p = 1 := by
  obtain ⟨c0, hl, hs⟩ := skOf_eq_one.mp h
  refine skOf_eq_one.mpr ?_
  rw [alookup_modChan, hl]
  by_cases e : p = k
  · exact ⟨f c0, by simp [e], h6 c0 (e ▸ mem_of_alookup _ _ _ hl) hs⟩
  · exact ⟨c0, by simp [e], hs⟩

/-- The work list of skip propagation: keys of channels whose skip flag is on, each once.  A key is pushed when
    its flag turns on (`WL.push`) and no flag turns off, so the list is never longer than the channel map: this
    bounds the rounds of `propagateSkips` by its fuel. -/
structure WL {V} (cm : Chans V) (l : List Key) : Prop where
  nd : l.Nodup
  fl : ∀ k, k ∈ l → skOf cm k = 1

theorem WL.mono {V} {cm cm' : Chans V} {l : List Key} (h : WL cm l)
    (hm : ∀ p, skOf cm p = 1 → skOf cm' p = 1) : WL cm' l :=
  ⟨h.nd, fun k hk => hm k (h.fl k hk)⟩

theorem WL.push {V} {cm cm' : Chans V} {l : List Key} {s : Key} (h : WL cm l)
    (hm : ∀ p, skOf cm p = 1 → skOf cm' p = 1) (h0 : skOf cm s = 0) (h1 : skOf cm' s = 1) : WL cm' (l ++ [s]) := by
  have hnot : s ∉ l := fun hin => by have := h.fl s hin; omega
  refine ⟨List.nodup_append.mpr ⟨h.nd, by simp, fun a ha b hb => ?_⟩, fun k hk => ?_⟩
  · rw [List.mem_singleton.mp hb]; exact fun e => hnot (e ▸ ha)
  · rcases List.mem_append.mp hk with h' | h'
    · exact hm k (h.fl k h')
    · rw [List.mem_singleton.mp h']; exact h1

def wlInd (wl : List Key) (p : Key) : Nat := if p ∈ wl then 1 else 0

theorem wlInd_le_one (wl : List Key) (p : Key) : wlInd wl p ≤ 1 := by
  unfold wlInd; split <;> omega

theorem wlInd_append_ne {wl : List Key} {p k : Key} (e : p ≠ k) : wlInd (wl ++ [k]) p = wlInd wl p := by
  simp only [wlInd, List.mem_append, List.mem_singleton, e, or_false]

def effC (fr : List Key) (p : Key) (d : Dep) : Nat := if p ∈ fr then 1 else pendC d
def effD (fr : List Key) (p : Key) (b : Bool) : Nat := if p ∈ fr then 1 else pendD b

/-- **the counting invariant.** `F n`: how often node `n` has been started; `Cp p`: how often
    `p` has completed (including the completions being resolved right now).  A predecessor
    entry that has been reported and not yet consumed by a start of `n` is paid for by a
    completion of `p` or by `p` having been skipped.  `fr`: predecessors that may report now
    (their completion is already counted in `Cp`); `wl`: skipped channels whose skip has not
    been passed on yet. -/
structure J {V} (F Cp : Key → Nat) (fr wl : List Key) (cm : Chans V) : Prop where
  ctrl : ∀ n c, (n, c) ∈ cm → ∀ p d, (p, d) ∈ c.ctrl → F n + effC fr p d + wlInd wl p ≤ Cp p + skOf cm p
  data : ∀ n c, (n, c) ∈ cm → ∀ p b, (p, b) ∈ c.data → F n + effD fr p b + wlInd wl p ≤ Cp p + skOf cm p
  sk : ∀ n c, (n, c) ∈ cm → SkOK c
  nd : (akeys cm).Nodup
  wlnd : wl.Nodup
  wlsk : ∀ s, s ∈ wl → skOf cm s = 1

theorem J.at_boundary {V} {F Cp : Key → Nat} {cm : Chans V} (hJ : J F Cp [] [] cm) {n : Key} {c : Chan V}
    (hc : (n, c) ∈ cm) :
    (∀ p d, (p, d) ∈ c.ctrl → F n + pendC d ≤ Cp p + skOf cm p) ∧
    (∀ p b, (p, b) ∈ c.data → F n + pendD b ≤ Cp p + skOf cm p) :=
  ⟨fun p d hp => hJ.ctrl n c hc p d hp, fun p b hp => hJ.data n c hc p b hp⟩

theorem shapes_mem {V} (cm : Chans V) (n : Key) (c : Chan V) (h : (n, c) ∈ cm) :
    (n, akeys c.ctrl, akeys c.data) ∈ shapes cm := by
  simp only [shapes, List.mem_map]
  exact ⟨(n, c), h, rfl⟩

theorem shapes_modChan {V} (cm : Chans V) (k : Key) (f : Chan V → Chan V)
    (h : ∀ c, (k, c) ∈ cm → shapeOf (f c) = shapeOf c) : shapes (modChan cm k f) = shapes cm := by
  simp only [shapes, modChan, List.map_map]
  apply List.map_congr_left
  intro p hp
  simp only [Function.comp]
  split
  · rename_i hk
    have e : p.1 = k := by simpa using hk
    have : (k, p.2) ∈ cm := by rw [← e]; exact hp
    simp [h p.2 this]
  · rfl

theorem J_update {V} {F Cp : Key → Nat} {fr wl : List Key} {cm : Chans V} (hJ : J F Cp fr wl cm)
    (k : Key) (f : Chan V → Chan V)
    (h1 : ∀ c0, (k, c0) ∈ cm → ∀ p d, (p, d) ∈ (f c0).ctrl → (p, d) ∈ c0.ctrl ∨ (p ∈ fr ∧ p ∈ akeys c0.ctrl))
    (h2 : ∀ c0, (k, c0) ∈ cm → ∀ p d, (p, d) ∈ (f c0).data → (p, d) ∈ c0.data ∨ (p ∈ fr ∧ p ∈ akeys c0.data))
    (h3 : ∀ c0, (k, c0) ∈ cm → SkOK (f c0))
    (h4 : ∀ c0, (k, c0) ∈ cm → c0.skipped = true → (f c0).skipped = true)
    (psh : Bool)
    (h5 : psh = true ↔ ∃ c0, (k, c0) ∈ cm ∧ (f c0).skipped = true ∧ c0.skipped = false) :
    J F Cp fr (if psh then wl ++ [k] else wl) (modChan cm k f) := by
  have mono := skOf_mono_modChan cm k f h4
  -- `k` is pushed exactly when its flag turns on, so the work list stays one of distinct flagged keys
  have hpush : psh = true → skOf cm k = 0 ∧ skOf (modChan cm k f) k = 1 := fun hp => by
    obtain ⟨c0, hm0, ht, hf⟩ := h5.mp hp
    have hl := alookup_of_mem_nodup cm hJ.nd k c0 hm0
    exact ⟨by rw [skOf_eq hl, hf]; rfl, by rw [skOf_modChan_self, hl]; simp only [ht, ↓reduceIte]⟩
  have hwl : WL (modChan cm k f) (if psh then wl ++ [k] else wl) := by
    by_cases hp : psh = true
    · rw [if_pos hp]; exact (WL.mk hJ.wlnd hJ.wlsk).push mono (hpush hp).1 (hpush hp).2
    · rw [if_neg hp]; exact (WL.mk hJ.wlnd hJ.wlsk).mono mono
  -- and on no key does the work list grow by more than the flag
  have hsk : ∀ p, wlInd (if psh then wl ++ [k] else wl) p + skOf cm p ≤ wlInd wl p + skOf (modChan cm k f) p := by
    intro p
    by_cases hp : psh = true ∧ p = k
    · obtain ⟨hp, rfl⟩ := hp
      have := hpush hp
      have := wlInd_le_one (if psh then wl ++ [p] else wl) p
      omega
    · have hw : wlInd (if psh then wl ++ [k] else wl) p = wlInd wl p := by
        by_cases hp' : psh = true
        · rw [if_pos hp', wlInd_append_ne fun e => hp ⟨hp', e⟩]
        · rw [if_neg hp']
      have := skOf_le_one cm p
      by_cases h1 : skOf cm p = 1
      · have := mono p h1; omega
      · omega
  have slack : ∀ p x, x + wlInd wl p ≤ Cp p + skOf cm p →
      x + wlInd (if psh then wl ++ [k] else wl) p ≤ Cp p + skOf (modChan cm k f) p :=
    fun p x hx => by have := hsk p; omega
  -- one argument for both predecessor tables: `tab` is `Chan.ctrl` or `Chan.data`
  have upd : ∀ {α : Type} (tab : Chan V → List (Key × α)) (pend : α → Nat),
      (∀ n c, (n, c) ∈ cm → ∀ p d, (p, d) ∈ tab c →
        F n + (if p ∈ fr then 1 else pend d) + wlInd wl p ≤ Cp p + skOf cm p) →
      (∀ c0, (k, c0) ∈ cm → ∀ p d, (p, d) ∈ tab (f c0) → (p, d) ∈ tab c0 ∨ (p ∈ fr ∧ p ∈ akeys (tab c0))) →
      ∀ n c, (n, c) ∈ modChan cm k f → ∀ p d, (p, d) ∈ tab c →
        F n + (if p ∈ fr then 1 else pend d) + wlInd (if psh then wl ++ [k] else wl) p ≤
          Cp p + skOf (modChan cm k f) p := by
    intro α tab pend hold hnew
    refine forall_mem_modChan (fun c hc p d hp => slack p _ ?_) (fun n c hc p d hp => slack p _ (hold n c hc p d hp))
    rcases hnew c hc p d hp with h | ⟨hf, hmem⟩
    · exact hold _ c hc p d h
    · obtain ⟨d0, hd0⟩ := exists_of_mem_akeys _ _ hmem
      have := hold _ c hc p d0 hd0
      rwa [if_pos hf] at this ⊢
  exact ⟨upd Chan.ctrl pendC hJ.ctrl h1, upd Chan.data pendD hJ.data h2, forall_mem_modChan h3 hJ.sk,
    akeys_modChan cm k f ▸ hJ.nd, hwl.nd, hwl.fl⟩

theorem pendC_le_one (d : Dep) : pendC d ≤ 1 := by cases d <;> simp [pendC]
theorem pendD_le_one (b : Bool) : pendD b ≤ 1 := by cases b <;> simp [pendD]

/-- `w` stands for the weight of an entry, `pendC d` or `pendD b` -/
theorem J_weaken {V} {F Cp Cp' : Key → Nat} {fr fr' wl wl' : List Key} {cm : Chans V} (hJ : J F Cp fr wl cm)
    (hle : ∀ n p w, w ≤ 1 → F n + (if p ∈ fr then 1 else w) + wlInd wl p ≤ Cp p + skOf cm p →
      F n + (if p ∈ fr' then 1 else w) + wlInd wl' p ≤ Cp' p + skOf cm p)
    (hnd : wl'.Nodup) (hsub : ∀ s, s ∈ wl' → s ∈ wl) : J F Cp' fr' wl' cm :=
  ⟨fun n c hm p d hp => hle n p _ (pendC_le_one d) (hJ.ctrl n c hm p d hp),
   fun n c hm p d hp => hle n p _ (pendD_le_one d) (hJ.data n c hm p d hp),
   hJ.sk, hJ.nd, hnd, fun s hs => hJ.wlsk s (hsub s hs)⟩

theorem J_congr {V} {F F' Cp Cp' : Key → Nat} {fr wl : List Key} {cm : Chans V}
    (hF : ∀ n, F' n = F n) (hC : ∀ p, Cp' p = Cp p) (h : J F Cp fr wl cm) : J F' Cp' fr wl cm := by
  rw [funext hF, funext hC]; exact h

theorem J_drop_fr {V} {F Cp : Key → Nat} {fr fr' wl : List Key} {cm : Chans V} (hJ : J F Cp fr wl cm)
    (h : ∀ p, p ∈ fr' → p ∈ fr) : J F Cp fr' wl cm := by
  refine J_weaken hJ (fun n p w hw hx => ?_) hJ.wlnd (fun _ hs => hs)
  by_cases h1 : p ∈ fr'
  · rw [if_pos h1]; rwa [if_pos (h p h1)] at hx
  · rw [if_neg h1]; split at hx <;> omega

theorem J_drop_wl {V} {F Cp : Key → Nat} {fr wl : List Key} {cm : Chans V} (hJ : J F Cp fr wl cm) :
    J F Cp fr [] cm :=
  J_weaken hJ (fun _ _ _ _ hx => Nat.le_trans (Nat.add_le_add_left (Nat.zero_le _) _) hx) List.nodup_nil
    (fun _ hs => nomatch hs)

theorem J_pop {V} {F Cp : Key → Nat} {fr rest : List Key} {k : Key} {cm : Chans V}
    (hJ : J F Cp fr (k :: rest) cm) : J F Cp (k :: fr) rest cm := by
  have hnd := List.nodup_cons.mp hJ.wlnd
  refine J_weaken hJ (fun n p w hw hx => ?_) hnd.2 (fun s hs => List.mem_cons_of_mem _ hs)
  unfold wlInd at hx ⊢
  by_cases e : p = k
  · subst e
    rw [if_pos List.mem_cons_self, if_neg hnd.1]
    rw [if_pos List.mem_cons_self] at hx
    omega
  · simp only [List.mem_cons, e, false_or] at hx ⊢
    exact hx

theorem J_bump {V} {F Cp Cp' : Key → Nat} {dk : List Key} {cm : Chans V} (hJ : J F Cp [] [] cm)
    (h1 : ∀ p, Cp p ≤ Cp' p) (h2 : ∀ p, p ∈ dk → Cp p + 1 ≤ Cp' p) : J F Cp' dk [] cm := by
  refine J_weaken hJ (fun n p w hw hx => ?_) List.nodup_nil (fun _ hs => hs)
  rw [if_neg List.not_mem_nil] at hx
  by_cases e : p ∈ dk
  · have := h2 p e; rw [if_pos e]; omega
  · have := h1 p; rw [if_neg e]; omega

theorem skipOne_J {V} {F Cp : Key → Nat} {fr rest acc : List Key} {cm : Chans V}
    (hJ : J F Cp fr (rest ++ acc) cm) (s from_ : Key) (hf : from_ ∈ fr)
    (hwf : ∀ c, (s, c) ∈ cm → from_ ∈ akeys c.ctrl ∨ from_ ∈ akeys c.data) :
    J F Cp fr (rest ++ (if (skipOne true cm s from_).2 then acc ++ [s] else acc)) (skipOne true cm s from_).1 ∧
    shapes (skipOne true cm s from_).1 = shapes cm := by
  refine skipOne_elim hJ.nd s from_ (fun _ => by simpa using hJ) (fun c0 hl => ?_)
  have hm0 := mem_of_alookup _ _ _ hl
  have ok := fun c (hc : (s, c) ∈ cm) => reportSkip_skOK c from_ (hJ.sk s c hc) (hwf c hc)
  have := J_update hJ s (fun c => (c.reportSkip true [from_]).1)
    (fun c _ p d hp => (mem_reportSkip_ctrl hp).imp_right fun ⟨e, _, h⟩ => e ▸ ⟨hf, h⟩)
    (fun c _ p d hp => (mem_reportSkip_data hp).imp_right fun ⟨e, _, h⟩ => e ▸ ⟨hf, h⟩)
    (fun c hc => (ok c hc).1) (fun c hc => (ok c hc).2)
    ((c0.reportSkip true [from_]).2 && !c0.skipped)
    (by
      rw [Bool.and_eq_true, Bool.not_eq_true', (reportSkip_flag c0 from_).1]
      exact ⟨fun h => ⟨c0, hm0, h⟩, fun ⟨c, hc, h⟩ => mem_unique hJ.nd hc hm0 ▸ h⟩)
  refine ⟨?_, shapes_modChan _ _ _ fun c _ => reportSkip_shape c from_⟩
  rw [apply_ite (rest ++ ·), ← List.append_assoc]
  exact this

theorem skipFold_J {V} {F Cp : Key → Nat} {fr rest : List Key} (from_ : Key) (hf : from_ ∈ fr)
    (ss : List Key) (acc : Chans V × List Key)
    (hJ : J F Cp fr (rest ++ acc.2) acc.1)
    (hwf : ∀ cm' : Chans V, shapes cm' = shapes acc.1 → ∀ s ∈ ss, ∀ c, (s, c) ∈ cm' → from_ ∈ akeys c.ctrl ∨ from_ ∈ akeys c.data) :
    J F Cp fr (rest ++ (ss.foldl (skipStep true from_) acc).2) (ss.foldl (skipStep true from_) acc).1 ∧
    shapes (ss.foldl (skipStep true from_) acc).1 = shapes acc.1 := by
  refine foldl_inv (fun a => J F Cp fr (rest ++ a.2) a.1 ∧ shapes a.1 = shapes acc.1) _ ss
    (fun a ha s hs => ?_) acc ⟨hJ, rfl⟩
  obtain ⟨j1, j2⟩ := skipOne_J ha.1 s from_ hf (hwf a.1 ha.2 s hs)
  exact ⟨j1, j2.trans ha.2⟩

theorem predOK_use {V} {sh : List (Key × List Key × List Key)} {m : Key} {ss : List Key} (h : PredOK sh m ss)
    (cm : Chans V) (hs : shapes cm = sh) : ∀ s ∈ ss, ∀ c, (s, c) ∈ cm → m ∈ akeys c.ctrl ∨ m ∈ akeys c.data :=
  fun s hs' c hc => h s hs' (akeys c.ctrl) (akeys c.data) (hs ▸ shapes_mem cm s c hc)

theorem propagate_J {V} {F Cp : Key → Nat} {fr : List Key} (r : Runner V) (hd : r.dag = true) (hs : SuccOK r) :
    ∀ (fuel : Nat) (cm : Chans V) (wl : List Key) (cm' : Chans V), J F Cp fr wl cm →
      shapes cm = shapes (initChans r) → propagateSkips r fuel cm wl = .ok cm' →
      J F Cp fr [] cm' ∧ shapes cm' = shapes (initChans r) := by
  intro fuel cm wl
  fun_induction propagateSkips r fuel cm wl with
  | case1 cm wl => intro cm' hJ hsh h; cases h; exact ⟨J_drop_wl hJ, hsh⟩
  | case2 fuel cm _ => intro cm' hJ hsh h; cases h; exact ⟨hJ, hsh⟩
  | case3 fuel cm k rest hn => intro cm' _ _ h; cases h
  | case4 fuel cm k rest n hn res ih =>
    intro cm' hJ hsh h
    obtain ⟨hmem, hkey⟩ := node?_some r k n hn
    have hJ1 : J F Cp (k :: fr) (rest ++ ([] : List Key)) cm := by simpa using J_pop hJ
    have hp := hkey ▸ hs n (Or.inl hmem)
    obtain ⟨j1, j2⟩ := skipFold_J (rest := rest) k (by simp) n.successors (cm, []) hJ1
      (fun cm' h => predOK_use hp cm' (by rw [h]; exact hsh))
    rw [← hd] at j1 j2
    exact ih cm' (J_drop_fr j1 (fun p hp => List.mem_cons_of_mem _ hp)) (j2.trans hsh) h

theorem reportBranch_J {V} {F Cp : Key → Nat} {fr : List Key} (r : Runner V) (hd : r.dag = true) (hs : SuccOK r)
    (cm cm' : Chans V) (from_ : Key) (hf : from_ ∈ fr) (ss : List Key)
    (hp : PredOK (shapes (initChans r)) from_ ss)
    (hJ : J F Cp fr [] cm) (hsh : shapes cm = shapes (initChans r))
    (h : reportBranch r cm from_ ss = .ok cm') :
    J F Cp fr [] cm' ∧ shapes cm' = shapes (initChans r) := by
  unfold reportBranch at h
  simp only [hd] at h
  have hJ1 : J F Cp fr (([] : List Key) ++ ([] : List Key)) cm := by simpa using hJ
  obtain ⟨j1, j2⟩ := skipFold_J (rest := []) from_ hf ss (cm, []) hJ1
    (fun cm' h => predOK_use hp cm' (by rw [h]; exact hsh))
  exact propagate_J r hd hs _ _ _ cm' (by simpa using j1) (by rw [j2]; exact hsh) h

def WritesOK {V} (dk : List Key) (ws : List (Key × List (Key × V))) : Prop :=
  ∀ to l, (to, l) ∈ ws → ∀ k, k ∈ akeys l → k ∈ dk

def DepsOK (dk : List Key) (ds : List (Key × List Key)) : Prop :=
  ∀ to l, (to, l) ∈ ds → ∀ k, k ∈ l → k ∈ dk

theorem writesOK_iff {V} (dk : List Key) (ws : List (Key × List (Key × V))) :
    WritesOK dk ws ↔ WritesAll (fun _ p _ => p ∈ dk) ws :=
  ⟨fun h to l hm p v hp => h to l hm p (mem_akeys_of_mem p v l hp),
   fun h to l hm k hk => (exists_of_mem_akeys k l hk).elim fun v hv => h to l hm k v hv⟩

/-- `J` along `resolve`, with `dk` the nodes whose completions are being resolved: they may report now and `Cp`
    counts them already.  `ws`, `ds`: the writes and dependency reports gathered so far name senders in `dk` only,
    which is what `updateValues` and `updateDeps` need to keep `J`; `sh`: the channels still have the predecessor
    keys `initChans` gave them. -/
structure RInv {V} (F Cp : Key → Nat) (dk : List Key) (r : Runner V) (acc : Resolved V) : Prop where
  j : J F Cp dk [] acc.cm
  sh : shapes acc.cm = shapes (initChans r)
  ws : WritesOK dk acc.writes
  ds : DepsOK dk acc.deps

theorem resolveStep_J {V} {F Cp : Key → Nat} {dk : List Key} (r : Runner V) (hd : r.dag = true) (hs : SuccOK r)
    (hk : r.start.key = START) (acc acc' : Resolved V) (t : Done V) (ht : t.1 ∈ dk)
    (hi : RInv F Cp dk r acc) (h : resolveStep r acc t = .ok acc') : RInv F Cp dk r acc' := by
  rcases resolveStep_ok h with ⟨_, rfl⟩ | ⟨n, sel, cm', hc, _, h2, rfl⟩
  · exact hi
  · obtain ⟨hn, hkey⟩ := call?_some r hk t.1 n hc
    obtain ⟨j1, j2⟩ := reportBranch_J r hd hs acc.cm cm' n.key (by rw [hkey]; exact ht) _
      (fun s hs' => hs n hn s (skippedOf_sub n sel s hs')) hi.j hi.sh h2
    -- `DepsOK dk` is `DepsAll fun _ p => p ∈ dk` by definition
    exact ⟨j1, j2, (writesOK_iff _ _).mpr (foldl_addWrite_all t.1 t.2 _ (fun _ _ => ht) _ ((writesOK_iff _ _).mp hi.ws)),
      foldl_addDep_all t.1 _ (fun _ _ => ht) _ (foldl_addDep_all t.1 _ (fun _ _ => ht) _ hi.ds)⟩

theorem resolve_J {V} {F Cp : Key → Nat} {dk : List Key} (r : Runner V) (hd : r.dag = true) (hs : SuccOK r)
    (hk : r.start.key = START) (done : List (Done V)) (hdone : ∀ t, t ∈ done → t.1 ∈ dk)
    (acc acc' : Resolved V) (hi : RInv F Cp dk r acc)
    (h : done.foldlM (resolveStep r) acc = .ok acc') : RInv F Cp dk r acc' :=
  foldlM_inv_mem (resolveStep r) (RInv F Cp dk r) done
    (fun a t ht a' ha hst => resolveStep_J r hd hs hk a a' t (hdone t ht) ha hst) acc acc' hi h

theorem foldl_modChan_J {V α} {F Cp : Key → Nat} {fr : List Key} (key : α → Key) (f : α → Chan V → Chan V)
    (l : List α)
    (hf : ∀ w, w ∈ l → ∀ c : Chan V, shapeOf (f w c) = shapeOf c ∧ (f w c).skipped = c.skipped ∧
       (SkOK c → SkOK (f w c)) ∧
       (∀ p d, (p, d) ∈ (f w c).ctrl → (p, d) ∈ c.ctrl ∨ (p ∈ fr ∧ p ∈ akeys c.ctrl)) ∧
       (∀ p d, (p, d) ∈ (f w c).data → (p, d) ∈ c.data ∨ (p ∈ fr ∧ p ∈ akeys c.data)))
    (cm : Chans V) (hJ : J F Cp fr [] cm) :
    J F Cp fr [] (l.foldl (fun cm w => modChan cm (key w) (f w)) cm) ∧
    shapes (l.foldl (fun cm w => modChan cm (key w) (f w)) cm) = shapes cm := by
  refine foldl_inv (fun cm' => J F Cp fr [] cm' ∧ shapes cm' = shapes cm) _ l (fun cm' h w hw => ?_) cm ⟨hJ, rfl⟩
  have k := hf w hw
  have := J_update h.1 (key w) (f w) (fun c _ => (k c).2.2.2.1) (fun c _ => (k c).2.2.2.2)
    (fun c hc => (k c).2.2.1 (h.1.sk _ _ hc)) (fun c _ h => (k c).2.1.trans h) false
    (by simp only [Bool.false_eq_true, false_iff, not_exists, not_and]
        intro c _ h1 h2; rw [(k c).2.1, h2] at h1; exact absurd h1 (by simp))
  simp only [Bool.false_eq_true, ↓reduceIte] at this
  exact ⟨this, (shapes_modChan _ _ _ (fun c _ => (k c).1)).trans h.2⟩

theorem updateValues_J {V} {F Cp : Key → Nat} {dk : List Key} (r : Runner V) (hd : r.dag = true)
    (writes : List (Key × List (Key × V))) (hw : WritesOK dk writes) (cm : Chans V)
    (hJ : J F Cp dk [] cm) (hsh : shapes cm = shapes (initChans r)) :
    J F Cp dk [] (updateValues r cm writes) ∧ shapes (updateValues r cm writes) = shapes (initChans r) := by
  obtain ⟨a, b⟩ := foldl_modChan_J (fun w : Key × List (Key × V) => w.1)
    (fun w c => c.reportValues r.dag (w.2.filter (fun kv => (lookupList w.1 r.dataPreds).contains kv.1))) writes
    (fun w hm c => by
      rw [hd]
      obtain ⟨k1, k2, k3, k4⟩ := reportValues_facts c (w.2.filter (fun kv => (lookupList w.1 r.dataPreds).contains kv.1))
      refine ⟨k1, k2, reportValues_skOK c _, fun p d h => Or.inl (k3 ▸ h), fun p d h => (k4 p d h).imp_right
        (fun h => ⟨hw w.1 w.2 hm p ?_, h.2⟩)⟩
      obtain ⟨v, hv⟩ := exists_of_mem_akeys _ _ h.1
      exact mem_akeys_of_mem p v _ (List.mem_filter.mp hv).1) cm hJ
  exact ⟨a, b.trans hsh⟩

theorem updateDeps_J {V} {F Cp : Key → Nat} {dk : List Key} (r : Runner V) (hd : r.dag = true)
    (deps : List (Key × List Key)) (hw : DepsOK dk deps) (cm : Chans V)
    (hJ : J F Cp dk [] cm) (hsh : shapes cm = shapes (initChans r)) :
    J F Cp dk [] (updateDeps r cm deps) ∧ shapes (updateDeps r cm deps) = shapes (initChans r) := by
  obtain ⟨a, b⟩ := foldl_modChan_J (fun w : Key × List Key => w.1)
    (fun w c => c.reportDeps r.dag (w.2.filter (lookupList w.1 r.ctrlPreds).contains)) deps
    (fun w hm c => by
      rw [hd]
      obtain ⟨k1, k2, k3, k4⟩ := reportDeps_facts c (w.2.filter (lookupList w.1 r.ctrlPreds).contains)
      exact ⟨k1, k2, reportDeps_skOK c _, fun p d h => (k4 p d h).imp_right
        (fun h => ⟨hw w.1 w.2 hm p (List.mem_filter.mp h.1).1, h.2⟩), fun p d h => Or.inl (k3 ▸ h)⟩) cm hJ
  exact ⟨a, b.trans hsh⟩

theorem skOf_modChan_same {V} (cm : Chans V) (k : Key) (f : Chan V → Chan V)
    (h : ∀ c, (f c).skipped = c.skipped) (p : Key) : skOf (modChan cm k f) p = skOf cm p := by
  by_cases e : p = k
  · subst e
    rw [skOf_modChan_self]
    unfold skOf
    cases alookup p cm with
    | none => rfl
    | some c => simp only [h c]
  · exact skOf_modChan_ne _ _ _ e

theorem updateValues_skOf {V} (r : Runner V) (hd : r.dag = true) (writes : List (Key × List (Key × V))) (cm : Chans V) (p : Key) :
    skOf (updateValues r cm writes) p = skOf cm p :=
  foldl_preserves _ (skOf · p) writes
    (fun cm w _ => skOf_modChan_same cm w.1 _ (fun c => by rw [hd]; exact reportValues_skipped c _) p) cm

theorem updateDeps_skOf {V} (r : Runner V) (hd : r.dag = true) (deps : List (Key × List Key)) (cm : Chans V) (p : Key) :
    skOf (updateDeps r cm deps) p = skOf cm p :=
  foldl_preserves _ (skOf · p) deps
    (fun cm w _ => skOf_modChan_same cm w.1 _ (fun c => by rw [hd]; exact reportDeps_skipped c _) p) cm

theorem get_shape {V} (ops : ValOps V) (c : Chan V) : shapeOf (c.get ops true).1 = shapeOf c := by
  rw [get_fst]; split
  · exact (reset_facts c).1
  · rfl

theorem getReady_shapes {V} (ops : ValOps V) (cm : Chans V) : shapes (getReady ops true cm).1 = shapes cm := by
  rw [getReady_fst]
  simp only [shapes, List.map_map]
  exact List.map_congr_left (fun p _ => by simp only [Function.comp, get_shape])

theorem getReady_src {V} (ops : ValOps V) (cm : Chans V) :
    ∀ n v, (n, v) ∈ (getReady ops true cm).2.1 →
      ∃ c, (n, c) ∈ cm ∧ c.triggered = true ∧ (c.get ops true).2 = .ready v := by
  intro n v h
  obtain ⟨c, hc, hg⟩ := (mem_getReady_ready ops true cm n v).mp h
  refine ⟨c, hc, ?_, hg⟩
  by_cases ht : c.triggered = true
  · exact ht
  · unfold Chan.get at hg; simp [ht] at hg

theorem get_skipped {V} (ops : ValOps V) (c : Chan V) : (c.get ops true).1.skipped = c.skipped := by
  rw [get_fst]; split <;> rfl

theorem getReady_skOf {V} (ops : ValOps V) (cm : Chans V) (p : Key) :
    skOf (getReady ops true cm).1 p = skOf cm p := by
  unfold skOf
  rw [alookup_getReady]
  cases alookup p cm with
  | none => rfl
  | some c => simp [get_skipped]

theorem triggered_unpack {V} (c : Chan V) (h : c.triggered = true) :
    c.skipped = false ∧ ¬ (c.ctrl = [] ∧ c.data = []) ∧
    (∀ p d, (p, d) ∈ c.ctrl → pendC d = 1) ∧ (∀ p b, (p, b) ∈ c.data → pendD b = 1) := by
  obtain ⟨h1, h0, h2, h3⟩ := (triggered_eq_true_iff c).mp h
  refine ⟨h1, h0, fun p d hm => ?_, fun p b hm => ?_⟩
  · cases d
    · exact absurd rfl (h2 (p, Dep.waiting) hm)
    · rfl
    · rfl
  · rw [show b = true from h3 (p, b) hm]; rfl

theorem reset_skOK {V} {c : Chan V} (ht : c.triggered = true) : SkOK c.reset :=
  .of_not_skipped (c := c.reset) (triggered_unpack c ht).1

theorem getReady_J {V} {F Cp : Key → Nat} (ops : ValOps V) (cm : Chans V) (hJ : J F Cp [] [] cm) :
    J (fun n => F n + (akeys (getReady ops true cm).2.1).count n) Cp [] [] (getReady ops true cm).1 ∧
    shapes (getReady ops true cm).1 = shapes cm ∧
    (∀ n, n ∈ akeys (getReady ops true cm).2.1 → ∃ c, (n, c) ∈ cm ∧ c.triggered = true) := by
  have src : ∀ n, n ∈ akeys (getReady ops true cm).2.1 → ∃ c, (n, c) ∈ cm ∧ c.triggered = true := fun n hn => by
    obtain ⟨v, hv⟩ := exists_of_mem_akeys _ _ hn
    obtain ⟨c, hc, ht, _⟩ := getReady_src ops cm n v hv
    exact ⟨c, hc, ht⟩
  have hcnt : ∀ n, (akeys (getReady ops true cm).2.1).count n ≤ 1 :=
    List.nodup_iff_count.mp ((getReady_keys_sublist ops true cm).nodup hJ.nd)
  -- one argument for both predecessor tables: a triggered channel has every entry reported (weight 1)
  -- and is reset to unreported entries (value `z`, weight 0), paying for the one more start;
  -- an untriggered one is unchanged and not started
  have hand : ∀ {α : Type} (tab : Chan V → List (Key × α)) (pend : α → Nat) (z : α),
      (∀ n c, (n, c) ∈ cm → ∀ p d, (p, d) ∈ tab c →
        F n + (if p ∈ [] then 1 else pend d) + wlInd [] p ≤ Cp p + skOf cm p) →
      (∀ c : Chan V, tab c.reset = (tab c).map (fun q => (q.1, z))) → pend z = 0 →
      (∀ c : Chan V, c.triggered = true → ∀ p d, (p, d) ∈ tab c → pend d = 1) →
      ∀ n c', (n, c') ∈ (getReady ops true cm).1 → ∀ p d, (p, d) ∈ tab c' →
        F n + (akeys (getReady ops true cm).2.1).count n + (if p ∈ [] then 1 else pend d) + wlInd [] p ≤
          Cp p + skOf (getReady ops true cm).1 p := by
    intro α tab pend z hold hreset hz htrig
    refine forall_mem_getReady ops (fun n c hc ht p d hp => ?_) (fun n c hc ht p d hp => ?_) <;>
      rw [getReady_skOf, if_neg List.not_mem_nil]
    · rw [hreset] at hp
      obtain ⟨⟨p0, d0⟩, hd0, he⟩ := List.mem_map.mp hp
      simp only [Prod.mk.injEq] at he
      obtain ⟨rfl, rfl⟩ := he
      have := hold n c hc p0 d0 hd0
      rw [if_neg List.not_mem_nil, htrig c ht p0 d0 hd0] at this
      have := hcnt n
      rw [hz]; omega
    · have := hold n c hc p d hp
      rw [if_neg List.not_mem_nil] at this
      -- the one channel of `n` is not triggered: `n` is not handed out
      rw [List.count_eq_zero.mpr fun hin => by
        obtain ⟨c0, hc0, ht0⟩ := src n hin
        rw [mem_unique hJ.nd hc0 hc, ht] at ht0; cases ht0]
      exact this
  exact ⟨⟨hand Chan.ctrl pendC Dep.waiting hJ.ctrl (fun _ => rfl) rfl (fun c ht => (triggered_unpack c ht).2.2.1),
    hand Chan.data pendD false hJ.data (fun _ => rfl) rfl (fun c ht => (triggered_unpack c ht).2.2.2),
    forall_mem_getReady ops (fun _ c _ ht => reset_skOK ht) (fun n c hc _ => hJ.sk n c hc),
    akeys_getReady ops true cm ▸ hJ.nd, List.nodup_nil, fun _ h => nomatch h⟩, getReady_shapes ops cm, src⟩

theorem shapes_keys {V} (cm : Chans V) : akeys (shapes cm) = akeys cm :=
  akeys_map_mk Prod.fst (fun p => shapeOf p.2) cm

theorem akeys_of_shapes {V} {cm cm' : Chans V} (h : shapes cm = shapes cm') : akeys cm = akeys cm' := by
  rw [← shapes_keys cm, h, shapes_keys]

theorem shapeOf_init {V} (cp dp : List Key) :
    shapeOf (Chan.init true cp dp : Chan V) = (cp.eraseDups, dp.eraseDups) := by
  simp [shapeOf, Chan.init, akeys, Function.comp_def]

theorem shape_initChans {V} (r : Runner V) (hdag : r.dag = true) (n : Key) (cs ds : List Key)
    (h : (n, cs, ds) ∈ shapes (initChans r)) :
    cs = (lookupList n r.ctrlPreds).eraseDups ∧ ds = (lookupList n r.dataPreds).eraseDups := by
  simp only [shapes, List.mem_map] at h
  obtain ⟨⟨n', c⟩, hc, he⟩ := h
  rw [mem_initChans r n' c hc, hdag, shapeOf_init] at he
  cases he
  exact ⟨rfl, rfl⟩

def HasPred (sh : List (Key × List Key × List Key)) (n : Key) : Prop :=
  ∃ cs ds, (n, cs, ds) ∈ sh ∧ ¬ (cs = [] ∧ ds = [])

theorem HasPred.mem_keys {V} {cm : Chans V} {k : Key} (h : HasPred (shapes cm) k) : k ∈ akeys cm :=
  let ⟨cs, ds, hm, _⟩ := h
  shapes_keys cm ▸ mem_akeys_of_mem k (cs, ds) _ hm

abbrev preChans {V} (r : Runner V) (res : Resolved V) : Chans V :=
  updateDeps r (updateValues r res.cm res.writes) res.deps

theorem pre_J {V} {F Cp : Key → Nat} (r : Runner V) (hd : r.dag = true) (hs : SuccOK r) (hk : r.start.key = START)
    (cm : Chans V) (done : List (Done V)) (res : Resolved V)
    (hJ : J F Cp [] [] cm) (hsh : shapes cm = shapes (initChans r)) (h1 : resolve r cm done = .ok res) :
    J F (fun p => Cp p + (done.map (·.1)).count p) [] [] (preChans r res) ∧
    shapes (preChans r res) = shapes (initChans r) := by
  have hb : J F (fun p => Cp p + (done.map (·.1)).count p) (done.map (·.1)) [] cm :=
    J_bump hJ (fun p => Nat.le_add_right _ _) (fun p hp => by have := List.count_pos_iff.mpr hp; omega)
  have hr := resolve_J r hd hs hk done (fun t ht => List.mem_map.mpr ⟨t, ht, rfl⟩)
    { cm := cm, writes := [], deps := [] } res ⟨hb, hsh, fun _ _ hm => (nomatch hm), fun _ _ hm => (nomatch hm)⟩ h1
  obtain ⟨u1, u2⟩ := updateValues_J r hd res.writes hr.ws res.cm hr.j hr.sh
  obtain ⟨v1, v2⟩ := updateDeps_J r hd res.deps hr.ds _ u1 u2
  exact ⟨J_drop_fr v1 (fun p hp => nomatch hp), v2⟩

theorem calcNext_J {V} {F Cp : Key → Nat} (ops : ValOps V) (r : Runner V) (hd : r.dag = true) (hs : SuccOK r)
    (hk : r.start.key = START) (cm cm' : Chans V) (done : List (Done V)) (nx : Next V)
    (hJ : J F Cp [] [] cm) (hsh : shapes cm = shapes (initChans r))
    (h : calcNext ops r cm done = .ok (cm', nx)) :
    ∃ ready : List (Key × V),
      J (fun n => F n + (akeys ready).count n) (fun p => Cp p + (done.map (·.1)).count p) [] [] cm' ∧
      shapes cm' = shapes (initChans r) ∧
      (∀ n, n ∈ akeys ready → HasPred (shapes (initChans r)) n) ∧
      ((∃ v, nx = .result v) ∨ nx = .tasks ready) := by
  obtain ⟨res, ready, h1, hg, hnx⟩ := calcNext_ok hd h
  obtain ⟨v1, v2⟩ := pre_J r hd hs hk cm done res hJ hsh h1
  obtain ⟨g1, g2, g3⟩ := getReady_J ops _ v1
  rw [hg] at g1 g2 g3
  refine ⟨ready, g1, g2.trans v2, fun n hn => ?_, hnx.imp (fun ⟨v, _, e⟩ => ⟨v, e⟩) (·.2)⟩
  obtain ⟨c, hc, ht⟩ := g3 n hn
  refine ⟨akeys c.ctrl, akeys c.data, by rw [← v2]; exact shapes_mem _ n c hc, ?_⟩
  rintro ⟨e1, e2⟩
  exact (triggered_unpack c ht).2.1 ⟨List.map_eq_nil_iff.mp e1, List.map_eq_nil_iff.mp e2⟩

theorem static_bound {V} {F Cp : Key → Nat} (cm : Chans V) (rank : Key → Nat)
    (hrank : ∀ n cs ds, (n, cs, ds) ∈ shapes cm → ∀ p, p ∈ cs ∨ p ∈ ds → rank p < rank n)
    (hstart : START ∉ akeys cm) (hJ : J F Cp [] [] cm)
    (hB : ∀ p, Cp p ≤ F p + if p = START then 1 else 0)
    (hpos : ∀ n, 0 < F n → HasPred (shapes cm) n) :
    ∀ n, F n + skOf cm n ≤ 1 := by
  -- START is no channel: never started
  have hS : F START = 0 := Nat.eq_zero_of_not_pos fun h0 => hstart (hpos START h0).mem_keys
  intro n
  induction hr : rank n using Nat.strongRecOn generalizing n with
  | _ m ih =>
    -- an entry of a channel of `n` weighs, with the starts of `n`, no more than its key's budget:
    -- START's one completion, or at most one by induction
    have ent : ∀ c, (n, c) ∈ cm → (∀ p d, (p, d) ∈ c.ctrl → F n + pendC d ≤ 1) ∧
        (∀ p b, (p, b) ∈ c.data → F n + pendD b ≤ 1) := by
      intro c hc
      have bud : ∀ p, p ∈ akeys c.ctrl ∨ p ∈ akeys c.data → Cp p + skOf cm p ≤ 1 := fun p hp => by
        have h1 := hB p
        have h2 := ih (rank p) (hr ▸ hrank n _ _ (shapes_mem cm n c hc) p hp) p rfl
        split at h1
        · rename_i e
          rw [e, hS] at h1
          rw [e, skOf_not_mem hstart]; exact h1
        · omega
      exact ⟨fun p d hp => Nat.le_trans ((hJ.at_boundary hc).1 p d hp) (bud p (Or.inl (mem_akeys_of_mem p d _ hp))),
        fun p b hp => Nat.le_trans ((hJ.at_boundary hc).2 p b hp) (bud p (Or.inr (mem_akeys_of_mem p b _ hp)))⟩
    by_cases hs : skOf cm n = 1
    · -- flagged: its channel has a reported entry, so `n` was never started
      obtain ⟨c, hl, hsk⟩ := skOf_eq_one.mp hs
      have hc := mem_of_alookup _ _ _ hl
      rw [hs]
      rcases (hJ.sk n c hc).reported hsk with ⟨p, hp⟩ | ⟨p, hp⟩
      · exact (ent c hc).1 p _ hp
      · exact (ent c hc).2 p _ hp
    · -- not flagged: a node that has been started has a channel with a predecessor entry
      have := skOf_le_one cm n
      by_cases h0 : 0 < F n
      · obtain ⟨cs, ds, hm, hne⟩ := hpos n h0
        obtain ⟨⟨_, c⟩, hc, he⟩ := List.mem_map.mp hm
        cases he
        cases hcc : c.ctrl with
        | cons a _ => have := (ent c hc).1 a.1 a.2 (hcc ▸ List.mem_cons_self); omega
        | nil =>
          cases hdd : c.data with
          | cons a _ => have := (ent c hc).2 a.1 a.2 (hdd ▸ List.mem_cons_self); omega
          | nil => exact absurd ⟨by rw [hcc]; rfl, by rw [hdd]; rfl⟩ hne
      · omega

theorem keysOfTr_nil {V} : keysOfTr ([] : Trace V) = [] := rfl

theorem keysOfTr_cons {V} (a : List (Key × V)) (tr : Trace V) : keysOfTr (a :: tr) = akeys a ++ keysOfTr tr := by
  simp [keysOfTr, akeys]

theorem keysOfTr_append {V} (a b : Trace V) : keysOfTr (a ++ b) = keysOfTr a ++ keysOfTr b := by
  simp [keysOfTr]

theorem keysOfTr_append_single {V} (bs : Trace V) (ts : List (Key × V)) :
    keysOfTr (bs ++ [ts]) = keysOfTr bs ++ akeys ts := by
  rw [keysOfTr_append, keysOfTr_cons, keysOfTr_nil, List.append_nil]

theorem count_pos_of_task {V} {ts : List (Key × V)} (tr : Trace V) {t : Key × V} (ht : t ∈ ts) :
    0 < (keysOfTr (ts :: tr)).count t.1 :=
  List.count_pos_iff.mpr (keysOfTr_cons ts tr ▸ List.mem_append_left _ (mem_akeys_of_mem t.1 t.2 _ ht))

theorem task_fresh {V} {ts : List (Key × V)} {tr : Trace V} (h : ∀ k, (keysOfTr (ts :: tr)).count k ≤ 1)
    {t : Key × V} (ht : t ∈ ts) : (keysOfTr tr).count t.1 = 0 := by
  have hb := h t.1
  rw [keysOfTr_cons, List.count_append] at hb
  have : 0 < (akeys ts).count t.1 := List.count_pos_iff.mpr (mem_akeys_of_mem t.1 t.2 _ ht)
  omega

theorem count_keysOfTr_reverse {V} (tr : Trace V) (k : Key) :
    (keysOfTr tr.reverse).count k = (keysOfTr tr).count k := by
  induction tr with
  | nil => rfl
  | cons a t ih =>
    rw [keysOfTr_cons, List.reverse_cons, keysOfTr_append_single, List.count_append, List.count_append, ih]; omega

/-- The invariant `loop_stops` carries through `loop`: `J` at a round boundary, where the starts of `n` are its
    occurrences in the trace with the pending `tasks`, and the completions of `p` those in the trace without them
    (`START` completed once).  `pos`: only a node with a predecessor is ever started, so every start is paid for
    by an entry (`static_bound`). -/
structure LInv {V} (r : Runner V) (cm : Chans V) (tasks : List (Key × V)) (tr : Trace V) : Prop where
  j : J (fun n => (keysOfTr (tasks :: tr)).count n)
        (fun p => (keysOfTr tr).count p + if p = START then 1 else 0) [] [] cm
  sh : shapes cm = shapes (initChans r)
  pos : ∀ n, 0 < (keysOfTr (tasks :: tr)).count n → HasPred (shapes (initChans r)) n

theorem static_bound_wf {V} {F Cp : Key → Nat} (r : Runner V) (wf : DagWF r) (cm : Chans V)
    (hsh : shapes cm = shapes (initChans r)) (hJ : J F Cp [] [] cm)
    (hB : ∀ p, Cp p ≤ F p + if p = START then 1 else 0)
    (hpos : ∀ n, 0 < F n → HasPred (shapes (initChans r)) n) : ∀ n, F n + skOf cm n ≤ 1 := by
  obtain ⟨rank, hrank⟩ := wf.acyclic
  have hk := akeys_of_shapes hsh
  exact static_bound cm rank (hsh ▸ hrank) (hk ▸ wf.startFresh) hJ hB (hsh ▸ hpos)

theorem linv_static {V} (r : Runner V) (wf : DagWF r) (cm : Chans V) (tasks : List (Key × V)) (tr : Trace V)
    (h : LInv r cm tasks tr) : ∀ n, (keysOfTr (tasks :: tr)).count n + skOf cm n ≤ 1 :=
  static_bound_wf r wf cm h.sh h.j (fun p => by simp only [keysOfTr_cons, List.count_append]; omega) h.pos

theorem linv_bound {V} (r : Runner V) (wf : DagWF r) (cm : Chans V) (tasks : List (Key × V)) (tr : Trace V)
    (h : LInv r cm tasks tr) (k : Key) : (keysOfTr (tasks :: tr)).count k ≤ 1 :=
  Nat.le_trans (Nat.le_add_right _ _) (linv_static r wf cm tasks tr h k)

theorem LInv_step {V} (ops : ValOps V) (r : Runner V) (wf : DagWF r) (sched : Sched V) (hf : sched.Fair)
    (cm cm' : Chans V) (tasks ts : List (Key × V)) (tr : Trace V) (done : List (Done V)) (nx : Next V)
    (h : LInv r cm tasks tr) (hr : runTasks r sched tr.length tasks = .ok done)
    (hc : calcNext ops r cm done = .ok (cm', nx)) (hnx : nx = .tasks ts) : LInv r cm' ts (tasks :: tr) := by
  obtain ⟨ready, j1, j2, j3, j4⟩ := calcNext_J ops r wf.dag wf.succ wf.startKey cm cm' done nx h.j h.sh hc
  have hready : ready = ts := by
    rcases j4 with ⟨v, hv⟩ | hv
    · rw [hnx] at hv; cases hv
    · rw [hnx] at hv; cases hv; rfl
  subst hready
  have hperm := runTasks_keys r sched hf _ _ _ hr
  refine ⟨?_, j2, ?_⟩
  · refine J_congr (fun n => ?_) (fun p => ?_) j1
    · rw [keysOfTr_cons ready, List.count_append]; omega
    · rw [keysOfTr_cons tasks, List.count_append, hperm.count_eq]
      simp only [akeys]; omega
  · intro n hn
    rw [keysOfTr_cons ready, List.count_append] at hn
    by_cases h0 : 0 < (akeys ready).count n
    · exact j3 n (List.count_pos_iff.mp h0)
    · exact h.pos n (by omega)

theorem loop_once {V} (ops : ValOps V) (r : Runner V) (wf : DagWF r) (sched : Sched V) (hf : sched.Fair) :
    ∀ (fuel : Nat) (cm : Chans V) (tasks : List (Key × V)) (tr : Trace V), LInv r cm tasks tr →
      ∀ k, (keysOfTr (loop ops r sched fuel cm tasks tr).trace).count k ≤ 1 := by
  intro fuel cm tasks tr h k
  obtain ⟨cm1, tasks1, tr1, h1, hstop⟩ := loop_stops ops r sched (LInv r)
    (fun cm cm' tasks tr done ts h hr hc => LInv_step ops r wf sched hf cm cm' tasks ts tr done _ h hr hc rfl)
    fuel cm tasks tr h
  have hb := linv_bound r wf cm1 tasks1 tr1 h1 k
  rcases hstop with ⟨e, _⟩ | ⟨e, _⟩ <;> rw [e, count_keysOfTr_reverse]
  · rw [keysOfTr_cons, List.count_append] at hb; omega
  · exact hb

theorem initChans_mem {V} (r : Runner V) (hd : r.dag = true) {n : Key} {c : Chan V} (hm : (n, c) ∈ initChans r) :
    (∀ p d, (p, d) ∈ c.ctrl → d = Dep.waiting) ∧ (∀ p b, (p, b) ∈ c.data → b = false) ∧
    c.values = [] ∧ c.skipped = false := by
  rw [mem_initChans r n c hm, hd]
  simp only [Chan.init, ↓reduceIte, List.mem_map, Prod.mk.injEq]
  refine ⟨?_, ?_, trivial, trivial⟩
  · rintro p d ⟨_, _, _, rfl⟩; rfl
  · rintro p d ⟨_, _, _, rfl⟩; rfl

theorem init_J {V} (r : Runner V) (hd : r.dag = true) (hnd : (akeys (initChans r)).Nodup) :
    J (fun _ => 0) (fun _ => 0) [] [] (initChans r) := by
  refine ⟨?_, ?_, ?_, hnd, List.nodup_nil, by simp⟩
  · intro n c hm p d hp
    rw [(initChans_mem r hd hm).1 p d hp]
    simp [effC, pendC, wlInd]
  · intro n c hm p d hp
    rw [(initChans_mem r hd hm).2.1 p d hp]
    simp [effD, pendD, wlInd]
  · exact fun n c hm => .of_not_skipped (initChans_mem r hd hm).2.2.2

theorem start_LInv {V} (ops : ValOps V) (r : Runner V) (wf : DagWF r) (x : V) (cm' : Chans V) (ts : List (Key × V))
    (hc : calcNext ops r (initChans r) [(START, x)] = .ok (cm', .tasks ts)) : LInv r cm' ts [] := by
  obtain ⟨ready, j1, j2, j3, j4⟩ := calcNext_J ops r wf.dag wf.succ wf.startKey _ cm' _ _
    (init_J r wf.dag wf.nodup) rfl hc
  rcases j4 with ⟨v, hv⟩ | hv
  · cases hv
  · simp only [Next.tasks.injEq] at hv
    subst hv
    refine ⟨?_, j2, ?_⟩
    · refine J_congr (fun n => ?_) (fun p => ?_) j1
      · rw [keysOfTr_cons, keysOfTr_nil, List.append_nil, Nat.zero_add]
      · simp only [keysOfTr_nil, List.count_nil, Nat.zero_add, List.map_cons, List.map_nil, List.count_singleton,
          beq_iff_eq, @eq_comm _ START p]
    · intro n hn
      rw [keysOfTr_cons, keysOfTr_nil, List.append_nil] at hn
      exact j3 n (List.count_pos_iff.mp hn)

/-- **at most once.** In all-predecessor mode every node of a well-formed acyclic runner is
    started at most once in a run — for every wiring (control-only, data-only, combined
    dependencies, any branches, converging branches, nested skips), every node function and
    branch outcome, every input and every fair completion schedule. -/
theorem run_at_most_once {V} (ops : ValOps V) (r : Runner V) (wf : DagWF r) (sched : Sched V) (hf : sched.Fair)
    (x : V) (k : Key) : (keysOfTr (runS ops r sched x).trace).count k ≤ 1 :=
  runS_elim ops r sched x (fun _ _ => Nat.zero_le _) (fun _ _ _ => Nat.zero_le _)
    (fun cm' ts hc => loop_once ops r wf sched hf _ cm' ts [] (start_LInv ops r wf x cm' ts hc) k)

theorem nodupb_sound (l : List Key) (h : nodupb l = true) : l.Nodup := by
  induction l with
  | nil => exact List.nodup_nil
  | cons k t ih =>
    simp only [nodupb, Bool.and_eq_true, Bool.not_eq_eq_eq_not, Bool.not_true] at h
    refine List.nodup_cons.mpr ⟨?_, ih h.2⟩
    intro hm
    have : t.contains k = true := List.contains_iff_mem.mpr hm
    rw [this] at h; exact absurd h.1 (by simp)

theorem dagWFb_sound {V} (r : Runner V) (h : dagWFb r = true) : DagWF r := by
  simp only [dagWFb, Bool.and_eq_true, beq_iff_eq, Bool.not_eq_eq_eq_not, Bool.not_true,
    List.all_eq_true, Bool.or_eq_true, decide_eq_true_eq, List.mem_cons, forall_eq_or_imp] at h
  obtain ⟨⟨⟨⟨⟨h1, h2⟩, h3⟩, h4⟩, h5s, h5⟩, h6⟩ := h
  refine ⟨h1, nodupb_sound _ h2, h3, ?_, ?_, ⟨rankOf (shapes (initChans r)), ?_⟩⟩
  · intro hm
    have : (akeys (initChans r)).contains START = true := List.contains_iff_mem.mpr hm
    rw [this] at h4; exact absurd h4 (by simp)
  · intro m hm s hs cs ds he
    have hx : ∀ s, s ∈ m.successors → ∀ e, e ∈ shapes (initChans r) →
        ((e.1 == s) = false ∨ e.2.1.contains m.key = true) ∨ e.2.2.contains m.key = true := by
      rcases hm with hm | rfl
      · exact h5 m hm
      · exact h5s
    rcases hx s hs (s, cs, ds) he with (h | h) | h
    · simp at h
    · exact Or.inl (List.contains_iff_mem.mp h)
    · exact Or.inr (List.contains_iff_mem.mp h)
  · intro n cs ds he p hp
    exact h6 (n, cs, ds) he p (by simpa using hp)

theorem length_le_keysOfTr {V} (tr : Trace V) (h : ∀ l, l ∈ tr → l ≠ []) : tr.length ≤ (keysOfTr tr).length := by
  induction tr with
  | nil => simp
  | cons a t ih =>
    rw [keysOfTr_cons, List.length_append, List.length_cons]
    have := ih (fun l hl => h l (List.mem_cons_of_mem _ hl))
    have ha : 0 < (akeys a).length := by
      cases a with
      | nil => exact absurd rfl (h [] (by simp))
      | cons x y => simp [akeys]
    omega

/-- the bound: the past steps are non-empty and start distinct keys, all among the `nodes + 1` channel
    keys (the nodes and END) -/
theorem linv_short {V} (r : Runner V) (wf : DagWF r) (cm : Chans V) (tasks : List (Key × V)) (tr : Trace V)
    (h : LInv r cm tasks tr) (hne : ∀ l, l ∈ tr → l ≠ []) : tr.length ≤ r.nodes.length + 1 := by
  have hnd : (keysOfTr (tasks :: tr)).Nodup := List.nodup_iff_count.mpr (fun k => linv_bound r wf cm tasks tr h k)
  have hsub : (keysOfTr (tasks :: tr)) ⊆ akeys (initChans r) :=
    fun k hk => (h.pos k (List.count_pos_iff.mpr hk)).mem_keys
  have h1 := hnd.length_le_of_subset hsub
  have h2 : (akeys (initChans r)).length = r.nodes.length + 1 := by simp [akeys_initChans]
  have h3 := length_le_keysOfTr tr hne
  rw [keysOfTr_cons, List.length_append] at h1
  omega

theorem runTasks_isEmpty {V} (r : Runner V) (sched : Sched V) (hf : sched.Fair) (step : Nat)
    (ts : List (Key × V)) (done : List (Done V)) (h : runTasks r sched step ts = .ok done) :
    done.isEmpty = ts.isEmpty := by
  have := (runTasks_keys r sched hf _ _ _ h).length_eq
  cases done <;> cases ts <;> simp at this ⊢

theorem loop_ok_iff {V} (ops : ValOps V) (r : Runner V) (sched : Sched V) (fuel : Nat) (cm : Chans V)
    (tasks : List (Key × V)) (tr : Trace V) (v : V) :
    (loop ops r sched (fuel + 1) cm tasks tr).result = .ok v ↔
      ∃ done cm' nx, runTasks r sched tr.length tasks = .ok done ∧ done.isEmpty = false ∧
        calcNext ops r cm done = .ok (cm', nx) ∧
        (nx = .result v ∨ ∃ ts, nx = .tasks ts ∧ (loop ops r sched fuel cm' ts (tasks :: tr)).result = .ok v) := by
  rw [loop]
  constructor
  · intro h
    split at h
    · cases h
    · rename_i done hr
      split at h
      · cases h
      · rename_i he
        have he := (Bool.not_eq_true _).mp he
        split at h
        · cases h
        · rename_i cm' w hc; cases h; exact ⟨done, cm', _, hr, he, hc, Or.inl rfl⟩
        · rename_i cm' ts hc; exact ⟨done, cm', _, hr, he, hc, Or.inr ⟨ts, rfl, h⟩⟩
  · rintro ⟨done, cm', nx, hr, he, hc, h⟩
    simp only [hr, he, hc, Bool.false_eq_true, ↓reduceIte]
    rcases h with rfl | ⟨ts, rfl, h⟩
    · rfl
    · exact h

/-- **the model's DAG fuel is never the reason a run stops**: more fuel changes nothing. -/
theorem loop_fuel_enough {V} (ops : ValOps V) (r : Runner V) (wf : DagWF r) (sched : Sched V) (hf : sched.Fair)
    (extra : Nat) :
    ∀ (fuel : Nat) (cm : Chans V) (tasks : List (Key × V)) (tr : Trace V), LInv r cm tasks tr →
      (∀ l, l ∈ tr → l ≠ []) → r.nodes.length + 2 ≤ fuel + tr.length →
      loop ops r sched (fuel + extra) cm tasks tr = loop ops r sched fuel cm tasks tr := by
  intro fuel
  induction fuel with
  | zero =>
    intro cm tasks tr h hne hlen
    have := linv_short r wf cm tasks tr h hne
    omega
  | succ f ih =>
    intro cm tasks tr h hne hlen
    have e : f + 1 + extra = (f + extra) + 1 := by omega
    rw [e]
    unfold loop
    simp only
    cases hr : runTasks r sched tr.length tasks with
    | error e => rfl
    | ok done =>
      simp only
      by_cases he : done.isEmpty = true
      · simp [he]
      · simp only [he, Bool.false_eq_true, ↓reduceIte]
        cases hc : calcNext ops r cm done with
        | error e => rfl
        | ok res =>
          obtain ⟨cm', nx⟩ := res
          cases nx with
          | result v => rfl
          | tasks ts =>
            have htne : tasks ≠ [] := fun e => he (by rw [runTasks_isEmpty r sched hf _ _ _ hr, e]; rfl)
            apply ih cm' ts (tasks :: tr) (LInv_step ops r wf sched hf cm cm' tasks ts tr done _ h hr hc rfl)
            · intro l hl
              rcases List.mem_cons.mp hl with rfl | hl
              · exact htne
              · exact hne l hl
            · simp only [List.length_cons]; omega

theorem run_fuel_enough {V} (ops : ValOps V) (r : Runner V) (wf : DagWF r) (sched : Sched V) (hf : sched.Fair)
    (x : V) (cm : Chans V) (ts : List (Key × V))
    (hc : calcNext ops r (initChans r) [(START, x)] = .ok (cm, .tasks ts)) (extra : Nat) :
    loop ops r sched (r.fuel + extra) cm ts [] = loop ops r sched r.fuel cm ts [] := by
  apply loop_fuel_enough ops r wf sched hf extra r.fuel cm ts [] (start_LInv ops r wf x cm ts hc)
  · intro l hl; simp at hl
  · simp [Runner.fuel, wf.dag]

end DagRun
end EinoV.Engine
