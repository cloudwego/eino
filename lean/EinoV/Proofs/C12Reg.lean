/-
  C12 — helper lemmas for the registry state machine (Model/C12Reg.lean).
-/
import EinoV.Model.C12Reg
import EinoV.Proofs.C12

namespace EinoV.C12

/-- all three guards of `GenericRegister` present -/
def RFall : RegFacts := ⟨true, true, true⟩

theorem find?_cons_of_fresh {α : Type} {l : List α} {p : α → Bool} {a e : α}
    (ha : p a = true → l.any p = false) (h : l.find? p = some e) : (a :: l).find? p = some e := by
  cases hp : p a with
  | false => rw [List.find?_cons, hp]; exact h
  | true => rw [← List.isSome_find?, h] at ha; cases ha hp

theorem ok_eq (ctx : Ctx) :
    ctx.ok = (regOK ctx.reg && ctx.structs.all (fun s => (s.2.map (·.1)).Nodup)) := rfl

/-- `regOK` is written with `find?` (first match, as `m[key]` / `rm[t]` read the log); this is the same
    condition by membership: no entry under the empty key, and two entries share the key iff they share
    the type.  Hence `regOK` depends on the entries as a set only, not on their order (`regOK_reverse`,
    `regOK_append`). -/
theorem regOK_iff (r : Reg) :
    regOK r = true ↔ (∀ e ∈ r, e.1 ≠ "") ∧ ∀ e ∈ r, ∀ x ∈ r, (x.1 = e.1 ↔ x.2 = e.2) := by
  unfold regOK
  simp only [List.all_eq_true, Bool.and_eq_true, bne_iff_ne, ne_eq, beq_iff_eq, Option.map_eq_some_iff]
  constructor
  · intro h
    refine ⟨fun e he => (h e he).1.1, fun e he x hx => ?_⟩
    obtain ⟨⟨_, a, ha, ha2⟩, b, hb, hb1⟩ := h e he
    obtain ⟨⟨_, a', ha', ha2'⟩, b', hb', hb1'⟩ := h x hx
    constructor
    · intro hxe
      rw [hxe, ha] at ha'; cases ha'; exact ha2'.symm.trans ha2
    · intro hxe
      rw [hxe, hb] at hb'; cases hb'; exact hb1'.symm.trans hb1
  · intro ⟨hne, h⟩ e he
    have k : ∃ a, r.find? (fun x => x.1 == e.1) = some a :=
      Option.isSome_iff_exists.mp (List.find?_isSome.mpr ⟨e, he, beq_self_eq_true _⟩)
    have t : ∃ b, r.find? (fun x => x.2 == e.2) = some b :=
      Option.isSome_iff_exists.mp (List.find?_isSome.mpr ⟨e, he, beq_self_eq_true _⟩)
    obtain ⟨a, ha⟩ := k
    obtain ⟨b, hb⟩ := t
    have ha1 : a.1 = e.1 := by simpa using List.find?_some ha
    have hb2 : b.2 = e.2 := by simpa using List.find?_some hb
    exact ⟨⟨hne e he, a, ha, (h e he a (List.mem_of_find?_eq_some ha)).mp ha1⟩,
      b, hb, (h e he b (List.mem_of_find?_eq_some hb)).mpr hb2⟩

theorem regOK_reverse (r : Reg) : regOK r.reverse = regOK r :=
  Bool.eq_iff_iff.mpr (by simp only [regOK_iff, List.mem_reverse])

theorem regOK_append {s r : Reg} (hs : regOK s = true) (hr : regOK r = true)
    (hd : ∀ x ∈ s, r.hasKey x.1 = false ∧ r.hasTy x.2 = false) : regOK (s ++ r) = true := by
  rw [regOK_iff] at hs hr ⊢
  have hd' : ∀ x ∈ s, ∀ y ∈ r, y.1 ≠ x.1 ∧ y.2 ≠ x.2 := fun x hx y hy => by
    have h := hd x hx
    simp only [Reg.hasKey, Reg.hasTy, List.any_eq_false, beq_iff_eq] at h
    exact ⟨h.1 y hy, h.2 y hy⟩
  refine ⟨fun e he => (List.mem_append.mp he).elim (hs.1 e) (hr.1 e), fun e he x hx => ?_⟩
  rcases List.mem_append.mp he with he | he <;> rcases List.mem_append.mp hx with hx | hx
  · exact hs.2 e he x hx
  · exact iff_of_false (hd' e he x hx).1 (hd' e he x hx).2
  · exact iff_of_false (hd' x hx e he).1.symm (hd' x hx e he).2.symm
  · exact hr.2 e he x hx

/-- `Ctx.ok` of a registry in two parts, the second part's share as one Boolean to evaluate -/
theorem ok_append {s r : Reg} {structs : List (Name × List (Name × GoTy))} (hs : regOK s = true)
    (h : (regOK r && s.all (fun x => !r.hasKey x.1 && !r.hasTy x.2)
          && structs.all (fun d => (d.2.map (·.1)).Nodup)) = true) :
    (Ctx.mk (s ++ r) structs).ok = true := by
  simp only [Bool.and_eq_true, List.all_eq_true, Bool.not_eq_true'] at h
  rw [ok_eq, Bool.and_eq_true, List.all_eq_true]
  exact ⟨regOK_append hs h.1.1 h.1.2, h.2⟩

theorem regStep_cases (RF : RegFacts) (r : Reg) (op : RegOp) :
    ((regStep RF r op).1 ≠ .accepted ∧ (regStep RF r op).2 = r) ∨
    ((regStep RF r op).1 = .accepted ∧ (regStep RF r op).2 = (op.key, op.ty.strip) :: r
      ∧ (RF.rejectsEmptyKey = true → op.key ≠ "")
      ∧ (RF.rejectsTakenKey = true → r.hasKey op.key = false)
      ∧ (RF.rejectsTakenType = true → r.hasTy op.ty.strip = false)) := by
  unfold regStep
  split
  · exact .inl ⟨nofun, rfl⟩
  · split
    · exact .inl ⟨nofun, rfl⟩
    · split
      · exact .inl ⟨nofun, rfl⟩
      · rename_i h1 h2 h3
        simp only [Bool.and_eq_true, beq_iff_eq, not_and, Bool.not_eq_true] at h1 h2 h3
        exact .inr ⟨rfl, rfl, h1, h2, h3⟩

theorem regStep_rejected (RF : RegFacts) (r : Reg) (op : RegOp)
    (h : (regStep RF r op).1 ≠ .accepted) : (regStep RF r op).2 = r :=
  (regStep_cases RF r op).elim (·.2) (absurd ·.1 h)

theorem regStep_accepted_fresh (r : Reg) (op : RegOp) (h : (regStep RFall r op).1 = .accepted) :
    op.key ≠ "" ∧ r.hasKey op.key = false ∧ r.hasTy op.ty.strip = false :=
  (regStep_cases RFall r op).elim (absurd h ·.1) fun ⟨_, _, h1, h2, h3⟩ => ⟨h1 rfl, h2 rfl, h3 rfl⟩

theorem regStep_ok (r : Reg) (op : RegOp) (hr : regOK r = true) : regOK (regStep RFall r op).2 = true := by
  rcases regStep_cases RFall r op with ⟨_, h⟩ | ⟨_, h, hk, hfk, hft⟩ <;> rw [h]
  · exact hr
  · refine regOK_append (s := [_]) ?_ hr fun x hx => ?_
    · rw [regOK_iff]
      refine ⟨fun e he => ?_, fun e he x hx => ?_⟩
      · rw [List.mem_singleton.mp he]; exact hk rfl
      · rw [List.mem_singleton.mp he, List.mem_singleton.mp hx]; exact iff_of_true rfl rfl
    · rw [List.mem_singleton.mp hx]; exact ⟨hfk rfl, hft rfl⟩

theorem regAfter_inv {RF : RegFacts} {P : Reg → Prop} (hstep : ∀ r op, P r → P (regStep RF r op).2) :
    ∀ (ops : List RegOp) (r : Reg), P r → P (regAfter RF r ops)
  | [], _, h => h
  | op :: ops, _, h => regAfter_inv hstep ops _ (hstep _ op h)

theorem regOK_regAfter_nil (ops : List RegOp) : regOK (regAfter RFall [] ops) = true :=
  regAfter_inv regStep_ok ops [] rfl

theorem tyOfKey_step (RF : RegFacts) (hg : RF.rejectsTakenKey = true) (k : Name) (e : Name × GoTy)
    (r : Reg) (op : RegOp) (h : r.find? (fun x => x.1 == k) = some e) :
    (regStep RF r op).2.find? (fun x => x.1 == k) = some e := by
  rcases regStep_cases RF r op with ⟨_, hr⟩ | ⟨_, hr, _, hk, _⟩ <;> rw [hr]
  · exact h
  · exact find?_cons_of_fresh (fun hc => beq_iff_eq.mp hc ▸ hk hg) h

theorem keyOf_step (RF : RegFacts) (hg : RF.rejectsTakenType = true) (t : GoTy) (e : Name × GoTy)
    (r : Reg) (op : RegOp) (h : r.find? (fun x => x.2 == t) = some e) :
    (regStep RF r op).2.find? (fun x => x.2 == t) = some e := by
  rcases regStep_cases RF r op with ⟨_, hr⟩ | ⟨_, hr, _, _, ht⟩ <;> rw [hr]
  · exact h
  · exact find?_cons_of_fresh (fun hc => beq_iff_eq.mp hc ▸ ht hg) h

mutual
theorem wt_congr {c c' : Ctx} (hs : c'.structs = c.structs) : ∀ v : GoVal, v.wt c' = v.wt c
  | .basic _ _ => by simp only [GoVal.wt]
  | .inil => by simp only [GoVal.wt]
  | .nilptr _ => by simp only [GoVal.wt]
  | .ptr v => by simp only [GoVal.wt]; exact wt_congr hs v
  | .slice et _ vs => by simp only [GoVal.wt]; exact fitVals_congr hs et vs
  | .map kt vt _ kvs => by simp only [GoVal.wt, fitKVs_congr hs vt kvs]
  | .struct n fs => by
    have hd : declOf c' n = declOf c n := by unfold declOf; rw [hs]
    simp only [GoVal.wt, hd]
    cases declOf c n with
    | none => rfl
    | some d => exact fitDecl_congr hs d fs
theorem fitVals_congr {c c' : Ctx} (hs : c'.structs = c.structs) (et : GoTy) :
    ∀ vs : GoVals, vs.fit c' et = vs.fit c et
  | .nil => by simp only [GoVals.fit]
  | .cons v r => by simp only [GoVals.fit, wt_congr hs v, fitVals_congr hs et r]
theorem fitKVs_congr {c c' : Ctx} (hs : c'.structs = c.structs) (vt : GoTy) :
    ∀ kvs : GoKVs, kvs.fit c' vt = kvs.fit c vt
  | .nil => by simp only [GoKVs.fit]
  | .cons _ v r => by simp only [GoKVs.fit, wt_congr hs v, fitKVs_congr hs vt r]
theorem fitDecl_congr {c c' : Ctx} (hs : c'.structs = c.structs) :
    ∀ (d : List (Name × GoTy)) (kvs : GoKVs), kvs.fitDecl c' d = kvs.fitDecl c d
  | [], .nil => by simp only [GoKVs.fitDecl]
  | [], .cons _ _ _ => by simp only [GoKVs.fitDecl]
  | _ :: _, .nil => by simp only [GoKVs.fitDecl]
  | (f, t) :: ds, .cons k v r => by simp only [GoKVs.fitDecl, wt_congr hs v, fitDecl_congr hs ds r]
end

mutual
theorem encodable_mono {c c' : Ctx} (J : JLayer)
    (H : ∀ t, (keyOf c t).isSome = true → (keyOf c' t).isSome = true) :
    ∀ v : GoVal, v.encodable c J = true → v.encodable c' J = true
  | .basic t p, h => by
    simp only [GoVal.encodable, Bool.and_eq_true] at h ⊢; exact ⟨H _ h.1, h.2⟩
  | .inil, _ => by simp only [GoVal.encodable]
  | .nilptr t, h => by simp only [GoVal.encodable] at h ⊢; exact H _ h
  | .ptr v, h => by
    simp only [GoVal.encodable, Bool.and_eq_true] at h ⊢; exact ⟨h.1, encodable_mono J H v h.2⟩
  | .slice et _ vs, h => by
    simp only [GoVal.encodable, Bool.and_eq_true] at h ⊢; exact ⟨H _ h.1, encodableVals_mono J H vs h.2⟩
  | .map kt vt _ kvs, h => by
    simp only [GoVal.encodable, Bool.and_eq_true] at h ⊢
    exact ⟨⟨⟨h.1.1.1, H _ h.1.1.2⟩, H _ h.1.2⟩, encodableMap_mono J H kt kvs h.2⟩
  | .struct n fs, h => by
    simp only [GoVal.encodable, Bool.and_eq_true] at h ⊢; exact ⟨H _ h.1, encodableFields_mono J H fs h.2⟩
theorem encodableVals_mono {c c' : Ctx} (J : JLayer)
    (H : ∀ t, (keyOf c t).isSome = true → (keyOf c' t).isSome = true) :
    ∀ vs : GoVals, vs.encodable c J = true → vs.encodable c' J = true
  | .nil, _ => by simp only [GoVals.encodable]
  | .cons v r, h => by
    simp only [GoVals.encodable, Bool.and_eq_true] at h ⊢
    exact ⟨encodable_mono J H v h.1, encodableVals_mono J H r h.2⟩
theorem encodableMap_mono {c c' : Ctx} (J : JLayer)
    (H : ∀ t, (keyOf c t).isSome = true → (keyOf c' t).isSome = true) (kt : GoTy) :
    ∀ kvs : GoKVs, kvs.encodableMap c J kt = true → kvs.encodableMap c' J kt = true
  | .nil, _ => by simp only [GoKVs.encodableMap]
  | .cons _ v r, h => by
    simp only [GoKVs.encodableMap, Bool.and_eq_true] at h ⊢
    exact ⟨⟨h.1.1, encodable_mono J H v h.1.2⟩, encodableMap_mono J H kt r h.2⟩
theorem encodableFields_mono {c c' : Ctx} (J : JLayer)
    (H : ∀ t, (keyOf c t).isSome = true → (keyOf c' t).isSome = true) :
    ∀ kvs : GoKVs, kvs.encodableFields c J = true → kvs.encodableFields c' J = true
  | .nil, _ => by simp only [GoKVs.encodableFields]
  | .cons _ v r, h => by
    simp only [GoKVs.encodableFields, Bool.and_eq_true] at h ⊢
    exact ⟨encodable_mono J H v h.1, encodableFields_mono J H r h.2⟩
end

theorem keyOf_ctx_after (RF : RegFacts) (hg : RF.rejectsTakenType = true) (ctx : Ctx) (ops : List RegOp)
    (t : GoTy) (k : Name) (h : keyOf ctx t = some k) : keyOf (ctx.after RF ops) t = some k := by
  unfold keyOf at h ⊢
  obtain ⟨e, hf, he⟩ := Option.map_eq_some_iff.mp h
  rw [show (ctx.after RF ops).reg = regAfter RF ctx.reg ops from rfl,
    regAfter_inv (keyOf_step RF hg t e) ops _ hf]
  exact congrArg some he

theorem tyOfKey_ctx_after (RF : RegFacts) (hg : RF.rejectsTakenKey = true) (ctx : Ctx) (ops : List RegOp)
    (k : Name) (t : GoTy) (h : tyOfKey ctx k = some t) : tyOfKey (ctx.after RF ops) k = some t := by
  unfold tyOfKey at h ⊢
  obtain ⟨e, hf, he⟩ := Option.map_eq_some_iff.mp h
  rw [show (ctx.after RF ops).reg = regAfter RF ctx.reg ops from rfl,
    regAfter_inv (tyOfKey_step RF hg k e) ops _ hf]
  exact congrArg some he

theorem ok_after (ctx : Ctx) (ops : List RegOp) (hc : ctx.ok = true) : (ctx.after RFall ops).ok = true := by
  rw [ok_eq] at hc ⊢
  simp only [Bool.and_eq_true] at hc ⊢
  exact ⟨regAfter_inv regStep_ok ops ctx.reg hc.1, hc.2⟩

/-- needs the `typeTaken` guard only: `Supported` asks for `rm[t]`, never for `m[k]` -/
theorem supported_after_of_typeGuard (RF : RegFacts) (hg : RF.rejectsTakenType = true) (ctx : Ctx) (J : JLayer)
    (ops : List RegOp) (v : GoVal) (hs : Supported ctx J v = true) : Supported (ctx.after RF ops) J v = true := by
  unfold Supported at hs ⊢
  simp only [Bool.and_eq_true] at hs ⊢
  refine ⟨?_, ?_⟩
  · rw [wt_congr (c := ctx) (c' := ctx.after RF ops) rfl v]; exact hs.1
  · apply encodable_mono J _ v hs.2
    intro t ht
    obtain ⟨k, hk⟩ := Option.isSome_iff_exists.mp ht
    rw [keyOf_ctx_after RF hg ctx ops t k hk]; rfl

theorem supported_after (ctx : Ctx) (J : JLayer) (ops : List RegOp) (v : GoVal)
    (hs : Supported ctx J v = true) : Supported (ctx.after RFall ops) J v = true :=
  supported_after_of_typeGuard RFall rfl ctx J ops v hs

/-- `c'` extends `c` as far as the DECODER can see: `ty`, every key that `m` resolves keeps its type;
    `structs`, the struct declarations are the same.  Nothing is asked of `rm` (`keyOf`): `dec` looks types
    up by key only.  It carries a successful decode from a registry to the one after further
    `GenericRegister` calls (`ctxExt_after`, `unmarshalTop_ext`; used by `written_earlier_reads_back`). -/
structure CtxExt (c c' : Ctx) : Prop where
  ty : ∀ k t, tyOfKey c k = some t → tyOfKey c' k = some t
  structs : c'.structs = c.structs

theorem tyOfKeyE_ext {c c' : Ctx} (h : CtxExt c c') {k : Name} {t : GoTy}
    (hk : tyOfKeyE c k = .ok t) : tyOfKeyE c' k = .ok t :=
  tyOfKeyE_ok.mpr (h.ty k t (tyOfKeyE_ok.mp hk))

theorem declOf_ext {c c' : Ctx} (h : CtxExt c c') (n : Name) : declOf c' n = declOf c n := by
  unfold declOf; rw [h.structs]

/-! Each decode branch is a chain of binds that starts with registry lookups; the lookups succeed in
    `c'` as in `c` and everything after them does not look at the registry. -/

theorem decBasic_ext {c c' : Ctx} (h : CtxExt c c') (J : JLayer) (F : Facts) (pn ne : Nat) (ty js : String)
    (v : GoVal) (hd : decBasic c J F pn ne ty js = .ok v) : decBasic c' J F pn ne ty js = .ok v :=
  bind_ok_mono (fun _ => tyOfKeyE_ext h) (fun _ h => h) hd

theorem assembleStruct_ext {c c' : Ctx} (h : CtxExt c c') (J : JLayer) (F : Facts) (pn : Nat) (st : String)
    (kvs : GoKVs) (v : GoVal) (hd : assembleStruct c J F pn st kvs = .ok v) :
    assembleStruct c' J F pn st kvs = .ok v := by
  unfold assembleStruct at hd ⊢
  simp only [declOf_ext h]
  exact bind_ok_mono (fun _ => tyOfKeyE_ext h) (fun _ h => h) hd

theorem assembleMap_ext {c c' : Ctx} (h : CtxExt c c') (J : JLayer) (F : Facts) (pn kpn : Nat) (kty : String)
    (vpn : Nat) (vty : String) (kvs : GoKVs) (v : GoVal)
    (hd : assembleMap c J F pn kpn kty vpn vty kvs = .ok v) :
    assembleMap c' J F pn kpn kty vpn vty kvs = .ok v :=
  bind_ok_mono (fun _ => tyOfKeyE_ext h)
    (fun _ => bind_ok_mono (fun _ => tyOfKeyE_ext h) fun _ h => h) hd

theorem assembleSlice_ext {c c' : Ctx} (h : CtxExt c c') (J : JLayer) (F : Facts) (pn spn : Nat) (sty : String)
    (vs : GoVals) (v : GoVal) (hd : assembleSlice c J F pn spn sty vs = .ok v) :
    assembleSlice c' J F pn spn sty vs = .ok v :=
  bind_ok_mono (fun _ => tyOfKeyE_ext h) (fun _ h => h) hd

mutual
theorem dec_ext {c c' : Ctx} (h : CtxExt c c') (J : JLayer) (F : Facts) :
    ∀ (i : IS) (v : GoVal), dec c J F i = .ok v → dec c' J F i = .ok v
  | .absent, v, hd => by simpa only [dec] using hd
  | .mk pn ne ty js st kpn kty vpn vty mvs spn sty svs, v, hd => by
    simp only [dec] at hd ⊢
    exact ite_ok_mono (decBasic_ext h J F pn ne ty js v)
      (ite_ok_mono (bind_ok_mono (decKVs_ext h J F mvs) fun kvs => assembleStruct_ext h J F pn st kvs v)
        (ite_ok_mono (bind_ok_mono (decKVs_ext h J F mvs) fun kvs => assembleMap_ext h J F pn kpn kty vpn vty kvs v)
          (bind_ok_mono (decVals_ext h J F svs) fun vs => assembleSlice_ext h J F pn spn sty vs v))) hd
theorem decKVs_ext {c c' : Ctx} (h : CtxExt c c') (J : JLayer) (F : Facts) :
    ∀ (is : ISKVs) (kvs : GoKVs), decKVs c J F is = .ok kvs → decKVs c' J F is = .ok kvs
  | .nil, kvs, hd => by simpa only [decKVs] using hd
  | .cons k i r, kvs, hd => by
    simp only [decKVs] at hd ⊢
    exact bind_ok_mono (dec_ext h J F i) (fun _ => bind_ok_mono (decKVs_ext h J F r) fun _ h => h) hd
theorem decVals_ext {c c' : Ctx} (h : CtxExt c c') (J : JLayer) (F : Facts) :
    ∀ (is : ISs) (vs : GoVals), decVals c J F is = .ok vs → decVals c' J F is = .ok vs
  | .nil, vs, hd => by simpa only [decVals] using hd
  | .cons i r, vs, hd => by
    simp only [decVals] at hd ⊢
    exact bind_ok_mono (dec_ext h J F i) (fun _ => bind_ok_mono (decVals_ext h J F r) fun _ h => h) hd
end

theorem unmarshalTop_ext {c c' : Ctx} (h : CtxExt c c') (J : JLayer) (F : Facts) (i : IS) (v : GoVal)
    (hd : unmarshalTop c J F i = .ok v) : unmarshalTop c' J F i = .ok v := by
  cases i with
  | absent => exact dec_ext h J F _ v hd
  | mk => exact dec_ext h J F _ v hd

theorem ctxExt_after (RF : RegFacts) (hg : RF.rejectsTakenKey = true) (ctx : Ctx) (ops : List RegOp) :
    CtxExt ctx (ctx.after RF ops) :=
  ⟨fun k t hk => tyOfKey_ctx_after RF hg ctx ops k t hk, rfl⟩

end EinoV.C12
