/-
  C03 — lemmas for `Model/C03Fail.lean` (a batch step with a failing node).
-/
import EinoV.Model.C03Fail

namespace EinoV.C03

/-- with the fact `waitAllLoops` the return condition of `waitAll` is the one of the interrupt
    path collecting with `waitAll` -/
theorem waitAllReturns_loops (b needAll : Bool) (k : Nat) (s : St) :
    waitAllReturns true k s = pathReturns ⟨b, true⟩ needAll k s := by
  simp [waitAllReturns, pathReturns]

/-- `waitAll` of a failing step is the collecting call of the interrupt path (`tm.waitAll()`):
    whether a received execution ended with an error plays no role -/
theorem waitAllPath_loops (F : Facts) (b needAll : Bool) :
    ∀ (evs : List Ev) (k : Nat) (s : St),
      waitAllPath F true needAll k s evs = interruptPath F ⟨b, true⟩ needAll k s evs := by
  intro evs k s
  fun_induction waitAllPath F true needAll k s evs <;>
    simp [interruptPath, ← waitAllReturns_loops b needAll, *]

theorem fLoop_started_eq_collected (c : FCfg) :
    ∀ (n : Nat) (st : GState) (acc : List (List Key)),
      (fLoop c true n st acc).started = (fLoop c true n st acc).collected := by
  intro n st acc
  -- the branches of `fLoop`: 1 no fuel, 2 END is ready, 3 no node is ready (nothing outstanding in
  -- these three), 4 a node of the superstep fails, 5 none fails and the loop goes on
  fun_induction fLoop c true n st acc with
  | case1 | case2 | case3 => rfl
  | case4 => simp [fDrained]
  | case5 => rename_i ih; exact ih

theorem fRun_uncollected_nil (c : FCfg) : fUncollected (fRun c true) = [] := by
  unfold fUncollected fRun
  rw [fLoop_started_eq_collected]
  exact List.filter_eq_nil_iff.mpr fun k hk => by simp [hk]

end EinoV.C03
