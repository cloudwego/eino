/-
  C01 — the engine's bookkeeping refines the superstep specification EinoV/Spec/Superstep.lean: on empty
  channels and for distinct senders the normal form of a superstep (`calcNext_pregel_eq`) is `Spec.next`
  (`calcNext_spec`), whence `loop_pregel`, `run_pregel` (`pregel_refines_superstep` in Props/C01.lean).
-/
import EinoV.Proofs.C01Pregel

namespace EinoV.Engine
open EinoV.Spec EinoV.Interrupt.PregelFold

/-- The channels between two supersteps of any-predecessor mode: one per key of `Spec.keys r`, in that order, and
    all empty (`getReady` has emptied whatever was delivered).  This is why the engine's step depends on the
    completions alone, as `Spec.next` does. -/
structure ChansOK {V} (r : Runner V) (cm : Chans V) : Prop where
  keys : akeys cm = Spec.keys r
  empty : ∀ p ∈ cm, p.2.values = []

/-- the ready list and the merge flag in the form `Spec.next` has them -/
theorem getReady_of_get {V} (ops : ValOps V) (dag : Bool) (cm : Chans V) (res : Key → GetResult V)
    (h : ∀ p ∈ cm, (p.2.get ops dag).2 = res p.1) :
    getReady ops dag cm =
      (cm.map (fun p => (p.1, (p.2.get ops dag).1)),
       ((akeys cm).map (fun t => (t, res t))).filterMap
         (fun g => match g.2 with | .ready v => some (g.1, v) | _ => none),
       ((akeys cm).map (fun t => (t, res t))).any
         (fun g => match g.2 with | .mergeErr => true | _ => false)) := by
  have e : (akeys cm).map (fun t => (t, res t)) = cm.map (fun p => (p.1, (p.2.get ops dag).2)) :=
    List.map_map.trans (List.map_congr_left fun p hp => by rw [Function.comp, h p hp])
  rw [getReady_map, e, List.filterMap_map, List.any_map]
  rfl

theorem calcNext_spec {V} (ops : ValOps V) (r : Runner V) (h : r.dag = false) (cm : Chans V)
    (hok : ChansOK r cm) (done : List (Done V)) (hnd : (done.map (·.1)).Nodup) :
    ∃ cm', ChansOK r cm' ∧
      calcNext ops r cm done = (Spec.next ops r done).map (fun nx => (cm', nx)) := by
  rw [calcNext_pregel_eq ops r h, Spec.next]
  cases hs : done.mapM (sentOf r) with
  | error e => exact ⟨cm, hok, rfl⟩
  | ok sent =>
    have hsn : (sent.map (·.1)).Nodup := by rwa [mapM_ok_map _ _ (sentOf_key r) done sent hs]
    have hkeys : akeys (deliver r sent cm) = keys r := List.map_map.trans hok.keys
    -- empty channels, distinct senders: setting the inbox sender by sender just writes it down
    have hvals : ∀ p ∈ deliver r sent cm, p.2.values = inbox r sent p.1 := fun p hp => by
      obtain ⟨q, hq, rfl⟩ := List.mem_map.mp hp
      exact (congrArg (asets _) (hok.empty q hq)).trans (asets_eq_append _ [] (inbox_nodup r sent q.1 hsn))
    refine ⟨(deliver r sent cm).map (fun p => (p.1, (p.2.get ops false).1)),
      ⟨?_, fun p hp => ?_⟩, ?_⟩
    · exact List.map_map.trans hkeys
    · obtain ⟨q, _, rfl⟩ := List.mem_map.mp hp
      exact (get_pregel ops q.2).2
    · dsimp only [Except.map, Except.bind, bind]
      rw [getReady_of_get ops false _ (fun t => collect ops ((inbox r sent t).map (·.2)))
          (fun p hp => by rw [(get_pregel ops p.2).1, hvals p hp]), hkeys, classify]
      generalize List.any _ _ = bad
      generalize List.filterMap _ _ = ready
      cases bad
      · cases alookup END ready <;> rfl
      · rfl

theorem calcNext_pregel {V} (ops : ValOps V) (r : Runner V) (h : r.dag = false) (cm : Chans V)
    (hok : ChansOK r cm) (done : List (Done V)) (hnd : (done.map (·.1)).Nodup) :
    (calcNext ops r cm done).map (·.2) = Spec.next ops r done ∧
    ∀ cm' nx, calcNext ops r cm done = .ok (cm', nx) → ChansOK r cm' := by
  obtain ⟨cm1, hok1, hc⟩ := calcNext_spec ops r h cm hok done hnd
  rw [hc]
  cases Spec.next ops r done with
  | error e => exact ⟨rfl, nofun⟩
  | ok nx => exact ⟨rfl, fun _ _ hc => by cases hc; exact hok1⟩

theorem ready_keys_sublist {V} (f : Key → GetResult V) (ks : List Key) :
    (((ks.map (fun t => (t, f t))).filterMap
        (fun g => match g.2 with | .ready v => some (g.1, v) | _ => none)).map (·.1)).Sublist ks := by
  induction ks with
  | nil => exact .slnil
  | cons k rest ih =>
    rw [List.map_cons, List.filterMap_cons]
    cases f k with
    | ready v => exact ih.cons_cons k
    | notReady => exact ih.cons k
    | mergeErr => exact ih.cons k

theorem next_tasks_keys {V} (ops : ValOps V) (r : Runner V) (done : List (Done V)) (ts : List (Key × V))
    (h : Spec.next ops r done = .ok (.tasks ts)) : (ts.map (·.1)).Sublist (keys r) := by
  revert h
  unfold Spec.next
  cases done.mapM (sentOf r) with
  | error e => exact nofun
  | ok sent =>
    intro h
    dsimp only [bind, Except.bind] at h
    split at h
    · cases h
    · split at h
      · cases h
      · cases h
        exact ready_keys_sublist _ _

theorem loop_pregel {V} (ops : ValOps V) (r : Runner V) (h : r.dag = false) (hk : (keys r).Nodup)
    (sched : Sched V) (hf : sched.Fair) :
    ∀ (fuel : Nat) (cm : Chans V) (tasks : List (Key × V)) (tr : Trace V),
      ChansOK r cm → (tasks.map (·.1)).Nodup →
      loop ops r sched fuel cm tasks tr = Spec.loop ops r sched fuel tasks tr := by
  intro fuel
  induction fuel with
  | zero => intro cm tasks tr _ _; rw [loop, Spec.loop, h]; rfl
  | succ n ih =>
    intro cm tasks tr hok hnd
    rw [loop, Spec.loop]
    cases hr : runTasks r sched tr.length tasks with
    | error e => rfl
    | ok done =>
      cases done with
      | nil => rfl
      | cons d ds =>
        have hdn : ((d :: ds).map (·.1)).Nodup := (runTasks_keys r sched hf _ _ _ hr).nodup_iff.mpr hnd
        obtain ⟨cm', hok', hc⟩ := calcNext_spec ops r h cm hok (d :: ds) hdn
        simp only [hc]
        rcases hn : Spec.next ops r (d :: ds) with e | v | ts
        · rfl
        · rfl
        · exact ih cm' ts _ hok' ((next_tasks_keys ops r _ ts hn).nodup hk)

theorem initChans_ok {V} (r : Runner V) (h : r.dag = false) : ChansOK r (initChans r) := by
  constructor
  · exact DagRun.akeys_initChans r
  · intro p hp
    simp only [initChans, List.mem_append, List.mem_map, List.mem_singleton] at hp
    rcases hp with ⟨n, _, rfl⟩ | rfl <;> simp [Chan.init, h]

theorem run_pregel {V} (ops : ValOps V) (r : Runner V) (h : r.dag = false) (hk : (keys r).Nodup)
    (sched : Sched V) (hf : sched.Fair) (x : V) :
    runS ops r sched x = Spec.run ops r sched x := by
  unfold runS Spec.run
  obtain ⟨cm', hok', hc⟩ := calcNext_spec ops r h (initChans r) (initChans_ok r h) [(START, x)] (by simp)
  rw [hc]
  rcases hn : Spec.next ops r [(START, x)] with e | v | ts
  · rfl
  · rfl
  · simp only [Except.map, Runner.fuel, h, Bool.false_eq_true, ↓reduceIte]
    exact loop_pregel ops r h hk sched hf r.maxSteps cm' ts [] hok'
      ((next_tasks_keys ops r _ ts hn).nodup hk)

end EinoV.Engine
