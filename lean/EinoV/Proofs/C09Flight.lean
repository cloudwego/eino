/-
  C09 — many runs in flight at once: without a process-wide bounded resource on the run path no
  reachable state of any number of runs is stuck, every effective step is progress, and every
  reachable state completes; and (`Hold`) without a lock on the compiled object the runs other than
  a parked one advance whenever they are scheduled.
-/
import EinoV.Model.C09Flight
import EinoV.Proofs.Sched

namespace EinoV.C09.Flight

theorem all_range {n : Nat} {f : Nat → Bool} :
    (List.range n).all f = true ↔ ∀ c, c < n → f c = true := by
  simp [List.all_eq_true, List.mem_range]

theorem get_set (st : St) (h : Nat) (c : Nat) (v : Ph) (hc : c < st.ph.size) (j : Nat) :
    (St.mk h (st.ph.setIfInBounds c v)).get j = if j = c then v else st.get j := by
  unfold St.get
  simp only [Array.getD_eq_getD_getElem?, Array.getElem?_setIfInBounds]
  by_cases e : j = c
  · subst e; simp [hc]
  · have e' : ¬ c = j := fun x => e x.symm
    simp [e, e']

theorem get_init (n c : Nat) : (St.init n).get c = .idle := by
  unfold St.get St.init
  simp only [Array.getD_eq_getD_getElem?, Array.getElem?_replicate]
  split <;> rfl

theorem barrierOpen_iff {cs : Array Call} {st : St} :
    barrierOpen cs st = true ↔ ∀ c k, cs[c]? = some k → k.parent = none → st.get c ≠ .idle := by
  unfold barrierOpen
  rw [all_range]
  constructor
  · intro h c k hk hp
    have := h c (Array.getElem?_eq_some_iff.mp hk).1
    simp only [hk, hp, Option.isSome_none, Bool.false_or, bne_iff_ne, ne_eq] at this
    exact this
  · intro h c _
    cases hk : cs[c]? with
    | none => rfl
    | some k =>
      cases hp : k.parent with
      | none => simpa [hp] using h c k hk hp
      | some p => simp [hp]

theorem childrenDone_iff {cs : Array Call} {st : St} {p : Nat} :
    childrenDone cs st p = true ↔ ∀ c k, cs[c]? = some k → k.parent = some p → st.get c = .done := by
  unfold childrenDone
  rw [all_range]
  constructor
  · intro h c k hk hp
    have := h c (Array.getElem?_eq_some_iff.mp hk).1
    simpa [hk, hp] using this
  · intro h c _
    cases hk : cs[c]? with
    | none => rfl
    | some k =>
      by_cases hp : k.parent = some p
      · simpa [hp] using h c k hk hp
      · simp [hp]

theorem allDone_iff {cs : Array Call} {st : St} :
    allDone cs st = true ↔ ∀ c, c < cs.size → st.get c = .done := by
  unfold allDone
  rw [all_range]
  simp

/-- Invariant of every reachable state, for any number of runs (`inv_exec`).  `dn`: an outer call is
    not back before its inner calls; `progress` uses it to see that the parent of an idle inner call
    is still running.  `up`: an inner call that has started has a started parent and found the barrier
    open; it goes through the same induction, `progress` does not use it. -/
structure Inv (cs : Array Call) (st : St) : Prop where
  sz : st.ph.size = cs.size
  up : ∀ c k p, cs[c]? = some k → k.parent = some p → st.get c ≠ .idle →
    st.get p ≠ .idle ∧ barrierOpen cs st = true
  dn : ∀ c k p, cs[c]? = some k → k.parent = some p → st.get p = .done → st.get c = .done

theorem inv_init (cs : Array Call) : Inv cs (St.init cs.size) where
  sz := by simp [St.init]
  up := by intro c k p _ _ h; exact absurd (get_init _ _) h
  dn := by intro c k p _ _ h; rw [get_init] at h; cases h

/-- what an effective step of call `c` does (`step_cases`): the new phase, with the part of the guards
    `canStart` / `canFinish` that `inv_advance` uses.  The slot of the shared resource is left out, so
    the invariant is proved once for both values of `shared`. -/
inductive Move (cs : Array Call) (st : St) (c : Nat) (k : Call) : Ph → Prop where
  | start : st.get c = .idle →
      (∀ p, k.parent = some p → st.get p = .running ∧ barrierOpen cs st = true) → Move cs st c k .running
  | finish : st.get c = .running → (k.parent = none → childrenDone cs st c = true) → Move cs st c k .done

theorem step_cases (shared : Bool) (cap : Nat) {cs : Array Call} {st : St} (hsz : st.ph.size = cs.size)
    (c : Nat) :
    (step shared cap cs st c = st ∧ enabled shared cap cs st c = false) ∨
    ∃ k v, cs[c]? = some k ∧ Move cs st c k v ∧ (step shared cap cs st c).ph.size = cs.size ∧
      ∀ j, (step shared cap cs st c).get j = if j = c then v else st.get j := by
  unfold step enabled
  cases hk : cs[c]? with
  | none => exact .inl ⟨rfl, rfl⟩
  | some k =>
    have hc : c < st.ph.size := hsz ▸ (Array.getElem?_eq_some_iff.mp hk).1
    dsimp only
    by_cases hs : canStart shared cap cs st c k = true
    · rw [if_pos hs]
      refine .inr ⟨k, .running, rfl, ?_, by simp [hsz], get_set st _ c _ hc⟩
      simp only [canStart, Bool.and_eq_true, beq_iff_eq] at hs
      exact .start hs.1.1 fun p hp => by simpa [hp] using hs.1.2
    · rw [if_neg hs]
      by_cases hf : canFinish cs st c k = true
      · rw [if_pos hf]
        refine .inr ⟨k, .done, rfl, ?_, by simp [hsz], get_set st _ c _ hc⟩
        simp only [canFinish, Bool.and_eq_true, beq_iff_eq] at hf
        exact .finish hf.1 fun hp => (by simpa [hp] using hf.2 : _ ∧ _).2
      · rw [if_neg hf]
        exact .inl ⟨rfl, by simp [hs, hf]⟩

theorem inv_advance {cs : Array Call} (wf : WF cs) {st st' : St} (inv : Inv cs st) {c : Nat} {k : Call}
    (hk : cs[c]? = some k) {v : Ph} (hmove : Move cs st c k v) (hsz : st'.ph.size = cs.size)
    (hget : ∀ j, st'.get j = if j = c then v else st.get j) : Inv cs st' := by
  have fwd : ∀ j, (st.get j ≠ .idle → st'.get j ≠ .idle) ∧ (st.get j = .done → st'.get j = .done) := by
    intro j
    rw [hget]
    split
    · rename_i e
      subst e
      cases hmove with
      | start h _ => exact ⟨fun _ => nofun, fun hd => nomatch h.symm.trans hd⟩
      | finish h _ => exact ⟨fun _ => nofun, fun _ => rfl⟩
    · exact ⟨id, id⟩
  have bar : barrierOpen cs st = true → barrierOpen cs st' = true := by
    simp only [barrierOpen_iff]
    exact fun hb j kj hkj hpj => (fwd j).1 (hb j kj hkj hpj)
  refine ⟨hsz, fun c' k' p hk' hp' hne => ?_, fun c' k' p hk' hp' hpd => ?_⟩
  · -- `c'` had started before (invariant), or starts now (start condition)
    have old : st.get p ≠ .idle ∧ barrierOpen cs st = true := by
      by_cases e : c' = c
      · subst e
        cases hk.symm.trans hk'
        cases hmove with
        | start _ hpar => exact ⟨by rw [(hpar p hp').1]; nofun, (hpar p hp').2⟩
        | finish hrun _ => exact inv.up c' k p hk hp' (by rw [hrun]; nofun)
      · rw [hget, if_neg e] at hne
        exact inv.up c' k' p hk' hp' hne
    exact ⟨(fwd p).1 old.1, bar old.2⟩
  · -- `p` had returned before (invariant), or returns now: it is an outer call, its inner calls have returned
    refine (fwd c').2 ?_
    by_cases e : p = c
    · subst e
      obtain ⟨kp, hkp, hkpn⟩ := wf c' k' p hk' hp'
      cases hk.symm.trans hkp
      rw [hget, if_pos rfl] at hpd
      cases hmove with
      | start _ _ => cases hpd
      | finish _ hch => exact childrenDone_iff.mp (hch hkpn) c' k' hk' hp'
    · rw [hget, if_neg e] at hpd
      exact inv.dn c' k' p hk' hp' hpd

theorem inv_step {cs : Array Call} (wf : WF cs) (shared : Bool) (cap : Nat) {st : St}
    (inv : Inv cs st) (c : Nat) : Inv cs (step shared cap cs st c) := by
  rcases step_cases shared cap inv.sz c with ⟨e, _⟩ | ⟨k, v, hk, hmove, hsz, hget⟩
  · rw [e]; exact inv
  · exact inv_advance wf inv hk hmove hsz hget

theorem inv_exec {cs : Array Call} (wf : WF cs) (shared : Bool) (cap : Nat) (sched : List Nat) :
    ∀ st, Inv cs st → Inv cs (exec shared cap cs sched st) :=
  Sched.inv_exec _ (exec shared cap cs) (fun _ => rfl) (fun _ _ _ => rfl) (Inv cs)
    (fun _ c h => inv_step wf shared cap h c) sched

theorem running_of {p : Ph} (hi : p ≠ .idle) (hd : p ≠ .done) : p = .running := by
  cases p <;> simp_all

theorem progress {cs : Array Call} (wf : WF cs) (cap : Nat) {st : St} (inv : Inv cs st) :
    allDone cs st = true ∨ ∃ c, c < cs.size ∧ enabled false cap cs st c = true := by
  by_cases hD : allDone cs st = true
  · exact .inl hD
  right
  -- (A) some outer call has not started: it can
  by_cases hA : ∃ c k, cs[c]? = some k ∧ k.parent = none ∧ st.get c = .idle
  · obtain ⟨c, k, hk, hp, hi⟩ := hA
    exact ⟨c, (Array.getElem?_eq_some_iff.mp hk).1, by simp [enabled, hk, canStart, hi, hp, needsSlot]⟩
  have hbar : barrierOpen cs st = true :=
    barrierOpen_iff.mpr fun c k hk hp hi => hA ⟨c, k, hk, hp, hi⟩
  -- (B) some inner call has not returned: running, it can return; idle, it can start, since its
  -- parent is an outer call, so has started (A), and is not back before its inner calls (invariant)
  by_cases hB : ∃ c k p, cs[c]? = some k ∧ k.parent = some p ∧ st.get c ≠ .done
  · obtain ⟨c, k, p, hk, hp, hnd⟩ := hB
    refine ⟨c, (Array.getElem?_eq_some_iff.mp hk).1, ?_⟩
    by_cases hi : st.get c = .idle
    · obtain ⟨kp, hkp, hkpn⟩ := wf c k p hk hp
      have hpr : st.get p = .running :=
        running_of (fun h => hA ⟨p, kp, hkp, hkpn, h⟩) fun h => hnd (inv.dn c k p hk hp h)
      simp [enabled, hk, canStart, hi, hp, hpr, hbar, needsSlot]
    · simp [enabled, hk, canFinish, running_of hi hnd, hp, canStart]
  -- (C) the call that has not returned is an outer call: it runs (A), and its inner calls are back (B)
  obtain ⟨c, hc, hnd⟩ : ∃ c, c < cs.size ∧ st.get c ≠ .done := by simpa [allDone_iff] using hD
  have hk : cs[c]? = some cs[c] := by simp [hc]
  refine ⟨c, hc, ?_⟩
  cases hp : (cs[c]).parent with
  | some p => exact absurd ⟨c, _, p, hk, hp, hnd⟩ hB
  | none =>
    have hr : st.get c = .running := running_of (fun h => hA ⟨c, _, hk, hp, h⟩) hnd
    have hch : childrenDone cs st c = true :=
      childrenDone_iff.mpr fun c' k' hk' hp' => Classical.not_not.mp fun h => hB ⟨c', k', c, hk', hp', h⟩
    simp [enabled, hk, canFinish, hr, hp, hbar, hch, canStart]

theorem sum_map_upd (f g : Nat → Nat) (c : Nat) (hg : ∀ j, j ≠ c → g j = f j) :
    ∀ n, c < n → ((List.range n).map g).sum + f c = ((List.range n).map f).sum + g c := by
  intro n
  induction n with
  | zero => intro h; omega
  | succ m ih =>
    intro h
    rw [List.range_succ, List.map_append, List.map_append, List.sum_append, List.sum_append]
    simp only [List.map_cons, List.map_nil, List.sum_cons, List.sum_nil, Nat.add_zero]
    by_cases e : c = m
    · subst e
      have hsame : ((List.range c).map g) = ((List.range c).map f) := by
        apply List.map_congr_left
        intro j hj
        rw [List.mem_range] at hj
        exact hg j (by omega)
      rw [hsame]; omega
    · have := ih (by omega)
      have hm : g m = f m := hg m (fun x => e x.symm)
      omega

theorem sum_map_le (f : Nat → Nat) (b : Nat) (hf : ∀ j, f j ≤ b) :
    ∀ n, ((List.range n).map f).sum ≤ b * n := by
  intro n
  induction n with
  | zero => simp
  | succ m ih =>
    rw [List.range_succ, List.map_append, List.sum_append]
    simp only [List.map_cons, List.map_nil, List.sum_cons, List.sum_nil, Nat.add_zero]
    have := hf m
    rw [Nat.mul_succ]; omega

theorem score_le (p : Ph) : score p ≤ 2 := by cases p <;> simp [score]

theorem work_le (cs : Array Call) (st : St) : work cs st ≤ 2 * cs.size :=
  sum_map_le _ 2 (fun _ => score_le _) _

theorem work_step {cs : Array Call} (shared : Bool) (cap : Nat) {st : St} (hsz : st.ph.size = cs.size)
    (c : Nat) (he : enabled shared cap cs st c = true) :
    work cs (step shared cap cs st c) = work cs st + 1 := by
  rcases step_cases shared cap hsz c with ⟨_, e⟩ | ⟨k, v, hk, hmove, _, hget⟩
  · rw [e] at he; cases he
  · have hsum := sum_map_upd (fun j => score (st.get j)) (fun j => score ((step shared cap cs st c).get j)) c
      (fun j hj => by rw [hget, if_neg hj]) cs.size (Array.getElem?_eq_some_iff.mp hk).1
    have hv : score v = score (st.get c) + 1 := by
      cases hmove with
      | start h _ => rw [h]; rfl
      | finish h _ => rw [h]; rfl
    rw [hget c, if_pos rfl, hv] at hsum
    unfold work
    omega

theorem next_some {shared : Bool} {cap : Nat} {cs : Array Call} {st : St} {c : Nat}
    (h : next shared cap cs st = some c) : c < cs.size ∧ enabled shared cap cs st c = true := by
  unfold next at h
  have h1 := List.find?_some h
  have h2 := List.mem_of_find?_eq_some h
  rw [List.mem_range] at h2
  exact ⟨h2, h1⟩

theorem next_none {shared : Bool} {cap : Nat} {cs : Array Call} {st : St}
    (h : next shared cap cs st = none) : ∀ c, c < cs.size → enabled shared cap cs st c = false := by
  unfold next at h
  rw [List.find?_eq_none] at h
  intro c hc
  have := h c (List.mem_range.mpr hc)
  simpa using this

theorem allDone_of_work {cs : Array Call} {st : St} (h : work cs st = 2 * cs.size) :
    allDone cs st = true := by
  rw [allDone_iff]
  intro c hc
  -- lifting the score of `c` to 2 cannot lift the sum above 2·n
  have h1 := sum_map_upd (fun j => score (st.get j)) (fun j => if j = c then 2 else score (st.get j)) c
    (fun j hj => if_neg hj) cs.size hc
  have h2 := sum_map_le (fun j => if j = c then 2 else score (st.get j)) 2
    (fun j => by split; exact Nat.le_refl _; exact score_le _) cs.size
  rw [if_pos rfl] at h1
  have hs : score (st.get c) = 2 := by have := score_le (st.get c); unfold work at h; omega
  cases hg : st.get c <;> simp [hg, score] at hs ⊢

theorem drain_completes {cs : Array Call} (wf : WF cs) (cap : Nat) :
    ∀ (fuel : Nat) (st : St), Inv cs st → 2 * cs.size ≤ work cs st + fuel →
      allDone cs (drain false cap cs fuel st) = true := by
  intro fuel
  induction fuel with
  | zero =>
    intro st _ hw
    have := work_le cs st
    exact allDone_of_work (by simp [drain]; omega)
  | succ f ih =>
    intro st inv hw
    simp only [drain]
    cases hn : next false cap cs st with
    | none =>
      simp only []
      rcases progress wf cap inv with h | ⟨c, hc, he⟩
      · exact h
      · rw [next_none hn c hc] at he; cases he
    | some c =>
      obtain ⟨_, he⟩ := next_some hn
      apply ih _ (inv_step wf false cap inv c)
      rw [work_step false cap inv.sz c he]
      omega

theorem wf_of_wfb {cs : Array Call} (h : wfb cs = true) : WF cs := by
  intro c k p hk hp
  unfold wfb at h
  rw [all_range] at h
  have := h c (Array.getElem?_eq_some_iff.mp hk).1
  simp only [hk, hp] at this
  cases hkp : cs[p]? with
  | none => simp [hkp] at this
  | some kp =>
    simp only [hkp] at this
    exact ⟨kp, rfl, by simpa using this⟩

end EinoV.C09.Flight

namespace EinoV.C09.Hold

theorem le_upd {f : Nat → Nat} {i v : Nat} (h : f i ≤ v) (j : Nat) : f j ≤ upd f i v j := by
  unfold upd
  split
  · rename_i e; rw [e]; exact h
  · exact Nat.le_refl _

theorem step_nolock (n parked : Nat) (st : St) (i j : Nat) :
    st.pc j ≤ ((step false n parked st i).pc j) ∧
    (j = i → i < n → i ≠ parked → st.pc i < 2 → (step false n parked st i).pc i = st.pc i + 1) := by
  unfold step
  split
  · exact ⟨Nat.le_refl _, fun _ h => by omega⟩
  · split
    · rename_i h0
      exact ⟨le_upd (by omega) j, fun _ _ _ _ => by rw [h0]; exact if_pos rfl⟩
    · rename_i h1
      split
      · rename_i hp
        simp only [Bool.and_eq_true, beq_iff_eq] at hp
        exact ⟨Nat.le_refl _, fun _ _ hne _ => absurd hp.1 hne⟩
      · exact ⟨le_upd (by omega) j, fun _ _ _ _ => by rw [h1]; exact if_pos rfl⟩
    · rename_i h0 h1
      exact ⟨Nat.le_refl _, fun _ _ _ hlt => ((show st.pc i = 0 ∨ st.pc i = 1 by omega).elim h0 h1).elim⟩

theorem exec_mono (n parked : Nat) (l : List Nat) : ∀ (st : St) (j : Nat),
    st.pc j ≤ (exec false n parked l st).pc j := fun st j =>
  Sched.inv_exec _ (exec false n parked) (fun _ => rfl) (fun _ _ _ => rfl) (st.pc j ≤ ·.pc j)
    (fun s i h => Nat.le_trans h (step_nolock n parked s i j).1) l st (Nat.le_refl _)

theorem exec_advance (n parked j : Nat) (hj : j < n) (hne : j ≠ parked) (l : List Nat) :
    ∀ st : St, min 2 (st.pc j + l.count j) ≤ (exec false n parked l st).pc j := by
  intro st
  -- all that matters of the bound `m` is `m ≤ 2` and `m ≤ pc + turns left`
  have h2 := Nat.min_le_left 2 (st.pc j + l.count j)
  have h3 := Nat.min_le_right 2 (st.pc j + l.count j)
  generalize min 2 (st.pc j + l.count j) = m at h2 h3 ⊢
  exact Sched.countdown _ (exec false n parked) (fun _ => rfl) (fun _ _ _ => rfl) j
    (fun k s => m ≤ s.pc j + k)
    (fun s k h => by
      have h1 := step_nolock n parked s j j
      by_cases hlt : s.pc j < 2
      · have := h1.2 rfl hj hne hlt; omega
      · omega)
    (fun s i k _ h => by have := (step_nolock n parked s i j).1; omega) l st h3

theorem count_othersTwice (n parked j : Nat) (hj : j < n) (hne : j ≠ parked) :
    (othersTwice n parked).count j = 2 := by
  unfold othersTwice
  simp only [List.count_append]
  have : ((List.range n).filter (· != parked)).count j = 1 := by
    rw [List.count_filter (by simpa using hne), List.count_range]
    simp [hj]
  omega

end EinoV.C09.Hold
