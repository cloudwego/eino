/-
  C09 — lemmas about failing runs (Model/C09Err.lean): the invariant of the error-object
  machine when every failing run allocates its error (`fresh = true`), and the closed form of
  the specification `descend`.
-/
import EinoV.Model.C09Err
import EinoV.Proofs.Sched

namespace EinoV.C09.Err

def nestingFrom (ls : List Level) (k : Nat) : List String := ((ls.drop 1).take k).map (·.key)

theorem nesting_eq (ls : List Level) (k : Nat) : nesting ls k = nestingFrom ls k := rfl

theorem descend_last (site : Site) (d : Dir) (lv : Level) (l : Nat) (v : String) :
    descend site d [lv] l v =
      if d = .fail l then .err ⟨"NodeRunError", "boom", ["f" ++ toString l]⟩
      else match siteOutcome site d (passes "p" l lv.pre v ++ ".f" ++ toString l) with
        | .ok v3 => .ok (passes "q" l lv.post v3)
        | .err e => .err e := by
  rw [descend]; rfl

theorem descend_step (site : Site) (d : Dir) (lv nx : Level) (rest : List Level) (l : Nat) (v : String) :
    descend site d (lv :: nx :: rest) l v =
      if d = .fail l then .err ⟨"NodeRunError", "boom", ["f" ++ toString l]⟩
      else match wrapNode nx.key (descend site d (nx :: rest) (l + 1)
              (passes "p" l lv.pre v ++ ".f" ++ toString l)) with
        | .ok v3 => .ok (passes "q" l lv.post v3)
        | .err e => .err e := by
  rw [descend]; rfl

theorem descend_fail (site : Site) : ∀ (ls : List Level) (l k : Nat) (v : String), k < ls.length →
    descend site (.fail (l + k)) ls l v
      = .err ⟨"NodeRunError", "boom", nestingFrom ls k ++ ["f" ++ toString (l + k)]⟩ := by
  intro ls
  induction ls with
  | nil => intro l k v h; simp at h
  | cons lv rest ih =>
    intro l k v h
    cases k with
    | zero =>
      cases rest with
      | nil => simp [descend_last, nestingFrom]
      | cons nx rest' => simp [descend_step, nestingFrom]
    | succ k =>
      have hk : k < rest.length := by simpa using h
      cases rest with
      | nil => simp at hk
      | cons nx rest' =>
        have e : l + (k + 1) = (l + 1) + k := by omega
        have hne : (Dir.fail (l + (k + 1)) = Dir.fail l) = False := by simp
        rw [descend_step]
        simp only [hne, if_false]
        rw [e, ih (l + 1) k _ hk]
        simp [wrapNode, nestingFrom]

/-- the `cause` of the `GraphRunError` the innermost graph makes at site `s` (`siteOutcome_site`):
    lets `descend_site` state the error once for the three sites -/
def siteCause : Site → String
  | .loop => "maxsteps"
  | .branch => "branch"
  | .merge => "merge"
  | .none => ""

theorem siteOutcome_site (s : Site) (hs : s ≠ .none) (v : String) :
    siteOutcome s .site v = .err ⟨"GraphRunError", siteCause s, []⟩ := by
  cases s <;> simp_all [siteOutcome, siteCause]

theorem descend_site (site : Site) (hs : site ≠ .none) : ∀ (ls : List Level) (l : Nat) (v : String),
    ls ≠ [] →
    descend site .site ls l v
      = .err ⟨"GraphRunError", siteCause site, nestingFrom ls (ls.length - 1)⟩ := by
  intro ls
  induction ls with
  | nil => intro l v h; exact absurd rfl h
  | cons lv rest ih =>
    intro l v _
    cases rest with
    | nil =>
      simp [descend_last, siteOutcome_site site hs, nestingFrom]
    | cons nx rest' =>
      have hne : (Dir.site = Dir.fail l) = False := by simp
      rw [descend_step]
      simp only [hne, if_false]
      rw [ih (l + 1) _ (by simp)]
      simp [wrapNode, nestingFrom]

theorem descend_ok (site : Site) : ∀ (ls : List Level) (l : Nat) (v : String),
    ∃ w, descend site .ok ls l v = .ok w := by
  intro ls
  induction ls with
  | nil => intro l v; exact ⟨v, rfl⟩
  | cons lv rest ih =>
    intro l v
    have hne : (Dir.ok = Dir.fail l) = False := by simp
    cases rest with
    | nil =>
      rw [descend_last]
      simp only [hne, if_false]
      cases site <;> simp [siteOutcome]
    | cons nx rest' =>
      rw [descend_step]
      simp only [hne, if_false]
      obtain ⟨w, hw⟩ := ih (l + 1) (passes "p" l lv.pre v ++ ".f" ++ toString l)
      rw [hw]
      simp [wrapNode]

/-- invariant of `step true`: a run that has obtained its error owns a cell allocated after the
    caller's, which holds the part of ITS path built so far; no two runs hold the same cell -/
structure Good (h0 : List Cell) (progs : List (Option Prog)) (st : St) : Prop where
  len : h0.length ≤ st.heap.length
  pre : ∀ a, a < h0.length → st.heap[a]? = h0[a]?
  idle : ∀ i, (st.rs i).pc = 0 → (st.rs i).ref = none
  own : ∀ i, (st.rs i).pc ≠ 0 → ∃ p a, progs[i]? = some (some p) ∧ (st.rs i).ref = some a ∧
    h0.length ≤ a ∧ (st.rs i).pc ≤ p.ups.length + 1 ∧
    st.heap[a]? = some (want p ((st.rs i).pc - 1))
  dist : ∀ i j a, (st.rs i).ref = some a → (st.rs j).ref = some a → i = j

theorem good_init (h0 : List Cell) (progs : List (Option Prog)) : Good h0 progs (St.init h0) where
  len := Nat.le_refl _
  pre := fun _ _ => rfl
  idle := fun _ _ => rfl
  own := fun i h => absurd rfl h
  dist := fun i j a h _ => by simp [St.init] at h

theorem want_zero (p : Prog) : want p 0 = ⟨p.tag, p.cause, p.init⟩ := by
  simp [want]

theorem want_succ (p : Prog) (k : Nat) (hk : k < p.ups.length) :
    ({ want p k with path := p.ups.getD (p.ups.length - (k + 1)) "" :: (want p k).path } : Cell)
      = want p (k + 1) := by
  have hm : p.ups.length - (k + 1) < p.ups.length := by omega
  have e : p.ups.length - k = (p.ups.length - (k + 1)) + 1 := by omega
  simp only [want, Cell.mk.injEq, true_and]
  rw [e, List.getD_eq_getElem?_getD, List.getElem?_eq_getElem hm, Option.getD_some,
    ← List.cons_append, List.getElem_cons_drop]

theorem step_alloc {progs : List (Option Prog)} {st : St} {i : Nat} {p : Prog}
    (hp : progs[i]? = some (some p)) (h0 : (st.rs i).pc = 0) :
    step true progs st i =
      { heap := st.heap ++ [⟨p.tag, p.cause, p.init⟩], rs := upd st.rs i ⟨1, some st.heap.length⟩ } := by
  simp [step, hp, h0]

theorem step_up (fresh : Bool) {progs : List (Option Prog)} {st : St} {i a : Nat} {p : Prog} {c : Cell}
    (hp : progs[i]? = some (some p)) (h0 : (st.rs i).pc ≠ 0) (hle : (st.rs i).pc ≤ p.ups.length)
    (hr : (st.rs i).ref = some a) (hc : st.heap[a]? = some c) :
    step fresh progs st i =
      { heap := st.heap.set a { c with path := p.ups.getD (p.ups.length - (st.rs i).pc) "" :: c.path },
        rs := upd st.rs i ⟨(st.rs i).pc + 1, some a⟩ } := by
  simp [step, hp, h0, hle, hr, hc]

theorem step_done (fresh : Bool) {progs : List (Option Prog)} {st : St} {i : Nat} {p : Prog}
    (hp : progs[i]? = some (some p)) (h0 : (st.rs i).pc ≠ 0) (hgt : ¬ (st.rs i).pc ≤ p.ups.length) :
    step fresh progs st i = st := by
  simp [step, hp, h0, hgt]

theorem upd_same (f : Nat → RState) (i : Nat) (v : RState) : upd f i v i = v := by simp [upd]
theorem upd_other (f : Nat → RState) (i : Nat) (v : RState) {j : Nat} (h : j ≠ i) : upd f i v j = f j := by
  simp [upd, h]

theorem dist_upd {rs : Nat → RState} {i a : Nat} (pc : Nat)
    (d : ∀ j k b, (rs j).ref = some b → (rs k).ref = some b → j = k)
    (hno : ∀ m, m ≠ i → (rs m).ref ≠ some a) (j k b : Nat) :
    (upd rs i ⟨pc, some a⟩ j).ref = some b → (upd rs i ⟨pc, some a⟩ k).ref = some b → j = k := by
  unfold upd
  split <;> split
  · exact fun _ _ => ‹j = i›.trans ‹k = i›.symm
  · intro hj hk; cases hj; exact absurd hk (hno k ‹_›)
  · intro hj hk; cases hk; exact absurd hj (hno j ‹_›)
  · exact d j k b

theorem good_move {h0 : List Cell} {progs : List (Option Prog)} {st : St} (g : Good h0 progs st)
    {i a pc : Nat} {p : Prog} {H : List Cell} (hp : progs[i]? = some (some p)) (hpc : pc ≠ 0)
    (hle : pc ≤ p.ups.length + 1) (ha : h0.length ≤ a) (hcell : H[a]? = some (want p (pc - 1)))
    (hlen : st.heap.length ≤ H.length) (frame : ∀ b, b < st.heap.length → b ≠ a → H[b]? = st.heap[b]?)
    (hno : ∀ m, m ≠ i → (st.rs m).ref ≠ some a) : Good h0 progs ⟨H, upd st.rs i ⟨pc, some a⟩⟩ := by
  refine ⟨Nat.le_trans g.len hlen, fun b hb => ?_, fun j hj => ?_, fun j hj => ?_, dist_upd pc g.dist hno⟩
  · rw [frame b (Nat.lt_of_lt_of_le hb g.len) (by omega)]
    exact g.pre b hb
  · by_cases e : j = i
    · subst e; simp only [upd_same] at hj; exact absurd hj hpc
    · simp only [upd_other _ _ _ e] at hj ⊢; exact g.idle j hj
  · by_cases e : j = i
    · subst e; simp only [upd_same]; exact ⟨p, a, hp, rfl, ha, hle, hcell⟩
    · simp only [upd_other _ _ _ e] at hj ⊢
      obtain ⟨q, b, k1, k2, k3, k4, k5⟩ := g.own j hj
      have hb := (List.getElem?_eq_some_iff.mp k5).1
      exact ⟨q, b, k1, k2, k3, k4, (frame b hb fun hab => hno j e (hab ▸ k2)).trans k5⟩

theorem good_step {h0 : List Cell} {progs : List (Option Prog)} {st : St} (g : Good h0 progs st)
    (i : Nat) : Good h0 progs (step true progs st i) := by
  cases hp : progs[i]? with
  | none => simpa [step, hp] using g
  | some op =>
    cases op with
    | none => simpa [step, hp] using g
    | some p =>
      by_cases h0pc : (st.rs i).pc = 0
      · rw [step_alloc hp h0pc]
        -- no run holds the cell that is allocated now
        have fresh_ne : ∀ m, (st.rs m).ref ≠ some st.heap.length := by
          intro m hm
          have hpc : (st.rs m).pc ≠ 0 := fun h => by rw [g.idle m h] at hm; cases hm
          obtain ⟨q, a', _, h2, _, _, h5⟩ := g.own m hpc
          have := (List.getElem?_eq_some_iff.mp h5).1
          rw [h2] at hm; cases hm; omega
        exact good_move g hp Nat.one_ne_zero (by omega) g.len (by simp [want_zero]) (by simp)
          (fun b hb _ => List.getElem?_append_left hb) fun m _ => fresh_ne m
      · obtain ⟨q, a, h1, h2, h3, h4, h5⟩ := g.own i h0pc
        cases hp.symm.trans h1
        by_cases hle : (st.rs i).pc ≤ p.ups.length
        · -- the cell of the run goes from `want p (pc - 1)` to `want p pc`; nobody else's changes
          rw [step_up true hp h0pc hle h2 h5]
          have ha := (List.getElem?_eq_some_iff.mp h5).1
          have hcell := want_succ p ((st.rs i).pc - 1) (by omega)
          rw [show (st.rs i).pc - 1 + 1 = (st.rs i).pc by omega] at hcell
          rw [hcell]
          exact good_move g hp (Nat.succ_ne_zero _) (by omega) h3 (by rw [List.getElem?_set_self ha]; rfl)
            (Nat.le_of_eq List.length_set.symm) (fun b _ hne => List.getElem?_set_ne hne.symm)
            fun m e hm => e (g.dist m i a hm h2)
        · rw [step_done true hp h0pc hle]
          exact g

theorem good_exec {h0 : List Cell} {progs : List (Option Prog)} (sched : List Nat) :
    ∀ st, Good h0 progs st → Good h0 progs (exec true progs sched st) :=
  Sched.inv_exec _ (exec true progs) (fun _ => rfl) (fun _ _ _ => rfl) (Good h0 progs)
    (fun _ i g => good_step g i) sched

theorem pc_le {h0 : List Cell} {progs : List (Option Prog)} {st : St} (g : Good h0 progs st)
    {i : Nat} {p : Prog} (hp : progs[i]? = some (some p)) : (st.rs i).pc ≤ p.ups.length + 1 := by
  by_cases h : (st.rs i).pc = 0
  · omega
  · obtain ⟨q, a, h1, _, _, h4, _⟩ := g.own i h
    cases hp.symm.trans h1
    exact h4

theorem pc_step_self {progs : List (Option Prog)} {st : St} {h0 : List Cell} (g : Good h0 progs st)
    (i : Nat) (p : Prog) (hp : progs[i]? = some (some p)) :
    ((step true progs st i).rs i).pc = min ((st.rs i).pc + 1) (p.ups.length + 1) := by
  by_cases h0pc : (st.rs i).pc = 0
  · rw [step_alloc hp h0pc]
    simp only [upd_same]
    omega
  · obtain ⟨q, a, h1, h2, _, h4, h5⟩ := g.own i h0pc
    by_cases hle : (st.rs i).pc ≤ p.ups.length
    · rw [step_up true hp h0pc hle h2 h5]
      simp only [upd_same]
      omega
    · rw [step_done true hp h0pc hle]
      have := pc_le g hp
      omega

theorem pc_step_other {progs : List (Option Prog)} {st : St} (i j : Nat) (h : j ≠ i) :
    ((step true progs st i).rs j) = st.rs j := by
  unfold step
  split
  · dsimp only
    split
    · exact upd_other _ _ _ h
    · split
      · split
        · split
          · exact upd_other _ _ _ h
          · rfl
        · rfl
      · rfl
  · rfl

theorem clip_add_clip (a n L : Nat) : min (min a L + n) L = min (a + n) L := by
  rw [← Nat.add_min_add_right, Nat.min_assoc, Nat.min_eq_right (Nat.le_add_right L n)]

theorem pc_exec_eq {h0 : List Cell} {progs : List (Option Prog)} (i : Nat) (p : Prog)
    (hp : progs[i]? = some (some p)) (sched : List Nat) :
    ∀ st, Good h0 progs st →
      ((exec true progs sched st).rs i).pc = min ((st.rs i).pc + sched.count i) (p.ups.length + 1) :=
  -- `Sched.proj_exec` with: invariant `Good` (kept by `good_step`), component = the counter of run `i`,
  -- `g n c = min (c + n) (ups.length + 1)` = what `n` turns of run `i` alone do to it.  The three
  -- obligations: the counter is already clipped (`pc_le`), an own turn adds one and clips
  -- (`pc_step_self`, `clip_add_clip`), a turn of another run leaves it (`pc_step_other`).
  Sched.proj_exec (step true progs) (exec true progs) (fun _ => rfl) (fun _ _ _ => rfl) (Good h0 progs)
    (fun _ j g => good_step g j) i (fun st => (st.rs i).pc) (fun n c => min (c + n) (p.ups.length + 1))
    (fun st g => Nat.min_eq_left (pc_le g hp))
    (fun st n g => by rw [pc_step_self g i p hp, clip_add_clip, Nat.add_assoc, Nat.add_comm 1 n])
    (fun st j _ e => by rw [pc_step_other j i (Ne.symm e)]) sched

/-- `pc_exec_eq` with a slack disjunct (which never holds under `Good`: `pc_le`) -/
theorem pc_exec {h0 : List Cell} {progs : List (Option Prog)} (i : Nat) (p : Prog)
    (hp : progs[i]? = some (some p)) (sched : List Nat) :
    ∀ st, Good h0 progs st →
      ((exec true progs sched st).rs i).pc = min ((st.rs i).pc + sched.count i) (p.ups.length + 1)
        ∨ p.ups.length + 1 < (st.rs i).pc :=
  fun st g => .inl (pc_exec_eq i p hp sched st g)

end EinoV.C09.Err
