/-
  C05 / C06 — nested graphs: resume = continue through every nesting level.
  One graph level `r` (interrupt points, graph nodes that may interrupt inside) is compared with its
  reference `r₀` (same topology and handlers, interrupt sets empty, graph nodes replaced by their
  references).  `BodySim` is what is assumed of a node body; `call_sim` concludes "the reference run =
  this call, then the reference run from the checkpoint"; `subBody_sim` turns `call_sim` of a nested runner
  into `BodySim` of the node that contains it, so the statement lifts through every nesting depth.
-/
import EinoV.Model.C05Nested
import EinoV.Proofs.C05
import EinoV.Proofs.C05Engine
import EinoV.Proofs.C05Resume

namespace EinoV.Interrupt
open EinoV.Engine

variable {V S X : Type}

theorem levelLog_append (isFn : Key → Bool) (clog : Key → List (Ev V S X) → Log V) (a b : List (Ev V S X)) :
    levelLog isFn clog (a ++ b) = levelLog isFn clog a ++ levelLog isFn clog b := by
  induction a with
  | nil => rfl
  | cons e rest ih => cases e <;> simp [levelLog, ih]

theorem levelLog_intrEvs (isFn : Key → Bool) (clog : Key → List (Ev V S X) → Log V) (isSub hasID : Bool)
    (info : Info S X) : levelLog isFn clog (intrEvs (V := V) isSub hasID info) = [] := by
  unfold intrEvs; split <;> simp [levelLog]

theorem levelLog_taskEvs (isFn : Key → Bool) (clog : Key → List (Ev V S X) → Log V)
    (hnil : ∀ k, clog k [] = []) (t : Task V X) (bo : BodyOut V S X) :
    levelLog isFn clog (taskEvs t bo) = (if isFn t.key then [([t.key], t.input)] else []) ++ clog t.key bo.evs := by
  unfold taskEvs
  rw [levelLog_append]
  generalize bo.res = res
  cases he : bo.evs with
  | nil => cases res <;> simp [levelLog, hnil]
  | cons e rest => cases res <;> simp [levelLog]

def doneList : List (Key × BodyRes V S X) → List (Done V)
  | [] => []
  | (k, .done o _) :: rest => (k, o) :: doneList rest
  | _ :: rest => doneList rest

def subList : List (Key × BodyRes V S X) → List (Key × X)
  | [] => []
  | (k, .subInt p _) :: rest => (k, p) :: subList rest
  | _ :: rest => subList rest

def DoneOrSub (l : List (Key × BodyRes V S X)) : Prop :=
  ∀ x ∈ l, (∃ o s, x.2 = .done o s) ∨ (∃ p s, x.2 = .subInt p s)

def AllDone (l : List (Key × BodyRes V S X)) : Prop := ∀ x ∈ l, ∃ o s, x.2 = .done o s

theorem doneList_eq_filterMap (l : List (Key × BodyRes V S X)) :
    doneList l = l.filterMap (fun x => match x.2 with | .done o _ => some (x.1, o) | _ => none) := by
  induction l with
  | nil => rfl
  | cons x rest ih => obtain ⟨k, res⟩ := x; cases res <;> simp only [doneList, List.filterMap_cons, ih]

theorem subList_eq_filterMap (l : List (Key × BodyRes V S X)) :
    subList l = l.filterMap (fun x => match x.2 with | .subInt p _ => some (x.1, p) | _ => none) := by
  induction l with
  | nil => rfl
  | cons x rest ih => obtain ⟨k, res⟩ := x; cases res <;> simp only [subList, List.filterMap_cons, ih]

theorem doneList_perm {l l' : List (Key × BodyRes V S X)} (h : l.Perm l') : (doneList l).Perm (doneList l') := by
  rw [doneList_eq_filterMap, doneList_eq_filterMap]; exact h.filterMap _

theorem subList_perm {l l' : List (Key × BodyRes V S X)} (h : l.Perm l') : (subList l).Perm (subList l') := by
  rw [subList_eq_filterMap, subList_eq_filterMap]; exact h.filterMap _

theorem postDones_fst_keys (r : IRunner V S X) : ∀ (l : List (Done V)) (st : S),
    (postDones r l st).1.map (·.1) = l.map (·.1) := by
  intro l
  induction l with
  | nil => intro st; rfl
  | cons d rest ih =>
    intro st
    simp only [postDones]
    split <;> simp [ih]

theorem postDones_append (r : IRunner V S X) : ∀ (a b : List (Done V)) (st : S),
    postDones r (a ++ b) st =
      ((postDones r a st).1 ++ (postDones r b (postDones r a st).2).1, (postDones r b (postDones r a st).2).2) := by
  intro a
  induction a with
  | nil => intro b st; rfl
  | cons d rest ih =>
    intro b st
    simp only [List.cons_append, postDones]
    split <;> simp [ih]

@[simp] theorem TaskOut.isSR_done (o : V) : (TaskOut.done o : TaskOut V X).isSR = false := rfl
@[simp] theorem TaskOut.isSR_subInt (p : X) : (TaskOut.subInt p : TaskOut V X).isSR = true := rfl

/-- the collected batch, seen through the completed pairs: post-handlers touch only completed tasks -/
theorem runPosts_view (r : IRunner V S X) : ∀ (l : List (Key × BodyRes V S X)) (st : S), DoneOrSub l →
    firstFail (runPosts r l st).1 = none ∧
    doneOf (runPosts r l st).1 = (postDones r (doneList l) st).1 ∧
    (runPosts r l st).2 = (postDones r (doneList l) st).2 ∧
    subIntOf (runPosts r l st).1 = subList l ∧
    rerunOf (runPosts r l st).1 = [] ∧
    ((runPosts r l st).1.filter (fun o => o.2.isSR)).map (·.1) = (subList l).map (·.1) ∧
    (runPosts r l st).1.isEmpty = l.isEmpty := by
  intro l
  induction l with
  | nil => intro st _; simp [runPosts, firstFail, doneOf, postDones, doneList, subIntOf, subList, rerunOf]
  | cons x rest ih =>
    intro st h
    have hx := h x (by simp)
    have hr : DoneOrSub rest := fun y hy => h y (by simp [hy])
    obtain ⟨k, res⟩ := x
    rcases hx with ⟨o, s, hres⟩ | ⟨p, s, hres⟩
    · simp only at hres
      subst hres
      simp only [runPosts, postOne, doneList, postDones, subList]
      cases hpost : (r.inode? k).bind (·.post) with
      | none =>
        obtain ⟨h1, h2, h3, h4, h5, h6, _⟩ := ih st hr
        simp [firstFail, doneOf, subIntOf, rerunOf, h1, h2, h3, h4, h5, h6]
      | some hh =>
        obtain ⟨h1, h2, h3, h4, h5, h6, _⟩ := ih (hh o st).2 hr
        simp [firstFail, doneOf, subIntOf, rerunOf, h1, h2, h3, h4, h5, h6]
    · simp only at hres
      subst hres
      obtain ⟨h1, h2, h3, h4, h5, h6, _⟩ := ih st hr
      simp [runPosts, postOne, doneList, subList, firstFail, doneOf, subIntOf, rerunOf, List.filter_cons, h1, h2, h3, h4, h5, h6]

/-- a collected batch in which a graph node interrupted inside and nobody failed or asked for a rerun:
    the completed tasks are folded into the channels without `get`, the interrupted ones are to be restored -/
theorem coreOut_sub (ops : ValOps V) (r : IRunner V S X) (sched : ISched V S X) (cm : Chans V)
    (bres : List (Key × BodyRes V S X)) (st2 : S) (h : DoneOrSub (sched bres)) (hne : subList (sched bres) ≠ []) :
    coreOut ops r sched cm bres st2 =
      match foldFin r.base cm (postDones r (doneList (sched bres)) st2).1 with
      | .error e => .fail e
      | .ok cm2 => .sr cm2 ((subList (sched bres)).map (·.1)) (subList (sched bres)) []
                     (postDones r (doneList (sched bres)) st2).1 (postDones r (doneList (sched bres)) st2).2 := by
  obtain ⟨h1, h2, h3, h4, h5, h6, -⟩ := runPosts_view r (sched bres) st2 h
  have hc : (!(subList (sched bres)).isEmpty) = true := by
    cases hh : subList (sched bres) with
    | nil => exact absurd hh hne
    | cons a b => rfl
  unfold coreOut foldFin
  simp only [h1, h2, h3, h4, h5, h6, hc, List.isEmpty_nil, Bool.not_true, Bool.or_false, if_true]
  cases resolve r.base cm (postDones r (doneList (sched bres)) st2).1 <;> rfl

theorem postDones_shell {r r₀ : IRunner V S X} (h : SameShell r r₀) : ∀ (l : List (Done V)) (st : S),
    postDones r₀ l st = postDones r l st := by
  intro l
  induction l with
  | nil => intro st; rfl
  | cons d rest ih => intro st; simp only [postDones, h.post, ih]

theorem nextOf_shell {r r₀ : IRunner V S X} (h : SameShell r r₀) (ops : ValOps V) (cm : Chans V)
    (l : List (Done V)) (st : S) : nextOf ops r₀ cm l st = nextOf ops r cm l st := by
  simp only [nextOf, postDones_shell h, h.base]

theorem runPres_skip (r : IRunner V S X) : ∀ (ts : List (Task V X)) (st : S), (∀ t ∈ ts, t.skipPre = true) →
    runPres r ts st = (ts, st) := by
  intro ts
  induction ts with
  | nil => intro st _; rfl
  | cons t rest ih =>
    intro st h
    have ht := h t (by simp)
    have hp : preOne r t st = (t, st) := by
      rw [preOne_eq_bind]
      split
      · rfl
      · simp [ht]
    simp only [runPres, hp, ih st (fun t' h' => h t' (by simp [h']))]

def Resumes (r₀ : IRunner V S X) (k : Key) (p : X) (out : V) : Prop :=
  ∀ v' s' b, (bodyOne r₀ { key := k, input := v', skipPre := b, sub := some p } s').res = .done out s'

/-- **body-level simulation.**  Where the reference body completes, the body either completes with the
    same output and state, or reports a nested interrupt (leaving the state alone) whose payload is
    acceptable and makes the reference body, resumed from it, complete with that output; the
    executions logged by the reference are those logged before the interrupt plus those logged by
    the resumed reference, and the work left for the resumed reference body (`wt`, any measure) is
    strictly less than the work of the reference body. -/
def BodySim (XOK : X → Prop) (clog : List (Ev V S X) → Log V) (wt : V → S → Option X → Nat)
    (body body₀ : V → S → Option X → BodyOut V S X) : Prop :=
  ∀ v s x, (∀ p, x = some p → XOK p) → ∀ out s₁, (body₀ v s x).res = .done out s₁ →
    ((body v s x).res = .done out s₁ ∧ (clog (body₀ v s x).evs).Perm (clog (body v s x).evs))
    ∨ (s₁ = s ∧ ∃ p, (body v s x).res = .subInt p s ∧ XOK p ∧
        ∀ v' s', (body₀ v' s' (some p)).res = .done out s' ∧ wt v' s' (some p) < wt v s x ∧
          (clog (body₀ v s x).evs).Perm (clog (body v s x).evs ++ clog (body₀ v' s' (some p)).evs))

structure LevelRel (isFn : Key → Bool) (XOK : Key → X → Prop) (clog : Key → List (Ev V S X) → Log V)
    (wt : Key → V → S → Option X → Nat) (r r₀ : IRunner V S X) : Prop where
  shell : SameShell r r₀
  nb : r₀.intBefore = []
  na : r₀.intAfter = []
  clogNil : ∀ k, clog k [] = []
  nodes : ∀ k, (r.inode? k = none ∧ r₀.inode? k = none) ∨
     ∃ n n₀, r.inode? k = some n ∧ r₀.inode? k = some n₀ ∧ BodySim (XOK k) (clog k) (wt k) n.body n₀.body
  fnNoSR : ∀ k n, isFn k = true → r.inode? k = some n → ∀ v s x, (n.body v s x).res.isSR = false

inductive All₂ {α β : Type} (R : α → β → Prop) : List α → List β → Prop where
  | nil : All₂ R [] []
  | cons {a b l l'} : R a b → All₂ R l l' → All₂ R (a :: l) (b :: l')

theorem All₂.mem_left {α β : Type} {R : α → β → Prop} {l : List α} {l' : List β} (h : All₂ R l l') {a : α}
    (ha : a ∈ l) : ∃ b ∈ l', R a b := by
  induction h with
  | nil => cases ha
  | cons hab _ ih =>
    rcases List.mem_cons.1 ha with rfl | ha
    · exact ⟨_, List.mem_cons_self .., hab⟩
    · obtain ⟨b, hb, hr⟩ := ih ha
      exact ⟨b, List.mem_cons_of_mem _ hb, hr⟩

theorem All₂.map_eq {α β γ : Type} {R : α → β → Prop} {f : α → γ} {g : β → γ} {l : List α} {l' : List β}
    (h : All₂ R l l') (hfg : ∀ a ∈ l, ∀ b, R a b → f a = g b) : l.map f = l'.map g := by
  induction h with
  | nil => rfl
  | cons hab _ ih =>
    rw [List.map_cons, List.map_cons, hfg _ (List.mem_cons_self ..) _ hab,
      ih fun a ha => hfg a (List.mem_cons_of_mem _ ha)]

/-- a batch entry of the run against the same entry of the reference: the reference's task completed;
    the run's completed alike, or it is a graph node that interrupted inside with an acceptable payload
    from which the reference body completes alike -/
def EntryRel (isFn : Key → Bool) (XOK : Key → X → Prop) (r₀ : IRunner V S X) (a a₀ : Key × BodyRes V S X) : Prop :=
  a.1 = a₀.1 ∧ ∃ out s, a₀.2 = .done out s ∧
    (a.2 = .done out s ∨ ∃ p, a.2 = .subInt p s ∧ isFn a.1 = false ∧ XOK a.1 p ∧ Resumes r₀ a.1 p out)

/-- what the reference logs when the interrupted graph nodes are resumed from their payloads -/
def subsLog (r₀ : IRunner V S X) (clog : Key → List (Ev V S X) → Log V) (z : V) (s : S) (subs : List (Key × X)) : Log V :=
  subs.flatMap (fun kp => clog kp.1 (bodyOne r₀ { key := kp.1, input := z, skipPre := true, sub := some kp.2 } s).evs)

def tasksWt (wt : Key → V → S → Option X → Nat) (r₀ : IRunner V S X) : List (Task V X) → S → Nat
  | [], _ => 0
  | t :: rest, st => wt t.key t.input st t.sub + tasksWt wt r₀ rest (bodyOne r₀ t st).res.st

def subsWt (wt : Key → V → S → Option X → Nat) (z : V) (s : S) (subs : List (Key × X)) : Nat :=
  (subs.map (fun kp => wt kp.1 z s (some kp.2))).sum

theorem subList_cons (x : Key × BodyRes V S X) (l : List (Key × BodyRes V S X)) :
    subList (x :: l) = subList [x] ++ subList l := by
  obtain ⟨k, res⟩ := x
  cases res <;> rfl

theorem subsLog_append (r₀ : IRunner V S X) (clog : Key → List (Ev V S X) → Log V) (z : V) (s : S) (a b : List (Key × X)) :
    subsLog r₀ clog z s (a ++ b) = subsLog r₀ clog z s a ++ subsLog r₀ clog z s b := by
  simp [subsLog]

theorem subsWt_append (wt : Key → V → S → Option X → Nat) (z : V) (s : S) (a b : List (Key × X)) :
    subsWt wt z s (a ++ b) = subsWt wt z s a + subsWt wt z s b := by
  simp [subsWt]

section bodies
variable {isFn : Key → Bool} {XOK : Key → X → Prop} {clog : Key → List (Ev V S X) → Log V}
  {wt : Key → V → S → Option X → Nat} {r r₀ : IRunner V S X}

/-- `runBodies_sim` for the batch of one task: the case analysis of `BodySim` is made here, stated in the
    terms of the batch (`subList` of the one entry is empty or the payload), so that the induction only composes -/
theorem bodyOne_sim (h : LevelRel isFn XOK clog wt r r₀) (t : Task V X) (st : S)
    (hx : ∀ p, t.sub = some p → XOK t.key p) (out : V) (s₁ : S) (h0 : (bodyOne r₀ t st).res = .done out s₁) :
    (bodyOne r t st).res.st = s₁ ∧
    EntryRel isFn XOK r₀ (t.key, (bodyOne r t st).res) (t.key, (bodyOne r₀ t st).res) ∧
    ∀ z s, (clog t.key (bodyOne r₀ t st).evs).Perm
        (clog t.key (bodyOne r t st).evs ++ subsLog r₀ clog z s (subList [(t.key, (bodyOne r t st).res)])) ∧
      subsWt wt z s (subList [(t.key, (bodyOne r t st).res)]) + (subList [(t.key, (bodyOne r t st).res)]).length ≤
        wt t.key t.input st t.sub := by
  rcases h.nodes t.key with ⟨hn, hn0⟩ | ⟨n, n₀, hn, hn0, hsim⟩
  · simp only [bodyOne, hn, hn0] at h0 ⊢
    exact ⟨by cases h0; rfl, ⟨rfl, out, s₁, h0, Or.inl h0⟩, fun z s => by simp [subList, subsLog, subsWt]⟩
  · simp only [bodyOne, hn, hn0] at h0 ⊢
    rcases hsim t.input st t.sub hx out s₁ h0 with ⟨h1, hl⟩ | ⟨rfl, p, hp, hok, hres⟩
    · rw [h1]
      exact ⟨rfl, ⟨rfl, out, s₁, h0, Or.inl rfl⟩, fun z s => by simpa [subList, subsLog, subsWt] using hl⟩
    · rw [hp]
      refine ⟨rfl, ⟨rfl, out, s₁, h0, Or.inr ⟨p, rfl, Bool.eq_false_iff.2 fun hfn => ?_, hok, fun v' s' b => ?_⟩⟩,
        fun z s => ?_⟩
      · have := h.fnNoSR t.key n hfn hn t.input s₁ t.sub
        rw [hp] at this
        cases this
      · simp only [bodyOne, hn0]
        exact (hres v' s').1
      · simpa [subList, subsLog, subsWt, bodyOne, hn0] using ⟨(hres z s).2.2, (hres z s).2.1⟩

theorem runBodies_sim (h : LevelRel isFn XOK clog wt r r₀) :
    ∀ (ts : List (Task V X)) (st : S), (∀ t ∈ ts, ∀ p, t.sub = some p → XOK t.key p) →
      AllDone (runBodies r₀ ts st).1 →
      (runBodies r ts st).2.1 = (runBodies r₀ ts st).2.1 ∧
      All₂ (EntryRel isFn XOK r₀) (runBodies r ts st).1 (runBodies r₀ ts st).1 ∧
      (∀ z s, (levelLog isFn clog (runBodies r₀ ts st).2.2).Perm
        (levelLog isFn clog (runBodies r ts st).2.2 ++ subsLog r₀ clog z s (subList (runBodies r ts st).1))) ∧
      ∀ z s, subsWt wt z s (subList (runBodies r ts st).1) + (subList (runBodies r ts st).1).length ≤ tasksWt wt r₀ ts st := by
  intro ts
  induction ts with
  | nil =>
    intro st _ _
    exact ⟨rfl, All₂.nil, fun z s => by simp [runBodies, levelLog, subList, subsLog],
      fun z s => by simp [runBodies, subList, subsWt, tasksWt]⟩
  | cons t rest ih =>
    intro st hx hall
    simp only [runBodies, tasksWt] at hall ⊢
    obtain ⟨out, s₁, h0⟩ := hall (t.key, (bodyOne r₀ t st).res) (by simp)
    obtain ⟨hst, hent, hb⟩ := bodyOne_sim h t st (hx t (by simp)) out s₁ h0
    have hst0 : (bodyOne r₀ t st).res.st = s₁ := congrArg BodyRes.st h0
    rw [hst0] at hall ⊢
    rw [hst]
    obtain ⟨i1, i2, i3, i4⟩ := ih s₁ (fun t' h' => hx t' (by simp [h'])) (fun y hy => hall y (by simp [hy]))
    refine ⟨i1, All₂.cons hent i2, fun z s => ?_, fun z s => ?_⟩
    · rw [subList_cons, subsLog_append]
      simp only [levelLog_append, levelLog_taskEvs isFn clog h.clogNil, List.append_assoc]
      refine (((hb z s).1.append (i3 z s)).trans ?_).append_left _
      simp only [List.append_assoc]
      exact (List.perm_append_comm_assoc _ _ _).append_left _
    · rw [subList_cons, subsWt_append, List.length_append]
      have := (hb z s).2
      have := i4 z s
      omega

end bodies

/-- the invariant of the channel map the run relies on: in all-predecessor mode every channel has a
    predecessor; nothing in any-predecessor mode -/
def ModeInv (base : Runner V) (cm : Chans V) : Prop := base.dag = true → AllP HasPred cm

theorem quiet_mode (ops : ValOps V) (base : Runner V) : QuietUnder ops base (ModeInv base) := by
  intro cm done cm' ts hinv h
  cases hd : base.dag with
  | false =>
    refine ⟨fun h' => ?_, pregel_quiet ops base hd cm done cm' ts h⟩
    rw [hd] at h'
    exact absurd h' (by decide)
  | true =>
    obtain ⟨h1, h2⟩ := dag_quiet ops base hd cm done cm' ts (hinv hd) h
    exact ⟨fun _ => h1, h2⟩

theorem foldFin_ok {base : Runner V} {cm cm2 : Chans V} {d : List (Done V)} (h : foldFin base cm d = .ok cm2) :
    ∃ res, resolve base cm d = .ok res ∧ cm2 = updateDeps base (updateValues base res.cm res.writes) res.deps := by
  unfold foldFin at h
  split at h
  · cases h
  · cases h
    exact ⟨_, ‹_›, rfl⟩

theorem foldFin_keys (base : Runner V) (cm : Chans V) (d : List (Done V)) (cm2 : Chans V)
    (h : foldFin base cm d = .ok cm2) : akeys cm2 = akeys cm := by
  obtain ⟨res, hres, rfl⟩ := foldFin_ok h
  rw [updateDeps_keys, updateValues_keys, resolve_keys base cm d res hres]

theorem foldFin_inv (base : Runner V) (cm : Chans V) (d : List (Done V)) (cm2 : Chans V)
    (hinv : ModeInv base cm) (h : foldFin base cm d = .ok cm2) : ModeInv base cm2 := by
  intro hd
  obtain ⟨res, hres, rfl⟩ := foldFin_ok h
  exact (((foldlM_resolve_keeps hasPred_ops base d _ res hres).trans (updateValues_keeps hasPred_ops base _ _)).trans
    (updateDeps_keeps hasPred_ops base _ _)).2 (hinv hd)

theorem calcNext_tasks_nodup (ops : ValOps V) (base : Runner V) (cm : Chans V) (d : List (Done V))
    (cm' : Chans V) (ts : List (Key × V)) (hnd : (akeys cm).Nodup)
    (h : calcNext ops base cm d = .ok (cm', .tasks ts)) : (ts.map (·.1)).Nodup := by
  obtain ⟨res, hres, -, hts⟩ := calcNext_chans h
  rw [hts ts rfl]
  refine (getReady_keys_sublist ops base.dag _).nodup ?_
  rw [updateDeps_keys, updateValues_keys, resolve_keys base cm d res hres]
  exact hnd

/-! ### the work of the reference run (a measure that decreases from call to call) -/

def stepWt (wt : Key → V → S → Option X → Nat) (r₀ : IRunner V S X) (ls : LoopSt V S X) : Nat :=
  1 + tasksWt wt r₀ (runPres r₀ ls.tasks ls.st).1 (runPres r₀ ls.tasks ls.st).2

def loopWt (ops : ValOps V) (wt : Key → V → S → Option X → Nat) (r₀ : IRunner V S X) (sched : ISched V S X) :
    Nat → LoopSt V S X → Nat
  | 0, _ => 0
  | n + 1, ls =>
    stepWt wt r₀ ls + (match (stepI ops r₀ sched ls).2 with
      | .next ls' => loopWt ops wt r₀ sched n ls'
      | _ => 0)

/-- a call of the reference: one more for a call on a fresh input (the tasks computed from START may
    be an interrupt point of their own) -/
def callWt (ops : ValOps V) (cfg : Cfg) (wt : Key → V → S → Option X → Nat) (r₀ : IRunner V S X) (sched : ISched V S X) :
    V ⊕ Checkpoint V S X → Nat
  | .inr cp => loopWt ops wt r₀ sched r₀.base.fuel (restore cfg r₀ cp)
  | .inl x =>
    1 + (match calcNext ops r₀.base (initChans r₀.base) [(START, x)] with
      | .ok (cm, .tasks ts) =>
        loopWt ops wt r₀ sched r₀.base.fuel { cm := cm, tasks := mkTasks [] ts, st := r₀.initState, stale := [] }
      | _ => 0)

theorem subsWt_perm (wt : Key → V → S → Option X → Nat) (z : V) (s : S) {a b : List (Key × X)} (h : a.Perm b) :
    subsWt wt z s a = subsWt wt z s b := by
  unfold subsWt
  exact (h.map _).sum_nat

/-- the tasks `restoreTasks` builds for interrupted graph nodes: zero input, pre-handler skipped,
    nested checkpoint handed down -/
def resTasks (z : V) (subs : List (Key × X)) : List (Task V X) :=
  subs.map (fun kp => { key := kp.1, input := z, skipPre := true, sub := some kp.2 })

theorem runPres_resTasks (r : IRunner V S X) (z : V) (subs : List (Key × X)) (st : S) :
    runPres r (resTasks z subs) st = (resTasks z subs, st) :=
  runPres_skip r _ _ fun t ht => by obtain ⟨kp, _, rfl⟩ := List.mem_map.1 ht; rfl

/-- the reference on the restored graph nodes: every body completes and hands the state through, so
    all of them run in the state the first one is given -/
theorem runBodies_resumed (isFn : Key → Bool) (clog : Key → List (Ev V S X) → Log V) (wt : Key → V → S → Option X → Nat)
    (r₀ : IRunner V S X) (hnil : ∀ k, clog k [] = []) (z : V) : ∀ (subs : List (Key × X)) (st : S),
    (∀ kp ∈ subs, ∃ out, Resumes r₀ kp.1 kp.2 out) → (∀ kp ∈ subs, isFn kp.1 = false) →
    (runBodies r₀ (resTasks z subs) st).2.1 = st ∧ AllDone (runBodies r₀ (resTasks z subs) st).1 ∧
    levelLog isFn clog (runBodies r₀ (resTasks z subs) st).2.2 = subsLog r₀ clog z st subs ∧
    (runBodies r₀ (resTasks z subs) st).1 = (resTasks z subs).map (fun t => (t.key, (bodyOne r₀ t st).res)) ∧
    tasksWt wt r₀ (resTasks z subs) st = subsWt wt z st subs := by
  intro subs
  induction subs with
  | nil => intro st _ _; exact ⟨rfl, fun x hx => by simp [resTasks, runBodies] at hx, rfl, rfl, rfl⟩
  | cons kp rest ih =>
    intro st hres hfn
    obtain ⟨out, hout⟩ := hres kp (by simp)
    have hb := hout z st true
    obtain ⟨i1, i2, i3, i4, i5⟩ := ih st (fun q hq => hres q (by simp [hq])) (fun q hq => hfn q (by simp [hq]))
    have hst : (bodyOne r₀ { key := kp.1, input := z, skipPre := true, sub := some kp.2 } st).res.st = st := by
      rw [hb]; rfl
    simp only [resTasks, List.map_cons, runBodies, tasksWt, hst] at i1 i2 i3 i4 i5 ⊢
    refine ⟨i1, ?_, ?_, by rw [i4], by rw [i5]; rfl⟩
    · intro x hx
      simp only [List.mem_cons] at hx
      rcases hx with rfl | hx
      · exact ⟨out, st, hb⟩
      · exact i2 x hx
    · rw [levelLog_append, levelLog_taskEvs isFn clog hnil, i3]
      simp [hfn kp (by simp), subsLog]

theorem mem_subList {l : List (Key × BodyRes V S X)} {kp : Key × X} :
    kp ∈ subList l ↔ ∃ s, (kp.1, BodyRes.subInt kp.2 s) ∈ l := by
  rw [subList_eq_filterMap, List.mem_filterMap]
  constructor
  · rintro ⟨⟨k, res⟩, hm, h⟩
    cases res <;> cases h
    exact ⟨_, hm⟩
  · rintro ⟨s, hm⟩
    exact ⟨_, hm, rfl⟩

section entries
variable {isFn : Key → Bool} {XOK : Key → X → Prop} {r₀ : IRunner V S X} {L L₀ : List (Key × BodyRes V S X)}

theorem entries_doneOrSub (h : All₂ (EntryRel isFn XOK r₀) L L₀) : DoneOrSub L := fun x hx => by
  obtain ⟨_, _, _, out, s, _, hd | ⟨p, hp, _⟩⟩ := h.mem_left hx
  · exact Or.inl ⟨out, s, hd⟩
  · exact Or.inr ⟨p, s, hp⟩

theorem entries_keys (h : All₂ (EntryRel isFn XOK r₀) L L₀) : L.map (·.1) = L₀.map (·.1) :=
  h.map_eq fun _ _ _ hab => hab.1

theorem entries_eq_of_noSub (h : All₂ (EntryRel isFn XOK r₀) L L₀) (hs : subList L = []) : L = L₀ := by
  have := h.map_eq (f := id) (g := id) fun a ha b hab => by
    obtain ⟨hk, out, s, hb, hd | ⟨p, hp, _⟩⟩ := hab
    · exact Prod.ext hk (hd.trans hb.symm)
    · have hm : (a.1, p) ∈ subList L := mem_subList.2 ⟨s, hp ▸ ha⟩
      rw [hs] at hm
      cases hm
  simpa using this

theorem entries_subs (h : All₂ (EntryRel isFn XOK r₀) L L₀) :
    ∀ kp ∈ subList L, isFn kp.1 = false ∧ XOK kp.1 kp.2 ∧ ∃ out, Resumes r₀ kp.1 kp.2 out := by
  intro kp hkp
  obtain ⟨s, hm⟩ := mem_subList.1 hkp
  obtain ⟨_, _, _, out, s', _, hd | ⟨p', hp, hfn, hok, hres⟩⟩ := h.mem_left hm
  · cases hd
  · cases hp
    exact ⟨hfn, hok, out, hres⟩

theorem entries_split (h : All₂ (EntryRel isFn XOK r₀) L L₀) (z : V) (st : S) :
    (doneList L₀).Perm (doneList L ++
      doneList ((resTasks z (subList L)).map fun t => (t.key, (bodyOne r₀ t st).res))) := by
  induction h with
  | nil => simp [doneList, subList, resTasks]
  | @cons a b l l' hab _ ih =>
    obtain ⟨k, res⟩ := a
    obtain ⟨k', res'⟩ := b
    obtain ⟨hk, out, s, hb, hd | ⟨p, hp, _, _, hres⟩⟩ := hab <;> simp only at hk hb <;> subst hk hb
    · simp only at hd
      subst hd
      simp only [doneList, subList, List.cons_append]
      exact ih.cons _
    · simp only at hp
      subst hp
      simp only [doneList, subList, resTasks, List.map_cons, hres z st true]
      exact (ih.cons _).trans List.perm_middle.symm

end entries

theorem subList_keys_sublist : ∀ (l : List (Key × BodyRes V S X)), ((subList l).map (·.1)).Sublist (l.map (·.1)) := by
  intro l
  induction l with
  | nil => simp [subList]
  | cons x rest ih =>
    obtain ⟨k, res⟩ := x
    cases res <;> simp only [subList, List.map_cons] <;> first | exact ih.cons_cons _ | exact ih.cons _

theorem runBodies_keys (r : IRunner V S X) : ∀ (ts : List (Task V X)) (st : S),
    (runBodies r ts st).1.map (·.1) = ts.map (·.key) := by
  intro ts
  induction ts with
  | nil => intro st; rfl
  | cons t rest ih => intro st; simp [runBodies, ih]

theorem restoreTasks_subs (z : V) (subs : List (Key × X)) (hnd : (subs.map (·.1)).Nodup) :
    restoreTasks ((subs.map (·.1)).map (fun k => (k, z))) (subs.map (·.1)) subs = resTasks z subs := by
  simp only [restoreTasks, resTasks, List.map_map]
  apply List.map_congr_left
  intro kp hkp
  have h1 : (subs.map (·.1)).contains kp.1 = true := by
    simp only [List.contains_eq_mem, List.mem_map, decide_eq_true_eq]
    exact ⟨kp, hkp, rfl⟩
  have h2 := alookup_of_mem_nodup subs hnd kp.1 kp.2 hkp
  simp only [Function.comp, h1, h2]

theorem restore_subs (cfg : Cfg) (hcfg : cfg.fwdStale = false) (r : IRunner V S X)
    (hnd : (akeys (initChans r.base)).Nodup) (cm : Chans V) (hk : akeys cm = akeys (initChans r.base)) (z : V)
    (subs : List (Key × X)) (hnds : (subs.map (·.1)).Nodup) (st : S) :
    restore cfg r { chans := cm, inputs := (subs.map (·.1)).map (fun k => (k, z)), skipPre := subs.map (·.1),
                    state := st, subs := subs } =
      { cm := cm, tasks := resTasks z subs, st := st, stale := [] } := by
  simp only [restore, hcfg, Bool.false_eq_true, ite_false, loadChans_same _ _ hk hnd, restoreTasks_subs z _ hnds]

def StepOut.good : StepOut V S X → Prop
  | .done _ => True
  | .next _ => True
  | _ => False

theorem good_clean (ops : ValOps V) (r : IRunner V S X) (sched : ISched V S X) (stale : List (Key × X))
    (cm : Chans V) (L : List (Key × BodyRes V S X)) (st : S)
    (h : (finishStep ops r stale (coreOut ops r sched cm L st)).good) :
    firstFail (runPosts r (sched L) st).1 = none ∧ subIntOf (runPosts r (sched L) st).1 = [] ∧
      rerunOf (runPosts r (sched L) st).1 = [] := by
  revert h
  exact coreOut_cases ops r sched cm L st rfl (P := fun c => (finishStep ops r stale c).good → _)
    (fun _ h => h.elim) (fun _ _ _ h => h.elim) (fun _ _ hf hs hr _ _ => ⟨hf, hs, hr⟩)

theorem good_allDone (ops : ValOps V) (r : IRunner V S X) (sched : ISched V S X) (hperm : ∀ l, (sched l).Perm l)
    (stale : List (Key × X)) (cm : Chans V) (L : List (Key × BodyRes V S X)) (st : S)
    (h : (finishStep ops r stale (coreOut ops r sched cm L st)).good) : AllDone L := by
  obtain ⟨hf, hs, hr⟩ := good_clean ops r sched stale cm L st h
  intro x hx
  have hx' : x ∈ sched L := (hperm L).symm.subset hx
  obtain ⟨k, res⟩ := x
  cases res with
  | done o s => exact ⟨o, s, rfl⟩
  | fail e s => exact absurd hf (firstFail_ne_none ((mem_runPosts_fail r k e _ st).2 ⟨s, hx'⟩))
  | rerun s =>
    have := (mem_rerunOf_runPosts r k _ st).2 ⟨s, hx'⟩
    rw [hr] at this
    cases this
  | subInt p s =>
    have := (mem_subIntOf_runPosts r k p _ st).2 ⟨s, hx'⟩
    rw [hs] at this
    cases this

/-- what a superstep of a runner without interrupt points ends in, from post-handlers + `calculateNextTasks` -/
def stepOfNext (stale : List (Key × X)) : Except Err (Chans V × Next V × S) → StepOut V S X
  | .error e => .fail e
  | .ok (_, .result v, _) => .done v
  | .ok (cm', .tasks ts, st') => .next { cm := cm', tasks := mkTasks stale ts, st := st', stale := stale }

theorem subList_allDone {l : List (Key × BodyRes V S X)} (h : AllDone l) : subList l = [] :=
  List.eq_nil_iff_forall_not_mem.2 fun kp hkp => by
    obtain ⟨s, hm⟩ := mem_subList.1 hkp
    obtain ⟨o, s', hd⟩ := h _ hm
    cases hd

theorem allDone_doneOrSub {l : List (Key × BodyRes V S X)} (h : AllDone l) : DoneOrSub l :=
  fun x hx => Or.inl (h x hx)

theorem finishStep_allDone (ops : ValOps V) (r : IRunner V S X) (hb : r.intBefore = []) (ha : r.intAfter = [])
    (sched : ISched V S X) (stale : List (Key × X)) (cm : Chans V) (L : List (Key × BodyRes V S X)) (st : S)
    (hperm : (sched L).Perm L) (h : AllDone L) (hne : L ≠ []) :
    finishStep ops r stale (coreOut ops r sched cm L st) =
      stepOfNext stale (nextOf ops r cm (doneList (sched L)) st) := by
  have hS : AllDone (sched L) := fun x hx => h x (hperm.subset hx)
  have hneS : (sched L).isEmpty = false := by rw [hperm.isEmpty_eq]; exact List.isEmpty_eq_false_iff.2 hne
  obtain ⟨h1, h2, h3, h4, h5, -, h7⟩ := runPosts_view r (sched L) st (allDone_doneOrSub hS)
  unfold coreOut
  simp only [h1, h2, h3, h4, h5, h7, subList_allDone hS, hneS, nextOf, List.isEmpty_nil, Bool.not_true, Bool.or_false,
    Bool.false_eq_true, ite_false]
  cases calcNext ops r.base cm (postDones r (doneList (sched L)) st).1 with
  | error e => rfl
  | ok q =>
    obtain ⟨cm', nx⟩ := q
    cases nx with
    | result v => rfl
    | tasks ts => exact finishStep_noInt_next ops r hb ha stale cm' ts _ _

theorem doneList_keys_sublist : ∀ (l : List (Key × BodyRes V S X)), ((doneList l).map (·.1)).Sublist (l.map (·.1)) := by
  intro l
  induction l with
  | nil => simp [doneList]
  | cons x rest ih =>
    obtain ⟨k, res⟩ := x
    cases res <;> simp only [doneList, List.map_cons] <;> first | exact ih.cons_cons _ | exact ih.cons _

theorem levelLog_step_cons (isFn : Key → Bool) (clog : Key → List (Ev V S X) → Log V) (ts : List (Key × Bool))
    (evs : List (Ev V S X)) : levelLog isFn clog (Ev.step ts :: evs) = levelLog isFn clog evs := rfl

theorem subsLog_perm (r₀ : IRunner V S X) (clog : Key → List (Ev V S X) → Log V) (z : V) (s : S)
    {a b : List (Key × X)} (h : a.Perm b) : (subsLog r₀ clog z s a).Perm (subsLog r₀ clog z s b) := by
  unfold subsLog
  exact List.Perm.flatMap_right _ h

theorem resumed_step (ops : ValOps V) (isFn : Key → Bool) (clog : Key → List (Ev V S X) → Log V)
    (wt : Key → V → S → Option X → Nat) (r₀ : IRunner V S X)
    (hb : r₀.intBefore = []) (ha : r₀.intAfter = [])
    (sched : ISched V S X) (hperm : ∀ l, (sched l).Perm l) (hnil : ∀ k, clog k [] = []) (z : V)
    (cm2 : Chans V) (subs : List (Key × X)) (sA : S) (hne : subs ≠ [])
    (hres : ∀ kp ∈ subs, ∃ out, Resumes r₀ kp.1 kp.2 out) (hfn : ∀ kp ∈ subs, isFn kp.1 = false) :
    (stepI ops r₀ sched { cm := cm2, tasks := resTasks z subs, st := sA, stale := [] }).2 =
      stepOfNext [] (nextOf ops r₀ cm2 (doneList (sched (runBodies r₀ (resTasks z subs) sA).1)) sA) ∧
    levelLog isFn clog (stepI ops r₀ sched { cm := cm2, tasks := resTasks z subs, st := sA, stale := [] }).1 =
      subsLog r₀ clog z sA subs ∧
    stepWt wt r₀ { cm := cm2, tasks := resTasks z subs, st := sA, stale := [] } = 1 + subsWt wt z sA subs := by
  obtain ⟨h1, h2, h3, -, h5⟩ := runBodies_resumed isFn clog wt r₀ hnil z subs sA hres hfn
  rw [stepI_unfold]
  simp only [stepWt, runPres_resTasks, h1, levelLog_step_cons, h3, h5]
  refine ⟨?_, trivial, trivial⟩
  refine finishStep_allDone ops r₀ hb ha sched [] cm2 _ sA (hperm _) h2 ?_
  cases subs with
  | nil => exact absurd rfl hne
  | cons a b => exact List.cons_ne_nil _ _

/-- **the split rule** (the compositional rule of the sub-graph interrupt path).  `C`: the completed tasks
    of a superstep in the order the uninterrupted run collects them; `A`: those that were collected
    before a nested interrupt was taken, `B`: the interrupted graph nodes as they complete after the
    resume.  Post-handlers of `A`, fold without `get`, then post-handlers of `B` and
    `calculateNextTasks` give what post-handlers of `C` and `calculateNextTasks` give.  Follows from
    `FoldThenGet`, `CalcNextPerm` and `PostsCommute` (`splitOK_of`); the first two hold in any-predecessor mode with
    an order-insensitive merge (Proofs/C05NestedEngine.lean). -/
def SplitOK (ops : ValOps V) (r : IRunner V S X) : Prop :=
  ∀ (cm : Chans V) (st : S) (A B C : List (Done V)) (res : Chans V × Next V × S),
    C.Perm (A ++ B) → (C.map (·.1)).Nodup → ModeInv r.base cm →
    nextOf ops r cm C st = .ok res →
    ∃ cm2, foldFin r.base cm (postDones r A st).1 = .ok cm2 ∧
      nextOf ops r cm2 B (postDones r A st).2 = .ok res

structure LevelHyp (ops : ValOps V) (r : IRunner V S X) (sched : ISched V S X) : Prop where
  hnd : (akeys (initChans r.base)).Nodup
  hpred : ModeInv r.base (initChans r.base)
  perm : ∀ l, (sched l).Perm l
  split : SplitOK ops r

structure LsOK (r : IRunner V S X) (XOK : Key → X → Prop) (ls : LoopSt V S X) : Prop where
  stale : ls.stale = []
  keys : ls.KeysOK r
  inv : ModeInv r.base ls.cm
  nodup : (ls.tasks.map (·.key)).Nodup
  subs : ∀ t ∈ ls.tasks, ∀ p, t.sub = some p → XOK t.key p

theorem lsOK_fresh_next (ops : ValOps V) (r : IRunner V S X) (XOK : Key → X → Prop) (hnd : (akeys (initChans r.base)).Nodup)
    (cm : Chans V) (hk : akeys cm = akeys (initChans r.base)) (hinv : ModeInv r.base cm) (d : List (Done V))
    (cm' : Chans V) (ts : List (Key × V)) (st : S) (h : calcNext ops r.base cm d = .ok (cm', .tasks ts)) :
    LsOK r XOK { cm := cm', tasks := mkTasks [] ts, st := st, stale := [] } ∧
    LoopSt.Fresh ({ cm := cm', tasks := mkTasks [] ts, st := st, stale := [] } : LoopSt V S X) := by
  refine ⟨⟨rfl, ?_, (quiet_mode ops r.base cm d cm' ts hinv h).1, ?_, ?_⟩, rfl, mkTasks_fresh ts⟩
  · show akeys cm' = akeys (initChans r.base)
    rw [calcNext_keys ops r.base cm d cm' _ h, hk]
  · show ((mkTasks [] ts).map (·.key)).Nodup
    rw [mkTasks_keys]
    exact calcNext_tasks_nodup ops r.base cm d cm' ts (by rw [hk]; exact hnd) h
  · intro t ht p hp
    rw [(mkTasks_fresh ts t ht).2] at hp
    cases hp

section step
variable {isFn : Key → Bool} {XOK : Key → X → Prop} {clog : Key → List (Ev V S X) → Log V}
  {wt : Key → V → S → Option X → Nat} {r r₀ : IRunner V S X} {ops : ValOps V} {sched : ISched V S X}

/-- no graph node interrupted in this superstep: the run does what the reference does, or pauses
    exactly where the reference goes on -/
theorem core_same (hrel : LevelRel isFn XOK clog wt r r₀) (hyp : LevelHyp ops r sched)
    (cm : Chans V) (hk : akeys cm = akeys (initChans r.base)) (hinv : ModeInv r.base cm)
    (L : List (Key × BodyRes V S X)) (st2 : S)
    (hgood : (finishStep ops r₀ [] (coreOut ops r₀ sched cm L st2)).good) :
    match finishStep ops r₀ [] (coreOut ops r₀ sched cm L st2) with
    | .done v => finishStep ops r [] (coreOut ops r sched cm L st2) = .done v
    | .next ls' => ls'.Fresh ∧ LsOK r XOK ls' ∧
        (finishStep ops r [] (coreOut ops r sched cm L st2) = .next ls' ∨
         ∃ info, finishStep ops r [] (coreOut ops r sched cm L st2) = .intr ls'.toCP info)
    | _ => False := by
  rw [coreOut_shell hrel.shell] at hgood ⊢
  cases hc : coreOut ops r sched cm L st2 with
  | done v => simp [finishStep]
  | fail e => rw [hc] at hgood; exact hgood
  | sr a b c d e f => rw [hc] at hgood; exact hgood
  | next cm' ts dones st' =>
    rw [finishStep_noInt_next ops r₀ hrel.nb hrel.na]
    simp only
    obtain ⟨_, done, hcn⟩ := coreOut_next_keys ops r sched cm L st2 cm' ts dones st' hc
    obtain ⟨hok, hfresh⟩ := lsOK_fresh_next ops r XOK hyp.hnd cm hk hinv done cm' ts st' hcn
    refine ⟨hfresh, hok, ?_⟩
    have hq := (quiet_mode ops r.base cm done cm' ts hinv hcn).2
    rcases finishStep_next_cases ops r [] cm' ts dones st' hq with h | ⟨info, h⟩
    · left; exact h
    · right
      exact ⟨info, by rw [h, toCP_mkTasks]⟩

/-- a graph node interrupted inside: the run returns the sub-graph interrupt; the reference,
    restored from that checkpoint, re-enters the interrupted graph nodes and then is where the
    reference superstep ends -/
theorem core_sub (hrel : LevelRel isFn XOK clog wt r r₀) (hyp : LevelHyp ops r sched) (cfg : Cfg)
    (hcfg : cfg.fwdStale = false)
    (cm : Chans V) (hk : akeys cm = akeys (initChans r.base)) (hinv : ModeInv r.base cm)
    (L L₀ : List (Key × BodyRes V S X)) (st2 : S)
    (hent : All₂ (EntryRel isFn XOK r₀) L L₀) (hall : AllDone L₀) (hndk : (L₀.map (·.1)).Nodup)
    (hsub : subList L ≠ [])
    (hgood : (finishStep ops r₀ [] (coreOut ops r₀ sched cm L₀ st2)).good) :
    ∃ cp' info, finishStep ops r [] (coreOut ops r sched cm L st2) = .intr cp' info ∧
      LsOK r XOK (restore cfg r cp') ∧
      (stepI ops r₀ sched (restore cfg r cp')).2 = finishStep ops r₀ [] (coreOut ops r₀ sched cm L₀ st2) ∧
      ∃ s, (subsLog r₀ clog ops.zero s (subList L)).Perm
        (levelLog isFn clog (stepI ops r₀ sched (restore cfg r cp')).1) ∧
        stepWt wt r₀ (restore cfg r cp') = 1 + subsWt wt ops.zero s (subList L) := by
  have hpL := hyp.perm L
  have hpL₀ := hyp.perm L₀
  have hsubs : (subList (sched L)).Perm (subList L) := subList_perm hpL
  have hsubs_ne : subList (sched L) ≠ [] := fun h => hsub (h ▸ hsubs).symm.eq_nil
  have hsubs_ok := fun kp hkp => entries_subs hent kp (hsubs.subset hkp)
  have hres : ∀ kp ∈ subList (sched L), ∃ out, Resumes r₀ kp.1 kp.2 out := fun kp hkp => (hsubs_ok kp hkp).2.2
  have hfn : ∀ kp ∈ subList (sched L), isFn kp.1 = false := fun kp hkp => (hsubs_ok kp hkp).1
  have hnds : ((subList (sched L)).map (·.1)).Nodup :=
    (subList_keys_sublist (sched L)).nodup ((hpL.map _).nodup_iff.2 (entries_keys hent ▸ hndk))
  have hne₀ : L₀ ≠ [] := by
    cases hent with
    | nil => exact absurd rfl hsub
    | cons _ _ => exact List.cons_ne_nil _ _
  rw [finishStep_allDone ops r₀ hrel.nb hrel.na sched [] cm L₀ st2 hpL₀ hall hne₀, nextOf_shell hrel.shell] at hgood ⊢
  cases hnx : nextOf ops r cm (doneList (sched L₀)) st2 with
  | error e => rw [hnx] at hgood; exact hgood.elim
  | ok res =>
    -- the split rule: its pairs are those the run collected, then those of the resumed graph nodes
    have hperm : (doneList (sched L₀)).Perm
        (doneList (sched L) ++ doneList (sched (runBodies r₀ (resTasks ops.zero (subList (sched L)))
          (postDones r (doneList (sched L)) st2).2).1)) := by
      refine (doneList_perm hpL₀).trans ?_
      refine (entries_split hent ops.zero (postDones r (doneList (sched L)) st2).2).trans ?_
      refine List.Perm.append (doneList_perm hpL).symm ?_
      have hpT : (resTasks ops.zero (subList L)).Perm (resTasks ops.zero (subList (sched L))) := hsubs.symm.map _
      refine (doneList_perm (hpT.map _)).trans ?_
      obtain ⟨-, -, -, hbatch, -⟩ := runBodies_resumed isFn clog wt r₀ hrel.clogNil ops.zero _
        (postDones r (doneList (sched L)) st2).2 hres hfn
      rw [← hbatch]
      exact (doneList_perm (hyp.perm _)).symm
    obtain ⟨cm2, hfold, hnext⟩ := hyp.split cm st2 _ _ _ res hperm
      ((doneList_keys_sublist (sched L₀)).nodup ((hpL₀.map _).nodup_iff.2 hndk)) hinv hnx
    -- the run folds what it collected and returns the interrupt; its checkpoint restores the graph nodes
    have hk2 : akeys cm2 = akeys (initChans r.base) := by rw [foldFin_keys _ _ _ _ hfold, hk]
    rw [coreOut_sub ops r sched cm L st2 (fun x hx => entries_doneOrSub hent x (hpL.subset hx)) hsubs_ne, hfold]
    refine ⟨_, _, rfl, ?_⟩
    rw [restore_subs cfg hcfg r hyp.hnd cm2 hk2 ops.zero _ hnds]
    obtain ⟨hst, hlog, hwt⟩ := resumed_step ops isFn clog wt r₀ hrel.nb hrel.na sched hyp.perm hrel.clogNil ops.zero cm2
      (subList (sched L)) (postDones r (doneList (sched L)) st2).2 hsubs_ne hres hfn
    refine ⟨⟨rfl, hk2, foldFin_inv _ _ _ _ hinv hfold, ?_, ?_⟩, ?_, (postDones r (doneList (sched L)) st2).2, ?_⟩
    · show ((resTasks ops.zero (subList (sched L))).map (·.key)).Nodup
      simp only [resTasks, List.map_map]
      exact hnds
    · intro t ht p hp
      obtain ⟨kp, hkp, rfl⟩ := List.mem_map.1 ht
      cases hp
      exact (hsubs_ok kp hkp).2.1
    · rw [hst, nextOf_shell hrel.shell, hnext]
    · rw [hlog, hwt, subsWt_perm wt _ _ hsubs]
      exact ⟨subsLog_perm r₀ clog _ _ hsubs.symm, rfl⟩

/-- **one superstep.**  Where the reference superstep goes on or returns the result, the run either
    does the same (or pauses at a before/after interrupt exactly there), or returns a sub-graph
    interrupt from whose checkpoint the reference reaches the same point. -/
theorem step_sim (hrel : LevelRel isFn XOK clog wt r r₀) (hyp : LevelHyp ops r sched) (cfg : Cfg)
    (hcfg : cfg.fwdStale = false) (ls : LoopSt V S X) (hok : LsOK r XOK ls)
    (hgood : (stepI ops r₀ sched ls).2.good) :
    ((levelLog isFn clog (stepI ops r₀ sched ls).1).Perm (levelLog isFn clog (stepI ops r sched ls).1) ∧
      match (stepI ops r₀ sched ls).2 with
      | .done v => (stepI ops r sched ls).2 = .done v
      | .next ls' => ls'.Fresh ∧ LsOK r XOK ls' ∧
          ((stepI ops r sched ls).2 = .next ls' ∨ ∃ info, (stepI ops r sched ls).2 = .intr ls'.toCP info)
      | _ => False)
    ∨ (∃ cp' info, (stepI ops r sched ls).2 = .intr cp' info ∧ LsOK r XOK (restore cfg r cp') ∧
        (stepI ops r₀ sched (restore cfg r cp')).2 = (stepI ops r₀ sched ls).2 ∧
        (levelLog isFn clog (stepI ops r₀ sched ls).1).Perm
          (levelLog isFn clog (stepI ops r sched ls).1 ++
            levelLog isFn clog (stepI ops r₀ sched (restore cfg r cp')).1) ∧
        stepWt wt r₀ (restore cfg r cp') < stepWt wt r₀ ls) := by
  have hp : runPres r₀ ls.tasks ls.st = runPres r ls.tasks ls.st := runPres_shell hrel.shell _ _
  rw [stepI_unfold ops r₀, stepI_unfold ops r] at *
  simp only [hp, hok.stale, levelLog_step_cons] at hgood ⊢
  have hall : AllDone (runBodies r₀ (runPres r ls.tasks ls.st).1 (runPres r ls.tasks ls.st).2).1 :=
    good_allDone ops r₀ sched hyp.perm [] ls.cm _ _ hgood
  have hxT : ∀ t ∈ (runPres r ls.tasks ls.st).1, ∀ p, t.sub = some p → XOK t.key p := by
    intro t ht p hp'
    -- the pre-handlers keep key and nested checkpoint: `t` has those of a task `t0` of `ls`
    have hm := List.mem_map_of_mem (f := fun t => (t.key, t.sub)) ht
    rw [runPres_map r _ fun t st => by rw [(preOne_key r t st).1, (preOne_key r t st).2.1]] at hm
    obtain ⟨t0, h0, he⟩ := List.mem_map.1 hm
    injection he with hk0 hs0
    exact hk0 ▸ hok.subs t0 h0 p (hs0.trans hp')
  obtain ⟨hs2, hent, hlog, hwt⟩ := runBodies_sim hrel _ _ hxT hall
  have hndk : ((runBodies r₀ (runPres r ls.tasks ls.st).1 (runPres r ls.tasks ls.st).2).1.map (·.1)).Nodup := by
    rw [runBodies_keys, runPres_map r _ fun t st => (preOne_key r t st).1]
    exact hok.nodup
  by_cases hsub : subList (runBodies r (runPres r ls.tasks ls.st).1 (runPres r ls.tasks ls.st).2).1 = []
  · left
    have heq := entries_eq_of_noSub hent hsub
    refine ⟨?_, ?_⟩
    · have := hlog ops.zero ls.st
      rw [hsub] at this
      simpa [subsLog] using this
    · rw [heq, hs2]
      exact core_same hrel hyp ls.cm hok.keys hok.inv _ _ hgood
  · right
    rw [hs2]
    obtain ⟨cp', info, h1, h2, h3, s, h4, h5⟩ :=
      core_sub hrel hyp cfg hcfg ls.cm hok.keys hok.inv _ _ _ hent hall hndk hsub hgood
    refine ⟨cp', info, h1, h2, h3, (hlog ops.zero s).trans (List.Perm.append_left _ h4), ?_⟩
    rw [h5]
    simp only [stepWt, hp]
    exact Nat.add_lt_add_left (Nat.lt_of_lt_of_le (Nat.lt_add_of_pos_right (List.length_pos_iff.2 hsub))
      (hwt ops.zero s)) 1

end step

theorem loopI_done_inv {ops : ValOps V} {r : IRunner V S X} {sched : ISched V S X} {a b : Bool} {n : Nat}
    {ls : LoopSt V S X} {v : V} (h : (loopI ops r sched a b (n + 1) ls).res = .done v) :
    (stepI ops r sched ls).2 = .done v ∨
    ∃ ls', (stepI ops r sched ls).2 = .next ls' ∧ (loopI ops r sched a b n ls').res = .done v := by
  unfold loopI at h
  split at h
  · rename_i v' hs
    injection h with h
    exact Or.inl (h ▸ hs)
  · cases h
  · cases h
  · exact Or.inr ⟨_, ‹_›, h⟩

/-- more fuel changes nothing for a loop that returned a value; `loopWt` recurses exactly as `loopI` -/
theorem loopI_fuel_mono (ops : ValOps V) (wt : Key → V → S → Option X → Nat) (r : IRunner V S X) (sched : ISched V S X)
    (a b : Bool) (v : V) :
    ∀ (n m : Nat) (ls : LoopSt V S X), (loopI ops r sched a b n ls).res = .done v → n ≤ m →
      loopI ops r sched a b m ls = loopI ops r sched a b n ls ∧
      loopWt ops wt r sched m ls = loopWt ops wt r sched n ls := by
  intro n
  induction n with
  | zero => intro m ls h; simp [loopI] at h
  | succ n ih =>
    intro m ls h hm
    cases m with
    | zero => exact absurd hm (Nat.not_succ_le_zero n)
    | succ m' =>
    rcases loopI_done_inv h with hs | ⟨ls', hs, h'⟩
    · simp only [loopI_succ_done hs, loopWt, hs, and_self]
    · obtain ⟨i1, i2⟩ := ih m' ls' h' (Nat.le_of_succ_le_succ hm)
      simp only [loopI_succ_next hs, loopWt, hs, i1, i2, and_self]

theorem loopI_of_step_eq (ops : ValOps V) (wt : Key → V → S → Option X → Nat) (r : IRunner V S X) (sched : ISched V S X)
    (a b : Bool) (n : Nat) (ls₁ ls₂ : LoopSt V S X) (h : (stepI ops r sched ls₁).2 = (stepI ops r sched ls₂).2) :
    ((loopI ops r sched a b (n + 1) ls₁).res = (loopI ops r sched a b (n + 1) ls₂).res ∧
     ∃ T, (loopI ops r sched a b (n + 1) ls₁).evs = (stepI ops r sched ls₁).1 ++ T ∧
          (loopI ops r sched a b (n + 1) ls₂).evs = (stepI ops r sched ls₂).1 ++ T) ∧
    ∃ W, loopWt ops wt r sched (n + 1) ls₁ = stepWt wt r ls₁ + W ∧
         loopWt ops wt r sched (n + 1) ls₂ = stepWt wt r ls₂ + W := by
  unfold loopI loopWt
  rw [h]
  refine ⟨?_, _, rfl, rfl⟩
  cases (stepI ops r sched ls₂).2 with
  | done v => exact ⟨rfl, [], by simp, by simp⟩
  | fail e => exact ⟨rfl, [], by simp, by simp⟩
  | intr cp info => exact ⟨rfl, _, rfl, rfl⟩
  | next ls' => exact ⟨rfl, _, rfl, rfl⟩

theorem restore_shell {r r₀ : IRunner V S X} (h : SameShell r r₀) (cfg : Cfg) (cp : Checkpoint V S X) :
    restore cfg r₀ cp = restore cfg r cp := by
  simp only [restore, h.base]

section call
variable {isFn : Key → Bool} {XOK : Key → X → Prop} {clog : Key → List (Ev V S X) → Log V}
  {wt : Key → V → S → Option X → Nat} {r r₀ : IRunner V S X} {ops : ValOps V} {sched : ISched V S X}

/-- **what a call of the run is, against a reference call that returned `v`** (`refLog`: what the
    reference logged, `w`: its work).  It returned `v` and logged the same executions; or it returned an
    interrupt whose checkpoint is acceptable, from which the reference returns `v`, logging what the
    reference logged minus what this call already logged, with strictly less work.  It did not fail. -/
def SimOut (ops : ValOps V) (cfg : Cfg) (isFn : Key → Bool) (XOK : Key → X → Prop) (clog : Key → List (Ev V S X) → Log V)
    (wt : Key → V → S → Option X → Nat)
    (r r₀ : IRunner V S X) (sched : ISched V S X) (s0 h0 : Bool) (v : V) (refLog : Log V) (w : Nat) (o : Out V S X) : Prop :=
  match o.res with
  | .done v' => v' = v ∧ refLog.Perm (levelLog isFn clog o.evs)
  | .failed _ => False
  | .interrupted cp' _ => LsOK r XOK (restore cfg r cp') ∧
      (runI ops cfg r₀ sched s0 h0 (.inr cp')).res = .done v ∧
      refLog.Perm (levelLog isFn clog o.evs ++ levelLog isFn clog (runI ops cfg r₀ sched s0 h0 (.inr cp')).evs) ∧
      callWt ops cfg wt r₀ sched (.inr cp') < w

theorem SimOut.cases {cfg : Cfg} {s0 h0 : Bool} {v : V} {refLog : Log V} {w : Nat} {o : Out V S X}
    (h : SimOut ops cfg isFn XOK clog wt r r₀ sched s0 h0 v refLog w o) :
    (o.res = .done v ∧ refLog.Perm (levelLog isFn clog o.evs)) ∨
    ∃ cp' info, o.res = .interrupted cp' info ∧ LsOK r XOK (restore cfg r cp') ∧
      (runI ops cfg r₀ sched s0 h0 (.inr cp')).res = .done v ∧
      refLog.Perm (levelLog isFn clog o.evs ++ levelLog isFn clog (runI ops cfg r₀ sched s0 h0 (.inr cp')).evs) ∧
      callWt ops cfg wt r₀ sched (.inr cp') < w := by
  unfold SimOut at h
  cases hr : o.res with
  | done v' => rw [hr] at h; exact Or.inl ⟨by rw [h.1], h.2⟩
  | failed e => rw [hr] at h; exact h.elim
  | interrupted cp' info => rw [hr] at h; exact Or.inr ⟨cp', info, rfl, h⟩

theorem simOut_prefix (cfg : Cfg) (s0 h0 : Bool) (v : V) (refLog pre₀ : Log V) (w w₀ : Nat) (preEvs : List (Ev V S X))
    (o : Out V S X) (hpre : pre₀.Perm (levelLog isFn clog preEvs))
    (h : SimOut ops cfg isFn XOK clog wt r r₀ sched s0 h0 v refLog w o) :
    SimOut ops cfg isFn XOK clog wt r r₀ sched s0 h0 v (pre₀ ++ refLog) (w₀ + w) { res := o.res, evs := preEvs ++ o.evs } := by
  unfold SimOut at h ⊢
  cases hres : o.res with
  | done v' =>
    rw [hres] at h
    simp only at h ⊢
    exact ⟨h.1, by rw [levelLog_append]; exact List.Perm.append hpre h.2⟩
  | failed e => rw [hres] at h; exact h
  | interrupted cp' info =>
    rw [hres] at h
    simp only at h ⊢
    refine ⟨h.1, h.2.1, ?_, Nat.lt_of_lt_of_le h.2.2.2 (Nat.le_add_left _ _)⟩
    rw [levelLog_append, List.append_assoc]
    exact List.Perm.append hpre h.2.2.1

/-- `SimOut` of a call that returned an interrupt, from the reference loop with any sufficient budget:
    the reference resumed from `cp'` is its loop from the restored state `ls'` with the whole budget, and
    more budget changes nothing for a loop that returned a value -/
theorem simOut_intr (hrel : LevelRel isFn XOK clog wt r r₀) (cfg : Cfg) (s0 h0 : Bool) (v : V) (refLog : Log V) (w : Nat)
    (cp' : Checkpoint V S X) (info : Info S X) (evs : List (Ev V S X)) (ls' : LoopSt V S X)
    (hrest : restore cfg r cp' = ls') (n : Nat) (hn : n ≤ r.base.fuel) (hok : LsOK r XOK ls')
    (href : (loopI ops r₀ sched s0 h0 n ls').res = .done v)
    (hlog : refLog.Perm (levelLog isFn clog evs ++ levelLog isFn clog (loopI ops r₀ sched s0 h0 n ls').evs))
    (hw : loopWt ops wt r₀ sched n ls' < w) :
    SimOut ops cfg isFn XOK clog wt r r₀ sched s0 h0 v refLog w { res := .interrupted cp' info, evs := evs } := by
  subst hrest
  obtain ⟨hmono, hwmono⟩ := loopI_fuel_mono ops wt r₀ sched s0 h0 v n r.base.fuel _ href hn
  simp only [SimOut, runI, callWt, restore_shell hrel.shell, hrel.shell.base, hmono, hwmono]
  exact ⟨hok, href, hlog, hw⟩

theorem loop_sim (hrel : LevelRel isFn XOK clog wt r r₀) (hyp : LevelHyp ops r sched) (cfg : Cfg)
    (hcfg : cfg.fwdStale = false) (isSub hasID s0 h0 : Bool) (v : V) :
    ∀ (n : Nat) (ls : LoopSt V S X), n ≤ r.base.fuel → LsOK r XOK ls →
      (loopI ops r₀ sched s0 h0 n ls).res = .done v →
      SimOut ops cfg isFn XOK clog wt r r₀ sched s0 h0 v (levelLog isFn clog (loopI ops r₀ sched s0 h0 n ls).evs)
        (loopWt ops wt r₀ sched n ls) (loopI ops r sched isSub hasID n ls) := by
  intro n
  induction n with
  | zero => intro ls _ _ h; simp [loopI] at h
  | succ m ih =>
    intro ls hfuel hok href
    have hm : m ≤ r.base.fuel := Nat.le_of_succ_le hfuel
    have hinv := loopI_done_inv href
    have hgood : (stepI ops r₀ sched ls).2.good := by
      rcases hinv with hs | ⟨_, hs, _⟩ <;> rw [hs] <;> trivial
    rcases step_sim hrel hyp cfg hcfg ls hok hgood with ⟨hlog, hcase⟩ | ⟨cp', info, hintr, hok', hsame, hlog, hwlt⟩
    · rcases hinv with hs | ⟨ls', hs, href'⟩ <;> rw [hs] at hcase
      · rw [loopI_succ_done hs, loopI_succ_done hcase]
        exact ⟨rfl, hlog⟩
      · obtain ⟨hfresh, hokn, hcases⟩ := hcase
        rw [loopI_succ_next hs, levelLog_append, loopWt]
        simp only [hs]
        rcases hcases with hnext | ⟨info, hintr⟩
        · rw [loopI_succ_next hnext]
          exact simOut_prefix cfg s0 h0 v _ _ _ _ _ _ hlog (ih ls' hm hokn href')
        · -- the run pauses where the reference goes on: the checkpoint restores `ls'`
          rw [loopI_succ_intr hintr]
          refine simOut_intr hrel cfg s0 h0 v _ _ _ info _ ls' (restore_toCP cfg r ls' hcfg hfresh hokn.keys hyp.hnd)
            m hm hokn href' ?_ (Nat.lt_add_of_pos_left (Nat.lt_of_lt_of_le Nat.one_pos (Nat.le_add_right 1 _)))
          rw [levelLog_append, levelLog_intrEvs, List.append_nil]
          exact List.Perm.append_right _ hlog
    · -- a graph node interrupted inside: the reference from the checkpoint ends this superstep as from `ls`
      obtain ⟨⟨hres, T, hT1, hT2⟩, W, hW1, hW2⟩ :=
        loopI_of_step_eq ops wt r₀ sched s0 h0 m (restore cfg r cp') ls hsame
      rw [loopI_succ_intr hintr]
      refine simOut_intr hrel cfg s0 h0 v _ _ _ info _ _ rfl (m + 1) hfuel hok' (hres.trans href) ?_
        (by rw [hW1, hW2]; exact Nat.add_lt_add_right hwlt W)
      rw [hT1, hT2, levelLog_append, levelLog_append, levelLog_append, levelLog_intrEvs, List.append_nil,
        ← List.append_assoc]
      exact List.Perm.append_right _ hlog

def InpOK (cfg : Cfg) (r : IRunner V S X) (XOK : Key → X → Prop) : V ⊕ Checkpoint V S X → Prop
  | .inl _ => True
  | .inr cp => LsOK r XOK (restore cfg r cp)

def CallSimAt (ops : ValOps V) (cfg : Cfg) (isFn : Key → Bool) (XOK : Key → X → Prop) (clog : Key → List (Ev V S X) → Log V)
    (wt : Key → V → S → Option X → Nat) (r r₀ : IRunner V S X) (sched : ISched V S X) (isSub hasID s0 h0 : Bool) : Prop :=
  ∀ (v : V) (inp : V ⊕ Checkpoint V S X), InpOK cfg r XOK inp → (runI ops cfg r₀ sched s0 h0 inp).res = .done v →
    SimOut ops cfg isFn XOK clog wt r r₀ sched s0 h0 v (levelLog isFn clog (runI ops cfg r₀ sched s0 h0 inp).evs)
      (callWt ops cfg wt r₀ sched inp) (runI ops cfg r sched isSub hasID inp)

/-- **one call.**  If the reference, on this input or from this checkpoint, returns `v`, the run on the
    same input / checkpoint returns `v` too, or returns an interrupt from whose checkpoint the reference
    returns `v` — "the reference run = this call, then the reference run from the checkpoint" — and the
    work of the reference from that checkpoint is strictly less than its work on this input. -/
theorem call_sim (hrel : LevelRel isFn XOK clog wt r r₀) (hyp : LevelHyp ops r sched) (cfg : Cfg)
    (hcfg : cfg.fwdStale = false) (isSub hasID s0 h0 : Bool) :
    CallSimAt ops cfg isFn XOK clog wt r r₀ sched isSub hasID s0 h0 := by
  intro v inp hinp href
  cases inp with
  | inr cp =>
    simp only [runI, callWt, restore_shell hrel.shell, hrel.shell.base] at href ⊢
    exact loop_sim hrel hyp cfg hcfg isSub hasID s0 h0 v _ _ (Nat.le_refl _) hinp href
  | inl x =>
    simp only [runI, callWt, hrel.shell.base, hrel.shell.init, hrel.nb, hitKeys_nil_keys] at href ⊢
    cases hcn : calcNext ops r.base (initChans r.base) [(START, x)] with
    | error e => simp [hcn] at href
    | ok q =>
      obtain ⟨cm, nx⟩ := q
      cases nx with
      | result v' =>
        simp only [hcn] at href ⊢
        injection href with href
        exact ⟨href, List.Perm.refl _⟩
      | tasks ts =>
        simp only [hcn, List.isEmpty_nil, Bool.not_true, Bool.and_false, Bool.false_eq_true, ite_false] at href ⊢
        obtain ⟨hok0, hfresh0⟩ := lsOK_fresh_next ops r XOK hyp.hnd (initChans r.base) rfl hyp.hpred
          [(START, x)] cm ts r.initState hcn
        split
        · -- the tasks computed from START hit the interrupt-before list
          have hrest := restore_toCP cfg r _ hcfg hfresh0 hok0.keys hyp.hnd
          rw [toCP_mkTasks] at hrest
          refine simOut_intr hrel cfg s0 h0 v _ _ _ _ _ _ hrest _ (Nat.le_refl _) hok0 href ?_
            (Nat.lt_add_of_pos_left Nat.one_pos)
          rw [levelLog_intrEvs]
          exact List.Perm.refl _
        · have := loop_sim hrel hyp cfg hcfg isSub hasID s0 h0 v _ _ (Nat.le_refl _) hok0 href
          have h2 := simOut_prefix (isFn := isFn) (clog := clog) cfg s0 h0 v _ [] _ 1 [] _ (List.Perm.refl _) this
          simpa using h2

end call

def subInp (cd : SubCodec V S X) (v : V) (x : Option X) : V ⊕ Checkpoint V S X :=
  match x with | some p => .inr (cd.cp p) | none => .inl v

theorem subBody_eq (ops : ValOps V) (cfg : Cfg) (cd : SubCodec V S X) (c : IRunner V S X) (sc : ISched V S X)
    (v : V) (st : S) (x : Option X) :
    subBody ops cfg cd c sc v st x =
      (match (runI ops cfg c sc true false (subInp cd v x)).res with
       | .done out => { res := .done out st, evs := (runI ops cfg c sc true false (subInp cd v x)).evs }
       | .interrupted cp info => { res := .subInt (cd.pack cp info) st, evs := (runI ops cfg c sc true false (subInp cd v x)).evs }
       | .failed e => { res := .fail e st, evs := (runI ops cfg c sc true false (subInp cd v x)).evs }) := rfl

theorem subBody_evs (ops : ValOps V) (cfg : Cfg) (cd : SubCodec V S X) (c : IRunner V S X) (sc : ISched V S X)
    (v : V) (st : S) (x : Option X) :
    (subBody ops cfg cd c sc v st x).evs = (runI ops cfg c sc true false (subInp cd v x)).evs := by
  rw [subBody_eq]; split <;> rfl

theorem subBody_res (ops : ValOps V) (cfg : Cfg) (cd : SubCodec V S X) (c : IRunner V S X) (sc : ISched V S X)
    (v : V) (st : S) (x : Option X) :
    (subBody ops cfg cd c sc v st x).res =
      (match (runI ops cfg c sc true false (subInp cd v x)).res with
       | .done out => .done out st
       | .interrupted cp info => .subInt (cd.pack cp info) st
       | .failed e => .fail e st) := by
  rw [subBody_eq]; split <;> simp_all

theorem pfxLog_perm {k : Key} {a b : Log V} (h : a.Perm b) : (pfxLog k a).Perm (pfxLog k b) := h.map _

theorem pfxLog_append (k : Key) (a b : Log V) : pfxLog k (a ++ b) = pfxLog k a ++ pfxLog k b := by
  simp [pfxLog]

/-- the statement of `call_sim` for a nested runner (run as a sub-graph) -/
def CallSim (ops : ValOps V) (cfg : Cfg) (isFn : Key → Bool) (XOK : Key → X → Prop) (clog : Key → List (Ev V S X) → Log V)
    (wt : Key → V → S → Option X → Nat) (c c₀ : IRunner V S X) (sc : ISched V S X) : Prop :=
  ∀ inp, InpOK cfg c XOK inp → ∀ v, (runI ops cfg c₀ sc true false inp).res = .done v →
    SimOut ops cfg isFn XOK clog wt c c₀ sc true false v
      (levelLog isFn clog (runI ops cfg c₀ sc true false inp).evs) (callWt ops cfg wt c₀ sc inp)
      (runI ops cfg c sc true false inp)

/-- **nesting step.**  If the calls of a nested runner simulate its reference, the graph node that
    contains it simulates the graph node that contains the reference; a nested checkpoint is acceptable
    when it restores to an acceptable loop state of the nested runner; the work of the node is the work
    of the nested reference call. -/
theorem subBody_sim (ops : ValOps V) (cfg : Cfg) (cd : SubCodec V S X) (hcd : ∀ cp info, cd.cp (cd.pack cp info) = cp)
    (isFn : Key → Bool) (XOK : Key → X → Prop) (clog : Key → List (Ev V S X) → Log V)
    (wt : Key → V → S → Option X → Nat)
    (c c₀ : IRunner V S X) (sc : ISched V S X) (k : Key)
    (h : CallSim ops cfg isFn XOK clog wt c c₀ sc) :
    BodySim (fun p => LsOK c XOK (restore cfg c (cd.cp p)))
      (fun evs => pfxLog k (levelLog isFn clog evs))
      (fun v _ x => callWt ops cfg wt c₀ sc (subInp cd v x))
      (subBody ops cfg cd c sc) (subBody ops cfg cd c₀ sc) := by
  intro v s x hx out s₁ h0
  have hinp : InpOK cfg c XOK (subInp cd v x) := by
    cases x with
    | none => trivial
    | some p => exact hx p rfl
  rw [subBody_res] at h0
  cases h0r : (runI ops cfg c₀ sc true false (subInp cd v x)).res with
  | failed e => rw [h0r] at h0; cases h0
  | interrupted cp info => rw [h0r] at h0; cases h0
  | done out' =>
    rw [h0r] at h0
    injection h0 with ho hs
    subst ho hs
    simp only [subBody_evs, subBody_res]
    rcases (h (subInp cd v x) hinp out' h0r).cases with ⟨hr, hlog⟩ | ⟨cp', info, hr, hok, hres, hlog, hw⟩
    · left
      rw [hr]
      exact ⟨rfl, pfxLog_perm hlog⟩
    · right
      rw [hr]
      refine ⟨by first | rfl | trivial, cd.pack cp' info, rfl, by rw [hcd]; exact hok, fun v' s' => ?_⟩
      have hi : subInp cd v' (some (cd.pack cp' info)) = .inr cp' := by simp [subInp, hcd]
      rw [hi, hres]
      refine ⟨by first | rfl | trivial, hw, ?_⟩
      rw [← pfxLog_append]
      exact pfxLog_perm hlog

end EinoV.Interrupt
