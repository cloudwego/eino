/-
  C02: a session of calls of one runner is the list of independent runs as soon as every call
  starts from `initChans r` (helper lemmas for `Props/C02.lean`, section Rerun).
-/
import EinoV.Model.C02Rerun

namespace EinoV.Engine

theorem eagerLoopC_fst {V} (ops : ValOps V) (r : Runner V) (pick : Pick V) (n : Nat) (cm : Chans V)
    (running : List (Key × V)) (bs : List (List (Key × V))) (comp : List Key) :
    (eagerLoopC ops r pick n cm running bs comp).1 = eagerLoop ops r pick n cm running bs comp := by
  induction n generalizing cm running bs comp with
  | zero => simp [eagerLoopC, eagerLoop]
  | succ n ih =>
    simp only [eagerLoopC, eagerLoop]
    cases h1 : running[pick running % running.length]? with
    | none => rfl
    | some t =>
      simp only []
      cases h2 : collectOne (execOne r t) with
      | error e => rfl
      | ok d =>
        simp only []
        cases h3 : calcNext ops r cm [d] with
        | error e => rfl
        | ok p =>
          obtain ⟨cm', nx⟩ := p
          cases nx with
          | result v => rfl
          | tasks ts => exact ih _ _ _ _

theorem runEagerFrom_init {V} (ops : ValOps V) (r : Runner V) (pick : Pick V) (x : V) :
    (runEagerFrom ops r pick (initChans r) x).1 = runEager ops r pick x := by
  simp only [runEagerFrom, runEager]
  cases h3 : calcNext ops r (initChans r) [(START, x)] with
  | error e => rfl
  | ok p =>
    obtain ⟨cm', nx⟩ := p
    cases nx with
    | result v => rfl
    | tasks ts => exact eagerLoopC_fst ..

theorem loopC_fst {V} (ops : ValOps V) (r : Runner V) (sched : Sched V) (n : Nat) (cm : Chans V)
    (tasks : List (Key × V)) (tr : Trace V) :
    (loopC ops r sched n cm tasks tr).1 = loop ops r sched n cm tasks tr := by
  induction n generalizing cm tasks tr with
  | zero => simp [loopC, loop]
  | succ n ih =>
    simp only [loopC, loop]
    cases h1 : runTasks r sched tr.length tasks with
    | error e => rfl
    | ok done =>
      simp only []
      by_cases h2 : done.isEmpty = true
      · simp [h2]
      · simp only [h2]
        cases h3 : calcNext ops r cm done with
        | error e => rfl
        | ok p =>
          obtain ⟨cm', nx⟩ := p
          cases nx with
          | result v => rfl
          | tasks ts => exact ih _ _ _

theorem runSFrom_init {V} (ops : ValOps V) (r : Runner V) (sched : Sched V) (x : V) :
    (runSFrom ops r sched (initChans r) x).1 = runS ops r sched x := by
  simp only [runSFrom, runS]
  cases h3 : calcNext ops r (initChans r) [(START, x)] with
  | error e => rfl
  | ok p =>
    obtain ⟨cm', nx⟩ := p
    cases nx with
    | result v => rfl
    | tasks ts => exact loopC_fst ..

theorem sessionEager_of_start {V} (fresh : Bool) (recycle : Chans V → Chans V) (ops : ValOps V) (r : Runner V)
    (h : ∀ idle, startChans fresh recycle r idle = initChans r)
    (idle : Option (Chans V)) (calls : List (Pick V × V)) :
    sessionEager fresh recycle ops r idle calls = calls.map (fun c => runEager ops r c.1 c.2) := by
  induction calls generalizing idle with
  | nil => rfl
  | cons c rest ih =>
    simp only [sessionEager, List.map_cons, h, runEagerFrom_init, ih]

theorem sessionS_of_start {V} (fresh : Bool) (recycle : Chans V → Chans V) (ops : ValOps V) (r : Runner V)
    (h : ∀ idle, startChans fresh recycle r idle = initChans r)
    (idle : Option (Chans V)) (calls : List (Sched V × V)) :
    sessionS fresh recycle ops r idle calls = calls.map (fun c => runS ops r c.1 c.2) := by
  induction calls generalizing idle with
  | nil => rfl
  | cons c rest ih =>
    simp only [sessionS, List.map_cons, h, runSFrom_init, ih]

theorem startChans_fresh {V} (recycle : Chans V → Chans V) (r : Runner V) (idle : Option (Chans V)) :
    startChans true recycle r idle = initChans r := by
  cases idle <;> simp [startChans]

end EinoV.Engine
