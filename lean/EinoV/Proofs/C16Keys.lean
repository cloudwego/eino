/-
  C16 — lemmas about the key wrappers / paradigms (Model/C16Keys.lean): when every wrapper closure
  passes the option list on, the run with keys and paradigm is the run of the erased tree.
-/
import EinoV.Spec.C16Keys

namespace EinoV.C16

theorem forwards_of_all {K : KeyFacts} (hK : K.allForward) (par : Paradigm) (w : Wrap) :
    w.forwards K par = true := by
  obtain ⟨h1, h2, h3, h4⟩ := hK
  unfold Wrap.forwards
  cases par.onStreamPath <;> simp [h1, h2, h3, h4]

theorem deliver_of_all {K : KeyFacts} (hK : K.allForward) (par : Paradigm) (w : Wrap)
    (items : List Item) : deliver K par w items = items := by
  simp [deliver, forwards_of_all hK par w]

theorem deliver_plain (K : KeyFacts) (par : Paradigm) (items : List Item) :
    deliver K par Wrap.plain items = items := by
  simp [deliver, Wrap.forwards, Wrap.plain]

theorem WNode.induct {P : WNode → Prop} {Q : WNodes → Prop}
    (comp : ∀ k ty w, P (.comp k ty w)) (pass : ∀ k w, P (.pass k w))
    (graph : ∀ k ch w, Q ch → P (.graph k ch w))
    (nil : Q .nil) (cons : ∀ n ns, P n → Q ns → Q (.cons n ns)) :
    (∀ n, P n) ∧ (∀ ns, Q ns) :=
  ⟨fun n => WNode.rec (motive_1 := P) (motive_2 := Q) comp pass graph nil cons n,
   fun ns => WNodes.rec (motive_1 := P) (motive_2 := Q) comp pass graph nil cons ns⟩

theorem runW_eq_levels {F : Facts} {K : KeyFacts} (hK : K.allForward) (par : Paradigm) :
    (∀ (n : WNode) (pre : Path) (gH : List Nat) (opts : List Opt) (log : Log),
      runNodeW F K par pre gH opts log n = runNode F pre gH opts log n.erase) ∧
    (∀ (ns : WNodes) (pre : Path) (gH : List Nat) (opts : List Opt) (log : Log),
      runNodesW F K par pre gH opts log ns = runNodes F pre gH opts log ns.erase) := by
  refine WNode.induct ?_ ?_ ?_ ?_ ?_
  · intro k ty w pre gH opts log
    simp only [runNodeW, runNode, WNode.erase, deliver_of_all hK]
  · intro k w pre gH opts log
    simp only [runNodeW, runNode, WNode.erase]
  · intro k ch w ih pre gH opts log
    simp only [runNodeW, runNode, WNode.erase, deliver_of_all hK]
    cases extract F ch.erase (optsOf (itemsFor log k)) with
    | error e => rfl
    | ok log' =>
      simp only []
      rw [ih]
      rfl
  · intro pre gH opts log
    simp only [runNodesW, runNodes, WNodes.erase]
  · intro n ns ih1 ih2 pre gH opts log
    simp only [runNodesW, runNodes, WNodes.erase]
    rw [ih1, ih2]
    rfl

theorem runNodeW_eq {F : Facts} {K : KeyFacts} (hK : K.allForward) (par : Paradigm) :
    ∀ (n : WNode) (pre : Path) (gH : List Nat) (opts : List Opt) (log : Log),
      runNodeW F K par pre gH opts log n = runNode F pre gH opts log n.erase :=
  (runW_eq_levels hK par).1

theorem runNodesW_eq {F : Facts} {K : KeyFacts} (hK : K.allForward) (par : Paradigm) :
    ∀ (ns : WNodes) (pre : Path) (gH : List Nat) (opts : List Opt) (log : Log),
      runNodesW F K par pre gH opts log ns = runNodes F pre gH opts log ns.erase :=
  (runW_eq_levels hK par).2

theorem runW_eq {F : Facts} {K : KeyFacts} (hK : K.allForward) (par : Paradigm) (g : WNodes)
    (opts : List Opt) : runW F K par g opts = run F g.erase opts := by
  unfold runW run
  cases extract F g.erase opts with
  | error e => rfl
  | ok log =>
    simp only []
    rw [runNodesW_eq hK par g]
    rfl

theorem runCallsW_eq {F : Facts} {K : KeyFacts} (hK : K.allForward) :
    ∀ (cs : List CallW) (store : List Opt),
      runCallsW F K store cs = runCalls F store (cs.map CallW.erase)
  | [], store => rfl
  | c :: cs, store => by
    simp only [runCallsW, runCalls, List.map_cons, runW_eq hK, runCallsW_eq hK cs]
    rfl

end EinoV.C16
