/-
  C01 "shared builders" family (Model/C01Share.lean): with the mechanism fact `builderIntact`, what an
  `Append*` call contributes to the graph depends only on the stage description and the position, so
  every run of a compiled chain of a program is the composition of that chain's own stages, whatever
  else was built from the same builder objects and in whatever order.
-/
import EinoV.Model.C01Share
import EinoV.Proofs.C01Chain

namespace EinoV.Chain.Share
open EinoV.Engine EinoV.Chain

theorem condIdx_intact (m : Mech) (hm : m.builderIntact = true) (h : Heap) (o : Option Nat) (i : Nat) :
    condIdx m h o i = i := by
  simp [condIdx, hm]

theorem stageBranchesS_intact (m : Mech) (hm : m.builderIntact = true) (h : Heap) (i : Nat)
    (pre : List Key) (ts : TStage) : stageBranchesS m h i pre ts = stageBranches i pre ts.2 := by
  obtain ⟨o, st⟩ := ts
  cases st <;> simp [stageBranchesS, stageBranches, lowerBranch, condIdx_intact m hm]

theorem lowerFromS_intact (m : Mech) (hm : m.builderIntact = true) (h : Heap) (ts : List TStage) :
    ∀ (i : Nat) (pre : List Key), lowerFromS m h i pre ts = lowerFrom i pre (untag ts) := by
  induction ts with
  | nil => intro i pre; rfl
  | cons t rest ih =>
    intro i pre
    rw [lowerFromS, ih, stageBranchesS_intact m hm]
    rfl

theorem lowerS_intact (m : Mech) (hm : m.builderIntact = true) (h : Heap) (ts : List TStage) :
    lowerS m h ts = lower (untag ts) := by
  simp only [lowerS, lower, lowerFromS_intact m hm]

theorem execT_intact (m : Mech) (hm : m.builderIntact = true) (slack : Nat) (h : Heap) (ts : List TStage) :
    execT m slack h ts = (untag ts).exec slack := by
  funext x
  simp only [execT, Chain.exec, Chain.runner, lowerS_intact m hm]

theorem resolveStage_heap (m : Mech) (hm : m.builderIntact = true) (slack : Nat) (h h' : Heap)
    (pool : List Stage) (env : List RChain) :
    resolveStage m slack h pool env = resolveStage m slack h' pool env := by
  funext s
  cases s with
  | sub j => simp only [resolveStage, execT_intact m hm]
  | _ => rfl

theorem resolveAll_heap (m : Mech) (hm : m.builderIntact = true) (slack : Nat) (h h' : Heap)
    (pool : List Stage) (cs : List (List SStage)) : ∀ (env : List RChain),
    resolveAll m slack h pool env cs = resolveAll m slack h' pool env cs := by
  induction cs with
  | nil => intro env; rfl
  | cons ss rest ih =>
    intro env
    rw [resolveAll, resolveAll, resolveChain, resolveChain, resolveStage_heap m hm slack h h', ih]

theorem resolved_heap (m : Mech) (hm : m.builderIntact = true) (slack : Nat) (h h' : Heap) (p : Prog) :
    p.resolved m slack h = p.resolved m slack h' :=
  resolveAll_heap m hm slack h h' p.pool p.chains []

theorem wfB_iff (c : Chain) : wfB c = true ↔ c.WF := by
  simp only [wfB, Chain.WF, Bool.and_eq_true, Bool.not_eq_true', List.isEmpty_eq_false_iff,
    nodupB_iff, and_assoc, ne_eq]

theorem run_is_sem (m : Mech) (hm : m.builderIntact = true) (slack : Nat) (p : Prog) (s : St)
    (c : Nat) (x : CVal) (rc : RChain)
    (hrc : (p.resolved m slack [])[c]? = some rc) (hwf : rc.chain.WF) (hc : s.compiled.contains c = true) :
    (step m slack p s (.run c x)).2 = .ran (rc.chain.sem x) := by
  rw [resolved_heap m hm slack [] s.heap p] at hrc
  simp only [step, hrc, hc, if_true, execT_intact m hm]
  exact congrArg Out.ran (chain_is_composition slack rc.chain hwf x)

theorem step_compiled_mono (m : Mech) (slack : Nat) (p : Prog) (s : St) (op : Op) (c : Nat)
    (hc : s.compiled.contains c = true) : (step m slack p s op).1.compiled.contains c = true := by
  cases op with
  | build k =>
    rw [step]
    split
    · split <;> exact hc
    · exact hc
  | run k x =>
    rw [step]
    split
    · split <;> exact hc
    · exact hc
  | compile k =>
    rw [step]
    split
    · split
      · split
        · rw [List.contains_cons, hc, Bool.or_true]
        · exact hc
      · exact hc
    · exact hc

theorem after_compiled_mono (m : Mech) (slack : Nat) (p : Prog) (c : Nat) (ops : List Op) :
    ∀ (s : St), s.compiled.contains c = true → (after m slack p s ops).compiled.contains c = true := by
  induction ops with
  | nil => exact fun _ hc => hc
  | cons op rest ih => exact fun s hc => ih _ (step_compiled_mono m slack p s op c hc)

theorem compile_out (m : Mech) (hm : m.builderIntact = true) (slack : Nat) (p : Prog) (s : St)
    (c : Nat) (rc : RChain) (hrc : (p.resolved m slack [])[c]? = some rc)
    (hb : s.built.contains c = true) :
    (step m slack p s (.compile c)).2 = .compiled rc.accepted := by
  rw [resolved_heap m hm slack [] s.heap p] at hrc
  simp only [step, hrc, hb, if_true]

end EinoV.Chain.Share
