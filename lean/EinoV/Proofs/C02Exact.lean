/-
  C02, run level: the input of every started node is built from *exactly* the outputs of the data
  predecessors that completed and routed to it (`run_exact`).  A fourth invariant (`RV`: the value
  of every completed task is stored wherever it was routed, until the channel fires), combined
  with the history invariant `K` (every stored value was routed) and at-most-once (histories are
  functional).
-/
import EinoV.Proofs.C02Complete

namespace EinoV.Engine
namespace DagRun

def RV {V} (F : Key → Nat) (cm : Chans V) (n p : Key) : Prop :=
  ∀ c, (n, c) ∈ cm → 1 ≤ F n ∨ c.skipped = true ∨ p ∈ akeys c.values

theorem RV.mono {V} {F : Key → Nat} {cm cm' : Chans V} (hm : Mono cm cm') {n p : Key} (h : RV F cm n p) :
    RV F cm' n p := by
  intro c' hc'
  obtain ⟨c, hc, m⟩ := hm.step n c' hc'
  rcases h c hc with h1 | h1 | h1
  · exact Or.inl h1
  · exact Or.inr (Or.inl (m.sk h1))
  · exact Or.inr (Or.inr (m.vk p h1))

theorem RV.of_le {V} {F F' : Key → Nat} {cm : Chans V} {n p : Key} (hF : ∀ n, F n ≤ F' n) (h : RV F cm n p) :
    RV F' cm n p :=
  fun c hc => (h c hc).imp_left (fun h1 => Nat.le_trans h1 (hF n))

def EstV {V} (cm : Chans V) (to p : Key) : Prop :=
  ∀ c', (to, c') ∈ cm → p ∈ akeys c'.data → c'.skipped = true ∨ p ∈ akeys c'.values

theorem EstV.mono {V} {cm cm' : Chans V} (hm : Mono cm cm') {to p : Key} (h : EstV cm to p) : EstV cm' to p := by
  intro c' hc' hk
  obtain ⟨c, hc, m⟩ := hm.step to c' hc'
  exact (h c hc (m.data_keys ▸ hk)).imp m.sk (m.vk p)

theorem reportValues_vk {V} (c : Chan V) (ins : List (Key × V)) (p : Key) (hp : p ∈ akeys ins)
    (hk : p ∈ akeys c.data) : c.skipped = true ∨ p ∈ akeys (c.reportValues true ins).values := by
  rw [reportValues_markAll]; split
  · rename_i hs; exact Or.inl hs
  · exact Or.inr (Interrupt.PregelFold.mem_akeys_asets (Or.inr (mem_akeys_taken hp hk)))

theorem updateValues_V {V} (r : Runner V) (hd : r.dag = true) (writes : List (Key × List (Key × V))) (cm : Chans V) :
    ∀ to l, (to, l) ∈ writes → ∀ p, p ∈ akeys l → p ∈ lookupList to r.dataPreds → EstV (updateValues r cm writes) to p := by
  intro to l hm p hp hcp c' hc' hk
  obtain ⟨c, m2⟩ := (updateValues_fold r hd writes cm).2.2 to l hm c' hc'
  have m1 := (reportValues_mono c (l.filter (fun kv => (lookupList to r.dataPreds).contains kv.1))).1
  rcases reportValues_vk c _ p (mem_akeys_filter (q := (lookupList to r.dataPreds).contains) hp (by simpa using hcp)) (m1.data_keys ▸ m2.data_keys ▸ hk) with h1 | h1
  · exact Or.inl (m2.sk (m1.sk h1))
  · exact Or.inr (m2.vk p h1)

theorem values_after_updates {V} {F : Key → Nat} (r : Runner V) (hd : r.dag = true) (hs : SuccOK r)
    (hpc : PredSuccC r) (hpd : PredSuccD r) (hstart : START ∉ akeys (initChans r)) (hk : r.start.key = START)
    (cm : Chans V) (done : List (Done V)) (res : Resolved V) (Old : Key → V → Prop)
    (hnd : (akeys cm).Nodup) (hsk : ∀ n c, (n, c) ∈ cm → SkOK c) (hsh : shapes cm = shapes (initChans r))
    (hq : ∀ p, skOf cm p = 1 → RP F cm p)
    (hold : ∀ p o n, Old p o → RoutesD r p o n → RV F cm n p)
    (hcall : ∀ t, t ∈ done → (r.call? t.1).isSome = true)
    (h1 : resolve r cm done = .ok res) :
    ∀ p o n, (Old p o ∨ (p, o) ∈ done) → RoutesD r p o n → RV F (preChans r res) n p := by
  obtain ⟨a1, a2, a3⟩ := resolve_R (F := F) r hd hs (predSucc_of r hpc hpd) hstart hk done
    { cm := cm, writes := [], deps := [] } res ⟨hnd, hsk, hsh, hq⟩ h1
  have hnd1 : (akeys res.cm).Nodup := a1.nd
  have u1 := (updateValues_R r hd res.writes res.cm hnd1).1
  have uv := updateValues_V r hd res.writes res.cm
  have v1 := (updateDeps_R r hd res.deps (updateValues r res.cm res.writes) (by rw [u1.keys]; exact hnd1)).1
  have hsh2 : shapes (preChans r res) = shapes (initChans r) :=
    (reports_after_updates (F := F) r hd hs hpc hpd hstart hk cm done res hnd hsk hsh hq hcall h1).2.1
  rintro p o n (ho | ht) hr
  · exact (hold p o n ho hr).mono (a2.cm.trans (u1.trans v1))
  · obtain ⟨nd, hcall, hroute, hdp⟩ := hr
    intro c hc
    obtain ⟨sel, hsel, _, _, f3⟩ := a3 (p, o) ht nd hcall
    have hw : WritesHave res.writes n p := by
      rcases hroute with h | ⟨sel', hs', h⟩
      · exact f3 n (List.mem_append_right _ h)
      · rw [hsel] at hs'; cases hs'
        exact f3 n (List.mem_append_left _ h)
    obtain ⟨l, hl, hp⟩ := hw
    have hkd := (chan_data_keys r hd _ hsh2 n c hc p).mp hdp
    exact Or.inr (((uv n l (mem_of_alookup _ _ _ hl) p hp hdp).mono v1) c hc hkd)

theorem getReady_RV {V} {F : Key → Nat} (ops : ValOps V) (cm : Chans V)
    (hb : (getReady ops true cm).2.2 = false) (n p : Key) (h : RV F cm n p) :
    RV (fun n => F n + (akeys (getReady ops true cm).2.1).count n) (getReady ops true cm).1 n p := by
  intro c' hc'
  exact (getReady_cases ops cm hb F n c' hc').elim Or.inl (h.of_le (fun n => Nat.le_add_right _ _) c')

theorem triggered_values {V} {r : Runner V} {F : Key → Nat} {H : List (Done V)} {cm : Chans V} (hK : K r H cm)
    (hfn : ∀ p o o', (p, o) ∈ H → (p, o') ∈ H → o = o')
    (hrv : ∀ p o n, (p, o) ∈ H → RoutesD r p o n → RV F cm n p)
    {n : Key} {c : Chan V} (hc : (n, c) ∈ cm) (ht : c.triggered = true) (hF0 : F n = 0) (p : Key) (w : V) :
    (p, w) ∈ c.values ↔ ((p, w) ∈ H ∧ RoutesD r p w n) := by
  refine ⟨fun hw => hK.val n c hc p w hw, fun ⟨hm, hr⟩ => ?_⟩
  rcases hrv p w n hm hr c hc with h | h | h
  · omega
  · rw [(triggered_unpack c ht).1] at h; cases h
  · -- some value of `p` is stored; it is in `H`, and `H` has one output per key
    obtain ⟨w', hw'⟩ := exists_of_mem_akeys _ _ h
    rw [hfn p w w' hm (hK.val n c hc p w' hw').1]
    exact hw'

theorem round_exact {V} {F : Key → Nat} (ops : ValOps V) (r : Runner V) (hd : r.dag = true) (hs : SuccOK r)
    (hpc : PredSuccC r) (hpd : PredSuccD r) (hstart : START ∉ akeys (initChans r)) (hk : r.start.key = START)
    (cm cm' : Chans V) (done : List (Done V)) (ts : List (Key × V)) (H : List (Done V)) (OldC : Key → V → Prop)
    (hK : K r H cm) (hsh : shapes cm = shapes (initChans r))
    (hdone : ∀ t, t ∈ done → t ∈ H) (hH : ∀ p o, (p, o) ∈ H → OldC p o ∨ (p, o) ∈ done)
    (hfn : ∀ p o o', (p, o) ∈ H → (p, o') ∈ H → o = o')
    (hq : ∀ p, skOf cm p = 1 → RP F cm p)
    (hold : ∀ p o n, OldC p o → RoutesD r p o n → RV F cm n p)
    (hcall : ∀ t, t ∈ done → (r.call? t.1).isSome = true)
    (hF0 : ∀ t, t ∈ ts → F t.1 = 0)
    (h : calcNext ops r cm done = .ok (cm', .tasks ts)) :
    (∀ n v, (n, v) ∈ ts → ExactIn ops r H n v) ∧
    (∀ p o n, (p, o) ∈ H → RoutesD r p o n → RV (fun n => F n + (akeys ts).count n) cm' n p) := by
  obtain ⟨res, h1, hg, _⟩ := calcNext_unpack ops r hd cm cm' done ts h
  obtain ⟨v1, _⟩ := pre_K r hd hs hk cm done res hK hsh hdone h1
  have rv2 : ∀ p o n, (p, o) ∈ H → RoutesD r p o n → RV F (preChans r res) n p := fun p o n hm =>
    values_after_updates r hd hs hpc hpd hstart hk cm done res OldC hK.nd hK.sk hsh hq hold hcall h1 p o n (hH p o hm)
  have hb : (getReady ops true (preChans r res)).2.2 = false := by rw [hg]
  have e1 : (getReady ops true (preChans r res)).1 = cm' := by rw [hg]
  have e2 : (getReady ops true (preChans r res)).2.1 = ts := by rw [hg]
  refine ⟨fun n v hnv => ?_, fun p o n hm hr' => ?_⟩
  · obtain ⟨c, hc, ht, hgv⟩ := getReady_src ops _ n v (e2 ▸ hnv)
    exact ⟨c.values, triggered_values v1 hfn rv2 hc ht (hF0 (n, v) hnv), get_ready ops c ht hgv⟩
  · have := getReady_RV ops _ hb n p (rv2 p o n hm hr')
    rw [e1, e2] at this
    exact this

structure XInv {V} (ops : ValOps V) (r : Runner V) (x : V) (cm : Chans V) (tasks : List (Key × V)) (tr : Trace V) : Prop where
  c : CInv ops r x cm tasks tr
  rv : ∀ p o n, (p, o) ∈ histOf r x tr → RoutesD r p o n → RV (fun n => (keysOfTr (tasks :: tr)).count n) cm n p
  ex : ExactTr ops r x (tasks :: tr)

theorem XInv_step {V} (ops : ValOps V) (r : Runner V) (wf : DagWF r) (wf2 : DagWF2 r) (sched : Sched V)
    (hf : sched.Fair) (x : V)
    (cm cm' : Chans V) (tasks ts : List (Key × V)) (tr : Trace V) (done : List (Done V))
    (h : XInv ops r x cm tasks tr) (hr : runTasks r sched tr.length tasks = .ok done)
    (hc : calcNext ops r cm done = .ok (cm', .tasks ts)) : XInv ops r x cm' ts (tasks :: tr) := by
  have hc' := CInv_step ops r wf wf2 sched hf x cm cm' tasks ts tr done h.c hr hc
  have hF0 : ∀ t, t ∈ ts → (keysOfTr (tasks :: tr)).count t.1 = 0 :=
    fun _ => task_fresh (linv_bound r wf cm' ts (tasks :: tr) hc'.l)
  obtain ⟨x1, x2⟩ := round_exact (F := fun n => (keysOfTr (tasks :: tr)).count n) ops r wf.dag wf.succ wf2.pc wf2.pd
    wf.startFresh wf.startKey cm cm' done ts (histOf r x (tasks :: tr)) (fun p o => (p, o) ∈ histOf r x tr)
    (K_mono h.c.k.k (histOf_mono r x tasks tr)) h.c.l.sh
    (histOf_runTasks r sched hf x tasks tr done hr).1 (histOf_runTasks r sched hf x tasks tr done hr).2.1
    (hist_functional r wf x cm tasks tr h.c.l) h.c.rq h.rv (h.c.call_done hf hr) hF0 hc
  rw [count_keysOfTr_cons] at x2
  exact ⟨hc', x2, x1, h.ex⟩

theorem XInv_start {V} (ops : ValOps V) (r : Runner V) (wf : DagWF r) (wf2 : DagWF2 r) (x : V)
    (cm' : Chans V) (ts : List (Key × V))
    (hc : calcNext ops r (initChans r) [(START, x)] = .ok (cm', .tasks ts)) : XInv ops r x cm' ts [] := by
  obtain ⟨x1, x2⟩ := round_exact (F := fun n => (keysOfTr ([] : Trace V)).count n) ops r wf.dag wf.succ wf2.pc wf2.pd
    wf.startFresh wf.startKey (initChans r) cm' [(START, x)] ts (histOf r x []) (fun _ _ => False)
    (init_K r wf.dag wf.nodup _) rfl
    (start_mem_histOf r x [])
    (fun p o hm => Or.inr (by simpa [mem_histOf_nil] using hm))
    (fun _ _ _ => histOf_nil_functional)
    (fun p hp => by rw [skOf_init r wf.dag p] at hp; cases hp)
    (fun p o n hf => hf.elim)
    (start_callable r x)
    (fun _ _ => rfl) hc
  rw [count_keysOfTr_cons] at x2
  exact ⟨CInv_start ops r wf wf2 x cm' ts hc, x2, x1, trivial⟩

/-- **the input is exact.** In a run of a well-formed acyclic all-predecessor runner, under any
    fair completion schedule, the input of every task is the zero value / the single value / the
    merge of the outputs of *exactly* those data predecessors that completed in older steps and
    routed to it. -/
theorem run_exact {V} (ops : ValOps V) (r : Runner V) (wf : DagWF r) (wf2 : DagWF2 r) (sched : Sched V)
    (hf : sched.Fair) (x : V) : ExactTr ops r x (runS ops r sched x).trace.reverse := by
  rcases runS_stops ops r sched x (XInv ops r x) (XInv_start ops r wf wf2 x)
    (fun cm cm' tasks tr done ts => XInv_step ops r wf wf2 sched hf x cm cm' tasks ts tr done)
    with ⟨e, _⟩ | ⟨_, _, _, h1, ⟨e, _⟩ | ⟨e, _⟩⟩ <;> rw [e]
  · exact trivial
  · rw [List.reverse_reverse]; exact h1.ex.2
  · rw [List.reverse_reverse]; exact h1.ex

end DagRun
end EinoV.Engine
