/-
  C10 — helper lemmas about contexts user code derives inside a node
  (Model/C10Detach.lean): which handlers can be in the list of a unit below a detached context.
-/
import EinoV.Model.C10
import EinoV.Model.C10Detach
import EinoV.Proofs.C10
import EinoV.Proofs.C10Runs
import EinoV.Proofs.ListFacts

namespace EinoV.C10

/-- Nothing of what the context passed to `InitCallbacks(ctx, info, s...)` carried survives below
    it, through any chain of `AppendHandlers` / `ReuseHandlers` steps. -/
theorem spec_below_init {P : Prog} {i : Nat} {d : UnitDecl} {s : Slice}
    (hd : P.units[i]? = some d) (hk : d.kind = .init s) {j : Nat} (hb : Below P i j) :
    ∀ h ∈ spec P j, h ∈ P.arrays.read s ∨
      ∃ k dk, Below P i k ∧ k ≠ i ∧ P.units[k]? = some dk ∧ dk.kind = .append ∧ h ∈ dk.desig := by
  induction hb with
  | self =>
    intro h hh
    rw [spec_init hd hk] at hh
    exact Or.inl hh
  | @step j p dj hdj hni hp hlt hbp ih =>
    intro h hh
    have hji : j ≠ i := by
      rintro rfl
      cases hd.symm.trans hdj
      exact hni s hk
    cases hkj : dj.kind with
    | init s' => exact absurd hkj (hni s')
    | append =>
      rw [spec_append_some hdj hkj hp hlt, List.mem_append] at hh
      rcases hh with hh | hh
      · exact ih h hh
      · exact Or.inr ⟨j, dj, Below.step hdj hni hp hlt hbp, hji, hdj, hkj, hh⟩
    | reuse =>
      rw [spec_reuse_some hdj hkj hp hlt] at hh
      exact ih h hh

theorem prefix_dOpUnit {base : List UnitDecl} {acc : DAcc} (h : base <+: acc.units) (parent : Nat) (info : String)
    (prog : List Timing) (op : DOp) : base <+: (dOpUnit acc parent info prog op).units := by
  cases op <;> exact h.trans (List.prefix_append _ _)

theorem prefix_dOps {base : List UnitDecl} (key : String) (j : Nat) (inner : DInner) :
    ∀ (ops : List DOp) (acc : DAcc) (parent k : Nat), base <+: acc.units →
      base <+: (dOps key j inner acc parent k ops).1.units := by
  intro ops
  induction ops with
  | nil => intro acc parent k h; exact h
  | cons op rest ih => intro acc parent k h; exact ih _ _ _ (prefix_dOpUnit h _ _ _ _)

theorem prefix_dWork {base : List UnitDecl} (cf : CFacts) (key : String) (nodeIdx : Nat) {acc : DAcc}
    (h : base <+: acc.units) (j : Nat) (w : DWork) : base <+: (dWork cf key nodeIdx acc j w).units := by
  have h1 := prefix_dOps key j w.inner w.ops acc nodeIdx 0 h
  unfold dWork
  cases hw : w.inner with
  | fire f => simpa [hw] using h1
  | graph opts sf =>
    simp only [hw] at h1 ⊢
    exact h1.trans (List.prefix_append _ _)

theorem detProg_units (cf : CFacts) (globals : List Hd) (userInit : Option (List Hd × Nat)) (opts : List Opt) (sh : DShape) :
    (progOf cf { globals := globals, userInit := userInit, opts := opts, units := dBaseUnits sh }).units <+:
      (detProg cf globals userInit opts sh).units := by
  unfold detProg
  exact foldl_inv (fun a : DAcc => _ <+: a.units) _ _ (fun a ha kn _ =>
    foldl_inv (fun a : DAcc => _ <+: a.units) _ _ (fun a ha jw _ => prefix_dWork cf _ _ ha jw.1 jw.2) a ha)
    _ (List.prefix_refl _)

theorem unitProg_detProg (cf : CFacts) (globals : List Hd) (userInit : Option (List Hd × Nat)) (opts : List Opt) (sh : DShape)
    (k : Nat) (u : UnitSpec) (hu : (dBaseUnits sh)[k]? = some u) :
    unitProg (detProg cf globals userInit opts sh) (k + (if userInit.isSome then 1 else 0)) = kindProg cf u.kind := by
  obtain ⟨ext, he⟩ := detProg_units cf globals userInit opts sh
  obtain ⟨root, shift, h⟩ := progOf_unit cf { globals := globals, userInit := userInit, opts := opts, units := dBaseUnits sh } hu
  have h' := (List.getElem?_append_left (l₂ := ext) (List.getElem?_eq_some_iff.mp h).1).trans h
  rw [he] at h'
  exact (unitProg_of h').trans (mkUnit_prog ..)

end EinoV.C10
