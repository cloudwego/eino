/-
  C02, run level: every start is justified (`run_justified`).  A history invariant `K` over the
  channel manager — every `ready` control entry comes from a completion that routed here, every
  `skipped` entry from a skipped or deselecting predecessor, every stored value from a
  completion that routed data here, and the skip flag is coherent — preserved by every
  operation of `calcNext`; at `getFromReadyChannels` a triggered channel's entries then give
  the justification (`getReady_justified`).
-/
import EinoV.Spec.DagStatus
import EinoV.Proofs.C02Run

namespace EinoV.Engine
namespace DagRun

/-- What `cm` records is accounted for by the completions `H`.  `rdy`, `skp`, `val` trace a `ready` or `skipped`
    control entry and a stored value to a completion that routed here or deselected this node, or to a flagged
    predecessor: at `getReady` they are the justification of a start.  `dat` does so for a reported data entry (set
    in `skipOne_K`, `reportValues_stepK`): at a triggered channel every data predecessor completed or is skipped.
    `flag`, `sk` tie the skip flag to the control entries, either way (`K.ready_entry`, `flagged_step`); `nd`:
    `modChan` and `skipOne` reach the one channel of a key; `vnd`: one stored value per sender, so a triggered
    channel's values are exactly its inputs (`C02Success`, `C02Confluence`). -/
structure K {V} (r : Runner V) (H : List (Done V)) (cm : Chans V) : Prop where
  rdy : ∀ n c, (n, c) ∈ cm → ∀ p, (p, Dep.ready) ∈ c.ctrl → ∃ o, (p, o) ∈ H ∧ RoutesC r p o n
  skp : ∀ n c, (n, c) ∈ cm → ∀ p, (p, Dep.skipped) ∈ c.ctrl →
          skOf cm p = 1 ∨ ∃ o, (p, o) ∈ H ∧ Deselects r p o n
  val : ∀ n c, (n, c) ∈ cm → ∀ p v, (p, v) ∈ c.values → (p, v) ∈ H ∧ RoutesD r p v n
  flag : ∀ n c, (n, c) ∈ cm → c.ctrl ≠ [] → (∀ p d, (p, d) ∈ c.ctrl → d = Dep.skipped) → c.skipped = true
  sk : ∀ n c, (n, c) ∈ cm → SkOK c
  nd : (akeys cm).Nodup
  dat : ∀ n c, (n, c) ∈ cm → ∀ p, (p, true) ∈ c.data → (∃ o, (p, o) ∈ H) ∨ skOf cm p = 1
  vnd : ∀ n c, (n, c) ∈ cm → (akeys c.values).Nodup

theorem K_update {V} {r : Runner V} {H : List (Done V)} {cm : Chans V} (hK : K r H cm)
    (k : Key) (f : Chan V → Chan V)
    (h1 : ∀ c0, (k, c0) ∈ cm → ∀ p, (p, Dep.ready) ∈ (f c0).ctrl →
        (p, Dep.ready) ∈ c0.ctrl ∨ ∃ o, (p, o) ∈ H ∧ RoutesC r p o k)
    (h2 : ∀ c0, (k, c0) ∈ cm → ∀ p, (p, Dep.skipped) ∈ (f c0).ctrl →
        (p, Dep.skipped) ∈ c0.ctrl ∨ skOf cm p = 1 ∨ ∃ o, (p, o) ∈ H ∧ Deselects r p o k)
    (h3 : ∀ c0, (k, c0) ∈ cm → ∀ p v, (p, v) ∈ (f c0).values →
        (p, v) ∈ c0.values ∨ ((p, v) ∈ H ∧ RoutesD r p v k))
    (h4 : ∀ c0, (k, c0) ∈ cm → (f c0).ctrl ≠ [] → (∀ p d, (p, d) ∈ (f c0).ctrl → d = Dep.skipped) →
        (f c0).skipped = true)
    (h5 : ∀ c0, (k, c0) ∈ cm → SkOK (f c0))
    (h6 : ∀ c0, (k, c0) ∈ cm → c0.skipped = true → (f c0).skipped = true)
    (h7 : ∀ c0, (k, c0) ∈ cm → ∀ p, (p, true) ∈ (f c0).data →
        (p, true) ∈ c0.data ∨ (∃ o, (p, o) ∈ H) ∨ skOf cm p = 1)
    (h8 : ∀ c0, (k, c0) ∈ cm → (akeys c0.values).Nodup → (akeys (f c0).values).Nodup) :
    K r H (modChan cm k f) := by
  have mono := skOf_mono_modChan cm k f h6
  have liftS : ∀ {p n}, (skOf cm p = 1 ∨ ∃ o, (p, o) ∈ H ∧ Deselects r p o n) →
      (skOf (modChan cm k f) p = 1 ∨ ∃ o, (p, o) ∈ H ∧ Deselects r p o n) :=
    fun h => h.imp (mono _) id
  have liftD : ∀ {p}, ((∃ o, (p, o) ∈ H) ∨ skOf cm p = 1) → ((∃ o, (p, o) ∈ H) ∨ skOf (modChan cm k f) p = 1) :=
    fun h => h.imp id (mono _)
  -- clause by clause: on a channel of `k` an entry is new (`h1` … `h8`) or old, the other channels are as
  -- they were; the flags that the clauses refer to only turn on
  exact ⟨forall_mem_modChan (fun c hc p hp => (h1 c hc p hp).elim (hK.rdy _ c hc p) id) hK.rdy,
    forall_mem_modChan (fun c hc p hp => liftS ((h2 c hc p hp).elim (hK.skp _ c hc p) id))
      (fun n c hc p hp => liftS (hK.skp n c hc p hp)),
    forall_mem_modChan (fun c hc p v hp => (h3 c hc p v hp).elim (hK.val _ c hc p v) id) hK.val,
    forall_mem_modChan h4 hK.flag, forall_mem_modChan h5 hK.sk, akeys_modChan cm k f ▸ hK.nd,
    forall_mem_modChan (fun c hc p hp => liftD ((h7 c hc p hp).elim (hK.dat _ c hc p) id))
      (fun n c hc p hp => liftD (hK.dat n c hc p hp)),
    forall_mem_modChan (fun c hc => h8 c hc (hK.vnd _ c hc)) hK.vnd⟩

theorem K_mono {V} {r : Runner V} {H H' : List (Done V)} {cm : Chans V} (hK : K r H cm)
    (h : ∀ d, d ∈ H → d ∈ H') : K r H' cm := by
  refine ⟨?_, ?_, ?_, hK.flag, hK.sk, hK.nd, ?_, hK.vnd⟩
  rotate_left 3
  · intro n c hc p hp
    rcases hK.dat n c hc p hp with ⟨o, ho⟩ | h1
    · exact Or.inl ⟨o, h _ ho⟩
    · exact Or.inr h1
  · intro n c hc p hp
    obtain ⟨o, ho, hr⟩ := hK.rdy n c hc p hp
    exact ⟨o, h _ ho, hr⟩
  · intro n c hc p hp
    rcases hK.skp n c hc p hp with h1 | ⟨o, ho, hr⟩
    · exact Or.inl h1
    · exact Or.inr ⟨o, h _ ho, hr⟩
  · intro n c hc p v hp
    obtain ⟨h1, h2⟩ := hK.val n c hc p v hp
    exact ⟨h _ h1, h2⟩

def MaySkip {V} (r : Runner V) (H : List (Done V)) (cm : Chans V) (from_ s : Key) : Prop :=
  skOf cm from_ = 1 ∨ ∃ o, (from_, o) ∈ H ∧ Deselects r from_ o s

theorem skipOne_K {V} {r : Runner V} {H : List (Done V)} {cm : Chans V} (hK : K r H cm) (s from_ : Key)
    (hm : MaySkip r H cm from_ s)
    (hwf : ∀ c, (s, c) ∈ cm → from_ ∈ akeys c.ctrl ∨ from_ ∈ akeys c.data) :
    K r H (skipOne true cm s from_).1 ∧
    (∀ p, skOf cm p = 1 → skOf (skipOne true cm s from_).1 p = 1) ∧
    ((skipOne true cm s from_).2 = true → skOf (skipOne true cm s from_).1 s = 1) := by
  refine skipOne_elim hK.nd s from_ (fun _ => ⟨hK, fun _ h => h, fun h => nomatch h⟩) (fun c0 hl => ?_)
  have ok := fun c (hc : (s, c) ∈ cm) => reportSkip_skOK c from_ (hK.sk s c hc) (hwf c hc)
  refine ⟨?_, skOf_mono_modChan cm s _ fun c hc => (ok c hc).2, fun hb => ?_⟩
  · apply K_update hK s (fun c => (c.reportSkip true [from_]).1)
    · exact fun c _ p hp => (mem_reportSkip_ctrl hp).imp_right fun ⟨_, h, _⟩ => nomatch h
    · exact fun c _ p hp => (mem_reportSkip_ctrl hp).imp_right fun ⟨e, _, _⟩ => e ▸ hm
    · exact fun c _ p v hp => Or.inl (reportSkip_values true c _ ▸ hp)
    · exact fun c _ _ hall => (reportSkip_flag c from_).2.mpr hall
    · exact fun c hc => (ok c hc).1
    · exact fun c hc => (ok c hc).2
    · exact fun c _ p hp => (mem_reportSkip_data hp).imp_right fun ⟨e, _, _⟩ =>
        e ▸ hm.symm.imp (fun ⟨o, ho, _⟩ => ⟨o, ho⟩) id
    · exact fun c _ hnd => reportSkip_values true c _ ▸ hnd
  · rw [Bool.and_eq_true, (reportSkip_flag c0 from_).1] at hb
    rw [skOf_modChan_self, hl]
    simp only [hb.1, ↓reduceIte]

theorem skipOne_shapes {V} (cm : Chans V) (hnd : (akeys cm).Nodup) (s from_ : Key) :
    shapes (skipOne true cm s from_).1 = shapes cm :=
  skipOne_elim (motive := fun cm' _ => shapes cm' = shapes cm) hnd s from_ (fun _ => rfl)
    fun _ _ => shapes_modChan _ _ _ fun c _ => reportSkip_shape c from_

theorem skipFold_K {V} {r : Runner V} {H : List (Done V)} (from_ : Key) (ss : List Key)
    (acc : Chans V × List Key) (hK : K r H acc.1) (hw : ∀ s, s ∈ acc.2 → skOf acc.1 s = 1)
    (hm : skOf acc.1 from_ = 1 ∨ ∀ s, s ∈ ss → ∃ o, (from_, o) ∈ H ∧ Deselects r from_ o s)
    (hwf : ∀ cm' : Chans V, shapes cm' = shapes acc.1 → ∀ s ∈ ss, ∀ c, (s, c) ∈ cm' →
        from_ ∈ akeys c.ctrl ∨ from_ ∈ akeys c.data) :
    K r H (ss.foldl (skipStep true from_) acc).1 ∧
    (∀ p, skOf acc.1 p = 1 → skOf (ss.foldl (skipStep true from_) acc).1 p = 1) ∧
    (∀ s, s ∈ (ss.foldl (skipStep true from_) acc).2 → skOf (ss.foldl (skipStep true from_) acc).1 s = 1) ∧
    shapes (ss.foldl (skipStep true from_) acc).1 = shapes acc.1 := by
  refine foldl_inv (fun a => K r H a.1 ∧ (∀ p, skOf acc.1 p = 1 → skOf a.1 p = 1) ∧
      (∀ s, s ∈ a.2 → skOf a.1 s = 1) ∧ shapes a.1 = shapes acc.1) _ ss
    (fun a ha s hs => ?_) acc ⟨hK, fun _ h => h, hw, rfl⟩
  obtain ⟨hKa, mono, hwa, hsh⟩ := ha
  have hms : MaySkip r H a.1 from_ s := hm.imp (mono from_) (fun h => h s hs)
  obtain ⟨j1, j2, j3⟩ := skipOne_K hKa s from_ hms (hwf a.1 hsh s hs)
  rw [skipStep_eq]
  refine ⟨j1, fun p h => j2 p (mono p h), fun x hx => ?_, (skipOne_shapes a.1 hKa.nd s from_).trans hsh⟩
  split at hx
  · rename_i hb
    rcases List.mem_append.mp hx with hx | hx
    · exact j2 x (hwa x hx)
    · exact List.mem_singleton.mp hx ▸ j3 hb
  · exact j2 x (hwa x hx)

theorem propagate_K {V} {r : Runner V} {H : List (Done V)} (hd : r.dag = true) (hs : SuccOK r) :
    ∀ (fuel : Nat) (cm : Chans V) (wl : List Key), K r H cm → (∀ s, s ∈ wl → skOf cm s = 1) →
      shapes cm = shapes (initChans r) →
      (∀ cm', propagateSkips r fuel cm wl = .ok cm' →
        K r H cm' ∧ shapes cm' = shapes (initChans r) ∧ (∀ p, skOf cm p = 1 → skOf cm' p = 1)) ∧
      (∀ e, propagateSkips r fuel cm wl = .error e →
        ∃ cm'' k, K r H cm'' ∧ shapes cm'' = shapes (initChans r) ∧ skOf cm'' k = 1 ∧ r.node? k = none) := by
  intro fuel cm wl
  fun_induction propagateSkips r fuel cm wl with
  | case1 cm wl => exact fun hK _ hsh => ⟨fun cm' h => (by cases h; exact ⟨hK, hsh, fun p h => h⟩), fun e h => nomatch h⟩
  | case2 fuel cm _ => exact fun hK _ hsh => ⟨fun cm' h => (by cases h; exact ⟨hK, hsh, fun p h => h⟩), fun e h => nomatch h⟩
  | case3 fuel cm k rest hn =>
    exact fun hK hw hsh => ⟨fun cm' h => (nomatch h), fun e _ => ⟨cm, k, hK, hsh, hw k (by simp), hn⟩⟩
  | case4 fuel cm k rest n hn res ih =>
    intro hK hw hsh
    obtain ⟨hmem, hkey⟩ := node?_some r k n hn
    have hp := hkey ▸ hs n (Or.inl hmem)
    obtain ⟨j1, j2, j3, j4⟩ := skipFold_K (r := r) (H := H) k n.successors (cm, []) hK (by simp)
      (Or.inl (hw k (by simp)))
      (fun cm' h => predOK_use hp cm' (by rw [h]; exact hsh))
    rw [← hd] at j1 j2 j3 j4
    obtain ⟨i1, i2⟩ := ih j1
      (fun s hs' => (List.mem_append.mp hs').elim (fun h1 => j2 s (hw s (List.mem_cons_of_mem _ h1))) (j3 s))
      (j4.trans hsh)
    exact ⟨fun cm' h => (i1 cm' h).imp id (And.imp id fun c p hp' => c p (j2 p hp')), i2⟩

theorem reportBranch_K {V} {r : Runner V} {H : List (Done V)} (hd : r.dag = true) (hs : SuccOK r)
    (cm : Chans V) (from_ : Key) (ss : List Key)
    (hp : PredOK (shapes (initChans r)) from_ ss)
    (hm : ∀ s, s ∈ ss → ∃ o, (from_, o) ∈ H ∧ Deselects r from_ o s)
    (hK : K r H cm) (hsh : shapes cm = shapes (initChans r)) :
    (∀ cm', reportBranch r cm from_ ss = .ok cm' →
      K r H cm' ∧ shapes cm' = shapes (initChans r) ∧ (∀ p, skOf cm p = 1 → skOf cm' p = 1)) ∧
    (∀ e, reportBranch r cm from_ ss = .error e →
      ∃ cm'' k, K r H cm'' ∧ shapes cm'' = shapes (initChans r) ∧ skOf cm'' k = 1 ∧ r.node? k = none) := by
  unfold reportBranch
  simp only [hd]
  obtain ⟨j1, j2, j3, j4⟩ := skipFold_K (r := r) (H := H) from_ ss (cm, []) hK (by simp) (Or.inr hm)
    (fun cm' h => predOK_use hp cm' (by rw [h]; exact hsh))
  obtain ⟨i1, i2⟩ := propagate_K hd hs ((r.nodes.length + 2) * (r.nodes.length + 2)) _ _ j1 j3
    (by rw [j4]; exact hsh)
  refine ⟨fun cm' h => ?_, i2⟩
  obtain ⟨a, b, c⟩ := i1 cm' h
  exact ⟨a, b, fun p hp' => c p (j2 p hp')⟩

def WritesK {V} (r : Runner V) (H : List (Done V)) : List (Key × List (Key × V)) → Prop :=
  WritesAll fun to p v => (p, v) ∈ H ∧
    ∃ nd, r.call? p = some nd ∧ (to ∈ nd.writeTo ∨ ∃ sel, selectOf nd v = .ok sel ∧ to ∈ sel)

def DepsK {V} (r : Runner V) (H : List (Done V)) : List (Key × List Key) → Prop :=
  DepsAll fun to p => ∃ o, (p, o) ∈ H ∧ RoutesC r p o to

/-- `K` along `resolve`: the writes and dependency reports gathered so far (`ws`, `ds`) also come from completions
    in `H` whose node routes to their target, which is what `updateValues` and `updateDeps` need to keep `K`;
    `sh`: the channels still have the predecessor keys `initChans` gave them. -/
structure RK {V} (r : Runner V) (H : List (Done V)) (acc : Resolved V) : Prop where
  k : K r H acc.cm
  sh : shapes acc.cm = shapes (initChans r)
  ws : WritesK r H acc.writes
  ds : DepsK r H acc.deps

theorem resolveStep_K {V} {H : List (Done V)} (r : Runner V) (hd : r.dag = true) (hs : SuccOK r)
    (hk : r.start.key = START) (acc acc' : Resolved V) (t : Done V) (ht : t ∈ H)
    (hi : RK r H acc) (h : resolveStep r acc t = .ok acc') :
    RK r H acc' ∧ (∀ p, skOf acc.cm p = 1 → skOf acc'.cm p = 1) := by
  rcases resolveStep_ok h with ⟨_, rfl⟩ | ⟨n, selected, cm1, hc, h1, h2, rfl⟩
  · exact ⟨hi, fun p h => h⟩
  · obtain ⟨hn, hkey⟩ := call?_some r hk t.1 n hc
    have hT : (t.1, t.2) ∈ H := ht
    obtain ⟨j1, j2, j3⟩ := (reportBranch_K (r := r) (H := H) hd hs acc.cm n.key (skippedOf n selected)
      (fun s hs' => hs n hn s (skippedOf_sub n selected s hs'))
      (fun s hs' => ⟨t.2, by rw [hkey]; exact hT, n, selected, by rw [hkey]; exact hc, h1, hs'⟩)
      hi.k hi.sh).1 cm1 h2
    refine ⟨⟨j1, j2, foldl_addWrite_all t.1 t.2 _ (fun to hto => ⟨hT, n, hc, ?_⟩) _ hi.ws,
      foldl_addDep_all t.1 _ (fun to hto => ⟨t.2, hT, n, hc, Or.inr ⟨selected, h1, hto⟩⟩) _
        (foldl_addDep_all t.1 _ (fun to hto => ⟨t.2, hT, n, hc, Or.inl hto⟩) _ hi.ds)⟩, j3⟩
    exact (List.mem_append.mp hto).elim (fun h => Or.inr ⟨selected, h1, h⟩) Or.inl

theorem resolve_K {V} {H : List (Done V)} (r : Runner V) (hd : r.dag = true) (hs : SuccOK r)
    (hk : r.start.key = START) (done : List (Done V)) (hdone : ∀ t, t ∈ done → t ∈ H)
    (acc acc' : Resolved V) (hi : RK r H acc)
    (h : done.foldlM (resolveStep r) acc = .ok acc') :
    RK r H acc' ∧ (∀ p, skOf acc.cm p = 1 → skOf acc'.cm p = 1) :=
  foldlM_inv_mem (resolveStep r) (fun a => RK r H a ∧ ∀ p, skOf acc.cm p = 1 → skOf a.cm p = 1) done
    (fun a t ht a' ha hst =>
      let ⟨a1, a2⟩ := resolveStep_K r hd hs hk a a' t (hdone t ht) ha.1 hst
      ⟨a1, fun p hp => a2 p (ha.2 p hp)⟩)
    acc acc' ⟨hi, fun _ hp => hp⟩ h

/-- what one report to channel `n` may do for `K` to survive -/
structure StepK {V} (r : Runner V) (H : List (Done V)) (n : Key) (c c' : Chan V) : Prop where
  shape : shapeOf c' = shapeOf c
  sk : c'.skipped = c.skipped
  skok : SkOK c → SkOK c'
  rdy : ∀ p, (p, Dep.ready) ∈ c'.ctrl → (p, Dep.ready) ∈ c.ctrl ∨ ∃ o, (p, o) ∈ H ∧ RoutesC r p o n
  skp : ∀ p, (p, Dep.skipped) ∈ c'.ctrl → (p, Dep.skipped) ∈ c.ctrl
  val : ∀ p v, (p, v) ∈ c'.values → (p, v) ∈ c.values ∨ ((p, v) ∈ H ∧ RoutesD r p v n)
  all : (∀ p d, (p, d) ∈ c'.ctrl → d = Dep.skipped) → ∀ p d, (p, d) ∈ c.ctrl → d = Dep.skipped
  dat : ∀ p, (p, true) ∈ c'.data → (p, true) ∈ c.data ∨ ∃ o, (p, o) ∈ H
  vnd : (akeys c.values).Nodup → (akeys c'.values).Nodup

theorem StepK.refl {V} (r : Runner V) (H : List (Done V)) (n : Key) (c : Chan V) : StepK r H n c c :=
  ⟨rfl, rfl, id, fun _ h => Or.inl h, fun _ h => h, fun _ _ h => Or.inl h, id, fun _ h => Or.inl h, id⟩

theorem foldl_modChan_K {V α} {r : Runner V} {H : List (Done V)} (key : α → Key) (f : α → Chan V → Chan V)
    (l : List α) (hf : ∀ w, w ∈ l → ∀ c : Chan V, StepK r H (key w) c (f w c)) (cm : Chans V) (hK : K r H cm) :
    K r H (l.foldl (fun cm w => modChan cm (key w) (f w)) cm) ∧
    shapes (l.foldl (fun cm w => modChan cm (key w) (f w)) cm) = shapes cm := by
  refine foldl_inv (fun cm' => K r H cm' ∧ shapes cm' = shapes cm) _ l (fun cm' h w hw => ?_) cm ⟨hK, rfl⟩
  have k := hf w hw
  refine ⟨?_, (shapes_modChan _ _ _ (fun c _ => (k c).shape)).trans h.2⟩
  exact K_update h.1 (key w) (f w) (fun c _ => (k c).rdy) (fun c _ p hp => Or.inl ((k c).skp p hp))
    (fun c _ => (k c).val)
    (fun c hc hne hall => by
      rw [(k c).sk]
      refine h.1.flag _ c hc (fun hnil => hne ?_) ((k c).all hall)
      have := congrArg Prod.fst (k c).shape
      simp only [shapeOf, hnil] at this
      exact List.map_eq_nil_iff.mp this)
    (fun c hc => (k c).skok (h.1.sk _ _ hc)) (fun c _ h => (k c).sk.trans h)
    (fun c _ p hp => ((k c).dat p hp).imp_right Or.inl) (fun c _ => (k c).vnd)

theorem reportValues_stepK {V} {r : Runner V} {H : List (Done V)} {n : Key} (c : Chan V) (ins : List (Key × V))
    (hins : ∀ p v, (p, v) ∈ ins → (p, v) ∈ H ∧ RoutesD r p v n) : StepK r H n c (c.reportValues true ins) := by
  rw [reportValues_markAll]
  by_cases hs : c.skipped = true
  · rw [if_pos hs]; exact StepK.refl r H n c
  · rw [if_neg hs]
    refine ⟨by simp only [shapeOf, akeys_markAll], rfl, fun _ => .of_not_skipped ((Bool.not_eq_true _).mp hs),
      fun _ h => Or.inl h, fun _ h => h,
      fun p v h => (Interrupt.PregelFold.mem_asets h).imp_right (fun h => hins p v (List.mem_filter.mp h).1),
      id, fun p h => ?_, Interrupt.PregelFold.nodup_akeys_asets _ _⟩
    refine (mem_markAll h).imp_right (fun h => ?_)
    obtain ⟨v, hv⟩ := exists_of_mem_akeys _ _ h.2.1
    exact ⟨v, (hins p v hv).1⟩

theorem reportDeps_stepK {V} {r : Runner V} {H : List (Done V)} {n : Key} (c : Chan V) (ins : List Key)
    (hins : ∀ p, p ∈ ins → ∃ o, (p, o) ∈ H ∧ RoutesC r p o n) : StepK r H n c (c.reportDeps true ins) := by
  rw [reportDeps_markAll]
  by_cases hs : c.skipped = true
  · rw [if_pos hs]; exact StepK.refl r H n c
  · rw [if_neg hs]
    refine ⟨by simp only [shapeOf, akeys_markAll], rfl, fun _ => .of_not_skipped ((Bool.not_eq_true _).mp hs),
      fun p h => (mem_markAll h).imp_right (fun h => hins p h.2.1),
      fun p h => (mem_markAll h).elim id (fun h => nomatch h.1), fun _ _ h => Or.inl h, fun hall p d h => ?_,
      fun _ h => Or.inl h, id⟩
    -- an entry of `c` is still there or has become `ready`, which `hall` excludes
    rcases markAll_keep (ks := ins) (v := Dep.ready) h with h | h
    · exact hall p d h
    · cases hall p _ h

theorem updateValues_K {V} {H : List (Done V)} (r : Runner V) (hd : r.dag = true)
    (writes : List (Key × List (Key × V))) (hw : WritesK r H writes) (cm : Chans V)
    (hK : K r H cm) (hsh : shapes cm = shapes (initChans r)) :
    K r H (updateValues r cm writes) ∧ shapes (updateValues r cm writes) = shapes (initChans r) ∧
    (∀ p, skOf (updateValues r cm writes) p = skOf cm p) := by
  obtain ⟨a, b⟩ := foldl_modChan_K (fun w : Key × List (Key × V) => w.1)
    (fun w c => c.reportValues r.dag (w.2.filter (fun kv => (lookupList w.1 r.dataPreds).contains kv.1))) writes
    (fun w hm c => by
      rw [hd]
      refine reportValues_stepK c _ (fun p v hp => ?_)
      obtain ⟨h1, h2⟩ := List.mem_filter.mp hp
      obtain ⟨a, nd, b, c⟩ := hw w.1 w.2 hm p v h1
      exact ⟨a, nd, b, c, by simpa using h2⟩) cm hK
  exact ⟨a, b.trans hsh, updateValues_skOf r hd writes cm⟩

theorem updateDeps_K {V} {H : List (Done V)} (r : Runner V) (hd : r.dag = true)
    (deps : List (Key × List Key)) (hw : DepsK r H deps) (cm : Chans V)
    (hK : K r H cm) (hsh : shapes cm = shapes (initChans r)) :
    K r H (updateDeps r cm deps) ∧ shapes (updateDeps r cm deps) = shapes (initChans r) ∧
    (∀ p, skOf (updateDeps r cm deps) p = skOf cm p) := by
  obtain ⟨a, b⟩ := foldl_modChan_K (fun w : Key × List Key => w.1)
    (fun w c => c.reportDeps r.dag (w.2.filter (lookupList w.1 r.ctrlPreds).contains)) deps
    (fun w hm c => by
      rw [hd]
      exact reportDeps_stepK c _ (fun p hp => hw w.1 w.2 hm p (List.mem_filter.mp hp).1)) cm hK
  exact ⟨a, b.trans hsh, updateDeps_skOf r hd deps cm⟩

theorem SkippedIn.mono {V} {r : Runner V} {H H' : List (Done V)} (hh : ∀ d, d ∈ H → d ∈ H') {n : Key}
    (h : SkippedIn r H n) : SkippedIn r H' n := by
  induction h with
  | intro n _ ih =>
    refine SkippedIn.intro n (fun p hp hnd => ih p hp (fun ⟨o, ho, hd⟩ => hnd ⟨o, hh _ ho, hd⟩))

theorem Justified.mono {V} {ops : ValOps V} {r : Runner V} {H H' : List (Done V)} (hh : ∀ d, d ∈ H → d ∈ H')
    {n : Key} {v : V} (h : Justified ops r H n v) : Justified ops r H' n v := by
  obtain ⟨h1, h2, vals, h3, h4⟩ := h
  refine ⟨fun p hp => ?_, fun hne => ?_, vals, fun p w hw => ?_, h4⟩
  · rcases h1 p hp with ⟨o, ho, hr⟩ | hs | ⟨o, ho, hr⟩
    · exact Or.inl ⟨o, hh _ ho, hr⟩
    · exact Or.inr (Or.inl (hs.mono hh))
    · exact Or.inr (Or.inr ⟨o, hh _ ho, hr⟩)
  · obtain ⟨p, hp, o, ho, hr⟩ := h2 hne
    exact ⟨p, hp, o, hh _ ho, hr⟩
  · obtain ⟨a, b⟩ := h3 p w hw
    exact ⟨hh _ a, b⟩

theorem chan_keys {V} (r : Runner V) (hd : r.dag = true) (cm : Chans V)
    (hsh : shapes cm = shapes (initChans r)) (n : Key) (c : Chan V) (hc : (n, c) ∈ cm) :
    akeys c.ctrl = (lookupList n r.ctrlPreds).eraseDups ∧
    akeys c.data = (lookupList n r.dataPreds).eraseDups :=
  shape_initChans r hd n _ _ (hsh ▸ shapes_mem cm n c hc)

theorem chan_ctrl_keys {V} (r : Runner V) (hd : r.dag = true) (cm : Chans V)
    (hsh : shapes cm = shapes (initChans r)) (n : Key) (c : Chan V) (hc : (n, c) ∈ cm) :
    ∀ p, p ∈ lookupList n r.ctrlPreds ↔ p ∈ akeys c.ctrl := fun p => by
  rw [(chan_keys r hd cm hsh n c hc).1, List.mem_eraseDups]

theorem chan_data_keys {V} (r : Runner V) (hd : r.dag = true) (cm : Chans V)
    (hsh : shapes cm = shapes (initChans r)) (n : Key) (c : Chan V) (hc : (n, c) ∈ cm) :
    ∀ p, p ∈ lookupList n r.dataPreds ↔ p ∈ akeys c.data := fun p => by
  rw [(chan_keys r hd cm hsh n c hc).2, List.mem_eraseDups]

theorem chan_ctrl_nil {V} (r : Runner V) (hd : r.dag = true) (cm : Chans V)
    (hsh : shapes cm = shapes (initChans r)) (n : Key) (c : Chan V) (hc : (n, c) ∈ cm) :
    c.ctrl = [] ↔ lookupList n r.ctrlPreds = [] := by
  rw [← List.map_eq_nil_iff (f := Prod.fst), List.eq_nil_iff_forall_not_mem, List.eq_nil_iff_forall_not_mem]
  exact forall_congr' fun p => not_congr (chan_ctrl_keys r hd cm hsh n c hc p).symm

/-- a triggered channel with control entries has a `ready` one: none is `waiting`, and were all
    `skipped` the flag would be on -/
theorem K.ready_entry {V} {r : Runner V} {H : List (Done V)} {cm : Chans V} (hK : K r H cm) {n : Key} {c : Chan V}
    (hc : (n, c) ∈ cm) (ht : c.triggered = true) (hne : c.ctrl ≠ []) : ∃ p, (p, Dep.ready) ∈ c.ctrl := by
  obtain ⟨t0, _, t1, _⟩ := triggered_unpack c ht
  apply Classical.byContradiction
  intro hno
  have hall : ∀ p d, (p, d) ∈ c.ctrl → d = Dep.skipped := by
    intro p d hm
    cases d with
    | waiting => exact absurd (t1 p _ hm) (by decide)
    | skipped => rfl
    | ready => exact absurd ⟨p, hm⟩ hno
  have := hK.flag n c hc hne hall
  rw [t0] at this; cases this

theorem flagged_step {V} {r : Runner V} {H : List (Done V)} (hd : r.dag = true) (cm : Chans V) (hK : K r H cm)
    (hsh : shapes cm = shapes (initChans r)) {n : Key} (hs : skOf cm n = 1) :
    ∃ c, (n, c) ∈ cm ∧ c.skipped = true ∧
      ∀ p, p ∈ lookupList n r.ctrlPreds → p ∈ akeys c.ctrl ∧
        ((∃ o, (p, o) ∈ H ∧ Deselects r p o n) ∨ skOf cm p = 1) := by
  obtain ⟨c, hl, hsk⟩ := skOf_eq_one.mp hs
  have hc := mem_of_alookup _ _ _ hl
  refine ⟨c, hc, hsk, fun p hp => ?_⟩
  have hpk := (chan_ctrl_keys r hd cm hsh n c hc p).mp hp
  obtain ⟨d, hdm⟩ := exists_of_mem_akeys _ _ hpk
  obtain rfl := (hK.sk n c hc).all hsk p d hdm
  exact ⟨hpk, (hK.skp n c hc p hdm).symm⟩

theorem skOf_skippedIn {V} {r : Runner V} {H : List (Done V)} (hd : r.dag = true) (cm : Chans V) (hK : K r H cm)
    (hsh : shapes cm = shapes (initChans r)) (rank : Key → Nat)
    (hrank : ∀ n cs ds, (n, cs, ds) ∈ shapes (initChans r) → ∀ p, p ∈ cs ∨ p ∈ ds → rank p < rank n) :
    ∀ n, skOf cm n = 1 → SkippedIn r H n := by
  intro n
  induction hr : rank n using Nat.strongRecOn generalizing n with
  | _ m ih =>
    intro hs
    obtain ⟨c, hc, _, hpre⟩ := flagged_step hd cm hK hsh hs
    refine SkippedIn.intro n (fun p hp hnd => ?_)
    obtain ⟨hpk, h⟩ := hpre p hp
    have hlt : rank p < rank n := hrank n _ _ (hsh ▸ shapes_mem cm n c hc) p (Or.inl hpk)
    exact ih (rank p) (hr ▸ hlt) p rfl (h.resolve_left hnd)

theorem getReady_K {V} {r : Runner V} {H : List (Done V)} (ops : ValOps V) (cm : Chans V) (hK : K r H cm) :
    K r H (getReady ops true cm).1 := by
  have sk := fun p => (getReady_skOf ops cm p).symm
  -- a triggered channel is reset: nothing is reported on it, nothing stored, and it is not flagged
  have blank := fun c : Chan V => (reset_facts c).2.2
  refine ⟨forall_mem_getReady ops (fun _ c _ _ p hp => nomatch (blank c).1 p _ hp) (fun n c hc _ => hK.rdy n c hc),
    forall_mem_getReady ops (fun _ c _ _ p hp => nomatch (blank c).1 p _ hp)
      (fun n c hc _ p hp => sk p ▸ hK.skp n c hc p hp),
    forall_mem_getReady ops (fun _ _ _ _ _ _ hp => nomatch hp) (fun n c hc _ => hK.val n c hc),
    forall_mem_getReady ops (fun _ c _ _ hne hall => ?_) (fun n c hc _ => hK.flag n c hc),
    forall_mem_getReady ops (fun _ _ _ ht => reset_skOK ht) (fun n c hc _ => hK.sk n c hc),
    akeys_getReady ops true cm ▸ hK.nd,
    forall_mem_getReady ops (fun _ c _ _ p hp => nomatch (blank c).2 p _ hp)
      (fun n c hc _ p hp => sk p ▸ hK.dat n c hc p hp),
    forall_mem_getReady ops (fun _ _ _ _ => List.nodup_nil) (fun n c hc _ => hK.vnd n c hc)⟩
  -- flag coherence of a reset channel: its control entries are `waiting`, so not all `skipped`
  obtain ⟨⟨p, d⟩, t, e⟩ := List.exists_cons_of_ne_nil hne
  have hm : (p, d) ∈ c.reset.ctrl := e ▸ List.mem_cons_self
  exact nomatch ((blank c).1 p d hm).symm.trans (hall p d hm)

theorem getReady_justified {V} {r : Runner V} {H : List (Done V)} (ops : ValOps V) (hd : r.dag = true)
    (cm : Chans V) (hK : K r H cm) (hsh : shapes cm = shapes (initChans r)) (rank : Key → Nat)
    (hrank : ∀ n cs ds, (n, cs, ds) ∈ shapes (initChans r) → ∀ p, p ∈ cs ∨ p ∈ ds → rank p < rank n) :
    ∀ n v, (n, v) ∈ (getReady ops true cm).2.1 → Justified ops r H n v := by
  intro n v hnv
  obtain ⟨c, hc, ht, hg⟩ := getReady_src ops cm n v hnv
  have t1 := (triggered_unpack c ht).2.2.1
  have keys := chan_ctrl_keys r hd cm hsh n c hc
  refine ⟨fun p hp => ?_, fun hne => ?_, c.values, fun p w hw => hK.val n c hc p w hw, ?_⟩
  · obtain ⟨d, hdm⟩ := exists_of_mem_akeys _ _ ((keys p).mp hp)
    have hpend := t1 p d hdm
    cases d with
    | waiting => simp [pendC] at hpend
    | ready => exact Or.inl (hK.rdy n c hc p hdm)
    | skipped =>
      rcases hK.skp n c hc p hdm with h | h
      · exact Or.inr (Or.inl (skOf_skippedIn hd cm hK hsh rank hrank p h))
      · exact Or.inr (Or.inr h)
  · obtain ⟨p, hm⟩ := hK.ready_entry hc ht (mt (chan_ctrl_nil r hd cm hsh n c hc).mp hne)
    exact ⟨p, (keys p).mpr (mem_akeys_of_mem p _ _ hm), hK.rdy n c hc p hm⟩
  · exact get_ready ops c ht hg

theorem pre_K {V} {H : List (Done V)} (r : Runner V) (hd : r.dag = true) (hs : SuccOK r) (hk : r.start.key = START)
    (cm : Chans V) (done : List (Done V)) (res : Resolved V)
    (hK : K r H cm) (hsh : shapes cm = shapes (initChans r)) (hdone : ∀ t, t ∈ done → t ∈ H)
    (h1 : resolve r cm done = .ok res) :
    K r H (preChans r res) ∧ shapes (preChans r res) = shapes (initChans r) := by
  obtain ⟨hr, _⟩ := resolve_K r hd hs hk done hdone { cm := cm, writes := [], deps := [] } res
    ⟨hK, hsh, fun _ _ hm => (nomatch hm), fun _ _ hm => (nomatch hm)⟩ h1
  obtain ⟨u1, u2, _⟩ := updateValues_K r hd res.writes hr.ws res.cm hr.k hr.sh
  obtain ⟨v1, v2, _⟩ := updateDeps_K r hd res.deps hr.ds _ u1 u2
  exact ⟨v1, v2⟩

theorem calcNext_K {V} {H : List (Done V)} (ops : ValOps V) (r : Runner V) (hd : r.dag = true) (hs : SuccOK r)
    (hk : r.start.key = START) (rank : Key → Nat)
    (hrank : ∀ n cs ds, (n, cs, ds) ∈ shapes (initChans r) → ∀ p, p ∈ cs ∨ p ∈ ds → rank p < rank n)
    (cm cm' : Chans V) (done : List (Done V)) (nx : Next V)
    (hK : K r H cm) (hsh : shapes cm = shapes (initChans r)) (hdone : ∀ t, t ∈ done → t ∈ H)
    (h : calcNext ops r cm done = .ok (cm', nx)) :
    K r H cm' ∧ shapes cm' = shapes (initChans r) ∧
    ((∃ v, nx = .result v ∧ Justified ops r H END v) ∨
     (∃ ts, nx = .tasks ts ∧ ∀ n v, (n, v) ∈ ts → Justified ops r H n v)) := by
  obtain ⟨res, ready, h1, hg, hnx⟩ := calcNext_ok hd h
  obtain ⟨v1, v2⟩ := pre_K r hd hs hk cm done res hK hsh hdone h1
  have g1 := getReady_K ops _ v1
  have g2 := getReady_justified ops hd _ v1 v2 rank hrank
  have gsh := getReady_shapes ops (preChans r res)
  rw [hg] at g1 g2 gsh
  refine ⟨g1, gsh.trans v2, ?_⟩
  rcases hnx with ⟨v, hv, rfl⟩ | ⟨_, rfl⟩
  · exact Or.inl ⟨v, rfl, g2 END v (mem_of_alookup _ _ _ hv)⟩
  · exact Or.inr ⟨ready, rfl, g2⟩

theorem outOf_eq_some_iff {V} {r : Runner V} {t : Key × V} {d : Done V} :
    outOf r t = some d ↔ collectOne (execOne r t) = .ok d := by
  unfold outOf
  cases collectOne (execOne r t) <;> simp

theorem mem_histOf_nil {V} {r : Runner V} {x : V} {p : Key} {o : V} :
    (p, o) ∈ histOf r x [] ↔ p = START ∧ o = x := by
  simp [histOf]

theorem histOf_nil_functional {V} {r : Runner V} {x : V} {p : Key} {o o' : V}
    (h : (p, o) ∈ histOf r x []) (h' : (p, o') ∈ histOf r x []) : o = o' :=
  (mem_histOf_nil.mp h).2.trans (mem_histOf_nil.mp h').2.symm

theorem histOf_mem {V} (r : Runner V) (x : V) (T : Trace V) (d : Done V) :
    d ∈ histOf r x T ↔ d = (START, x) ∨ ∃ t, t ∈ T.flatten ∧ outOf r t = some d := by
  simp only [histOf, List.mem_cons, List.mem_filterMap]

theorem mem_histOf_cons {V} (r : Runner V) (x : V) (step : List (Key × V)) (older : Trace V) (d : Done V) :
    d ∈ histOf r x (step :: older) ↔ d ∈ histOf r x older ∨ ∃ t, t ∈ step ∧ outOf r t = some d := by
  simp only [histOf, List.mem_cons, List.flatten_cons, List.filterMap_append, List.mem_append, List.mem_filterMap]
  constructor
  · rintro (h | h | h)
    · exact Or.inl (Or.inl h)
    · exact Or.inr h
    · exact Or.inl (Or.inr h)
  · rintro ((h | h) | h)
    · exact Or.inl h
    · exact Or.inr (Or.inr h)
    · exact Or.inr (Or.inl h)

theorem start_mem_histOf {V} (r : Runner V) (x : V) (L : Trace V) :
    ∀ t, t ∈ [((START, x) : Done V)] → t ∈ histOf r x L :=
  fun _ ht => List.mem_singleton.mp ht ▸ List.mem_cons_self

theorem start_callable {V} (r : Runner V) (x : V) :
    ∀ t, t ∈ [((START, x) : Done V)] → (r.call? t.1).isSome = true :=
  fun _ ht => List.mem_singleton.mp ht ▸ by simp [Runner.call?]

theorem histOf_mono {V} (r : Runner V) (x : V) (step : List (Key × V)) (older : Trace V) :
    ∀ d, d ∈ histOf r x older → d ∈ histOf r x (step :: older) :=
  fun d hd => (mem_histOf_cons r x step older d).mpr (Or.inl hd)

theorem runTasks_mem {V} (r : Runner V) (sched : Sched V) (hf : sched.Fair) (step : Nat)
    (ts : List (Key × V)) (done : List (Done V)) (h : runTasks r sched step ts = .ok done) :
    ∀ d, d ∈ done → ∃ t, t ∈ ts ∧ outOf r t = some d := by
  unfold runTasks at h
  intro d hd
  obtain ⟨e, he, hc⟩ := mapM_mem_ok collectOne _ _ h d hd
  have : e ∈ ts.map (execOne r) := (hf step _).subset he
  obtain ⟨t, ht, rfl⟩ := List.mem_map.mp this
  exact ⟨t, ht, outOf_eq_some_iff.mpr hc⟩

theorem runTasks_out {V} (r : Runner V) (sched : Sched V) (hf : sched.Fair) (step : Nat)
    (ts : List (Key × V)) (done : List (Done V)) (h : runTasks r sched step ts = .ok done) :
    ∀ t, t ∈ ts → ∃ d, d ∈ done ∧ outOf r t = some d := by
  unfold runTasks at h
  intro t ht
  have hm : execOne r t ∈ sched step (ts.map (execOne r)) :=
    (hf step _).symm.subset (List.mem_map.mpr ⟨t, ht, rfl⟩)
  obtain ⟨d, h1, h2⟩ := mapM_ok_of_mem collectOne _ _ h _ hm
  exact ⟨d, h1, outOf_eq_some_iff.mpr h2⟩

theorem runTasks_all {V} (r : Runner V) (sched : Sched V) (hf : sched.Fair) (step : Nat)
    (ts : List (Key × V)) (done : List (Done V)) (h : runTasks r sched step ts = .ok done) :
    ∀ t, t ∈ ts → ∀ d, outOf r t = some d → d ∈ done := by
  intro t ht d ho
  obtain ⟨d', h1, h2⟩ := runTasks_out r sched hf step ts done h t ht
  exact Option.some.inj (h2.symm.trans ho) ▸ h1

theorem histOf_runTasks {V} (r : Runner V) (sched : Sched V) (hf : sched.Fair) (x : V) (tasks : List (Key × V))
    (tr : Trace V) (done : List (Done V)) (hr : runTasks r sched tr.length tasks = .ok done) :
    (∀ t, t ∈ done → t ∈ histOf r x (tasks :: tr)) ∧
    (∀ p o, (p, o) ∈ histOf r x (tasks :: tr) → (p, o) ∈ histOf r x tr ∨ (p, o) ∈ done) ∧
    (∀ t, t ∈ done → ∃ t', t' ∈ tasks ∧ t'.1 = t.1) := by
  refine ⟨fun d hd => (mem_histOf_cons r x tasks tr d).mpr (Or.inr (runTasks_mem r sched hf _ _ _ hr d hd)),
    fun p o hm => ((mem_histOf_cons r x tasks tr _).mp hm).imp_right fun ⟨t, ht, ho⟩ =>
      runTasks_all r sched hf _ _ _ hr t ht (p, o) ho,
    fun t ht => List.mem_map.mp ((runTasks_keys r sched hf _ _ _ hr).subset (List.mem_map.mpr ⟨t, ht, rfl⟩))⟩

structure KInv {V} (ops : ValOps V) (r : Runner V) (x : V) (cm : Chans V) (tasks : List (Key × V)) (tr : Trace V) : Prop where
  k : K r (histOf r x tr) cm
  sh : shapes cm = shapes (initChans r)
  just : JustTr ops r x (tasks :: tr)

theorem KInv_round {V} (ops : ValOps V) (r : Runner V) (wf : DagWF r) (sched : Sched V) (hf : sched.Fair) (x : V)
    (cm cm' : Chans V) (tasks : List (Key × V)) (tr : Trace V) (done : List (Done V)) (nx : Next V)
    (h : KInv ops r x cm tasks tr) (hr : runTasks r sched tr.length tasks = .ok done)
    (hc : calcNext ops r cm done = .ok (cm', nx)) :
    (∃ v, nx = .result v ∧ Justified ops r (histOf r x (tasks :: tr)) END v) ∨
    (∃ ts, nx = .tasks ts ∧ KInv ops r x cm' ts (tasks :: tr)) := by
  obtain ⟨rank, hrank⟩ := wf.acyclic
  have hK' : K r (histOf r x (tasks :: tr)) cm := K_mono h.k (histOf_mono r x tasks tr)
  have hdone := (histOf_runTasks r sched hf x tasks tr done hr).1
  obtain ⟨j1, j2, j3⟩ := calcNext_K ops r wf.dag wf.succ wf.startKey rank hrank cm cm' done _ hK' h.sh hdone hc
  exact j3.imp id (fun ⟨ts, hts, hj⟩ => ⟨ts, hts, j1, j2, hj, h.just⟩)

theorem KInv_step {V} (ops : ValOps V) (r : Runner V) (wf : DagWF r) (sched : Sched V) (hf : sched.Fair) (x : V)
    (cm cm' : Chans V) (tasks ts : List (Key × V)) (tr : Trace V) (done : List (Done V))
    (h : KInv ops r x cm tasks tr) (hr : runTasks r sched tr.length tasks = .ok done)
    (hc : calcNext ops r cm done = .ok (cm', .tasks ts)) : KInv ops r x cm' ts (tasks :: tr) := by
  rcases KInv_round ops r wf sched hf x cm cm' tasks tr done _ h hr hc with ⟨v, hv, _⟩ | ⟨ts', hts, hk⟩
  · cases hv
  · cases hts; exact hk

theorem loop_justified {V} (ops : ValOps V) (r : Runner V) (wf : DagWF r) (sched : Sched V) (hf : sched.Fair) (x : V) :
    ∀ (fuel : Nat) (cm : Chans V) (tasks : List (Key × V)) (tr : Trace V), KInv ops r x cm tasks tr →
      JustTr ops r x (loop ops r sched fuel cm tasks tr).trace.reverse ∧
      (∀ v, (loop ops r sched fuel cm tasks tr).result = .ok v →
        Justified ops r (histOf r x (loop ops r sched fuel cm tasks tr).trace.reverse) END v) := by
  intro fuel cm tasks tr h
  obtain ⟨cm1, tasks1, tr1, h1, ⟨e, hno⟩ | ⟨e, hres⟩⟩ := loop_stops ops r sched (KInv ops r x)
    (fun cm cm' tasks tr done ts => KInv_step ops r wf sched hf x cm cm' tasks ts tr done) fuel cm tasks tr h
  · rw [e, List.reverse_reverse]; exact ⟨h1.just.2, fun v hv => absurd hv (hno v)⟩
  · rw [e, List.reverse_reverse]
    refine ⟨h1.just, fun v hv => ?_⟩
    obtain ⟨done, cm2, hr, hc⟩ := hres v hv
    rcases KInv_round ops r wf sched hf x cm1 cm2 tasks1 tr1 done _ h1 hr hc with ⟨w, hw, hj⟩ | ⟨ts, hts, _⟩
    · cases hw; exact hj
    · cases hts

theorem init_K {V} (r : Runner V) (hd : r.dag = true) (hnd : (akeys (initChans r)).Nodup) (H : List (Done V)) :
    K r H (initChans r) := by
  refine ⟨?_, ?_, ?_, ?_, ?_, hnd, ?_, ?_⟩
  rotate_left 5
  · intro n c hm p hp
    cases (initChans_mem r hd hm).2.1 p _ hp
  · intro n c hm
    rw [(initChans_mem r hd hm).2.2.1]; exact List.nodup_nil
  · intro n c hm p hp
    cases (initChans_mem r hd hm).1 p _ hp
  · intro n c hm p hp
    cases (initChans_mem r hd hm).1 p _ hp
  · intro n c hm p v hp
    rw [(initChans_mem r hd hm).2.2.1] at hp; cases hp
  · intro n c hm hne hall
    cases hcc : c.ctrl with
    | nil => exact absurd hcc hne
    | cons a b =>
      have hm' : (a.1, a.2) ∈ c.ctrl := by rw [hcc]; simp
      cases ((initChans_mem r hd hm).1 a.1 a.2 hm').symm.trans (hall a.1 a.2 hm')
  · exact fun n c hm => .of_not_skipped (initChans_mem r hd hm).2.2.2

/-- **every start is justified, and so is the result.**  In a run of a well-formed acyclic
    all-predecessor runner, under any fair completion schedule: every task of every step is
    justified by the completions of the older steps, and a returned value is END's justified
    input. -/
theorem run_justified {V} (ops : ValOps V) (r : Runner V) (wf : DagWF r) (sched : Sched V) (hf : sched.Fair) (x : V) :
    JustTr ops r x (runS ops r sched x).trace.reverse ∧
    (∀ v, (runS ops r sched x).result = .ok v →
      Justified ops r (histOf r x (runS ops r sched x).trace.reverse) END v) := by
  obtain ⟨rank, hrank⟩ := wf.acyclic
  unfold runS
  cases hc : calcNext ops r (initChans r) [(START, x)] with
  | error e => exact ⟨trivial, fun v hv => by simp at hv⟩
  | ok res =>
    obtain ⟨cm', nx⟩ := res
    obtain ⟨j1, j2, j3⟩ := calcNext_K (H := histOf r x []) ops r wf.dag wf.succ wf.startKey rank hrank
      (initChans r) cm' [(START, x)] nx (init_K r wf.dag wf.nodup _) rfl
      (start_mem_histOf r x []) hc
    rcases j3 with ⟨v, rfl, hj⟩ | ⟨ts, rfl, hj⟩
    · simp only [List.reverse_nil]
      exact ⟨trivial, fun w hw => by simp only [Except.ok.injEq] at hw; subst hw; exact hj⟩
    · simp only
      exact loop_justified ops r wf sched hf x _ cm' ts [] ⟨j1, j2, hj, trivial⟩

end DagRun
end EinoV.Engine
