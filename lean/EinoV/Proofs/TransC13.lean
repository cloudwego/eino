/-
  gotrans phase 6 — the error wrapping of compose/error.go (translated on every run into Gen/TransC13.lean)
  computes the model's `wrapNode` / `wrapStream` / `newGraphRunError` (Model/C13.lean), and the prelude's
  `errors.As` / `errors.Is` (Model/GoSemErr.lean) are the model's `asInternal` / `errorsIs`.
  This file imports no other translated unit: `./check C13` regenerates everything it depends on.
-/
import EinoV.Gen.TransC13
import EinoV.Model.C13
namespace EinoV.TransC13
open EinoV.GoSem EinoV.Gen.TransC13
variable {V : Type} [Inhabited V]

/-- the model's error values as Go error values; `act` names the stream-wrapper actions -/
def enc (act : Nat → String) : C13.GoErr → GoError
  | .leaf i => .leaf i
  | .wrapf e => .wrapf (enc act e)
  | .internal g np sp o => .internal (if g then "GraphRunError" else "NodeRunError") (sp.map act) np (enc act o)
  | .panicE i => .panicE i
  | .interrupt => .interrupt

/-- `errors.As(err, &ie)` of the prelude is the model's `asInternal` -/
theorem asInternal_enc (act : Nat → String) (e : C13.GoErr) :
    (enc act e).asInternal = (C13.asInternal e).map
      (fun t => ((if t.1 then "GraphRunError" else "NodeRunError"), t.2.2.1.map act, t.2.1, enc act t.2.2.2)) := by
  induction e with
  | leaf i => rfl
  | wrapf e ih => simpa [enc, GoError.asInternal, C13.asInternal] using ih
  | internal g np sp o _ => rfl
  | panicE i => rfl
  | interrupt => rfl

theorem is_enc (act : Nat → String) (unwraps : Bool) (e : C13.GoErr) (t : Nat) :
    (enc act e).is unwraps t = C13.errorsIs unwraps e t := by
  induction e with
  | leaf i => rfl
  | wrapf e ih => simpa [enc, GoError.is, C13.errorsIs] using ih
  | internal g np sp o ih => cases unwraps <;> simp [enc, GoError.is, C13.errorsIs, ih]
  | panicE i => rfl
  | interrupt => rfl

theorem newGraphRunError_refines (ext : Ext V) (eext : ErrExt) (act : Nat → String) (e : C13.GoErr) :
    newGraphRunError (V := V) ext eext (enc act e) = enc act (C13.newGraphRunError e) := by
  simp [newGraphRunError, Id.run, pure, internalError_toError, C13.newGraphRunError, enc,
    const_internalErrorTypeGraphRun]

/-- **`wrapGraphNodeError` refines `wrapNode`** — for an external `isInterruptError` that is the model's -/
theorem wrapGraphNodeError_refines (ext : Ext V) (eext : ErrExt) (act : Nat → String) (hu : Bool)
    (hi : ∀ e, eext.isInterrupt (enc act e) = C13.isInterrupt hu e) (key : String) (e : C13.GoErr) :
    wrapGraphNodeError (V := V) ext eext key (enc act e) = enc act (C13.wrapNode hu key e) := by
  unfold wrapGraphNodeError C13.wrapNode
  simp only [Id.run, pure, hi, errorsAs_internalError, asInternal_enc]
  by_cases h : C13.isInterrupt hu e = true
  · simp [h]
  · simp only [h, Bool.false_eq_true, if_false]
    cases ha : C13.asInternal e with
    | none => simp [internalError_toError, enc, const_internalErrorTypeNodeRun]
    | some t =>
      obtain ⟨g, np, sp, o⟩ := t
      simp [internalError_toError, enc]

theorem wrapStreamWrapperError_refines (ext : Ext V) (eext : ErrExt) (act : Nat → String) (hu : Bool)
    (hi : ∀ e, eext.isInterrupt (enc act e) = C13.isInterrupt hu e) (a : Nat) (e : C13.GoErr) :
    wrapStreamWrapperError (V := V) ext eext (act a) (enc act e) = enc act (C13.wrapStream hu a e) := by
  unfold wrapStreamWrapperError C13.wrapStream
  simp only [Id.run, pure, hi, errorsAs_internalError, asInternal_enc]
  by_cases h : C13.isInterrupt hu e = true
  · simp [h]
  · simp only [h, Bool.false_eq_true, if_false]
    cases ha : C13.asInternal e with
    | none =>
      have : (default : NodePath V).path = [] := rfl
      simp [internalError_toError, enc, const_internalErrorTypeNodeRun, this]
    | some t =>
      obtain ⟨g, np, sp, o⟩ := t
      simp [internalError_toError, enc]

theorem unwrap_refines (ext : Ext V) (eext : ErrExt) (x : internalError V) :
    internalError_Unwrap ext eext x = x.origError := rfl

end EinoV.TransC13
