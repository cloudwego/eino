/-
  C14 — the vocabulary of the statements of Props/C14.lean that is not part of the model: results equal
  up to the error (`EqvE`), the nesting depth of a message list's extras, and the two kinds of failure.
  Proved about in Proofs/C14.lean.
-/
import EinoV.Model.C14

namespace EinoV.C14

/-- "equal results or both errors" -/
def EqvE {α} (a b : Except Err α) : Prop :=
  match a, b with
  | .ok x, .ok y => x = y
  | .error _, .error _ => True
  | _, _ => False

def extrasDepth (ms : List Msg) : Nat := depthKVs (ms.map (·.extra)).flatten

def isPanic {α} : Except Err α → Bool
  | .error .panic => true
  | _ => false

def isFail {α} : Except Err α → Bool
  | .error .fail => true
  | _ => false

end EinoV.C14
