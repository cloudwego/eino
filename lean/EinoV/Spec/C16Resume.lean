/-
  C16 — what each call of a sequence of calls with interrupts and resumes runs (`callsSpec`), in which
  Props/C16.lean states what the slice-level sequence computes. Proved about in Proofs/C16Resume.lean
  and Proofs/C16Slices.lean.
-/
import EinoV.Model.C16Resume

namespace EinoV.C16

/-- what each call of a sequence runs, given what is saved under the checkpoint id in use -/
def callsSpec (F : Facts) (K : KeyFacts) (R : ResumeFacts) (store : List Opt) :
    Option Path → List CallP → List (Except RunErr (List Entry))
  | _, [] => []
  | saved, c :: cs =>
    let r := runWP F K R c.par (c.ask.part saved) c.g (pick store c.ixs)
    r :: callsSpec F K R store (c.ask.savedAfter saved r) cs

end EinoV.C16
