/-
  C18 — the vocabulary of the statements of Props/C18.lean: the canonical form of assembled tool calls
  and interleavings of deltas (proved about in Proofs/C18Asm.lean); the states and event shapes of the
  agent's rounds, what a stream checker sees of a reply, and the tool messages call by call
  (Proofs/C18.lean, which also defines `rounds`, `directResult` and `transcript`).
-/
import EinoV.Model.C18

namespace EinoV.C18

/-- indexed calls by strictly ascending index -/
def Ascending (ms : List ToolCall) : Prop :=
  (∀ m ∈ ms, m.index ≠ none) ∧
  ms.Pairwise (fun a b => ∃ i j, a.index = some i ∧ b.index = some j ∧ i < j)

/-- the form `ConcatMessages` produces, and the form of the tool calls of one well-formed chunk
    (a chunk is a message: its tool calls are distinct calls): index-less calls first, then at
    most one call per index, by ascending index -/
def Canonical (cs : List ToolCall) : Prop :=
  ∃ us ms, cs = us ++ ms ∧ (∀ u ∈ us, u.index = none) ∧ Ascending ms

/-- `Interleave a b l`: `l` is an interleaving of `a` and `b` (both keep their order) -/
inductive Interleave {α : Type} : List α → List α → List α → Prop
  | nil : Interleave [] [] []
  | left {a b l : List α} (x : α) : Interleave a b l → Interleave (x :: a) b (x :: l)
  | right {a b l : List α} (x : α) : Interleave a b l → Interleave a (x :: b) (x :: l)

def KeyDisjoint (a b : List ToolCall) : Prop := ∀ x ∈ a, ∀ y ∈ b, x.index ≠ y.index

/-- `InterleaveAll gs l`: `l` is an interleaving of all the lists `gs` (each keeps its order) -/
inductive InterleaveAll {α : Type} : List (List α) → List α → Prop
  | nil : InterleaveAll [] []
  | cons {g m l : List α} {gs : List (List α)} :
      InterleaveAll gs m → Interleave g m l → InterleaveAll (g :: gs) l

/-- the branch decision after reply `r`: continue with the tools node? -/
def goes (F : Facts) (cfg : Config) (mode : Mode) (r : Reply) : Bool :=
  runChecker (cfg.checkerSpec F) (streamOf mode r)

/-- state after the chat node's pre-handler and the recording of the model call -/
def chatSt (cfg : Config) (st : St) (input : List Msg) (rest : List Reply) : St :=
  { st with msgs := st.msgs ++ input, seen := st.seen ++ [cfg.modifier (st.msgs ++ input)],
            evs := st.evs ++ [.chat], script := rest }

/-- state after the tools node's pre-handler and body -/
def toolsSt (cfg : Config) (st : St) (m : Msg) : St :=
  { st with msgs := st.msgs ++ [m], rdId := returnDirectlyId cfg.returnDirectly m,
            evs := st.evs ++ [.tools (runTools cfg m).1] }

/-- reply `r` makes the agent go round once more -/
def Continues (cfg : Config) (dec : Reply → Bool) (r : Reply) : Prop :=
  dec r = true ∧ (∃ res, (runTools cfg r.full).2 = .ok res) ∧
  returnDirectlyId cfg.returnDirectly r.full = ""

/-- node executions come as chat, tools, chat, tools, …, optionally closed by
    tools, direct_return -/
inductive Alternates : List Ev → Prop
  | nil : Alternates []
  | chat : Alternates [.chat]
  | direct (s : List ToolCall) : Alternates [.chat, .tools s, .direct]
  | round (s : List ToolCall) (rest : List Ev) : Alternates rest → Alternates (.chat :: .tools s :: rest)

inductive Pointwise {α β : Type} (R : α → β → Prop) : List α → List β → Prop
  | nil : Pointwise R [] []
  | cons {a : α} {b : β} {as : List α} {bs : List β} :
      R a b → Pointwise R as bs → Pointwise R (a :: as) (b :: bs)

/-- a chunk the first-chunk checker skips -/
def Chunk.blank (c : Chunk) : Prop := c.content = "" ∧ c.calls = []

/-- **The hypothesis under which the default checker sees the tool calls**: if the reply has
    tool calls at all, then the first chunk that is not blank (no content, no tool calls)
    already carries a tool call. -/
def ToolCallsInFirstNonEmptyChunk (r : Reply) : Prop :=
  r.full.calls = [] ∨
  ∃ pre c post, r.chunks = pre ++ c :: post ∧ (∀ x ∈ pre, x.blank) ∧ c.calls ≠ []

/-- what a checker rule can see of a chunk -/
def Chunk.SameShape (c c' : Chunk) : Prop :=
  c.content = c'.content ∧ c.calls.isEmpty = c'.calls.isEmpty

/-- `r'` streams the same reply as `r` with the tool-call deltas distributed differently: chunk
    by chunk the same content and the same "carries tool-call deltas or not", and for every key
    (every `Index`, and "no `Index`") the same deltas in the same order — the deltas of different
    keys may be interleaved in any other way. -/
def Reply.Reinterleaved (r r' : Reply) : Prop :=
  Pointwise Chunk.SameShape r.chunks r'.chunks ∧
  ∀ k, deltasOf k (r.chunks.flatMap (·.calls)) = deltasOf k (r'.chunks.flatMap (·.calls))

/-- tool message produced for one call -/
def AnswerOf (cfg : Config) (c : ToolCall) (m : Msg) : Prop :=
  ∃ f out, cfg.toolFor c.name = some f ∧ f c.args = .ok out ∧ m = toolMessage out c.id

inductive Answers (cfg : Config) : List ToolCall → List Msg → Prop
  | nil : Answers cfg [] []
  | cons {c m cs ms} : AnswerOf cfg c m → Answers cfg cs ms → Answers cfg (c :: cs) (m :: ms)

end EinoV.C18
