/-
  C16 — the vocabulary of the statements of Props/C16.lean about one run: which node a path names, which
  options address it, what an entry of a successful run holds (`EntrySpec`) and why a designated path is
  rejected (`pathErr`). That every entry of an accepted run satisfies `EntrySpec`, and that every node but a
  passthrough has an entry, is proved in Proofs/C16Plain.lean as instances of Proofs/C16Resume.lean; what an
  `EntrySpec` says of one entry (`vals_of_entry`, `handlers_of_entry`) and the lemmas about `pathErr` are in
  Proofs/C16.lean.
-/
import EinoV.Model.C16

namespace EinoV.C16

/-- "D" = by designation: one of `o`'s designated paths is `rel` or a prefix of it. `Covers` adds the
    undesignated Option (`o.paths = []`). -/
def CoversD (o : Opt) (rel : Path) : Prop := ∃ q ∈ o.paths, q ≠ [] ∧ q <+: rel

/-- `o` addresses the node at (relative) path `rel` -/
def Covers (o : Opt) (rel : Path) : Prop := o.paths = [] ∨ CoversD o rel

/-- the node a path names, walking down through graph nodes only -/
def nodeAt : Nodes → Path → Option Node
  | _, [] => none
  | ns, k :: rest =>
    match ns.find k with
    | none => none
    | some n =>
      if rest = [] then some n
      else match n with
        | .graph _ ch => nodeAt ch rest
        | _ => none

/-- What the theorems say about one entry of a successful run of the graph `all` (reached
    under path `pre`, context handlers `gH`, called with `opts`). -/
def EntrySpec (all : Nodes) (pre : Path) (gH : List Nat) (opts : List Opt) (e : Entry) : Prop :=
  ∃ rel, e.path = pre ++ rel ∧
    (∃ n, nodeAt all rel = some n ∧
      ((e.isGraph = false ∧ ∃ k ty, n = .comp k ty ∧
          ∀ v, v ∈ e.vals ↔ ∃ o ∈ opts, v ∈ o.vals ∧ ty = o.ty ∧ Covers o rel) ∨
       (e.isGraph = true ∧ ∃ k ch, n = .graph k ch ∧ e.vals = []))) ∧
    (∀ h, h ∈ e.handlers ↔ h ∈ gH ∨ ∃ o ∈ opts, h ∈ o.handlers ∧ CoversD o rel)

def Node.isPass : Node → Bool
  | .pass _ => true
  | _ => false

/-- The verdict on one designated path `p` of option `o` against the tree: why the run that
    receives it fails, if it does. Walks down through graph nodes. -/
def pathErr (F : Facts) : Nodes → Opt → Path → Option Err
  | _, _, [] => some .emptyPath
  | ns, o, k :: rest =>
    match ns.find k with
    | none => some .unknownNode
    | some (.comp _ ty) =>
      if rest ≠ [] then some .subPathOfComponent
      else if o.vals ≠ [] ∧ F.typeCmpIdentity = true ∧ tyMatch F ty o.ty = false then some .wrongType
      else none
    | some (.pass _) =>
      if rest ≠ [] ∧ F.passSubPathIsError = true then some .subPathOfComponent else none
    | some (.graph _ ch) => if rest = [] then none else pathErr F ch o rest

end EinoV.C16
