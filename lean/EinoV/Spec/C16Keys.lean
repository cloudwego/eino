/-
  C16 — the one hypothesis on the key-wrapper facts that the statements of Props/C16.lean use: every wrapper
  closure passes the option list on. Proved about in Proofs/C16Keys.lean.
-/
import EinoV.Model.C16Keys

namespace EinoV.C16

/-- every closure of both wrappers passes `opts...` on -/
def KeyFacts.allForward (K : KeyFacts) : Prop :=
  K.inKeyFwdInvoke = true ∧ K.inKeyFwdTransform = true ∧
  K.outKeyFwdInvoke = true ∧ K.outKeyFwdTransform = true

end EinoV.C16
