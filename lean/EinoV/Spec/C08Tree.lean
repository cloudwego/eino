/-
  C08 — specification layer over the network model `EinoV/Model/C08Net.lean`.

  * `Shp`, `Edge`, `Up`   : the static shape of a network (which reader is built on which);
                            the networks are DAGs whose only sharing is through the cells of
                            `Copy` (`Node.parent`), so "structural induction on the tree" is
                            induction along `Edge` (every edge points to a smaller index).
  * `Den fut net id l`     : the SPECIFIED remaining item sequence of reader `id` in state
                            `net`, given the items `fut p` that the writer of every pipe `p`
                            will still get accepted: a pipe delivers its buffer and then the
                            future items; an array its items; a convert the item-wise image
                            (no-value items dropped); a copy what is left of the shared list
                            followed by what its source will deliver; a merge any interleaving
                            of what its remaining sources deliver that keeps each source's
                            order (`Inter`); a forwarder is transparent.  It is a relation
                            because of the merge.
  * `Recv F net id r net' tr` : big-step relational semantics of one `Recv` call (the
                            function `recvAll` of the network model refines it, see
                            `recvAll_sound` in `Proofs/C08Tree/Sound.lean`); `tr` lists which node
                            delivered which item during the call, in order.
  * `Inv`                  : well-formedness of reachable networks (typing of the references,
                            every reader has at most one consumer, cursors within the list).
  * `Step`, `Behaves`      : schedules = lists of `Op`s, every op enabled in its state.
-/
import EinoV.Model.C08Net

namespace EinoV.C08

/-! ## static shape -/

inductive Shp where
  | pipe
  | arr
  | conv (src : Nat) (g : ConvSpec)
  | parent (src : Nat) (n : Nat)
  | child (par idx : Nat)
  | merge (sts : List Nat)
  | fpipe (src : Nat)
  | dead
  deriving DecidableEq, Repr

def Node.shp : Node → Shp
  | .pipe _ => .pipe
  | .arr _ => .arr
  | .conv src g => .conv src g
  | .parent src core => .parent src core.cursors.length
  | .child par idx => .child par idx
  | .merge sts _ => .merge sts
  | .fpipe src _ => .fpipe src
  | .dead => .dead

/-- the readers a node consumes (exclusively) -/
def Shp.uses : Shp → List Nat
  | .conv src _ => [src]
  | .parent src _ => [src]
  | .merge sts => sts
  | .fpipe src => [src]
  | _ => []

/-- the shared cell a copy reads from -/
def Shp.par? : Shp → Option Nat
  | .child par _ => some par
  | _ => none

/-- a node the caller (or another node) can `Recv` from -/
def Shp.isReader : Shp → Bool
  | .pipe | .arr | .conv _ _ | .child _ _ | .merge _ => true
  | _ => false

def Net.shp? (net : Net) (j : Nat) : Option Shp := (net.nodes[j]?).map Node.shp

/-- node `j` is built directly on node `u` -/
def Edge (net : Net) (j u : Nat) : Prop :=
  ∃ s, net.shp? j = some s ∧ (u ∈ s.uses ∨ s.par? = some u)

/-- node `j` is built on node `k` (reflexive, transitive) -/
inductive Up (net : Net) : Nat → Nat → Prop where
  | refl (j : Nat) : Up net j j
  | step {j u k : Nat} : Edge net j u → Up net u k → Up net j k

def SameShape (a b : Net) : Prop :=
  a.nodes.size = b.nodes.size ∧ ∀ k, b.shp? k = a.shp? k

/-! ## the specified sequence -/

def upd (f : Nat → List Item) (s : Nat) (v : List Item) : Nat → List Item :=
  fun t => if t = s then v else f t

/-- `Inter S ls l`: `l` is an interleaving of the lists `ls s`, `s ∈ S`: every item of every
    list exactly once, each list in its own order. -/
inductive Inter (S : List Nat) : (Nat → List Item) → List Item → Prop where
  | nil {ls : Nat → List Item} : (∀ s ∈ S, ls s = []) → Inter S ls []
  | cons {ls : Nat → List Item} {s : Nat} {x : Item} {rest l : List Item} :
      s ∈ S → ls s = x :: rest → Inter S (upd ls s rest) l → Inter S ls (x :: l)

inductive Den (fut : Nat → List Item) (net : Net) : Nat → List Item → Prop where
  | pipe {id : Nat} {p : Pipe} :
      net.nodes[id]? = some (.pipe p) →
      Den fut net id (p.buf ++ if p.sendClosed then [] else fut id)
  | arr {id : Nat} {rest : List Item} :
      net.nodes[id]? = some (.arr rest) → Den fut net id rest
  | conv {id src : Nat} {g : ConvSpec} {l : List Item} :
      net.nodes[id]? = some (.conv src g) → Den fut net src l →
      Den fut net id (l.filterMap (convItem g.fn))
  | childOpen {id par idx src k : Nat} {core : CopyCore} {l : List Item} :
      net.nodes[id]? = some (.child par idx) → net.nodes[par]? = some (.parent src core) →
      core.cursors[idx]? = some (some k) → core.eofSeen = false → Den fut net src l →
      Den fut net id (core.log.drop k ++ l)
  | childEof {id par idx src k : Nat} {core : CopyCore} :
      net.nodes[id]? = some (.child par idx) → net.nodes[par]? = some (.parent src core) →
      core.cursors[idx]? = some (some k) → core.eofSeen = true →
      Den fut net id (core.log.drop k)
  | merge {id : Nat} {sts chosen : List Nat} {ls : Nat → List Item} {l : List Item} :
      net.nodes[id]? = some (.merge sts chosen) →
      (∀ sb sid, sb ∈ chosen → sts[sb]? = some sid → Den fut net sid (ls sb)) →
      Inter chosen ls l → Den fut net id l
  | fwd {id src : Nat} {l : List Item} :
      net.nodes[id]? = some (.fpipe src .running) → Den fut net src l → Den fut net id l
  | fwdEnded {id src : Nat} :
      net.nodes[id]? = some (.fpipe src .ended) → Den fut net id []

/-- the specified sequence, unfolded one level (the recursive definition of `Den` read as a
    function of what the sources hold and will still accept) -/
def DenBody (fut : Nat → List Item) (net : Net) (id : Nat) (l : List Item) : Prop :=
  match net.nodes[id]? with
  | some (.pipe p) => l = p.buf ++ if p.sendClosed then [] else fut id
  | some (.arr rest) => l = rest
  | some (.conv src g) => ∃ l', Den fut net src l' ∧ l = l'.filterMap (convItem g.fn)
  | some (.child par idx) =>
    match net.nodes[par]? with
    | some (.parent src core) =>
      ∃ k, core.cursors[idx]? = some (some k) ∧
        ((core.eofSeen = false ∧ ∃ l', Den fut net src l' ∧ l = core.log.drop k ++ l') ∨
         (core.eofSeen = true ∧ l = core.log.drop k))
    | _ => False
  | some (.merge sts chosen) =>
    ∃ ls : Nat → List Item, (∀ sb sid, sb ∈ chosen → sts[sb]? = some sid → Den fut net sid (ls sb)) ∧
      Inter chosen ls l
  | some (.fpipe src st) => (st = .running ∧ Den fut net src l) ∨ (st = .ended ∧ l = [])
  | _ => False

/-! ## relational big-step semantics of `Recv` -/

def tag (id : Nat) : Res → List (Nat × Item)
  | .item x => [(id, x)]
  | .eof => []

/-- what a forwarding goroutine does when its source reports `io.EOF` -/
def fwdEnd (F : Facts) (cf : Nat) (n1 : Net) (sid src : Nat) : Option Net :=
  if F.fwdCloses then closeAll F cf (n1.setNode sid (.fpipe src .ended)) src
  else some (n1.setNode sid (.fpipe src .ended))

inductive Recv (F : Facts) : Net → Nat → Res → Net → List (Nat × Item) → Prop where
  | pipe {net : Net} {id : Nat} {p p' : Pipe} {r : Res} :
      net.nodes[id]? = some (.pipe p) → p.recv = some (p', r) →
      Recv F net id r (net.setNode id (.pipe p')) (tag id r)
  | arrItem {net : Net} {id : Nat} {x : Item} {rest : List Item} :
      net.nodes[id]? = some (.arr (x :: rest)) →
      Recv F net id (.item x) (net.setNode id (.arr rest)) [(id, x)]
  | arrEof {net : Net} {id : Nat} :
      net.nodes[id]? = some (.arr []) → Recv F net id .eof net []
  | convEof {net n1 : Net} {id src : Nat} {g : ConvSpec} {tr : List (Nat × Item)} :
      net.nodes[id]? = some (.conv src g) → Recv F net src .eof n1 tr → Recv F net id .eof n1 tr
  | convItem {net n1 : Net} {id src : Nat} {g : ConvSpec} {it y : Item} {tr : List (Nat × Item)} :
      net.nodes[id]? = some (.conv src g) → Recv F net src (.item it) n1 tr →
      convItem g.fn it = some y → Recv F net id (.item y) n1 (tr ++ [(id, y)])
  | convSkip {net n1 n2 : Net} {id src : Nat} {g : ConvSpec} {it : Item} {r : Res}
      {tr1 tr2 : List (Nat × Item)} :
      net.nodes[id]? = some (.conv src g) → Recv F net src (.item it) n1 tr1 →
      convItem g.fn it = none → Recv F n1 id r n2 tr2 → Recv F net id r n2 (tr1 ++ tr2)
  | childHave {net : Net} {id par idx src : Nat} {core c' : CopyCore} {r : Res} :
      net.nodes[id]? = some (.child par idx) → net.nodes[par]? = some (.parent src core) →
      core.peekLocal F.copy idx = .have r c' →
      Recv F net id r (net.setNode par (.parent src c')) (tag id r)
  | childFill {net n1 : Net} {id par idx src k : Nat} {core : CopyCore} {r : Res}
      {tr : List (Nat × Item)} :
      net.nodes[id]? = some (.child par idx) → net.nodes[par]? = some (.parent src core) →
      core.peekLocal F.copy idx = .fill k → Recv F net src r n1 tr →
      Recv F net id r (n1.setNode par (.parent src (core.fill idx k r))) (tr ++ tag id r)
  | mergeEof {net : Net} {id : Nat} {sts : List Nat} :
      net.nodes[id]? = some (.merge sts []) → Recv F net id .eof net []
  | mergePipeItem {net : Net} {id sb sid : Nat} {sts chosen : List Nat} {p p' : Pipe} {x : Item} :
      net.nodes[id]? = some (.merge sts chosen) → sb ∈ chosen → sts[sb]? = some sid →
      net.nodes[sid]? = some (.pipe p) → p.recv = some (p', .item x) →
      Recv F net id (.item x) (net.setNode sid (.pipe p')) [(sid, x), (id, x)]
  | mergeFwdItem {net n1 : Net} {id sb sid src : Nat} {sts chosen : List Nat} {x : Item}
      {tr : List (Nat × Item)} :
      net.nodes[id]? = some (.merge sts chosen) → sb ∈ chosen → sts[sb]? = some sid →
      net.nodes[sid]? = some (.fpipe src .running) → Recv F net src (.item x) n1 tr →
      Recv F net id (.item x) n1 (tr ++ [(sid, x), (id, x)])
  | mergeDropPipe {net n2 : Net} {id sb sid : Nat} {sts chosen : List Nat} {p p' : Pipe} {r : Res}
      {tr : List (Nat × Item)} :
      net.nodes[id]? = some (.merge sts chosen) → sb ∈ chosen → sts[sb]? = some sid →
      net.nodes[sid]? = some (.pipe p) → p.recv = some (p', .eof) →
      Recv F (net.setNode id (.merge sts (chosen.erase sb))) id r n2 tr → Recv F net id r n2 tr
  | mergeDropFwd {net n1 n' n2 : Net} {id sb sid src cf : Nat} {sts chosen : List Nat} {r : Res}
      {tr1 tr2 : List (Nat × Item)} :
      net.nodes[id]? = some (.merge sts chosen) → sb ∈ chosen → sts[sb]? = some sid →
      net.nodes[sid]? = some (.fpipe src .running) → Recv F net src .eof n1 tr1 →
      fwdEnd F cf n1 sid src = some n' →
      Recv F (n'.setNode id (.merge sts (chosen.erase sb))) id r n2 tr2 →
      Recv F net id r n2 (tr1 ++ tr2)
  | mergeDropEnded {net n2 : Net} {id sb sid src : Nat} {sts chosen : List Nat} {r : Res}
      {tr : List (Nat × Item)} :
      net.nodes[id]? = some (.merge sts chosen) → sb ∈ chosen → sts[sb]? = some sid →
      net.nodes[sid]? = some (.fpipe src .ended) →
      Recv F (net.setNode id (.merge sts (chosen.erase sb))) id r n2 tr → Recv F net id r n2 tr

/-! ## well-formed networks -/

def Shp.isCell : Shp → Bool
  | .parent _ _ => true
  | _ => false

/-- invariants of the static shape -/
structure ShInv (net : Net) : Prop where
  lt : ∀ j u, Edge net j u → u < j
  usesKind : ∀ j s u, net.shp? j = some s → u ∈ s.uses → ∃ t, net.shp? u = some t ∧ t.isCell = false
  convSrc : ∀ j src g, net.shp? j = some (.conv src g) → ∃ t, net.shp? src = some t ∧ t.isReader = true
  parSrc : ∀ j src n, net.shp? j = some (.parent src n) → ∃ t, net.shp? src = some t ∧ t.isReader = true
  childPar : ∀ j par idx, net.shp? j = some (.child par idx) →
    ∃ src n, net.shp? par = some (.parent src n) ∧ idx < n
  mergeSrc : ∀ j sts sid, net.shp? j = some (.merge sts) → sid ∈ sts →
    net.shp? sid = some .pipe ∨ ∃ src, net.shp? sid = some (.fpipe src)
  fwdSrc : ∀ j src, net.shp? j = some (.fpipe src) → ∃ t, net.shp? src = some t ∧ t.isReader = true
  /-- every reader has at most one consumer -/
  lin : ∀ j j' s s' u, net.shp? j = some s → net.shp? j' = some s' → u ∈ s.uses → u ∈ s'.uses → j = j'
  usesNodup : ∀ j s, net.shp? j = some s → s.uses.Nodup
  childUniq : ∀ j j' par idx, net.shp? j = some (.child par idx) → net.shp? j' = some (.child par idx) → j = j'

/-- the readers the caller holds are consumed by nobody else -/
structure RdInv (net : Net) : Prop where
  free : ∀ r ∈ net.readers, ∀ j s, net.shp? j = some s → r ∉ s.uses
  kind : ∀ r ∈ net.readers, ∃ t, net.shp? r = some t ∧ t.isReader = true
  nodup : net.readers.Nodup

/-- invariants of the dynamic state -/
structure StInv (net : Net) : Prop where
  cursorLe : ∀ (j src : Nat) (core : CopyCore), net.nodes[j]? = some (Node.parent src core) →
    ∀ (i k : Nat), core.cursors[i]? = some (some k) → k ≤ core.log.length
  chosenLt : ∀ (j : Nat) (sts chosen : List Nat), net.nodes[j]? = some (Node.merge sts chosen) → ∀ sb ∈ chosen, sb < sts.length
  chosenNodup : ∀ (j : Nat) (sts chosen : List Nat), net.nodes[j]? = some (Node.merge sts chosen) → chosen.Nodup

structure Inv (net : Net) : Prop where
  sh : ShInv net
  rd : RdInv net
  st : StInv net

/-- the source facts the theorems are proved for (`Expected.C08.facts`, see `net_facts_match`) -/
structure GoodFacts (F : Facts) : Prop where
  copy : F.copy = ⟨true, true, true⟩
  tbl : tblOK F.tbl F.maxSel = true
  fwd : F.fwdCloses = true

/-! ## schedules -/

def Op.isRecv : Op → Bool
  | .recv _ _ => true
  | _ => false

/-- One enabled operation.  `Recv` is the relational semantics (a superset of `recvAll`); every
    other operation is `applyOp` of the network model. -/
inductive Step (F : Facts) (fuel : Nat) : Net → Op → Net → Prop where
  | recv {net net' : Net} {r : Nat} {obs : Res} {tr : List (Nat × Item)} :
      r ∈ net.readers → Recv F net r obs net' tr → Step F fuel net (.recv r obs) net'
  | other {net net' : Net} {op : Op} {cr : List Nat} :
      op.isRecv = false → applyOp F fuel net op = .ok (net', cr) → Step F fuel net op net'

inductive Behaves (F : Facts) (fuel : Nat) : Net → List Op → Net → Prop where
  | nil (net : Net) : Behaves F fuel net [] net
  | cons {net n1 n2 : Net} {op : Op} {ops : List Op} :
      Step F fuel net op n1 → Behaves F fuel n1 ops n2 → Behaves F fuel net (op :: ops) n2

/-- the items reader `r` is handed by the operation -/
def Op.got (r : Nat) : Op → List Item
  | .recv r' (.item x) => if r' = r then [x] else []
  | _ => []

/-- the items the writer of pipe `p` gets accepted by the operation -/
def Op.acc (p : Nat) : Op → List Item
  | .send p' it false => if p' = p then [it] else []
  | .feed p' its => if p' = p then its else []
  | _ => []

def gotBy (r : Nat) (ops : List Op) : List Item := ops.flatMap (Op.got r)
def accBy (ops : List Op) (p : Nat) : List Item := ops.flatMap (Op.acc p)

end EinoV.C08
