/-
  C16 — the vocabulary of the slice-level statements of Props/C16.lean: a heap that extends another
  (`Frame`), and the caller's construction of the option store, when it is well-formed and which Option
  values it means (`storeOpsWf`, `specStore`). Proved about in Proofs/C16Slices.lean.
-/
import EinoV.Model.C16Slices

namespace EinoV.C16

/-- `h'` extends `h`: every array of `h` is still there, with the same cells -/
def Frame (h h' : VHeap) : Prop :=
  h.next ≤ h'.next ∧ ∀ a i, a < h.next → h'.cell a i = h.cell a i

def storeOpsWf : List StoreOp → Nat → Bool
  | [], _ => true
  | .fresh _ _ _ _ _ :: ops, n => storeOpsWf ops (n + 1)
  | .derived src _ :: ops, n => decide (src < n) && storeOpsWf ops (n + 1)

/-- what the construction means, capacities aside: the Option values of Model/C16.lean -/
def specStoreStep (acc : List Opt) : StoreOp → List Opt
  | .fresh ty vals _ hs ps => acc ++ [{ ty := ty, vals := vals, handlers := hs, paths := ps }]
  | .derived src ps => acc ++ [{ (acc[src]?).getD default with paths := ps }]

def specStore (ops : List StoreOp) : List Opt := ops.foldl specStoreStep []

end EinoV.C16
